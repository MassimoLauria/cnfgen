/-
L8 — an abstract interpreter for the call templates: which namespaces can the parser of a sub-command produce
(`worlds`: for every dest, the kind of value it holds, or its absence), and does the helper's method, run on ANY such
namespace, take a path whose call can be built (`arun`)?  Decidable; its soundness is proved in
Lemmas/ArgparseAbsSound.lean, so `worldsOK s = true` (checked by `decide` over the regenerated tables) gives the totality
of the interpreter for `php` and the sub-commands that go through `compose_two_parsers`.
-/
import CnfgenModel.Cli.Argparse
import CnfgenModel.Cli.DispatchChecks
namespace Cnfgen.Cli.AP
open Cnfgen.Gen Cnfgen.Cli

/-- kinds of values -/
inductive AV where
  | none | tt | ff | bool
  | int | intc (k : Int) | intOrNone
  | str (s : String) | strIn (l : List String)
  | ints
  | graphC            -- a graph given by a construction (it has a vertex)
  | graphAny          -- any graph argument
  | toks (hd : Option String)   -- a list of tokens (with its first token, when known)
  | param | opq | pos | posOrInt
  | any               -- some value
  deriving Repr, DecidableEq

abbrev World := List (String × AV)
abbrev Facts := List (Expr × Bool)

def constructed (k c : String) : Bool := ((graphConstructions.lookup k).getD []).contains c

def isIntLike : AV → Bool
  | .int => true | .intc _ => true | _ => false

def isIntNone : AV → Bool
  | .int => true | .intc _ => true | .intOrNone => true | .none => true | _ => false

def isStrLike : AV → Bool
  | .str _ => true | .strIn _ => true | _ => false

def cmpOpsX : List String := ["==", "!=", "<", "<=", ">", ">="]

/-- what is known of a truth value: a constant, or defined but unknown -/
inductive AB where
  | const (b : Bool)
  | atom
  deriving Repr, DecidableEq

def atruthy : AV → Option AB
  | .tt => some (.const true)
  | .ff => some (.const false)
  | .none => some (.const false)
  | .bool => some .atom
  | .int => some .atom
  | .intc k => some (.const (k != 0))
  | .intOrNone => some .atom
  | .str s => some (.const (s != ""))
  | .strIn _ => some .atom
  | .ints => some .atom
  | _ => Option.none

def aisNone : AV → Option AB
  | .none => some (.const true)
  | .intOrNone => some .atom
  | .opq => Option.none
  | .param => Option.none
  | .any => Option.none
  | .posOrInt => some (.const false)
  | _ => some (.const false)

def acmp (op : String) (a b : AV) : Option AB :=
  match a, b with
  | .pos, .intc k => (cmpPos op k).map .const
  | .posOrInt, .intc k => if (cmpPos op k).isSome && cmpOpsX.contains op then some .atom else Option.none
  | _, _ =>
    if op == "==" || op == "!=" then
      (if (isIntNone a && isIntNone b) || (isStrLike a && isStrLike b) then some .atom else Option.none)
    else if cmpOpsX.contains op && isIntLike a && isIntLike b then some .atom
    else Option.none

def abinop (op : String) (a b : AV) : Option AV :=
  if isIntLike a && isIntLike b then
    (if op == "+" || op == "-" || op == "*" then some .int
     else if op == "%" || op == "//" then (match b with | .intc k => if k != 0 then some .int else Option.none | _ => Option.none)
     else Option.none)
  else if a == .opq || b == .opq then some .opq
  else if a == .pos && isIntLike b then some .any
  else if a == .posOrInt && isIntLike b && (op == "+" || op == "-" || op == "*") then some .any
  else Option.none

/-- no `G.order()` inside -/
def noOrder : Expr → Bool
  | .order _ => false
  | .getattr _ e => noOrder e
  | .not e => noOrder e
  | .isNone e => noOrder e
  | .isNotNone e => noOrder e
  | .star e => noOrder e
  | .and a b => noOrder a && noOrder b
  | .or a b => noOrder a && noOrder b
  | .cmp _ a b => noOrder a && noOrder b
  | .ite c t e => noOrder c && noOrder t && noOrder e
  | .binop _ a b => noOrder a && noOrder b
  | .cons h t => noOrder h && noOrder t
  | .mkgraph _ sp => noOrder sp
  | _ => true

/-- the kind of the value of an expression (after the `G.order()` of graph files have been replaced by numbers) -/
def aval (w : World) : Expr → Option AV
  | .arg d => w.lookup d
  | .hasattr d => some (if (w.lookup d).isSome then .tt else .ff)
  | .getattr d e => match w.lookup d with | some a => some a | Option.none => aval w e
  | .none => some .none
  | .bool b => some (if b then .tt else .ff)
  | .int i => some (.intc i)
  | .str s => some (.str s)
  | .name _ => some .param
  | .not e => ((aval w e).bind atruthy).map (fun _ => .bool)
  | .isNone e => ((aval w e).bind aisNone).map (fun _ => .bool)
  | .isNotNone e => ((aval w e).bind aisNone).map (fun _ => .bool)
  | .cmp op a b =>
    (match aval w a, aval w b with
     | some x, some y => (acmp op x y).map (fun _ => .bool)
     | _, _ => Option.none)
  | .star e => aval w e
  | .binop op a b =>
    (match aval w a, aval w b with
     | some x, some y => abinop op x y
     | _, _ => Option.none)
  | .order g =>
    if noOrder g then
      (match aval w g with
       | some .graphC => some .pos
       | some .graphAny => some .posOrInt
       | some .any => Option.none
       | some _ => some .opq
       | Option.none => Option.none)
    else Option.none
  | .nil => some (.toks Option.none)
  | .cons h t =>
    (match aval w h, aval w t with
     | some (.str s), some (.toks _) => some (.toks (some s))
     | some .int, some (.toks _) => some (.toks Option.none)
     | some (.intc _), some (.toks _) => some (.toks Option.none)
     | some _, some _ => some .any
     | _, _ => Option.none)
  | .mkgraph k spec =>
    (match aval w spec with
     | some (.toks (some h)) => some (if constructed k h then .graphC else .graphAny)
     | some (.toks Option.none) => some .graphAny
     | some _ => some .any
     | Option.none => Option.none)
  | .opaque _ _ => some .opq
  | _ => Option.none

/-- what the tests taken so far say about the options: `d is (not) None` -/
def refineOne (w : World) (f : Expr × Bool) : World :=
  match f with
  | (.isNotNone (.arg d), true) => w.map (fun p => if p.1 == d && p.2 == .intOrNone then (p.1, .int) else p)
  | (.isNone (.arg d), false) => w.map (fun p => if p.1 == d && p.2 == .intOrNone then (p.1, .int) else p)
  | (.isNotNone (.arg d), false) => w.map (fun p => if p.1 == d && p.2 == .intOrNone then (p.1, .none) else p)
  | (.isNone (.arg d), true) => w.map (fun p => if p.1 == d && p.2 == .intOrNone then (p.1, .none) else p)
  | _ => w

def refine (w : World) (fs : Facts) : World := fs.foldl refineOne w

/-- an atomic test: its truth value when it is a constant, both values (remembered) when it is unknown -/
def atomOut (e : Expr) (fs : Facts) (r : Option AB) : Option (List (Bool × Facts)) :=
  match r with
  | Option.none => Option.none
  | some (.const b) => some [(b, fs)]
  | some .atom =>
    match fs.lookup e with
    | some b => some [(b, fs)]
    | Option.none => some [(true, (e, true) :: fs), (false, (e, false) :: fs)]

/-- continue every outcome with `k`; all the continuations must be defined -/
def seqOuts (k : Bool → Facts → Option (List (Bool × Facts))) :
    List (Bool × Facts) → Option (List (Bool × Facts))
  | [] => some []
  | o :: rest =>
    match k o.1 o.2, seqOuts k rest with
    | some l', some l => some (l' ++ l)
    | _, _ => Option.none

/-- the outcomes of a guard: truth value, and what has been learnt -/
def aguard (w : World) : Expr → Facts → Option (List (Bool × Facts))
  | .and a b, fs =>
    (aguard w a fs).bind (seqOuts (fun r f => if r then aguard w b f else some [(false, f)]))
  | .or a b, fs =>
    (aguard w a fs).bind (seqOuts (fun r f => if r then some [(true, f)] else aguard w b f))
  | .not e, fs => (aguard w e fs).map (fun outs => outs.map (fun o => (!o.1, o.2)))
  | .hasattr d, fs => some [((w.lookup d).isSome, fs)]
  | .bool b, fs => some [(b, fs)]
  | .isNone e, fs => atomOut (.isNone e) fs ((aval (refine w fs) e).bind aisNone)
  | .isNotNone e, fs =>
    atomOut (.isNotNone e) fs (((aval (refine w fs) e).bind aisNone).map
      (fun r => match r with | .const b => .const (!b) | .atom => .atom))
  | .cmp op a b, fs =>
    atomOut (.cmp op a b) fs
      (match aval (refine w fs) a, aval (refine w fs) b with
       | some x, some y => acmp op x y
       | _, _ => Option.none)
  | .arg d, fs => atomOut (.arg d) fs (((refine w fs).lookup d).bind atruthy)
  | _, _ => Option.none

/-- the arguments of the call can be evaluated -/
def aargs (w : World) (t : CallTemplate) : Bool :=
  t.pos.all (fun e => match e with
    | .star e' => aval w e' == some .ints
    | e => (aval w e).isSome) &&
  t.kw.all (fun p => (aval w p.2).isSome)

def tmplOK (w : World) (t : CallTemplate) : Bool :=
  if t.raises != "" then shielded t.raises else t.fn != "" && aargs w t

/-- the helper's method on every namespace of the world: some path is taken, and it ends well -/
def arun (w : World) : List CallTemplate → Facts → Bool
  | [], _ => false
  | t :: rest, fs =>
    match aguard w t.guard fs with
    | Option.none => false
    | some outs => outs.all (fun o => if o.1 then tmplOK (refine w o.2) t else arun w rest o.2)

/-! ### the worlds of a sub-command -/

def avOfVal : Val → AV
  | .none => .none
  | .bool true => .tt
  | .bool false => .ff
  | .int i => .intc i
  | .str s => .str s
  | _ => .any

def joinAV (a b : AV) : AV :=
  if a == b then a
  else if (a == .tt || a == .ff || a == .bool) && (b == .tt || b == .ff || b == .bool) then .bool
  else if isIntNone a && isIntNone b then (if isIntLike a && isIntLike b then .int else .intOrNone)
  else .any

/-- a flag dest of the main parser: the values its options store, or their default -/
def flagAV (s : CliSpec) (d : String) : AV :=
  match ((mainOpts s).filter (fun o => o.dest == d)) with
  | [] => .any
  | o :: rest =>
    rest.foldl (fun a o' => joinAV (joinAV a (avOfVal o'.flagVal)) (avOfVal o'.defaultVal))
      (joinAV (avOfVal o.flagVal) (avOfVal o.defaultVal))

def isSpecial (o : OptSpec) : Bool := o.action == "PHPArgs" || o.action == "compose_two_parsers"

def flagOpts (s : CliSpec) : List OptSpec := (mainOpts s).filter (fun o => !isSpecial o)

def specialOpts (s : CliSpec) : List OptSpec := (mainOpts s).filter isSpecial

/-- the dests set by the flags of the main parser -/
def mainWorld (s : CliSpec) : World := (flagOpts s).map (fun o => (o.dest, flagAV s o.dest))

/-- a positional of a sub-parser -/
def subAV (o : OptSpec) : AV :=
  match o.arity with
  | .one => if o.ty != "" then .int else if !o.choices.isEmpty then .strIn o.choices else .any
  | .opt => if o.ty != "" then (match o.defaultVal with | .int _ => .int | .none => .intOrNone | _ => .any) else .any
  | .plus => .graphAny
  | _ => .any

def subWorld (s : CliSpec) (p : String) : World := (subPositionals s p).map (fun o => (o.dest, subAV o))

def phpWorlds : List World :=
  [[("B", .graphAny)], [("degree", .int), ("holes", .int), ("pigeons", .int)]]

/-- the main parser's dest of the custom action is bound only to `None` (its default: the action stores elsewhere) -/
def specialDefaults (s : CliSpec) : World :=
  ((mainOpts s).filter isSpecial).map (fun o => (o.dest, avOfVal o.defaultVal))

/-- what the custom action of the sub-command can bind: one list per sub-parser (`php`: graph form, numeric form) -/
def specialWorlds (s : CliSpec) : List World :=
  if s.cls == "PHPCmdHelper" then phpWorlds
  else match (mainOpts s).find? (fun o => o.action == "compose_two_parsers") with
    | some o => o.compose.map (subWorld s)
    | Option.none => [[]]

def worlds (s : CliSpec) : List World :=
  (specialWorlds s).map (fun sw => sw ++ mainWorld s ++ specialDefaults s)

def keysOf (w : World) : List String := w.map (·.1)

/-- a positional of a sub-parser as the model understands it: one typed or chosen string, an optional typed string, a
graph -/
def subOptOK (o : OptSpec) : Bool :=
  o.action != "PHPArgs" && o.action != "compose_two_parsers" && !isFileType o.ty && o.group == "" &&
  (match o.arity with
   | .one => o.ty != "" || !o.choices.isEmpty
   | .opt => o.ty != "" && (match o.defaultVal with | .int _ => true | .none => true | _ => false)
   | .plus => true
   | _ => false)

/-- the shape of the option table that the derivation of the worlds assumes: one custom positional and nothing else
positional; the other options of the main parser are flags; the dests of the sub-parsers, of the flags and of the
custom action do not overlap; the sub-parsers' positionals are of the kinds the model understands -/
def worldTablesOK (s : CliSpec) : Bool :=
  positionals s == specialOpts s && (specialOpts s).length == 1 &&
  (flagOpts s).all (fun o => o.arity == .zero && !isFileType o.ty && !o.positional) &&
  (specialWorlds s).all (fun sw =>
    (keysOf sw).Nodup &&
    (keysOf sw).all (fun d => !((flagOpts s).map (·.dest)).contains d && !((specialOpts s).map (·.dest)).contains d)) &&
  ((flagOpts s).map (·.dest)).all (fun d => !((specialOpts s).map (·.dest)).contains d) &&
  s.templates.all (fun t => t.raises == "" || shielded t.raises) &&
  (if s.cls == "PHPCmdHelper" then (specialOpts s).all (fun o => o.action == "PHPArgs")
   else (specialOpts s).all (fun o => o.action == "compose_two_parsers" && o.compose.length == 2 &&
     o.compose.all (fun p => (subPositionals s p).all subOptOK && ((subPositionals s p).map (·.dest)).Nodup) &&
     (mainOpts s).find? (fun o' => o'.action == "compose_two_parsers") == some o))

/-- every path of the helper, in every world of the sub-command (for EVERY order of a graph file), ends in a call that
can be built or in a ValueError -/
def worldsOK (s : CliSpec) : Bool := (worlds s).all (fun w => arun w s.templates [])

end Cnfgen.Cli.AP
