/-
`BaseVariableGroup.__call__` as the translator emits it for every class that inherits it: the result type, the
projection test, the end of the method, and the method itself given what the class's `indices` and
`_unsafe_index_to_lit` compute (`baseCall_gen`); and the common head of `indices` in the classes indexed by pairs.
-/
import Lemmas.GenBlock
namespace Cnfgen.C11
open Cnfgen Cnfgen.Vars Cnfgen.PyGen Cnfgen.GenVars

/-- the head of `indices(*pattern)` in the classes indexed by pairs: arity 0 or 2, no argument is `(None, None)` -/
theorem pairPattern {β : Type} (pat : List (Option Int)) (K : Option Int × Option Int → Except Err β) :
    (if ¬ Py.len pat ∈ [(0 : Int), 2] then Except.error Err.valueError
      else (if Py.len pat = 0 then Except.ok (none, none)
        else Py.index pat 0 >>= fun x => Py.index pat 1 >>= fun y => Except.ok (x, y)) >>= K) =
      match pat with
      | [] => K (none, none)
      | [a, b] => K (a, b)
      | _ => Except.error Err.valueError := by
  match pat with
  | [] => rfl
  | [_] => rfl
  | [_, _] => rfl
  | _ :: _ :: _ :: _ => rfl

/-- a scalar-or-iterable result of the model as the `Sum` the translation uses -/
def resSum : Res Nat → Sum Int (List Int)
  | .one a => .inl a
  | .many l => .inr (ints l)

theorem baseCall_isProjection (pat : List (Option Int)) :
    decide (Py.len pat = 0 ∨ none ∈ pat) = isProjection pat := by
  cases pat with
  | nil => rfl
  | cons a r =>
    have hlen : ¬ (Py.len (a :: r) = 0) := by
      rw [Py.len_eq, List.length_cons]
      omega
    rw [Bool.eq_iff_iff, decide_eq_true_iff, or_iff_right hlen]
    exact List.contains_iff_mem.symm

/-- the end of `BaseVariableGroup.__call__`, once the identifiers `ids` of the selected indices are known: all of them
for a projection, `next(IDs)` otherwise — as in the model's `baseCall` -/
theorem baseCall_tail (pat : List (Option Int)) (ids : List Nat) :
    (if decide (Py.len pat = 0 ∨ none ∈ pat) = true then Except.ok (Sum.inr (ints ids))
      else (Py.next (ints ids)) >>= fun x => Except.ok (Sum.inl x)) =
    Except.map resSum (if isProjection pat then pure (.many ids) else
      match ids with
      | [] => throw Err.stopIteration
      | v :: _ => pure (.one v)) := by
  rw [baseCall_isProjection]
  cases isProjection pat with
  | true => rfl
  | false => cases ids <;> rfl

theorem baseCall_many {g : Group} {pat : Pattern} {l : List (List Nat)} (hi : g.indices pat = .ok l)
    (hp : isProjection pat = true) :
    (g.baseCall pat).map resSum = Except.ok (Sum.inr (ints (l.map g.unsafeId))) := by
  rw [Group.baseCall, hi, Py.ok_bind, if_pos hp]
  rfl

theorem baseCall_one {g : Group} {pat : Pattern} {x : List Nat} {l : List (List Nat)} (hi : g.indices pat = .ok (x :: l))
    (hp : isProjection pat = false) :
    (g.baseCall pat).map resSum = Except.ok (Sum.inl ((g.unsafeId x : Nat) : Int)) := by
  rw [Group.baseCall, hi, Py.ok_bind, if_neg (Bool.eq_false_iff.1 hp)]
  rfl

/-- **`BaseVariableGroup.__call__` once, for every class**: the translated method runs the class's `indices`, then its
`_unsafe_index_to_lit` on each result; if the former is the model's enumeration `mi` seen through `emb` and the latter
gives the model's identifier `mid` on everything enumerated, the call is the model's `baseCall` -/
theorem baseCall_gen {κ ι : Type} (pat : List (Option Int)) (mi : Except Err (List κ)) (emb : κ → ι)
    (gid : ι → Except Err Int) (mid : κ → Nat) (toL : κ → List Nat) (g : Group)
    (hg : g.indices pat = mi.map (List.map toL)) (hu : ∀ x, g.unsafeId (toL x) = mid x)
    (hid : ∀ l, mi = .ok l → ∀ x ∈ l, gid (emb x) = .ok (mid x : Int)) :
    ((mi.map (List.map emb)) >>= fun r => (r.mapM gid) >>= fun IDs =>
      if decide (Py.len pat = 0 ∨ none ∈ pat) = true then Except.ok (Sum.inr IDs)
      else (Py.next IDs) >>= fun x => Except.ok (Sum.inl x)) = (g.baseCall pat).map resSum := by
  rw [Group.baseCall, hg]
  cases mi with
  | error e => rfl
  | ok l =>
    simp only [Py.map_ok, Py.ok_bind, List.mapM_map, List.map_map]
    rw [mapM_ok (gid ∘ emb) (fun x => ((mid x : Nat) : Int)) l (hid l rfl)]
    have : l.map (g.unsafeId ∘ toL) = l.map mid := List.map_congr_left fun x _ => hu x
    rw [this, show l.map (fun x => ((mid x : Nat) : Int)) = ints (l.map mid) from List.map_map.symm]
    exact baseCall_tail pat (l.map mid)

end Cnfgen.C11
