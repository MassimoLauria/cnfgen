/-
The satisfiability criterion of the Tseitin formula: an assignment satisfies it iff its parity vector `par G α` is the
charge (`spec_iff_par`, the only place where the charge list of the formula enters), and a function `χ` on the vertices
is a parity vector iff every vertex set closed under adjacency — or just every component — holds an even number of
odd vertices.  `par G` is additive for xor (`par_hom`); everything else follows from that and the handshake:
* only if: inside a closed set an even number of vertices is odd under any assignment (`closed_par_even`);
* if: the variable of one edge is odd exactly at its two ends (`par_single`), so the xor of the variables
  along a walk is odd exactly at the ends of the walk (`exists_pair`).  Call a vertex defective under `α`
  when `par G α` differs from `χ` there: a component holds an even number of defects, so a defect has a
  second one in it, and xor with the walk between them removes both (`par_surj`).
-/
import Lemmas.FamTseitin
import Lemmas.FamComponents
import Lemmas.BoolVec
namespace Cnfgen
namespace Fam

variable {G : SimpleG}

/-- parity of the number of true edge variables at each vertex -/
def par (G : SimpleG) (α : Assign) : Nat → Bool := fun v => decide (vcount G α v % 2 = 1)

theorem vcount_bxor (α β : Assign) (v : Nat) :
    vcount G (bxor α β) v % 2 = (vcount G α v + vcount G β v) % 2 :=
  countP_bxor_mod2 _ _ _

theorem par_hom (G : SimpleG) : XorHom (par G) := by
  intro α β
  funext v
  show decide (vcount G (bxor α β) v % 2 = 1) = _
  rw [vcount_bxor, decide_add_odd]
  rfl

theorem par_eq_false_iff (α : Assign) (v : Nat) : par G α v = false ↔ vcount G α v % 2 = 0 :=
  decide_eq_false_iff_not.trans Nat.mod_two_ne_one

theorem spec_iff_par (ch : Option (List Bool)) (α : Assign) :
    TseitinSpec G ch α ↔ ∀ v, 1 ≤ v → v ≤ G.n → par G α v = chargeAt G.n ch v :=
  forall_congr' fun _ => forall_congr' fun _ => forall_congr' fun _ => mod_two_eq_ite_iff _ _

theorem closed_par_even (hG : GoodGraph G) (α : Assign) (C : Nat → Bool)
    (hC : ∀ v u, C v = true → u ∈ G.nbrs v → C u = true) :
    Even ((Finset.Icc 1 G.n).filter (fun v => C v = true ∧ par G α v = true)).card := by
  have h := closed_vcount_even hG α C hC
  rw [Nat.even_iff] at h ⊢
  rw [← h, ← Finset.filter_filter, Finset.card_filter, Finset.sum_nat_mod,
    Finset.sum_nat_mod (f := vcount G α)]
  congr 1
  apply Finset.sum_congr rfl
  intro v _
  show (if decide (vcount G α v % 2 = 1) = true then 1 else 0) % 2 = vcount G α v % 2
  rcases Nat.mod_two_eq_zero_or_one (vcount G α v) with h | h <;> simp [h]

theorem tseitin_parity (G : SimpleG) (hG : GoodGraph G) (ch : Option (List Bool)) (α : Assign)
    (h : TseitinSpec G ch α) (C : Nat → Bool)
    (hC : ∀ v u, C v = true → u ∈ G.nbrs v → C u = true) :
    Even ((Finset.Icc 1 G.n).filter (fun v => C v = true ∧ chargeAt G.n ch v = true)).card := by
  have := closed_par_even hG α C hC
  rwa [Finset.filter_congr fun v hv => by
    rw [(spec_iff_par ch α).1 h v (Finset.mem_Icc.1 hv).1 (Finset.mem_Icc.1 hv).2]] at this

def single (e : Nat) : Assign := fun i => decide (i = e)

theorem vcount_single_end (hG : GoodGraph G) {w t : Nat} (hw : w ≤ G.n) (ht : t ∈ G.nbrs w) :
    vcount G (single (edgeId G 1 t w)) w = 1 := by
  unfold vcount
  rw [List.countP_congr (q := (· == t)), ← List.count, (hG.nodup hw).count, if_pos ht]
  intro u hu
  simp only [single, decide_eq_true_eq, beq_iff_eq]
  constructor
  · intro he
    rcases edgeId_inj_unordered hG 1 hw hu hw ht he with h | h
    · exact h.1
    · exact absurd h.1 (hG.mem hw hu).2.2.1
  · rintro rfl; rfl

theorem vcount_single_other (hG : GoodGraph G) {w t : Nat} (hw : w ≤ G.n) (ht : t ∈ G.nbrs w)
    {x : Nat} (hx : x ≤ G.n) (hxw : x ≠ w) (hxt : x ≠ t) :
    vcount G (single (edgeId G 1 t w)) x = 0 := by
  unfold vcount
  rw [List.countP_eq_zero]
  intro u hu he
  rcases edgeId_inj_unordered hG 1 hx hu hw ht (of_decide_eq_true he) with h | h
  · exact hxw h.2
  · exact hxt h.2

theorem par_single (hG : GoodGraph G) {w t : Nat} (hw : w ≤ G.n) (ht : t ∈ G.nbrs w)
    {x : Nat} (hx : x ≤ G.n) :
    par G (single (edgeId G 1 t w)) x = (decide (x = w) || decide (x = t)) := by
  have mt := hG.mem hw ht
  unfold par
  by_cases hxw : x = w
  · rw [hxw, vcount_single_end hG hw ht]; simp
  · by_cases hxt : x = t
    · rw [hxt, edgeId_comm, vcount_single_end hG mt.2.1 mt.2.2.2]; simp
    · rw [vcount_single_other hG hw ht hx hxw hxt]; simp [hxw, hxt]

theorem exists_pair (hG : GoodGraph G) {t t' : Nat} (h : Reach G t t') :
    ∃ β, ∀ x, x ≤ G.n → par G β x = (decide (x = t) != decide (x = t')) := by
  induction h with
  | refl => exact ⟨bzero, fun x _ => by simp [par, vcount, bzero]⟩
  | @tail w t' hr hs ih =>
    obtain ⟨β, hβ⟩ := ih
    refine ⟨bxor β (single (edgeId G 1 t' w)), fun x hx => ?_⟩
    rw [par_hom, bxor, hβ x hx, par_single hG hs.1 hs.2 hx]
    have hne : w ≠ t' := fun h => (hG.mem hs.1 hs.2).2.2.1 h.symm
    by_cases h1 : x = w
    · have : x ≠ t' := fun h => hne (h1 ▸ h)
      cases decide (x = t) <;> simp [h1, hne]
    · cases decide (x = t) <;> cases decide (x = t') <;> simp [h1]

theorem par_surj (hG : GoodGraph G) (χ : Nat → Bool)
    (hev : ∀ r ∈ reps G,
      Even ((Finset.Icc 1 G.n).filter (fun v => compSet G r v = true ∧ χ v = true)).card) :
    ∃ α, ∀ v, 1 ≤ v → v ≤ G.n → par G α v = χ v := by
  classical
  -- induction on the set `s` of defective vertices
  suffices h : ∀ (s : Finset Nat) (α : Assign),
      (Finset.Icc 1 G.n).filter (fun v => (par G α v != χ v) = true) = s →
      ∃ β, ∀ v, 1 ≤ v → v ≤ G.n → par G β v = χ v from h _ bzero rfl
  intro s
  induction s using Finset.strongInduction with
  | H s ih =>
    intro α hα
    rcases s.eq_empty_or_nonempty with rfl | ⟨t, ht⟩
    · refine ⟨α, fun v h1 h2 => ?_⟩
      have := Finset.filter_eq_empty_iff.1 hα (Finset.mem_Icc.2 ⟨h1, h2⟩)
      simpa using this
    · have mem : ∀ x, x ∈ s ↔ (1 ≤ x ∧ x ≤ G.n) ∧ (par G α x != χ x) = true := fun x => by
        rw [← hα, Finset.mem_filter, Finset.mem_Icc]
      have htr := ((mem t).1 ht).1
      -- the component of `t` holds an even number of defects, so a second one, `t'`
      have hr := rep_mem_reps hG htr
      have hpar : Even ((Finset.Icc 1 G.n).filter
          (fun v => compSet G (rep G t) v = true ∧ (par G α v != χ v) = true)).card := by
        have h1 := closed_par_even hG α _ (compSet_closed hG (rep G t))
        have h2 := hev _ hr
        rw [Nat.even_iff] at h1 h2 ⊢
        rw [card_filter_bxor_mod2]
        omega
      have htin : t ∈ (Finset.Icc 1 G.n).filter
          (fun v => compSet G (rep G t) v = true ∧ (par G α v != χ v) = true) :=
        Finset.mem_filter.2 ⟨Finset.mem_Icc.2 htr, decide_eq_true ⟨htr.2, rfl⟩, ((mem t).1 ht).2⟩
      have hgt : 1 < ((Finset.Icc 1 G.n).filter
          (fun v => compSet G (rep G t) v = true ∧ (par G α v != χ v) = true)).card := by
        have hpos := Finset.card_pos.2 ⟨t, htin⟩
        rcases hpar with ⟨m, hm⟩
        omega
      obtain ⟨t', ht'in, hne⟩ := Finset.exists_mem_ne hgt t
      rw [Finset.mem_filter, Finset.mem_Icc] at ht'in
      obtain ⟨β, hβ⟩ := exists_pair hG
        (reach_trans (rep_reach t) ((compSet_iff_reach hG hr t').1 ht'in.2.1))
      -- the defects of `α xor β` are those of `α` without `t` and `t'`
      refine ih _ ?_ (bxor α β) rfl
      rw [Finset.ssubset_iff_of_subset]
      · refine ⟨t, ht, fun h => ?_⟩
        rw [Finset.mem_filter, par_hom, bxor, hβ t htr.2] at h
        have := ((mem t).1 ht).2
        revert h this
        cases par G α t <;> cases χ t <;> simp [hne.symm]
      · intro x hx
        rw [Finset.mem_filter, Finset.mem_Icc, par_hom, bxor, hβ x hx.1.2] at hx
        refine (mem x).2 ⟨hx.1, ?_⟩
        by_cases hxt : x = t
        · exact hxt ▸ ((mem t).1 ht).2
        · by_cases hxt' : x = t'
          · exact hxt' ▸ ht'in.2.2
          · simpa [hxt, hxt'] using hx.2

theorem tseitin_converse (hG : GoodGraph G) (ch : Option (List Bool))
    (hev : ∀ C : Nat → Bool, (∀ v u, C v = true → u ∈ G.nbrs v → C u = true) →
      Even ((Finset.Icc 1 G.n).filter (fun v => C v = true ∧ chargeAt G.n ch v = true)).card) :
    ∃ α, TseitinSpec G ch α :=
  (par_surj hG _ fun r _ => hev _ (compSet_closed hG r)).imp fun α => (spec_iff_par ch α).2

end Fam
end Cnfgen
