/-
The "exactly one assignment per object" statements in general: a numbering of an index type `I`
by the variables `1..N` turns assignments `Fin N → Bool` into Boolean functions on `I` and back.
The edges of a consistent bipartite graph object are so numbered by the identifiers of
`BipartiteEdgesVariables`.
-/
import Lemmas.C01Bij
import Lemmas.C01Bip
import Lemmas.C01Graph
import Mathlib.Data.List.Nodup
namespace Cnfgen.Fam
open Cnfgen

/-- a numbering of the index type `I` by the variables `1..N`: `var` is injective, its values
are exactly `1..N` (`inv` is the decoding, `to_index`) -/
structure VarIndex (I : Type) (N : Nat) where
  var : I → Nat
  inv : Fin N → I
  var_pos : ∀ i, 1 ≤ var i
  var_le : ∀ i, var i ≤ N
  var_inv : ∀ x, var (inv x) = x.val + 1
  var_inj : ∀ i j, var i = var j → i = j

namespace VarIndex
variable {I : Type} {N : Nat} (ν : VarIndex I N)

theorem var_sub_lt (i : I) : ν.var i - 1 < N := by
  have := ν.var_pos i; have := ν.var_le i; omega

/-- the Boolean function on `I` described by an assignment to `1..N` -/
def toObj (a : Fin N → Bool) : I → Bool := fun i => a ⟨ν.var i - 1, ν.var_sub_lt i⟩

/-- the assignment describing a Boolean function on `I` -/
def ofObj (T : I → Bool) : Fin N → Bool := fun x => T (ν.inv x)

theorem ofObj_toObj (a : Fin N → Bool) : ν.ofObj (ν.toObj a) = a := by
  funext x
  simp only [ofObj, toObj]
  congr 1
  apply Fin.ext
  simp only [ν.var_inv x, Nat.add_sub_cancel]

theorem inv_var (i : I) : ν.inv ⟨ν.var i - 1, ν.var_sub_lt i⟩ = i := by
  apply ν.var_inj
  rw [ν.var_inv]
  have := ν.var_pos i
  simp only []; omega

theorem toObj_ofObj (T : I → Bool) : ν.toObj (ν.ofObj T) = T := by
  funext i
  simp only [toObj, ofObj, ν.inv_var i]

theorem extend_var (a : Fin N → Bool) (i : I) : extend a (ν.var i) = ν.toObj a i :=
  extend_apply a (ν.var_pos i) (ν.var_le i)

/-- `extend_var` for a variable given by the identifier the formula uses -/
theorem holds_var (a : Fin N → Bool) {i : I} {x : Nat} (h : ν.var i = x) :
    extend a x = true ↔ ν.toObj a i = true := by
  rw [← h, ν.extend_var]

theorem toObj_restrict (α : Assign) (i : I) : ν.toObj (restrict N α) i = α (ν.var i) := by
  have := ν.var_pos i
  simp only [toObj, restrict]
  congr 1; omega

theorem agree_of_toObj_eq (α β : Assign)
    (h : ∀ i, α (ν.var i) = β (ν.var i)) : ∀ x, 1 ≤ x → x ≤ N → α x = β x := by
  intro x h1 h2
  have := h (ν.inv ⟨x - 1, by omega⟩)
  rw [ν.var_inv] at this
  simp only [] at this
  rw [show x - 1 + 1 = x by omega] at this
  exact this

end VarIndex

/-- an edge of the graph object `B` (an entry of `B.edges()`) -/
abbrev BEdge (B : BipG) := {e : Nat × Nat // e ∈ B.edges}

theorem BEdge.spec {B : BipG} (e : BEdge B) : 1 ≤ e.1.1 ∧ e.1.1 ≤ B.l ∧ e.1.2 ∈ B.rnbrs e.1.1 :=
  (mem_bip_edges B e.1.1 e.1.2).1 e.2

theorem length_edges (B : BipG) (hg : GoodBip B) : B.edges.length = B.numberOfEdges := by
  simpa using congrArg List.length (hg.ids 1)

/-- the numbering of the edges of `B` by the variables of `new_sparse_mapping(B)` /
`new_bipartite_edges(B)` created on an empty formula: `1 + position in B.edges()` (`GoodBip.ids`) -/
def edgeIndex (B : BipG) (hg : GoodBip B) : VarIndex (BEdge B) B.numberOfEdges where
  var e := Vars.bipId B 1 e.1.1 e.1.2
  inv x := ⟨B.edges[x.val]'(by rw [length_edges B hg]; exact x.isLt), List.getElem_mem _⟩
  var_pos e := bipId_ge B 1 _ _ e.spec.1 e.spec.2.1
  var_le e := by have := (Vars.ids_range (hg.ids 1) e.2).2; omega
  var_inv x := by
    have := List.getElem_of_eq (hg.ids 1) (i := x.val) (by rw [List.length_map, length_edges B hg]; exact x.isLt)
    rw [List.getElem_map, List.getElem_range'] at this
    rw [this]; omega
  var_inj e e' h := by
    obtain ⟨rfl', rfl''⟩ := bipId_inj B 1 e.spec.1 e.spec.2.1 e.spec.2.2
      e'.spec.1 e'.spec.2.1 e'.spec.2.2 h
    exact Subtype.ext (Prod.ext rfl' rfl'')

theorem edgeIndex_var (B : BipG) (hg : GoodBip B) (e : BEdge B) :
    (edgeIndex B hg).var e = Vars.bipId B 1 e.1.1 e.1.2 := rfl

/-- the Boolean function on vertex pairs given by a set of edges (`false` off the edges) -/
def edgeFn {B : BipG} (T : BEdge B → Bool) (u v : Nat) : Bool :=
  if h : (u, v) ∈ B.edges then T ⟨(u, v), h⟩ else false

theorem edgeFn_mem {B : BipG} (T : BEdge B → Bool) {u v : Nat} (h : edgeFn T u v = true) :
    (u, v) ∈ B.edges := by
  unfold edgeFn at h
  split at h
  · assumption
  · exact absurd h (by simp)

theorem edgeFn_edge {B : BipG} (T : BEdge B → Bool) {u v : Nat} (h : (u, v) ∈ B.edges) :
    edgeFn T u v = T ⟨(u, v), h⟩ := by
  simp only [edgeFn, dif_pos h]

theorem extend_bipId (B : BipG) (hg : GoodBip B) (a : Fin B.numberOfEdges → Bool) {u v : Nat}
    (h1 : 1 ≤ u) (h2 : u ≤ B.l) (hv : v ∈ B.rnbrs u) :
    extend a (Vars.bipId B 1 u v) = edgeFn ((edgeIndex B hg).toObj a) u v := by
  have hm : (u, v) ∈ B.edges := (mem_bip_edges B u v).2 ⟨h1, h2, hv⟩
  rw [edgeFn_edge _ hm, ← (edgeIndex B hg).extend_var a ⟨(u, v), hm⟩]
  rfl

end Cnfgen.Fam
