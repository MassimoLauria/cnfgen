/-
C14 (GML) — cnfgen's part after the parser (`normalize`, the relabelling, `from_networkx`) on the
object that was written: read(write(G)) is G, for the three classes.
-/
import Lemmas.GmlContract
namespace Cnfgen.Gml
open Cnfgen GraphLex GraphFmt Nx

theorem labelsFrom_sorted (n : Nat) : (labelsFrom 0 n).Pairwise (fun a b => Label.le a b = true) := by
  rw [labelsFrom_eq_map, List.pairwise_map]
  have : (List.range n).Pairwise (· < ·) := List.pairwise_lt_range
  refine this.imp ?_
  intro a b hab
  simp only [Label.le, decide_eq_true_eq]
  omega

theorem ranks_labelsFrom (n : Nat) : ranks (labelsFrom 0 n) = (List.range n).map (· + 1) := by
  have hall : (labelsFrom 0 n).all Label.isInt = true := by
    rw [labelsFrom_eq_map]; simp [Label.isInt]
  unfold ranks
  simp only [hall, Bool.true_or, if_true]
  rw [sortBy_of_sorted Label.le _ (labelsFrom_sorted n)]
  conv => lhs; arg 2; rw [labelsFrom_eq_map]
  rw [List.map_map]
  apply List.map_congr_left
  intro j hj
  have hj' : j < n := List.mem_range.1 hj
  simp only [Function.comp, rank, (idxOf_labelsFrom n j hj').1]

theorem labelsFrom_length (a n : Nat) : (labelsFrom a n).length = n := by simp [labelsFrom]

theorem rank_parsedOf (X : NxOut) {i : Nat} (h : i < X.nodes.length) : (parsedOf X).rank i = i + 1 := by
  simp [Parsed.rank, parsedOf, ranks_labelsFrom, List.getD, h]

theorem nodup_diEdges (n : Nat) (T : List (Nat × Nat)) : (diEdges n T).Nodup :=
  nodup_flatMap_map List.nodup_range (fun _ _ => nodup_dedup _) fun _ _ _ _ _ _ _ _ h => Prod.mk.inj h

theorem edgesDistinct_of_nodup_le {es : List (Nat × Nat)} (hn : es.Nodup) (hle : ∀ e ∈ es, e.1 ≤ e.2) :
    EdgesDistinct false es := by
  unfold EdgesDistinct
  have h2 : es.Pairwise (fun a b => a ≠ b) := hn
  refine List.Pairwise.imp_of_mem ?_ h2
  intro a b ha hb hab
  refine ⟨hab, fun _ e => ?_⟩
  have h1 := hle a ha
  have h3 := hle b hb
  rw [e] at h1
  simp only at h1
  apply hab
  rw [e]
  exact Prod.ext (by simp only; omega) (by simp only; omega)

theorem edgesDistinct_of_nodup {es : List (Nat × Nat)} (hn : es.Nodup) : EdgesDistinct true es := by
  unfold EdgesDistinct
  have h2 : es.Pairwise (fun a b => a ≠ b) := hn
  exact h2.imp (fun hab => ⟨hab, fun h => by cases h⟩)

theorem printable_of_wf (X : NxOut) (hl : (natStr X.nodes.length).length ≤ maxStrDigits)
    (hW : (NxG.mk X.nodes.length X.tedges).WF) :
    Printable X ∧ EdgesDistinct X.directed (nxEdges X.directed X.nodes.length X.tedges) := by
  cases hdir : X.directed with
  | false =>
    rw [nxEdges_false]
    refine ⟨⟨hl, ?_⟩, edgesDistinct_of_nodup_le (NxG.nodup_edges _) (fun e he => (NxG.mem_edges'.1 he).2.1)⟩
    rw [hdir, nxEdges_false]
    intro e he
    obtain ⟨h1, _, h3⟩ := NxG.mem_edges'.1 he
    exact ⟨h1, (hW.of_E h3).2⟩
  | true =>
    rw [nxEdges_true]
    refine ⟨⟨hl, ?_⟩, edgesDistinct_of_nodup (nodup_diEdges _ _)⟩
    rw [hdir, nxEdges_true]
    rintro ⟨a, b⟩ he
    exact hW _ (mem_diEdges.1 he).2

theorem parsedOf_wf (X : NxOut) (hl : (natStr X.nodes.length).length ≤ maxStrDigits)
    (hW : (NxG.mk X.nodes.length X.tedges).WF) : (parsedOf X).WF :=
  have hp := printable_of_wf X hl hW
  parseGml_wf (parseGml_gmlText false X hp.1 hp.2)

theorem readGml_gmlText (u : Bool) (ty : GType) (X : NxOut) (hl : (natStr X.nodes.length).length ≤ maxStrDigits)
    (hW : (NxG.mk X.nodes.length X.tedges).WF) {G : AnyG} (hn : normalize ty (parsedOf X) = .ok G)
    (hd : ∀ g, ty = .dag → G = .di g → g.stillDag = true) :
    readGml u ty (gmlText X) = .ok (G, nameOf (parsedOf X)) := by
  have hp := printable_of_wf X hl hW
  simp only [readGml, parseGml_gmlText u X hp.1 hp.2, Res.bind, hn]
  split
  next _ _ g => rw [if_pos (hd g rfl rfl)]
  next => rfl

theorem calls_written_sym (X : NxOut) (hP : (parsedOf X).WF) (hW : (NxG.mk X.nodes.length X.tedges).WF) {x y : Nat} :
    ((x, y) ∈ fromNxCalls (parsedOf X) ∨ (y, x) ∈ fromNxCalls (parsedOf X)) ↔
      ((x, y) ∈ X.tedges.map (fun e => (e.1 + 1, e.2 + 1)) ∨ (y, x) ∈ X.tedges.map (fun e => (e.1 + 1, e.2 + 1))) := by
  rw [mem_fromNxCalls_sym hP]
  constructor
  · rintro ⟨i, j, hij, rfl, rfl⟩
    have h := (mem_nxEdges_sym hW).1 hij
    have hr : i < X.nodes.length ∧ j < X.nodes.length := h.elim (hW _) (fun h => (hW _ h).symm)
    rw [rank_parsedOf X hr.1, rank_parsedOf X hr.2]
    exact h.imp (fun h => List.mem_map.2 ⟨_, h, rfl⟩) (fun h => List.mem_map.2 ⟨_, h, rfl⟩)
  · rintro (h | h)
    all_goals
      obtain ⟨⟨i, j⟩, hij, e⟩ := List.mem_map.1 h
      cases e
      have hr := hW _ hij
    · exact ⟨i, j, (mem_nxEdges_sym hW).2 (Or.inl hij), (rank_parsedOf X hr.1).symm, (rank_parsedOf X hr.2).symm⟩
    · exact ⟨j, i, (mem_nxEdges_sym hW).2 (Or.inr hij), (rank_parsedOf X hr.2).symm, (rank_parsedOf X hr.1).symm⟩

theorem calls_written_dir (X : NxOut) (hP : (parsedOf X).WF) (hW : (NxG.mk X.nodes.length X.tedges).WF)
    (hd : X.directed = true) (p : Nat × Nat) :
    p ∈ fromNxCalls (parsedOf X) ↔ p ∈ X.tedges.map (fun e => (e.1 + 1, e.2 + 1)) := by
  obtain ⟨x, y⟩ := p
  rw [mem_fromNxCalls_dir hP hd, show (parsedOf X).tedges = nxEdges X.directed X.nodes.length X.tedges from rfl, hd, nxEdges_true]
  constructor
  · rintro ⟨i, j, hij, rfl, rfl⟩
    have h := (mem_diEdges.1 hij).2
    rw [rank_parsedOf X (hW _ h).1, rank_parsedOf X (hW _ h).2]
    exact List.mem_map.2 ⟨_, h, rfl⟩
  · intro h
    obtain ⟨⟨i, j⟩, hij, e⟩ := List.mem_map.1 h
    cases e
    have hr := hW _ hij
    exact ⟨i, j, mem_diEdges.2 ⟨hr.1, hij⟩, (rank_parsedOf X hr.1).symm, (rank_parsedOf X hr.2).symm⟩

/-- vertices `1..n` are written as the positions `0..n-1` -/
theorem positions_succ {n : Nat} {es : List (Nat × Nat)} (h : ∀ e ∈ es, 1 ≤ e.1 ∧ e.1 ≤ n ∧ 1 ≤ e.2 ∧ e.2 ≤ n) :
    (es.map (fun e => (e.1 - 1, e.2 - 1))).map (fun e => (e.1 + 1, e.2 + 1)) = es := by
  refine map_map_eq_self fun e he => ?_
  have := h e he
  exact Prod.ext (by simp only; omega) (by simp only; omega)

theorem positions_wf {n : Nat} {es : List (Nat × Nat)} (h : ∀ e ∈ es, 1 ≤ e.1 ∧ e.1 ≤ n ∧ 1 ≤ e.2 ∧ e.2 ≤ n) :
    (NxG.mk n (es.map (fun e => (e.1 - 1, e.2 - 1)))).WF := by
  intro p hp
  obtain ⟨e, he, rfl⟩ := List.mem_map.1 hp
  have := h e he
  simp only; omega

theorem readGml_writeGml_simple (u : Bool) (name : Str) {G : SimpleG} (hI : SimpleG.Inv G)
    (hp : (natStr G.n).length ≤ maxStrDigits) :
    ∃ G', readGml u .simple (writeGml name (.simple G)) = .ok (.simple G', .one (.str [])) ∧ SimpleG.Same G G' := by
  have hr : ∀ e ∈ G.edges, 1 ≤ e.1 ∧ e.1 ≤ G.n ∧ 1 ≤ e.2 ∧ e.2 ≤ G.n := fun e he => by have := hI.edges_range he; omega
  have hlen : (toNxSimple G).nodes.length = G.n := by simp [toNxSimple]
  have hW : (NxG.mk (toNxSimple G).nodes.length (toNxSimple G).tedges).WF := hlen ▸ positions_wf hr
  have hup : (toNxSimple G).tedges.map (fun e => (e.1 + 1, e.2 + 1)) = G.edges := positions_succ hr
  -- up to orientation, the calls of `from_networkx` are `G.edges`
  have hm := fun x y => calls_written_sym (x := x) (y := y) _ (parsedOf_wf _ (hlen ▸ hp) hW) hW
  simp only [hup] at hm
  obtain ⟨G', hof, hS⟩ := SimpleG.rebuild hI (cs := fromNxCalls (parsedOf (toNxSimple G)))
    (fun e he => ((hm e.1 e.2).1 (Or.inl he)).elim (fun h => (hI.mem_edges'.1 h).2)
      (fun h => hI.symm _ _ (hI.mem_edges'.1 h).2))
    (fun a b hab => (hm a b).2 (by
      rcases Nat.lt_or_gt_of_ne (hI.range a b hab).2.2.2.2 with hlt | hgt
      · exact Or.inl (hI.mem_edges'.2 ⟨hlt, hab⟩)
      · exact Or.inr (hI.mem_edges'.2 ⟨hgt, hI.symm _ _ hab⟩)))
  have hof : SimpleG.ofEdges G.n (fromNxCalls (parsedOf (toNxSimple G))) = .ok G' := hof
  have hnorm : normalize .simple (parsedOf (toNxSimple G)) = .ok (.simple G') := by
    simp only [normalize, parsedOf, labelsFrom_length, hlen] at hof ⊢
    simp only [hof, liftE, Res.bind]
  exact ⟨G', readGml_gmlText u .simple (toNxSimple G) (hlen ▸ hp) hW hnorm (fun _ e => by cases e), hS⟩

theorem readGml_writeGml_di (u : Bool) (name : Str) (ty : GType) (hty : ty = .digraph ∨ ty = .dag)
    {G : DiG} (hI : DiG.Inv G) (hp : (natStr G.n).length ≤ maxStrDigits) (hdag : ty = .dag → G.stillDag = true) :
    ∃ G', readGml u ty (writeGml name (.di G)) = .ok (.di G', .one (.str [])) ∧ DiG.Same G G' := by
  have hr : ∀ e ∈ G.edges, 1 ≤ e.1 ∧ e.1 ≤ G.n ∧ 1 ≤ e.2 ∧ e.2 ≤ G.n := fun e he => hI.range _ _ (hI.mem_edges.1 he)
  have hlen : (toNxDi G).nodes.length = G.n := by simp [toNxDi]
  have hW : (NxG.mk (toNxDi G).nodes.length (toNxDi G).tedges).WF := hlen ▸ positions_wf hr
  have hup : (toNxDi G).tedges.map (fun e => (e.1 + 1, e.2 + 1)) = G.edges := positions_succ hr
  obtain ⟨G', hof, hS⟩ := DiG.rebuild hI (cs := fromNxCalls (parsedOf (toNxDi G))) (fun p =>
    (calls_written_dir _ (parsedOf_wf _ (hlen ▸ hp) hW) hW rfl p).trans (hup ▸ hI.mem_edges))
  have hof : DiG.ofEdges G.n (fromNxCalls (parsedOf (toNxDi G))) = .ok G' := hof
  have hnorm : normalize ty (parsedOf (toNxDi G)) = .ok (.di G') := by
    have hdir : (parsedOf (toNxDi G)).directed = true := rfl
    rcases hty with rfl | rfl <;>
    · simp only [normalize, hdir]
      simp only [parsedOf, labelsFrom_length, hlen] at hof ⊢
      simp only [hof, liftE, Res.bind, Bool.not_true, Bool.false_eq_true, if_false]
  refine ⟨G', readGml_gmlText u ty (toNxDi G) (hlen ▸ hp) hW hnorm (fun g e1 e2 => ?_), hS⟩
  cases e2
  rw [hS.stillDag]
  exact hdag e1

/-- the nodes `BipartiteGraph.from_networkx` sees after write and parse: positions with their sides -/
theorem bip_nodes (l r : Nat) :
    (List.range (l + r)).zip (((List.range l).map (fun i => (i + 1, some false)) ++
        (List.range r).map (fun j => (l + j + 1, some true))).map (fun p : Nat × Option Bool => colourBool (colourOfAttr p.2))) =
    (List.range l).map (fun i => (i, some false)) ++ (List.range r).map (fun j => (l + j, some true)) := by
  rw [List.range_add, List.map_append, List.map_map, List.map_map]
  rw [List.zip_append (by simp)]
  have h1 := List.zip_map' (l := List.range l) (f := fun i => i) (g := fun _ => some false)
  have h2 := List.zip_map' (l := List.range r) (f := fun j => l + j) (g := fun _ => some true)
  simp only [List.map_id'] at h1
  have h1' : (List.range l).zip (List.replicate l (some false)) = List.map (fun x => (x, some false)) (List.range l) := by
    simpa using h1
  have h2' : (List.map (fun j => l + j) (List.range r)).zip (List.replicate r (some true)) =
      List.map (fun x => (l + x, some true)) (List.range r) := by
    simpa using h2
  simp [Function.comp_def, colourBool, colourOfAttr, h1', h2']

theorem bip_left (l r : Nat) :
    ((((List.range l).map (fun i => (i, some false)) ++ (List.range r).map (fun j => (l + j, some true))).filter
      (fun p : Nat × Option Bool => p.2 == some false)).map (·.1)) = List.range l := by
  simp [List.filter_append, List.filter_map, Function.comp_def]

theorem bip_right (l r : Nat) :
    ((((List.range l).map (fun i => (i, some false)) ++ (List.range r).map (fun j => (l + j, some true))).filter
      (fun p : Nat × Option Bool => p.2 == some true)).map (·.1)) = (List.range r).map (fun j => l + j) := by
  simp [List.filter_append, List.filter_map, Function.comp_def]

theorem bip_anyNone (l r : Nat) :
    (((List.range l).map (fun i => (i, some false)) ++ (List.range r).map (fun j => (l + j, some true))).any
      (fun p : Nat × Option Bool => p.2.isNone)) = false := by
  simp

theorem colourOfAttr_ne_unknown (b : Option Bool) : colourOfAttr b ≠ .unknown := by
  cases b with
  | none => simp [colourOfAttr]
  | some b => cases b <;> simp [colourOfAttr]

/-- the name comes back as networkx reads it -/
theorem readGml_writeGml_bip (u : Bool) (name : Str) {G : BipG} (hI : BipG.Inv G)
    (hp : (natStr (G.l + G.r)).length ≤ maxStrDigits) :
    ∃ G', readGml u .bipartite (writeGml name (.bip G)) = .ok (.bip G', .one (nameVal name)) ∧ BipG.Same G G' := by
  have hr : ∀ e ∈ G.edges, 1 ≤ e.1 ∧ e.1 ≤ G.l ∧ 1 ≤ e.2 ∧ e.2 ≤ G.r := fun e he => hI.range _ _ (hI.mem_edges.1 he)
  generalize hT : G.edges.map (fun e => (e.1 - 1, e.2 + G.l - 1)) = T
  have hup : T.map (fun e => (e.1 + 1, e.2 - G.l + 1)) = G.edges := by
    rw [← hT]
    refine map_map_eq_self fun e he => ?_
    have := hr e he
    exact Prod.ext (by simp only; omega) (by simp only; omega)
  have hTr : ∀ {a b : Nat}, (a, b) ∈ T → a < G.l ∧ G.l ≤ b ∧ b < G.l + G.r := by
    intro a b h
    rw [← hT] at h
    obtain ⟨e, he, e'⟩ := List.mem_map.1 h
    cases e'
    have := hr e he
    omega
  let N0 : NxG := ⟨G.l + G.r, T⟩
  let N1 : NxG := N0.relabelCopy
  have hW0 : N0.WF := by
    rintro ⟨a, b⟩ he
    have := hTr he
    show a < G.l + G.r ∧ b < G.l + G.r
    omega
  have hE1 : ∀ {a b : Nat}, N1.E a b ↔ N0.E a b := NxG.relabelCopy_E hW0
  have hN1 : ∀ {a b : Nat}, (a, b) ∈ N1.edges ↔ (a, b) ∈ T := by
    intro a b
    rw [NxG.mem_edges, hE1]
    constructor
    · rintro ⟨_, h2, h3 | h3⟩
      · exact h3
      · have := hTr h3; omega
    · intro h
      have := hTr h
      exact ⟨by show a < G.l + G.r; omega, by omega, Or.inl h⟩
  have hlen : (toNxBip name G).nodes.length = G.l + G.r := by simp [toNxBip]
  have hX : toNxBip name G = ⟨false, some name, (toNxBip name G).nodes, T⟩ := by simp [toNxBip, hT]
  -- the object built from the edges networkx reports
  obtain ⟨G', h1, hS⟩ := BipG.rebuild hI (cs := N1.edges.map (fun e => (e.1 + 1, e.2 - G.l + 1))) (fun p => by
    rw [← hI.mem_edges, ← hup, List.mem_map, List.mem_map]
    exact exists_congr fun q => and_congr_left' hN1)
  refine ⟨G', ?_, hS⟩
  have hnorm : normalize .bipartite (parsedOf (toNxBip name G)) = .ok (.bip G') := by
    have hunk : ((toNxBip name G).nodes.map (fun p => colourOfAttr p.2)).contains Colour.unknown = false := by
      rw [Bool.eq_false_iff]
      intro hc
      rw [List.contains_iff_mem] at hc
      obtain ⟨p, _, e⟩ := List.mem_map.1 hc
      exact colourOfAttr_ne_unknown _ e
    -- every reported edge goes from a left position to a right one; its ends have the ranks `e.1 + 1`, `e.2 - l + 1`
    have hE : ∀ e ∈ N1.edges, e.1 ∈ List.range G.l ∧ e.2 ∈ (List.range G.r).map (fun j => G.l + j) := fun e he => by
      obtain ⟨h1, h2, h3⟩ := hTr (hN1.1 he)
      exact ⟨List.mem_range.2 h1, List.mem_map.2 ⟨e.2 - G.l, List.mem_range.2 (by omega), by omega⟩⟩
    have hrank : N1.edges.map (fun e => (rank (List.range G.l) e.1, rank ((List.range G.r).map (fun j => G.l + j)) e.2)) =
        N1.edges.map (fun e => (e.1 + 1, e.2 - G.l + 1)) := by
      refine List.map_congr_left (fun e he => ?_)
      obtain ⟨h1, h2, h3⟩ := hTr (hN1.1 he)
      have hr1 := idxOf_map_range (fun i => i) (n := G.l) (i := e.1) (fun _ _ h _ => Nat.ne_of_lt h) h1
      have hr2 := idxOf_map_range (fun j => G.l + j) (n := G.r) (i := e.2 - G.l) (fun _ _ h _ => by omega) (by omega)
      rw [List.map_id'] at hr1
      rw [show G.l + (e.2 - G.l) = e.2 by omega] at hr2
      simp only [rank, hr1, hr2]
    simp only [normalize, parsedOf, hunk, Bool.false_eq_true, if_false, labelsFrom_length, hlen]
    have hnodes : (List.range (G.l + G.r)).zip
        (((toNxBip name G).nodes.map (fun p => colourOfAttr p.2)).map colourBool) =
        (List.range G.l).map (fun i => (i, some false)) ++ (List.range G.r).map (fun j => (G.l + j, some true)) := by
      rw [List.map_map]
      exact bip_nodes G.l G.r
    rw [hX, nxEdges_false, nxEdges_false, hnodes]
    show (liftE (bipOfNx _ N1.edges)).bind _ = _
    rw [bipOfNx_ofEdges N1.edges (bip_anyNone _ _) (bip_left _ _) (bip_right _ _) hE, hrank, List.length_range, List.length_map,
      List.length_range, h1]
    rfl
  have hname : nameOf (parsedOf (toNxBip name G)) = .one (nameVal name) := by
    simp [nameOf, parsedOf, nameField, toNxBip]
  rw [← hname]
  refine readGml_gmlText u .bipartite (toNxBip name G) (by rw [hlen]; exact hp) ?_ hnorm (fun _ e => by cases e)
  rw [hlen, hX]
  exact hW0

end Cnfgen.Gml
