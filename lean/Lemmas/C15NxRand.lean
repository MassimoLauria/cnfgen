/-
C15, `gnp` / `gnm`: the draw loops of `networkx.gnp_random_graph` and `networkx.gnm_random_graph`
as modelled in `Rand/NxDraws.lean`, for EVERY draw list on which the run is not `stuck`.
-/
import Lemmas.C15NxBase
import CnfgenModel.Rand.NxDraws
import Mathlib.Tactic.Ring
namespace Cnfgen.Nx
open Cnfgen

theorem mem_allPairs {n u v : Nat} : (u, v) ∈ allPairs n ↔ u < v ∧ v < n := by
  simp only [allPairs, List.mem_flatMap, List.mem_range, List.mem_map, List.mem_range'_1, Prod.mk.injEq]
  constructor
  · rintro ⟨a, ha, b, hb, rfl, rfl⟩; omega
  · rintro ⟨h1, h2⟩; exact ⟨u, by omega, v, by omega, rfl, rfl⟩

theorem nodup_allPairs (n : Nat) : (allPairs n).Nodup :=
  nodup_flatMap_map List.nodup_range (fun _ _ => List.nodup_range') fun _ _ _ _ _ _ _ _ h => Prod.mk.inj h

theorem length_allPairs (n : Nat) : 2 * (allPairs n).length = n * (n - 1) := by
  induction n with
  | zero => simp [allPairs]
  | succ k ih =>
    have hperm : (allPairs (k + 1)).Perm (allPairs k ++ (List.range k).map (fun u => (u, k))) := by
      rw [List.perm_ext_iff_of_nodup (nodup_allPairs _)]
      · rintro ⟨u, v⟩
        simp only [List.mem_append, mem_allPairs, List.mem_map, List.mem_range, Prod.mk.injEq]
        constructor
        · rintro ⟨h1, h2⟩
          by_cases hv : v < k
          · exact Or.inl ⟨h1, hv⟩
          · exact Or.inr ⟨u, by omega, rfl, by omega⟩
        · rintro (⟨h1, h2⟩ | ⟨a, ha, rfl, rfl⟩) <;> omega
      · apply List.Nodup.append (nodup_allPairs k)
        · exact List.Nodup.map (fun a b h => by simp only [Prod.mk.injEq] at h; exact h.1) List.nodup_range
        · rintro ⟨u, v⟩ h1 h2
          have := mem_allPairs.1 h1
          simp only [List.mem_map, Prod.mk.injEq] at h2
          obtain ⟨a, _, _, rfl⟩ := h2
          omega
    rw [hperm.length_eq, List.length_append, List.length_map, List.length_range, Nat.mul_add, ih]
    cases k with
    | zero => simp
    | succ j =>
      simp only [Nat.add_sub_cancel]
      ring

theorem completeGraph_E {n u v : Nat} : (completeGraph n).E u v ↔ u < n ∧ v < n ∧ u ≠ v := by
  unfold NxG.E completeGraph
  simp only [mem_allPairs]; omega

theorem completeGraph_WF (n : Nat) : (completeGraph n).WF := by
  rintro ⟨u, v⟩ he
  have := mem_allPairs.1 he
  simp only [completeGraph]; omega

theorem completeGraph_oriented (n : Nat) : (completeGraph n).Oriented := by
  rintro ⟨u, v⟩ he
  exact (mem_allPairs.1 he).1

theorem completeGraph_edges_length (n : Nat) : 2 * (completeGraph n).edges.length = n * (n - 1) := by
  rw [NxG.length_edges (completeGraph_WF n) (completeGraph_oriented n) (nodup_allPairs n)]
  exact length_allPairs n

/-- the pairs kept by the draws `nums`, in order -/
def keep (pn : Int) (pd : Nat) : List (Nat × Nat) → List Nat → List (Nat × Nat)
  | e :: es, x :: xs => if unitLt x pn pd then e :: keep pn pd es xs else keep pn pd es xs
  | _, _ => []

theorem gnpLoop_ok {pn : Int} {pd : Nat} {pairs : List (Nat × Nat)} {ds : List NxDraw} {l : List (Nat × Nat)}
    {rest : List NxDraw} (h : gnpLoop pn pd pairs ds = .ok l rest) :
    ∃ nums : List Nat, nums.length = pairs.length ∧ ds = nums.map NxDraw.unit ++ rest ∧
      (∀ x ∈ nums, x < unitDen) ∧ l = keep pn pd pairs nums := by
  fun_induction gnpLoop pn pd pairs ds generalizing l with
  | case1 ds => cases h; exact ⟨[], rfl, rfl, by simp, rfl⟩
  | case2 e es num ds hlt l' rest' hrec ih =>
    cases h
    obtain ⟨nums, h1, h2, h3, h4⟩ := ih hrec
    refine ⟨num :: nums, by simp [h1], by simp [h2], ?_, by simp only [keep, h4]⟩
    intro x hx
    rcases List.mem_cons.1 hx with rfl | hx
    · exact hlt
    · exact h3 x hx
  | case3 | case4 | case5 => cases h

theorem gnpLoop_complete (pn : Int) (pd : Nat) (pairs : List (Nat × Nat)) (nums : List Nat) (rest : List NxDraw)
    (hlen : nums.length = pairs.length) (hleg : ∀ x ∈ nums, x < unitDen) :
    gnpLoop pn pd pairs (nums.map NxDraw.unit ++ rest) = .ok (keep pn pd pairs nums) rest := by
  induction pairs generalizing nums with
  | nil =>
    have : nums = [] := List.eq_nil_of_length_eq_zero hlen
    subst this; rfl
  | cons e es ih =>
    match nums, hlen with
    | x :: xs, hlen =>
      simp only [List.length_cons, Nat.add_right_cancel_iff] at hlen
      simp only [List.map_cons, List.cons_append, gnpLoop, if_pos (hleg x (by simp)),
        ih xs hlen (fun y hy => hleg y (by simp [hy])), keep]

theorem keep_sublist (pn : Int) (pd : Nat) (pairs : List (Nat × Nat)) (nums : List Nat) :
    (keep pn pd pairs nums).Sublist pairs := by
  induction pairs generalizing nums with
  | nil => cases nums <;> simp [keep]
  | cons e es ih =>
    cases nums with
    | nil => simp [keep]
    | cons x xs =>
      simp only [keep]
      split
      · exact (ih xs).cons_cons e
      · exact (ih xs).cons e

theorem mem_keep {pn : Int} {pd : Nat} {pairs : List (Nat × Nat)} {nums : List Nat} (hnd : pairs.Nodup)
    (hlen : nums.length = pairs.length) (k : Nat) (hk : k < pairs.length) :
    pairs[k] ∈ keep pn pd pairs nums ↔ unitLt (nums[k]'(by omega)) pn pd = true := by
  induction pairs generalizing nums k with
  | nil => simp at hk
  | cons e es ih =>
    match nums, hlen with
    | x :: xs, hlen =>
      simp only [List.length_cons, Nat.add_right_cancel_iff] at hlen
      rw [List.nodup_cons] at hnd
      cases k with
      | zero =>
        simp only [List.getElem_cons_zero, keep]
        split
        · rename_i h; simp [h]
        · rename_i h
          constructor
          · intro hm; exact absurd ((keep_sublist pn pd es xs).subset hm) hnd.1
          · intro h'; exact absurd h' h
      | succ j =>
        have hj : j < es.length := by simpa using hk
        simp only [List.getElem_cons_succ, keep]
        have hne : es[j] ≠ e := fun h => hnd.1 (h ▸ List.getElem_mem hj)
        split
        · simp only [List.mem_cons, hne, false_or]; exact ih hnd.2 hlen j hj
        · exact ih hnd.2 hlen j hj

theorem length_keep (pn : Int) (pd : Nat) (pairs : List (Nat × Nat)) (nums : List Nat)
    (hlen : nums.length = pairs.length) :
    (keep pn pd pairs nums).length = (nums.filter (fun x => unitLt x pn pd)).length := by
  induction pairs generalizing nums with
  | nil => have : nums = [] := List.eq_nil_of_length_eq_zero hlen; subst this; rfl
  | cons e es ih =>
    match nums, hlen with
    | x :: xs, hlen =>
      simp only [List.length_cons, Nat.add_right_cancel_iff] at hlen
      simp only [keep, List.filter_cons]
      split <;> simp [ih xs hlen]

/-- what the loop of `gnm_random_graph` maintains: the edges chosen so far join two different nodes
and no unordered pair occurs twice -/
structure GnmInv (n : Nat) (te : List (Nat × Nat)) : Prop where
  range : ∀ e ∈ te, e.1 < n ∧ e.2 < n ∧ e.1 ≠ e.2
  nodup : (te.map NxG.norm).Nodup

theorem norm_mem_iff {te : List (Nat × Nat)} {u v : Nat} :
    NxG.norm (u, v) ∈ te.map NxG.norm ↔ (u, v) ∈ te ∨ (v, u) ∈ te := by
  rcases Nat.le_total u v with h | h
  · rw [show NxG.norm (u, v) = (u, v) from SimpleG.norm_of_le h, NxG.mem_map_norm h]
  · rw [show NxG.norm (u, v) = (v, u) from (SimpleG.norm_comm u v).trans (SimpleG.norm_of_le h), NxG.mem_map_norm h]
    exact Or.comm

theorem hasEdge_iff {te : List (Nat × Nat)} {u v : Nat} : hasEdge te u v = true ↔ (u, v) ∈ te ∨ (v, u) ∈ te := by
  simp [hasEdge]

theorem GnmInv.snoc {n : Nat} {te : List (Nat × Nat)} (h : GnmInv n te) {u v : Nat} (hu : u < n) (hv : v < n)
    (hne : u ≠ v) (hnew : ¬ hasEdge te u v = true) : GnmInv n (te ++ [(u, v)]) := by
  constructor
  · intro e he
    rcases List.mem_append.1 he with he | he
    · exact h.range e he
    · simp only [List.mem_singleton] at he; subst he; exact ⟨hu, hv, hne⟩
  · rw [List.map_append, List.nodup_append]
    refine ⟨h.nodup, by simp, ?_⟩
    intro a ha b hb
    simp only [List.map_cons, List.map_nil, List.mem_singleton] at hb
    subst hb
    intro hab
    subst hab
    exact hnew (hasEdge_iff.2 (norm_mem_iff.1 ha))

theorem gnmLoop_ok {n m : Nat} (te : List (Nat × Nat)) (ds : List NxDraw) {te' : List (Nat × Nat)}
    {rest : List NxDraw} (hI : GnmInv n te) (hle : te.length ≤ m) (h : gnmLoop n m te ds = .ok te' rest) :
    GnmInv n te' ∧ te'.length = m ∧ ∃ used, ds = used ++ rest := by
  fun_induction gnmLoop n m te ds with
  | case1 te u v ds hm =>
    cases h; exact ⟨hI, by omega, [], rfl⟩
  | case2 te u v ds hm hr hskip ih =>
    obtain ⟨g1, g2, used, g3⟩ := ih hI hle h
    exact ⟨g1, g2, .choice u :: .choice v :: used, by rw [g3]; rfl⟩
  | case3 te u v ds hm hr hfresh ih =>
    obtain ⟨g1, g2, used, g3⟩ := ih (hI.snoc hr.1 hr.2 (fun e => hfresh (.inl e)) (fun e => hfresh (.inr e)))
      (by rw [List.length_append]; exact Nat.lt_of_not_le hm) h
    exact ⟨g1, g2, .choice u :: .choice v :: used, by rw [g3]; rfl⟩
  | case4 te u v ds hm hr => cases h
  | case5 te ds hds hm => cases h; exact ⟨hI, by omega, [], rfl⟩
  | case6 te ds hds hm => cases h

theorem gnmInv_nil (n : Nat) : GnmInv n [] := ⟨by simp, by simp⟩

/-- `gnm_random_graph(n, m)` under cnfgen's guard `m ≤ n(n-1)/2`: whatever is drawn, a run that ends
returns a loop-free graph on `n` nodes for which `G.edges()` reports exactly `m` edges -/
theorem gnmGraph_ok {n m : Nat} (hm : 2 * m ≤ n * (n - 1)) {ds : List NxDraw} {G : NxG}
    {rest : List NxDraw} (h : gnmGraph n m ds = .ok G rest) :
    G.n = n ∧ G.WF ∧ G.Loopless ∧ G.edges.length = m ∧ ∃ used, ds = used ++ rest := by
  unfold gnmGraph at h
  split at h
  · rename_i h1
    cases h
    subst h1
    refine ⟨rfl, by intro e he; simp [emptyGraph] at he, by intro e he; simp [emptyGraph] at he, ?_, [], rfl⟩
    rw [emptyGraph_edges]; simp at hm ⊢; omega
  · split at h
    · rename_i hge
      cases h
      refine ⟨rfl, completeGraph_WF n, (completeGraph_oriented n).loopless, ?_, [], rfl⟩
      have := completeGraph_edges_length n
      omega
    · split at h
      · rename_i te rest' hloop
        cases h
        obtain ⟨g1, g2, g3⟩ := gnmLoop_ok [] ds (gnmInv_nil n) (Nat.zero_le m) hloop
        have hW : NxG.WF ⟨n, te⟩ := fun e he => ⟨(g1.range e he).1, (g1.range e he).2.1⟩
        have hL : NxG.Loopless ⟨n, te⟩ := fun e he => (g1.range e he).2.2
        refine ⟨rfl, hW, hL, ?_, g3⟩
        rw [NxG.length_edges_of_norm hW g1.nodup]; exact g2
      · cases h

end Cnfgen.Nx
