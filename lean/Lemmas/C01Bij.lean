/-
Assignments restricted to the variables `1..N`, and the fact that a well-formed formula only
looks at them — the setting of the "exactly one assignment per object" statements; statements over
a range `1..m` as statements over `Fin m`; inverse maps between assignments and objects.
-/
import Lemmas.C01Basic
import Mathlib.Logic.ExistsUnique
namespace Cnfgen.Fam
open Cnfgen

/-- an assignment to the variables `1..N` (variable `x` at index `x - 1`), extended by `false` -/
def extend {N : Nat} (a : Fin N → Bool) : Assign :=
  fun x => if h : 1 ≤ x ∧ x ≤ N then a ⟨x - 1, by omega⟩ else false

/-- the restriction of an assignment to the variables `1..N` -/
def restrict (N : Nat) (α : Assign) : Fin N → Bool := fun i => α (i.val + 1)

theorem restrict_extend {N : Nat} (a : Fin N → Bool) : restrict N (extend a) = a := by
  funext i
  have h : 1 ≤ i.val + 1 ∧ i.val + 1 ≤ N := ⟨by omega, i.isLt⟩
  simp only [restrict, extend, dif_pos h]
  congr

theorem extend_restrict (N : Nat) (α : Assign) {x : Nat} (h1 : 1 ≤ x) (h2 : x ≤ N) :
    extend (restrict N α) x = α x := by
  simp only [extend, restrict, dif_pos (And.intro h1 h2)]
  congr 1; omega

theorem extend_apply {N : Nat} (a : Fin N → Bool) {x : Nat} (h1 : 1 ≤ x) (h2 : x ≤ N) :
    extend a x = a ⟨x - 1, by omega⟩ := by
  simp only [extend, dif_pos (And.intro h1 h2)]

theorem Con.holds_congr (α β : Assign) (N : Nat) (c : Con)
    (hc : ∀ l ∈ c.lits, l ≠ 0 ∧ l.natAbs ≤ N)
    (h : ∀ x, 1 ≤ x → x ≤ N → α x = β x) : c.holds α = c.holds β := by
  have hv : ∀ l ∈ c.lits, α l.natAbs = β l.natAbs := fun l hl =>
    h _ (by have := (hc l hl).1; omega) (hc l hl).2
  have hcount : ∀ ls, ls = c.lits → count α ls = count β ls := by
    intro ls e; subst e
    exact List.countP_congr fun l hm => by rw [litHolds_congr α β l (hv l hm)]
  cases c with
  | clause cl => exact clauseHolds_congr hv
  | lin ls o k => simp only [Con.holds, hcount ls rfl]
  | parity ls b => simp only [Con.holds, hcount ls rfl]
  | maj kind ls => cases kind <;> simp only [Con.holds, hcount ls rfl]

theorem Formula.holds_congr (F : Formula) (hwf : F.WF) (α β : Assign)
    (h : ∀ x, 1 ≤ x → x ≤ F.nvars → α x = β x) : F.holds α = F.holds β := by
  simp only [Formula.holds]
  rw [Bool.eq_iff_iff]
  simp only [List.all_eq_true]
  constructor
  · intro h' c hc; rw [← Con.holds_congr α β F.nvars c (hwf c hc) h]; exact h' c hc
  · intro h' c hc; rw [Con.holds_congr α β F.nvars c (hwf c hc) h]; exact h' c hc

theorem Formula.holds_extend_restrict (F : Formula) (hwf : F.WF) (α : Assign) :
    F.holds (extend (restrict F.nvars α)) = F.holds α :=
  Formula.holds_congr F hwf _ _ (fun _ h1 h2 => extend_restrict F.nvars α h1 h2)

/-! ### statements over the range `1..m` and over `Fin m`

The specifications quantify over `1 ≤ u ≤ m`, the objects over `Fin m` (index `u - 1`); rewriting with these three
turns the former into the latter. -/

theorem forall_range_iff_fin {m : Nat} {p : Nat → Prop} :
    (∀ u, 1 ≤ u → u ≤ m → p u) ↔ ∀ u : Fin m, p (u.val + 1) :=
  ⟨fun h u => h _ (Nat.succ_pos _) u.isLt,
   fun h u h1 h2 => Nat.sub_add_cancel h1 ▸ h ⟨u - 1, by omega⟩⟩

theorem exists_range_iff_fin {m : Nat} {p : Nat → Prop} :
    (∃ u, 1 ≤ u ∧ u ≤ m ∧ p u) ↔ ∃ u : Fin m, p (u.val + 1) :=
  ⟨fun ⟨u, h1, h2, h⟩ => ⟨⟨u - 1, by omega⟩, by rwa [Nat.sub_add_cancel h1]⟩,
   fun ⟨u, h⟩ => ⟨_, Nat.succ_pos _, u.isLt, h⟩⟩

theorem forall_lt_range_iff_fin {m : Nat} {p : Nat → Nat → Prop} :
    (∀ a b, 1 ≤ a → a < b → b ≤ m → p a b) ↔ ∀ a b : Fin m, a.val < b.val → p (a.val + 1) (b.val + 1) :=
  ⟨fun h a b hab => h _ _ (Nat.succ_pos _) (Nat.succ_lt_succ hab) b.isLt,
   fun h a b h1 hab h2 => by
    have := h ⟨a - 1, by omega⟩ ⟨b - 1, by omega⟩ (by simp only []; omega)
    rwa [Nat.sub_add_cancel h1, Nat.sub_add_cancel (by omega)] at this⟩

/-! ### assignments and objects in one-to-one correspondence

`toObj` / `ofObj` are inverse to each other and `P` (on assignments) says what `Q` says of the described object:
then the `P`-assignments and the `Q`-objects correspond one to one, in the two packagings the families use. -/

section
variable {A O : Type} {toObj : A → O} {ofObj : O → A} {P : A → Prop} {Q : O → Prop}

theorem bijection_of_inverse (l : ∀ a, ofObj (toObj a) = a) (r : ∀ T, toObj (ofObj T) = T)
    (h : ∀ a, P a ↔ Q (toObj a)) :
    (∀ a, P a → Q (toObj a)) ∧ (∀ T, Q T → P (ofObj T)) ∧ (∀ a, ofObj (toObj a) = a) ∧
      (∀ T, toObj (ofObj T) = T) :=
  ⟨fun a => (h a).1, fun T hT => (h _).2 ((r T).symm ▸ hT), l, r⟩

theorem existsUnique_of_inverse (l : ∀ a, ofObj (toObj a) = a) (r : ∀ T, toObj (ofObj T) = T)
    (h : ∀ a, P a ↔ Q (toObj a)) :
    (∀ a, P a → ∃! T, Q T ∧ ofObj T = a) ∧ (∀ T, Q T → ∃! a, P a ∧ toObj a = T) :=
  ⟨fun a ha => ⟨toObj a, ⟨(h a).1 ha, l a⟩, fun T hT => hT.2 ▸ (r T).symm⟩,
   fun T hT => ⟨ofObj T, ⟨(h _).2 ((r T).symm ▸ hT), r T⟩, fun a ha => ha.2 ▸ (l a).symm⟩⟩

end

end Cnfgen.Fam
