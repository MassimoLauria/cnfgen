/-
C19: what the primitive writes do to the layout, hence to the deep snapshot, of a formula object; `SimBy` / `Sim` — a heap
computation against a pure one on the snapshot — with sequencing; `add_clause` against the pure `CNF.addClause` (Core/Sem).
-/
import Lemmas.HeapMut
namespace Cnfgen
namespace Heap
local notation "Addr" => Nat

theorem readIntsAll_append {s : Store} : ∀ {as bs : List Addr} {cs ds : List (List Int)},
    readIntsAll s as = some cs → readIntsAll s bs = some ds → readIntsAll s (as ++ bs) = some (cs ++ ds)
  | [], _, cs, _, h1, h2 => by simp [readIntsAll] at h1; subst h1; simpa using h2
  | a :: as, bs, cs, ds, h1, h2 => by
    unfold readIntsAll at h1
    split at h1
    · rename_i x xs e1 e2
      cases h1
      have := readIntsAll_append (as := as) (bs := bs) e2 h2
      simp [readIntsAll, e1, this]
    · cases h1

theorem readIntsAll_write {s : Store} {as : List Addr} {cs : List (List Int)} {a : Nat} {c0 c : Cell}
    (h : readIntsAll s as = some cs) (h0 : s[a]? = some c0) (hn : ∀ xs, c0 ≠ .ints xs) :
    readIntsAll (write s a c) as = some cs := by
  rw [readIntsAll_congr (s := s) (s' := write s a c)]
  · exact h
  · intro b hb
    obtain ⟨ys, hy⟩ := readIntsAll_typed h b hb
    have : a ≠ b := by rintro rfl; rw [h0] at hy; cases hy; exact hn _ rfl
    exact get_write_ne this

theorem readIntsAll_alloc {s : Store} {as : List Addr} {cs : List (List Int)} (c : Cell)
    (h : readIntsAll s as = some cs) : readIntsAll (alloc s c).1 as = some cs := by
  rw [readIntsAll_congr (s := s) (s' := (alloc s c).1)]
  · exact h
  · intro b hb
    exact get_alloc_lt (readIntsAll_inbounds h b hb)

theorem get_write_other {s : Store} {w a : Nat} {c0 ca : Cell} (c : Cell) (h0 : s[w]? = some c0) (ha : s[a]? = some ca)
    (h : c0 ≠ ca) : (write s w c)[a]? = some ca := by
  rw [get_write_ne (ne_of_cells h0 ha h)]; exact ha

/-- `self._numvar = n` -/
theorem snap_write_numvar {s : Store} {x : Nat} {R : Snap} {cl hd gr : Nat} {as : List Addr}
    (L : Layout s x R cl hd gr as) (n : Nat) :
    Layout (write s x (.cnf cl hd gr n)) x { R with numvar := n } cl hd gr as :=
  ⟨get_write_eq (lt_size_of_getElem? L.hx), get_write_other _ L.hx L.hcl nofun, get_write_other _ L.hx L.hhd nofun,
    get_write_other _ L.hx L.hgr nofun, readIntsAll_write L.hcs L.hx nofun⟩

/-- `self.header[...] = …` (any new content of the dictionary) -/
theorem snap_write_header {s : Store} {x : Nat} {R : Snap} {cl hd gr : Nat} {as : List Addr}
    (L : Layout s x R cl hd gr as) (es : Hdr) :
    Layout (write s hd (.dict es)) x { R with header := es } cl hd gr as :=
  ⟨get_write_other _ L.hhd L.hx nofun, get_write_other _ L.hhd L.hcl nofun, get_write_eq (lt_size_of_getElem? L.hhd),
    get_write_other _ L.hhd L.hgr nofun, readIntsAll_write L.hcs L.hhd nofun⟩

/-- `self._groups.append(vg)` -/
theorem snap_write_groups {s : Store} {x : Nat} {R : Snap} {cl hd gr : Nat} {as : List Addr}
    (L : Layout s x R cl hd gr as) (gs : List Vars.Group) :
    Layout (write s gr (.groups gs)) x { R with groups := gs } cl hd gr as :=
  ⟨get_write_other _ L.hgr L.hx nofun, get_write_other _ L.hgr L.hcl nofun, get_write_other _ L.hgr L.hhd nofun,
    get_write_eq (lt_size_of_getElem? L.hgr), readIntsAll_write L.hcs L.hgr nofun⟩

/-- `self.header = d` -/
theorem layout_rebind {s : Store} {x : Nat} {R : Snap} {cl hd gr : Nat} {as : List Addr}
    (L : Layout s x R cl hd gr as) {d : Nat} {es : Hdr} (hd' : s[d]? = some (.dict es)) :
    Layout (write s x (.cnf cl d gr R.numvar)) x { R with header := es } cl d gr as :=
  ⟨get_write_eq (lt_size_of_getElem? L.hx), get_write_other _ L.hx L.hcl nofun, get_write_other _ L.hx hd' nofun,
    get_write_other _ L.hx L.hgr nofun, readIntsAll_write L.hcs L.hx nofun⟩

theorem layout_alloc {s : Store} {x : Nat} {R : Snap} {cl hd gr : Nat} {as : List Addr}
    (L : Layout s x R cl hd gr as) (c : Cell) : Layout (alloc s c).1 x R cl hd gr as :=
  ⟨by rw [get_alloc_lt (lt_size_of_getElem? L.hx)]; exact L.hx,
   by rw [get_alloc_lt (lt_size_of_getElem? L.hcl)]; exact L.hcl,
   by rw [get_alloc_lt (lt_size_of_getElem? L.hhd)]; exact L.hhd,
   by rw [get_alloc_lt (lt_size_of_getElem? L.hgr)]; exact L.hgr,
   readIntsAll_alloc c L.hcs⟩

theorem appendRef_eq {s : Store} {l x : Nat} {as : List Addr} (h : s[l]? = some (.refs as)) :
    appendRef s l x = write s l (.refs (as ++ [x])) := by
  simp [appendRef, h]

/-- `self._clauses.append(data)` for a list `data` just allocated -/
theorem layout_append {s : Store} {x : Nat} {R : Snap} {cl hd gr : Nat} {as : List Addr}
    (L : Layout s x R cl hd gr as) (d : Nat) (xs : List Int) (hd' : s[d]? = some (.ints xs)) :
    Layout (appendRef s cl d) x { R with clauses := R.clauses ++ [xs] } cl hd gr (as ++ [d]) := by
  rw [appendRef_eq L.hcl]
  refine ⟨get_write_other _ L.hcl L.hx nofun, get_write_eq (lt_size_of_getElem? L.hcl), get_write_other _ L.hcl L.hhd nofun,
    get_write_other _ L.hcl L.hgr nofun, ?_⟩
  apply readIntsAll_append (readIntsAll_write L.hcs L.hcl nofun)
  simp [readIntsAll, readInts, get_write_other _ L.hcl hd' nofun]

def Snap.withCNF (R : Snap) (G : CNF) : Snap := { R with numvar := G.nvars, clauses := G.clauses }

/-- the heap computation `p` on the formula at `x` against a pure computation `A` of which `obs` is the snapshot: same
outcome, and on success the snapshot of `x` is the pure result -/
def SimBy (x : Nat) (obs : CNF → Snap) (p : Store × Except Err Unit) (A : Except Err CNF) : Prop :=
  match A with
  | .ok G => p.2 = .ok () ∧ snap p.1 x = some (obs G)
  | .error e => p.2 = .error e

/-- sequencing — the shape every loop of the heap model and of the pure models has.  Monomorphic on purpose: the matchers of
the model's loops unify with the ones written here by unfolding, those of a polymorphic lemma do not. -/
theorem SimBy.bind {x : Nat} {obs obs' : CNF → Snap} {p : Store × Except Err Unit}
    {A : Except Err CNF} {k : Store → Store × Except Err Unit} {K : CNF → Except Err CNF}
    (h : SimBy x obs p A) (hk : ∀ G, snap p.1 x = some (obs G) → SimBy x obs' (k p.1) (K G)) :
    SimBy x obs' (match (generalizing := false) p with | (s1, .error e) => (s1, .error e) | (s1, .ok _) => k s1)
      (match (generalizing := false) A with | .error e => .error e | .ok G => K G) := by
  obtain ⟨s1, r⟩ := p
  cases A with
  | error e => have h : r = .error e := h; subst h; exact rfl
  | ok G => obtain ⟨e1, e2⟩ := h; have e1 : r = .ok () := e1; subst e1; exact hk G e2

/-- the same for a pure computation on snapshots -/
def Sim (x : Nat) (p : Store × Except Err Unit) (X : Except Err Snap) : Prop :=
  match X with
  | .ok R' => p.2 = .ok () ∧ snap p.1 x = some R'
  | .error e => p.2 = .error e

theorem Sim.bind {x : Nat} {p : Store × Except Err Unit} {X : Except Err Snap}
    {k : Store → Store × Except Err Unit} {K : Snap → Except Err Snap}
    (h : Sim x p X) (hk : ∀ R', snap p.1 x = some R' → Sim x (k p.1) (K R')) :
    Sim x (match (generalizing := false) p with | (s1, .error e) => (s1, .error e) | (s1, .ok _) => k s1)
      (match (generalizing := false) X with | .error e => .error e | .ok R' => K R') := by
  obtain ⟨s1, r⟩ := p
  cases X with
  | error e => have h : r = .error e := h; subst h; exact rfl
  | ok R' => obtain ⟨e1, e2⟩ := h; have e1 : r = .ok () := e1; subst e1; exact hk R' e2

theorem snap_addClauseVals {s : Store} {x : Nat} {R : Snap} (h : snap s x = some R) (xs : List Int) (check : Bool) :
    SimBy x R.withCNF (addClauseVals s x xs check) (R.cnf.addClause xs check) := by
  obtain ⟨cl, hd, gr, as, L⟩ := snap_iff.mp h
  have L1 := layout_alloc L (.ints xs)
  have hd1 : (alloc s (.ints xs)).1[s.size]? = some (.ints xs) := get_alloc_eq
  unfold SimBy addClauseVals CNF.addClause
  simp only [readCNF, L.hx, Snap.cnf, alloc]
  by_cases he : xs.isEmpty = true
  · have hx0 : xs = [] := by simpa using he
    subst hx0
    simp only [List.isEmpty_nil, if_true]
    exact ⟨trivial, (layout_append L1 s.size [] hd1).snap⟩
  · simp only [he]
    cases check with
    | false => exact ⟨rfl, (layout_append L1 s.size xs hd1).snap⟩
    | true =>
      simp only [if_true]
      cases hc : checkLits R.numvar xs with
      | error e => exact rfl
      | ok nv' =>
        simp only []
        refine ⟨rfl, ?_⟩
        have L2 := snap_write_numvar L1 nv'
        have hd2 : (write (alloc s (.ints xs)).1 x (.cnf cl hd gr nv'))[s.size]? = some (.ints xs) := by
          rw [get_write_ne (by have := lt_size_of_getElem? L.hx; omega)]; exact hd1
        exact (layout_append L2 s.size xs hd2).snap

theorem snap_addAllVals_true {x : Nat} : ∀ (cs : List (List Int)) (s : Store) (R : Snap), snap s x = some R →
    SimBy x R.withCNF (addAllVals s x true cs) (Subst.addAll R.cnf cs)
  | [], _, _, h => ⟨rfl, h⟩
  | c :: cs, _, R, h => SimBy.bind (k := fun s1 => addAllVals s1 x true cs) (K := fun G => Subst.addAll G cs)
      (snap_addClauseVals h c true) (fun G h' => snap_addAllVals_true cs _ (R.withCNF G) h')

theorem snap_addAllVals_false {x : Nat} : ∀ (cs : List (List Int)) (s : Store) (R : Snap), snap s x = some R →
    (addAllVals s x false cs).2 = .ok () ∧
      snap (addAllVals s x false cs).1 x = some { R with clauses := R.clauses ++ cs }
  | [], s, R, h => by simpa [addAllVals] using h
  | c :: cs, s, R, h => by
    have h1 := snap_addClauseVals h c false
    have hp : R.cnf.addClause c false = .ok ⟨R.numvar, R.clauses ++ [c]⟩ := by
      unfold CNF.addClause Snap.cnf
      by_cases he : c.isEmpty = true
      · have : c = [] := by simpa using he
        subst this; simp
      · simp [he]
    simp only [SimBy, hp] at h1
    unfold addAllVals
    rcases hq : addClauseVals s x c false with ⟨s1, r⟩
    rw [hq] at h1
    obtain ⟨e1, e2⟩ := h1
    simp only [] at e1 e2
    subst e1
    have ih := snap_addAllVals_false cs s1 _ e2
    simpa [List.append_assoc, Snap.withCNF] using ih

end Heap
end Cnfgen
