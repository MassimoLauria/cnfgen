/-
For the translated family generators that use a two-dimensional block (`new_block(N, C)`): the row projection
`X(i, None)` through the translated `__call__`; and `positive_int` / `positive_int_seq` of localtypes.py.
-/
import Lemmas.GenFamRphp
import Props.C11.GeneratedCall
set_option linter.unusedSimpArgs false
namespace Cnfgen.GenFam
open Cnfgen Cnfgen.Vars Cnfgen.PyGen Cnfgen.GenVars Cnfgen.PyF Cnfgen.C11

theorem block_call_row2 (nv N C i : Nat) (hi : 1 ≤ i ∧ i ≤ N) :
    BlockOfVariables.call (blockSelf nv [N, C]) [some (i : Int), none] =
      Except.ok (Sum.inr ((rangeN 1 (C + 1)).map (fun c => ((blockId (nv + 1) [N, C] [i, c] : Nat) : Int)))) := by
  rw [gen_block_call_eq_model]
  have hi' : (1 : Int) ≤ (i : Int) ∧ (i : Int) ≤ (N : Int) := by omega
  -- the model evaluates: `[some i, none]` is a projection, its indices are `product [[i], 1..C]`, each sent to its identifier;
  -- what is left for the induction is to push the two `map`s through the second column
  simp [Group.baseCall, Group.indices, blockIndices, isProjection, hi', product, resSum, Group.unsafeId, ints,
    bind, Except.bind, pure, Except.pure, List.mapM_cons, List.mapM_nil, Function.comp_def]
  generalize rangeN 1 (C + 1) = l
  induction l with
  | nil => rfl
  | cons a l ih => simp [ih]

theorem gen_positive_int_eq (v : Int) (name : String) :
    positive_int v name = if v < 1 then Except.error Err.valueError else Except.ok () := by
  simp [positive_int]

theorem positive_seq_loop (l : List Int) :
    List.foldlM (fun (_ : Unit) (v : Int) => if v < 1 then Except.error Err.valueError else Except.ok ()) () l =
      if l.any (· < 1) = true then Except.error Err.valueError else Except.ok () := by
  induction l with
  | nil => rfl
  | cons a l ih =>
    rw [List.foldlM_cons]
    by_cases h : a < 1
    · simp [h, bind, Except.bind]
    · simp only [h, if_false, Py.ok_bind, ih, List.any_cons, decide_false, Bool.false_or]

theorem gen_positive_int_seq_eq (v : List Int) (name : String) :
    positive_int_seq v name = if v.any (· < 1) = true then Except.error Err.valueError else Except.ok () := by
  unfold positive_int_seq
  rw [Py.foldlM_ext _ (fun (_ : Unit) (v : Int) => if v < 1 then Except.error Err.valueError else Except.ok ())
    (by intro s a; rfl), positive_seq_loop]
  by_cases h : v.any (· < 1) = true <;> simp [h]

end Cnfgen.GenFam
