/-
Lemmas about `Cnfgen.Cli.dispatchTemplate` (CnfgenModel/Cli/Dispatch.lean): a flag put in front of a command
line adds one binding and changes nothing else.
-/
import Lemmas.DispatchTotal
namespace Cnfgen.Cli
open Cnfgen.Gen

theorem dflag_segments_cons (s : CliSpec) (f : String) (o : OptSpec) (argv : List String)
    (hres : optOf s f = some o) :
    segments s (f :: argv) =
      match segments s argv with
      | .error e => .error e
      | .ok (c, segs) => .ok ([], (o, c) :: segs) := by
  simp only [segments, classify, hres]
  cases segments s argv with
  | error e => rfl
  | ok p => rfl

theorem dflag_all_congr {α : Type} (l : List α) (p q : α → Bool) (h : ∀ x ∈ l, p x = q x) :
    l.all p = l.all q := by
  induction l with
  | nil => rfl
  | cons a rest ih =>
    simp only [List.all_cons]
    rw [h a (List.mem_cons_self ..), ih (fun x hx => h x (List.mem_cons_of_mem _ hx))]

/-- under `specWF` no flag stores under the dest of a required optional: a flag's binding does not make it given -/
theorem dflag_required_any (s : CliSpec) (o o' : OptSpec) (b : Ns) (hwf : specWF s = true) (ho : o ∈ s.opts)
    (hfl : isFlag o = true) (ho' : o' ∈ s.opts) (hr : o'.required = true) (hp : o'.positional = false) :
    (b ++ [(o.dest, o.flagVal)]).any (fun p => p.1 == o'.dest) = b.any (fun p => p.1 == o'.dest) := by
  unfold specWF at hwf
  simp only [Bool.and_eq_true] at hwf
  have h3 := List.all_eq_true.1 hwf.1.2 o' ho'
  simp only [hr, Bool.not_true, Bool.false_or, hp, Bool.and_eq_true, Bool.not_eq_true'] at h3
  have hk : (o.dest == o'.dest) = false := by simpa using List.all_eq_true.1 h3.2 o (List.mem_filter.2 ⟨ho, hfl⟩)
  simp [List.any_append, hk]

theorem dflag_requiredSeen (s : CliSpec) (o : OptSpec) (b : Ns) (hwf : specWF s = true) (ho : o ∈ s.opts)
    (hfl : isFlag o = true) :
    requiredSeen s (b ++ [(o.dest, o.flagVal)]) = requiredSeen s b := by
  unfold requiredSeen
  apply dflag_all_congr
  intro o' ho'
  by_cases hp : o'.positional = true
  · simp [hp]
  · by_cases hr : o'.required = true
    · rw [dflag_required_any s o o' b hwf ho hfl ho' hr (by simpa using hp)]
    · simp [hr]

theorem dflag_noRival (s : CliSpec) (o : OptSpec) (argv : List String) (hnr : noRival s o argv = true)
    (t : String) (ht : t ∈ argv) (o' : OptSpec) (ho' : optOf s t = some o') :
    o.group = "" ∨ o'.group ≠ o.group ∨ o' = o := by
  unfold noRival at hnr
  simp only [Bool.or_eq_true, beq_iff_eq, List.all_eq_true] at hnr
  rcases hnr with h | h
  · exact Or.inl h
  · have := h t ht
    rw [ho'] at this
    simp only [Bool.or_eq_true, bne_iff_ne, ne_eq, beq_iff_eq] at this
    exact Or.inr this

theorem dflag_mutexOK_cons (o : OptSpec) (c0 : List String) (segs : List (OptSpec × List String))
    (h : ∀ p ∈ segs, o.group = "" ∨ p.1.group ≠ o.group ∨ p.1 = o) :
    mutexOK ((o, c0) :: segs) = mutexOK segs := by
  rw [Bool.eq_iff_iff]
  simp only [mutexOK, List.all_cons, List.all_eq_true, Bool.and_eq_true, Bool.or_eq_true, beq_iff_eq,
    bne_iff_ne, ne_eq]
  constructor
  · intro hh p hp q hq
    exact (hh.2 p hp).2 q hq
  · intro hh
    refine ⟨⟨?_, ?_⟩, ?_⟩
    · exact Or.inr trivial
    · intro q hq
      rcases h q hq with h1 | h1 | h1
      · exact Or.inl (Or.inl h1)
      · exact Or.inl (Or.inr (fun e => h1 e.symm))
      · exact Or.inr h1.symm
    · intro p hp
      refine ⟨?_, hh p hp⟩
      rcases h p hp with h1 | h1 | h1
      · by_cases hg : p.1.group = ""
        · exact Or.inl (Or.inl hg)
        · exact Or.inl (Or.inr (by rw [h1]; exact hg))
      · exact Or.inl (Or.inr h1)
      · exact Or.inr h1

theorem dflag_expand_append (s : CliSpec) (d : String) (v : Val) (hv : ∀ l, v ≠ .toks l) (b : Ns) :
    expand s (b ++ [(d, v)]) = (expand s b).map (fun b' => b' ++ [(d, v)]) := by
  induction b with
  | nil => simp [dtot_expand_cons_plain s d v [] hv, expand, Except.map]
  | cons p rest ih =>
    obtain ⟨d', v'⟩ := p
    by_cases hv' : ∃ l, v' = .toks l
    · obtain ⟨l, rfl⟩ := hv'
      simp only [List.cons_append, expand, ih]
      cases composeOpt s d' with
      | none => simp [Except.map]
      | some o' =>
        cases hcp : composeParse s o' l with
        | error e => simp [hcp, Except.map]
        | ok inner =>
          cases expand s rest with
          | error e => simp [hcp, Except.map]
          | ok more => simp [hcp, Except.map]
    · have hv'' : ∀ l, v' ≠ .toks l := fun l e => hv' ⟨l, e⟩
      rw [List.cons_append, dtot_expand_cons_plain s d' v' _ hv'', dtot_expand_cons_plain s d' v' _ hv'', ih]
      cases expand s rest with
      | error e => simp [Except.map]
      | ok more => simp [Except.map]

theorem dflag_parseRaw_flag_cons (s : CliSpec) (o : OptSpec) (f : String) (argv : List String)
    (hwf : specWF s = true) (hfl : isFlag o = true) (hres : optOf s f = some o)
    (hnr : noRival s o argv = true) :
    parseRaw s (f :: argv) = (parseRaw s argv).map (fun b => b ++ [(o.dest, o.flagVal)]) := by
  have hz : o.arity = .zero := by simpa [isFlag] using hfl
  have ho := (optOf_mem s f o hres).1
  unfold parseRaw
  rw [dflag_segments_cons s f o argv hres]
  cases hseg : segments s argv with
  | error e => simp [Except.map]
  | ok p =>
    obtain ⟨c0, segs⟩ := p
    have hmx : mutexOK ((o, c0) :: segs) = mutexOK segs := by
      apply dflag_mutexOK_cons
      intro p hp
      obtain ⟨t, ht, hopt⟩ := ((segments_ends s argv).ok hseg).2 p hp
      exact dflag_noRival s o argv hnr t ht p.1 hopt
    simp only [hmx]
    by_cases hm : mutexOK segs = true
    · simp only [hm, Bool.not_true, Bool.false_eq_true, if_false]
      simp only [consumePos, List.isEmpty_nil, List.isEmpty_cons, Bool.not_false, Bool.and_self, if_true,
        parseSegs, dflag_consumeOpt o hz]
      cases hcp : consumePos (positionals s) c0 segs.isEmpty with
      | error e => simp [consumePos] at hcp ⊢; simp [hcp, Except.map]
      | ok q =>
        obtain ⟨ps', bs⟩ := q
        simp only [consumePos] at hcp
        simp only [hcp]
        cases hps : parseSegs ps' segs with
        | error e => simp [Except.map]
        | ok more =>
          simp only [List.append_nil, List.append_assoc]
          have := dflag_requiredSeen s o (more ++ bs) hwf ho hfl
          simp only [List.append_assoc] at this
          rw [this]
          by_cases hr : requiredSeen s (more ++ bs) = true
          · simp [hr, Except.map]
          · simp [hr, Except.map]
    · simp [hm, Except.map]

theorem parseArgs_flag_cons (s : CliSpec) (o : OptSpec) (f : String) (argv : List String)
    (hwf : specWF s = true) (hfl : isFlag o = true) (hres : optOf s f = some o)
    (hnr : noRival s o argv = true) :
    parseArgs s (f :: argv) = (parseArgs s argv).map (fun b => b ++ [(o.dest, o.flagVal)]) := by
  unfold parseArgs
  rw [dflag_parseRaw_flag_cons s o f argv hwf hfl hres hnr]
  cases parseRaw s argv with
  | error e => simp [Except.map]
  | ok b =>
    simp only [Except.map]
    exact dflag_expand_append s o.dest o.flagVal (constLike_notoks (flagVal_constLike o)) b

theorem dflag_lookup_insert (k d : String) (v : Val) (b dflt : Ns) (hk : k ≠ d) :
    ((b ++ [(d, v)]) ++ dflt).lookup k = (b ++ dflt).lookup k := by
  rw [List.append_assoc, List.lookup_append, List.lookup_append (l₁ := b)]
  cases b.lookup k with
  | some x => rfl
  | none =>
    have : (k == d) = false := by simpa using hk
    simp [List.lookup, this]

theorem evalE_frame (ns ns' : Ns) (d : String) (h : ∀ k, k ≠ d → ns.lookup k = ns'.lookup k) (e : Expr)
    (hd : d ∉ e.deps) : evalE ns e = evalE ns' e := by
  replace h : ∀ k, d ≠ k → ns.lookup k = ns'.lookup k := fun k hk => h k (Ne.symm hk)
  induction e <;> simp only [Expr.deps, List.mem_cons, List.mem_append, not_or] at hd <;> simp [evalE, *]

theorem selectTemplate_frame (ns ns' : Ns) (d : String) (h : ∀ k, k ≠ d → ns.lookup k = ns'.lookup k)
    (ts : List CallTemplate) (hts : ∀ t ∈ ts, d ∉ t.guard.deps) :
    selectTemplate ns ts = selectTemplate ns' ts := by
  induction ts with
  | nil => rfl
  | cons t rest ih =>
    have ht := hts t (List.mem_cons_self ..)
    have hr := ih (fun t' ht' => hts t' (List.mem_cons_of_mem _ ht'))
    simp only [selectTemplate, evalGuard, evalE_frame ns ns' d h t.guard ht, hr]

theorem dflag_guardDeps (s : CliSpec) (d : String) (h : (guardDeps s).contains d = false) :
    ∀ t ∈ s.templates, d ∉ t.guard.deps := by
  intro t ht hd
  have : d ∈ guardDeps s := by
    unfold guardDeps
    exact List.mem_flatMap.2 ⟨t, ht, hd⟩
  have h' : (guardDeps s).contains d = true := by simpa using this
  rw [h] at h'
  exact Bool.noConfusion h'

theorem dflag_noninterference (s : CliSpec) (o : OptSpec) (f : String) (argv : List String)
    (hwf : specWF s = true) (hfl : isFlag o = true) (hres : optOf s f = some o)
    (hnr : noRival s o argv = true)
    (hng : (guardDeps s).contains o.dest = false) :
    match dispatchTemplate s argv with
    | .error e => dispatchTemplate s (f :: argv) = .error e
    | .ok (t, ns) =>
      ∃ ns', dispatchTemplate s (f :: argv) = .ok (t, ns') ∧
        ∀ e : Expr, o.dest ∉ e.deps → evalE ns' e = evalE ns e := by
  unfold dispatchTemplate
  by_cases hsup : s.supported = true
  · simp only [hsup, Bool.not_true, Bool.false_eq_true, if_false]
    rw [parseArgs_flag_cons s o f argv hwf hfl hres hnr]
    cases hp : parseArgs s argv with
    | error e => simp [Except.map]
    | ok b =>
      simp only [Except.map, namespaceOf]
      have hag : ∀ k, k ≠ o.dest →
          ((b ++ [(o.dest, o.flagVal)]) ++ defaults s).lookup k = (b ++ defaults s).lookup k :=
        fun k hk => dflag_lookup_insert k o.dest o.flagVal b (defaults s) hk
      rw [selectTemplate_frame _ _ o.dest hag s.templates (dflag_guardDeps s o.dest hng)]
      cases hsel : selectTemplate (b ++ defaults s) s.templates with
      | error e => simp
      | ok t =>
        refine ⟨_, rfl, ?_⟩
        intro e he
        exact evalE_frame _ _ o.dest hag e he
  · simp [hsup]

/-- also for a flag that guards test: no hypothesis on `guardDeps` -/
theorem flag_namespace_frame (s : CliSpec) (o : OptSpec) (f : String) (argv : List String)
    (hwf : specWF s = true) (hfl : isFlag o = true) (hres : optOf s f = some o)
    (hnr : noRival s o argv = true)
    (t t' : CallTemplate) (ns ns' : Ns)
    (h : dispatchTemplate s argv = .ok (t, ns)) (h' : dispatchTemplate s (f :: argv) = .ok (t', ns')) :
    ∀ e : Expr, o.dest ∉ e.deps → evalE ns' e = evalE ns e := by
  unfold dispatchTemplate at h h'
  by_cases hsup : s.supported = true
  · simp only [hsup, Bool.not_true, Bool.false_eq_true, if_false] at h h'
    rw [parseArgs_flag_cons s o f argv hwf hfl hres hnr] at h'
    cases hp : parseArgs s argv with
    | error e => simp [hp] at h
    | ok b =>
      simp only [hp, Except.map, namespaceOf] at h h'
      have hag : ∀ k, k ≠ o.dest →
          ((b ++ [(o.dest, o.flagVal)]) ++ defaults s).lookup k = (b ++ defaults s).lookup k :=
        fun k hk => dflag_lookup_insert k o.dest o.flagVal b (defaults s) hk
      split at h
      · exact absurd h (by simp)
      · split at h'
        · exact absurd h' (by simp)
        · simp only [Except.ok.injEq, Prod.mk.injEq] at h h'
          rw [← h.2, ← h'.2]
          intro e he
          exact evalE_frame _ _ o.dest hag e he
  · simp [hsup] at h

theorem flag_parse_verdict (s : CliSpec) (o : OptSpec) (f : String) (argv : List String)
    (hwf : specWF s = true) (hfl : isFlag o = true) (hres : optOf s f = some o)
    (hnr : noRival s o argv = true) (e : CliErr) :
    parseArgs s (f :: argv) = .error e ↔ parseArgs s argv = .error e := by
  rw [parseArgs_flag_cons s o f argv hwf hfl hres hnr]
  cases parseArgs s argv <;> simp [Except.map]

theorem dflag_zero_nonpositional (o : OptSpec) (h : isFlag o = true) : o.positional = false := by
  have hz : o.arity = .zero := by simpa [isFlag] using h
  exact dtot_arity_zero o hz

theorem callTemplates_of_dispatch (s : CliSpec) (argv : List String) (t : CallTemplate) (ns : Ns)
    (h : dispatchTemplate s argv = .ok (t, ns)) (hr : t.raises = "") (hfn : t.fn ≠ "") : t ∈ callTemplates s := by
  unfold callTemplates
  exact List.mem_filter.2 ⟨dispatchTemplate_mem s argv t ns h, by simp [hr, hfn]⟩

end Cnfgen.Cli
