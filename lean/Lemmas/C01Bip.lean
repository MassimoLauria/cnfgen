/-
Variable groups over the edges of a bipartite graph (`BipartiteEdgesVariables`): prefix-sum
form of the offsets, bounds and injectivity of the identifiers, meaning of the `force_*`
generators on a sparse mapping.
-/
import Lemmas.C01Map
import Lemmas.VarsOffsets
import Mathlib.Data.List.Basic
namespace Cnfgen.Fam
open Cnfgen

/-- number of edges leaving the left vertices `1..k` -/
def degSum (B : BipG) : Nat → Nat
  | 0 => 0
  | k + 1 => degSum B k + (B.rnbrs (k + 1)).length

theorem degSum_eq (B : BipG) (k : Nat) : degSum B k = Vars.degSum B k := by
  induction k with
  | zero => rfl
  | succ k ih => rw [degSum, ih, Vars.degSum_succ]

theorem degSum_mono (B : BipG) {a b : Nat} (h : a ≤ b) : degSum B a ≤ degSum B b := by
  rw [degSum_eq, degSum_eq]
  exact Vars.degSum_mono B h

theorem bipId_eq (B : BipG) (start u v : Nat) (h1 : 1 ≤ u) (h2 : u ≤ B.l) :
    Vars.bipId B start u v = start + degSum B (u - 1) + (B.rnbrs u).idxOf v := by
  rw [degSum_eq]
  exact Vars.bipId_eq B start ⟨h1, h2⟩ v

theorem bipId_ge (B : BipG) (start u v : Nat) (h1 : 1 ≤ u) (h2 : u ≤ B.l) :
    start ≤ Vars.bipId B start u v := by
  rw [bipId_eq B start u v h1 h2]; omega

/-- the rows occupy consecutive intervals of identifiers, so distinct entries of the tables get distinct identifiers
(whether or not a row lists a vertex twice) -/
theorem bipId_inj (B : BipG) (start : Nat) {u v u' v' : Nat} (h1 : 1 ≤ u) (h2 : u ≤ B.l)
    (hv : v ∈ B.rnbrs u) (h1' : 1 ≤ u') (h2' : u' ≤ B.l) (hv' : v' ∈ B.rnbrs u')
    (h : Vars.bipId B start u v = Vars.bipId B start u' v') : u = u' ∧ v = v' := by
  rw [Vars.bipId_eq B start ⟨h1, h2⟩, Vars.bipId_eq B start ⟨h1', h2'⟩] at h
  have i := List.idxOf_lt_length_iff.2 hv
  have i' := List.idxOf_lt_length_iff.2 hv'
  have s := Vars.degSum_pred B h1
  have s' := Vars.degSum_pred B h1'
  have huu : u = u' := by
    rcases Nat.lt_trichotomy u u' with hlt | heq | hgt
    · have := Vars.degSum_mono B (show u ≤ u' - 1 by omega); omega
    · exact heq
    · have := Vars.degSum_mono B (show u' ≤ u - 1 by omega); omega
  subst huu
  exact ⟨rfl, (List.idxOf_inj hv).1 (by omega)⟩

theorem mem_bip_edges (B : BipG) (u v : Nat) : (u, v) ∈ B.edges ↔ 1 ≤ u ∧ u ≤ B.l ∧ v ∈ B.rnbrs u := by
  simp only [BipG.edges, List.mem_flatMap, List.mem_range, List.mem_map, Prod.mk.injEq]
  constructor
  · rintro ⟨i, hi, w, hw, rfl, rfl⟩; exact ⟨by omega, by omega, hw⟩
  · rintro ⟨h1, h2, h3⟩
    exact ⟨u - 1, by omega, v, by rw [show u - 1 + 1 = u by omega]; exact h3, by omega, rfl⟩

/-- consistency of a bipartite graph object (an invariant of `BipartiteGraph.add_edge`) -/
structure GoodBip (B : BipG) : Prop where
  rnodup : ∀ u, (B.rnbrs u).Nodup
  lnodup : ∀ v, (B.lnbrs v).Nodup
  /-- the two adjacency tables describe the same edge set, within the vertex ranges -/
  adj : ∀ u v, (1 ≤ u ∧ u ≤ B.l ∧ v ∈ B.rnbrs u) ↔ (1 ≤ v ∧ v ≤ B.r ∧ u ∈ B.lnbrs v)
  /-- `number_of_edges()` counts the adjacency entries -/
  card : B.numberOfEdges = degSum B B.l

theorem GoodBip.ids {B : BipG} (hg : GoodBip B) (start : Nat) :
    B.edges.map (fun e => Vars.bipId B start e.1 e.2) = List.range' start B.numberOfEdges := by
  rw [hg.card, degSum_eq]
  exact Vars.bip_ids_of_nodup hg.rnodup start

namespace SMap

theorem var_pos (f : SMap) (hs : 0 < f.start) {u v : Nat} (h1 : 1 ≤ u) (h2 : u ≤ f.B.l) :
    0 < f.var u v := by
  have := bipId_ge f.B f.start u v h1 h2
  simp only [var]; omega

theorem count_row (f : SMap) (hs : 0 < f.start) (α : Assign) {u : Nat} (h1 : 1 ≤ u) (h2 : u ≤ f.B.l) :
    count α (f.row u) = (f.B.rnbrs u).countP (fun v => α (f.var u v)) := by
  have : f.row u = (f.B.rnbrs u).map (fun v => ((f.var u v : Nat) : Int)) := rfl
  rw [this, count_map_pos α _ _ (fun v _ => f.var_pos hs h1 h2)]

/-- the left neighbours listed for `v` are left vertices -/
def ColsInRange (B : BipG) : Prop := ∀ v u, u ∈ B.lnbrs v → 1 ≤ u ∧ u ≤ B.l

theorem GoodBip.cols {B : BipG} (h : GoodBip B) : ∀ v, 1 ≤ v → v ≤ B.r → ∀ u ∈ B.lnbrs v, 1 ≤ u ∧ u ≤ B.l := by
  intro v hv1 hv2 u hu
  have := (h.adj u v).2 ⟨hv1, hv2, hu⟩
  exact ⟨this.1, this.2.1⟩

theorem count_col (f : SMap) (hs : 0 < f.start) (α : Assign) {v : Nat}
    (hc : ∀ u ∈ f.B.lnbrs v, 1 ≤ u ∧ u ≤ f.B.l) :
    count α (f.col v) = (f.B.lnbrs v).countP (fun u => α (f.var u v)) := by
  have : f.col v = (f.B.lnbrs v).map (fun u => ((f.var u v : Nat) : Int)) := rfl
  rw [this, count_map_pos α _ _ (fun u hu => f.var_pos hs (hc u hu).1 (hc u hu).2)]

/-! the four `force_*_mapping` generators on a consistent graph object, in the words of `GPHPSpec` -/

theorem forceComplete_holds (f : SMap) (hs : 0 < f.start) (α : Assign) :
    f.forceComplete.all (Con.holds α) = true ↔
      ∀ u, 1 ≤ u → u ≤ f.B.l → ∃ v, v ∈ f.B.rnbrs u ∧ α (f.var u v) = true :=
  (rows_clause_holds α _ f.B.rnbrs f.var fun _ hu _ _ => f.var_pos hs (mem_idx.1 hu).1 (mem_idx.1 hu).2).trans
    (by simp only [mem_idx, and_imp])

theorem forceFunctional_holds (f : SMap) (hs : 0 < f.start) (hg : GoodBip f.B) (α : Assign) :
    f.forceFunctional.all (Con.holds α) = true ↔
      ∀ u, 1 ≤ u → u ≤ f.B.l → ∀ v ∈ f.B.rnbrs u, ∀ v' ∈ f.B.rnbrs u,
        α (f.var u v) = true → α (f.var u v') = true → v = v' :=
  (rows_atMostOne_holds α _ f.B.rnbrs f.var (fun _ hu _ _ => f.var_pos hs (mem_idx.1 hu).1 (mem_idx.1 hu).2)
    fun u _ => hg.rnodup u).trans (by simp only [mem_idx, and_imp])

theorem col_pos (f : SMap) (hs : 0 < f.start) (hg : GoodBip f.B) :
    ∀ v ∈ idx f.B.r, ∀ u ∈ f.B.lnbrs v, 0 < f.var u v := fun v hv u hu =>
  have := GoodBip.cols hg v (mem_idx.1 hv).1 (mem_idx.1 hv).2 u hu
  f.var_pos hs this.1 this.2

theorem forceSurjective_holds (f : SMap) (hs : 0 < f.start) (hg : GoodBip f.B) (α : Assign) :
    f.forceSurjective.all (Con.holds α) = true ↔
      ∀ v, 1 ≤ v → v ≤ f.B.r → ∃ u, u ∈ f.B.lnbrs v ∧ α (f.var u v) = true :=
  (rows_clause_holds α _ f.B.lnbrs (fun v u => f.var u v) (f.col_pos hs hg)).trans
    (by simp only [mem_idx, and_imp])

theorem forceInjective_holds (f : SMap) (hs : 0 < f.start) (hg : GoodBip f.B) (α : Assign) :
    f.forceInjective.all (Con.holds α) = true ↔
      ∀ v, 1 ≤ v → v ≤ f.B.r → ∀ u ∈ f.B.lnbrs v, ∀ u' ∈ f.B.lnbrs v,
        α (f.var u v) = true → α (f.var u' v) = true → u = u' :=
  (rows_atMostOne_holds α _ f.B.lnbrs (fun v u => f.var u v) (f.col_pos hs hg) fun v _ => hg.lnodup v).trans
    (by simp only [mem_idx, and_imp])

section
variable (f : SMap) (hs : 1 ≤ f.start) (hg : GoodBip f.B) {N : Nat} (hN : f.start + f.B.numberOfEdges ≤ N + 1)
include hs hg hN

theorem var_in {u v : Nat} (h1 : 1 ≤ u) (h2 : u ≤ f.B.l) (hv : v ∈ f.B.rnbrs u) :
    1 ≤ f.var u v ∧ f.var u v ≤ N := by
  have := Vars.ids_range (hg.ids f.start) ((mem_bip_edges _ u v).2 ⟨h1, h2, hv⟩)
  simp only [var] at this ⊢; omega

theorem row_in {u : Nat} (hu : u ∈ idx f.B.l) : LitsIn 1 N (f.row u) :=
  .map fun _ hv =>
    have m := f.var_in hs hg hN (mem_idx.1 hu).1 (mem_idx.1 hu).2 hv
    .pos m.1 m .nil

theorem col_in {v : Nat} (hv : v ∈ idx f.B.r) : LitsIn 1 N (f.col v) :=
  .map fun u hu =>
    have e := (hg.adj u v).2 ⟨(mem_idx.1 hv).1, (mem_idx.1 hv).2, hu⟩
    have m := f.var_in hs hg hN e.1 e.2.1 e.2.2
    .pos m.1 m .nil

theorem forceComplete_in : G2.ConsIn 1 N f.forceComplete := .map fun _ hu => f.row_in hs hg hN hu

theorem forceFunctional_in : G2.ConsIn 1 N f.forceFunctional := .map fun _ hu => f.row_in hs hg hN hu

theorem forceSurjective_in : G2.ConsIn 1 N f.forceSurjective := .map fun _ hv => f.col_in hs hg hN hv

theorem forceInjective_in : G2.ConsIn 1 N f.forceInjective := .map fun _ hv => f.col_in hs hg hN hv

end

/-- the assignment (on the identifiers of the group) that realises the edge labelling `R` -/
def assignOf (f : SMap) (R : Nat → Nat → Bool) : Assign :=
  fun x => f.B.edges.any (fun e => f.var e.1 e.2 == x && R e.1 e.2)

theorem assignOf_var (f : SMap) (R : Nat → Nat → Bool) {u v : Nat} (h1 : 1 ≤ u) (h2 : u ≤ f.B.l)
    (hv : v ∈ f.B.rnbrs u) : f.assignOf R (f.var u v) = R u v := by
  rw [Bool.eq_iff_iff]
  simp only [assignOf, List.any_eq_true, Bool.and_eq_true, beq_iff_eq]
  constructor
  · rintro ⟨⟨u', v'⟩, he, hvar, hR⟩
    rw [mem_bip_edges] at he
    obtain ⟨rfl, rfl⟩ := bipId_inj f.B f.start he.1 he.2.1 he.2.2 h1 h2 hv hvar
    exact hR
  · intro hR
    exact ⟨(u, v), (mem_bip_edges _ _ _).2 ⟨h1, h2, hv⟩, rfl, hR⟩

end SMap
end Cnfgen.Fam
