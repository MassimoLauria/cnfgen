/-
Lemmas for C15, command-line layer: which exception classes can leave `obtain_graph`.
No Mathlib.
-/
import Lemmas.GraphBuildRegular
import Lemmas.GraphBuildMods
import CnfgenModel.Cli.GraphSpecObtain
namespace Cnfgen
open GRand GCli

namespace GRand
theorem Only.foreign {α} {P : Err → Prop} : Only P (fun _ => (.foreign : Out α)) := by
  intro ds e h; simp at h
end GRand

namespace GCli

/-- every value the computation can return satisfies `Q` (the field `Run.returns`, as a predicate of
its own for the statements of Props/C15) -/
def Returns {α} (Q : α → Prop) (x : RM α) : Prop := ∀ ds a rest, x ds = .ok a rest → Q a

theorem Returns.foreign {α} {Q : α → Prop} : Returns Q (fun _ => (.foreign : Out α)) := by
  intro ds b rest hb; simp at hb

/-- the graph classes of a graph type (`CompleteBipartiteGraph` is a `BipartiteGraph`) -/
def kindOK : GType → CG → Prop
  | .simple, .simple _ => True
  | .dag, .dag _ => True
  | .bipartite, .bip _ => True
  | .bipartite, .cbip _ _ => True
  | _, _ => False

theorem argInt_run (a : Arg) : Run (fun _ => True) VE (argInt a) := by
  unfold argInt
  split
  · exact Run.pure trivial
  · exact Run.raise rfl

theorem guard_run (b : Bool) : Run (fun _ => b = true) VE (GCli.guard b) := by
  unfold GCli.guard; split
  · exact Run.pure ‹_›
  · exact Run.raise rfl

theorem ext_run (e : Option CG) : Run (fun g => e = some g) VE (ext e) := by
  unfold ext
  cases e with
  | none => exact Run.stuck
  | some g => exact Run.pure rfl

theorem argInts_run (as : List Arg) : Run (fun _ => True) VE (argInts as) := by
  induction as with
  | nil => exact Run.pure trivial
  | cons a as ih =>
    simp only [argInts]
    exact (argInt_run a).bind fun _ _ => ih.bind fun _ _ => Run.pure trivial

theorem valueError_run {α} {Q : α → Prop} : Run Q VE (valueError : RM α) := Run.raise rfl

/-- a closed form refuses its argument with `ValueError` or makes its `add_edge` calls -/
theorem ite_error {α} {c : Prop} [Decidable c] {x : Except Err α} {e : Err} (hx : x = .error e → e = .valueError)
    (h : (if c then .error .valueError else x) = .error e) : e = .valueError := by
  split at h
  · exact (Except.error.inj h).symm
  · exact hx h

theorem shift_error (N M : Int) (p : List Int) (e : Err) : GBuild.shift N M p = .error e → e = .valueError :=
  ite_error fun he => by
    rw [bind_error] at he
    rcases he with he | ⟨G, _, he⟩
    · exact BipG.addEdgesFrom_error_gb he
    · cases he

theorem coinLoopS_run (lt : Nat → Bool) (ps : List (Nat × Nat)) (G : SimpleG) :
    Run (fun _ => True) VE (coinLoopS lt ps G) := by
  induction ps generalizing G with
  | nil => exact Run.pure trivial
  | cons p ps ih =>
    obtain ⟨u, v⟩ := p
    simp only [coinLoopS]
    refine (random_spec.mono (fun _ _ => trivial) fun _ h => h.elim).bind fun x _ => Run.ite ?_ (ih G)
    exact (Run.lift _ (fun _ _ => trivial) fun _ => SimpleG.addEdge_error).bind fun G1 _ => ih G1

/-- exceptions that `regular` may raise on the command line: `ValueError`, or `RecursionError`
when every attempt within the restart budget failed -/
abbrev VEorRec : Err → Prop := fun e => e = .valueError ∨ e = .recursion

/-- T-C15.4: `networkx.random_regular_graph`'s own refusal is never reached: what `obtain_gnd`
accepts satisfies its documented precondition (before the fix of D16 the guard was `n >= d` and
this failed for `N = d`) -/
theorem gnd_accepted_pre (n d : Int) (hg : gndGuard n d = true) (ho : gndOdd n d = false) :
    nxRegularPre d n = true := by
  simp only [gndGuard, gndOdd, nxRegularPre, Bool.and_eq_true, decide_eq_true_eq, beq_eq_false_iff_ne,
    beq_iff_eq, ne_eq] at *
  omega

/-- every construction, gone through once: it returns an object of the class of its graph type (third-party
results are assumed to be `Graph` objects: that is what `Graph.from_networkx` / `normalize` return), it raises
`ValueError` — `regular` also `RecursionError` —, and the refusal of `networkx.random_regular_graph` is never
reached (`gnd_accepted_pre`) -/
theorem construct_run (c : Cons) (args : List Arg) (e : Option CG) (fuel : Nat) :
    Run (fun g => (∀ g', e = some g' → kindOK .simple g') → kindOK c.gtype g)
      (fun err => err = .valueError ∨ (c = .regular ∧ err = .recursion)) (construct c args e fuel) := by
  have lift : ∀ {α} {Q : α → Prop} {x : RM α}, Run Q VE x →
      Run Q (fun err => err = .valueError ∨ (c = .regular ∧ err = .recursion)) x := fun h => h.ve (Or.inl rfl)
  have hext : Run (fun g => (∀ g', e = some g' → kindOK .simple g') → kindOK .simple g) VE (ext e) :=
    (ext_run e).mono (fun g hg he => he g hg) (fun _ h => h)
  -- a closed form, or a sampler of which only the exceptions matter, followed by `pure (.kind G)`
  have wrap : ∀ {α} {x : RM α} {k : α → CG} {t : GType}, Run (fun _ => True) VE x → (∀ a, kindOK t (k a)) →
      Run (fun g => (∀ g', e = some g' → kindOK .simple g') → kindOK t g) VE (x >>= fun a => pure (k a)) :=
    fun hx hk => hx.bind fun a _ => Run.pure fun _ => hk a
  have int2 : ∀ {α} {Q : α → Prop} (a b : Arg) (f : Int → Int → RM α), (∀ n m, Run Q VE (f n m)) →
      Run Q VE (argInt a >>= fun n => argInt b >>= fun m => f n m) :=
    fun a b f hf => (argInt_run a).bind fun n _ => (argInt_run b).bind fun m _ => hf n m
  cases c <;> simp only [construct, Cons.gtype]
  case regular =>
    unfold obtainRegular; split
    · have hp : (fun err => err = Err.valueError ∨ (True ∧ err = .recursion)) .valueError := Or.inl rfl
      exact ((argInt_run _).ve hp).bind fun _ _ => ((argInt_run _).ve hp).bind fun _ _ =>
        ((argInt_run _).ve hp).bind fun _ _ => ((guard_run _).ve hp).bind fun _ _ =>
        ((randomRegular_run _ _ _ _).mono (fun _ _ => trivial) fun _ h => h.elim (fun h => Or.inl h.1)
          fun h => Or.inr ⟨trivial, h.1⟩).bind fun _ _ => Run.pure fun _ => trivial
    · exact valueError_run.ve (Or.inl rfl)
  -- every other construction raises `ValueError` only
  all_goals apply lift
  case gnp =>
    unfold obtainGnp
    have hgo : ∀ a p t?, Run (fun g => (∀ g', e = some g' → kindOK .simple g') → kindOK .simple g) VE
        (obtainGnpGo e a p t?) := by
      intro a p t?
      unfold obtainGnpGo
      refine (argInt_run _).bind fun n _ => ?_
      split
      · split
        · exact (argInt_run _).bind fun _ _ => valueError_run
        · exact valueError_run
      · refine Run.bind (R := fun _ => True) ?_ fun t _ => (guard_run _).bind fun _ _ => Run.ite hext ?_
        · split
          · exact argInt_run _
          · exact Run.pure trivial
        · exact wrap (coinLoopS_run _ _ _) fun _ => trivial
    split
    · exact hgo _ _ _
    · exact hgo _ _ _
    · exact valueError_run
  case gnm =>
    unfold obtainGnm; split
    · exact int2 _ _ _ fun _ _ => (guard_run _).bind fun _ _ => hext
    · exact valueError_run
  case gnd =>
    unfold obtainGnd; split
    · refine int2 _ _ _ fun n d => (guard_run _).bind fun _ hg => ?_
      by_cases hodd : gndOdd n d = true
      · rw [if_pos hodd]; exact valueError_run
      · rw [if_neg hodd, gnd_accepted_pre n d hg (Bool.eq_false_iff.mpr hodd)]
        exact hext
    · exact valueError_run
  case grid | torus =>
    unfold obtainGridOrTorus
    exact (argInts_run _).bind fun _ _ => (guard_run _).bind fun _ _ => (guard_run _).bind fun _ _ =>
      Run.ite valueError_run hext
  case completeS =>
    unfold obtainCompleteSimple; split
    · exact (argInt_run _).bind fun _ _ => (guard_run _).bind fun _ _ =>
        wrap (Run.lift _ (fun _ _ => trivial) fun _ => ite_error SimpleG.addEdgesFrom_error_gb) fun _ => trivial
    · exact int2 _ _ _ fun _ _ => (guard_run _).bind fun _ _ => hext
    · exact valueError_run
  case emptyS =>
    unfold obtainEmptySimple; split
    · exact (argInt_run _).bind fun _ _ => (guard_run _).bind fun _ _ =>
        wrap (Run.lift _ (fun _ _ => trivial) fun _ => ite_error nofun) fun _ => trivial
    · exact valueError_run
  case path | tree | pyramid =>
    simp only [obtainPath.eq_def, obtainTree.eq_def, obtainPyramid.eq_def]; split
    · exact (argInt_run _).bind fun _ _ => (guard_run _).bind fun _ _ =>
        wrap (Run.lift _ (fun _ _ => trivial) fun _ => ite_error DiG.addEdgesFrom_error_gb) fun _ => trivial
    · exact valueError_run
  case glrp =>
    unfold obtainGlrp; split
    · refine int2 _ _ _ fun l r => ?_
      split
      · exact valueError_run
      · exact (guard_run _).bind fun _ _ => wrap
          ((bipRandom_run _ _ _ _).mono (fun _ _ => trivial) fun _ h => h.1) fun _ => trivial
    · exact valueError_run
  case glrm =>
    unfold obtainGlrm; split
    · exact int2 _ _ _ fun _ _ => (argInt_run _).bind fun _ _ => (guard_run _).bind fun _ _ => wrap
        ((randomMEdges_run _ _ _).mono (fun _ _ => trivial) fun _ h => h.1) fun _ => trivial
    · exact valueError_run
  case glrd =>
    unfold obtainGlrd; split
    · exact int2 _ _ _ fun _ _ => (argInt_run _).bind fun _ _ => (guard_run _).bind fun _ _ => wrap
        ((leftRegular_run _ _ _).mono (fun _ _ => trivial) fun _ h => h.1) fun _ => trivial
    · exact valueError_run
  case shift =>
    unfold obtainShift; split
    · exact int2 _ _ _ fun _ _ => (argInts_run _).bind fun _ _ => (guard_run _).bind fun _ _ =>
        wrap (Run.lift _ (fun _ _ => trivial) (shift_error _ _ _)) fun _ => trivial
    · exact valueError_run
  case completeB | emptyB =>
    simp only [obtainCompleteBip.eq_def, obtainEmptyBip.eq_def]; split
    · exact int2 _ _ _ fun _ _ => (guard_run _).bind fun _ _ => Run.pure fun _ => trivial
    · exact valueError_run

theorem addMissingCBip_run (l r : Nat) (m : Int) : Run (fun _ => True) VE (addMissingCBip l r m) := by
  unfold addMissingCBip
  exact Run.ite (Run.raise rfl) (Run.ite (Run.raise rfl) (Run.pure trivial))

theorem plantBicliqueCBip_run (l r : Nat) (a b : Int) : Run (fun _ => True) VE (plantBicliqueCBip l r a b) := by
  unfold plantBicliqueCBip
  have hs := fun pop k => (sample_spec pop k).mono (fun _ _ => trivial) fun _ h => h.1
  exact Run.ite (Run.raise rfl) ((hs _ _).bind fun _ _ => (hs _ _).bind fun _ _ => Run.pure trivial)

/-- a modification returns an object of the class it was given (the branches `obtain_graph` never takes are `stuck`) -/
theorem modifyPlantclique_run (opt : List Arg) (G : CG) (t : GType) :
    Run (fun G' => kindOK t G → kindOK t G') VE (modifyPlantclique opt G) := by
  unfold modifyPlantclique; split
  · refine (argInt_run _).bind fun k _ => (guard_run _).bind fun _ _ => ?_
    split
    · exact (plantClique_run _ _).bind fun _ _ =>
        Run.pure fun hk => by cases t <;> exact hk
    · exact Run.stuck
  · exact valueError_run

theorem modifyPlantbiclique_run (opt : List Arg) (G : CG) (t : GType) :
    Run (fun G' => kindOK t G → kindOK t G') VE (modifyPlantbiclique opt G) := by
  unfold modifyPlantbiclique; split
  · refine (argInt_run _).bind fun a _ => (argInt_run _).bind fun b _ => (guard_run _).bind fun _ _ => ?_
    split
    · exact (plantBiclique_run _ _ _).bind fun _ _ =>
        Run.pure fun hk => by cases t <;> exact hk
    · exact (plantBicliqueCBip_run _ _ _ _).bind fun _ _ => Run.pure fun hk => hk
    · exact Run.stuck
  · exact valueError_run

theorem modifyAddedges_run (opt : List Arg) (G : CG) (t : GType) :
    Run (fun G' => kindOK t G → kindOK t G') VE (modifyAddedges opt G) := by
  unfold modifyAddedges; split
  · refine (argInt_run _).bind fun k _ => (guard_run _).bind fun _ _ => ?_
    split
    · exact (addMissingSimple_run _ _).bind fun _ _ =>
        Run.pure fun hk => by cases t <;> exact hk
    · exact (addMissingBip_run _ _).bind fun _ _ =>
        Run.pure fun hk => by cases t <;> exact hk
    · exact (addMissingCBip_run _ _ _).bind fun _ _ => Run.pure fun hk => hk
    · exact Run.stuck
  · exact valueError_run

/-- `splitedges`: `ValueError`, or the `TypeError` of `split_random_edges` for a graph that is not
a `Graph` (the parser offers the option for simple graphs only) -/
theorem modifySplitedges_run (opt : List Arg) (G : CG) :
    Run (fun _ => True) (fun e => e = .valueError ∨ (e = .typeError ∧ ∀ S, G ≠ .simple S))
      (modifySplitedges opt G) := by
  unfold modifySplitedges; split
  · refine ((argInt_run _).ve (Or.inl rfl)).bind fun k _ => ((guard_run _).ve (Or.inl rfl)).bind fun _ _ => ?_
    split
    · exact ((splitEdges_run _ _).ve (Or.inl rfl)).bind fun _ _ =>
        Run.pure trivial
    · rename_i hns
      exact Run.raise (Or.inr ⟨rfl, fun S hS => hns S hS⟩)
  · exact valueError_run.ve (Or.inl rfl)

theorem applyOpt_run {Q : CG → Prop} {P : Err → Prop} (o : Option (List Arg)) (f : List Arg → CG → RM CG) (G : CG)
    (hf : ∀ a, Run Q P (f a G)) (hG : Q G) : Run Q P (applyOpt o f G) := by
  unfold applyOpt; split
  · exact hf _
  · exact Run.pure hG

theorem finish_run (gt : GType) (p : Parsed) (G0 : CG) :
    Run (fun R => (p.save = none ∧ R.2 = none) ∨ (p.save = some true ∧ R.2 = some R.1))
      (fun err => err = .valueError ∨ (err = .typeError ∧ p.splitedges.isSome ∧ (kindOK gt G0 → gt ≠ .simple)))
      (GSpec.finish gt p G0) := by
  unfold GSpec.finish
  refine Run.bind (R := fun G1 => kindOK gt G0 → kindOK gt G1) ?_ fun G1 h1 =>
    Run.bind (R := fun G2 => kindOK gt G0 → kindOK gt G2) ?_ fun G2 h2 =>
    Run.bind (R := fun _ => True) ?_ fun G3 _ => ?_
  · cases gt
    · exact (applyOpt_run _ _ _ (modifyPlantclique_run · G0 .simple) id).ve (Or.inl rfl)
    · exact Run.pure id
    · exact (applyOpt_run _ _ _ (modifyPlantbiclique_run · G0 .bipartite) id).ve (Or.inl rfl)
  · exact (applyOpt_run _ _ _ (modifyAddedges_run · G1 gt) id).mono (fun _ h k0 => h (h1 k0)) (fun _ he => Or.inl he)
  · cases hs : p.splitedges with
    | none => exact Run.pure trivial
    | some a =>
      refine (modifySplitedges_run a G2).mono (fun _ h => h) fun err he => he.imp_right fun ⟨h3, hns⟩ => ⟨h3, rfl, ?_⟩
      rintro k0 rfl
      have := h2 k0
      cases G2 with
      | simple S => exact hns S rfl
      | _ => exact this
  · split
    · exact Run.pure (Or.inl ⟨‹_›, rfl⟩)
    · exact Run.pure (Or.inr ⟨‹_›, rfl⟩)
    · exact valueError_run.ve (Or.inl rfl)

/-- the request comes out of `parse_graph_argument`: the construction belongs to the graph type,
`splitedges` is an option of simple graphs only, and a third-party generator returns a `Graph` -/
structure FromParser (gt : GType) (p : Parsed) (e : Option CG) : Prop where
  cons : p.cons.gtype = gt
  split : gt ≠ .simple → p.splitedges = none
  ext : ∀ g, e = some g → kindOK .simple g

/-- `obtain_graph`, gone through once: what it raises is `ValueError`, `RecursionError` — for `regular` only —,
or the `TypeError` of `splitedges`, which a request that comes out of the parser excludes; no third-party
exception escapes -/
theorem obtainGraph_run (gt : GType) (p : Parsed) (e : Option CG) (fuel : Nat) :
    Run (fun R => (p.save = none ∧ R.2 = none) ∨ (p.save = some true ∧ R.2 = some R.1))
      (fun err => err = .valueError ∨ (p.cons = .regular ∧ err = .recursion) ∨
        (err = .typeError ∧ p.splitedges.isSome ∧ ¬ FromParser gt p e))
      (obtainGraph gt p e fuel) := by
  show Run _ _ (construct p.cons p.args e fuel >>= GSpec.finish gt p)
  refine ((construct_run _ _ _ _).mono (fun _ h => h) fun err he => he.imp_right Or.inl).bind fun G0 h0 =>
    (finish_run gt p G0).mono (fun _ h => h) fun err he => he.imp_right fun ⟨h1, h2, h3⟩ => Or.inr ⟨h1, h2, fun hp => ?_⟩
  rw [hp.split (h3 (hp.cons ▸ h0 hp.ext))] at h2
  cases h2

/-- exception classes that can leave `obtain_graph` -/
def CleanExc (p : Parsed) (e : Err) : Prop :=
  e = .valueError ∨ (p.cons = .regular ∧ e = .recursion) ∨ (e = .typeError ∧ p.splitedges.isSome)

theorem obtainGraph_only (gt : GType) (p : Parsed) (e : Option CG) (fuel : Nat) :
    Only (CleanExc p) (obtainGraph gt p e fuel) :=
  (obtainGraph_run gt p e fuel).only.mono fun _ he => he.imp_right fun h => h.imp_right fun h => ⟨h.1, h.2.1⟩

theorem obtainGraph_noForeign (gt : GType) (p : Parsed) (e : Option CG) (fuel : Nat) :
    NoForeign (obtainGraph gt p e fuel) := (obtainGraph_run gt p e fuel).noForeign

theorem obtainGraph_only_parsed (gt : GType) (p : Parsed) (e : Option CG) (fuel : Nat)
    (hp : FromParser gt p e) :
    Only (fun err => err = .valueError ∨ (p.cons = .regular ∧ err = .recursion)) (obtainGraph gt p e fuel) :=
  (obtainGraph_run gt p e fuel).only.mono fun _ he =>
    he.imp_right fun h => h.elim id fun h => absurd hp h.2.2

/-- T-C15.3: the graph handed to `writeGraph` is the graph that is returned -/
theorem obtainGraph_save (gt : GType) (p : Parsed) (e : Option CG) (fuel : Nat) (ds rest : List Draw)
    (G : CG) (W : Option CG) (h : obtainGraph gt p e fuel ds = .ok (G, W) rest) :
    (p.save = none ∧ W = none) ∨ (p.save = some true ∧ W = some G) :=
  (obtainGraph_run gt p e fuel).returns ds (G, W) rest h

end GCli
end Cnfgen
