/-
Character level, OPB: lexing the text `to_opb_file` writes gives exactly the token rows
`renderOpb` / `renderOpbCNF` the token-level theorems of C12 speak about.
-/
import Lemmas.IOTextDimacs
import Lemmas.IOOpb
namespace Cnfgen.IO

/-- every number the OPB writer has to print for `G` has at most `maxStrDigits` digits.  `C12.PrintableOpb` leaves the
literals out; for a well-formed formula they are bounded by `nvars`: `opbPrintable_of_wf`. -/
def OpbPrintable (G : OPB) : Prop :=
  G.nvars < 10 ^ maxStrDigits ∧ G.constraints.length < 10 ^ maxStrDigits ∧
  ∀ c ∈ G.constraints, c.rhs.natAbs < 10 ^ maxStrDigits ∧
    ∀ t ∈ c.terms, t.1.natAbs < 10 ^ maxStrDigits ∧ t.2.natAbs < 10 ^ maxStrDigits

def opbSpecLine (n m : Nat) : Str :=
  join [' '] [['*'], "#variable=".toList, natStr n, "#constraint=".toList, natStr m]

theorem opbSpecText_eq (n m : Nat) : opbSpecText n m = opbSpecLine n m ++ ['\n'] := by
  have e1 : "* #variable= ".toList = ['*', ' '] ++ "#variable=".toList ++ [' '] := by lit_decide
  have e2 : " #constraint= ".toList = ' ' :: "#constraint=".toList ++ [' '] := by lit_decide
  unfold opbSpecText opbSpecLine
  rw [e1, e2]
  simp only [join, List.append_assoc, List.cons_append, List.nil_append]

theorem isTok_opbSpec (n m : Nat) :
    ∀ t ∈ [['*'], "#variable=".toList, natStr n, "#constraint=".toList, natStr m], IsTok t := by
  simp only [List.mem_cons, List.not_mem_nil, or_false]
  rintro t (rfl | rfl | rfl | rfl | rfl)
  · exact isTok_lit _ (by decide)
  · exact isTok_lit _ (by lit_decide)
  · exact isTok_natStr n
  · exact isTok_lit _ (by lit_decide)
  · exact isTok_natStr m

theorem opbSpecLine_noNL (n m : Nat) : NoNL (opbSpecLine n m) := noNL_join_toks _ (isTok_opbSpec n m)

theorem lexLine_opbSpecLine (n m : Nat) : lexLine (opbSpecLine n m) =
    [.word ['*'], .word "#variable=".toList, classify (natStr n), .word "#constraint=".toList, classify (natStr m)] := by
  have c1 : classify ['*'] = .word ['*'] := by decide
  have c2 : classify "#variable=".toList = .word "#variable=".toList := by lit_decide
  have c3 : classify "#constraint=".toList = .word "#constraint=".toList := by lit_decide
  rw [opbSpecLine, lexLine_join _ (isTok_opbSpec n m)]
  simp only [List.map_cons, List.map_nil, c1, c2, c3]

theorem lexLine_opbSpec (n m : Nat) (hn : n < 10 ^ maxStrDigits) (hm : m < 10 ^ maxStrDigits) :
    lexLine (opbSpecLine n m) = opbSpecRow n m := by
  rw [lexLine_opbSpecLine, classify_natStr n hn, classify_natStr m hm, opbSpecRow]

theorem lex_renderOpbText_lines (u : Bool) (G : OPB) (hdr : Option Header) (names : Option (List Str)) :
    lex u (renderOpbText G hdr names) =
      lexLine (opbSpecLine G.nvars G.constraints.length) ::
        (opbCommentRows u hdr names ++ lex u (G.constraints.flatMap opbConstraintText)) := by
  unfold renderOpbText
  rw [opbSpecText_eq]
  simp only [List.append_assoc, List.cons_append, List.nil_append]
  rw [lex_cons_line u _ _ (opbSpecLine_noNL _ _), lex_commentChunks (by decide) (by decide) u _ (opb_chunks hdr names)]
  rfl

theorem isTok_opbOp (o : Op) : IsTok (opbOpText o) := by
  unfold opbOpText; split <;> exact isTok_lit _ (by lit_decide)

theorem classify_opbOp (o : Op) : classify (opbOpText o) = .word (opbOpText o) := by
  unfold opbOpText; split <;> lit_decide

/-- the tokens of the terms, as texts -/
def opbTermToks (ts : List (Int × Int)) : List Str := ts.flatMap (fun t => [intStrPlus t.1, opbLitText t.2])

def opbConstraintLine (c : PBC) : Str := join [' '] (opbTermToks c.terms ++ [opbOpText c.op, intStr c.rhs])

theorem opbTerms_text (ts : List (Int × Int)) :
    ts.flatMap (fun t => intStrPlus t.1 ++ [' '] ++ opbLitText t.2 ++ [' ']) =
      (opbTermToks ts).flatMap (fun t => t ++ [' ']) := by
  induction ts with
  | nil => rfl
  | cons t ts ih =>
    simp only [opbTermToks, List.flatMap_cons, List.flatMap_append, List.flatMap_nil, List.append_nil,
      List.append_assoc] at ih ⊢
    rw [ih]

theorem opbConstraintText_eq : opbConstraintText = fun c => opbConstraintLine c ++ ['\n'] := by
  funext c
  have e : opbTermToks c.terms ++ [opbOpText c.op, intStr c.rhs] = (opbTermToks c.terms ++ [opbOpText c.op]) ++ [intStr c.rhs] := by
    simp
  rw [opbConstraintText, opbConstraintLine, e, ← join_blank_snoc, opbTerms_text]
  simp only [List.flatMap_append, List.flatMap_cons, List.flatMap_nil, List.append_nil, List.append_assoc]

theorem isTok_opbConstraint (c : PBC) : ∀ t ∈ opbTermToks c.terms ++ [opbOpText c.op, intStr c.rhs], IsTok t := by
  intro t ht
  rcases List.mem_append.1 ht with h | h
  · simp only [opbTermToks, List.mem_flatMap] at h
    obtain ⟨x, _, hx⟩ := h
    simp only [List.mem_cons, List.not_mem_nil, or_false] at hx
    rcases hx with rfl | rfl
    · exact isTok_intStrPlus _
    · exact isTok_opbLit _
  · simp only [List.mem_cons, List.not_mem_nil, or_false] at h
    rcases h with rfl | rfl
    · exact isTok_opbOp _
    · exact isTok_intStr _

theorem classify_opbTermToks (ts : List (Int × Int))
    (h : ∀ t ∈ ts, t.1.natAbs < 10 ^ maxStrDigits ∧ t.2.natAbs < 10 ^ maxStrDigits) :
    (opbTermToks ts).map classify = ts.flatMap (fun t => [.int t.1, opbLitTok t.2]) := by
  induction ts with
  | nil => rfl
  | cons t ts ih =>
    have ht := h t (by simp)
    simp only [opbTermToks, List.flatMap_cons, List.map_append, List.map_cons, List.map_nil] at ih ⊢
    rw [ih (fun x hx => h x (by simp [hx])), classify_intStrPlus _ ht.1, classify_opbLit _ ht.2]

theorem lexLine_opbConstraint (c : PBC) (hr : c.rhs.natAbs < 10 ^ maxStrDigits)
    (h : ∀ t ∈ c.terms, t.1.natAbs < 10 ^ maxStrDigits ∧ t.2.natAbs < 10 ^ maxStrDigits) :
    lexLine (opbConstraintLine c) = opbConstraintRow c := by
  rw [opbConstraintLine, lexLine_join _ (isTok_opbConstraint c), List.map_append, classify_opbTermToks _ h]
  simp [opbConstraintRow, classify_opbOp, classify_intStr _ hr]

theorem lex_opbConstraints (u : Bool) (cs : List PBC)
    (h : ∀ c ∈ cs, c.rhs.natAbs < 10 ^ maxStrDigits ∧
      ∀ t ∈ c.terms, t.1.natAbs < 10 ^ maxStrDigits ∧ t.2.natAbs < 10 ^ maxStrDigits) :
    lex u (cs.flatMap opbConstraintText) = cs.map opbConstraintRow := by
  rw [opbConstraintText_eq]
  exact lex_lines u _ _ cs fun c hc =>
    ⟨noNL_join_toks _ (isTok_opbConstraint c), lexLine_opbConstraint c (h c hc).1 (h c hc).2⟩

theorem lex_renderOpbText (u : Bool) (G : OPB) (hdr : Option Header) (names : Option (List Str))
    (hp : OpbPrintable G) : lex u (renderOpbText G hdr names) = renderOpb u G hdr names := by
  rw [lex_renderOpbText_lines, lexLine_opbSpec _ _ hp.1 hp.2.1, lex_opbConstraints u _ hp.2.2]
  rfl

/-- a test vector of the writer: a header value whose second line looks like a constraint, a label with a line break -/
theorem renderOpbText_sample :
    renderOpbText ⟨3, [⟨[(2, 1), (0, -3), (-1, 2)], .ge, 2⟩, ⟨[(5, -1)], .eq, 5⟩, ⟨[], .ge, -1⟩]⟩
        (some [("d".toList, "g\n+1 x1 >= 1".toList)]) (some ["x\ny".toList]) =
      "* #variable= 3 #constraint= 3\n* d: g\n* +1 x1 >= 1\n*\n* varname x1 x y\n*\n+2 x1 +0 ~x3 -1 x2 >= 2\n+5 ~x1 = 5\n>= -1\n".toList := by
  lit_decide

/-! the CNF branch of the writer prints every clause as the constraint `Σ lits ≥ 1` -/

theorem opbClauseText_eq (c : Clause) : opbClauseText c = opbConstraintText (PBC.ofClause c) := by
  have h1 : "+1 ".toList = intStrPlus 1 ++ [' '] := by lit_decide
  have h2 : ">= 1\n".toList = opbOpText .ge ++ [' '] ++ intStr 1 ++ ['\n'] := by lit_decide
  unfold opbClauseText opbConstraintText PBC.ofClause
  rw [h1, h2]
  simp only [List.flatMap_map, List.append_assoc]

theorem renderOpbTextCNF_eq (F : CNF) (hdr : Option Header) (names : Option (List Str)) :
    renderOpbTextCNF F hdr names = renderOpbText ⟨F.nvars, F.clauses.map PBC.ofClause⟩ hdr names := by
  have : opbClauseText = fun a => opbConstraintText (PBC.ofClause a) := funext opbClauseText_eq
  simp only [renderOpbTextCNF, renderOpbText, List.length_map, List.flatMap_map, this]

theorem opbPrintable_ofCNF (F : CNF) (h : DimacsPrintable F) :
    OpbPrintable ⟨F.nvars, F.clauses.map PBC.ofClause⟩ := by
  obtain ⟨hn, hm, hl⟩ := h
  have one : (1 : Int).natAbs < 10 ^ maxStrDigits := lt_limit_of_le (by decide)
  refine ⟨hn, by simpa using hm, ?_⟩
  intro c hc
  obtain ⟨cl, hcl, rfl⟩ := List.mem_map.1 hc
  refine ⟨one, ?_⟩
  intro t ht
  simp only [PBC.ofClause, List.mem_map] at ht
  obtain ⟨l, hl', rfl⟩ := ht
  exact ⟨one, hl cl hcl l hl'⟩

theorem lex_renderOpbTextCNF (u : Bool) (F : CNF) (hdr : Option Header) (names : Option (List Str))
    (hp : DimacsPrintable F) : lex u (renderOpbTextCNF F hdr names) = renderOpbCNF u F hdr names := by
  rw [renderOpbTextCNF_eq, renderOpbCNF_eq, lex_renderOpbText u _ hdr names (opbPrintable_ofCNF F hp)]

theorem opbPrintable_of_wf (G : OPB) (hG : ∀ c ∈ G.constraints, GoodPBC G.nvars c)
    (hn : G.nvars < 10 ^ maxStrDigits) (hm : G.constraints.length < 10 ^ maxStrDigits)
    (hc : ∀ c ∈ G.constraints, c.rhs.natAbs < 10 ^ maxStrDigits ∧ ∀ t ∈ c.terms, t.1.natAbs < 10 ^ maxStrDigits) :
    OpbPrintable G :=
  ⟨hn, hm, fun c hcm => ⟨(hc c hcm).1, fun t ht =>
    ⟨(hc c hcm).2 t ht, Nat.lt_of_le_of_lt ((hG c hcm).2 t ht).2 hn⟩⟩⟩

end Cnfgen.IO
