/-
Helper lemmas for the translated `WordOfIndicesVariables` (`Props/C11/GeneratedWords.lean`): the dictionary filled by
the constructor's loop is — keyed by the model's words (`word_loop`) — the model's `seq2vid` (last position wins);
a pattern is looked up in it through the embedding `upPat`, whose partial inverse is the model's `patternNats`.
-/
import Lemmas.GenBlock
import Lemmas.VarsWords
-- In the files about translated functions one `simp only` list serves all branches of a case split on the
-- generated term; a branch need not use every entry, hence this option there.
set_option linter.unusedSimpArgs false
namespace Cnfgen.GenVars
open Cnfgen Cnfgen.Vars Cnfgen.PyGen

theorem lookup_dictSet {κ ν : Type} [BEq κ] [LawfulBEq κ] (d : List (κ × ν)) (k k' : κ) (v : ν) :
    List.lookup k (Py.dictSet d k' v) = if (k == k') = true then some v else List.lookup k d := by
  induction d with
  | nil =>
    cases h : (k == k') <;> simp [Py.dictSet, List.lookup, h]
  | cons p d ih =>
    obtain ⟨k1, v1⟩ := p
    simp only [Py.dictSet]
    cases h1 : (k1 == k')
    · simp only [Bool.false_eq_true, if_false, List.lookup, ih]
      cases h : (k == k1)
      · simp
      · have e : k = k1 := by simpa using h
        subst e
        simp [h1]
    · have e1 : k1 = k' := by simpa using h1
      subst e1
      simp only [if_true, List.lookup]
      cases h : (k == k1) <;> simp [h]

theorem lastIdxOf_append (l : List (List Nat)) (x w : List Nat) :
    lastIdxOf (l ++ [x]) w = if x = w then some l.length else lastIdxOf l w := by
  induction l with
  | nil => simp [lastIdxOf]
  | cons y ys ih =>
    simp only [List.cons_append, lastIdxOf, ih, List.length_cons]
    by_cases h : x = w
    · simp [h]
    · simp only [h, if_false]

theorem dictSet_map {κ κ' ν : Type} [BEq κ] [LawfulBEq κ] [BEq κ'] [LawfulBEq κ'] (f : κ → κ')
    (hf : Function.Injective f) (d : List (κ × ν)) (k : κ) (v : ν) :
    Py.dictSet (d.map fun kv => (f kv.1, kv.2)) (f k) v = (Py.dictSet d k v).map fun kv => (f kv.1, kv.2) := by
  induction d with
  | nil => rfl
  | cons kv d ih =>
    have hb : (f kv.1 == f k) = (kv.1 == k) := Bool.eq_iff_iff.2 (by rw [beq_iff_eq, beq_iff_eq, hf.eq_iff])
    simp only [List.map_cons, Py.dictSet, hb, ih]
    cases kv.1 == k <;> rfl

theorem lookup_map_key {κ κ' ν : Type} [BEq κ] [LawfulBEq κ] [BEq κ'] [LawfulBEq κ'] (f : κ → κ') (g : κ' → Option κ)
    (hfg : ∀ k, g (f k) = some k) (hgf : ∀ k' k, g k' = some k → k' = f k) (d : List (κ × ν)) (k' : κ') :
    List.lookup k' (d.map fun kv => (f kv.1, kv.2)) = (g k').bind fun k => List.lookup k d := by
  induction d with
  | nil => cases g k' <;> rfl
  | cons kv d ih =>
    rw [List.map_cons, List.lookup_cons, ih]
    cases hg : g k' with
    | none =>
      have hb : (k' == f kv.1) = false := beq_false_of_ne fun e => by rw [e, hfg] at hg; cases hg
      rw [hb]
      rfl
    | some k =>
      cases hgf k' k hg
      have hb : (f k == f kv.1) = (k == kv.1) := Bool.eq_iff_iff.2 (by
        rw [beq_iff_eq, beq_iff_eq]
        exact ⟨fun e => Option.some.inj ((hfg k).symm.trans ((congrArg g e).trans (hfg kv.1))), congrArg f⟩)
      rw [hb, Option.bind_some, Option.bind_some, List.lookup_cons]

/-- one round of the constructor's loop: `vid += 1; vid2seq.append(c); seq2vid[c] = vid` -/
def wordStep (st : Int × List (List Int) × List (List Int × Int)) (c : List Int) :
    Int × List (List Int) × List (List Int × Int) :=
  (st.1 + 1, st.2.1 ++ [c], Py.dictSet st.2.2 c (st.1 + 1))

/-- the constructor's loop: the words in order, and a dictionary that is — keyed by the model's words — the model's
"last position wins" numbering -/
theorem word_loop (seqs : List (List Nat)) (v0 : Int) :
    ∃ D : List (List Nat × Int),
      List.foldl wordStep (v0, [], []) (seqs.map ints) =
        (v0 + (seqs.length : Nat), seqs.map ints, D.map fun kv => (ints kv.1, kv.2)) ∧
      ∀ w, List.lookup w D = (lastIdxOf seqs w).map fun (i : Nat) => v0 + 1 + (i : Int) := by
  induction seqs using List.reverseRecOn with
  | nil => exact ⟨[], by simp, fun _ => rfl⟩
  | append_singleton l x ih =>
    obtain ⟨D, hD, hl⟩ := ih
    refine ⟨Py.dictSet D x (v0 + (l.length : Nat) + 1), ?_, fun w => ?_⟩
    · rw [List.map_append, List.foldl_append, hD, ← dictSet_map ints fun _ _ => ints_injective]
      simp only [List.map_cons, List.map_nil, List.foldl_cons, List.foldl_nil, wordStep, List.length_append,
        List.length_singleton, Int.natCast_add, Int.natCast_one, Int.add_assoc]
    · rw [lookup_dictSet, hl, lastIdxOf_append]
      by_cases h : x = w
      · rw [if_pos h, if_pos (beq_iff_eq.2 h.symm), Option.map_some, Int.add_right_comm]
      · rw [if_neg h, if_neg fun e => h (beq_iff_eq.1 e).symm]

/-- the enumeration the constructor selects (`none`: `gen` stays unbound — UnboundLocalError) -/
def wordEnum (wt : String) (n k : Nat) : Option (List (List Nat)) :=
  if wt = "combinations" then some (combosSeqs n k)
  else if wt = "combinations_with_replacement" then some (combosReplSeqs n k)
  else if wt = "permutations" then some (permsSeqs n k)
  else if wt = "words" then some (wordsSeqs n k)
  else none

theorem wordEnum_nodup {wt : String} {n k : Nat} {seqs : List (List Nat)} (he : wordEnum wt n k = some seqs) :
    seqs.Nodup := by
  unfold wordEnum at he
  by_cases h1 : wt = "combinations"
  · rw [if_pos h1] at he
    exact Option.some.inj he ▸ combosSeqs_nodup n k
  rw [if_neg h1] at he
  by_cases h2 : wt = "combinations_with_replacement"
  · rw [if_pos h2] at he
    exact Option.some.inj he ▸ combosReplSeqs_nodup n k
  rw [if_neg h2] at he
  by_cases h3 : wt = "permutations"
  · rw [if_pos h3] at he
    exact Option.some.inj he ▸ permsSeqs_nodup n k
  rw [if_neg h3] at he
  by_cases h4 : wt = "words"
  · rw [if_pos h4] at he
    exact Option.some.inj he ▸ wordsSeqs_nodup n k
  rw [if_neg h4] at he
  cases he

/-- the dictionary `seq2vid` after the constructor's loop -/
def wordDict (nv : Nat) (seqs : List (List Nat)) : List (List Int × Int) :=
  (List.foldl wordStep ((nv : Int), [], []) (seqs.map ints)).2.2

/-- `WordOfIndicesVariables(F, n, k, wordtype=wt)` on a formula with `nv` variables, enumeration `seqs` -/
def wordSelf (nv : Nat) (n k : Int) (wt : String) (seqs : List (List Nat)) : WordOfIndicesVariables :=
  { n := n, k := k, wordtype := wt, offset := nv, vid2seq := seqs.map ints, seq2vid := wordDict nv seqs,
    formula := ⟨nv⟩, ids := ⟨(nv : Int) + 1, (nv : Int) + (seqs.length : Nat) + 1⟩ }

abbrev upPat (w : List Nat) : List (Option Int) := (ints w).map some

theorem upPat_eq (w : List Nat) : upPat w = w.map (fun (i : Nat) => some (i : Int)) := by
  simp only [upPat, ints, List.map_map, Function.comp_def, Int.ofNat_eq_natCast]

theorem patternNats_upPat (w : List Nat) : patternNats (upPat w) = some w := by
  rw [upPat_eq]
  exact patternNats_map_some' w

theorem patternNats_eq_upPat {pat : List (Option Int)} {w : List Nat} (h : patternNats pat = some w) : pat = upPat w := by
  rw [upPat_eq]
  exact patternNats_eq_some' h

/-- `seq2vid[pattern]` of the translated object, for any pattern: the model's lookup through `patternNats` (the keys,
seen as patterns, are the model's words under `upPat`, whose partial inverse `patternNats` is) -/
theorem wordDict_lookup_pat (nv : Nat) (seqs : List (List Nat)) (pat : List (Option Int)) :
    List.lookup pat ((wordDict nv seqs).map (fun kv => (kv.1.map some, kv.2))) =
      ((patternNats pat).bind (seq2vid (nv + 1) seqs)).map (fun (v : Nat) => (v : Int)) := by
  obtain ⟨D, hD, hl⟩ := word_loop seqs nv
  rw [wordDict, hD, List.map_map]
  refine (lookup_map_key upPat patternNats patternNats_upPat (fun _ _ => patternNats_eq_upPat) D pat).trans ?_
  cases patternNats pat with
  | none => rfl
  | some w =>
    rw [Option.bind_some, Option.bind_some, hl, seq2vid, Option.map_map]
    exact congrArg (Option.map · _) (funext fun i => by simp)

end Cnfgen.GenVars
