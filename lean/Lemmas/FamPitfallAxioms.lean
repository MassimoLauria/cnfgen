/-
Readable descriptions of the Pitfall model (`Fam/Pitfall.lean`): its parameter check in closed form and the
exact clause shapes of its five axiom groups.  `Lemmas/FamPitfall.lean` uses the gadgets only through these.
-/
import CnfgenModel.Fam.Pitfall
import Lemmas.FamIter
namespace Cnfgen.FamPitfall
open Cnfgen Cnfgen.Fam Cnfgen.FamIter

theorem check_eq (v d ny nz k : Int) :
    Pitfall.check v d ny nz k =
      if 1 ≤ v ∧ 1 ≤ d ∧ 1 ≤ ny ∧ 2 ≤ nz ∧ 1 ≤ k ∧ k % 2 = 0 ∧ d < v ∧ v * d % 2 ≠ 1 then .ok ()
      else .error .valueError := by
  split
  · rename_i h
    have a7 : ¬ d ≥ v := by omega
    simp [Pitfall.check, Pitfall.positiveInt, bind, Except.bind, pure, Except.pure, a7, h.2.2.2.2.2.1,
      h.2.2.2.2.2.2.2, show ¬ v < 1 by omega, show ¬ d < 1 by omega, show ¬ ny < 1 by omega, show ¬ nz < 1 by omega,
      show ¬ k < 1 by omega, show ¬ nz < 2 by omega]
  · rename_i h
    simp only [Pitfall.check, Pitfall.positiveInt, bind, Except.bind]
    by_cases a1 : v < 1
    · simp [a1]
    by_cases a2 : d < 1
    · simp [a1, a2]
    by_cases a3 : ny < 1
    · simp [a1, a2, a3]
    by_cases a4 : nz < 1
    · simp [a1, a2, a3, a4]
    by_cases a5 : k < 1
    · simp [a1, a2, a3, a4, a5]
    by_cases a6 : k % 2 = 0
    · by_cases a7 : nz < 2
      · simp [a1, a2, a3, a4, a5, a6, a7, throw, throwThe, MonadExceptOf.throw]
      · by_cases a8 : d ≥ v ∨ v * d % 2 = 1
        · simp [a1, a2, a3, a4, a5, a6, a7, a8, throw, throwThe, MonadExceptOf.throw]
        · exact absurd ⟨by omega, by omega, by omega, by omega, by omega, a6, by omega, fun h9 => a8 (Or.inr h9)⟩ h
    · simp [a1, a2, a3, a4, a5, a6, throw, throwThe, MonadExceptOf.throw]

theorem check_iff (v d ny nz k : Int) :
    Pitfall.check v d ny nz k = .ok () ↔
      1 ≤ v ∧ 1 ≤ d ∧ 1 ≤ ny ∧ 2 ≤ nz ∧ 1 ≤ k ∧ k % 2 = 0 ∧ d < v ∧ v * d % 2 ≠ 1 := by
  rw [check_eq]
  split
  · exact iff_of_true rfl ‹_›
  · exact iff_of_false nofun ‹_›

theorem check_ok_or_valueError (v d ny nz k : Int) :
    Pitfall.check v d ny nz k = .ok () ∨ Pitfall.check v d ny nz k = .error .valueError := by
  rw [check_eq]
  split
  · exact Or.inl rfl
  · exact Or.inr rfl

theorem pitfall_ok {v d ny nz k : Int} {g : SimpleG} {F : Formula} (h : Pitfall.pitfall v d ny nz k g = .ok F) :
    Pitfall.check v d ny nz k = .ok () ∧ F = Pitfall.build ny.toNat nz.toNat k.toNat g := by
  unfold Pitfall.pitfall at h
  cases hc : Pitfall.check v d ny nz k with
  | error e => rw [hc] at h; cases h
  | ok u => rw [hc] at h; exact ⟨rfl, (Except.ok.inj h).symm⟩

theorem combos_of_lt {β : Type} (l : List β) (k : Nat) (h : l.length < k) : combos l k = [] :=
  List.eq_nil_iff_forall_not_mem.2 fun c hc => by
    have := mem_combos.1 hc
    have := this.1.length_le
    omega

theorem combos_length_pred {β : Type} (l : List β) (h : l ≠ []) :
    (combos l (l.length - 1)).length = l.length := by
  obtain ⟨n, hn⟩ := Nat.exists_eq_succ_of_ne_zero (mt List.length_eq_zero_iff.1 h)
  rw [length_combos, hn, Nat.succ_sub_one, Nat.choose_succ_self_right]

theorem combos_self {β : Type} : ∀ (l : List β), combos l l.length = [l]
  | [] => by simp [combos]
  | a :: l => by
      simp [combos, combos_self l, combos_of_lt l (l.length + 1) (by omega)]

theorem combos_pred_getD {β : Type} : ∀ (l : List β) (t : Nat), t < l.length →
    (combos l (l.length - 1)).getD t [] = l.eraseIdx (l.length - 1 - t)
  | [], t, h => by simp at h
  | [a], t, h => by
      have : t = 0 := by simpa using h
      subst this; simp [combos]
  | a :: b :: l, t, h => by
      have hlen : (a :: b :: l).length - 1 = (l.length + 1) := by simp
      have hl1 : (combos (b :: l) l.length).length = l.length + 1 := by
        have := combos_length_pred (b :: l) (by simp)
        simpa using this
      rw [hlen]
      show ((combos (b :: l) l.length).map (a :: ·) ++ combos (b :: l) (l.length + 1)).getD t [] = _
      have hself : combos (b :: l) (l.length + 1) = [b :: l] := combos_self (b :: l)
      rw [hself]
      by_cases ht : t < l.length + 1
      · rw [List.getD_eq_getElem?_getD, List.getElem?_append_left (by simpa [hl1] using ht)]
        have ih := combos_pred_getD (b :: l) t (by simpa using ht)
        simp only [List.length_cons, Nat.add_sub_cancel] at ih
        rw [List.getD_eq_getElem?_getD] at ih
        rw [List.getElem?_map]
        obtain ⟨c, hc⟩ : ∃ c, (combos (b :: l) l.length)[t]? = some c :=
          ⟨_, List.getElem?_eq_getElem (by omega)⟩
        rw [hc] at ih ⊢
        simp only [Option.map_some, Option.getD_some] at ih ⊢
        rw [ih]
        obtain ⟨r, hr⟩ : ∃ r, l.length + 1 - t = r + 1 := ⟨l.length - t, by omega⟩
        rw [hr, List.eraseIdx_cons_succ]
        congr 2; omega
      · have ht' : t = l.length + 1 := by simp at h; omega
        subst ht'
        rw [List.getD_eq_getElem?_getD, List.getElem?_append_right (by simp [hl1])]
        simp [hl1]

theorem pair_sublist_map {β : Type} (f : Nat → β) (n : Nat) (p : List β) :
    p ∈ combos ((rangeN 1 (n + 1)).map f) 2 ↔
      ∃ i1 i2, 1 ≤ i1 ∧ i1 < i2 ∧ i2 ≤ n ∧ p = [f i1, f i2] := by
  simp only [combos_map, List.mem_map, combos_two_of_sorted (rangeN_pairwise _ _), mem_rangeN]
  constructor
  · rintro ⟨_, ⟨i1, i2, rfl, h1, h2, h3⟩, rfl⟩
    exact ⟨i1, i2, h1.1, h3, by omega, rfl⟩
  · rintro ⟨i1, i2, h1, h2, h3, rfl⟩
    exact ⟨_, ⟨i1, i2, rfl, ⟨h1, by omega⟩, ⟨by omega, by omega⟩, h2⟩, rfl⟩

namespace ShapeFacts
open Pitfall
theorem ys_length (s : Shape) (j : Nat) : (s.ys j).length = s.ny := by simp [Shape.ys, rangeN]
theorem zs_length (s : Shape) (j : Nat) : (s.zs j).length = s.nz := by simp [Shape.zs, rangeN]
theorem ps_length (s : Shape) (j : Nat) : (s.ps j).length = s.m + s.nz := by simp [Shape.ps, rangeN]
theorem xs_length (s : Shape) (j : Nat) : (s.xs j).length = s.m := by simp [Shape.xs]
end ShapeFacts
open ShapeFacts

theorem mem_copies (s : Pitfall.Shape) (j : Nat) : j ∈ Pitfall.copies s ↔ 1 ≤ j ∧ j ≤ s.k := by
  simp only [Pitfall.copies, rangeN, List.mem_map, List.mem_range]
  constructor
  · rintro ⟨a, ha, rfl⟩; omega
  · intro h; exact ⟨j - 1, by omega, by omega⟩

theorem mem_pitfallGadget (s : Pitfall.Shape) (j : Nat) (con : Con) :
    con ∈ Pitfall.pitfallGadget s j ↔
      ∃ i1 i2 t, (1 ≤ i1 ∧ i1 < i2 ∧ i2 ≤ s.ny) ∧ (1 ≤ t ∧ t ≤ s.m + s.nz) ∧
        con = Con.clause [(s.yId j i1 : Int), (s.yId j i2 : Int), -(s.pId j t : Int)] := by
  simp only [Pitfall.pitfallGadget, List.mem_flatMap]
  constructor
  · rintro ⟨pr, hpr, hcon⟩
    rw [Pitfall.Shape.ys, pair_sublist_map] at hpr
    obtain ⟨i1, i2, h1, h2, h3, rfl⟩ := hpr
    simp only [Pitfall.Shape.ps, List.map_map, List.mem_map, mem_rangeN] at hcon
    obtain ⟨t, ht, rfl⟩ := hcon
    exact ⟨i1, i2, t, ⟨h1, h2, h3⟩, ⟨ht.1, by omega⟩, rfl⟩
  · rintro ⟨i1, i2, t, ⟨h1, h2, h3⟩, ⟨ht1, ht2⟩, rfl⟩
    refine ⟨[(s.yId j i1 : Int), (s.yId j i2 : Int)], ?_, ?_⟩
    · rw [Pitfall.Shape.ys, pair_sublist_map]; exact ⟨i1, i2, h1, h2, h3, rfl⟩
    · simp only [Pitfall.Shape.ps, List.map_map, List.mem_map, mem_rangeN]
      exact ⟨t, ⟨ht1, by omega⟩, rfl⟩

theorem mem_tailGadget (s : Pitfall.Shape) (j : Nat) (con : Con) :
    con ∈ Pitfall.tailGadget s j ↔
      ∃ i r, (1 ≤ i ∧ i ≤ s.ny) ∧ (1 ≤ r ∧ r ≤ s.nz) ∧
        (con = Con.clause [-(s.aId j 1 : Int), (s.aId j 3 : Int), -(s.zId j r : Int)] ∨
         con = Con.clause [-(s.aId j 2 : Int), -(s.aId j 3 : Int), -(s.zId j r : Int)] ∨
         con = Con.clause [(s.aId j 1 : Int), -(s.zId j r : Int), -(s.yId j i : Int)] ∨
         con = Con.clause [(s.aId j 2 : Int), -(s.zId j r : Int), -(s.yId j i : Int)]) := by
  simp only [Pitfall.tailGadget, Pitfall.Shape.ys, Pitfall.Shape.zs, List.mem_flatMap, List.mem_map,
    mem_rangeN, List.mem_cons, List.not_mem_nil, or_false]
  constructor
  · rintro ⟨y, ⟨i, hi, rfl⟩, z, ⟨r, hr, rfl⟩, hcon⟩
    exact ⟨i, r, ⟨hi.1, by omega⟩, ⟨hr.1, by omega⟩, hcon⟩
  · rintro ⟨i, r, hi, hr, hcon⟩
    exact ⟨_, ⟨i, ⟨hi.1, by omega⟩, rfl⟩, _, ⟨r, ⟨hr.1, by omega⟩, rfl⟩, hcon⟩

theorem mem_gamma (s : Pitfall.Shape) (con : Con) :
    con ∈ Pitfall.gamma s ↔
      ∃ i, (1 ≤ i ∧ i % 2 = 1 ∧ i < s.ny) ∧
        con = Con.clause ((rangeN 1 (s.k + 1)).flatMap
          (fun j => [-(s.yId j i : Int), -(s.yId j (i + 1) : Int)])) := by
  simp only [Pitfall.gamma, List.mem_map, List.mem_range]
  constructor
  · rintro ⟨r, hr, rfl⟩
    exact ⟨2 * r + 1, ⟨by omega, by omega, by omega⟩, rfl⟩
  · rintro ⟨i, ⟨h1, h2, h3⟩, rfl⟩
    refine ⟨i / 2, by omega, ?_⟩
    have : 2 * (i / 2) + 1 = i := by omega
    rw [this]

/-- pipe gadget, for every `y_{j,i}`: with `S = X_j ++ Z_j` and `P = P_j` (both of length `m + nz`),
clause number `t` is `y ∨ (P without its element number m+nz-1-t) ∨ S_0 ∨ … ∨ S_{t-1} ∨ ¬S_t`,
except that in the last clause `z_{j,1}` (= `S_m`) is left out -/
theorem mem_pipeGadget (s : Pitfall.Shape) (j : Nat) (con : Con) :
    con ∈ Pitfall.pipeGadget s j ↔
      ∃ i t, (1 ≤ i ∧ i ≤ s.ny) ∧ t < s.m + s.nz ∧
        con = Con.clause ([(s.yId j i : Int)] ++ (s.ps j).eraseIdx (s.m + s.nz - 1 - t) ++
          (if t + 1 = s.m + s.nz then ((s.xs j ++ s.zs j).take t).eraseIdx s.m
            else (s.xs j ++ s.zs j).take t) ++
          [-((s.xs j ++ s.zs j).getD t 0)]) := by
  have hS : (s.xs j ++ s.zs j).length = s.m + s.nz := by simp [xs_length, zs_length]
  have hP : (s.ps j).length = s.m + s.nz := ps_length s j
  simp only [Pitfall.pipeGadget, Pitfall.pipe, List.mem_flatMap, List.mem_map, List.mem_range]
  constructor
  · rintro ⟨y, hy, t, ht, rfl⟩
    simp only [Pitfall.Shape.ys, List.mem_map, mem_rangeN] at hy
    obtain ⟨i, hi, rfl⟩ := hy
    have ht' : t < s.m + s.nz := by
      have := Nat.lt_of_lt_of_le ht (Nat.min_le_left _ _); rwa [hS] at this
    refine ⟨i, t, ⟨hi.1, by omega⟩, ht', ?_⟩
    rw [combos_pred_getD (s.ps j) t (by rw [hP]; exact ht'), hP, hS]
  · rintro ⟨i, t, hi, ht, rfl⟩
    refine ⟨(s.yId j i : Int), ?_, t, ?_, ?_⟩
    · simp only [Pitfall.Shape.ys, List.mem_map, mem_rangeN]; exact ⟨i, ⟨hi.1, by omega⟩, rfl⟩
    · have hne : s.ps j ≠ [] := by
        intro h0; rw [h0] at hP; simp at hP; omega
      rw [combos_length_pred (s.ps j) hne, hP, hS]; simpa using ht
    · rw [combos_pred_getD (s.ps j) t (by rw [hP]; exact ht), hP, hS]

theorem mem_build (ny nz k : Nat) (g : SimpleG) (con : Con) :
    con ∈ (Pitfall.build ny nz k g).cons ↔
      let s : Pitfall.Shape := ⟨g.edges.length, ny, nz, k⟩
      (∃ j, (1 ≤ j ∧ j ≤ k) ∧ con ∈ Pitfall.hardCopy s (PitfallTseitin.template g).clauses j) ∨
      (∃ j, (1 ≤ j ∧ j ≤ k) ∧ con ∈ Pitfall.pitfallGadget s j) ∨
      (∃ j, (1 ≤ j ∧ j ≤ k) ∧ con ∈ Pitfall.pipeGadget s j) ∨
      (∃ j, (1 ≤ j ∧ j ≤ k) ∧ con ∈ Pitfall.tailGadget s j) ∨
      con ∈ Pitfall.gamma s := by
  simp only [Pitfall.build, Pitfall.consOf, List.mem_append, List.mem_flatMap, mem_copies, or_assoc]
  rfl

end Cnfgen.FamPitfall
