/-
The comment part of a DIMACS / OPB file: every chunk the writer emits is one physical line whose
first token is the comment marker (`c` / `*`) — for every header dictionary and every label list
(this is what the D14 fix established).
-/
import Lemmas.IOLex
namespace Cnfgen.IO

/-- `<a>\n` or `<a> <body>\n` with no line break inside `body` -/
def IsCommentChunk (a : Char) (ch : Str) : Prop :=
  ch = [a, '\n'] ∨ ∃ body, NoNL body ∧ ch = a :: ' ' :: body ++ ['\n']

section marker
variable {a : Char} (ha : isSpace a = false) (hcl : classify [a] = .word [a])
include ha hcl

theorem commentChunk_line {ch : Str} (h : IsCommentChunk a ch) :
    ∃ s r, ch = s ++ ['\n'] ∧ NoNL s ∧ lexLine s = Tok.word [a] :: r := by
  have ha' := not_nl_of_not_space ha
  rcases h with rfl | ⟨body, hb, rfl⟩
  · exact ⟨[a], [], rfl, noNL_nil.cons ha', by simp [lexLine, splitWS, ha, hcl]⟩
  · exact ⟨a :: ' ' :: body, lexLine body, by simp, (hb.cons (by decide)).cons ha',
      by simp [lexLine, splitWS, ha, isSpace_blank, hcl]⟩

theorem lex_commentChunks (u : Bool) (chunks : List Str) (h : ∀ ch ∈ chunks, IsCommentChunk a ch) (rest : Str) :
    lex u (chunks.flatten ++ rest) = chunks.flatMap (lex u) ++ lex u rest := by
  induction chunks with
  | nil => simp
  | cons ch chs ih =>
    obtain ⟨s, _, rfl, hs, _⟩ := commentChunk_line ha hcl (h ch (by simp))
    rw [List.flatten_cons, List.flatMap_cons, lex_line u s hs, List.append_assoc, List.append_assoc,
      List.singleton_append, lex_cons_line u s _ hs, ih (fun x hx => h x (by simp [hx]))]
    rfl

theorem commentRows_marker (u : Bool) (chunks : List Str) (h : ∀ ch ∈ chunks, IsCommentChunk a ch) :
    ∀ r ∈ chunks.flatMap (lex u), ∃ rest, r = Tok.word [a] :: rest := by
  intro r hr
  obtain ⟨ch, hch, hr⟩ := List.mem_flatMap.1 hr
  obtain ⟨s, r', rfl, hs, hl⟩ := commentChunk_line ha hcl (h ch hch)
  rw [lex_line u s hs, hl] at hr
  exact ⟨r', by simpa using hr⟩

end marker

theorem headerLines_chunks (a : Char) (kv : Str × Str) :
    ∀ ch ∈ headerLines [a, ' '] kv, IsCommentChunk a ch := by
  intro ch hch
  simp only [headerLines, List.mem_map] at hch
  obtain ⟨l, hl, rfl⟩ := hch
  exact Or.inr ⟨l, splitlines_noNL _ l hl, by simp⟩

/-- `<a> <word><id> <label>\n`, the `varname` line of both formats -/
theorem varnameLine_chunk (a : Char) (w : Str) (hw : NoNL w) (p : Nat × Str) :
    IsCommentChunk a (a :: ' ' :: (w ++ natStr p.1 ++ [' '] ++ flatLabel p.2) ++ ['\n']) :=
  Or.inr ⟨_, ((hw.append (natStr_noNL _)).append (noNL_lit _ (by decide))).append (flatLabel_noNL _), rfl⟩

/-- the comment part both writers emit: header entries and `varname` lines (`vline` prints one), each group closed by
a bare marker line -/
theorem commentChunks_ok (a : Char) (vline : Nat × Str → Str) (hv : ∀ p, IsCommentChunk a (vline p))
    (hdr : Option Header) (names : Option (List Str)) :
    ∀ ch ∈ (match hdr with
        | some h => h.flatMap (headerLines [a, ' ']) ++ [[a, '\n']]
        | none => []) ++
      (match names with
        | some ns => (enum1 ns).map vline ++ [[a, '\n']]
        | none => []), IsCommentChunk a ch := by
  intro ch hch
  rcases List.mem_append.1 hch with hch | hch
  · cases hdr with
    | none => simp at hch
    | some h =>
      simp only [List.mem_append, List.mem_flatMap, List.mem_singleton] at hch
      rcases hch with ⟨kv, _, hk⟩ | rfl
      · exact headerLines_chunks a kv ch hk
      · exact Or.inl rfl
  · cases names with
    | none => simp at hch
    | some ns =>
      simp only [List.mem_append, List.mem_map, List.mem_singleton] at hch
      rcases hch with ⟨p, _, rfl⟩ | rfl
      · exact hv p
      · exact Or.inl rfl

theorem dimacs_chunks (hdr : Option Header) (names : Option (List Str)) :
    ∀ ch ∈ dimacsCommentChunks hdr names, IsCommentChunk 'c' ch :=
  commentChunks_ok 'c' dimacsVarnameLine (varnameLine_chunk 'c' varnameWord (noNL_lit _ (by decide))) hdr names

theorem opb_chunks (hdr : Option Header) (names : Option (List Str)) :
    ∀ ch ∈ opbCommentChunks hdr names, IsCommentChunk '*' ch :=
  commentChunks_ok '*' opbVarnameLine (varnameLine_chunk '*' varnameXWord (noNL_lit _ (by decide))) hdr names

theorem dimacsCommentRows_c (u : Bool) (hdr : Option Header) (names : Option (List Str)) :
    ∀ r ∈ dimacsCommentRows u hdr names, ∃ rest, r = Tok.word ['c'] :: rest :=
  commentRows_marker (by decide) (by decide) u _ (dimacs_chunks hdr names)

theorem opbCommentRows_star (u : Bool) (hdr : Option Header) (names : Option (List Str)) :
    ∀ r ∈ opbCommentRows u hdr names, ∃ rest, r = Tok.word ['*'] :: rest :=
  commentRows_marker (by decide) (by decide) u _ (opb_chunks hdr names)

end Cnfgen.IO
