/-
Assignments of a unary mapping group ↔ lists of images.
`EncL st k N α l` says: on the identifiers `st … st+k·N-1` the assignment `α` is the graph of the
function `i ↦ l[i-1]` from `1..k` to `1..N`.
Last, the clauses that forbid pairs of images, read on a table — whatever encodes the table (`pairClauses_table`).
-/
import Lemmas.FamMapping
namespace Cnfgen
namespace Fam
namespace G2
open Vars

/-- image of `i` (1-based) under the table `l` -/
def img (l : List Nat) (i : Nat) : Nat := l.getD (i - 1) 0

theorem img_eq {l : List Nat} {i : Nat} (h1 : 1 ≤ i) (h2 : i ≤ l.length) :
    img l i = l[i - 1]'(by omega) := by
  have : i - 1 < l.length := by omega
  simp [img, List.getD, List.getElem?_eq_getElem this]

theorem img_mem {l : List Nat} {i : Nat} (h1 : 1 ≤ i) (h2 : i ≤ l.length) : img l i ∈ l := by
  rw [img_eq h1 h2]; exact List.getElem_mem _

theorem exists_img_of_mem {l : List Nat} {v : Nat} (h : v ∈ l) : ∃ i, 1 ≤ i ∧ i ≤ l.length ∧ img l i = v := by
  obtain ⟨p, hp, rfl⟩ := List.getElem_of_mem h
  exact ⟨p + 1, by omega, by omega, by rw [img_eq (by omega) (by omega)]; simp⟩

theorem img_map_range (f : Nat → Nat) {k i : Nat} (h1 : 1 ≤ i) (h2 : i ≤ k) :
    img ((List.range k).map (fun p => f (p + 1))) i = f i := by
  have : i - 1 < k := by omega
  simp [img, List.getD, this]
  congr 1; omega

theorem img_verts {n i : Nat} (h1 : 1 ≤ i) (h2 : i ≤ n) : img (verts n) i = i := by
  have : verts n = (List.range n).map (fun p => id (p + 1)) := by simp [verts, rangeN]
  rw [this, img_map_range id h1 h2]; rfl

theorem ext_img {l l' : List Nat} (hl : l.length = l'.length)
    (h : ∀ i, 1 ≤ i → i ≤ l.length → img l i = img l' i) : l = l' := by
  apply List.ext_getElem hl
  intro p hp hp'
  have := h (p + 1) (by omega) (by omega)
  rw [img_eq (by omega) (by omega), img_eq (by omega) (by omega)] at this
  simpa using this

/-- the relation induced by `α` on `1..k × 1..N` is the graph of a total function -/
def TotFun (st k N : Nat) (α : Assign) : Prop :=
  (∀ i, 1 ≤ i → i ≤ k → ∃ j, 1 ≤ j ∧ j ≤ N ∧ α (mapId st N i j) = true) ∧
  (∀ i, 1 ≤ i → i ≤ k → ∀ j, 1 ≤ j → j ≤ N → ∀ j', 1 ≤ j' → j' ≤ N →
      α (mapId st N i j) = true → α (mapId st N i j') = true → j = j')

structure EncL (st k N : Nat) (α : Assign) (l : List Nat) : Prop where
  len : l.length = k
  rng : ∀ v ∈ l, 1 ≤ v ∧ v ≤ N
  enc : ∀ i, 1 ≤ i → i ≤ k → ∀ j, 1 ≤ j → j ≤ N → (α (mapId st N i j) = true ↔ img l i = j)

theorem EncL.img_rng {st k N : Nat} {α : Assign} {l : List Nat} (h : EncL st k N α l) {i : Nat}
    (h1 : 1 ≤ i) (h2 : i ≤ k) : 1 ≤ img l i ∧ img l i ≤ N :=
  h.rng _ (img_mem h1 (by rw [h.len]; exact h2))

theorem EncL.holds_img {st k N : Nat} {α : Assign} {l : List Nat} (h : EncL st k N α l) {i : Nat}
    (h1 : 1 ≤ i) (h2 : i ≤ k) : α (mapId st N i (img l i)) = true :=
  (h.enc i h1 h2 _ (h.img_rng h1 h2).1 (h.img_rng h1 h2).2).2 rfl

theorem EncL.totFun {st k N : Nat} {α : Assign} {l : List Nat} (h : EncL st k N α l) : TotFun st k N α := by
  constructor
  · intro i h1 h2
    exact ⟨img l i, (h.img_rng h1 h2).1, (h.img_rng h1 h2).2, h.holds_img h1 h2⟩
  · intro i h1 h2 j hj1 hj2 j' hj1' hj2' ha hb
    rw [h.enc i h1 h2 j hj1 hj2] at ha
    rw [h.enc i h1 h2 j' hj1' hj2'] at hb
    omega

theorem TotFun.exists_encL {st k N : Nat} {α : Assign} (h : TotFun st k N α) : ∃ l, EncL st k N α l := by
  classical
  let f : Nat → Nat := fun i =>
    if hi : 1 ≤ i ∧ i ≤ k then Classical.choose (h.1 i hi.1 hi.2) else 0
  have hf : ∀ i, 1 ≤ i → i ≤ k → 1 ≤ f i ∧ f i ≤ N ∧ α (mapId st N i (f i)) = true := by
    intro i h1 h2
    have := Classical.choose_spec (h.1 i h1 h2)
    simp only [f, h1, h2, and_self, dite_true]
    exact this
  refine ⟨(List.range k).map (fun p => f (p + 1)), ?_, ?_, ?_⟩
  · simp
  · intro v hv
    simp only [List.mem_map, List.mem_range] at hv
    obtain ⟨p, hp, rfl⟩ := hv
    have := hf (p + 1) (by omega) (by omega)
    exact ⟨this.1, this.2.1⟩
  · intro i h1 h2 j hj1 hj2
    rw [img_map_range f h1 h2]
    have := hf i h1 h2
    constructor
    · intro ha; exact h.2 i h1 h2 _ this.1 this.2.1 _ hj1 hj2 this.2.2 ha
    · intro e; rw [← e]; exact this.2.2

theorem totFun_iff_exists_encL {st k N : Nat} {α : Assign} : TotFun st k N α ↔ ∃ l, EncL st k N α l :=
  ⟨TotFun.exists_encL, fun ⟨_, h⟩ => h.totFun⟩

theorem EncL.unique {st k N : Nat} {α : Assign} {l l' : List Nat} (h : EncL st k N α l) (h' : EncL st k N α l') :
    l = l' := by
  apply ext_img (by rw [h.len, h'.len])
  intro i h1 h2
  rw [h.len] at h2
  have := h.holds_img h1 h2
  rw [h'.enc i h1 h2 _ (h.img_rng h1 h2).1 (h.img_rng h1 h2).2] at this
  exact this.symm

theorem EncL.agree {st k N : Nat} {α β : Assign} {l : List Nat} (h : EncL st k N α l) (h' : EncL st k N β l)
    {x : Nat} (h1 : st ≤ x) (h2 : x < st + k * N) : α x = β x := by
  obtain ⟨u, v, hu1, hu, hv1, hv, rfl⟩ := mapId_surj h1 h2
  have a := h.enc u hu1 hu v hv1 hv
  have b := h'.enc u hu1 hu v hv1 hv
  rw [Bool.eq_iff_iff, a, b]

theorem EncL.congr {st k N : Nat} {α β : Assign} {l : List Nat} (h : EncL st k N α l)
    (hab : ∀ x, st ≤ x → x < st + k * N → α x = β x) : EncL st k N β l := by
  refine ⟨h.len, h.rng, ?_⟩
  intro i h1 h2 j hj1 hj2
  have := mapId_lt (st := st) h1 h2 hj1 hj2
  rw [← hab _ this.1 this.2]
  exact h.enc i h1 h2 j hj1 hj2

/-- the assignment whose true variables are exactly `f(i) = l[i-1]` -/
def encode (st k N : Nat) (l : List Nat) : Assign :=
  fun x => decide (st ≤ x ∧ x < st + k * N ∧ l.getD ((x - st) / N) 0 = (x - st) % N + 1)

theorem encode_rel {st k N : Nat} (l : List Nat) {i j : Nat} (h1 : 1 ≤ i) (hj1 : 1 ≤ j) (hj2 : j ≤ N) :
    encode st k N l (mapId st N i j) = true ↔ i ≤ k ∧ img l i = j := by
  simp only [encode, decide_eq_true_eq, mapId_div hj1 hj2, mapId_mod hj1 hj2, img]
  constructor
  · rintro ⟨_, hlt, h⟩
    refine ⟨Nat.le_of_not_lt fun hk => ?_, by omega⟩
    have : k * N ≤ (i - 1) * N := Nat.mul_le_mul_right N (by omega)
    unfold mapId at hlt
    omega
  · rintro ⟨h2, h⟩
    have hb := mapId_lt (st := st) h1 h2 hj1 hj2
    exact ⟨hb.1, hb.2, by omega⟩

theorem encode_encL {st k N : Nat} {l : List Nat} (hlen : l.length = k) (hr : ∀ v ∈ l, 1 ≤ v ∧ v ≤ N) :
    EncL st k N (encode st k N l) l :=
  ⟨hlen, hr, fun _ h1 h2 _ hj1 hj2 => (encode_rel l h1 hj1 hj2).trans ⟨fun e => e.2, fun e => ⟨h2, e⟩⟩⟩

theorem EncL.surjective_iff {st k N : Nat} {α : Assign} {l : List Nat} (h : EncL st k N α l) :
    (∀ j, 1 ≤ j → j ≤ N → ∃ i, 1 ≤ i ∧ i ≤ k ∧ α (mapId st N i j) = true) ↔
      ∀ j, 1 ≤ j → j ≤ N → j ∈ l := by
  constructor
  · intro hs j hj1 hj2
    obtain ⟨i, h1, h2, ha⟩ := hs j hj1 hj2
    rw [h.enc _ h1 h2 _ hj1 hj2] at ha
    rw [← ha]; exact img_mem h1 (by rw [h.len]; exact h2)
  · intro hs j hj1 hj2
    obtain ⟨i, h1, h2, e⟩ := exists_img_of_mem (hs j hj1 hj2)
    rw [h.len] at h2
    exact ⟨i, h1, h2, (h.enc _ h1 h2 _ hj1 hj2).2 e⟩

theorem EncL.pairs_iff {st k N : Nat} {α : Assign} {l : List Nat} (h : EncL st k N α l) (P : Nat → Nat → Nat → Nat → Prop) :
    (∀ i, 1 ≤ i → ∀ i', i < i' → i' ≤ k → ∀ j, 1 ≤ j → j ≤ N → ∀ j', 1 ≤ j' → j' ≤ N →
        α (mapId st N i j) = true → α (mapId st N i' j') = true → P i i' j j') ↔
      ∀ i, 1 ≤ i → ∀ i', i < i' → i' ≤ k → P i i' (img l i) (img l i') := by
  constructor
  · intro hp i h1 i' hlt h2'
    have r := h.img_rng (i := i) h1 (by omega)
    have r' := h.img_rng (i := i') (by omega) h2'
    exact hp i h1 i' hlt h2' _ r.1 r.2 _ r'.1 r'.2 (h.holds_img h1 (by omega)) (h.holds_img (by omega) h2')
  · intro hp i h1 i' hlt h2' j hj1 hj2 j' hj1' hj2' ha hb
    rw [h.enc _ h1 (by omega) _ hj1 hj2] at ha
    rw [h.enc _ (by omega) h2' _ hj1' hj2'] at hb
    subst ha; subst hb
    exact hp i h1 i' hlt h2'

theorem pairwise_img_iff {l : List Nat} {k : Nat} (hlen : l.length = k) (R : Nat → Nat → Prop) :
    (∀ i, 1 ≤ i → ∀ i', i < i' → i' ≤ k → R (img l i) (img l i')) ↔ l.Pairwise R := by
  rw [List.pairwise_iff_getElem]
  constructor
  · intro h p q hp hq hpq
    have := h (p + 1) (by omega) (q + 1) (by omega) (by omega)
    rw [img_eq (by omega) (by omega), img_eq (by omega) (by omega)] at this
    simpa using this
  · intro h i h1 i' hlt h2
    rw [img_eq h1 (by omega), img_eq (by omega) (by omega)]
    exact h (i - 1) (i' - 1) (by omega) (by omega) (by omega)

theorem EncL.injective_iff {st k N : Nat} {α : Assign} {l : List Nat} (h : EncL st k N α l) :
    (∀ j, 1 ≤ j → j ≤ N → ∀ i, 1 ≤ i → i ≤ k → ∀ i', 1 ≤ i' → i' ≤ k →
        α (mapId st N i j) = true → α (mapId st N i' j) = true → i = i') ↔ l.Nodup := by
  rw [List.nodup_iff_pairwise_ne, ← pairwise_img_iff h.len, ← h.pairs_iff (fun _ _ j j' => j ≠ j')]
  constructor
  · intro hinj i h1 i' hlt h2 j hj1 hj2 j' hj1' hj2' ha hb e
    subst e
    have := hinj j hj1 hj2 i h1 (by omega) i' (by omega) h2 ha hb
    omega
  · intro hp j hj1 hj2 i h1 h2 i' h1' h2' ha hb
    rcases Nat.lt_trichotomy i i' with hlt | heq | hgt
    · exact absurd rfl (hp i h1 i' hlt h2' j hj1 hj2 j hj1 hj2 ha hb)
    · exact heq
    · exact absurd rfl (hp i' h1' i hgt h2 j hj1 hj2 j hj1 hj2 hb ha)

theorem sorted_of_le_nodup {l : List Nat} (h : l.Pairwise (· ≤ ·)) (hn : l.Nodup) : l.Pairwise (· < ·) := by
  rw [List.nodup_iff_pairwise_ne] at hn
  exact (h.and hn).imp (by intro a b hab; omega)

theorem nodup_of_sorted {l : List Nat} (h : l.Pairwise (· < ·)) : l.Nodup := h.imp Nat.ne_of_lt

theorem le_of_sorted {l : List Nat} (h : l.Pairwise (· < ·)) : l.Pairwise (· ≤ ·) := h.imp Nat.le_of_lt

def Shape (symbreak : Bool) (l : List Nat) : Prop := if symbreak then l.Pairwise (· < ·) else l.Nodup

theorem Shape.nodup {symbreak : Bool} {l : List Nat} (h : Shape symbreak l) : l.Nodup := by
  cases symbreak
  · exact h
  · exact nodup_of_sorted h

theorem EncL.pair_clause {k N : Nat} {α : Assign} {l : List Nat} (h : EncL 1 k N α l) (i i' a b : Nat) (hi : 1 ≤ i)
    (hii' : i < i') (hi' : i' ≤ k) (ha1 : 1 ≤ a) (ha : a ≤ N) (hb1 : 1 ≤ b) (hb : b ≤ N) :
    Con.holds α (.clause [-(mlit 1 N i a), -(mlit 1 N i' b)]) = true ↔ ¬ (img l i = a ∧ img l i' = b) := by
  rw [clause_two_neg_mlit α, h.enc _ hi (by omega) _ ha1 ha, h.enc _ (by omega) hi' _ hb1 hb]

section
/- `L` holds, for the rows `i < i'` and the values `a < b` that are `bad`, a clause `cl i a i' b` forbidding `i ↦ a` together
with `i' ↦ b` and — without symmetry breaking — one forbidding `i ↦ b` together with `i' ↦ a`.  The clause is a variable:
two negative literals in the unary encoding, two `forbid`s in the binary one. -/
variable {k N : Nat} {symbreak : Bool} {L : List Con} {bad : Nat → Nat → Nat → Nat → Bool}
  {cl : Nat → Nat → Nat → Nat → Con}
  (hL : ∀ c, c ∈ L ↔ ∃ i i' a b, (1 ≤ i ∧ i < i' ∧ i' ≤ k) ∧ (1 ≤ a ∧ a < b ∧ b ≤ N) ∧ bad i i' a b = true ∧
    (c = cl i a i' b ∨ symbreak = false ∧ c = cl i b i' a))
include hL

theorem pairClauses_table {α : Assign} {l : List Nat} (hlen : l.length = k) (hr : ∀ v ∈ l, 1 ≤ v ∧ v ≤ N)
    (hs : Shape symbreak l)
    (hcl : ∀ i i' a b, 1 ≤ i → i < i' → i' ≤ k → 1 ≤ a → a ≤ N → 1 ≤ b → b ≤ N →
      (Con.holds α (cl i a i' b) = true ↔ ¬ (img l i = a ∧ img l i' = b)))
    {ok : Nat → Nat → Nat → Nat → Prop} (hok : ∀ i i' a b, bad i i' a b = false ↔ ok i i' a b)
    (hsymm : ∀ i i' a b, ok i i' a b → ok i i' b a) :
    (∀ c ∈ L, Con.holds α c = true) ↔ ∀ i, 1 ≤ i → ∀ i', i < i' → i' ≤ k → ok i i' (img l i) (img l i') := by
  constructor
  · intro h i hi i' hii' hi'
    have ra := hr _ (img_mem hi (by omega : i ≤ l.length))
    have rb := hr _ (img_mem (by omega : 1 ≤ i') (by omega : i' ≤ l.length))
    have hne := (pairwise_img_iff hlen (· ≠ ·)).2 (List.nodup_iff_pairwise_ne.1 hs.nodup) i hi i' hii' hi'
    -- were the pair of images `bad`, its clause (in the placement they have) would be in `L` and false
    have key : ∀ c, Con.holds α c = true → c = cl i (img l i) i' (img l i') → False := fun c hc e =>
      (hcl i i' _ _ hi hii' hi' ra.1 ra.2 rb.1 rb.2).1 (e ▸ hc) ⟨rfl, rfl⟩
    rcases Nat.lt_or_gt_of_ne hne with hlt | hgt
    · rw [← hok]
      cases e : bad i i' (img l i) (img l i')
      · rfl
      · exact (key _ (h _ ((hL _).2 ⟨i, i', _, _, ⟨hi, hii', hi'⟩, ⟨ra.1, hlt, rb.2⟩, e, Or.inl rfl⟩)) rfl).elim
    · have hsb : symbreak = false := by
        cases symbreak
        · rfl
        · have := (pairwise_img_iff hlen (· < ·)).2 hs i hi i' hii' hi'
          omega
      apply hsymm
      rw [← hok]
      cases e : bad i i' (img l i') (img l i)
      · rfl
      · exact (key _ (h _ ((hL _).2 ⟨i, i', _, _, ⟨hi, hii', hi'⟩, ⟨rb.1, hgt, ra.2⟩, e, Or.inr ⟨hsb, rfl⟩⟩)) rfl).elim
  · intro h c hc
    obtain ⟨i, i', a, b, ⟨hi, hii', hi'⟩, ⟨ha, hab, hb⟩, hbad, hc⟩ := (hL c).1 hc
    have nok : ¬ ok i i' a b := fun o => by rw [← hok, hbad] at o; exact Bool.noConfusion o
    rcases hc with rfl | ⟨_, rfl⟩
    · rw [hcl i i' a b hi hii' hi' ha (by omega) (by omega) hb]
      rintro ⟨rfl, rfl⟩
      exact nok (h i hi i' hii' hi')
    · rw [hcl i i' b a hi hii' hi' (by omega) hb ha (by omega)]
      rintro ⟨rfl, rfl⟩
      exact nok (hsymm _ _ _ _ (h i hi i' hii' hi'))

end

theorem pairClauses_in {k N : Nat} {symbreak : Bool} {L : List Con} {bad : Nat → Nat → Nat → Nat → Bool}
    (hL : ∀ c, c ∈ L ↔ ∃ i i' a b, (1 ≤ i ∧ i < i' ∧ i' ≤ k) ∧ (1 ≤ a ∧ a < b ∧ b ≤ N) ∧ bad i i' a b = true ∧
      (c = .clause [-(mlit 1 N i a), -(mlit 1 N i' b)] ∨
        symbreak = false ∧ c = .clause [-(mlit 1 N i b), -(mlit 1 N i' a)])) :
    ConsIn 1 (k * N) L := by
  refine ConsIn.mono (lo := 1) (hi := 1 + k * N - 1) (fun c hc => ?_) (Nat.le_refl 1) (by omega)
  obtain ⟨i, i', a, b, ⟨hi, hii', hi'⟩, ⟨ha, hab, hb⟩, _, hc⟩ := (hL c).1 hc
  rcases hc with rfl | ⟨_, rfl⟩
  · exact clause_neg2_in (Nat.le_refl 1) hi (by omega) ha (by omega) (by omega) hi' (by omega) hb
  · exact clause_neg2_in (Nat.le_refl 1) hi (by omega) (by omega) hb (by omega) hi' ha (by omega)

end G2
end Fam
end Cnfgen
