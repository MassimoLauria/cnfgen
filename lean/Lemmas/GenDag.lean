/-
Helper lemmas for the translated DAG constructions (`Props/C15/Generated.lean`): each translated loop appends the
model's list of `add_edge` calls to the log.
-/
import CnfgenModel.Generated.Funcs
import CnfgenModel.Graph.Build
import Lemmas.PyFold
import Lemmas.GenBinary
set_option linter.unusedSimpArgs false
namespace Cnfgen.GenDag
open Cnfgen Cnfgen.PyGen Cnfgen.GBuild Cnfgen.GenVars

theorem path_loop (n : Int) (log : List (Int × Int)) (l : List Int) :
    List.foldl (fun (D : Int × List (Int × Int)) (i : Int) => (D.1, D.2 ++ [(i, i + 1)])) (n, log) l =
      (n, log ++ l.map (fun i => (i, i + 1))) := by
  induction l generalizing log with
  | nil => simp
  | cons x xs ih => simp [ih]

/-- one round of the loop of `dag_complete_binary_tree`: two `add_edge` calls, `leftsrc += 2` -/
def treeStep (st : (Int × List (Int × Int)) × Int) (dest : Int) : (Int × List (Int × Int)) × Int :=
  ((st.1.1, st.1.2 ++ [(st.2, dest)] ++ [(st.2 + 1, dest)]), st.2 + 2)

theorem tree_loop (n : Int) (c : Nat) (log : List (Int × Int)) (ls d : Nat) :
    List.foldl treeStep ((n, log), (ls : Int)) (ints (List.range' d c)) =
      ((n, log ++ intPairs (treeLoop ls d c)), ((ls + 2 * c : Nat) : Int)) := by
  induction c generalizing log ls d with
  | zero => simp [treeLoop, intPairs]
  | succ c ih =>
    have hstep : treeStep ((n, log), (ls : Int)) (d : Int) =
        ((n, log ++ [((ls : Int), (d : Int)), ((ls : Int) + 1, (d : Int))]), ((ls + 2 : Nat) : Int)) := by
      simp [treeStep]
    have e1 : ls + 2 + 2 * c = ls + 2 * (c + 1) := by omega
    rw [List.range'_succ, ints, List.map_cons, List.foldl_cons, Int.ofNat_eq_natCast, hstep, ih, e1]
    simp [treeLoop, intPairs]

/-- one round of the inner loop of `dag_pyramid`: two `add_edge` calls, `leftsrc += 1`, `dest += 1` -/
def rowStep (st : (Int × List (Int × Int)) × Int × Int) (_i : Int) : (Int × List (Int × Int)) × Int × Int :=
  ((st.1.1, st.1.2 ++ [(st.2.1, st.2.2)] ++ [(st.2.1 + 1, st.2.2)]), st.2.1 + 1, st.2.2 + 1)

theorem row_loop (n : Int) (c : Nat) (log : List (Int × Int)) (ls d : Nat) (l : List Int) (hl : l.length = c) :
    List.foldl rowStep ((n, log), (ls : Int), (d : Int)) l =
      ((n, log ++ intPairs (pyramidRow ls d c)), ((ls + c : Nat) : Int), ((d + c : Nat) : Int)) := by
  induction c generalizing log ls d l with
  | zero =>
    have : l = [] := List.length_eq_zero_iff.1 hl
    subst this
    simp [pyramidRow, intPairs]
  | succ c ih =>
    cases l with
    | nil => simp at hl
    | cons x xs =>
      rw [List.foldl_cons]
      have hstep : rowStep ((n, log), (ls : Int), (d : Int)) x =
          ((n, log ++ [((ls : Int), (d : Int)), ((ls : Int) + 1, (d : Int))]), ((ls + 1 : Nat) : Int), ((d + 1 : Nat) : Int)) := by
        simp [rowStep]
      rw [hstep, ih _ _ _ xs (by simpa using hl)]
      have e1 : ls + 1 + c = ls + (c + 1) := by omega
      have e2 : d + 1 + c = d + (c + 1) := by omega
      rw [e1, e2]
      simp [pyramidRow, intPairs]

/-- one round of the outer loop: a row of `height - layer + 1` steps, then `leftsrc += 1` -/
def layerStep (height : Int) (st : (Int × List (Int × Int)) × Int × Int) (layer : Int) :
    (Int × List (Int × Int)) × Int × Int :=
  let r := List.foldl rowStep st (Py.Range.toList (Py.Range.mk 1 (height - layer + 2)))
  (r.1, r.2.1 + 1, r.2.2)

theorem layers_loop (n : Int) (h : Nat) (rem : Nat) (log : List (Int × Int)) (ls d : Nat) (hrem : rem ≤ h) :
    (List.foldl (layerStep h) ((n, log), (ls : Int), (d : Int)) (ints (List.range' (h - rem + 1) rem))).1 =
      (n, log ++ intPairs (pyramidLayers ls d rem)) := by
  induction rem generalizing log ls d with
  | zero => simp [pyramidLayers, intPairs]
  | succ rem ih =>
    have hrow : (h : Int) - ((h - (rem + 1) + 1 : Nat) : Int) + 2 = ((rem + 1 : Nat) : Int) + 1 := by omega
    have hstep : layerStep h ((n, log), (ls : Int), (d : Int)) ((h - (rem + 1) + 1 : Nat) : Int) =
        ((n, log ++ intPairs (pyramidRow ls d (rem + 1))), ((ls + rem + 2 : Nat) : Int), ((d + rem + 1 : Nat) : Int)) := by
      rw [layerStep, hrow, range_toList_nat,
        row_loop n (rem + 1) log ls d _ ((List.length_map _).trans (length_rangeN ..))]
      congr 2
    have hnext : h - (rem + 1) + 1 + 1 = h - rem + 1 := by omega
    rw [List.range'_succ, ints, List.map_cons, List.foldl_cons, Int.ofNat_eq_natCast, hstep, hnext, ih _ _ _ (by omega)]
    simp [pyramidLayers, intPairs]

theorem insertSorted_eq (l : List Int) (v : Int) : Py.insertSorted v l = insertInt l v := by
  induction l with
  | nil => rfl
  | cons x xs ih =>
    simp only [Py.insertSorted, insertInt, ih]
    by_cases h : v < x
    · have : ¬ x ≤ v := by omega
      simp [h, this]
    · have : x ≤ v := by omega
      simp [h, this]

theorem sorted_eq (l : List Int) : Py.sorted l = sortInt l := by
  unfold Py.sorted sortInt
  congr 1
  funext acc x
  exact insertSorted_eq acc x

/-- the inner loop of `bipartite_shift`: one `add_edge(u, 1 + (u - 1 + offset) % M)` per offset -/
theorem shift_inner (M : Nat) (hM : 0 < M) (u : Int) (c : Int × Int) (log : List (Int × Int)) (pat : List Int) :
    List.foldlM (fun (G : (Int × Int) × List (Int × Int)) (offset : Int) =>
        (Py.mod (u - 1 + offset) (M : Int)) >>= fun r3 => Except.ok (G.1, G.2 ++ [(u, 1 + r3)])) (c, log) pat =
      Except.ok (c, log ++ pat.map (fun o => (u, 1 + (u - 1 + o) % (M : Int)))) := by
  induction pat generalizing log with
  | nil => simp
  | cons o os ih =>
    rw [List.foldlM_cons, Py.mod_pos _ M hM, Py.ok_bind, Py.ok_bind, ih]
    simp

theorem shift_outer (M : Nat) (hM : 0 < M) (c : Int × Int) (log : List (Int × Int)) (pat : List Int) (us : List Nat) :
    List.foldlM (fun (G : (Int × Int) × List (Int × Int)) (u : Int) =>
        (List.foldlM (fun (G : (Int × Int) × List (Int × Int)) (offset : Int) =>
          (Py.mod (u - 1 + offset) (M : Int)) >>= fun r3 => Except.ok (G.1, G.2 ++ [(u, 1 + r3)])) G pat) >>=
          fun G => Except.ok G) (c, log) (ints us) =
      Except.ok (c, log ++ us.flatMap (fun (u : Nat) => pat.map (fun (o : Int) => ((u : Int), 1 + ((u : Int) - 1 + o) % (M : Int))))) := by
  induction us generalizing log with
  | nil => simp [ints]
  | cons u us ih =>
    simp only [ints, List.map_cons, List.foldlM_cons, Int.ofNat_eq_natCast] at ih ⊢
    rw [shift_inner M hM, Py.ok_bind, Py.ok_bind, ih]
    simp

end Cnfgen.GenDag
