/-
The finite pigeonhole principle in the index-range form used by the family corollaries.
-/
import Lemmas.C01Map
import Mathlib.Data.Fintype.Pigeonhole
namespace Cnfgen.Fam
open Cnfgen

theorem le_of_total_injective (m n : Nat) (R : Nat → Nat → Prop)
    (ht : ∀ u, 1 ≤ u → u ≤ m → ∃ v, 1 ≤ v ∧ v ≤ n ∧ R u v)
    (hi : ∀ v, 1 ≤ v → v ≤ n → ∀ u, 1 ≤ u → u ≤ m → ∀ u', 1 ≤ u' → u' ≤ m → R u v → R u' v → u = u') :
    m ≤ n := by
  by_contra hlt
  have hlt : n < m := by omega
  have hex : ∀ i : Fin m, ∃ v, 1 ≤ v ∧ v ≤ n ∧ R (i.val + 1) v := fun i => ht (i.val + 1) (by omega) (by omega)
  let g : Fin m → Fin n := fun i =>
    ⟨Classical.choose (hex i) - 1, by have := Classical.choose_spec (hex i); omega⟩
  obtain ⟨i, j, hij, hg⟩ := Fintype.exists_ne_map_eq_of_card_lt g (by simpa using hlt)
  have hi' := Classical.choose_spec (hex i)
  have hj' := Classical.choose_spec (hex j)
  have hv : Classical.choose (hex i) = Classical.choose (hex j) := by
    have := congrArg Fin.val hg
    simp only [g] at this; omega
  have := hi _ hi'.1 hi'.2.1 (i.val + 1) (by omega) (by omega) (j.val + 1) (by omega) (by omega) hi'.2.2
    (hv ▸ hj'.2.2)
  exact hij (Fin.ext (by omega))

end Cnfgen.Fam
