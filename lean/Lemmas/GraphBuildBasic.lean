/-
Helper lemmas for C15: ranges, sorting, the consistency `BipG.InvGB` that the C15 statements speak of, and what
`add_edge` calls do to a bipartite graph object (`BipG.Adds`: sides, the edges that were stored, consistency).  The
specification layer of the draw monad is Lemmas/GraphRun.lean.  No Mathlib.
-/
import CnfgenModel.Rand.GraphDraws
import CnfgenModel.Rand.BipSamplers
import CnfgenModel.Rand.Mods
import CnfgenModel.Graph.Build
import Lemmas.GraphRun
import Lemmas.Basic
import Lemmas.GraphInv
import Lemmas.InsertSorted
import Lemmas.Exc
namespace Cnfgen
open GRand

theorem rangeN_succ_left {a b : Nat} (h : a < b) : rangeN a b = a :: rangeN (a + 1) b := by
  rw [rangeN_eq_range', rangeN_eq_range']
  have : b - a = (b - (a + 1)) + 1 := by omega
  rw [this, List.range'_succ]

theorem rangeN_empty {a b : Nat} (h : b ≤ a) : rangeN a b = [] := by
  rw [rangeN_eq_range']; have : b - a = 0 := by omega
  rw [this]; rfl

theorem perm_sortNat (l : List Nat) : (sortNat l).Perm l := by
  have := InsSort.foldl_ins_perm (t := (· ≤ ·)) (ins := insertSorted) (fun _ => rfl) (fun _ _ _ => rfl) l []
  rwa [List.append_nil] at this

def natPair (e : Int × Int) : Nat × Nat := (e.1.toNat, e.2.toNat)

namespace BipG

/-- `right_degree(u)` of the code: number of right neighbours of the left vertex `u` -/
def leftDeg (G : BipG) (u : Nat) : Nat := (G.rnbrs u).length
/-- `left_degree(v)` of the code: number of left neighbours of the right vertex `v` -/
def rightDeg (G : BipG) (v : Nat) : Nat := (G.lnbrs v).length

/-- consistency of the object: the two adjacency tables have one row per vertex, edges are inside
the graph and stored once, and the length of every adjacency row is the number of stored edges
at that vertex.

`GB` / `_gb` = "graph build": the C15 statements assume just what the samplers need of a graph object —
`BipG.InvGB` here, `SimpleG.Sym` (GraphBuildClosed), `GRand.ViewOK` (GraphBuildMods) — which is less than the full
invariant `Inv` of `Lemmas/GraphInv.lean`; lemmas are named `…_gb` where `GraphInv` / `GraphNx` have one of the same
name about `Inv`.  Each of the three follows from `Inv` (`invGB_of_inv`, `sym_of_inv`, `viewOK_of_inv` in
Props/C16/BridgeC15.lean), so the C15 statements hold of every graph reachable by updates. -/
structure InvGB (G : BipG) : Prop where
  lrows : G.ladj.length = G.l + 1
  rrows : G.radj.length = G.r + 1
  inside : ∀ e ∈ G.edgeset, 1 ≤ e.1 ∧ e.1 ≤ G.l ∧ 1 ≤ e.2 ∧ e.2 ≤ G.r
  nodup : G.edgeset.Nodup
  ldeg : ∀ u, G.leftDeg u = G.edgeset.countP (fun e => e.1 == u)
  rdeg : ∀ v, G.rightDeg v = G.edgeset.countP (fun e => e.2 == v)

theorem hasEdge_nat (G : BipG) (u v : Nat) :
    G.hasEdge (u : Int) (v : Int) = true ↔ (u, v) ∈ G.edgeset := by
  simp [hasEdge_iff]

theorem inv_init_gb (l r : Nat) : InvGB (init l r) :=
  ⟨by simp [init], by simp [init], by simp [init], by simp [init],
    fun u => congrArg List.length (row_replicate (l + 1) u), fun v => congrArg List.length (row_replicate (r + 1) v)⟩

theorem inv_insertNew_gb {G : BipG} (hI : InvGB G) {a b : Nat} (ha : 1 ≤ a ∧ a ≤ G.l) (hb : 1 ≤ b ∧ b ≤ G.r)
    (hn : (a, b) ∉ G.edgeset) : InvGB (insertNew G a b) := by
  have hu : a < G.ladj.length := by rw [hI.lrows]; omega
  have hv : b < G.radj.length := by rw [hI.rrows]; omega
  refine ⟨by simp [insertNew, hI.lrows], by simp [insertNew, hI.rrows], ?_, List.nodup_cons.2 ⟨hn, hI.nodup⟩, ?_, ?_⟩
  · intro e he
    rcases List.mem_cons.1 he with rfl | he
    · exact ⟨ha.1, ha.2, hb.1, hb.2⟩
    · exact hI.inside e he
  · intro x
    show (row (G.ladj.modify a (insertSorted · b)) x).length = ((a, b) :: G.edgeset).countP _
    rw [row_modify, List.countP_cons, ← hI.ldeg x]
    by_cases hx : a = x
    · subst hx; rw [if_pos ⟨rfl, hu⟩, length_insertSorted]; simp [leftDeg, rnbrs, row]
    · rw [if_neg fun h => hx h.1]; simp [hx, leftDeg, rnbrs, row]
  · intro x
    show (row (G.radj.modify b (insertSorted · a)) x).length = ((a, b) :: G.edgeset).countP _
    rw [row_modify, List.countP_cons, ← hI.rdeg x]
    by_cases hx : b = x
    · subst hx; rw [if_pos ⟨rfl, hv⟩, length_insertSorted]; simp [rightDeg, lnbrs, row]
    · rw [if_neg fun h => hx h.1]; simp [hx, rightDeg, lnbrs, row]

/-- `G'` is `G` after `add_edge` calls that stored exactly the edges `new` (latest first).  Nothing is assumed of `G`:
the sides are kept, the edges that were stored are distinct and were not there, and consistency is kept if there was
any.  Every loop of `add_edge` calls says what it knows of `new`; one loop after another is `trans`. -/
structure Adds (G : BipG) (new : List (Nat × Nat)) (G' : BipG) : Prop where
  l : G'.l = G.l
  r : G'.r = G.r
  edgeset : G'.edgeset = new ++ G.edgeset
  nodup : new.Nodup
  fresh : ∀ e ∈ new, e ∉ G.edgeset
  inv : G.InvGB → G'.InvGB

namespace Adds
variable {G G₁ G' : BipG} {new n₁ n₂ : List (Nat × Nat)}

theorem refl (G : BipG) : G.Adds [] G := ⟨rfl, rfl, rfl, List.nodup_nil, nofun, id⟩

theorem trans (h₁ : G.Adds n₁ G₁) (h₂ : G₁.Adds n₂ G') : G.Adds (n₂ ++ n₁) G' := by
  have hsub : ∀ e, e ∈ n₁ ++ G.edgeset → e ∈ G₁.edgeset := fun e he => h₁.edgeset ▸ he
  refine ⟨h₂.l.trans h₁.l, h₂.r.trans h₁.r, by rw [h₂.edgeset, h₁.edgeset, List.append_assoc], ?_, fun e he hG => ?_,
    fun hI => h₂.inv (h₁.inv hI)⟩
  · exact List.nodup_append.2 ⟨h₂.nodup, h₁.nodup, fun a ha b hb hab =>
      h₂.fresh a ha (hsub a (List.mem_append_left _ (hab ▸ hb)))⟩
  · rcases List.mem_append.1 he with he | he
    · exact h₂.fresh e he (hsub e (List.mem_append_right _ hG))
    · exact h₁.fresh e he hG

theorem mem (h : G.Adds new G') {e : Nat × Nat} : e ∈ G'.edgeset ↔ e ∈ new ∨ e ∈ G.edgeset := by
  rw [h.edgeset, List.mem_append]

theorem mono (h : G.Adds new G') {e : Nat × Nat} (he : e ∈ G.edgeset) : e ∈ G'.edgeset := h.mem.2 (Or.inr he)

theorem numberOfEdges (h : G.Adds new G') : G'.numberOfEdges = new.length + G.numberOfEdges := by
  rw [BipG.numberOfEdges, h.edgeset, List.length_append]; rfl

theorem perm (h : G.Adds new G') {L : List (Nat × Nat)} (hL : L.Nodup) (hf : ∀ e ∈ L, e ∉ G.edgeset)
    (hm : ∀ e, e ∈ G'.edgeset ↔ e ∈ G.edgeset ∨ e ∈ L) : new.Perm L :=
  (List.perm_ext_iff_of_nodup h.nodup hL).2 fun e =>
    ⟨fun he => ((hm e).1 (h.mem.2 (Or.inl he))).resolve_left (h.fresh e he),
      fun he => (h.mem.1 ((hm e).2 (Or.inr he))).resolve_right (hf e he)⟩

end Adds

theorem addEdge_adds {G G' : BipG} {u v : Int} (h : G.addEdge u v = .ok G') :
    G.Adds (if (u.toNat, v.toNat) ∈ G.edgeset then [] else [(u.toNat, v.toNat)]) G' := by
  rcases addEdge_cases G u v with ⟨_, h1⟩ | ⟨_, hc, h1⟩ | ⟨hv, hc, h1⟩ <;> rw [h1] at h <;> cases h
  · rw [if_pos hc]; exact .refl _
  · rw [if_neg hc]
    have hv : 1 ≤ u ∧ u ≤ G.l ∧ 1 ≤ v ∧ v ≤ G.r := hv
    exact ⟨rfl, rfl, rfl, List.nodup_cons.2 ⟨List.not_mem_nil, List.nodup_nil⟩, fun e he => List.mem_singleton.1 he ▸ hc,
      fun hI => inv_insertNew_gb hI ⟨by omega, by omega⟩ ⟨by omega, by omega⟩ hc⟩

theorem addEdgesFrom_adds {G : BipG} {es : List (Int × Int)} (hv : ∀ e ∈ es, Valid G.l G.r e.1 e.2) :
    ∃ G' new, G.addEdgesFrom es = .ok G' ∧ G.Adds new G' ∧ ∀ p, p ∈ G'.edgeset ↔ p ∈ G.edgeset ∨ p ∈ es.map natPair :=
  have ⟨G', e, ⟨new, h⟩, m⟩ := foldlM_inserts (f := fun (g : BipG) (e : Int × Int) => g.addEdge e.1 e.2)
    (I := fun G₁ => ∃ new, G.Adds new G₁) (E := BipG.edgeset) (V := fun e => Valid G.l G.r e.1 e.2) (k := natPair)
    (fun ⟨_, h⟩ hv =>
      have ⟨G₂, h₂, _⟩ := addEdge_returns (h.l ▸ h.r ▸ hv)
      ⟨G₂, h₂, ⟨_, h.trans (addEdge_adds h₂)⟩, (mem_edgeset_addEdge h₂).2⟩) ⟨[], .refl G⟩ hv
  ⟨G', new, e, h, fun p => (m p).trans (or_congr_right (by simp only [List.mem_map, eq_comm]))⟩

end BipG

theorem foldlM_except_nil {α β} (f : β → α → Except Err β) (b : β) :
    ([] : List α).foldlM f b = .ok b := rfl

theorem foldlM_except_cons {α β} (f : β → α → Except Err β) (b : β) (x : α) (xs : List α) :
    (x :: xs).foldlM f b = (f b x >>= fun b' => xs.foldlM f b') := by
  simp [List.foldlM]

end Cnfgen
