/-
Generic facts about the loops the translator emits (`for … : out.append(…)`, nested) and about `range`.
-/
import CnfgenModel.Core.Py
import Lemmas.PyRt
-- nothing below needs it; `Lemmas/GenDag`, `Props/C03/GeneratedPeb`, `Props/C04/Generated` take Mathlib's simp set,
-- `Nat.cast_lt` and `Prod.mk.eta` from here
import Mathlib.Tactic.Linarith
namespace Cnfgen
namespace Py

/-- `for d in ds: for i in L(d): out.append(g(d, i))` -/
theorem foldl_foldl_append {α γ β : Type} (L : α → List γ) (g : α → γ → β) (ds : List α) (out : List β) :
    List.foldl (fun (out : List β) (d : α) => List.foldl (fun (out : List β) (i : γ) => out ++ [g d i]) out (L d)) out ds =
      out ++ ds.flatMap (fun d => (L d).map (g d)) := by
  induction ds generalizing out with
  | nil => simp
  | cons d ds ih =>
    rw [List.foldl_cons, foldl_append_map, ih, List.flatMap_cons, List.append_assoc]

theorem range_zero_toList (k : Nat) : Py.Range.toList ⟨0, (k : Int)⟩ = (List.range k).map Int.ofNat := by
  simp only [Py.Range.toList, rangeI, Int.sub_zero, Int.toNat_natCast]
  exact List.map_congr_left fun a _ => Int.zero_add a

theorem floordiv_two (a : Nat) : Py.floordiv (a : Int) 2 = .ok ((a / 2 : Nat) : Int) :=
  Py.floordiv_nat a 2 Nat.two_pos

theorem floordiv_neg_one (b : Nat) (hb : 0 < b) : Py.floordiv (-1) (b : Int) = .ok (-1) := by
  have hb' : (0 : Int) < (b : Int) := Int.natCast_pos.2 hb
  rw [Py.floordiv, if_neg (Int.ne_of_gt hb'), Int.fdiv_eq_ediv_of_nonneg _ (Int.le_of_lt hb'), Int.neg_one_ediv,
    Int.sign_eq_one_of_pos hb']

end Py
end Cnfgen
