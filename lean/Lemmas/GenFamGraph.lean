/-
Lemmas for the translated family generators that use the edge variables of a simple graph (`new_graph_edges`):
creation on the formula object, `e(u, None)` (the edges at a vertex: first those to smaller, then those to larger
neighbours).
-/
import Lemmas.GenFamRphp
import Lemmas.GenAuxBip
import Props.C11.GeneratedGraph
set_option linter.unusedSimpArgs false
namespace Cnfgen.GenFam
open Cnfgen Cnfgen.Vars Cnfgen.PyGen Cnfgen.GenVars Cnfgen.PyF Cnfgen.C11 Cnfgen.Fam

theorem graph_ids (nv : Nat) (B : BipG) :
    (graphSelf nv B).ids = ⟨(nv : Int) + 1, (nv : Int) + ((B.numberOfEdges : Nat) : Int) + 1⟩ := rfl

theorem add_variable_group_graph_eq (s : FState) (nv : Nat) (B : BipG) (hs : s.numvar = nv) :
    VariablesManager.add_variable_group_graph s (graphSelf nv B) =
      Except.ok { s with numvar := ((nv + B.numberOfEdges : Nat) : Int) } :=
  add_variable_group_eq s nv _ hs _ (graph_ids nv B)

/-- `new_graph_edges(G, label=…)` with a label that formats, on a graph object whose auxiliary graph is `B` -/
theorem new_graph_edges_eq (s : FState) (nv : Nat) (hs : s.numvar = nv) {G : SimpleG} {B : BipG}
    (hB : graphAux G = .ok B) :
    VariablesManager.new_graph_edges s (absGraph G) (Except.ok ()) =
      Except.ok (graphSelf nv B, { s with numvar := ((nv + B.numberOfEdges : Nat) : Int) }) := by
  unfold VariablesManager.new_graph_edges
  simp only []
  rw [hs, gen_graph_init_ok nv hB, Py.ok_bind, add_variable_group_graph_eq s nv B hs, Py.ok_bind]

/-- the model's `indices(w, None)` on a graph group whose auxiliary graph points upwards: the edges from smaller
neighbours, then those to larger ones (the filter of the loop `(w, w)` removes nothing) -/
theorem graphIndices_row {B : BipG} (h : B.WF) (hlt : ∀ a b, (a, b) ∈ B.edgeset → a < b) (w : Nat)
    (hw : (1 ≤ w ∧ w ≤ B.l) ∧ (1 ≤ w ∧ w ≤ B.r)) :
    graphIndices B [some (w : Int), none] =
      .ok ((B.lnbrs w).map (fun u => (u, w)) ++ (B.rnbrs w).map (fun v => (w, v))) := by
  have hw1 : (1 : Int) ≤ (w : Int) ∧ (w : Int) ≤ (B.l : Int) := by omega
  have hw2 : (1 : Int) ≤ (w : Int) ∧ (w : Int) ≤ (B.r : Int) := by omega
  have hf : ((B.rnbrs w).map (fun v => (w, v))).filter (fun e => decide ((e.2 : Int) ≠ (w : Int))) =
      (B.rnbrs w).map (fun v => (w, v)) := by
    apply List.filter_eq_self.2
    intro e he
    obtain ⟨v, hv, rfl⟩ := List.mem_map.1 he
    have := hlt w v ((h.mem_row _ _).1 hv)
    simp only [ne_eq, decide_eq_true_eq]; omega
  have ht : ¬ ¬ (True ∧ True) := by simp
  simp only [graphIndices, bipIndices, hw1, hw2, if_neg ht, Int.toNat_natCast, bind, Except.bind,
    pure, Except.pure, hf]

theorem graph_call_row (nv : Nat) {B : BipG} (h : B.WF) (hlt : ∀ a b, (a, b) ∈ B.edgeset → a < b) (w : Nat)
    (hw : (1 ≤ w ∧ w ≤ B.l) ∧ (1 ≤ w ∧ w ≤ B.r)) :
    GraphEdgesVariables.call (graphSelf nv B) [some (w : Int), none] =
      Except.ok (Sum.inr ((SMap.mk B (nv + 1)).col w ++ (SMap.mk B (nv + 1)).row w)) := by
  have hi : (Group.graph (nv + 1) B "").indices [some (w : Int), none] = .ok (pairList
      ((B.lnbrs w).map (fun u => (u, w)) ++ (B.rnbrs w).map (fun v => (w, v)))) :=
    congrArg (Except.map pairList) (graphIndices_row h hlt w hw)
  rw [gen_graph_call_eq_model nv h (fun a b hab => Nat.le_of_lt (hlt a b hab)), baseCall_many hi rfl]
  simp only [pairList, List.map_append, List.map_map, ints, SMap.col, SMap.row]
  refine congrArg (fun l => Except.ok (Sum.inr l)) (congr (congrArg _ ?_) ?_)
  · refine List.map_congr_left fun u hu => ?_
    have := hlt u w ((h.mem_col _ _).1 hu)
    show ((bipId B (nv + 1) (min u w) (max u w) : Nat) : Int) = _
    rw [Nat.min_eq_left (by omega), Nat.max_eq_right (by omega)]
    rfl
  · refine List.map_congr_left fun v hv => ?_
    have := hlt w v ((h.mem_row _ _).1 hv)
    show ((bipId B (nv + 1) (min w v) (max w v) : Nat) : Int) = _
    rw [Nat.min_eq_left (by omega), Nat.max_eq_right (by omega)]
    rfl

theorem graph_call_pair (nv : Nat) {B : BipG} (h : B.WF) (hlt : ∀ a b, (a, b) ∈ B.edgeset → a < b) (u v : Nat)
    (he : (min u v, max u v) ∈ B.edgeset) :
    GraphEdgesVariables.call (graphSelf nv B) [some (u : Int), some (v : Int)] =
      Except.ok (Sum.inl ((bipId B (nv + 1) (min u v) (max u v) : Nat) : Int)) := by
  have hmin : min (u : Int) (v : Int) = ((min u v : Nat) : Int) := by omega
  have hmax : max (u : Int) (v : Int) = ((max u v : Nat) : Int) := by omega
  have hi : (Group.graph (nv + 1) B "").indices [some (u : Int), some (v : Int)] = .ok [[min u v, max u v]] := by
    show (bipIndices B [some (min (u : Int) v), some (max (u : Int) v)]).map pairList = _
    rw [hmin, hmax, bipIndices_edge, Int.toNat_natCast, Int.toNat_natCast,
      if_pos ⟨Int.natCast_nonneg _, Int.natCast_nonneg _, he⟩]
    rfl
  rw [gen_graph_call_eq_model nv h (fun a b hab => Nat.le_of_lt (hlt a b hab)), baseCall_one hi rfl]
  show Except.ok (Sum.inl ((bipId B (nv + 1) (min (min u v) (max u v)) (max (min u v) (max u v)) : Nat) : Int)) = _
  rw [Nat.min_eq_left (by omega), Nat.max_eq_right (by omega)]

theorem graph_indices_row (nv : Nat) {B : BipG} (h : B.WF) (hlt : ∀ a b, (a, b) ∈ B.edgeset → a < b) (w : Nat)
    (hw : (1 ≤ w ∧ w ≤ B.l) ∧ (1 ≤ w ∧ w ≤ B.r)) :
    GraphEdgesVariables.indices (graphSelf nv B) [some (w : Int), none] =
      Except.ok (intPairs ((B.lnbrs w).map (fun u => (u, w)) ++ (B.rnbrs w).map (fun v => (w, v)))) := by
  rw [gen_graph_indices_eq_model, graphIndices_row h hlt w hw]
  rfl

end Cnfgen.GenFam
