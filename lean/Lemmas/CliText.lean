/-
Lemmas for the text a successful run writes (CnfgenModel/Cli/Text.lean, Props/C18/Text.lean):
a well-formed `Formula` renders to a well-formed CNF and to a pseudo-Boolean formula whose constraints are
`GoodPBC` (relation `>=` / `=`, literals non-zero and within `nvars`) — the hypotheses of the text round trips.
-/
import CnfgenModel.Cli.Text
import Lemmas.Outcome
import Lemmas.IOOpb
import Props.C10.Builders
namespace Cnfgen.Cli
open Cnfgen Cnfgen.Gen Cnfgen.IO

theorem ctext_normTerms_lits (Q : Int → Prop) (hneg : ∀ l, Q l → Q (-l)) (ts : List (Int × Int)) (v : Int)
    (h : ∀ t ∈ ts, Q t.2) : ∀ t ∈ (PB.normTerms ts v).1, Q t.2 := by
  induction ts generalizing v with
  | nil => simp [PB.normTerms]
  | cons t ts ih =>
    obtain ⟨c, l⟩ := t
    have hl : Q l := h (c, l) (by simp)
    have ih' := fun v => ih v (fun t ht => h t (by simp [ht]))
    unfold PB.normTerms
    by_cases hc : c < 0
    · simp only [hc, if_true]
      intro t ht
      rcases List.mem_cons.1 ht with rfl | ht
      · exact hneg l hl
      · exact ih' _ t ht
    · by_cases hz : c = 0
      · simp only [hz, if_true]
        exact ih' _
      · simp only [hc, if_false, hz]
        intro t ht
        rcases List.mem_cons.1 ht with rfl | ht
        · exact hl
        · exact ih' _ t ht

def ctext_InRange (n : Nat) (l : Int) : Prop := l ≠ 0 ∧ l.natAbs ≤ n

theorem ctext_inRange_neg (n : Nat) (l : Int) (h : ctext_InRange n l) : ctext_InRange n (-l) := by
  unfold ctext_InRange at *
  constructor
  · omega
  · rw [Int.natAbs_neg]; exact h.2

theorem ctext_normalize_good (n : Nat) (c : PBC) (hop : c.op ≠ .ne) (h : ∀ t ∈ c.terms, ctext_InRange n t.2) :
    GoodPBC n (PB.normalize c) := by
  obtain ⟨ts, o, v⟩ := c
  have hm : ∀ t ∈ ts.map (fun t => (-t.1, t.2)), ctext_InRange n t.2 := by
    intro t ht; simp only [List.mem_map] at ht; obtain ⟨t', ht', rfl⟩ := ht; exact h t' ht'
  cases o with
  | le => exact ⟨Or.inl rfl, ctext_normTerms_lits _ (ctext_inRange_neg n) _ _ hm⟩
  | lt => exact ⟨Or.inl rfl, ctext_normTerms_lits _ (ctext_inRange_neg n) _ _ hm⟩
  | ge => exact ⟨Or.inl rfl, ctext_normTerms_lits _ (ctext_inRange_neg n) _ _ h⟩
  | gt => exact ⟨Or.inl rfl, ctext_normTerms_lits _ (ctext_inRange_neg n) _ _ h⟩
  | eq => exact ⟨Or.inr rfl, ctext_normTerms_lits _ (ctext_inRange_neg n) _ _ h⟩
  | ne => exact absurd rfl hop

theorem ctext_card_good (n : Nat) (ls : List Int) (o : Op) (k : Int) (ho : o ≠ .ne)
    (h : ∀ l ∈ ls, ctext_InRange n l) : GoodPBC n (PB.card ls o k) := by
  unfold PB.card
  apply ctext_normalize_good n _ ho
  intro t ht
  simp only [PB.unit, List.mem_map] at ht
  obtain ⟨l, hl, rfl⟩ := ht
  exact h l hl

theorem ctext_ofClause_good (n : Nat) (cl : Clause) (h : ∀ l ∈ cl, ctext_InRange n l) :
    GoodPBC n (PBC.ofClause cl) := by
  refine ⟨Or.inl rfl, ?_⟩
  intro t ht
  simp only [PBC.ofClause, List.mem_map] at ht
  obtain ⟨l, hl, rfl⟩ := ht
  exact h l hl

theorem ctext_con_clauses (n : Nat) (c : Con) (h : ∀ l ∈ c.lits, ctext_InRange n l) :
    ∀ cl ∈ c.toCNF, ∀ l ∈ cl, ctext_InRange n l := by
  intro cl hcl l hl
  have hm := C10.constraint_mentions_only_given c cl hcl l hl
  simp only [C10.varsOf, List.mem_map] at hm
  obtain ⟨l', hl', he⟩ := hm
  have := h l' hl'
  unfold ctext_InRange at *
  constructor
  · intro h0; subst h0; simp at he; exact this.1 he
  · rw [← he]; exact this.2

theorem ctext_toCNF_wf (F : Formula) (h : F.WF) : F.toCNF.WF := by
  intro cl hcl
  simp only [Formula.toCNF, List.mem_flatMap] at hcl
  obtain ⟨c, hc, hcl⟩ := hcl
  exact ctext_con_clauses F.nvars c (h c hc) cl hcl

theorem ctext_con_good (n : Nat) (c : Con) (h : ∀ l ∈ c.lits, ctext_InRange n l) :
    ∀ p ∈ c.toOPB, GoodPBC n p := by
  intro p hp
  cases c with
  | clause cl =>
    simp only [Con.toOPB, List.mem_singleton] at hp
    subst hp
    exact ctext_ofClause_good n cl h
  | lin ls o k =>
    simp only [Con.toOPB] at hp
    cases o
    case ne =>
      simp only [PB.add, List.mem_map] at hp
      obtain ⟨cl, hcl, rfl⟩ := hp
      exact ctext_ofClause_good n cl (ctext_con_clauses n (.lin ls .ne k) h cl (by simpa [Con.toCNF, Linear.add] using hcl))
    all_goals
      simp only [PB.add, List.mem_singleton] at hp
      subst hp
      exact ctext_card_good n ls _ k (by simp) h
  | parity ls b =>
    simp only [Con.toOPB, PB.parity, List.mem_map] at hp
    obtain ⟨cl, hcl, rfl⟩ := hp
    exact ctext_ofClause_good n cl (ctext_con_clauses n (.parity ls b) h cl (by simpa [Con.toCNF] using hcl))
  | maj kind ls =>
    cases kind <;>
      simp only [Con.toOPB, PB.looseMajority, PB.looseMinority, PB.strictMajority, PB.strictMinority,
        List.mem_singleton] at hp <;> subst hp <;> exact ctext_card_good n ls _ _ (by simp) h

theorem ctext_toOPB_good (F : Formula) (h : F.WF) : ∀ p ∈ F.toOPB.constraints, GoodPBC F.toOPB.nvars p := by
  intro p hp
  simp only [Formula.toOPB, List.mem_flatMap] at hp
  obtain ⟨c, hc, hp⟩ := hp
  exact ctext_con_good F.nvars c (fun l hl => h c hc l hl) p hp

theorem ctext_evalCallF_some (g : SimpleG) (c : Call) (u : Except Err Unit) (h : evalCall c = some u) :
    ∃ r, evalCallF g c = some r ∧ forget r = u := by
  rwa [evalCall_eq_forget g c, Option.map_eq_some_iff] at h

end Cnfgen.Cli
