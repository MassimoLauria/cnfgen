/-
Lemmas for C15, random modifications: `add_random_missing_edges`, `split_random_edges`,
planted clique / biclique.  No Mathlib.
-/
import Lemmas.GraphBuildClosed
namespace Cnfgen
open GRand

namespace SimpleG

theorem addEdgesFrom_nil (G : SimpleG) : G.addEdgesFrom [] = .ok G := rfl

theorem removeEdge_present (G : SimpleG) (u v : Nat) (h : (u, v) ∈ G.edgeset) :
    (G.removeEdge u v).n = G.n ∧ (G.removeEdge u v).m = G.m - 1 ∧
    ∀ e, e ∈ (G.removeEdge u v).edgeset ↔ e ∈ G.edgeset ∧ e ≠ (u, v) ∧ e ≠ (v, u) := by
  unfold removeEdge
  rw [if_neg (by simp [(hasEdge_nat G u v).2 h])]
  simp only [Int.toNat_natCast]
  refine ⟨by trivial, by trivial, ?_⟩
  intro e
  simp [List.mem_filter]

theorem mem_availableSimple (G : SimpleG) (e : Nat × Nat) :
    e ∈ availableSimple G ↔ 1 ≤ e.1 ∧ e.1 < e.2 ∧ e.2 ≤ G.n ∧ e ∉ G.edgeset := by
  obtain ⟨a, b⟩ := e
  simp only [availableSimple, List.mem_flatMap, List.mem_map, List.mem_filter, mem_rangeN, Prod.mk.injEq]
  constructor
  · rintro ⟨u, hu, v, ⟨hv, hne⟩, rfl, rfl⟩
    refine ⟨by omega, by omega, by omega, ?_⟩
    intro hm
    have := (hasEdge_nat G u v).2 hm
    simp [this] at hne
  · rintro ⟨h1, h2, h3, h4⟩
    refine ⟨a, by omega, b, ⟨by omega, ?_⟩, rfl, rfl⟩
    cases hq : G.hasEdge (a : Int) (b : Int)
    · rfl
    · exact absurd ((hasEdge_nat G a b).1 hq) h4

end SimpleG

namespace GRand

theorem sparseSimple_run (goal : Int) (t : Nat) (G : SimpleG) (hle : (G.m : Int) ≤ goal) :
    Run (fun G' => (G'.m : Int) ≤ goal ∧ ∃ ins, G.Adds ins G') VE (sparseSimple goal t G) := by
  induction t generalizing G with
  | zero => exact Run.pure ⟨hle, [], .refl G⟩
  | succ t ih =>
    simp only [sparseSimple]
    refine Run.ite_of (fun _ => Run.pure ⟨hle, [], .refl G⟩) fun hlt =>
      ((sample_spec _ _).mono (fun _ _ => trivial) fun _ h => h.1).bind fun s _ => ?_
    split
    · refine Run.ite (ih G hle) ((Run.lift _ (fun _ => SimpleG.addEdge_adds) fun _ => SimpleG.addEdge_error).bind
        fun G1 h1 => (ih G1 ?_).mono (fun G' ⟨hg, ins, h⟩ => ⟨hg, _, h1.trans h⟩) fun _ h => h)
      have := h1.m
      split at this <;> simp only [List.length_nil, List.length_singleton] at this <;> omega
    · exact Run.stuck

/-- T-C15.2 (addedges, simple graph): whenever `add_random_missing_edges(G, m)` returns, the
graph has exactly `m` more edges, the same vertices, and no edge was lost — whatever was drawn,
whether the sparse loop sufficed or the dense fall-back was needed; the only exception is `ValueError` -/
theorem addMissingSimple_run (G : SimpleG) (m : Int) :
    Run (fun G' => 0 ≤ m ∧ ∃ ins, G.Adds ins G' ∧ (ins.length : Int) = m) VE (addMissingSimple G m) := by
  unfold addMissingSimple
  refine Run.ite_of (fun _ => Run.raise rfl) fun hm0 => ?_
  simp only
  refine Run.ite_of (fun _ => Run.raise rfl) fun hgoal =>
    (sparseSimple_run _ _ G (by omega)).bind fun G1 ⟨hg1, i₁, h₁⟩ => ?_
  have hm₁ := h₁.m
  refine Run.ite_of (fun hlt => ?_) fun hlt => Run.pure ⟨by omega, i₁, h₁, by omega⟩
  refine ((samplePairs_spec _ _).mono (fun _ h => h) fun _ h => h.1).bind fun es ⟨hlen, hnd, hmem⟩ =>
    Run.lift _ (fun G' hadd => ?_) fun _ => SimpleG.addEdgesFrom_error_gb
  have hav := fun e he => (SimpleG.mem_availableSimple G1 e).1 (hmem e he)
  obtain ⟨i₂, h₂, hsub, hall⟩ := SimpleG.addEdgesFrom_adds hadd
  rw [pairsToInt_natPair] at hsub hall
  -- a sampled pair is stored as it was called: it was not there, and its mirror image is not among the (upward) calls
  have : i₂.Perm es := (List.perm_ext_iff_of_nodup h₂.nodup hnd).2 fun e => ⟨hsub e, fun he =>
    ((h₂.mem e).1 (hall e he)).elim (fun hc => absurd hc (hav e he).2.2.2) fun hc => hc.elim id fun hc => by
      have := hav e he
      have := hav _ (hsub _ hc)
      simp only at this; omega⟩
  exact ⟨by omega, _, h₁.trans h₂, by rw [List.length_append, this.length_eq]; omega⟩

theorem sparseBip_run (goal : Int) (t : Nat) (G : BipG) (hle : (G.numberOfEdges : Int) ≤ goal) :
    Run (fun G' => (G'.numberOfEdges : Int) ≤ goal ∧ ∃ new, G.Adds new G') VE (sparseBip goal t G) := by
  induction t generalizing G with
  | zero => exact Run.pure ⟨hle, [], .refl G⟩
  | succ t ih =>
    simp only [sparseBip]
    have hs := fun pop => (sample_spec pop 1).mono (fun _ _ => trivial) fun _ h => h.1
    refine Run.ite_of (fun _ => Run.pure ⟨hle, [], .refl G⟩) fun hlt =>
      (hs _).bind fun su _ => (hs _).bind fun sv _ => ?_
    split
    · refine Run.ite (ih G hle) ((Run.lift _ (fun _ => BipG.addEdge_adds) fun e he => (BipG.addEdge_error he).1).bind
        fun G1 h1 => (ih G1 ?_).mono (fun G' ⟨hg, new, h⟩ => ⟨hg, _, h1.trans h⟩) fun _ h => h)
      have := h1.numberOfEdges
      split at this <;> simp only [List.length_nil, List.length_singleton] at this <;> omega
    · exact Run.stuck

theorem mem_availableBip (G : BipG) (e : Nat × Nat) :
    e ∈ availableBip G ↔ (1 ≤ e.1 ∧ e.1 ≤ G.l ∧ 1 ≤ e.2 ∧ e.2 ≤ G.r) ∧ e ∉ G.edgeset := by
  simp only [availableBip, List.mem_filter, mem_allPairs]
  constructor
  · rintro ⟨h1, h2⟩
    refine ⟨h1, fun hm => ?_⟩
    have := (BipG.hasEdge_nat G e.1 e.2).2 hm
    simp [this] at h2
  · rintro ⟨h1, h2⟩
    refine ⟨h1, ?_⟩
    cases hq : G.hasEdge (e.1 : Int) (e.2 : Int)
    · rfl
    · exact absurd ((BipG.hasEdge_nat G e.1 e.2).1 hq) h2

/-- T-C15.2 (addedges, bipartite graph) -/
theorem addMissingBip_run (G : BipG) (m : Int) :
    Run (fun G' => 0 ≤ m ∧ ∃ new, G.Adds new G' ∧ (new.length : Int) = m) VE (addMissingBip G m) := by
  unfold addMissingBip
  refine Run.ite_of (fun _ => Run.raise rfl) fun hm0 => ?_
  simp only
  refine Run.ite_of (fun _ => Run.raise rfl) fun hgoal =>
    (sparseBip_run _ _ G (by omega)).bind fun G1 ⟨hg1, n₁, h₁⟩ => ?_
  have hn₁ := h₁.numberOfEdges
  refine Run.ite_of (fun hlt => ?_) fun hlt => Run.pure ⟨by omega, n₁, h₁, by omega⟩
  refine ((samplePairs_spec _ _).mono (fun _ h => h) fun _ h => h.1).bind fun es ⟨hlen, hnd, hmem⟩ => ?_
  have hav := fun e he => (mem_availableBip G1 e).1 (hmem e he)
  obtain ⟨G', n₂, hadd, h₂, hm⟩ := addPairs_adds fun e he => (hav e he).1
  have := (h₂.perm hnd (fun e he => (hav e he).2) hm).length_eq
  exact Run.lift_ok hadd ⟨by omega, _, h₁.trans h₂, by rw [List.length_append]; omega⟩

theorem splitLoop_spec (es : List (Nat × Nat)) (x : Nat) (G G' : SimpleG)
    (h : splitLoop es x G = .ok G') (hnd : es.Nodup)
    (hes : ∀ e ∈ es, 1 ≤ e.1 ∧ e.1 < e.2 ∧ e.2 < x ∧ e ∈ G.edgeset)
    (hfresh : ∀ e ∈ G.edgeset, e.1 < x ∧ e.2 < x) (hm : es.length ≤ G.m) :
    G'.n = G.n ∧ G'.m = G.m + es.length := by
  induction es generalizing x G with
  | nil => simp [splitLoop, pure, Except.pure] at h; subst h; exact ⟨rfl, rfl⟩
  | cons e es ih =>
    obtain ⟨u, v⟩ := e
    simp only [splitLoop] at h
    rw [bind_ok] at h
    obtain ⟨G2, h2, h⟩ := h
    rw [bind_ok] at h
    obtain ⟨G3, h3, h⟩ := h
    have he := hes (u, v) (by simp)
    simp only at he
    simp only [List.length_cons] at hm
    obtain ⟨hn1, hm1, hmem1⟩ := SimpleG.removeEdge_present G u v he.2.2.2
    have hold : ∀ e ∈ (G.removeEdge u v).edgeset, e.1 < x ∧ e.2 < x := fun e he => hfresh e ((hmem1 e).1 he).1
    -- the two new edges u – x and x – v are stored: `x` is not yet the end of an edge
    have a2 := SimpleG.addEdge_adds h2
    simp only [Int.toNat_natCast, if_neg fun hc : (u, x) ∈ _ => Nat.lt_irrefl _ (hold _ hc).2] at a2
    have a3 := SimpleG.addEdge_adds h3
    rw [if_neg fun hc => by
      rcases (a2.mem _).1 hc with hq | hq | hq
      · exact Nat.lt_irrefl _ (hold _ hq).1
      · simp only [Int.toNat_natCast, List.mem_singleton, Prod.mk.injEq] at hq; omega
      · simp only [Int.toNat_natCast, List.mem_singleton, Prod.mk.injEq] at hq; omega] at a3
    have a := a2.trans a3
    simp only [Int.toNat_natCast, List.singleton_append] at a
    simp only [List.nodup_cons] at hnd
    have := ih (x + 1) G3 h hnd.2 (fun e' he' => by
      have h' := hes e' (by simp [he'])
      refine ⟨h'.1, h'.2.1, by omega,
        (a.mem e').2 (Or.inl ((hmem1 _).2 ⟨h'.2.2.2, fun hq => hnd.1 (hq ▸ he'), fun hq => ?_⟩))⟩
      have : e'.1 = v ∧ e'.2 = u := by rw [hq]; exact ⟨rfl, rfl⟩
      omega) (fun e' he' => by
      rcases (a.mem e').1 he' with hq | hq | hq
      · have := hold _ hq; omega
      · simp only [List.mem_cons, List.not_mem_nil, or_false] at hq
        rcases hq with rfl | rfl <;> simp only <;> omega
      · simp only [List.mem_cons, List.not_mem_nil, or_false, Prod.mk.injEq] at hq
        omega) (by have := a.m; simp only [List.length_cons, List.length_nil] at this; omega)
    have := a.m
    have := a.n
    simp only [List.length_cons, List.length_nil] at *
    omega

/-- what is assumed of the graph handed to `split_random_edges`: the edge view `G.edges()` lists
stored edges, lowest endpoint first, inside the graph (C16 proves this of every graph built
through the class API) -/
structure ViewOK (G : SimpleG) : Prop where
  view : ∀ e ∈ G.edges, 1 ≤ e.1 ∧ e.1 < e.2 ∧ e ∈ G.edgeset
  inside : ∀ e ∈ G.edgeset, e.1 ≤ G.n ∧ e.2 ≤ G.n

theorem splitLoop_error (es : List (Nat × Nat)) (x : Nat) (G : SimpleG) (e : Err)
    (h : splitLoop es x G = .error e) : e = .valueError := by
  induction es generalizing x G with
  | nil => simp [splitLoop, pure, Except.pure] at h
  | cons p es ih =>
    obtain ⟨u, v⟩ := p
    simp only [splitLoop] at h
    rw [bind_error] at h
    rcases h with h | ⟨G2, _, h⟩
    · exact SimpleG.addEdge_error h
    · rw [bind_error] at h
      rcases h with h | ⟨G3, _, h⟩
      · exact SimpleG.addEdge_error h
      · exact ih _ _ h

/-- T-C15.2 (splitedges): whenever `split_random_edges(G, k)` returns, exactly `k` vertices and
`k` edges have been added; the only exception is `ValueError` -/
theorem splitEdges_run (G : SimpleG) (k : Int) :
    Run (fun G' => ViewOK G → 0 ≤ k ∧ k ≤ G.m ∧ G'.n = G.n + k.toNat ∧ G'.m = G.m + k.toNat) VE (splitEdges G k) := by
  unfold splitEdges
  refine Run.ite_of (fun _ => Run.raise rfl) fun hk0 => Run.ite_of (fun _ => Run.raise rfl) fun hkm =>
    ((samplePairs_spec _ _).mono (fun _ h => h) fun _ h => h.1).bind fun tosplit ⟨hlen, hnd, hmem⟩ => ?_
  refine (Run.lift (Q := fun G1 => G1.n = G.n + k.toNat ∧ G1.m = G.m ∧ G1.edgeset = G.edgeset) _ (fun G1 hup => ?_)
    fun e h => ?_).bind fun G1 hG1 => Run.lift _ (fun G' hloop hV => ?_) (splitLoop_error _ _ _)
  · unfold SimpleG.updateVertexNumber at hup
    rw [if_neg (by omega)] at hup
    simp only [Except.ok.injEq] at hup
    subst hup
    refine ⟨?_, rfl, rfl⟩
    simp only
    have : ((G.n : Int) + k).toNat = G.n + k.toNat := by omega
    rw [this]; omega
  · unfold SimpleG.updateVertexNumber at h
    split at h <;> cases h
    rfl
  · have := splitLoop_spec tosplit (G.n + 1) G1 G' hloop hnd (by
      intro e he
      have hv := hV.view e (hmem e he)
      have hi := hV.inside e hv.2.2
      rw [hG1.2.2]
      exact ⟨hv.1, hv.2.1, by omega, hv.2.2⟩) (by
      intro e he; rw [hG1.2.2] at he; have := hV.inside e he; omega) (by omega)
    exact ⟨by omega, by omega, by omega, by omega⟩

theorem mem_combos_one (l : List Nat) (y : Nat) : [y] ∈ combos l 1 ↔ y ∈ l := by
  induction l with
  | nil => simp [combos]
  | cons x xs ih => simp [combos, ih]

theorem combos_two (l : List Nat) (v w : Nat) (hv : v ∈ l) (hw : w ∈ l) (hne : v ≠ w) :
    [v, w] ∈ combos l 2 ∨ [w, v] ∈ combos l 2 := by
  induction l with
  | nil => simp at hv
  | cons x xs ih =>
    simp only [combos, List.mem_append, List.mem_map]
    rcases List.mem_cons.1 hv with rfl | hv'
    · rcases List.mem_cons.1 hw with rfl | hw'
      · exact absurd rfl hne
      · left; left; exact ⟨[w], (mem_combos_one xs w).2 hw', rfl⟩
    · rcases List.mem_cons.1 hw with rfl | hw'
      · right; left; exact ⟨[v], (mem_combos_one xs v).2 hv', rfl⟩
      · rcases ih hv' hw' with h | h
        · left; right; exact h
        · right; right; exact h

theorem mem_cliqueCalls (l : List Nat) (v w : Nat) (h : [v, w] ∈ combos l 2) :
    ((v : Int), (w : Int)) ∈ cliqueCalls l := by
  simp only [cliqueCalls, List.mem_filterMap]
  exact ⟨[v, w], h, rfl⟩

/-- T-C15.2 (plantclique): whenever it returns, the sampled `k` vertices form a clique, the
vertex set is unchanged and no edge was lost; the only exception is `ValueError` -/
theorem plantClique_run (G : SimpleG) (k : Int) :
    Run (fun G' => ∃ ins, G.Adds ins G' ∧
      ∃ clique : List Nat, (clique.length : Int) = k ∧ clique.Nodup ∧ (∀ v ∈ clique, 1 ≤ v ∧ v ≤ G.n) ∧
        (G.Sym → ∀ v ∈ clique, ∀ w ∈ clique, v ≠ w → (v, w) ∈ G'.edgeset)) VE (plantClique G k) := by
  unfold plantClique
  refine Run.ite (Run.raise rfl) (((sample_spec _ _).mono (fun _ h => h) fun _ h => h.1).bind
    fun clique ⟨hlen, hnd, hmem⟩ => Run.lift _ (fun G' hadd => ?_) fun _ => SimpleG.addEdgesFrom_error_gb)
  obtain ⟨ins, h, _, hall⟩ := SimpleG.addEdgesFrom_adds hadd
  have hcall : ∀ v w, [v, w] ∈ combos clique 2 → (v, w) ∈ G'.edgeset := fun v w hc => by
    simpa [natPair] using hall _ (List.mem_map.2 ⟨_, mem_cliqueCalls clique v w hc, rfl⟩)
  refine ⟨ins, h, clique, hlen, hnd, fun v hv => by have := mem_rangeN.1 (hmem v hv); omega,
    fun hS v hv w hw hne => ?_⟩
  rcases combos_two clique v w hv hw hne with hc | hc
  · exact hcall v w hc
  · exact h.sym hS _ _ (hcall w v hc)

theorem mem_bicliqueCalls (left right : List Nat) (v w : Nat) (hv : v ∈ left) (hw : w ∈ right) :
    ((v : Int), (w : Int)) ∈ bicliqueCalls left right := by
  simp only [bicliqueCalls, List.mem_flatMap, List.mem_map]
  exact ⟨v, hv, w, hw, rfl⟩

/-- T-C15.2 (plantbiclique): whenever it returns, the sampled `a` left and `b` right vertices
are completely joined, on the same sides, and no edge was lost; the only exception is `ValueError` -/
theorem plantBiclique_run (G : BipG) (a b : Int) :
    Run (fun G' => ∃ new, G.Adds new G' ∧
      ∃ left right : List Nat, (left.length : Int) = a ∧ (right.length : Int) = b ∧ left.Nodup ∧ right.Nodup ∧
        (∀ v ∈ left, 1 ≤ v ∧ v ≤ G.l) ∧ (∀ w ∈ right, 1 ≤ w ∧ w ≤ G.r) ∧
        ∀ v ∈ left, ∀ w ∈ right, (v, w) ∈ G'.edgeset) VE (plantBiclique G a b) := by
  unfold plantBiclique
  have hs := fun pop k => (sample_spec pop k).mono (fun _ h => h) fun _ h => h.1
  refine Run.ite (Run.raise rfl) ((hs _ _).bind fun left ⟨hlenl, hndl, hmeml⟩ => (hs _ _).bind
    fun right ⟨hlenr, hndr, hmemr⟩ => ?_)
  have hl : ∀ v ∈ left, 1 ≤ v ∧ v ≤ G.l := fun v hv => by have := mem_rangeN.1 (hmeml v hv); omega
  have hr : ∀ w ∈ right, 1 ≤ w ∧ w ≤ G.r := fun w hw => by have := mem_rangeN.1 (hmemr w hw); omega
  obtain ⟨G', new, hadd, h, hm⟩ := BipG.addEdgesFrom_adds (G := G) (es := bicliqueCalls left right) fun e he => by
    simp only [bicliqueCalls, List.mem_flatMap, List.mem_map] at he
    obtain ⟨v, hv, w, hw, rfl⟩ := he
    have := hl v hv
    have := hr w hw
    exact ⟨by omega, by omega, by omega, by omega⟩
  exact Run.lift_ok hadd ⟨new, h, left, right, hlenl, hlenr, hndl, hndr, hl, hr, fun v hv w hw =>
    (hm _).2 (Or.inr (List.mem_map.2 ⟨_, mem_bicliqueCalls left right v w hv hw, by simp [natPair]⟩))⟩

end GRand
end Cnfgen
