/-
`RamseyWitnessFormula(G, k, s)` (`ramseyWitnessCore`, code after the fix of D25): what each block of constraints says
about the relation `i ↦ j :⇔ α (mapId 2 N i j)` and the selector `C` (variable 1), what that gives on the table
of the rows in use (`ramRows`), and that the literals lie inside `1 … 1 + max k s * N`.
-/
import CnfgenModel.Fam.Subgraph
import Lemmas.FamSubgraph
namespace Cnfgen
namespace Fam
namespace G2
open Vars

theorem clause3_holds (α : Assign) (c : Int) {a b : Nat} :
    Con.holds α (.clause [c, -((a : Nat) : Int), -((b : Nat) : Int)]) = true ↔
      (litHolds α c = true ∨ ¬ (α a = true ∧ α b = true)) := by
  simp only [Con.holds, clauseHolds, List.any_cons, List.any_nil, Bool.or_false, Bool.or_eq_true,
    litHolds_neg_natCast]
  cases litHolds α c <;> cases α a <;> cases α b <;> simp

theorem litHolds_edgeLit (α : Assign) (e : Bool) :
    litHolds α (if e = true then (1 : Int) else -1) = true ↔ α 1 = e := by
  cases e <;> simp [litHolds]

/-- the number of rows in use when the selector has the value `C` -/
def ramRows (k s : Nat) (C : Bool) : Nat := if C then k else s

theorem ramRows_le_max (k s : Nat) (C : Bool) : ramRows k s C ≤ max k s := by
  cases C <;> simp [ramRows] <;> omega

theorem ramseyGuard_spec (e : Bool) (i2 k s : Nat) :
    ramseyGuard e i2 k s = if i2 ≤ ramRows k s (!e) then some (if e = true then 1 else -1) else none := by
  cases e <;> simp [ramseyGuard, ramRows]

theorem ramseyGuarded_holds (α : Assign) (e : Bool) (i2 k s : Nat) {a b : Nat} :
    (∀ c ∈ ramseyGuarded (ramseyGuard e i2 k s) ((a : Nat) : Int) ((b : Nat) : Int), Con.holds α c = true) ↔
      (α a = true → α b = true → i2 ≤ ramRows k s (α 1) → e = α 1) := by
  -- the clause exists when `i2` is a row in use under the selector value `!e`, and then asks for the selector value `e`
  have key : (i2 ≤ ramRows k s (α 1) → e = α 1) ↔ (i2 ≤ ramRows k s (!e) → α 1 = e) := by
    cases e <;> cases α 1 <;> simp
  rw [key, ramseyGuard_spec]
  by_cases h : i2 ≤ ramRows k s (!e)
  · simp only [h, if_true, ramseyGuarded, List.mem_singleton, forall_eq, forall_const]
    rw [clause3_holds, litHolds_edgeLit]
    exact ⟨fun h1 pa pb => h1.resolve_right fun n => n ⟨pa, pb⟩,
      fun h1 => (Classical.em (α a = true ∧ α b = true)).imp (fun hr => h1 hr.1 hr.2) id⟩
  · simp [h, ramseyGuarded]

theorem mRow_holds (α : Assign) {st : Nat} (hst : 1 ≤ st) (N i : Nat) :
    clauseHolds α (mRow st N i) = true ↔ ∃ j, 1 ≤ j ∧ j ≤ N ∧ α (mapId st N i j) = true := by
  rw [mRow_eq, clauseHolds_map_pos α _ _ (fun v _ => mapId_pos hst)]
  simp only [mem_verts, and_assoc]

theorem ramseyCompleteCons_holds (α : Assign) (k s N : Nat) :
    (∀ c ∈ ramseyCompleteCons k s N, Con.holds α c = true) ↔
      ∀ i, 1 ≤ i → i ≤ ramRows k s (α 1) → ∃ j, 1 ≤ j ∧ j ≤ N ∧ α (mapId 2 N i j) = true := by
  rw [ramseyCompleteCons, List.forall_mem_map]
  simp only [mem_verts]
  have l1 : litHolds α 1 = α 1 := by simp [litHolds]
  have l2 : litHolds α (-1) = !α 1 := by simp [litHolds]
  have row : ∀ i, i ≤ max k s →
      (Con.holds α (if i ≤ min k s then Con.clause (mRow 2 N i) else
          if k > s then Con.clause (-1 :: mRow 2 N i) else Con.clause (1 :: mRow 2 N i)) = true ↔
        (i ≤ ramRows k s (α 1) → clauseHolds α (mRow 2 N i) = true)) := by
    intro i hM
    split
    · have : i ≤ ramRows k s (α 1) := by cases α 1 <;> simp [ramRows] <;> omega
      exact ⟨fun h _ => h, fun h => h this⟩
    · split
      · have h1 : ¬ i ≤ s := by omega
        have h2 : i ≤ k := by omega
        cases e : α 1 <;> simp [Con.holds, clauseHolds_cons, l2, e, ramRows, h1, h2]
      · have h1 : ¬ i ≤ k := by omega
        have h2 : i ≤ s := by omega
        cases e : α 1 <;> simp [Con.holds, clauseHolds_cons, l1, e, ramRows, h1, h2]
  constructor
  · intro h i h1 hi
    have hM : i ≤ max k s := Nat.le_trans hi (ramRows_le_max k s _)
    exact (mRow_holds α (by omega) N i).1 ((row i hM).1 (h i ⟨h1, hM⟩) hi)
  · rintro h i ⟨h1, hM⟩
    exact (row i hM).2 fun hi => (mRow_holds α (by omega) N i).2 (h i h1 hi)

theorem ramseyPairCons_holds (α : Assign) (G : SimpleG) (k s : Nat) (symbreak : Bool) (i i' a b : Nat) :
    (∀ c ∈ ramseyPairCons G k s symbreak (i, i') (a, b), Con.holds α c = true) ↔
      ((α (mapId 2 G.n i a) = true → α (mapId 2 G.n i' b) = true → i' ≤ ramRows k s (α 1) → adj G a b = α 1) ∧
       (α (mapId 2 G.n i b) = true → α (mapId 2 G.n i' a) = true →
          if symbreak then False else (i' ≤ ramRows k s (α 1) → adj G a b = α 1))) := by
  unfold ramseyPairCons
  simp only [List.forall_mem_append]
  unfold mlit
  rw [ramseyGuarded_holds α _ _ k s]
  cases symbreak
  · simp only [Bool.false_eq_true, if_false]
    rw [ramseyGuarded_holds α _ _ k s]
  · simp only [if_true, List.mem_singleton, forall_eq, Con.holds, clauseHolds_two_neg, not_and]

/-- with symmetry breaking `j' < j` is excluded on every pair of rows, in use or not -/
theorem ramseyEdgeCons_holds (α : Assign) {G : SimpleG} (hG : GoodGraph G) (k s : Nat) (symbreak : Bool) :
    (∀ c ∈ ramseyEdgeCons G k s symbreak, Con.holds α c = true) ↔
      ∀ i, 1 ≤ i → ∀ i', i < i' → i' ≤ max k s → ∀ j, 1 ≤ j → j ≤ G.n → ∀ j', 1 ≤ j' → j' ≤ G.n →
        α (mapId 2 G.n i j) = true → α (mapId 2 G.n i' j') = true →
          (symbreak = true → ¬ j' < j) ∧ (i' ≤ ramRows k s (α 1) → j ≠ j' → adj G j j' = α 1) := by
  simp only [ramseyEdgeCons, List.forall_mem_flatMap, Prod.forall, mem_pairs2_verts, and_imp,
    ramseyPairCons_holds]
  constructor
  · intro h i hi i' hii' hi' j hj1 hj2 j' hj1' hj2' r r'
    -- the decreasing placement of `j' < j`
    have dec := fun hlt => (h i i' hi hii' hi' j' j hj1' hlt hj2).2 r r'
    refine ⟨fun hsb hlt => by simpa [hsb] using dec hlt, fun hrow hne => ?_⟩
    rcases Nat.lt_or_gt_of_ne hne with hlt | hgt
    · exact (h i i' hi hii' hi' j j' hj1 hlt hj2').1 r r' hrow
    · have := dec hgt
      cases symbreak
      · rw [hG.symm]; exact this hrow
      · exact this.elim
  · intro h i i' hi hii' hi' a b ha hab hb
    refine ⟨fun r r' hrow => (h i hi i' hii' hi' a ha (by omega) b (by omega) hb r r').2 hrow (by omega), fun r r' => ?_⟩
    have := h i hi i' hii' hi' b (by omega) hb a ha (by omega) r r'
    cases symbreak
    · intro hrow; rw [hG.symm]; exact this.2 hrow (by omega)
    · exact this.1 rfl hab

theorem ramseyCompleteCons_in (k s N : Nat) :
    ConsIn 1 (2 + max k s * N - 1) (ramseyCompleteCons k s N) := by
  refine .map fun i hi => ?_
  have row := (mRow_in (st := 2) (N := N) (by omega) (mem_verts.1 hi).1 (mem_verts.1 hi).2).mono (lo' := 1)
    (by omega) (Nat.le_refl _)
  split
  · exact row
  · split
    · exact .neg (n := 1) (Nat.le_refl 1) ⟨Nat.le_refl 1, by omega⟩ row
    · exact .pos (n := 1) (Nat.le_refl 1) ⟨Nat.le_refl 1, by omega⟩ row

theorem ramseyGuarded_in {M N : Nat} (g : Option Int) (hg : ∀ c, g = some c → c = 1 ∨ c = -1)
    {a b a' b' : Nat} (ha1 : 1 ≤ a) (ha : a ≤ M) (hb1 : 1 ≤ b) (hb : b ≤ N)
    (ha1' : 1 ≤ a') (ha' : a' ≤ M) (hb1' : 1 ≤ b') (hb' : b' ≤ N) :
    ConsIn 1 (2 + M * N - 1) (ramseyGuarded g (mlit 2 N a b) (mlit 2 N a' b')) := by
  have tail := (clause_neg2_in (st := 2) (k := M) (by omega) ha1 ha hb1 hb ha1' ha' hb1' hb').mono (lo' := 1)
    (by omega) (Nat.le_refl _)
  cases g with
  | none => exact .nil
  | some x =>
    refine .cons ?_ .nil
    rcases hg x rfl with rfl | rfl
    · exact .pos (n := 1) (Nat.le_refl 1) ⟨Nat.le_refl 1, by omega⟩ tail
    · exact .neg (n := 1) (Nat.le_refl 1) ⟨Nat.le_refl 1, by omega⟩ tail

theorem ramseyGuard_pm (e : Bool) (i2 k s : Nat) : ∀ c, ramseyGuard e i2 k s = some c → c = 1 ∨ c = -1 := by
  intro c hc
  rw [ramseyGuard_spec] at hc
  split at hc
  · cases e <;> simp at hc <;> omega
  · simp at hc

theorem ramseyEdgeCons_in (G : SimpleG) (k s : Nat) (symbreak : Bool) :
    ConsIn 1 (2 + max k s * G.n - 1) (ramseyEdgeCons G k s symbreak) := by
  refine .flatMap fun i hi => .flatMap fun j hj => ?_
  obtain ⟨hi1, hii', hi'⟩ := mem_pairs2_verts.1 hi
  obtain ⟨ha, hab, hb⟩ := mem_pairs2_verts.1 hj
  exact (ramseyGuarded_in _ (ramseyGuard_pm _ _ _ _) hi1 (by omega) ha (by omega) (by omega) hi' (by omega) hb).append
    (.ite (fun _ => .cons ((clause_neg2_in (st := 2) (k := max k s) (by omega) hi1 (by omega) (by omega) hb (by omega) hi'
        ha (by omega)).mono (by omega) (Nat.le_refl _)) .nil)
      fun _ => ramseyGuarded_in _ (ramseyGuard_pm _ _ _ _) hi1 (by omega) (by omega) hb (by omega) hi' ha (by omega))

theorem ramseyWitnessCore_consIn (G : SimpleG) (k s : Nat) (symbreak : Bool) :
    ConsIn 1 (1 + max k s * G.n) (ramseyWitnessCore G k s symbreak).cons :=
  ((((ramseyCompleteCons_in k s G.n).append
    ((forceFunctional_in (st := 2) (max k s) G.n (by omega)).mono (by omega) (Nat.le_refl _))).append
    ((forceInjective_in (st := 2) (max k s) G.n (by omega)).mono (by omega) (Nat.le_refl _))).append
    (ramseyEdgeCons_in G k s symbreak)).mono (Nat.le_refl 1) (by omega)

/-- what the formula says about all `M = max k s` rows, in use or not -/
structure RamSide (M N : Nat) (symbreak : Bool) (α : Assign) : Prop where
  functional : ∀ i, 1 ≤ i → i ≤ M → ∀ j, 1 ≤ j → j ≤ N → ∀ j', 1 ≤ j' → j' ≤ N →
    α (mapId 2 N i j) = true → α (mapId 2 N i j') = true → j = j'
  injective : ∀ j, 1 ≤ j → j ≤ N → ∀ i, 1 ≤ i → i ≤ M → ∀ i', 1 ≤ i' → i' ≤ M →
    α (mapId 2 N i j) = true → α (mapId 2 N i' j) = true → i = i'
  increasing : symbreak = true → ∀ i, 1 ≤ i → ∀ i', i < i' → i' ≤ M → ∀ j, 1 ≤ j → j ≤ N → ∀ j', 1 ≤ j' → j' ≤ N →
    α (mapId 2 N i j) = true → α (mapId 2 N i' j') = true → j < j'

theorem ramsey_table {G : SimpleG} {r : Nat} {symbreak C : Bool} {l : List Nat} (hlen : l.length = r) (hnd : l.Nodup)
    (h : ∀ i, 1 ≤ i → ∀ i', i < i' → i' ≤ r →
      (symbreak = true → ¬ img l i' < img l i) ∧ (i' ≤ r → img l i ≠ img l i' → adj G (img l i) (img l i') = C)) :
    Shape symbreak l ∧ l.Pairwise (fun a b => adj G a b = C) := by
  have hne := (pairwise_img_iff hlen (· ≠ ·)).2 (List.nodup_iff_pairwise_ne.1 hnd)
  refine ⟨?_, (pairwise_img_iff hlen fun a b => adj G a b = C).1 fun i hi i' hii' hi' =>
    (h i hi i' hii' hi').2 hi' (hne i hi i' hii' hi')⟩
  cases symbreak
  · exact hnd
  · refine (pairwise_img_iff hlen (· < ·)).1 fun i hi i' hii' hi' => ?_
    have := (h i hi i' hii' hi').1 rfl
    have := hne i hi i' hii' hi'
    omega

end G2
end Fam
end Cnfgen
