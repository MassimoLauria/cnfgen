/-
Counting lemmas for xor-linear maps between spaces of Boolean vectors (used for the model count
of the Tseitin formula, `Lemmas/FamTseitinCount.lean`): every non-empty fibre of such a map is a
translate of the kernel, hence `2^|A| = |kernel| · |image|`.
-/
import Lemmas.BoolVec
import Mathlib.Data.Fintype.BigOperators
import Mathlib.Data.Fintype.Card
import Mathlib.Data.Finset.Card
import Mathlib.Algebra.BigOperators.Group.Finset.Basic
namespace Cnfgen
namespace Fam

section
variable {A B : Type} [Fintype A] [DecidableEq A] [Fintype B]

theorem xorHom_fiber_card (f : (A → Bool) → (B → Bool)) (hf : XorHom f) (x₀ : A → Bool) :
    (Finset.univ.filter (fun x => f x = f x₀)).card =
      (Finset.univ.filter (fun x => f x = bzero)).card := by
  apply Finset.card_nbij' (fun x => bxor x x₀) (fun x => bxor x x₀)
  · intro x hx
    simp only [Finset.coe_filter, Finset.mem_univ, true_and, Set.mem_ofPred_eq] at hx ⊢
    rw [hf, hx, bxor_self]
  · intro x hx
    simp only [Finset.coe_filter, Finset.mem_univ, true_and, Set.mem_ofPred_eq] at hx ⊢
    rw [hf, hx]
    funext b; simp [bxor, bzero]
  · intro x _; exact bxor_cancel x x₀
  · intro x _; exact bxor_cancel x x₀

theorem xorHom_card (f : (A → Bool) → (B → Bool)) (hf : XorHom f) :
    2 ^ Fintype.card A =
      (Finset.univ.filter (fun x => f x = bzero)).card * (Finset.univ.image f).card := by
  have h1 : Fintype.card (A → Bool) = 2 ^ Fintype.card A := by
    rw [Fintype.card_fun, Fintype.card_bool]
  rw [← h1, ← Finset.card_univ, Finset.card_eq_sum_card_image f Finset.univ]
  rw [Finset.sum_congr rfl (g := fun _ => (Finset.univ.filter (fun x => f x = bzero)).card)]
  · rw [Finset.sum_const, Nat.nsmul_eq_mul, Nat.mul_comm]
  · intro y hy
    obtain ⟨x₀, _, rfl⟩ := Finset.mem_image.1 hy
    exact xorHom_fiber_card f hf x₀

end
end Fam
end Cnfgen
