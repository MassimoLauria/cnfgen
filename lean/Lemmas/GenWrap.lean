/-
Helper definitions and lemmas for `Props/C11/GeneratedWrap.lean`: the translated classes that wrap / subclass
`BipartiteEdgesVariables` (`UnaryMappingVariables`: the same fields, hence the conversion `unaryToBip`;
`DiGraphEdgesVariables`, `GraphEdgesVariables`: an inner bipartite group) and `SingletonVariableGroup`.
The objects as the model describes them (`unarySelf`, `singleSelf`, `digraphSelf`, `graphSelf`), the one-element range
of the singleton group, `sorted` on a pair.
-/
import Lemmas.GenBip
namespace Cnfgen.GenVars
open Cnfgen Cnfgen.Vars Cnfgen.PyGen

/-- a `UnaryMappingVariables` object seen as an object of its superclass -/
def unaryToBip (s : UnaryMappingVariables) : BipartiteEdgesVariables := ⟨s.G, s.offset, s.formula, s.ids⟩

def bipToUnary (s : BipartiteEdgesVariables) : UnaryMappingVariables := ⟨s.G, s.offset, s.formula, s.ids⟩

@[simp] theorem bipToUnary_unaryToBip (s : UnaryMappingVariables) : bipToUnary (unaryToBip s) = s := rfl
@[simp] theorem unaryToBip_bipToUnary (s : BipartiteEdgesVariables) : unaryToBip (bipToUnary s) = s := rfl

theorem unaryToBip_injective {s t : UnaryMappingVariables} (h : unaryToBip s = unaryToBip t) : s = t := by
  have := congrArg bipToUnary h
  simpa using this

/-- `UnaryMappingVariables(F, G)` on a formula with `nv` variables, as the model describes it: the fields of
`bipSelf nv G` -/
def unarySelf (nv : Nat) (G : BipG) : UnaryMappingVariables := bipToUnary (bipSelf nv G)

@[simp] theorem unaryToBip_unarySelf (nv : Nat) (G : BipG) : unaryToBip (unarySelf nv G) = bipSelf nv G := rfl

theorem range_toList_range' (R : Nat) : Py.Range.toList ⟨1, (R : Int) + 1⟩ = ints (List.range' 1 R) := by
  rw [range_toList_nat, rangeN_eq_range', Nat.add_sub_cancel]

/-- `SingletonVariableGroup(F)` on a formula with `nv` variables: `ids = range(nv + 1, nv + 2)` -/
def singleSelf (nv : Nat) : SingletonVariableGroup := ⟨⟨nv⟩, ⟨(nv : Int) + 1, (nv : Int) + 2⟩⟩

theorem single_len (nv : Nat) : Py.Range.len (singleSelf nv).ids = 1 := Py.ids_len nv 1

theorem single_get (nv : Nat) (i : Int) :
    Py.Range.get (singleSelf nv).ids i =
      if i = 0 ∨ i = -1 then Except.ok ((nv : Int) + 1) else Except.error Err.indexError := by
  unfold Py.Range.get
  rw [single_len]
  show (if 0 ≤ i then (if i < 1 then Except.ok ((nv : Int) + 1 + i) else Except.error Err.indexError)
    else if -i ≤ 1 then Except.ok ((nv : Int) + 1 + 1 + i) else Except.error Err.indexError) = _
  by_cases h : i = 0 ∨ i = -1
  · rw [if_pos h]
    rcases h with rfl | rfl
    · rfl
    · exact congrArg Except.ok (Int.add_neg_cancel_right _ 1)
  · rw [if_neg h]
    by_cases h0 : 0 ≤ i
    · rw [if_pos h0, if_neg (by omega)]
    · rw [if_neg h0, if_neg (by omega)]

theorem single_getitem_zero (nv : Nat) : SingletonVariableGroup.getitem (singleSelf nv) 0 = Except.ok ((nv : Int) + 1) := by
  unfold SingletonVariableGroup.getitem
  rw [single_get]
  rfl

/-- `DiGraphEdgesVariables(F, D, sortby=…)` whose auxiliary bipartite graph is `B` -/
def digraphSelf (nv : Nat) (B : BipG) (succ : Bool) : DiGraphEdgesVariables :=
  ⟨(if succ then "succ" else "pred"), bipSelf nv B⟩

/-- `GraphEdgesVariables(F, G)` whose auxiliary bipartite graph is `B` -/
def graphSelf (nv : Nat) (B : BipG) : GraphEdgesVariables :=
  ⟨bipSelf nv B, ⟨nv⟩, ⟨(nv : Int) + 1, (nv : Int) + ((B.numberOfEdges : Nat) : Int) + 1⟩⟩

theorem digraphSelf_sortby_pred (nv : Nat) (B : BipG) (succ : Bool) :
    ((digraphSelf nv B succ).sortby = "pred") ↔ succ = false := by
  cases succ
  · simp [digraphSelf]
  · simp only [digraphSelf, if_true, Bool.true_eq_false, iff_false]; decide

theorem digraphSelf_pred (nv : Nat) (B : BipG) : (digraphSelf nv B false).sortby = "pred" := rfl

theorem digraphSelf_succ (nv : Nat) (B : BipG) : ¬ ((digraphSelf nv B true).sortby = "pred") := by
  show ¬ ("succ" = "pred")
  decide

theorem sorted_pair (a b : Int) : Py.sorted [a, b] = if b < a then [b, a] else [a, b] := by
  simp only [Py.sorted, List.foldl_cons, List.foldl_nil, Py.insertSorted]

theorem sorted_pair_nat (a b : Nat) : Py.sorted [(a : Int), (b : Int)] = [((min a b : Nat) : Int), ((max a b : Nat) : Int)] := by
  rw [sorted_pair]
  by_cases h : (b : Int) < (a : Int)
  · rw [if_pos h]
    have h' : b ≤ a := by omega
    rw [Nat.min_eq_right h', Nat.max_eq_left h']
  · rw [if_neg h]
    have h' : a ≤ b := by omega
    rw [Nat.min_eq_left h', Nat.max_eq_right h']

theorem intPairs_swap (l : List (Nat × Nat)) :
    (intPairs l).map (fun (z : Int × Int) => (z.2, z.1)) = intPairs (l.map (fun e => (e.2, e.1))) := by
  simp [intPairs, List.map_map, Function.comp_def]

end Cnfgen.GenVars
