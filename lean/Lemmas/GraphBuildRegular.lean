/-
Lemmas for C15: `bipartite_random_regular`.  The arrays `A`, `B` stay rearrangements of the
initial multisets; after iteration `i` the stored edges are exactly `A[0..i) × B[0..i)` position by
position.  Hence, when the loop ends, the left degree of `u` is the multiplicity of `u` in `A`.
No Mathlib.
-/
import Lemmas.GraphBuildSamplers
namespace Cnfgen
namespace GRand

theorem getD_eq_getElem' (A : List Nat) (i : Nat) (h : i < A.length) : A.getD i 0 = A[i] := by
  simp [List.getD_eq_getElem?_getD, List.getElem?_eq_getElem h]

theorem length_swapAt (A : List Nat) (i j : Nat) : (swapAt A i j).length = A.length := by
  simp [swapAt]

theorem count_swapAt (A : List Nat) (i j x : Nat) (hi : i < A.length) (hj : j < A.length) :
    (swapAt A i j).count x = A.count x := by
  unfold swapAt
  rw [getD_eq_getElem' A i hi, getD_eq_getElem' A j hj]
  rw [List.count_set (by simpa using hj), List.count_set hi]
  have hci : A[i] = x → 1 ≤ A.count x := fun h => List.one_le_count_iff.2 (h ▸ List.getElem_mem hi)
  have hcj : A[j] = x → 1 ≤ A.count x := fun h => List.one_le_count_iff.2 (h ▸ List.getElem_mem hj)
  by_cases hij : i = j
  · subst hij
    simp only [List.getElem_set_self, beq_iff_eq]
    by_cases h : A[i] = x
    · have := hci h; simp [h]; omega
    · simp [h]
  · rw [List.getElem_set_ne hij]
    simp only [beq_iff_eq]
    by_cases h1 : A[i] = x <;> by_cases h2 : A[j] = x <;> simp [h1, h2]
    · have := hci h1; omega
    · have := hci h1; omega

theorem mem_swapAt (A : List Nat) (i j x : Nat) (hi : i < A.length) (hj : j < A.length)
    (h : x ∈ swapAt A i j) : x ∈ A := by
  rw [← List.count_pos_iff] at h ⊢
  rwa [count_swapAt A i j x hi hj] at h

theorem getElem?_swapAt_left (A : List Nat) (i j : Nat) (hij : i ≤ j) (hj : j < A.length) :
    (swapAt A i j)[i]? = some (A.getD j 0) := by
  unfold swapAt
  simp only [List.getElem?_set, List.length_set]
  by_cases h : j = i
  · subst h; simp [hj]
  · have hi : i < A.length := by omega
    simp [h, hi]

theorem take_swapAt (A : List Nat) (i j : Nat) (hij : i ≤ j) (hj : j < A.length) :
    (swapAt A i j).take (i + 1) = A.take i ++ [A.getD j 0] := by
  rw [List.take_add_one, getElem?_swapAt_left A i j hij hj]
  congr 1
  unfold swapAt
  rw [List.take_set_of_le hij, List.take_set_of_le (Nat.le_refl i)]

theorem count_repeatRange (n k x : Nat) :
    (repeatRange n k).count x = if 1 ≤ x ∧ x ≤ n then k else 0 := by
  unfold repeatRange
  rw [List.count_flatten, List.map_replicate, List.sum_replicate_nat, (rangeN_nodup 1 (n + 1)).count]
  simp only [mem_rangeN]
  by_cases h : 1 ≤ x ∧ x ≤ n
  · rw [if_pos h, if_pos (by omega)]; simp
  · rw [if_neg h, if_neg (by omega)]; simp

theorem length_repeatRange (n k : Nat) : (repeatRange n k).length = k * n := by
  unfold repeatRange
  rw [List.length_flatten, List.map_replicate, List.sum_replicate_nat, length_rangeN]
  simp

theorem mem_repeatRange (n k x : Nat) (h : x ∈ repeatRange n k) : 1 ≤ x ∧ x ≤ n := by
  rw [← List.count_pos_iff, count_repeatRange] at h
  by_cases hh : 1 ≤ x ∧ x ≤ n
  · exact hh
  · rw [if_neg hh] at h; omega

theorem regularRetry_run (G : BipG) (A B : List Nat) (i hi : Int) (t : Nat) (hle : i ≤ hi) :
    Run (fun o => ∀ ea eb, o = some (ea, eb) → ∃ a b : Int, i ≤ a ∧ a ≤ hi ∧ i ≤ b ∧ b ≤ hi ∧
        ea = a.toNat ∧ eb = b.toNat ∧ G.hasEdge (A.getD ea 0) (B.getD eb 0) = false)
      (fun _ => False) (regularRetry G A B i hi t) := by
  induction t with
  | zero => exact Run.pure fun _ _ h => nomatch h
  | succ t ih =>
    simp only [regularRetry]
    have hr := (randint_spec i hi).mono (fun _ h => h) fun _ h => show False by omega
    refine hr.bind fun a ha => hr.bind fun b hb => Run.ite_of (fun hfree => Run.pure fun ea eb h => ?_) fun _ => ih
    simp only [Option.some.injEq, Prod.mk.injEq] at h
    obtain ⟨rfl, rfl⟩ := h
    exact ⟨a, b, ha.1, ha.2, hb.1, hb.2, rfl, rfl, by simpa using hfree⟩

theorem firstFreePair_some (G : BipG) (A B : List Nat) (i N ea eb : Nat)
    (h : firstFreePair G A B i N = some (ea, eb)) :
    i ≤ ea ∧ ea < N ∧ i ≤ eb ∧ eb < N ∧ G.hasEdge (A.getD ea 0) (B.getD eb 0) = false := by
  unfold firstFreePair at h
  obtain ⟨a, ha, h⟩ := List.exists_of_findSome?_eq_some h
  obtain ⟨b, hb, h⟩ := List.exists_of_findSome?_eq_some h
  rw [mem_rangeN] at ha hb
  split at h
  · rename_i hfree
    simp only [Option.some.injEq, Prod.mk.injEq] at h
    obtain ⟨rfl, rfl⟩ := h
    exact ⟨ha.1, ha.2, hb.1, hb.2, by simpa using hfree⟩
  · simp at h

theorem regularPick_run (tries N : Nat) (G : BipG) (A B : List Nat) (i : Nat) (hi : i < N) :
    Run (fun o => ∀ ea eb, o = some (ea, eb) →
        i ≤ ea ∧ ea < N ∧ i ≤ eb ∧ eb < N ∧ G.hasEdge (A.getD ea 0) (B.getD eb 0) = false)
      (fun _ => False) (regularPick tries N G A B i) := by
  unfold regularPick
  refine (regularRetry_run _ _ _ _ _ _ (by omega)).bind fun o ho => ?_
  cases o with
  | some p =>
    refine Run.pure fun ea eb h => ?_
    obtain ⟨a, b, ha1, ha2, hb1, hb2, rfl, rfl, hfree⟩ := ho ea eb h
    exact ⟨by omega, by omega, by omega, by omega, hfree⟩
  | none => exact Run.pure fun ea eb h => firstFreePair_some _ _ _ _ _ _ _ h

/-- invariant of `for i in range(l*d)` at the start of iteration `i` -/
structure RegInv (l r N : Nat) (A0 B0 : List Nat) (i : Nat) (G : BipG) (A B : List Nat) : Prop where
  inv : G.InvGB
  hl : G.l = l
  hr : G.r = r
  lenA : A.length = N
  lenB : B.length = N
  cntA : ∀ x, A.count x = A0.count x
  cntB : ∀ x, B.count x = B0.count x
  edges : G.edgeset = ((A.take i).zip (B.take i)).reverse

theorem RegInv.memA {l r N A0 B0 i G A B} (h : RegInv l r N A0 B0 i G A B) (x : Nat) :
    x ∈ A ↔ x ∈ A0 := by
  rw [← List.count_pos_iff, ← List.count_pos_iff, h.cntA]

theorem RegInv.memB {l r N A0 B0 i G A B} (h : RegInv l r N A0 B0 i G A B) (x : Nat) :
    x ∈ B ↔ x ∈ B0 := by
  rw [← List.count_pos_iff, ← List.count_pos_iff, h.cntB]

theorem RegInv.step {l r N A0 B0 i G A B} (hinv : RegInv l r N A0 B0 i G A B)
    (hA0 : ∀ x ∈ A0, 1 ≤ x ∧ x ≤ l) (hB0 : ∀ x ∈ B0, 1 ≤ x ∧ x ≤ r)
    (ea eb : Nat) (hea : i ≤ ea ∧ ea < N) (heb : i ≤ eb ∧ eb < N)
    (hfree : G.hasEdge (A.getD ea 0) (B.getD eb 0) = false) :
    ∃ G', G.addEdge (A.getD ea 0) (B.getD eb 0) = .ok G' ∧
      RegInv l r N A0 B0 (i + 1) G' (swapAt A i ea) (swapAt B i eb) := by
  have hAea : A.getD ea 0 ∈ A := by
    rw [getD_eq_getElem' A ea (by rw [hinv.lenA]; omega)]; exact List.getElem_mem _
  have hBeb : B.getD eb 0 ∈ B := by
    rw [getD_eq_getElem' B eb (by rw [hinv.lenB]; omega)]; exact List.getElem_mem _
  have ha := hA0 _ ((hinv.memA _).1 hAea)
  have hb := hB0 _ ((hinv.memB _).1 hBeb)
  rw [← hinv.hl] at ha
  rw [← hinv.hr] at hb
  have hc : (A.getD ea 0, B.getD eb 0) ∉ G.edgeset := fun hm => by
    rw [(BipG.hasEdge_nat G _ _).2 hm] at hfree; cases hfree
  obtain ⟨G', hadd, _⟩ := BipG.addEdge_returns (G := G) (u := A.getD ea 0) (v := B.getD eb 0)
    ⟨by omega, by omega, by omega, by omega⟩
  have h := BipG.addEdge_adds hadd
  simp only [Int.toNat_natCast, if_neg hc] at h
  refine ⟨G', hadd, h.inv hinv.inv, h.l.trans hinv.hl, h.r.trans hinv.hr,
    by rw [length_swapAt, hinv.lenA], by rw [length_swapAt, hinv.lenB], ?_, ?_, ?_⟩
  · intro x; rw [count_swapAt A i ea x (by rw [hinv.lenA]; omega) (by rw [hinv.lenA]; omega), hinv.cntA]
  · intro x; rw [count_swapAt B i eb x (by rw [hinv.lenB]; omega) (by rw [hinv.lenB]; omega), hinv.cntB]
  · rw [h.edgeset, hinv.edges, take_swapAt A i ea hea.1 (by rw [hinv.lenA]; omega),
      take_swapAt B i eb heb.1 (by rw [hinv.lenB]; omega)]
    rw [List.zip_append (by simp [hinv.lenA, hinv.lenB])]
    simp

theorem regularLoop_run (tries l r N : Nat) (A0 B0 : List Nat)
    (hA0 : ∀ x ∈ A0, 1 ≤ x ∧ x ≤ l) (hB0 : ∀ x ∈ B0, 1 ≤ x ∧ x ≤ r)
    (k i : Nat) (G : BipG) (A B : List Nat) (hinv : RegInv l r N A0 B0 i G A B) (hk : i + k = N) :
    Run (fun o => ∀ G', o = some G' → ∃ A' B', RegInv l r N A0 B0 N G' A' B') (fun _ => False)
      (regularLoop tries N k i G A B) := by
  induction k generalizing i G A B with
  | zero =>
    have : i = N := by omega
    subst this
    exact Run.pure fun G' h => Option.some.inj h ▸ ⟨A, B, hinv⟩
  | succ k ih =>
    simp only [regularLoop]
    refine (regularPick_run tries N G A B i (by omega)).bind fun o ho => ?_
    cases o with
    | none => exact Run.pure fun _ h => nomatch h
    | some p =>
      obtain ⟨ea, eb⟩ := p
      obtain ⟨h1, h2, h3, h4, hfree⟩ := ho ea eb rfl
      obtain ⟨G2, hadd2, hinv2⟩ := hinv.step hA0 hB0 ea eb ⟨h1, h2⟩ ⟨h3, h4⟩ hfree
      exact (Run.lift_ok (Q := (· = G2)) hadd2 rfl).bind fun G1 h1 => h1 ▸ ih (i + 1) G2 _ _ hinv2 (by omega)

theorem RegInv.degrees {l r N A0 B0 G A B} (h : RegInv l r N A0 B0 N G A B) :
    (∀ u, G.leftDeg u = A0.count u) ∧ (∀ v, G.rightDeg v = B0.count v) := by
  have hA : A.take N = A := by rw [← h.lenA]; exact List.take_length
  have hB : B.take N = B := by rw [← h.lenB]; exact List.take_length
  have hes := h.edges
  rw [hA, hB] at hes
  constructor
  · intro u
    rw [h.inv.ldeg, hes, List.countP_reverse, ← h.cntA, List.count_eq_countP]
    have : List.countP (fun e : Nat × Nat => e.1 == u) (A.zip B) =
        List.countP (· == u) ((A.zip B).map Prod.fst) := by
      rw [List.countP_map]; rfl
    rw [this, List.map_fst_zip (by rw [h.lenA, h.lenB]; exact Nat.le_refl _)]
  · intro v
    rw [h.inv.rdeg, hes, List.countP_reverse, ← h.cntB, List.count_eq_countP]
    have : List.countP (fun e : Nat × Nat => e.2 == v) (A.zip B) =
        List.countP (· == v) ((A.zip B).map Prod.snd) := by
      rw [List.countP_map]; rfl
    rw [this, List.map_snd_zip (by rw [h.lenA, h.lenB]; exact Nat.le_refl _)]

theorem regInv_init (l r N : Nat) (A0 B0 : List Nat) (hA : A0.length = N) (hB : B0.length = N) :
    RegInv l r N A0 B0 0 (BipG.init l r) A0 B0 :=
  ⟨BipG.inv_init_gb l r, rfl, rfl, hA, hB, fun _ => rfl, fun _ => rfl, by simp [BipG.init]⟩

/-- the arrays `A = list(L)*d`, `B = list(R)*(l*d//r)` both have `l*d` cells -/
theorem regular_arrays (l r d : Int) (hl0 : 0 ≤ l) (hr0 : 0 < r) (hd0 : 0 ≤ d) (hdiv : (l * d) % r = 0) :
    (repeatRange l.toNat d.toNat).length = (l * d).toNat ∧
    (repeatRange r.toNat (l * d / r).toNat).length = (l * d).toNat := by
  have hq0 : 0 ≤ l * d / r := Int.ediv_nonneg (Int.mul_nonneg hl0 hd0) (by omega)
  constructor
  · rw [length_repeatRange]
    have : ((d.toNat * l.toNat : Nat) : Int) = l * d := by
      rw [Int.natCast_mul, Int.toNat_of_nonneg hl0, Int.toNat_of_nonneg hd0, Int.mul_comm]
    omega
  · rw [length_repeatRange]
    have h1 : (((l * d / r).toNat * r.toNat : Nat) : Int) = l * d / r * r := by
      rw [Int.natCast_mul, Int.toNat_of_nonneg hq0, Int.toNat_of_nonneg (by omega)]
    have h2 : l * d / r * r = l * d := Int.ediv_mul_cancel (Int.dvd_of_emod_eq_zero hdiv)
    omega

/-- `bipartite_random_regular(l, r, d)`.  Whenever it returns, whatever was drawn (any number of restarts): every
left vertex has degree `d`, every right vertex has degree `l*d/r`.  Its exceptions: the documented `ValueError`
(negative argument, `d > r`, or `r > 0` does not divide `l*d`), and `RecursionError` — only for arguments that pass
all these tests with `r > 0`, when every attempt within the restart budget ended in a dead end (or the budget was
empty to begin with).  Nothing is ever raised from inside an attempt; `r = 0` returns. -/
theorem randomRegular_run (l r d : Int) (fuel : Nat) :
    Run (fun G => 0 ≤ l ∧ 0 ≤ r ∧ 0 ≤ d ∧ d ≤ r ∧ (0 < r → (l * d) % r = 0) ∧ G.InvGB ∧ G.l = l.toNat ∧ G.r = r.toNat ∧
        (∀ u, 1 ≤ u → u ≤ G.l → G.leftDeg u = d.toNat) ∧ (∀ v, 1 ≤ v → v ≤ G.r → G.rightDeg v = (l * d / r).toNat))
      (fun e =>
      (e = .valueError ∧ (l < 0 ∨ r < 0 ∨ d < 0 ∨ d > r ∨ (0 < r ∧ (l * d) % r ≠ 0))) ∨
      (e = .recursion ∧ (fuel = 0 ∨ (0 ≤ l ∧ 0 < r ∧ 0 ≤ d ∧ d ≤ r ∧ (l * d) % r = 0))))
      (randomRegular l r d fuel) := by
  induction fuel with
  | zero => exact Run.raise (Or.inr ⟨rfl, Or.inl rfl⟩)
  | succ fuel ih =>
    simp only [randomRegular]
    refine Run.ite_of (fun hneg => Run.raise (Or.inl ⟨rfl, by omega⟩)) fun hneg => ?_
    refine Run.ite_of (fun hdr => Run.raise (Or.inl ⟨rfl, by omega⟩)) fun hdr => ?_
    refine Run.ite_of (fun hdiv => Run.raise (Or.inl ⟨rfl, Or.inr (Or.inr (Or.inr (Or.inr hdiv)))⟩)) fun hdiv => ?_
    refine Run.ite_of (fun hr0 => Run.pure ?_) fun hr0 => ?_
    · -- r = 0: the empty graph on (l, 0)
      have hd : d = 0 := by omega
      refine ⟨by omega, by omega, by omega, by omega, by omega, BipG.inv_init_gb _ _, rfl, rfl, fun u _ _ => ?_,
        fun v h1 h2 => ?_⟩
      · rw [(BipG.inv_init_gb l.toNat r.toNat).ldeg u, hd]; simp [BipG.init]
      · simp only [BipG.init] at h2; omega
    have hl0 : 0 ≤ l := by omega
    have hr0' : 0 < r := by omega
    have hd0 : 0 ≤ d := by omega
    have hdiv' : (l * d) % r = 0 := Classical.not_not.1 fun hh => hdiv ⟨hr0', hh⟩
    obtain ⟨hNA, hNB⟩ := regular_arrays l r d hl0 hr0' hd0 hdiv'
    refine ((regularLoop_run _ l.toNat r.toNat _ _ _ (fun x hx => mem_repeatRange _ _ _ hx)
      (fun x hx => mem_repeatRange _ _ _ hx) _ 0 _ _ _ (regInv_init _ _ _ _ _ hNA hNB) (by omega)).mono
      (fun _ h => h) fun _ h => h.elim).bind fun o ho => ?_
    cases o with
    | none =>
      exact ih.mono (fun _ h => h) fun e he => he.elim (fun h => absurd h.2 (by omega))
        fun h => Or.inr ⟨h.1, Or.inr ⟨hl0, hr0', hd0, by omega, hdiv'⟩⟩
    | some G' =>
      obtain ⟨A', B', hfin⟩ := ho G' rfl
      obtain ⟨hdl, hdr'⟩ := hfin.degrees
      refine Run.pure ⟨hl0, by omega, hd0, by omega, fun _ => hdiv', hfin.inv, hfin.hl, hfin.hr, fun u h1 h2 => ?_,
        fun v h1 h2 => ?_⟩
      · rw [hdl u, count_repeatRange, if_pos ⟨h1, by rw [hfin.hl] at h2; exact h2⟩]
      · rw [hdr' v, count_repeatRange, if_pos ⟨h1, by rw [hfin.hr] at h2; exact h2⟩]

end GRand
end Cnfgen
