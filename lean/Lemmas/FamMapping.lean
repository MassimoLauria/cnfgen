/-
For the families built on a unary mapping `new_mapping(k, N)`: identifier arithmetic (`mapId`), what the
constraints of `force_{complete,functional,surjective,injective,nondecreasing}_mapping` say about the
relation `i ↦ j :⇔ α (mapId st N i j)`, and that their literals lie inside the group.
-/
import CnfgenModel.Fam.MapCons
import Lemmas.Linear
import Lemmas.C01Basic
namespace Cnfgen
namespace Fam
namespace G2
open Vars

theorem mem_verts {n v : Nat} : v ∈ verts n ↔ 1 ≤ v ∧ v ≤ n := mem_rangeN_one

theorem verts_pairwise (n : Nat) : (verts n).Pairwise (· < ·) := rangeN_pairwise _ _

theorem verts_nodup (n : Nat) : (verts n).Nodup := rangeN_nodup _ _

theorem verts_length (n : Nat) : (verts n).length = n := length_idx n

theorem length_le_of_nodup {n : Nat} {l : List Nat} (hnd : l.Nodup) (hr : ∀ v ∈ l, 1 ≤ v ∧ v ≤ n) :
    l.length ≤ n := by
  have := List.Nodup.length_le_of_subset hnd (l₂ := verts n) (fun v hv => mem_verts.2 (hr v hv))
  rwa [verts_length] at this

/-- `pairs2` is `pairs` of `Fam/Mapping.lean` (and `Fam.pairs2` of `Fam/DomSet.lean`, see `Lemmas/FamDomSet.lean`):
the model writes `itertools.combinations(·, 2)` once per family file -/
theorem pairs2_eq_pairs {α : Type} : ∀ l : List α, pairs2 l = pairs l
  | [] => rfl
  | x :: xs => by rw [pairs2, pairs, pairs2_eq_pairs xs]

theorem mem_pairs2_of_sorted {l : List Nat} (h : l.Pairwise (· < ·)) {a b : Nat} :
    (a, b) ∈ pairs2 l ↔ a ∈ l ∧ b ∈ l ∧ a < b := by
  rw [pairs2_eq_pairs]; exact mem_pairs_of_sorted h

theorem mem_pairs2_verts {n a b : Nat} : (a, b) ∈ pairs2 (verts n) ↔ 1 ≤ a ∧ a < b ∧ b ≤ n := by
  rw [mem_pairs2_of_sorted (verts_pairwise n), mem_verts, mem_verts]; omega

theorem mem_pairs2_range {n a b : Nat} : (a, b) ∈ pairs2 (List.range n) ↔ a < b ∧ b < n := by
  rw [mem_pairs2_of_sorted List.pairwise_lt_range, List.mem_range, List.mem_range]; omega

/-- `pairs2` is `itertools.combinations(·, 2)` of `Core/Iter.lean` -/
theorem pairs2_eq_combos {α : Type} (l : List α) :
    (pairs2 l).map (fun p => [p.1, p.2]) = combos l 2 :=
  pairs_eq_combos_of_eqns rfl (fun _ _ => rfl) l

theorem mapId_pos {st N u v : Nat} (h : 1 ≤ st) : 0 < mapId st N u v := by
  unfold mapId; omega

theorem litHolds_mlit (α : Assign) {st N u v : Nat} (h : 1 ≤ st) :
    litHolds α (mlit st N u v) = α (mapId st N u v) := litHolds_natCast α (mapId_pos h)

theorem litHolds_neg_mlit (α : Assign) {st N u v : Nat} :
    litHolds α (-(mlit st N u v)) = !α (mapId st N u v) := litHolds_neg_natCast α _

theorem mapId_lt {st k N u v : Nat} (hu1 : 1 ≤ u) (hu : u ≤ k) (hv1 : 1 ≤ v) (hv : v ≤ N) :
    st ≤ mapId st N u v ∧ mapId st N u v < st + k * N := by
  unfold mapId
  have h1 : (u - 1) * N + N ≤ k * N := by
    have : (u - 1 + 1) * N ≤ k * N := Nat.mul_le_mul_right N (by omega)
    rwa [Nat.add_mul, Nat.one_mul] at this
  omega

theorem mapId_div {st N u v : Nat} (hv1 : 1 ≤ v) (hv : v ≤ N) :
    (mapId st N u v - st) / N = u - 1 := by
  unfold mapId
  have hN : 0 < N := by omega
  have : st + (u - 1) * N + (v - 1) - st = N * (u - 1) + (v - 1) := by rw [Nat.mul_comm]; omega
  rw [this, Nat.mul_add_div hN, Nat.div_eq_of_lt (by omega)]; omega

theorem mapId_mod {st N u v : Nat} (hv1 : 1 ≤ v) (hv : v ≤ N) :
    (mapId st N u v - st) % N = v - 1 := by
  unfold mapId
  have : st + (u - 1) * N + (v - 1) - st = N * (u - 1) + (v - 1) := by rw [Nat.mul_comm]; omega
  rw [this, Nat.mul_add_mod, Nat.mod_eq_of_lt (by omega)]

theorem mapId_inj {st N u v u' v' : Nat} (hu : 1 ≤ u) (hu' : 1 ≤ u') (hv1 : 1 ≤ v) (hv : v ≤ N)
    (hv1' : 1 ≤ v') (hv' : v' ≤ N) (h : mapId st N u v = mapId st N u' v') : u = u' ∧ v = v' := by
  have d := mapId_div (st := st) (u := u) hv1 hv
  have m := mapId_mod (st := st) (u := u) hv1 hv
  rw [h, mapId_div hv1' hv'] at d
  rw [h, mapId_mod hv1' hv'] at m
  omega

theorem mapId_surj {st k N x : Nat} (h1 : st ≤ x) (h2 : x < st + k * N) :
    ∃ u v, 1 ≤ u ∧ u ≤ k ∧ 1 ≤ v ∧ v ≤ N ∧ mapId st N u v = x := by
  have hN : 0 < N := by
    rcases Nat.eq_zero_or_pos N with h | h
    · subst h; simp at h2; omega
    · exact h
  refine ⟨(x - st) / N + 1, (x - st) % N + 1, Nat.le_add_left _ _, ?_, Nat.le_add_left _ _, ?_, ?_⟩
  · have : (x - st) / N < k := by
      rw [Nat.div_lt_iff_lt_mul hN]; omega
    omega
  · have := Nat.mod_lt (x - st) hN; omega
  · unfold mapId
    have := Nat.div_add_mod (x - st) N
    simp only [Nat.add_sub_cancel]
    rw [Nat.mul_comm] at this
    omega

theorem mRow_eq (st N u : Nat) : mRow st N u = (verts N).map (fun v => ((mapId st N u v : Nat) : Int)) := rfl
theorem mCol_eq (st k N v : Nat) : mCol st k N v = (verts k).map (fun u => ((mapId st N u v : Nat) : Int)) := rfl

theorem forceComplete_holds (α : Assign) {st : Nat} (k N : Nat) (hst : 1 ≤ st) :
    (∀ c ∈ forceComplete st k N, Con.holds α c = true) ↔
      ∀ i, 1 ≤ i → i ≤ k → ∃ j, 1 ≤ j ∧ j ≤ N ∧ α (mapId st N i j) = true :=
  (List.all_eq_true.symm.trans (rows_clause_holds α _ _ (mapId st N) fun _ _ _ _ => mapId_pos hst)).trans
    (by simp only [mem_verts, and_imp, and_assoc])

theorem forceSurjective_holds (α : Assign) {st : Nat} (k N : Nat) (hst : 1 ≤ st) :
    (∀ c ∈ forceSurjective st k N, Con.holds α c = true) ↔
      ∀ j, 1 ≤ j → j ≤ N → ∃ i, 1 ≤ i ∧ i ≤ k ∧ α (mapId st N i j) = true :=
  (List.all_eq_true.symm.trans (rows_clause_holds α _ _ (fun j i => mapId st N i j) fun _ _ _ _ => mapId_pos hst)).trans
    (by simp only [mem_verts, and_imp, and_assoc])

theorem forceFunctional_holds (α : Assign) {st : Nat} (k N : Nat) (hst : 1 ≤ st) :
    (∀ c ∈ forceFunctional st k N, Con.holds α c = true) ↔
      ∀ i, 1 ≤ i → i ≤ k → ∀ j, 1 ≤ j → j ≤ N → ∀ j', 1 ≤ j' → j' ≤ N →
        α (mapId st N i j) = true → α (mapId st N i j') = true → j = j' :=
  (List.all_eq_true.symm.trans (rows_atMostOne_holds α _ _ (mapId st N) (fun _ _ _ _ => mapId_pos hst)
    fun _ _ => verts_nodup N)).trans (by simp only [mem_verts, and_imp])

theorem forceInjective_holds (α : Assign) {st : Nat} (k N : Nat) (hst : 1 ≤ st) :
    (∀ c ∈ forceInjective st k N, Con.holds α c = true) ↔
      ∀ j, 1 ≤ j → j ≤ N → ∀ i, 1 ≤ i → i ≤ k → ∀ i', 1 ≤ i' → i' ≤ k →
        α (mapId st N i j) = true → α (mapId st N i' j) = true → i = i' :=
  (List.all_eq_true.symm.trans (rows_atMostOne_holds α _ _ (fun j i => mapId st N i j) (fun _ _ _ _ => mapId_pos hst)
    fun _ _ => verts_nodup k)).trans (by simp only [mem_verts, and_imp])

theorem clause_two_neg_mlit (α : Assign) {st N a b c d : Nat} :
    Con.holds α (.clause [-(mlit st N a b), -(mlit st N c d)]) = true ↔
      ¬ (α (mapId st N a b) = true ∧ α (mapId st N c d) = true) :=
  clauseHolds_two_neg α

theorem forceNondecreasing_holds (α : Assign) {st : Nat} (k N : Nat) :
    (∀ c ∈ forceNondecreasing st k N, Con.holds α c = true) ↔
      ∀ i, 1 ≤ i → ∀ i', i < i' → i' ≤ k → ∀ j, 1 ≤ j → j ≤ N → ∀ j', 1 ≤ j' → j' ≤ N →
        α (mapId st N i j) = true → α (mapId st N i' j') = true → j ≤ j' := by
  simp only [forceNondecreasing, List.mem_flatMap, List.mem_filterMap, forall_exists_index, and_imp,
    Prod.forall, mem_pairs2_verts, mem_verts]
  constructor
  · intro h i hi i' hii' hi' j hj1 hj2 j' hj1' hj2' ha hb
    by_cases hlt : j ≤ j'
    · exact hlt
    · have := h _ i i' hi hii' hi' j hj1 hj2 j' hj1' hj2' (if_pos (by omega))
      rw [clause_two_neg_mlit α] at this
      exact absurd ⟨ha, hb⟩ this
  · intro h c i i' hi hii' hi' j hj1 hj2 j' hj1' hj2' hc
    split at hc
    · simp only [Option.some.injEq] at hc
      subst hc
      rw [clause_two_neg_mlit α]
      rintro ⟨ha, hb⟩
      have := h i hi i' hii' hi' j hj1 hj2 j' hj1' hj2' ha hb
      omega
    · simp at hc

theorem mapId_in {st k N u v : Nat} (hst : 1 ≤ st) (hu1 : 1 ≤ u) (hu : u ≤ k) (hv1 : 1 ≤ v) (hv : v ≤ N) :
    1 ≤ mapId st N u v ∧ st ≤ mapId st N u v ∧ mapId st N u v ≤ st + k * N - 1 := by
  have := mapId_lt (st := st) hu1 hu hv1 hv
  omega

theorem mRow_in {st k N u : Nat} (hst : 1 ≤ st) (hu1 : 1 ≤ u) (hu : u ≤ k) :
    LitsIn st (st + k * N - 1) (mRow st N u) :=
  .map fun _ hv =>
    have m := mapId_in hst hu1 hu (mem_verts.1 hv).1 (mem_verts.1 hv).2
    .pos m.1 m.2 .nil

theorem mCol_in {st k N v : Nat} (hst : 1 ≤ st) (hv1 : 1 ≤ v) (hv : v ≤ N) :
    LitsIn st (st + k * N - 1) (mCol st k N v) :=
  .map fun _ hu =>
    have m := mapId_in hst (mem_verts.1 hu).1 (mem_verts.1 hu).2 hv1 hv
    .pos m.1 m.2 .nil

theorem forceComplete_in {st : Nat} (k N : Nat) (hst : 1 ≤ st) :
    ConsIn st (st + k * N - 1) (forceComplete st k N) :=
  .map fun _ hu => mRow_in hst (mem_verts.1 hu).1 (mem_verts.1 hu).2

theorem forceFunctional_in {st : Nat} (k N : Nat) (hst : 1 ≤ st) :
    ConsIn st (st + k * N - 1) (forceFunctional st k N) :=
  .map fun _ hu => mRow_in hst (mem_verts.1 hu).1 (mem_verts.1 hu).2

theorem forceSurjective_in {st : Nat} (k N : Nat) (hst : 1 ≤ st) :
    ConsIn st (st + k * N - 1) (forceSurjective st k N) :=
  .map fun _ hv => mCol_in hst (mem_verts.1 hv).1 (mem_verts.1 hv).2

theorem forceInjective_in {st : Nat} (k N : Nat) (hst : 1 ≤ st) :
    ConsIn st (st + k * N - 1) (forceInjective st k N) :=
  .map fun _ hv => mCol_in hst (mem_verts.1 hv).1 (mem_verts.1 hv).2

theorem clause_neg2_in {st k N a b c d : Nat} (hst : 1 ≤ st) (ha1 : 1 ≤ a) (ha : a ≤ k) (hb1 : 1 ≤ b) (hb : b ≤ N)
    (hc1 : 1 ≤ c) (hc : c ≤ k) (hd1 : 1 ≤ d) (hd : d ≤ N) :
    LitsIn st (st + k * N - 1) (Con.clause [-(mlit st N a b), -(mlit st N c d)]).lits :=
  have m := mapId_in hst ha1 ha hb1 hb
  have m' := mapId_in hst hc1 hc hd1 hd
  .neg m.1 m.2 (.neg m'.1 m'.2 .nil)

theorem forceNondecreasing_in {st : Nat} (k N : Nat) (hst : 1 ≤ st) :
    ConsIn st (st + k * N - 1) (forceNondecreasing st k N) := by
  intro c hc
  simp only [forceNondecreasing, List.mem_flatMap, List.mem_filterMap, Prod.exists, mem_pairs2_verts,
    mem_verts] at hc
  obtain ⟨i, i', ⟨hi, hii', hi'⟩, j, ⟨hj1, hj2⟩, j', ⟨hj1', hj2'⟩, hc⟩ := hc
  split at hc
  · simp only [Option.some.injEq] at hc; subst hc
    exact clause_neg2_in hst hi (by omega) hj1 hj2 (by omega) hi' hj1' hj2'
  · simp at hc

end G2
end Fam
end Cnfgen
