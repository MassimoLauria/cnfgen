/-
C16, T-C16.4: an object satisfying the invariant is determined by its vertex count and its abstract edge
set (`Inv.ext`: every field; `edgeset`, a Python set, up to order), so sending it through networkx (modelled
as the vertex count and an edge list in any order / orientation) gives the same object back (`fromNx_listing`,
`fromNx_toNx`).
-/
import Lemmas.GraphSpec
namespace Cnfgen

namespace SimpleG

theorem Inv.ext {G G' : SimpleG} (h : Inv G) (h' : Inv G') (hn : G'.n = G.n)
    (he : ∀ e, e ∈ abs G' ↔ e ∈ abs G) :
    G'.m = G.m ∧ G'.adj = G.adj ∧ ∀ e, e ∈ G'.edgeset ↔ e ∈ G.edgeset := by
  have hes : ∀ u v, (u, v) ∈ G'.edgeset ↔ (u, v) ∈ G.edgeset := fun u v => by
    rw [h'.mem_edgeset_iff, h.mem_edgeset_iff, he]
  refine ⟨?_, ?_, fun ⟨u, v⟩ => hes u v⟩
  · rw [← h'.count, ← h.count]
    exact ((List.perm_ext_iff_of_nodup h'.abs_nodup h.abs_nodup).2 he).length_eq
  · have r' : Rep G'.adj G.n (fun u v => (u, v) ∈ G.edgeset) := by
      have := h'.rep; rw [hn] at this; exact this.congr hes
    exact r'.unique h.rep

theorem Spec.addEdges_valid (a : Spec) (es : List (Int × Int)) (hv : ∀ e ∈ es, Valid a.n e.1 e.2) :
    (a.addEdges es).2 = .ok ∧ (a.addEdges es).1.n = a.n ∧
    ∀ p, p ∈ (a.addEdges es).1.E ↔ p ∈ a.E ∨ ∃ e ∈ es, p = norm e.1.toNat e.2.toNat := by
  induction es generalizing a with
  | nil => simp [Spec.addEdges]
  | cons e es ih =>
    have hv1 := hv e (List.mem_cons_self ..)
    simp only [Spec.addEdges, if_pos hv1]
    have := ih (a.insert (norm e.1.toNat e.2.toNat))
      (fun x hx => by rw [Spec.insert_n]; exact hv x (List.mem_cons_of_mem _ hx))
    refine ⟨this.1, by rw [this.2.1, Spec.insert_n], fun p => ?_⟩
    rw [this.2.2, Spec.mem_insert]
    simp only [List.mem_cons, exists_eq_or_imp]
    constructor
    · rintro ((h1 | h1) | h1)
      · exact Or.inr (Or.inl h1)
      · exact Or.inl h1
      · exact Or.inr (Or.inr h1)
    · rintro (h1 | h1 | h1)
      · exact Or.inl (Or.inr h1)
      · exact Or.inl (Or.inl h1)
      · exact Or.inr h1

theorem Spec.addEdges_invalid (a : Spec) (es : List (Int × Int)) (hv : ¬ ∀ e ∈ es, Valid a.n e.1 e.2) :
    (a.addEdges es).2 = .raised .valueError := by
  induction es generalizing a with
  | nil => exact absurd (by simp) hv
  | cons e es ih =>
    simp only [Spec.addEdges]
    split
    · rename_i h1
      apply ih
      intro hall
      apply hv
      intro x hx
      rcases List.mem_cons.1 hx with rfl | hx
      · exact h1
      · have := hall x hx; rwa [Spec.insert_n] at this
    · rfl

/-- T-C16.4: rebuilding the object from ANY listing of its edges (any order, either
orientation, repetitions allowed — whatever networkx reports) gives the same object -/
theorem fromNx_listing {G : SimpleG} (h : Inv G) {es : List (Nat × Nat)}
    (hv : ∀ e ∈ es, 1 ≤ e.1 ∧ e.1 ≤ G.n ∧ 1 ≤ e.2 ∧ e.2 ≤ G.n ∧ e.1 ≠ e.2)
    (hes : ∀ p, p ∈ abs G ↔ ∃ e ∈ es, p = norm e.1 e.2) :
    ∃ G', fromNx (G.n, es) = .ok G' ∧ Inv G' ∧ G'.n = G.n ∧ G'.m = G.m ∧ G'.adj = G.adj ∧
      ∀ e, e ∈ G'.edgeset ↔ e ∈ G.edgeset := by
  obtain ⟨G', h1, h2, h3, h4⟩ := ofEdges_spec hv
  have hx := Inv.ext h h2 h3 (fun e => by rw [h4, hes])
  exact ⟨G', h1, h2, h3, hx.1, hx.2.1, hx.2.2⟩

/-- T-C16.4: `from_networkx(to_networkx(G))` is `G` -/
theorem fromNx_toNx {G : SimpleG} (h : Inv G) :
    ∃ G', fromNx (toNx G) = .ok G' ∧ Inv G' ∧ G'.n = G.n ∧ G'.m = G.m ∧ G'.adj = G.adj ∧
      ∀ e, e ∈ G'.edgeset ↔ e ∈ G.edgeset := by
  apply fromNx_listing h
  · intro e he
    have := h.edges_range (u := e.1) (v := e.2) he
    omega
  · intro p
    rw [← h.mem_edges'.trans mem_abs.symm]
    constructor
    · intro hp
      exact ⟨p, hp, (norm_of_le (Nat.le_of_lt (h.mem_edges'.1 hp).1)).symm⟩
    · rintro ⟨e, he, rfl⟩
      rw [norm_of_le (Nat.le_of_lt (h.mem_edges'.1 he).1)]; exact he

theorem toNx_spec {G : SimpleG} {a : Spec} (h : Refines G a) :
    (toNx G).1 = a.n ∧ (toNx G).2 = a.edges := ⟨h.n_eq, h.edges_eq⟩

end SimpleG

namespace DiG

theorem Inv.ext {G G' : DiG} (h : Inv G) (h' : Inv G') (hn : G'.n = G.n)
    (he : ∀ e, e ∈ G'.edgeset ↔ e ∈ G.edgeset) :
    G'.m = G.m ∧ G'.succ = G.succ ∧ G'.pred = G.pred ∧ G'.stillDag = G.stillDag := by
  refine ⟨?_, ?_, ?_, ?_⟩
  · rw [← h'.count, ← h.count]
    exact ((List.perm_ext_iff_of_nodup h'.nodup h.nodup).2 he).length_eq
  · have r' : Rep G'.succ G.n (fun u v => (u, v) ∈ G.edgeset) := by
      have := h'.succRep; rw [hn] at this; exact this.congr (fun u v => he (u, v))
    exact r'.unique h.succRep
  · have r' : Rep G'.pred G.n (fun v u => (u, v) ∈ G.edgeset) := by
      have := h'.predRep; rw [hn] at this; exact this.congr (fun v u => he (u, v))
    exact r'.unique h.predRep
  · rw [Bool.eq_iff_iff, h'.dag, h.dag]
    constructor
    · intro hh e hm; exact hh e ((he e).2 hm)
    · intro hh e hm; exact hh e ((he e).1 hm)

theorem Spec.addEdges_valid (a : Spec) (es : List (Int × Int)) (hv : ∀ e ∈ es, Valid a.n e.1 e.2) :
    (a.addEdges es).2 = .ok ∧ (a.addEdges es).1.n = a.n ∧
    ∀ p, p ∈ (a.addEdges es).1.E ↔ p ∈ a.E ∨ ∃ e ∈ es, p = (e.1.toNat, e.2.toNat) := by
  induction es generalizing a with
  | nil => simp [Spec.addEdges]
  | cons e es ih =>
    have hv1 := hv e (List.mem_cons_self ..)
    simp only [Spec.addEdges, if_pos hv1]
    have := ih (a.insert (e.1.toNat, e.2.toNat))
      (fun x hx => by rw [Spec.insert_n]; exact hv x (List.mem_cons_of_mem _ hx))
    refine ⟨this.1, by rw [this.2.1, Spec.insert_n], fun p => ?_⟩
    rw [this.2.2, Spec.mem_insert]
    simp only [List.mem_cons, exists_eq_or_imp]
    constructor
    · rintro ((h1 | h1) | h1)
      · exact Or.inr (Or.inl h1)
      · exact Or.inl h1
      · exact Or.inr (Or.inr h1)
    · rintro (h1 | h1 | h1)
      · exact Or.inl (Or.inr h1)
      · exact Or.inl (Or.inl h1)
      · exact Or.inr h1

theorem Spec.addEdges_invalid (a : Spec) (es : List (Int × Int)) (hv : ¬ ∀ e ∈ es, Valid a.n e.1 e.2) :
    (a.addEdges es).2 = .raised .valueError := by
  induction es generalizing a with
  | nil => exact absurd (by simp) hv
  | cons e es ih =>
    simp only [Spec.addEdges]
    split
    · rename_i h1
      apply ih
      intro hall
      apply hv
      intro x hx
      rcases List.mem_cons.1 hx with rfl | hx
      · exact h1
      · have := hall x hx; rwa [Spec.insert_n] at this
    · rfl

/-- T-C16.4: rebuilding from any listing of the edges (any order, repetitions allowed) -/
theorem fromNx_listing {G : DiG} (h : Inv G) {es : List (Nat × Nat)}
    (hes : ∀ p, p ∈ G.edgeset ↔ p ∈ es) :
    ∃ G', fromNx (G.n, es) = .ok G' ∧ Inv G' ∧ G'.n = G.n ∧ G'.m = G.m ∧ G'.succ = G.succ ∧
      G'.pred = G.pred ∧ G'.stillDag = G.stillDag ∧ ∀ e, e ∈ G'.edgeset ↔ e ∈ G.edgeset := by
  have hv : ∀ e ∈ es, 1 ≤ e.1 ∧ e.1 ≤ G.n ∧ 1 ≤ e.2 ∧ e.2 ≤ G.n :=
    fun e he => h.range e.1 e.2 ((hes e).2 he)
  obtain ⟨G', h1, h2, h3, h4⟩ := ofEdges_spec hv
  have he : ∀ e, e ∈ G'.edgeset ↔ e ∈ G.edgeset := fun e => by rw [h4, hes]
  have hx := Inv.ext h h2 h3 he
  exact ⟨G', h1, h2, h3, hx.1, hx.2.1, hx.2.2.1, hx.2.2.2, he⟩

/-- T-C16.4: `from_networkx(to_networkx(G))` is `G` (in particular `is_dag` is preserved) -/
theorem fromNx_toNx {G : DiG} (h : Inv G) :
    ∃ G', fromNx (toNx G) = .ok G' ∧ Inv G' ∧ G'.n = G.n ∧ G'.m = G.m ∧ G'.succ = G.succ ∧
      G'.pred = G.pred ∧ G'.stillDag = G.stillDag ∧ ∀ e, e ∈ G'.edgeset ↔ e ∈ G.edgeset :=
  fromNx_listing h (fun _ => h.mem_edges.symm)

theorem toNx_spec {G : DiG} {a : Spec} (h : Refines G a) :
    (toNx G).1 = a.n ∧ (toNx G).2 = a.edges := ⟨h.n_eq, h.edges_eq⟩

end DiG

namespace BipG

theorem Inv.ext {G G' : BipG} (h : Inv G) (h' : Inv G') (hl : G'.l = G.l) (hr : G'.r = G.r)
    (he : ∀ e, e ∈ G'.edgeset ↔ e ∈ G.edgeset) :
    G'.ladj = G.ladj ∧ G'.radj = G.radj ∧ G'.numberOfEdges = G.numberOfEdges := by
  refine ⟨?_, ?_, ?_⟩
  · have r' : Rep G'.ladj G.l (fun u v => (u, v) ∈ G.edgeset) := by
      have := h'.lRep; rw [hl] at this; exact this.congr (fun u v => he (u, v))
    exact r'.unique h.lRep
  · have r' : Rep G'.radj G.r (fun v u => (u, v) ∈ G.edgeset) := by
      have := h'.rRep; rw [hr] at this; exact this.congr (fun v u => he (u, v))
    exact r'.unique h.rRep
  · exact ((List.perm_ext_iff_of_nodup h'.nodup h.nodup).2 he).length_eq

theorem Spec.addEdges_valid (a : Spec) (es : List (Int × Int)) (hv : ∀ e ∈ es, Valid a.l a.r e.1 e.2) :
    (a.addEdges es).2 = .ok ∧ (a.addEdges es).1.l = a.l ∧ (a.addEdges es).1.r = a.r ∧
    ∀ p, p ∈ (a.addEdges es).1.E ↔ p ∈ a.E ∨ ∃ e ∈ es, p = (e.1.toNat, e.2.toNat) := by
  induction es generalizing a with
  | nil => simp [Spec.addEdges]
  | cons e es ih =>
    have hv1 := hv e (List.mem_cons_self ..)
    simp only [Spec.addEdges, if_pos hv1]
    have hlr := Spec.insert_lr a (e.1.toNat, e.2.toNat)
    have := ih (a.insert (e.1.toNat, e.2.toNat))
      (fun x hx => by rw [hlr.1, hlr.2]; exact hv x (List.mem_cons_of_mem _ hx))
    refine ⟨this.1, by rw [this.2.1, hlr.1], by rw [this.2.2.1, hlr.2], fun p => ?_⟩
    rw [this.2.2.2, Spec.mem_insert]
    simp only [List.mem_cons, exists_eq_or_imp]
    constructor
    · rintro ((h1 | h1) | h1)
      · exact Or.inr (Or.inl h1)
      · exact Or.inl h1
      · exact Or.inr (Or.inr h1)
    · rintro (h1 | h1 | h1)
      · exact Or.inl (Or.inr h1)
      · exact Or.inl (Or.inl h1)
      · exact Or.inr h1

theorem Spec.addEdges_invalid (a : Spec) (es : List (Int × Int))
    (hv : ¬ ∀ e ∈ es, Valid a.l a.r e.1 e.2) : (a.addEdges es).2 = .raised .valueError := by
  induction es generalizing a with
  | nil => exact absurd (by simp) hv
  | cons e es ih =>
    simp only [Spec.addEdges]
    split
    · rename_i h1
      apply ih
      intro hall
      apply hv
      intro x hx
      rcases List.mem_cons.1 hx with rfl | hx
      · exact h1
      · have := hall x hx
        have hlr := Spec.insert_lr a (e.1.toNat, e.2.toNat)
        rwa [hlr.1, hlr.2] at this
    · rfl

/-- how networkx may report the edge `(u, v)` of the bipartite object: `(u, v+l)` or, the
graph being undirected, `(v+l, u)` -/
def nxEdge (l : Nat) (x : (Nat × Nat) × Bool) : Nat × Nat :=
  if x.2 then (x.1.2 + l, x.1.1) else (x.1.1, x.1.2 + l)

theorem fromNxEdge_nxEdge {l : Nat} {x : (Nat × Nat) × Bool} (h1 : x.1.1 ≤ l) (h2 : 1 ≤ x.1.2) :
    fromNxEdge l (nxEdge l x) = .ok ((x.1.1 : Int), (x.1.2 : Int)) := by
  obtain ⟨⟨u, v⟩, b⟩ := x
  simp only at h1 h2
  cases b
  · have a1 : decide (u ≤ l) = true := decide_eq_true h1
    have a2 : decide (l < v + l) = true := decide_eq_true (by omega)
    simp [fromNxEdge, nxEdge, a1]
    omega
  · have a1 : decide (v + l ≤ l) = false := decide_eq_false (by omega)
    have a2 : decide (l < u) = false := decide_eq_false (by omega)
    simp [fromNxEdge, nxEdge, a1, a2]

/-- the fold of `fromNx` over such a report is `addEdgesFrom` on the underlying pairs -/
theorem fromNx_eq_addEdgesFrom (G : BipG) (l : Nat) (xs : List ((Nat × Nat) × Bool))
    (hv : ∀ x ∈ xs, x.1.1 ≤ l ∧ 1 ≤ x.1.2) :
    (xs.map (nxEdge l)).foldlM (fun g e => do let p ← fromNxEdge l e; g.addEdge p.1 p.2) G =
    G.addEdgesFrom (xs.map (fun x => ((x.1.1 : Int), (x.1.2 : Int)))) := by
  induction xs generalizing G with
  | nil => rfl
  | cons x xs ih =>
    have hx := hv x (List.mem_cons_self ..)
    simp only [List.map_cons, List.foldlM_cons, addEdgesFrom, fromNxEdge_nxEdge hx.1 hx.2]
    show (do let g ← G.addEdge (x.1.1 : Int) (x.1.2 : Int); _) = _
    cases G.addEdge (x.1.1 : Int) (x.1.2 : Int) with
    | error e => rfl
    | ok G' => exact ih G' (fun y hy => hv y (List.mem_cons_of_mem _ hy))

/-- T-C16.4: rebuilding from any listing of the edges (any order, either orientation of each
reported edge, repetitions allowed) -/
theorem fromNx_listing {G : BipG} (h : Inv G) {xs : List ((Nat × Nat) × Bool)}
    (hes : ∀ p, p ∈ G.edgeset ↔ p ∈ xs.map Prod.fst) :
    ∃ G', fromNx (G.l, G.r, xs.map (nxEdge G.l)) = .ok G' ∧ Inv G' ∧ G'.l = G.l ∧ G'.r = G.r ∧
      G'.ladj = G.ladj ∧ G'.radj = G.radj ∧ G'.numberOfEdges = G.numberOfEdges ∧
      ∀ e, e ∈ G'.edgeset ↔ e ∈ G.edgeset := by
  have hr : ∀ e ∈ xs.map Prod.fst, 1 ≤ e.1 ∧ e.1 ≤ G.l ∧ 1 ≤ e.2 ∧ e.2 ≤ G.r :=
    fun e he => h.range e.1 e.2 ((hes e).2 he)
  have hv : ∀ x ∈ xs, x.1.1 ≤ G.l ∧ 1 ≤ x.1.2 := fun x hx => by
    have := hr x.1 (List.mem_map.2 ⟨x, hx, rfl⟩); omega
  obtain ⟨G', h1, h2, h3, h3', h4⟩ := ofEdges_spec hr
  have he : ∀ e, e ∈ G'.edgeset ↔ e ∈ G.edgeset := fun e => by rw [h4, hes]
  have hx := Inv.ext h h2 h3 h3' he
  refine ⟨G', ?_, h2, h3, h3', hx.1, hx.2.1, hx.2.2, he⟩
  unfold fromNx
  simp only
  rw [fromNx_eq_addEdgesFrom _ _ _ hv, ← h1, ofEdges, List.map_map]
  rfl

/-- T-C16.4: `from_networkx(to_networkx(G))` is `G` -/
theorem fromNx_toNx {G : BipG} (h : Inv G) :
    ∃ G', fromNx (toNx G) = .ok G' ∧ Inv G' ∧ G'.l = G.l ∧ G'.r = G.r ∧
      G'.ladj = G.ladj ∧ G'.radj = G.radj ∧ G'.numberOfEdges = G.numberOfEdges ∧
      ∀ e, e ∈ G'.edgeset ↔ e ∈ G.edgeset := by
  have := fromNx_listing h (xs := G.edges.map (fun e => (e, false))) (fun p => by
    rw [List.map_map]
    have : (Prod.fst ∘ fun (e : Nat × Nat) => (e, false)) = id := by funext x; rfl
    rw [this, List.map_id]; exact h.mem_edges.symm)
  have e : (G.edges.map (fun e => (e, false))).map (nxEdge G.l) =
      G.edges.map (fun e => (e.1, e.2 + G.l)) := by
    rw [List.map_map]; apply List.map_congr_left; intro x _; simp [nxEdge]
  rw [e] at this
  exact this

theorem toNx_spec {G : BipG} {a : Spec} (h : Refines G a) :
    (toNx G).1 = a.l ∧ (toNx G).2.1 = a.r ∧ (toNx G).2.2 = a.edges.map (fun e => (e.1, e.2 + a.l)) := by
  refine ⟨h.l_eq, h.r_eq, ?_⟩
  simp only [toNx, h.edges_eq, h.l_eq]

end BipG

end Cnfgen
