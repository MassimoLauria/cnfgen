import CnfgenModel.Build.Constr
import Props.C04
namespace Cnfgen
open C04

theorem Con.toCNF_holds (α : Assign) (c : Con) (h : ∀ l ∈ c.lits, l ≠ 0) :
    (∀ cl ∈ c.toCNF, clauseHolds α cl = true) ↔ c.holds α = true := by
  cases c with
  | clause cl => exact List.forall_mem_singleton
  | lin ls o k => exact linear_holds α ls o k h
  | parity ls b => exact (parity_holds_const α ls b h).trans decide_eq_true_iff.symm
  | maj kind ls =>
    cases kind
    · exact (looseMajority_holds α ls h).trans decide_eq_true_iff.symm
    · exact (looseMinority_holds α ls h).trans decide_eq_true_iff.symm
    · exact (strictMajority_holds α ls h).trans decide_eq_true_iff.symm
    · exact (strictMinority_holds α ls h).trans decide_eq_true_iff.symm

theorem Con.toOPB_holds (α : Assign) (c : Con) (h : ∀ l ∈ c.lits, l ≠ 0) :
    (∀ p ∈ c.toOPB, p.holds α = true) ↔ c.holds α = true := by
  cases c with
  | clause cl => exact List.forall_mem_singleton.trans (by rw [ofClause_holds, Con.holds])
  | lin ls o k => exact opb_linear_holds α ls o k h
  | parity ls b =>
    simp only [Con.toOPB, PB.parity, List.forall_mem_map, ofClause_holds]
    exact (parity_holds_const α ls b h).trans decide_eq_true_iff.symm
  | maj kind ls =>
    cases kind
    · exact (opb_looseMajority_holds α ls h).trans decide_eq_true_iff.symm
    · exact (opb_looseMinority_holds α ls h).trans decide_eq_true_iff.symm
    · exact (opb_strictMajority_holds α ls h).trans decide_eq_true_iff.symm
    · exact (opb_strictMinority_holds α ls h).trans decide_eq_true_iff.symm

theorem Formula.toCNF_holds (α : Assign) (F : Formula) (h : F.WF) :
    F.toCNF.holds α = F.holds α := by
  rw [Bool.eq_iff_iff]
  simp only [CNF.holds, Formula.toCNF, Formula.holds, List.all_eq_true, List.mem_flatMap]
  constructor
  · intro hh c hc
    exact (Con.toCNF_holds α c (fun l hl => (h c hc l hl).1)).1 (fun cl hcl => hh cl ⟨c, hc, hcl⟩)
  · rintro hh cl ⟨c, hc, hcl⟩
    exact (Con.toCNF_holds α c (fun l hl => (h c hc l hl).1)).2 (hh c hc) cl hcl

theorem Formula.toOPB_holds (α : Assign) (F : Formula) (h : F.WF) :
    F.toOPB.holds α = F.holds α := by
  rw [Bool.eq_iff_iff]
  simp only [OPB.holds, Formula.toOPB, Formula.holds, List.all_eq_true, List.mem_flatMap]
  constructor
  · intro hh c hc
    exact (Con.toOPB_holds α c (fun l hl => (h c hc l hl).1)).1 (fun p hp => hh p ⟨c, hc, hp⟩)
  · rintro hh p ⟨c, hc, hp⟩
    exact (Con.toOPB_holds α c (fun l hl => (h c hc l hl).1)).2 (hh c hc) p hp

theorem Formula.WF.rendered {F : Formula} (h : F.WF) (α : Assign) :
    F.toCNF.holds α = F.holds α ∧ F.toOPB.holds α = F.holds α :=
  ⟨F.toCNF_holds α h, F.toOPB_holds α h⟩

theorem Formula.WF.unsat_rendered {F : Formula} (hwf : F.WF) (h : ¬ ∃ α, F.holds α = true) :
    (¬ ∃ α, F.toCNF.holds α = true) ∧ (¬ ∃ α, F.toOPB.holds α = true) :=
  ⟨fun ⟨α, hα⟩ => h ⟨α, (hwf.rendered α).1 ▸ hα⟩, fun ⟨α, hα⟩ => h ⟨α, (hwf.rendered α).2 ▸ hα⟩⟩

theorem Formula.WF.sat_rendered {F : Formula} (hwf : F.WF) (h : ∃ α, F.holds α = true) :
    (∃ α, F.toCNF.holds α = true) ∧ (∃ α, F.toOPB.holds α = true) :=
  h.elim fun α hα => ⟨⟨α, (hwf.rendered α).1.trans hα⟩, ⟨α, (hwf.rendered α).2.trans hα⟩⟩

theorem Formula.holds_append (n : Nat) (A B : List Con) (α : Assign) :
    (⟨n, A ++ B⟩ : Formula).holds α = true ↔
      (∀ c ∈ A, c.holds α = true) ∧ (∀ c ∈ B, c.holds α = true) := by
  simp only [Formula.holds, List.all_append, Bool.and_eq_true, List.all_eq_true]

theorem Con.atMostOne_holds (α : Assign) {β : Type} {l : List β} (hn : l.Nodup) (g : β → Nat) (hg : ∀ v ∈ l, 1 ≤ g v) :
    Con.holds α (.lin (l.map fun v => ((g v : Nat) : Int)) .le 1) = true ↔
      ∀ a ∈ l, ∀ b ∈ l, α (g a) = true → α (g b) = true → a = b := by
  rw [← count_map_pos_le_one α hn g hg, Con.holds, Op.denote, decide_eq_true_eq]
  exact Int.ofNat_le

/-- well-formedness of a clause, built up as `clauseHolds_cons/_append/_map_*` take the clause apart -/
def LitsIn (lo hi : Nat) (c : Clause) : Prop := ∀ l ∈ c, l ≠ 0 ∧ lo ≤ l.natAbs ∧ l.natAbs ≤ hi

theorem LitsIn.nil {lo hi : Nat} : LitsIn lo hi [] := fun _ h => absurd h List.not_mem_nil

theorem LitsIn.pos {lo hi n : Nat} {c : Clause} (h0 : 1 ≤ n) (h : lo ≤ n ∧ n ≤ hi) (hc : LitsIn lo hi c) :
    LitsIn lo hi ((n : Int) :: c) :=
  List.forall_mem_cons.2 ⟨by omega, hc⟩

theorem LitsIn.neg {lo hi n : Nat} {c : Clause} (h0 : 1 ≤ n) (h : lo ≤ n ∧ n ≤ hi) (hc : LitsIn lo hi c) :
    LitsIn lo hi (-(n : Int) :: c) :=
  List.forall_mem_cons.2 ⟨by omega, hc⟩

theorem LitsIn.negLit {lo hi : Nat} {l : Int} {c : Clause} (h : l ≠ 0 ∧ lo ≤ l.natAbs ∧ l.natAbs ≤ hi)
    (hc : LitsIn lo hi c) : LitsIn lo hi (-l :: c) :=
  List.forall_mem_cons.2 ⟨by omega, hc⟩

theorem LitsIn.subset {lo hi : Nat} {a b : Clause} (h : LitsIn lo hi b) (hs : a ⊆ b) : LitsIn lo hi a :=
  fun l hl => h l (hs hl)

theorem LitsIn.append {lo hi : Nat} {a b : Clause} (ha : LitsIn lo hi a) (hb : LitsIn lo hi b) : LitsIn lo hi (a ++ b) :=
  List.forall_mem_append.2 ⟨ha, hb⟩

theorem LitsIn.map {β : Type} {lo hi : Nat} {l : List β} {f : β → Int} (h : ∀ b ∈ l, LitsIn lo hi [f b]) :
    LitsIn lo hi (l.map f) :=
  List.forall_mem_map.2 fun b hb => h b hb _ (List.mem_singleton_self _)

theorem LitsIn.mono {lo hi lo' hi' : Nat} {c : Clause} (h : LitsIn lo hi c) (h1 : lo' ≤ lo) (h2 : hi ≤ hi') :
    LitsIn lo' hi' c := fun l hl =>
  have := h l hl
  ⟨this.1, Nat.le_trans h1 this.2.1, Nat.le_trans this.2.2 h2⟩

namespace Fam.G2

def ConsIn (lo hi : Nat) (cs : List Con) : Prop :=
  ∀ c ∈ cs, ∀ l ∈ c.lits, l ≠ 0 ∧ lo ≤ l.natAbs ∧ l.natAbs ≤ hi

theorem ConsIn.append {lo hi : Nat} {a b : List Con} (ha : ConsIn lo hi a) (hb : ConsIn lo hi b) :
    ConsIn lo hi (a ++ b) := by
  intro c hc; rcases List.mem_append.1 hc with h | h
  · exact ha c h
  · exact hb c h

theorem ConsIn.nil {lo hi : Nat} : ConsIn lo hi [] := by intro c hc; simp at hc

theorem ConsIn.mono {lo hi lo' hi' : Nat} {a : List Con} (h : ConsIn lo hi a) (h1 : lo' ≤ lo) (h2 : hi ≤ hi') :
    ConsIn lo' hi' a := by
  intro c hc l hl; have := h c hc l hl; omega

/-- the form `Formula.WF` asks for -/
theorem ConsIn.wf {lo hi N : Nat} {cs : List Con} (h : ConsIn lo hi cs) (hN : hi ≤ N) :
    ∀ c ∈ cs, ∀ l ∈ c.lits, l ≠ 0 ∧ l.natAbs ≤ N :=
  fun c hc l hl => ⟨(h c hc l hl).1, Nat.le_trans (h c hc l hl).2.2 hN⟩

theorem wf_of_consIn {F : Formula} {lo : Nat} (h : ConsIn lo F.nvars F.cons) : F.WF := h.wf (Nat.le_refl _)

theorem ConsIn.cons {lo hi : Nat} {c : Con} {cs : List Con}
    (h : LitsIn lo hi c.lits) (ht : ConsIn lo hi cs) : ConsIn lo hi (c :: cs) := by
  intro c' hc
  rcases List.mem_cons.1 hc with rfl | hc
  · exact h
  · exact ht c' hc

theorem ConsIn.map {β : Type} {lo hi : Nat} {l : List β} {f : β → Con}
    (h : ∀ b ∈ l, LitsIn lo hi (f b).lits) : ConsIn lo hi (l.map f) := by
  intro c hc
  obtain ⟨b, hb, rfl⟩ := List.mem_map.1 hc
  exact h b hb

theorem ConsIn.flatMap {β : Type} {lo hi : Nat} {l : List β} {f : β → List Con}
    (h : ∀ b ∈ l, ConsIn lo hi (f b)) : ConsIn lo hi (l.flatMap f) := by
  intro c hc
  obtain ⟨b, hb, hc⟩ := List.mem_flatMap.1 hc
  exact h b hb c hc

theorem ConsIn.of_wf {β : Type} {N : Nat} {l : List β} {f : β → Con}
    (h : ∀ b ∈ l, ∀ x ∈ (f b).lits, x ≠ 0 ∧ x.natAbs ≤ N) : ConsIn 0 N (l.map f) :=
  .map fun b hb x hx => ⟨(h b hb x hx).1, Nat.zero_le _, (h b hb x hx).2⟩

theorem ConsIn.ite {lo hi : Nat} {p : Prop} [Decidable p] {a b : List Con} (ha : p → ConsIn lo hi a)
    (hb : ¬ p → ConsIn lo hi b) : ConsIn lo hi (if p then a else b) := by
  split
  · exact ha ‹_›
  · exact hb ‹_›

end Fam.G2

end Cnfgen
