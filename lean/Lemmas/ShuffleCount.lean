/-
C09 — equality of model counts (the only part of the C09 lemmas that needs Mathlib: `Fintype.card`).
-/
import Lemmas.Shuffle
import Mathlib.Data.Fintype.Card
import Mathlib.Data.Fintype.Pi
namespace Cnfgen.Shuffle
open Cnfgen

/-- an assignment of the variables `1..N` (as a function on `Fin N`) seen as an `Assign` -/
def extend (N : Nat) (a : Fin N → Bool) : Assign :=
  fun v => if h : 1 ≤ v ∧ v ≤ N then a ⟨v - 1, by omega⟩ else false

def restrict (N : Nat) (α : Assign) : Fin N → Bool := fun i => α (i.val + 1)

theorem restrict_extend (N : Nat) (a : Fin N → Bool) : restrict N (extend N a) = a := by
  funext i
  have : 1 ≤ i.val + 1 ∧ i.val + 1 ≤ N := ⟨by omega, by have := i.isLt; omega⟩
  simp [restrict, extend, this]

theorem extend_restrict (N : Nat) (α : Assign) (v : Nat) (h1 : 1 ≤ v) (h2 : v ≤ N) :
    extend N (restrict N α) v = α v := by
  have : 1 ≤ v ∧ v ≤ N := ⟨h1, h2⟩
  simp only [extend, this, restrict, and_self, ↓reduceDIte]
  congr 1; omega

/-- pulling back along `g`, restricted to the variables `1..N`, is undone by pulling back along `h` -/
theorem SignedBij.round {N : Nat} {g h : Int → Int} (s : SignedBij N g h) (a : Fin N → Bool) :
    restrict N (pullBy h (extend N (restrict N (pullBy g (extend N a))))) = a := by
  funext i
  have hi : 1 ≤ i.val + 1 ∧ i.val + 1 ≤ N := ⟨by omega, by have := i.isLt; omega⟩
  show pullBy h (extend N (restrict N (pullBy g (extend N a)))) (i.val + 1) = a i
  rw [s.symm.pull_congr _ (pullBy g (extend N a)) (extend_restrict N _) _ hi.1 hi.2, s.symm.pull_pull _ _ hi.1 hi.2]
  exact congrFun (restrict_extend N a) i

/-- `α ↦ pull α`, restricted to the variables `1..N`, is a bijection of the `2^N` assignments;
its inverse is `β ↦ push β` -/
def pullEquiv {N : Nat} {fl vp : List Int} (hf : ValidFlips N fl) (hv : ValidPerm 1 N vp) :
    (Fin N → Bool) ≃ (Fin N → Bool) where
  toFun a := restrict N (pull fl vp (extend N a))
  invFun b := restrict N (push fl vp (extend N b))
  left_inv := (sigma_signedBij hf hv).round
  right_inv := (sigma_signedBij hf hv).symm.round

/-- number of satisfying assignments of a formula over its own variables `1..nvars` -/
def modelCount (F : CNF) : Nat :=
  Fintype.card {a : Fin F.nvars → Bool // F.holds (extend F.nvars a) = true}

theorem modelCount_result (F : CNF) (hwf : F.WF) (fl vp cp : List Int) (h : Valid F fl vp cp) :
    modelCount ⟨F.nvars, resultClauses F fl vp (sortedMapping cp)⟩ = modelCount F := by
  unfold modelCount
  apply Fintype.card_congr
  refine Equiv.subtypeEquiv (pullEquiv h.1 h.2.1) ?_
  intro a
  show CNF.holds (extend F.nvars a) ⟨F.nvars, resultClauses F fl vp (sortedMapping cp)⟩ = true ↔
    F.holds (extend F.nvars (restrict F.nvars (pull fl vp (extend F.nvars a)))) = true
  rw [result_holds F hwf fl vp cp h,
    CNF.holds_congr hwf (extend_restrict F.nvars (pull fl vp (extend F.nvars a)))]

end Cnfgen.Shuffle
