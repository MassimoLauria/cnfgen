/-
Connected components of the graphs of cnfgen, without a graph library: reachability is
`Relation.ReflTransGen` of one step along an edge; `rep G v` is the least vertex reachable from `v`, the
components are counted by the vertices `v ∈ 1..n` with `rep G v = v` (`reps`, `components`), and
`compSet G r` is the component of `r` as one of the vertex sets closed under adjacency over which the
criteria of the Tseitin and the even-colouring formula quantify.
-/
import Lemmas.FamGraph
import Mathlib.Logic.Relation
import Mathlib.Order.Interval.Finset.Nat
namespace Cnfgen
namespace Fam

variable {G : SimpleG}

def Step (G : SimpleG) (a b : Nat) : Prop := a ≤ G.n ∧ b ∈ G.nbrs a

def Reach (G : SimpleG) (a b : Nat) : Prop := Relation.ReflTransGen (Step G) a b

theorem step_symm (hG : GoodGraph G) {a b : Nat} (h : Step G a b) : Step G b a :=
  ⟨(hG.mem h.1 h.2).2.1, hG.symm h.1 h.2⟩

theorem reach_refl (a : Nat) : Reach G a a := Relation.ReflTransGen.refl

theorem reach_trans {a b c : Nat} (h1 : Reach G a b) (h2 : Reach G b c) : Reach G a c :=
  Relation.ReflTransGen.trans h1 h2

theorem reach_symm (hG : GoodGraph G) {a b : Nat} (h : Reach G a b) : Reach G b a := by
  induction h with
  | refl => exact reach_refl _
  | tail _ hs ih => exact Relation.ReflTransGen.head (step_symm hG hs) ih

theorem reach_adj {v u : Nat} (hv : v ≤ G.n) (hu : u ∈ G.nbrs v) : Reach G v u :=
  Relation.ReflTransGen.single ⟨hv, hu⟩

theorem closed_reach (C : Nat → Bool) (hC : ∀ v u, C v = true → u ∈ G.nbrs v → C u = true)
    {a b : Nat} (h : Reach G a b) (ha : C a = true) : C b = true := by
  induction h with
  | refl => exact ha
  | tail _ hs ih => exact hC _ _ ih hs.2

theorem reach_range (hG : GoodGraph G) {t t' : Nat} (ht : 1 ≤ t ∧ t ≤ G.n) (h : Reach G t t') :
    1 ≤ t' ∧ t' ≤ G.n := by
  induction h with
  | refl => exact ht
  | tail _ hs _ => have := hG.mem hs.1 hs.2; exact ⟨this.1, this.2.1⟩

open Classical in
noncomputable def rep (G : SimpleG) (v : Nat) : Nat :=
  Nat.find (⟨v, reach_refl v⟩ : ∃ u, Reach G v u)

theorem rep_reach (v : Nat) : Reach G v (rep G v) := by
  classical exact Nat.find_spec (⟨v, reach_refl v⟩ : ∃ u, Reach G v u)

theorem rep_le {v u : Nat} (h : Reach G v u) : rep G v ≤ u := by
  classical exact Nat.find_min' (⟨v, reach_refl v⟩ : ∃ u, Reach G v u) h

theorem rep_congr (hG : GoodGraph G) {u v : Nat} (h : Reach G u v) : rep G u = rep G v := by
  apply Nat.le_antisymm
  · exact rep_le (reach_trans h (rep_reach v))
  · exact rep_le (reach_trans (reach_symm hG h) (rep_reach u))

theorem rep_idem (hG : GoodGraph G) (v : Nat) : rep G (rep G v) = rep G v :=
  (rep_congr hG (rep_reach v)).symm

theorem rep_range (hG : GoodGraph G) {v : Nat} (hv : 1 ≤ v ∧ v ≤ G.n) :
    1 ≤ rep G v ∧ rep G v ≤ G.n :=
  reach_range hG hv (rep_reach v)

noncomputable def reps (G : SimpleG) : Finset Nat := (Finset.Icc 1 G.n).filter (fun v => rep G v = v)

noncomputable def components (G : SimpleG) : Nat := (reps G).card

theorem mem_reps {r : Nat} : r ∈ reps G ↔ (1 ≤ r ∧ r ≤ G.n) ∧ rep G r = r := by
  simp [reps]

theorem mem_reps_iff_min {r : Nat} :
    r ∈ reps G ↔ (1 ≤ r ∧ r ≤ G.n) ∧ ∀ u, Reach G r u → r ≤ u := by
  rw [mem_reps]
  constructor
  · rintro ⟨hr, he⟩
    exact ⟨hr, fun u hu => by have := rep_le hu; omega⟩
  · rintro ⟨hr, hm⟩
    exact ⟨hr, Nat.le_antisymm (rep_le (reach_refl r)) (hm _ (rep_reach r))⟩

theorem rep_mem_reps (hG : GoodGraph G) {v : Nat} (hv : 1 ≤ v ∧ v ≤ G.n) : rep G v ∈ reps G :=
  mem_reps.2 ⟨rep_range hG hv, rep_idem hG v⟩

theorem components_le (G : SimpleG) : components G ≤ G.n := by
  unfold components reps
  calc _ ≤ (Finset.Icc 1 G.n).card := Finset.card_filter_le _ _
    _ = G.n := by simp

noncomputable def compSet (G : SimpleG) (r : Nat) : Nat → Bool :=
  fun v => decide (v ≤ G.n ∧ rep G v = r)

theorem compSet_closed (hG : GoodGraph G) (r : Nat) :
    ∀ v u, compSet G r v = true → u ∈ G.nbrs v → compSet G r u = true := by
  intro v u hv hu
  simp only [compSet, decide_eq_true_eq] at hv ⊢
  exact ⟨(hG.mem hv.1 hu).2.1, by rw [← rep_congr hG (reach_adj hv.1 hu)]; exact hv.2⟩

theorem compSet_iff_reach (hG : GoodGraph G) {r : Nat} (hr : r ∈ reps G) (v : Nat) :
    compSet G r v = true ↔ Reach G r v := by
  have hr' := mem_reps.1 hr
  simp only [compSet, decide_eq_true_eq]
  constructor
  · rintro ⟨_, hv⟩
    have := rep_reach (G := G) v
    rw [hv] at this
    exact reach_symm hG this
  · intro h
    exact ⟨(reach_range hG hr'.1 h).2, by rw [← rep_congr hG h]; exact hr'.2⟩

/-- a labelling certificate for `rep`: by it `components` of a concrete graph is computed (`exG_components`) -/
theorem rep_eq_of_labels (hG : GoodGraph G) (lab : Nat → Nat)
    (h1 : ∀ v, 1 ≤ v → v ≤ G.n → ∀ u ∈ G.nbrs v, lab u = lab v)
    (h2 : ∀ v, 1 ≤ v → v ≤ G.n → Reach G v (lab v))
    (h3 : ∀ v, 1 ≤ v → v ≤ G.n → lab v ≤ v) {v : Nat} (hv : 1 ≤ v ∧ v ≤ G.n) :
    rep G v = lab v := by
  have hconst : ∀ u, Reach G v u → lab u = lab v := by
    intro u hu
    induction hu with
    | refl => rfl
    | tail hr hs ih =>
      have hw := reach_range hG hv hr
      rw [← ih]; exact h1 _ hw.1 hw.2 _ hs.2
  apply Nat.le_antisymm (rep_le (h2 v hv.1 hv.2))
  have hr := rep_range hG hv
  have := h3 _ hr.1 hr.2
  rw [hconst _ (rep_reach v)] at this
  exact this

theorem components_eq_of_labels (hG : GoodGraph G) (lab : Nat → Nat)
    (h1 : ∀ v, 1 ≤ v → v ≤ G.n → ∀ u ∈ G.nbrs v, lab u = lab v)
    (h2 : ∀ v, 1 ≤ v → v ≤ G.n → Reach G v (lab v))
    (h3 : ∀ v, 1 ≤ v → v ≤ G.n → lab v ≤ v) :
    components G = ((Finset.Icc 1 G.n).filter (fun v => lab v = v)).card := by
  unfold components reps
  congr 1
  apply Finset.filter_congr
  intro v hv
  rw [rep_eq_of_labels hG lab h1 h2 h3 (Finset.mem_Icc.1 hv)]

/-- `exG` (triangle 1-2-3, edge 4-5, isolated vertex 6) has three components -/
theorem exG_components : components exG = 3 := by
  let lab : Nat → Nat := fun v => if v ≤ 3 then 1 else if v ≤ 5 then 4 else v
  rw [components_eq_of_labels exG_good lab]
  · decide
  · intro v h1 h2 u hu
    rcases exG_vertices h1 h2 with rfl | rfl | rfl | rfl | rfl | rfl <;>
      simp [exG, SimpleG.nbrs] at hu <;> rcases hu with rfl | rfl <;> rfl
  · intro v h1 h2
    rcases exG_vertices h1 h2 with rfl | rfl | rfl | rfl | rfl | rfl
    · exact reach_refl _
    · exact reach_adj (by decide) (by decide)
    · exact reach_adj (by decide) (by decide)
    · exact reach_refl _
    · exact reach_adj (by decide) (by decide)
    · exact reach_refl _
  · intro v h1 h2
    rcases exG_vertices h1 h2 with rfl | rfl | rfl | rfl | rfl | rfl <;> decide +kernel

end Fam
end Cnfgen
