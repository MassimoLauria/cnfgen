/-
C19, the footprint discipline (`Step`): a mutation of a well-typed formula writes only inside its footprint, so it is invisible in a
formula that shares no object with it (`sep_step`).
-/
import Lemmas.HeapSnap
import CnfgenModel.Heap.Mut
namespace Cnfgen
namespace Heap
local notation "Addr" => Nat

theorem get_alloc_lt {s : Store} {c : Cell} {a : Nat} (h : a < s.size) : (alloc s c).1[a]? = s[a]? := by
  simp only [alloc]; rw [Array.getElem?_push]; split
  · omega
  · rfl

theorem get_alloc_eq {s : Store} {c : Cell} : (alloc s c).1[s.size]? = some c := by
  simp [alloc]

theorem get_write_eq {s : Store} {c : Cell} {a : Nat} (h : a < s.size) : (write s a c)[a]? = some c := by
  simp [write, h]

theorem get_write_ne {s : Store} {c : Cell} {a b : Nat} (h : a ≠ b) : (write s a c)[b]? = s[b]? := by
  simp only [write]; exact Array.getElem?_setIfInBounds_ne h

/-- the formula object at `x` is well typed: its slots hold a list of lists of integers, a dictionary, a list of groups -/
def WT (s : Store) (x : Nat) : Prop :=
  ∃ cl hd gr nv as es gs, s[x]? = some (.cnf cl hd gr nv) ∧ s[cl]? = some (.refs as) ∧
    s[hd]? = some (.dict es) ∧ s[gr]? = some (.groups gs) ∧ ∀ a ∈ as, ∃ xs, s[a]? = some (.ints xs)

theorem readIntsAll_isSome {s : Store} : ∀ {as : List Addr}, (∀ a ∈ as, ∃ xs, s[a]? = some (.ints xs)) →
    ∃ cs, readIntsAll s as = some cs
  | [], _ => ⟨[], rfl⟩
  | a :: as, h => by
    obtain ⟨xs, hx⟩ := h a (by simp)
    obtain ⟨cs, hcs⟩ := readIntsAll_isSome (as := as) (fun b hb => h b (by simp [hb]))
    exact ⟨xs :: cs, by simp [readIntsAll, readInts, hx, hcs]⟩

theorem wt_iff_snap {s : Store} {x : Nat} : WT s x ↔ ∃ S, snap s x = some S := by
  constructor
  · rintro ⟨cl, hd, gr, nv, as, es, gs, h1, h2, h3, h4, h5⟩
    obtain ⟨cs, hcs⟩ := readIntsAll_isSome h5
    exact ⟨⟨nv, cs, es, gs⟩, by simp [snap, readCNF, readRefs, readDict, readGroups, h1, h2, h3, h4, hcs]⟩
  · rintro ⟨S, h⟩
    obtain ⟨cl, hd, gr, as, h1, h2, h3, h4, h5⟩ := snap_iff.1 h
    exact ⟨cl, hd, gr, _, as, _, _, h1, h2, h3, h4, readIntsAll_typed h5⟩

/-- one mutation step of the formula `x`: it stays well typed, only cells of its footprint are written,
and its footprint grows by new cells only -/
structure Step (s : Store) (x : Nat) (s' : Store) : Prop where
  wt : WT s' x
  size_le : s.size ≤ s'.size
  touch : ∀ a : Nat, a < s.size → a ∉ footprint s x → s'[a]? = s[a]?
  grow : ∀ a : Nat, a ∈ footprint s' x → a ∈ footprint s x ∨ (s.size ≤ a ∧ a < s'.size)

theorem Step.refl {s : Store} {x : Nat} (h : WT s x) : Step s x s :=
  ⟨h, Nat.le_refl _, fun _ _ _ => rfl, fun _ ha => Or.inl ha⟩

theorem pyIdx_mem {α : Type} {l : List α} {i : Int} {a : α} (h : pyIdx l i = .ok a) : a ∈ l := by
  simp only [pyIdx] at h
  generalize (if i < 0 then i + (l.length : Int) else i) = j at h
  by_cases hj : j < 0
  · simp [hj] at h
  · simp only [hj, if_false] at h
    cases hy : l[j.toNat]? with
    | none => simp [hy] at h
    | some y => simp [hy] at h; subst h; exact List.mem_of_getElem? hy

theorem setItem_fst (s : Store) (l : Nat) (i v : Int) :
    (setItem s l i v).1 = s ∨ ∃ ys ys', s[l]? = some (.ints ys) ∧ (setItem s l i v).1 = write s l (.ints ys') := by
  simp only [setItem, readInts]
  cases h0 : s[l]? with
  | none => exact Or.inl rfl
  | some c =>
    cases c with
    | ints ys =>
      simp only []
      generalize (if i < 0 then i + (ys.length : Int) else i) = j
      by_cases hc : j < 0 ∨ (ys.length : Int) ≤ j
      · simp [hc]
      · simp only [hc, if_false]; exact Or.inr ⟨ys, _, rfl, rfl⟩
    | _ => exact Or.inl rfl

theorem wt_inbounds {s : Store} {x : Nat} (h : WT s x) : ∀ a : Nat, a ∈ footprint s x → a < s.size := by
  obtain ⟨S, hS⟩ := wt_iff_snap.mp h
  exact footprint_inbounds hS

theorem Good.keeps {s s' : Store} {y : Nat} (h : Good s s') (hy : WT s y) :
    snap s' y = snap s y ∧ footprint s' y = footprint s y :=
  snap_congr fun a ha => h.frame a (wt_inbounds hy a ha)

/-- two well-typed formulas without a common object -/
structure Sep (s : Store) (x y : Nat) : Prop where
  wtx : WT s x
  wty : WT s y
  disj : ∀ a : Nat, a ∈ footprint s x → a ∉ footprint s y

theorem Sep.symm {s : Store} {x y : Nat} (h : Sep s x y) : Sep s y x :=
  ⟨h.wty, h.wtx, fun a hy hx => h.disj a hx hy⟩

theorem sep_step {s s' : Store} {x y : Nat} (h : Sep s x y) (st : Step s x s') :
    snap s' y = snap s y ∧ Sep s' x y := by
  have hy := wt_inbounds h.wty
  have agree : ∀ a ∈ footprint s y, s'[a]? = s[a]? :=
    fun a ha => st.touch a (hy a ha) (fun hx => h.disj a hx ha)
  obtain ⟨e1, e2⟩ := snap_congr agree
  refine ⟨e1, st.wt, ?_, ?_⟩
  · obtain ⟨S, hS⟩ := wt_iff_snap.mp h.wty
    exact wt_iff_snap.mpr ⟨S, by rw [e1]; exact hS⟩
  · intro a hx
    rw [e2]
    rcases st.grow a hx with h1 | h1
    · exact h.disj a h1
    · intro hmem; have := hy a hmem; omega

end Heap
end Cnfgen
