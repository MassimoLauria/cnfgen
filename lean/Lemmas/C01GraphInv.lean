/-
Every graph object built by `add_edge` calls is consistent: the hypotheses `GoodBip` /
`GoodSimple` of the family theorems follow from the representation invariants of
`Lemmas/GraphInv.lean`, so they hold for every `BipG.ofEdges` / `SimpleG.ofEdges` value
(that is, for every graph the real classes can represent).
-/
import Lemmas.C01Graph
import Lemmas.GraphInv
namespace Cnfgen.Fam
open Cnfgen

theorem degSum_eq_length_tableEdges (B : BipG) (k : Nat) :
    degSum B k = (tableEdges B.rnbrs k).length := by
  induction k with
  | zero => simp [degSum, tableEdges]
  | succ k ih =>
    have : tableEdges B.rnbrs (k + 1) =
        tableEdges B.rnbrs k ++ (B.rnbrs (k + 1)).map (fun v => (k + 1, v)) := by
      simp [tableEdges, List.range_succ, List.flatMap_append]
    rw [this, List.length_append, List.length_map, ← ih]; rfl

theorem goodBip_of_inv (B : BipG) (h : BipG.Inv B) : GoodBip B where
  rnodup := h.rnbrs_nodup
  lnodup := h.lnbrs_nodup
  adj u v := by
    constructor
    · rintro ⟨_, _, hv⟩
      have r := h.rnbrs_range hv
      exact ⟨r.2.2.1, r.2.2.2, h.mem_rnbrs_iff_mem_lnbrs.1 hv⟩
    · rintro ⟨_, _, hu⟩
      have r := h.lnbrs_range hu
      exact ⟨r.1, r.2.1, h.mem_rnbrs_iff_mem_lnbrs.2 hu⟩
  card := by
    rw [h.numberOfEdges_eq, BipG.Inv.edges_eq_table, degSum_eq_length_tableEdges]

/-- every bipartite graph object that `BipartiteGraph(l, r)` + `add_edge` calls can produce -/
theorem goodBip_ofEdges (l r : Nat) (es : List (Nat × Nat)) (B : BipG) (h : BipG.ofEdges l r es = .ok B) :
    GoodBip B :=
  goodBip_of_inv B (BipG.inv_ofEdges h)

theorem goodSimple_of_inv (G : SimpleG) (h : SimpleG.Inv G) : GoodSimple G where
  nodup := h.nbrs_nodup
  noloop u hu := (h.nbrs_range hu).2.2.2.2 rfl
  sym u v := by
    rintro ⟨_, _, hv⟩
    have r := h.nbrs_range hv
    exact ⟨r.2.2.1, r.2.2.2.1, h.mem_nbrs_comm.1 hv⟩

/-- every simple graph object that `Graph(n)` + `add_edge` calls can produce -/
theorem goodSimple_ofEdges (n : Nat) (es : List (Nat × Nat)) (G : SimpleG) (h : SimpleG.ofEdges n es = .ok G) :
    GoodSimple G :=
  goodSimple_of_inv G (SimpleG.inv_ofEdges h)

end Cnfgen.Fam
