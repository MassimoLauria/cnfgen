/-
Boolean vectors `A → Bool` under pointwise xor and the maps that are additive for it.  The parity of a
count is such a map: `p xor q` holds, mod 2, as often as `p` and `q` together (for a list and for a
filtered finite set).  The boundary map of the Tseitin formula and the component-parity map
(`Lemmas/FamTseitinConv.lean`, `Lemmas/FamTseitinCount.lean`) are additive by these two lemmas.
-/
import Mathlib.Algebra.BigOperators.Group.Finset.Piecewise
import Mathlib.Algebra.Group.Nat.Even
namespace Cnfgen
namespace Fam

def bxor {A : Type} (x y : A → Bool) : A → Bool := fun a => (x a != y a)

def bzero {A : Type} : A → Bool := fun _ => false

theorem bxor_self {A : Type} (x : A → Bool) : bxor x x = bzero := by
  funext a; simp [bxor, bzero]

theorem bxor_bzero {A : Type} (x : A → Bool) : bxor x bzero = x := by
  funext a; simp [bxor, bzero]

theorem bxor_cancel {A : Type} (x y : A → Bool) : bxor (bxor x y) y = x := by
  funext a; simp [bxor]

def XorHom {A B : Type} (f : (A → Bool) → (B → Bool)) : Prop :=
  ∀ x y, f (bxor x y) = bxor (f x) (f y)

theorem countP_bxor_mod2 {ι : Type} (l : List ι) (p q : ι → Bool) :
    (l.countP (fun u => (p u != q u))) % 2 = (l.countP p + l.countP q) % 2 := by
  induction l with
  | nil => simp
  | cons a l ih =>
    simp only [List.countP_cons]
    cases p a <;> cases q a <;> simp <;> omega

theorem card_filter_bxor_mod2 {ι : Type} [DecidableEq ι] (s : Finset ι) (c : ι → Prop)
    [DecidablePred c] (p q : ι → Bool) :
    (s.filter (fun v => c v ∧ (p v != q v) = true)).card % 2 =
      ((s.filter (fun v => c v ∧ p v = true)).card +
        (s.filter (fun v => c v ∧ q v = true)).card) % 2 := by
  rw [Finset.card_filter, Finset.card_filter, Finset.card_filter, ← Finset.sum_add_distrib]
  rw [Finset.sum_nat_mod, Finset.sum_nat_mod (f := fun i =>
    (if c i ∧ p i = true then 1 else 0) + (if c i ∧ q i = true then 1 else 0))]
  congr 1
  apply Finset.sum_congr rfl
  intro v _
  by_cases hc : c v <;> cases p v <;> cases q v <;> simp [hc]

theorem decide_add_odd (a b : Nat) :
    decide ((a + b) % 2 = 1) = (decide (a % 2 = 1) != decide (b % 2 = 1)) := by
  rcases Nat.mod_two_eq_zero_or_one a with h0 | h0 <;>
  rcases Nat.mod_two_eq_zero_or_one b with h1 | h1 <;>
  simp [Nat.add_mod, h0, h1]

theorem mod_two_eq_ite_iff (k : Nat) (b : Bool) :
    k % 2 = (if b = true then 1 else 0) ↔ decide (k % 2 = 1) = b := by
  cases b <;> simp

theorem decide_odd_eq_false_iff (k : Nat) : decide (k % 2 = 1) = false ↔ Even k := by
  rw [decide_eq_false_iff_not, Nat.even_iff]
  omega

end Fam
end Cnfgen
