/-
Combinators for `Fam.VarIndex`: the identity numbering of `Fin r`, the row-major numbering of a
grid `Fin m × Fin n` (the identifiers of `new_mapping(m, n)` / `new_block(m, n)` on an empty
formula) and the concatenation of two numberings (variable groups created one after the other).
-/
import Lemmas.C01Bij2
namespace Cnfgen.Fam
open Cnfgen

theorem grid_idx_lt {m n : Nat} (i : Fin m) (j : Fin n) : i.val * n + j.val < m * n := by
  have : (i.val + 1) * n ≤ m * n := Nat.mul_le_mul_right _ i.isLt
  rw [Nat.add_mul] at this
  have := j.isLt
  omega

theorem grid_pos_of_fin {m n : Nat} (x : Fin (m * n)) : 0 < n := by
  rcases Nat.eq_zero_or_pos n with h | h
  · have h1 := x.isLt
    have h2 : m * n = 0 := by rw [h]; rfl
    omega
  · exact h

theorem grid_div_lt {m n : Nat} (x : Fin (m * n)) : x.val / n < m := by
  rw [Nat.div_lt_iff_lt_mul (grid_pos_of_fin x)]; exact x.isLt

theorem grid_mod_lt {m n : Nat} (x : Fin (m * n)) : x.val % n < n :=
  Nat.mod_lt _ (grid_pos_of_fin x)

namespace VarIndex

/-- `Fin r` numbered by `1..r`: `v ↦ v + 1` -/
def finIdx (r : Nat) : VarIndex (Fin r) r where
  var v := v.val + 1
  inv x := x
  var_pos _ := by omega
  var_le v := v.isLt
  var_inv _ := rfl
  var_inj i j h := Fin.ext (by omega)

/-- the grid `Fin m × Fin n` numbered row by row: `(i, j) ↦ i * n + j + 1`
(`= Vars.mapId 1 n (i + 1) (j + 1)`) -/
def gridIdx (m n : Nat) : VarIndex (Fin m × Fin n) (m * n) where
  var p := p.1.val * n + p.2.val + 1
  inv x := (⟨x.val / n, grid_div_lt x⟩, ⟨x.val % n, grid_mod_lt x⟩)
  var_pos _ := by omega
  var_le p := grid_idx_lt p.1 p.2
  var_inv x := by
    have := Nat.div_add_mod x.val n
    rw [Nat.mul_comm] at this
    simp only []; omega
  var_inj p q h := by
    obtain ⟨i, j⟩ := p
    obtain ⟨i', j'⟩ := q
    simp only [] at h
    have hn : 0 < n := Nat.lt_of_le_of_lt (Nat.zero_le _) j.isLt
    have h' : j.val + i.val * n = j'.val + i'.val * n := by omega
    have hd := congrArg (· / n) h'
    have hm := congrArg (· % n) h'
    simp only [Nat.add_mul_div_right _ _ hn, Nat.div_eq_of_lt j.isLt, Nat.div_eq_of_lt j'.isLt,
      Nat.add_mul_mod_self_right, Nat.mod_eq_of_lt j.isLt, Nat.mod_eq_of_lt j'.isLt,
      Nat.zero_add] at hd hm
    exact Prod.ext (Fin.ext hd) (Fin.ext hm)

/-- two groups of variables created one after the other: the second numbering is shifted by the
size of the first -/
def sumIdx {I J : Type} {N M : Nat} (ν : VarIndex I N) (μ : VarIndex J M) :
    VarIndex (I ⊕ J) (N + M) where
  var := Sum.elim ν.var (fun j => N + μ.var j)
  inv x := if h : x.val < N then .inl (ν.inv ⟨x.val, h⟩)
    else .inr (μ.inv ⟨x.val - N, by have := x.isLt; omega⟩)
  var_pos s := by
    rcases s with i | j
    · exact ν.var_pos i
    · have := μ.var_pos j
      simp only [Sum.elim_inr]; omega
  var_le s := by
    rcases s with i | j
    · have := ν.var_le i
      simp only [Sum.elim_inl]; omega
    · have := μ.var_le j
      simp only [Sum.elim_inr]; omega
  var_inv x := by
    by_cases h : x.val < N
    · simp only [dif_pos h, Sum.elim_inl, ν.var_inv]
    · simp only [dif_neg h, Sum.elim_inr, μ.var_inv]; omega
  var_inj s t h := by
    rcases s with i | j <;> rcases t with i' | j' <;> simp only [Sum.elim_inl, Sum.elim_inr] at h
    · rw [ν.var_inj i i' h]
    · have := ν.var_le i; have := μ.var_pos j'; omega
    · have := ν.var_le i'; have := μ.var_pos j; omega
    · rw [μ.var_inj j j' (by omega)]

theorem finIdx_var (r : Nat) (v : Fin r) : (finIdx r).var v = v.val + 1 := rfl

theorem gridIdx_var (m n : Nat) (i : Fin m) (j : Fin n) :
    (gridIdx m n).var (i, j) = i.val * n + j.val + 1 := rfl

theorem sumIdx_var_inl {I J : Type} {N M : Nat} (ν : VarIndex I N) (μ : VarIndex J M) (i : I) :
    (sumIdx ν μ).var (.inl i) = ν.var i := rfl

theorem sumIdx_var_inr {I J : Type} {N M : Nat} (ν : VarIndex I N) (μ : VarIndex J M) (j : J) :
    (sumIdx ν μ).var (.inr j) = N + μ.var j := rfl

end VarIndex
end Cnfgen.Fam
