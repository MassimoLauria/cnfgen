/-
How many members the Python-order iterators of `CnfgenModel.Core.Iter` have.
-/
import Lemmas.IterNodup
import Mathlib.Data.Nat.Choose.Basic
namespace Cnfgen

theorem length_combos {α : Type} (l : List α) (k : Nat) : (combos l k).length = l.length.choose k := by
  induction l generalizing k with
  | nil => cases k <;> simp [combos]
  | cons x xs ih =>
    cases k with
    | zero => simp [combos]
    | succ k => simp [combos, ih, Nat.choose_succ_succ]

theorem length_flatMap_const {α β : Type} (l : List α) (f : α → List β) (c : Nat)
    (h : ∀ x ∈ l, (f x).length = c) : (l.flatMap f).length = l.length * c := by
  rw [List.length_flatMap, List.map_congr_left h, List.map_const', List.sum_replicate_nat]

theorem length_productRep {α : Type} (l : List α) (k : Nat) : (productRep l k).length = l.length ^ k := by
  induction k with
  | zero => simp [productRep]
  | succ k ih =>
    simp only [productRep]
    rw [length_flatMap_const l _ (l.length ^ k) (fun x _ => by simp [ih]), Nat.pow_succ, Nat.mul_comm]

end Cnfgen
