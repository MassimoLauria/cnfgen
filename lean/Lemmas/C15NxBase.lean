/-
C15, networkx-backed constructions: facts about the operational model of `networkx.Graph`
(`Nx.NxG`: insertion-ordered adjacency, `G.edges()`, relabelling copy) and about cnfgen's
`Graph.from_networkx` on it (`Nx.fromNetworkx`): which `SimpleG` object comes out, in terms of the
UNORDERED edge relation `NxG.E` of the networkx graph.  The order of dict iteration is part of the
model (and compared with the installed networkx); none of the statements here depends on it.
-/
import Lemmas.GraphInv
import Lemmas.Basic
import CnfgenModel.Graph.NxBuild
import Mathlib.Data.List.Nodup
namespace Cnfgen.Nx
open Cnfgen

theorem mem_dedup {l : List Nat} {x : Nat} : x ∈ dedup l ↔ x ∈ l := by
  induction l with
  | nil => simp [dedup]
  | cons y ys ih =>
    simp only [dedup, List.mem_cons, List.mem_filter, ih]
    constructor
    · rintro (h | ⟨h, _⟩)
      · exact Or.inl h
      · exact Or.inr h
    · rintro (h | h)
      · exact Or.inl h
      · by_cases hxy : x = y
        · exact Or.inl hxy
        · exact Or.inr ⟨h, by simpa using hxy⟩

theorem nodup_dedup (l : List Nat) : (dedup l).Nodup := by
  induction l with
  | nil => simp [dedup]
  | cons y ys ih =>
    simp only [dedup, List.nodup_cons, List.mem_filter]
    exact ⟨by simp, ih.filter _⟩

namespace NxG

/-- the unordered edge relation of the networkx graph -/
def E (G : NxG) (u v : Nat) : Prop := (u, v) ∈ G.tedges ∨ (v, u) ∈ G.tedges

instance (G : NxG) (u v : Nat) : Decidable (G.E u v) := by unfold E; exact inferInstance

theorem E_comm {G : NxG} {u v : Nat} : G.E u v ↔ G.E v u := by unfold E; exact Or.comm

def WF (G : NxG) : Prop := ∀ e ∈ G.tedges, e.1 < G.n ∧ e.2 < G.n

def Loopless (G : NxG) : Prop := ∀ e ∈ G.tedges, e.1 ≠ e.2

/-- every `add_edge` call was made as `(smaller, larger)` -/
def Oriented (G : NxG) : Prop := ∀ e ∈ G.tedges, e.1 < e.2

theorem Oriented.loopless {G : NxG} (h : G.Oriented) : G.Loopless := fun e he => Nat.ne_of_lt (h e he)

theorem WF.of_E {G : NxG} (h : G.WF) {u v : Nat} (hE : G.E u v) : u < G.n ∧ v < G.n := by
  rcases hE with hE | hE
  · exact h _ hE
  · exact (h _ hE).symm

theorem Loopless.of_E {G : NxG} (h : G.Loopless) {u v : Nat} (hE : G.E u v) : u ≠ v := by
  rcases hE with hE | hE
  · exact h _ hE
  · exact (h _ hE).symm

theorem mem_adj {G : NxG} {w x : Nat} : x ∈ G.adj w ↔ G.E w x := by
  simp only [adj, mem_dedup, List.mem_filterMap, otherEnd, E]
  constructor
  · rintro ⟨⟨a, b⟩, he, h⟩
    simp only at h
    split at h
    · rename_i h1; cases h; subst h1; exact Or.inl he
    · split at h
      · rename_i h1 h2; cases h; subst h2; exact Or.inr he
      · cases h
  · rintro (h | h)
    · exact ⟨(w, x), h, by simp⟩
    · refine ⟨(x, w), h, ?_⟩
      by_cases hxw : x = w
      · subst hxw; simp
      · simp [hxw]

theorem nodup_adj (G : NxG) (w : Nat) : (G.adj w).Nodup := nodup_dedup _

theorem mem_edges {G : NxG} {u v : Nat} : (u, v) ∈ G.edges ↔ u < G.n ∧ u ≤ v ∧ G.E u v := by
  simp only [edges, List.mem_flatMap, List.mem_range, List.mem_map, List.mem_filter, mem_adj,
    decide_eq_true_eq, Prod.mk.injEq]
  constructor
  · rintro ⟨w, hw, x, ⟨hE, hle⟩, rfl, rfl⟩; exact ⟨hw, hle, hE⟩
  · rintro ⟨h1, h2, h3⟩; exact ⟨u, h1, v, ⟨h3, h2⟩, rfl, rfl⟩

theorem mem_edges' {G : NxG} {e : Nat × Nat} : e ∈ G.edges ↔ e.1 < G.n ∧ e.1 ≤ e.2 ∧ G.E e.1 e.2 := by
  obtain ⟨u, v⟩ := e; exact mem_edges

theorem nodup_edges (G : NxG) : G.edges.Nodup :=
  nodup_flatMap_map List.nodup_range (fun w _ => (nodup_adj G w).filter _) fun _ _ _ _ _ _ _ _ h => Prod.mk.inj h

theorem relabelCopy_n (G : NxG) : G.relabelCopy.n = G.n := rfl

theorem relabelCopy_E {G : NxG} (h : G.WF) {u v : Nat} : G.relabelCopy.E u v ↔ G.E u v := by
  simp only [E, relabelCopy, mem_edges]
  constructor
  · rintro (⟨_, _, hE⟩ | ⟨_, _, hE⟩)
    · exact hE
    · exact E_comm.1 hE
  · intro hE
    have hr := h.of_E hE
    rcases Nat.le_total u v with hle | hle
    · exact Or.inl ⟨hr.1, hle, hE⟩
    · exact Or.inr ⟨hr.2, hle, E_comm.1 hE⟩

theorem relabelCopy_WF {G : NxG} (h : G.WF) : G.relabelCopy.WF := by
  intro e he
  have := mem_edges'.1 he
  exact h.of_E this.2.2

theorem relabelCopy_oriented {G : NxG} (h : G.Loopless) : G.relabelCopy.Oriented := by
  intro e he
  have := mem_edges'.1 he
  have hne := h.of_E this.2.2
  omega

theorem relabelCopy_nodup (G : NxG) : G.relabelCopy.tedges.Nodup := nodup_edges G

def norm (e : Nat × Nat) : Nat × Nat := SimpleG.norm e.1 e.2

theorem mem_map_norm {l : List (Nat × Nat)} {u v : Nat} (huv : u ≤ v) :
    (u, v) ∈ l.map norm ↔ (u, v) ∈ l ∨ (v, u) ∈ l := by
  simp only [List.mem_map, norm]
  constructor
  · rintro ⟨⟨a, b⟩, he, h⟩
    rcases SimpleG.norm_cases a b with e | e <;> rw [e] at h <;> cases h
    exacts [Or.inl he, Or.inr he]
  · rintro (h | h)
    · exact ⟨_, h, SimpleG.norm_of_le huv⟩
    · exact ⟨_, h, (SimpleG.norm_comm v u).trans (SimpleG.norm_of_le huv)⟩

theorem map_norm_of_oriented {l : List (Nat × Nat)} (h : ∀ e ∈ l, e.1 < e.2) : l.map norm = l :=
  (List.map_congr_left fun e he => SimpleG.norm_of_le (Nat.le_of_lt (h e he))).trans (List.map_id' l)

theorem edges_perm_norm {G : NxG} (hW : G.WF) (hN : (G.tedges.map norm).Nodup) : G.edges.Perm (G.tedges.map norm) := by
  rw [List.perm_ext_iff_of_nodup (nodup_edges G) hN]
  rintro ⟨u, v⟩
  rw [mem_edges]
  constructor
  · rintro ⟨_, hle, hE⟩
    exact (mem_map_norm hle).2 hE
  · intro h
    have hle : u ≤ v := by
      obtain ⟨e, _, he⟩ := List.mem_map.1 h
      cases he
      exact Nat.le_trans (Nat.min_le_left _ _) (Nat.le_max_left _ _)
    have hE := (mem_map_norm hle).1 h
    exact ⟨(hW.of_E hE).1, hle, hE⟩

theorem length_edges_of_norm {G : NxG} (hW : G.WF) (hN : (G.tedges.map norm).Nodup) :
    G.edges.length = G.tedges.length := by
  rw [(edges_perm_norm hW hN).length_eq, List.length_map]

theorem length_edges {G : NxG} (hW : G.WF) (hO : G.Oriented) (hN : G.tedges.Nodup) :
    G.edges.length = G.tedges.length :=
  length_edges_of_norm hW (by rw [map_norm_of_oriented hO]; exact hN)

theorem length_edges_relabelCopy {G : NxG} (hW : G.WF) (hL : G.Loopless) :
    G.relabelCopy.edges.length = G.edges.length :=
  length_edges (relabelCopy_WF hW) (relabelCopy_oriented hL) (relabelCopy_nodup G)

end NxG

theorem emptyGraph_edges (n : Nat) : (emptyGraph n).edges = [] := by
  apply List.eq_nil_iff_forall_not_mem.2
  rintro ⟨u, v⟩ h
  have := (NxG.mem_edges.1 h).2.2
  simp [NxG.E, emptyGraph] at this

theorem mem_fromNxCalls {G : NxG} {a b : Nat} :
    (a, b) ∈ fromNxCalls G ↔ 1 ≤ a ∧ 1 ≤ b ∧ (a - 1, b - 1) ∈ G.relabelCopy.edges := by
  simp only [fromNxCalls, List.mem_map, Prod.mk.injEq]
  constructor
  · rintro ⟨⟨u, v⟩, h, rfl, rfl⟩
    exact ⟨by omega, by omega, by simpa using h⟩
  · rintro ⟨h1, h2, h⟩
    exact ⟨(a - 1, b - 1), h, by simp only; omega, by simp only; omega⟩

theorem nodup_fromNxCalls (G : NxG) : (fromNxCalls G).Nodup := by
  unfold fromNxCalls
  apply (NxG.nodup_edges _).map
  intro a b h
  simp only [Prod.mk.injEq] at h
  exact Prod.ext (by omega) (by omega)

/-- `Graph.from_networkx` of a loop-free networkx graph: the object with exactly the edges of the
networkx graph (vertex `i+1` for the node at position `i`), satisfying the invariant of C16, its edge
counter equal to the number of edges `G.edges()` reports -/
theorem fromNetworkx_spec {G : NxG} (hW : G.WF) (hL : G.Loopless) :
    ∃ S, fromNetworkx G = .ok S ∧ S.n = G.n ∧ SimpleG.Inv S ∧
      (∀ u v, (u, v) ∈ S.edgeset ↔ 1 ≤ u ∧ 1 ≤ v ∧ G.E (u - 1) (v - 1)) ∧
      S.m = G.edges.length := by
  have hWc := NxG.relabelCopy_WF hW
  have hin : ∀ e ∈ fromNxCalls G, 1 ≤ e.1 ∧ e.1 < e.2 ∧ e.2 ≤ G.n := by
    rintro ⟨a, b⟩ he
    obtain ⟨h1, h2, h3⟩ := mem_fromNxCalls.1 he
    obtain ⟨g1, g2, g3⟩ := NxG.mem_edges.1 h3
    have hE := (NxG.relabelCopy_E hW).1 g3
    have hne := hL.of_E hE
    have hr := hW.of_E hE
    simp only at *
    omega
  obtain ⟨S, s1, s3, s2, s4, s5⟩ := SimpleG.ofEdges_upward hin
  refine ⟨S, s1, s2, s3, ?_, ?_⟩
  · intro u v
    rw [s4, mem_fromNxCalls, mem_fromNxCalls, NxG.mem_edges, NxG.mem_edges]
    simp only [NxG.relabelCopy_E hW, NxG.relabelCopy_n]
    constructor
    · rintro (⟨h1, h2, _, _, hE⟩ | ⟨h1, h2, _, _, hE⟩)
      · exact ⟨h1, h2, hE⟩
      · exact ⟨h2, h1, NxG.E_comm.1 hE⟩
    · rintro ⟨h1, h2, hE⟩
      have hr := hW.of_E hE
      rcases Nat.le_total (u - 1) (v - 1) with hle | hle
      · exact Or.inl ⟨h1, h2, hr.1, hle, hE⟩
      · exact Or.inr ⟨h2, h1, hr.2, hle, NxG.E_comm.1 hE⟩
  · rw [s5 (nodup_fromNxCalls G)]
    simp only [fromNxCalls, List.length_map]
    exact NxG.length_edges_relabelCopy hW hL

theorem fromNetworkx_loop {G : NxG} (hW : G.WF) {u : Nat} (hu : (u, u) ∈ G.tedges) :
    fromNetworkx G = .error .valueError := by
  have hmem : (u + 1, u + 1) ∈ fromNxCalls G := by
    rw [mem_fromNxCalls]
    refine ⟨by omega, by omega, ?_⟩
    simp only [Nat.add_sub_cancel]
    rw [NxG.mem_edges]
    exact ⟨(hW _ hu).1, Nat.le_refl _, (NxG.relabelCopy_E hW).2 (Or.inl hu)⟩
  exact SimpleG.ofEdges_error fun hall => (hall _ hmem).2.2.2.2 rfl

def NxG.nbrList (G : NxG) (r : Nat) : List Nat := (List.range G.n).filter (fun s => decide (G.E r s))

def NxG.deg (G : NxG) (r : Nat) : Nat := (G.nbrList r).length

theorem NxG.mem_nbrList {G : NxG} {r s : Nat} : s ∈ G.nbrList r ↔ s < G.n ∧ G.E r s := by
  simp [NxG.nbrList]

theorem NxG.nodup_nbrList (G : NxG) (r : Nat) : (G.nbrList r).Nodup := List.nodup_range.filter _

theorem fromNetworkx_degree {G : NxG} (hW : G.WF) {S : SimpleG} (hI : SimpleG.Inv S)
    (hmem : ∀ u v, (u, v) ∈ S.edgeset ↔ 1 ≤ u ∧ 1 ≤ v ∧ G.E (u - 1) (v - 1)) (r : Nat) :
    (S.nbrs (r + 1)).length = G.deg r := by
  unfold NxG.deg
  rw [← List.length_map (f := fun s => s + 1) (as := G.nbrList r)]
  apply List.Perm.length_eq
  rw [List.perm_ext_iff_of_nodup (hI.nbrs_nodup _)]
  · intro w
    rw [hI.mem_nbrs, hmem]
    simp only [List.mem_map, NxG.mem_nbrList, Nat.add_sub_cancel]
    constructor
    · rintro ⟨_, hw, hE⟩
      exact ⟨w - 1, ⟨(hW.of_E hE).2, hE⟩, by omega⟩
    · rintro ⟨s, ⟨_, hE⟩, rfl⟩
      exact ⟨by omega, by omega, by simpa using hE⟩
  · apply (NxG.nodup_nbrList _ _).map
    intro a b h; simp only at h; omega

end Cnfgen.Nx

theorem Cnfgen.SimpleG.degree_natCast {S : SimpleG} {v : Nat} (h1 : 1 ≤ v) (h2 : v ≤ S.n) :
    S.degree (v : Int) = .ok (S.nbrs v).length := by
  simp only [SimpleG.degree, SimpleG.neighbors]
  rw [if_neg (by simp only [Decidable.not_not]; omega)]
  rfl
