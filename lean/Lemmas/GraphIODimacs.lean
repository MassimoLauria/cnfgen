/-
C14 — the DIMACS edge-format reader (`_read_graph_dimacs_format`): what a text denotes,
reader contract, round trip.
-/
import Lemmas.GraphIOBase
namespace Cnfgen.GraphFmt
open Cnfgen Cnfgen.GraphLex

def dimacsProbs : List DRow → List (Option (Int × Int))
  | [] => []
  | .prob p :: rs => p :: dimacsProbs rs
  | _ :: rs => dimacsProbs rs

def dimacsEdges : List DRow → List (Option (Int × Int))
  | [] => []
  | .edge e :: rs => e :: dimacsEdges rs
  | _ :: rs => dimacsEdges rs

/-- the pairs stated by the well-formed edge lines -/
def dimacsPairs (rows : List DRow) : List (Int × Int) := (dimacsEdges rows).filterMap id

section
variable {γ : Type} {C : GClass γ}

theorem readDimacsBody_some (rows : List DRow) (G : γ) (m : Int) (cnt : Nat) :
    Reads (readDimacsBody C ⟨some G, m, cnt⟩ rows) (fun st =>
      ∃ G', st.G = some G' ∧ st.m = m ∧ st.cnt = cnt + (dimacsEdges rows).length ∧ dimacsProbs rows = [] ∧
        GSem.addAll C G (dimacsPairs rows) = .ok G') := by
  induction rows generalizing G cnt with
  | nil => exact ⟨G, rfl, rfl, rfl, rfl, rfl⟩
  | cons r rs ih =>
    cases r with
    | blank => exact ih G cnt
    | comment => exact ih G cnt
    | other => exact ih G cnt
    | prob p => rfl
    | edge a =>
      cases a with
      | none => rfl
      | some vw =>
        obtain ⟨v, w⟩ := vw
        simp only [readDimacsBody]
        cases hk : C.addEdge G v w with
        | error x => rfl
        | ok G₁ =>
          refine (ih G₁ (cnt + 1)).imp fun st ⟨G', h1, h2, h3, h4, h5⟩ =>
            ⟨G', h1, h2, by rw [h3]; simp [dimacsEdges]; omega, by simpa [dimacsProbs] using h4, ?_⟩
          simp only [dimacsPairs, dimacsEdges, List.filterMap_cons, id, GSem.addAll_cons, hk]
          exact h5

theorem readDimacsBody_none (rows : List DRow) (m0 : Int) (cnt0 : Nat) :
    Reads (readDimacsBody C ⟨none, m0, cnt0⟩ rows) (fun st =>
      (st.G = none ∧ st.m = m0 ∧ st.cnt = cnt0) ∨
      ∃ n m G', dimacsProbs rows = [some (n, m)] ∧ 0 ≤ n ∧ st.G = some G' ∧ st.m = m ∧
        st.cnt = cnt0 + (dimacsEdges rows).length ∧ GSem.addAll C (C.init n.toNat) (dimacsPairs rows) = .ok G') := by
  induction rows with
  | nil => exact Or.inl ⟨rfl, rfl, rfl⟩
  | cons r rs ih =>
    cases r with
    | blank => exact ih
    | comment => exact ih
    | other => exact ih
    | edge a => rfl
    | prob p =>
      cases p with
      | none => rfl
      | some nm =>
        obtain ⟨n, m⟩ := nm
        simp only [readDimacsBody]
        split
        · rfl
        · rename_i hn
          exact (readDimacsBody_some rs (C.init n.toNat) m cnt0).imp
            fun st ⟨G', h1, h2, h3, h4, h5⟩ => Or.inr
              ⟨n, m, G', by simp [dimacsProbs, h4], by omega, h1, h2, by simpa [dimacsEdges] using h3, h5⟩

/-- T-C14.2 for `_read_graph_dimacs_format`: the only exception is ValueError; an accepted text
has exactly one problem line `p edge n m`, placed before every edge line, `m` is the number of
edge lines, and the object has `n` vertices and exactly the edges the edge lines state -/
theorem readDimacs_reads (S : GSem C) (rows : List DRow) : Reads (readDimacs C rows) (fun G =>
    dimacsProbs rows = [some ((C.order G : Int), ((dimacsEdges rows).length : Int))] ∧
    S.Inv G ∧ (∀ x ∈ dimacsPairs rows, S.Valid (C.order G) x.1 x.2) ∧
    ∀ p, p ∈ S.E G ↔ ∃ x ∈ dimacsPairs rows, S.contrib x.1 x.2 p) := by
  unfold readDimacs
  have hb := readDimacsBody_none (C := C) rows (-1) 0
  cases hk : readDimacsBody C ⟨none, -1, 0⟩ rows with
  | error y => exact hb.err hk
  | ok st =>
    simp only
    split
    · rfl
    · rename_i hm
      rcases hb.ok hk with ⟨_, h2, h3⟩ | ⟨n, m, G', h1, h2, h3, h4, h5, h6⟩
      · rw [h2, h3] at hm; simp at hm
      · rw [h3]
        obtain ⟨hv, hi, ho, h8⟩ := S.addAll_init_ok h6
        obtain rfl : m = ((dimacsEdges rows).length : Int) := by rw [← h4, Classical.not_not.1 hm, h5, Nat.zero_add]
        refine ⟨?_, hi, ho ▸ hv, h8⟩
        rw [h1, ho, Int.toNat_of_nonneg h2]

end

theorem readDimacsBody_edges {γ : Type} (C : GClass γ) (es : List (Nat × Nat)) (G : γ) (m : Int) (cnt : Nat) :
    readDimacsBody C ⟨some G, m, cnt⟩ (es.map (fun e => DRow.edge (some ((e.1 : Int), (e.2 : Int))))) =
      match GSem.addAll C G (es.map (fun e => ((e.1 : Int), (e.2 : Int)))) with
      | .ok G' => .ok ⟨some G', m, cnt + es.length⟩
      | .error _ => .error .valueError := by
  induction es generalizing G cnt with
  | nil => simp [readDimacsBody, GSem.addAll_nil]
  | cons a as ih =>
    simp only [List.map_cons, readDimacsBody, GSem.addAll_cons]
    cases C.addEdge G (a.1 : Int) (a.2 : Int) with
    | error x => rfl
    | ok G₁ =>
      simp only
      rw [ih]
      cases GSem.addAll C G₁ (as.map (fun e => ((e.1 : Int), (e.2 : Int)))) with
      | error x => rfl
      | ok G₂ => simp only [List.length_cons]; congr 2; omega

theorem readDimacsBody_comments {γ : Type} (C : GClass γ) (k : Nat) (st : DSt γ) (rs : List DRow) :
    readDimacsBody C st (List.replicate k .comment ++ rs) = readDimacsBody C st rs := by
  induction k with
  | zero => rfl
  | succ k ih => simp only [List.replicate_succ, List.cons_append, readDimacsBody, ih]

theorem readDimacs_rows {γ : Type} (C : GClass γ) (k n m : Nat) (es : List (Nat × Nat)) :
    readDimacs C (dimacsRows k n m es) =
      match GSem.addAll C (C.init n) (es.map (fun e => ((e.1 : Int), (e.2 : Int)))) with
      | .ok G' => if m ≠ es.length then .error .valueError else .ok G'
      | .error _ => .error .valueError := by
  have hn : ¬ ((n : Int) < 0) := by omega
  simp only [readDimacs, dimacsRows, readDimacsBody_comments, readDimacsBody, hn, if_false, Int.toNat_natCast,
    readDimacsBody_edges]
  cases GSem.addAll C (C.init n) (es.map (fun e => ((e.1 : Int), (e.2 : Int)))) with
  | error x => rfl
  | ok G' =>
    simp only [Nat.zero_add]
    by_cases hm : m = es.length
    · simp [hm]
    · have : (m : Int) ≠ (es.length : Int) := by omega
      simp [hm, this]

/-- T-C14.1 (DIMACS, simple graph) -/
theorem roundtrip_dimacs_simple (k : Nat) {G : SimpleG} (h : SimpleG.Inv G) :
    ∃ G', readDimacs simpleClass (writeDimacsSimple k G) = .ok G' ∧ SimpleG.Same G G' := by
  obtain ⟨G', hG', hS⟩ := SimpleG.rebuild h (cs := G.edges) (fun e he => (h.mem_edges'.1 he).2) (fun a b hab => by
    rcases Nat.lt_or_gt_of_ne (h.range a b hab).2.2.2.2 with hlt | hgt
    · exact Or.inl (h.mem_edges'.2 ⟨hlt, hab⟩)
    · exact Or.inr (h.mem_edges'.2 ⟨hgt, h.symm _ _ hab⟩))
  refine ⟨G', ?_, hS⟩
  rw [writeDimacsSimple, readDimacs_rows, show GSem.addAll simpleClass (simpleClass.init G.n) _ = .ok G' from hG']
  exact if_neg (fun hne => hne h.m_eq_length_edges)

theorem DiG.Inv.length_edges {G : DiG} (h : DiG.Inv G) : G.edges.length = G.m := by
  rw [← h.count]
  exact ((List.perm_ext_iff_of_nodup h.edges_nodup h.nodup).2 (fun e => h.mem_edges)).length_eq

/-- T-C14.1 (DIMACS, directed graph; the same file is read for `digraph` and `dag`) -/
theorem roundtrip_dimacs_di (k : Nat) {G : DiG} (h : DiG.Inv G) :
    ∃ G', readDimacs diClass (writeDimacsDi k G) = .ok G' ∧ DiG.Same G G' := by
  obtain ⟨G', hG', hS⟩ := DiG.rebuild h (cs := G.edges) (fun e => h.mem_edges)
  refine ⟨G', ?_, hS⟩
  rw [writeDimacsDi, readDimacs_rows, show GSem.addAll diClass (diClass.init G.n) _ = .ok G' from hG']
  exact if_neg (fun hne => hne (DiG.Inv.length_edges h).symm)

end Cnfgen.GraphFmt
