/-
Helper lemmas for Props/C07: the taint analysis of `Cli/PhaseTable.lean` is sound — if `taintFrom` accepts an
event list, two runs of it with the same command line and seed but different hidden inputs observe the same.
Second half: the header entry `random seed` of a run is a fold of `hdrStep` over its `headerSeed` events.
-/
import CnfgenModel.Cli.PhaseTable
namespace Cnfgen.Cli
open Cnfgen.GenPh

variable {S : Type}

/-- two states of two runs: the same observations so far, and the same generator state whenever the analysis
says it is determined -/
def Rel (det : Bool) (a b : St S) : Prop := a.obs = b.obs ∧ (det = true → a.rng = b.rng)

@[simp] theorem draws_zero (g : Gen S) (s : S) : draws g 0 s = ([], s) := rfl

theorem firesForAllSeeds_fires (ty : String) (gd : Guard) (s : Int) (h : firesForAllSeeds ty gd = true) :
    guardFires ty gd (some s) = true := by
  cases gd <;> simp_all [firesForAllSeeds, guardFires]

theorem draws_rel (g : Gen S) (k : Nat) (upd : List Nat → Obs) {det : Bool} {ra rb : S} (hr : det = true → ra = rb)
    (hk : k = 0 ∨ det = true) :
    Rel det ⟨(draws g k ra).2, upd (draws g k ra).1⟩ ⟨(draws g k rb).2, upd (draws g k rb).1⟩ := by
  rcases hk with rfl | hd
  · exact ⟨rfl, hr⟩
  · rw [hr hd]
    exact ⟨rfl, fun _ => rfl⟩

theorem stepEv_rel {g : Gen S} {t : ToolPhases} {c : RunCmd} {s : Int} (hs : c.seed = some s)
    {h₁ h₂ : Hidden S} {det det' : Bool} {e : Ev} {a b : St S} (hrel : Rel det a b)
    (ht : taintStep t det e = some det') : Rel det' (stepEv g t c h₁ a e) (stepEv g t c h₂ b e) := by
  obtain ⟨ra, o⟩ := a
  obtain ⟨rb, o'⟩ := b
  obtain ⟨ho, hr⟩ := hrel
  simp only at ho hr
  subst ho
  cases e with
  | parse call =>
    -- `sd`: the action of `--seed` seeds; then both generators are in the state of the seed before anything is drawn
    obtain ⟨sd, hsd⟩ : ∃ sd, sd = match t.seedOpt with | some o => o.seeds | none => false := ⟨_, rfl⟩
    replace ht : (if parseMayDraw t && !(det || sd) then none else some (det || sd)) = some det' := hsd ▸ ht
    split at ht
    · cases ht
    rename_i hk
    cases ht
    simp only [stepEv, hs]
    refine draws_rel g _ (fun vs => { o with parseVals := o.parseVals ++ vs }) (fun hd => ?_) ?_
    · subst hsd
      revert hd
      cases t.seedOpt with
      | none => exact fun hd => hr (by simpa using hd)
      | some so =>
        intro hd
        cases hse : so.seeds with
        | true => simp only [hse, if_true]
        | false =>
          simp only [hse, Bool.false_eq_true, if_false]
          exact hr (by simpa [hse] using hd)
    · cases hp : parseMayDraw t with
      | false => exact .inl rfl
      | true => exact .inr (by cases det <;> simp_all)
  | seed gd arg =>
    cases arg with
    | argsSeed =>
      cases hso : t.seedOpt with
      | none => simp [taintStep, hso] at ht
      | some so =>
        cases hst : so.stores with
        | false => simp [taintStep, hso, hst] at ht
        | true =>
          cases hk : gd.known with
          | false => simp [taintStep, hso, hst, hk] at ht
          | true =>
            simp only [taintStep, hso, hst, hk, if_true, Option.some.injEq] at ht
            subst ht
            have hargs : argsSeed t c.seed = some s := by simp [argsSeed, hso, hst, hs]
            simp only [stepEv, hargs]
            split
            · exact ⟨rfl, fun _ => rfl⟩
            · -- the guard does not fire for `s`, so it does not fire for every seed, and `det' = det`
              rename_i hf
              refine ⟨rfl, fun hd => hr ?_⟩
              cases hfa : firesForAllSeeds (seedTy t) gd with
              | false => simpa [hfa] using hd
              | true => exact absurd (firesForAllSeeds_fires _ _ s hfa) hf
    | actionValue => simp [taintStep] at ht
    | noArgument => simp [taintStep] at ht
    | other src => simp [taintStep] at ht
  | draw _ | build _ | transforms _ | shuffle =>
    -- a phase that may draw is accepted only when the generator state is determined
    cases det with
    | false => simp [taintStep] at ht
    | true =>
      simp [taintStep] at ht; subst ht
      simp only [stepEv, St.drawLater]
      exact draws_rel g _ (fun vs => { o with laterVals := o.laterVals ++ vs }) hr (.inr rfl)
  | readInput _ | output _ =>
    simp [taintStep] at ht; subst ht
    exact ⟨rfl, hr⟩
  | headerSeed gd v =>
    simp only [taintStep] at ht
    split at ht
    · cases ht
      simp only [stepEv]
      split <;> exact ⟨rfl, hr⟩
    · cases ht
  | headerCmdline pre =>
    simp only [taintStep] at ht
    split at ht
    · cases ht
    · cases ht
      exact ⟨rfl, hr⟩

theorem runFrom_rel (g : Gen S) (t : ToolPhases) (c : RunCmd) (s : Int) (hs : c.seed = some s)
    (h₁ h₂ : Hidden S) (evs : List Ev) : ∀ (det : Bool) (a b : St S), Rel det a b →
    taintFrom t det evs = true → runFrom g t c h₁ evs a = runFrom g t c h₂ evs b := by
  induction evs with
  | nil => intro det a b hrel _; exact hrel.1
  | cons e es ih =>
    intro det a b hrel ht
    simp only [runFrom]
    by_cases ho : isOutput e = true
    · simp only [ho, if_true]; exact hrel.1
    · have ho' : isOutput e = false := by simpa using ho
      simp only [ho', Bool.false_eq_true, if_false]
      simp only [taintFrom, ho', Bool.false_eq_true, if_false] at ht
      cases hst : taintStep t det e with
      | none => simp [hst] at ht
      | some det' =>
        simp only [hst] at ht
        exact ih det' _ _ (stepEv_rel hs hrel hst) ht

theorem init_rel (c : RunCmd) (hobj : c.printsObject = false) (h₁ h₂ : Hidden S) :
    Rel false (St.init c h₁) (St.init c h₂) := by
  refine ⟨?_, fun h => by simp at h⟩
  simp [St.init, hobj]

/-- effect of one event on `header['random seed']` -/
def hdrStep (t : ToolPhases) (c : RunCmd) (acc : Option Int) : Ev → Option Int
  | .headerSeed gd _ => if guardFires (seedTy t) gd (argsSeed t c.seed) then argsSeed t c.seed else acc
  | _ => acc

theorem drawLater_headerSeed (g : Gen S) (k : Nat) (st : St S) :
    (st.drawLater g k).obs.headerSeed = st.obs.headerSeed := by
  simp [St.drawLater]

theorem stepEv_hdr (g : Gen S) (t : ToolPhases) (c : RunCmd) (h : Hidden S) (st : St S) (e : Ev) :
    (stepEv g t c h st e).obs.headerSeed = hdrStep t c st.obs.headerSeed e := by
  cases e with
  | parse call => simp [stepEv, hdrStep]
  | seed gd a =>
    simp only [stepEv, hdrStep]
    split
    · split <;> rfl
    · rfl
  | draw callee => simp [stepEv, hdrStep, drawLater_headerSeed]
  | readInput call => simp [stepEv, hdrStep]
  | build call => simp [stepEv, hdrStep, drawLater_headerSeed]
  | transforms call => simp [stepEv, hdrStep, drawLater_headerSeed]
  | shuffle => simp [stepEv, hdrStep, drawLater_headerSeed]
  | headerSeed gd v =>
    simp only [stepEv, hdrStep]
    split <;> rfl
  | headerCmdline pre => simp [stepEv, hdrStep]
  | output how => simp [stepEv, hdrStep]

theorem runFrom_hdr (g : Gen S) (t : ToolPhases) (c : RunCmd) (h : Hidden S) (evs : List Ev) :
    ∀ st : St S, (runFrom g t c h evs st).headerSeed =
      ((evs.takeWhile (fun e => !isOutput e)).filter isHeaderSeed).foldl (hdrStep t c) st.obs.headerSeed := by
  induction evs with
  | nil => intro st; rfl
  | cons e es ih =>
    intro st
    simp only [runFrom]
    by_cases ho : isOutput e = true
    · simp [ho, List.takeWhile]
    · have ho' : isOutput e = false := by simpa using ho
      simp only [ho', Bool.false_eq_true, if_false, List.takeWhile, Bool.not_false]
      rw [ih, stepEv_hdr]
      -- only a `headerSeed` event passes the filter, and only it changes the entry
      cases e <;> rfl

end Cnfgen.Cli
