/-
Helper lemmas for the translated family generators (`Props/C01/Generated.lean` …): the formula effect object
(`Core/PyFormula.lean`), the translated `VariablesManager` procedures on a unary / sparse mapping, as the model's
`SMap` describes them, and on a binary mapping.
-/
import Props.C11.GeneratedWrap
import CnfgenModel.Fam.Mapping
import Lemmas.C01Complete
import Props.C11.GeneratedBinary
import Lemmas.PyFold
set_option linter.unusedSimpArgs false
namespace Cnfgen.GenFam
open Cnfgen Cnfgen.Vars Cnfgen.PyGen Cnfgen.GenVars Cnfgen.C11 Cnfgen.Fam Cnfgen.PyF

@[simp] theorem add_clause_nocheck (s : FState) (c : List Int) :
    PyF.add_clause s c false = Except.ok (push s (.clause c)) := rfl

@[simp] theorem cardinality_leq_nocheck (s : FState) (l : List Int) (v : Int) :
    PyF.cardinality_leq s l v false = Except.ok (push s (.lin l .le v)) := rfl

@[simp] theorem cardinality_eq_nocheck (s : FState) (l : List Int) (v : Int) :
    PyF.cardinality_eq s l v false = Except.ok (push s (.lin l .eq v)) := rfl

@[simp] theorem cardinality_geq_nocheck (s : FState) (l : List Int) (v : Int) :
    PyF.cardinality_geq s l v false = Except.ok (push s (.lin l .ge v)) := rfl

/-- a loop over the images `g x` of a list that adds the constraints `c x` while the number of variables stays `N` -/
theorem foldlM_pushAll_map {α β : Type} (N : Int) (g : β → α) (xs : List β) (body : FState → α → Except Err FState)
    (c : β → List Con)
    (h : ∀ s x, x ∈ xs → s.numvar = N → body s (g x) = Except.ok { s with cons := s.cons ++ c x }) (s : FState)
    (hs : s.numvar = N) :
    List.foldlM body s (xs.map g) = Except.ok { s with cons := s.cons ++ xs.flatMap c } := by
  induction xs generalizing s with
  | nil => simp
  | cons x xs ih =>
    rw [List.map_cons, List.foldlM_cons, h s x (by simp) hs, Py.ok_bind,
      ih (fun s y hy => h s y (by simp [hy])) { s with cons := s.cons ++ c x } hs]
    simp

theorem foldlM_push_map {α β : Type} (N : Int) (g : β → α) (xs : List β) (body : FState → α → Except Err FState)
    (c : β → Con) (h : ∀ s x, x ∈ xs → s.numvar = N → body s (g x) = Except.ok (push s (c x))) (s : FState)
    (hs : s.numvar = N) :
    List.foldlM body s (xs.map g) = Except.ok { s with cons := s.cons ++ xs.map c } := by
  rw [foldlM_pushAll_map N g xs body (fun x => [c x]) h s hs, List.map_eq_flatMap]

/-- one step of a translated procedure: the first call returns `a`, the rest runs on `a`.  Used with `refine`, a
step only looks at the head of the procedure (a `rw` or `simp` would traverse all that is still to run). -/
theorem bind_of_ok {α β : Type} {x : Except Err α} {a : α} {f : α → Except Err β} {y : Except Err β}
    (hx : x = Except.ok a) (h : f a = y) : (x >>= f) = y := by subst hx; exact h

theorem bind_of_error {α β : Type} {x : Except Err α} {e : Err} {f : α → Except Err β}
    (hx : x = Except.error e) : (x >>= f) = Except.error e := by subst hx; rfl

theorem unary_call_row (nv : Nat) {G : BipG} (h : G.WF) (x : Nat) (hx : 1 ≤ x ∧ x ≤ G.l) :
    UnaryMappingVariables.call (unarySelf nv G) [some (x : Int), none] =
      Except.ok (Sum.inr ((SMap.mk G (nv + 1)).row x)) := by
  refine (gen_unary_call_eq_model nv h _).trans ((baseCall_many (l := pairList ((G.rnbrs x).map fun v => (x, v))) ?_ rfl).trans ?_)
  · show (bipIndices G [some (x : Int), none]).map pairList = _
    rw [bipIndices, if_neg (not_not.2 (by omega)), Int.toNat_natCast]
    rfl
  · simp only [pairList, List.map_map, ints, SMap.row]
    rfl

theorem unary_call_col (nv : Nat) {G : BipG} (h : G.WF) (y : Nat) (hy : 1 ≤ y ∧ y ≤ G.r) :
    UnaryMappingVariables.call (unarySelf nv G) [none, some (y : Int)] =
      Except.ok (Sum.inr ((SMap.mk G (nv + 1)).col y)) := by
  refine (gen_unary_call_eq_model nv h _).trans ((baseCall_many (l := pairList ((G.lnbrs y).map fun u => (u, y))) ?_ rfl).trans ?_)
  · show (bipIndices G [none, some (y : Int)]).map pairList = _
    rw [bipIndices, if_neg (not_not.2 (by omega)), Int.toNat_natCast]
    rfl
  · simp only [pairList, List.map_map, ints, SMap.col]
    rfl

theorem unary_ids (nv : Nat) (G : BipG) :
    (unarySelf nv G).ids = ⟨(nv : Int) + 1, (nv : Int) + (G.numberOfEdges : Nat) + 1⟩ := rfl

theorem range_get_first (a : Int) (n : Nat) (hn : 0 < n) : Py.Range.get ⟨a + 1, a + (n : Int) + 1⟩ 0 = Except.ok (a + 1) := by
  unfold Py.Range.get
  rw [Py.ids_len]
  have h1 : (0 : Int) < (n : Int) := by omega
  simp [h1]
  omega

theorem range_get_last (a : Int) (n : Nat) (hn : 0 < n) :
    Py.Range.get ⟨a + 1, a + (n : Int) + 1⟩ (-1) = Except.ok (a + (n : Int)) := by
  unfold Py.Range.get
  rw [Py.ids_len]
  have h0 : ¬ ((0 : Int) ≤ -1) := by omega
  have h1 : (-(-1 : Int)) ≤ (n : Int) := by omega
  rw [if_neg h0, if_pos h1]
  congr 1
  show a + 1 + (n : Int) + -1 = a + (n : Int)
  omega

/-- `_add_variable_group(vg)` for a group just created on a formula with `nv` variables, with identifiers
`nv+1 … nv+cnt`: the count is raised to the last identifier (an empty group changes nothing; the overlap test and
the `assert` cannot fire).  The translation has one copy of the method per group class; each is this term. -/
theorem add_variable_group_eq (s : FState) (nv cnt : Nat) (hs : s.numvar = nv) (ids : Py.Range)
    (hids : ids = ⟨(nv : Int) + 1, (nv : Int) + (cnt : Int) + 1⟩) :
    (if Py.Range.len ids = 0 then Except.ok s
     else
      (Py.Range.get ids 0 >>= fun x => Except.ok x) >>= fun first =>
      (Py.Range.get ids (-1) >>= fun x => Except.ok x) >>= fun last =>
      if last ≥ first then
        if first ≤ PyF.number_of_variables s then Except.error Err.valueError
        else PyF.update_variable_number s last >>= fun s' => Except.ok s'
      else Except.error Err.assertion) = Except.ok { s with numvar := ((nv + cnt : Nat) : Int) } := by
  subst hids
  rw [Py.ids_len]
  by_cases hE : cnt = 0
  · subst hE
    rw [if_pos Int.natCast_zero, Nat.add_zero, ← hs]
  · rw [if_neg (by omega), range_get_first _ _ (by omega), range_get_last _ _ (by omega)]
    have h1 : (nv : Int) + (cnt : Int) ≥ (nv : Int) + 1 := by omega
    have h2 : ¬ ((nv : Int) + 1 ≤ (nv : Int)) := by omega
    have h3 : ¬ ((nv : Int) + (cnt : Int) < 0) := by omega
    have h4 : (nv : Int) + (cnt : Int) > (nv : Int) := by omega
    simp only [Py.ok_bind, PyF.number_of_variables, PyF.update_variable_number, hs, h1, if_true, h2, if_false, h3, h4]
    rw [Int.natCast_add]

theorem add_variable_group_unary_eq (s : FState) (nv : Nat) (G : BipG) (hs : s.numvar = nv) :
    VariablesManager.add_variable_group_unary s (unarySelf nv G) =
      Except.ok { s with numvar := ((nv + G.numberOfEdges : Nat) : Int) } :=
  add_variable_group_eq s nv _ hs _ (unary_ids nv G)

/-- `new_mapping(n, m, label)` on a formula with `nv` variables: the sign checks, the label check of the group
constructor, then the unary mapping over the complete bipartite graph and `n·m` more variables -/
theorem new_mapping_eq (s : FState) (nv : Nat) (hs : s.numvar = nv) (n m : Int) (out : Except Err Unit) :
    VariablesManager.new_mapping s n m out =
      if n < 0 ∨ m < 0 then Except.error Err.valueError
      else Py.tryExcept out Err.indexError (Except.error Err.valueError) (fun _ =>
        Except.ok (unarySelf nv (BipG.complete n.toNat m.toNat),
          { s with numvar := ((nv + n.toNat * m.toNat : Nat) : Int) })) := by
  unfold VariablesManager.new_mapping
  by_cases h : n < 0 ∨ m < 0
  · rw [if_pos h, if_pos h]
  · rw [if_neg h, if_neg h]
    simp only [absCompleteBip, if_neg h, Py.ok_bind, hs]
    rw [gen_unary_init_eq nv (BipG.wf_complete _ _)]
    cases out with
    | error e => simp only [Py.tryExcept]; split <;> rfl
    | ok u =>
      simp only [Py.tryExcept, Py.ok_bind]
      rw [add_variable_group_unary_eq s nv _ hs, Py.ok_bind, BipG.numberOfEdges_complete]

theorem new_sparse_mapping_eq (s : FState) (nv : Nat) (hs : s.numvar = nv) {G : BipG} (h : G.WF) (out : Except Err Unit) :
    VariablesManager.new_sparse_mapping s (absBip G) out =
      Py.tryExcept out Err.indexError (Except.error Err.valueError) (fun _ =>
        Except.ok (unarySelf nv G, { s with numvar := ((nv + G.numberOfEdges : Nat) : Int) })) := by
  unfold VariablesManager.new_sparse_mapping
  have hb : ¬ ¬ ((absBip G).is_bipartite = true) := by simp [absBip]
  rw [if_neg hb, hs, gen_unary_init_eq nv h]
  cases out with
  | error e => simp only [Py.tryExcept]; split <;> rfl
  | ok u =>
    simp only [Py.tryExcept, Py.ok_bind]
    rw [add_variable_group_unary_eq s nv _ hs, Py.ok_bind]

theorem range'_eq_idx (n : Nat) : List.range' 1 n = idx n := by
  simp [idx, rangeN_eq_range']

theorem foldlM_push_idx (n : Nat) (body : FState → Int → Except Err FState) (c : Nat → Con)
    (h : ∀ s a, 1 ≤ a ∧ a ≤ n → body s (a : Int) = Except.ok (push s (c a))) (s : FState) :
    List.foldlM body s (ints (idx n)) = Except.ok { s with cons := s.cons ++ (idx n).map c } :=
  foldlM_push_map s.numvar Int.ofNat (idx n) body c (fun s a ha _ => h s a (mem_idx.1 ha)) s rfl

theorem force_complete_unary_eq (s : FState) (nv : Nat) {G : BipG} (h : G.WF) :
    VariablesManager.force_complete_mapping_unary s (unarySelf nv G) =
      Except.ok { s with cons := s.cons ++ (SMap.mk G (nv + 1)).forceComplete } := by
  simp only [VariablesManager.force_complete_mapping_unary, gen_unary_domain_none, Py.ok_bind, range'_eq_idx]
  refine bind_of_ok (foldlM_push_idx _ _ _ (fun s a ha => ?_) s) rfl
  simp only [unary_call_row nv h a ha, Py.ok_bind, add_clause_nocheck]

theorem force_functional_unary_eq (s : FState) (nv : Nat) {G : BipG} (h : G.WF) :
    VariablesManager.force_functional_mapping_unary s (unarySelf nv G) =
      Except.ok { s with cons := s.cons ++ (SMap.mk G (nv + 1)).forceFunctional } := by
  simp only [VariablesManager.force_functional_mapping_unary, gen_unary_domain_none, Py.ok_bind, range'_eq_idx]
  refine bind_of_ok (foldlM_push_idx _ _ _ (fun s a ha => ?_) s) rfl
  simp only [unary_call_row nv h a ha, Py.ok_bind, cardinality_leq_nocheck]

theorem force_surjective_unary_eq (s : FState) (nv : Nat) {G : BipG} (h : G.WF) :
    VariablesManager.force_surjective_mapping_unary s (unarySelf nv G) =
      Except.ok { s with cons := s.cons ++ (SMap.mk G (nv + 1)).forceSurjective } := by
  simp only [VariablesManager.force_surjective_mapping_unary, gen_unary_range_none, Py.ok_bind, range'_eq_idx]
  refine bind_of_ok (foldlM_push_idx _ _ _ (fun s a ha => ?_) s) rfl
  simp only [unary_call_col nv h a ha, Py.ok_bind, add_clause_nocheck]

theorem force_injective_unary_eq (s : FState) (nv : Nat) {G : BipG} (h : G.WF) :
    VariablesManager.force_injective_mapping_unary s (unarySelf nv G) =
      Except.ok { s with cons := s.cons ++ (SMap.mk G (nv + 1)).forceInjective } := by
  simp only [VariablesManager.force_injective_mapping_unary, gen_unary_range_none, Py.ok_bind, range'_eq_idx]
  refine bind_of_ok (foldlM_push_idx _ _ _ (fun s a ha => ?_) s) rfl
  simp only [unary_call_col nv h a ha, Py.ok_bind, cardinality_leq_nocheck]

theorem combos2_eq_pairs {α : Type} (l : List α) : Py.combos2 l = pairs l := by
  induction l with
  | nil => rfl
  | cons x xs ih => simp [Py.combos2, pairs, ih]

theorem pairs_map {α β : Type} (f : α → β) (l : List α) :
    pairs (l.map f) = (pairs l).map (fun p => (f p.1, f p.2)) := by
  induction l with
  | nil => rfl
  | cons x xs ih => simp [pairs, ih, List.map_map, Function.comp_def]

theorem binary_ids (nv n m : Nat) :
    (binSelf nv n m).ids = ⟨(nv : Int) + 1, (nv : Int) + ((n * clog2 m : Nat) : Int) + 1⟩ := by
  simp [binSelf]

theorem add_variable_group_binary_eq (s : FState) (nv n m : Nat) (hs : s.numvar = nv) :
    VariablesManager.add_variable_group_binary s (binSelf nv n m) =
      Except.ok { s with numvar := ((nv + n * clog2 m : Nat) : Int) } :=
  add_variable_group_eq s nv _ hs _ (binary_ids nv n m)

theorem new_binary_mapping_eq (s : FState) (nv : Nat) (hs : s.numvar = nv) (n m : Int) :
    VariablesManager.new_binary_mapping s n m =
      if n < 0 ∨ m < 0 then Except.error Err.valueError
      else Except.ok (binSelf nv n.toNat m.toNat,
          { s with numvar := ((nv + n.toNat * clog2 m.toNat : Nat) : Int) }) := by
  unfold VariablesManager.new_binary_mapping
  by_cases h : n < 0 ∨ m < 0
  · rw [if_pos h, if_pos h]
  · rw [if_neg h, if_neg h]
    have h' : ¬ (m < 0 ∨ n < 0) := fun x => h x.symm
    simp only [hs, gen_binary_init_eq, if_neg h', Py.ok_bind]
    rw [add_variable_group_binary_eq s nv _ _ hs, Py.ok_bind]

theorem binary_forbid_loop (nv n m i j : Nat) (hi : 1 ≤ i ∧ i ≤ n) (hj : j < 2 ^ clog2 m) :
    BinaryMappingVariables.forbid (binSelf nv n m) (i : Int) (j : Int) =
      Except.ok (forbidLits (nv + 1) (clog2 m) i j) := by
  rw [gen_binary_forbid_eq_model, forbidFull_eq_forbid hi, Fam.forbid_eq, if_neg (by omega)]

theorem force_complete_binary_eq (s : FState) (nv n m : Nat) :
    VariablesManager.force_complete_mapping_binary s (binSelf nv n m) =
      Except.ok { s with cons := s.cons ++ (idx n).flatMap (fun i =>
        (rangeN m (2 ^ clog2 m)).map (fun j => Con.clause (forbidLits (nv + 1) (clog2 m) i j))) } := by
  have hdom : Py.Range.toList (BinaryMappingVariables.domain (binSelf nv n m)) = ints (idx n) := range_toList_nat n
  have hlen : Py.Range.len (BinaryMappingVariables.range (binSelf nv n m)) = (m : Int) := by
    simp [BinaryMappingVariables.range, binSelf, Py.Range.len]; omega
  have hpow : Py.pow 2 (BinaryMappingVariables.bits (binSelf nv n m)) = ((2 ^ clog2 m : Nat) : Int) := by
    simp [BinaryMappingVariables.bits, binSelf, Py.pow]
  simp only [VariablesManager.force_complete_mapping_binary, hdom, hlen, hpow, range_nat_toList]
  refine (bind_ok_eq _).trans (foldlM_pushAll_map s.numvar Int.ofNat (idx n) _ _ (fun s i hi _ => ?_) s rfl)
  refine (bind_ok_eq _).trans (foldlM_push_map s.numvar Int.ofNat (rangeN m (2 ^ clog2 m)) _
    (fun j => Con.clause (forbidLits (nv + 1) (clog2 m) i j)) (fun s j hj _ => ?_) s rfl)
  rw [Int.ofNat_eq_natCast, Int.ofNat_eq_natCast, binary_forbid_loop nv n m i j (mem_idx.1 hi) (mem_rangeN.1 hj).2]
  rfl

theorem force_injective_binary_eq (s : FState) (nv n m : Nat) :
    VariablesManager.force_injective_mapping_binary s (binSelf nv n m) =
      Except.ok { s with cons := s.cons ++ (List.range m).flatMap (fun y =>
        (pairs (idx n)).map (fun x => Con.clause (forbidLits (nv + 1) (clog2 m) x.1 y ++ forbidLits (nv + 1) (clog2 m) x.2 y))) } := by
  have hdom : Py.Range.toList (BinaryMappingVariables.domain (binSelf nv n m)) = ints (idx n) := range_toList_nat n
  have hrng : Py.Range.toList (BinaryMappingVariables.range (binSelf nv n m)) = ints (List.range m) := by
    have := Py.range_zero_toList m
    simpa [BinaryMappingVariables.range, binSelf, ints] using this
  simp only [VariablesManager.force_injective_mapping_binary, hdom, hrng, combos2_eq_pairs, ints, pairs_map]
  have hle : m ≤ 2 ^ clog2 m := (clog2_spec m).1
  refine (bind_ok_eq _).trans (foldlM_pushAll_map s.numvar Int.ofNat (List.range m) _ _ (fun s y hy _ => ?_) s rfl)
  refine (bind_ok_eq _).trans (foldlM_push_map s.numvar (fun p : Nat × Nat => (Int.ofNat p.1, Int.ofNat p.2)) (pairs (idx n)) _
    (fun x => Con.clause (forbidLits (nv + 1) (clog2 m) x.1 y ++ forbidLits (nv + 1) (clog2 m) x.2 y))
    (fun s x hx _ => ?_) s rfl)
  have hm := mem_pairs_mem _ _ _ hx
  rw [mem_idx, mem_idx] at hm
  have hy' := List.mem_range.1 hy
  simp only [Int.ofNat_eq_natCast, binary_forbid_loop nv n m x.1 y hm.1 (by omega),
    binary_forbid_loop nv n m x.2 y hm.2 (by omega), Py.ok_bind, add_clause_nocheck]

end Cnfgen.GenFam
