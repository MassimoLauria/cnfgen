/-
The contract of a generator: it returns a formula when its documented precondition holds and raises ValueError otherwise
(`Dich`).  One such fact per family entry point; that a generator can fail only with ValueError, and when it succeeds, are
read off it (`dich_ok`, `dich_ok_iff`; `clean_of_dich` in Props/C18/Families.lean).  The contracts of `ptn`, `ramseyNumber`,
`vdw`, `cpls` rest on lemmas about those families and stand in Lemmas/Outcome.lean.
-/
import CnfgenModel.Fam.Php
import CnfgenModel.Fam.Counting
import CnfgenModel.Fam.CliqueColoring
import CnfgenModel.Fam.Ordering
import CnfgenModel.Fam.Coloring
import CnfgenModel.Fam.DomSet
import CnfgenModel.Fam.Subgraph
import CnfgenModel.Fam.Pebbling
namespace Cnfgen.Cli
open Cnfgen

def Dich {α : Type} (x : Except Err α) (P : Prop) : Prop :=
  (x = .error .valueError ∧ ¬ P) ∨ ((∃ F, x = .ok F) ∧ P)

theorem dich_ok {α : Type} {x : Except Err α} {P : Prop} (hd : Dich x P) {a : α} (h : x = .ok a) : P := by
  rcases hd with ⟨he, _⟩ | ⟨_, hp⟩
  · rw [h] at he; cases he
  · exact hp

theorem dich_ok_iff {α : Type} {x : Except Err α} {P : Prop} (hd : Dich x P) : (∃ F, x = .ok F) ↔ P := by
  rcases hd with ⟨he, hn⟩ | ⟨hF, hp⟩
  · exact ⟨fun ⟨F, hF⟩ => dich_ok (.inl ⟨he, hn⟩) hF, fun hp => absurd hp hn⟩
  · exact ⟨fun _ => hp, fun _ => hF⟩

theorem dich_guard {α : Type} {c P Q : Prop} [Decidable c] {x : Except Err α} (hx : Dich x Q) (h : ¬ c ∧ Q ↔ P) :
    Dich (if c then .error .valueError else x) P := by
  unfold Dich at hx ⊢
  split
  · exact Or.inl ⟨rfl, fun hp => (h.2 hp).1 ‹c›⟩
  · rcases hx with ⟨he, hq⟩ | ⟨hF, hq⟩
    · exact Or.inl ⟨he, fun hp => hq (h.2 hp).2⟩
    · exact Or.inr ⟨hF, h.1 ⟨‹¬ c›, hq⟩⟩

theorem dich_ite {α : Type} {c P : Prop} [Decidable c] (a : α) (h : ¬ c ↔ P) :
    Dich (if c then .error .valueError else .ok a) P :=
  dich_guard (Q := True) (.inr ⟨⟨a, rfl⟩, trivial⟩) ((iff_of_eq (and_true _)).trans h)

theorem php_dich (m n : Int) (f o : Bool) : Dich (Fam.php m n f o) (0 ≤ m ∧ 0 ≤ n) := dich_ite _ (by omega)

theorem bphp_dich (m n : Int) : Dich (Fam.bphp m n) (0 ≤ m ∧ 0 ≤ n) := dich_ite _ (by omega)

theorem rphp_dich (m r n : Int) : Dich (Fam.rphp m r n) (0 ≤ m ∧ 0 ≤ r ∧ 0 ≤ n) := dich_ite _ (by omega)

theorem counting_dich (m p : Int) : Dich (Fam.counting m p) (0 ≤ m ∧ 1 ≤ p) :=
  dich_guard (dich_ite _ Iff.rfl) (by omega)

theorem cliqueColoring_dich (n k c : Int) : Dich (Fam.cliqueColoring n k c) (0 ≤ n ∧ 0 ≤ k ∧ 0 ≤ c) :=
  dich_ite _ (by omega)

theorem op_dich (n : Int) (t s p : Bool) (k : Int) : Dich (Fam.Ordering.op n t s p k) (0 ≤ n) := dich_ite _ (by omega)

theorem coloring_dich (G : SimpleG) (k : Int) (fn : Bool) : Dich (Fam.coloring G k fn) (0 ≤ k) := dich_ite _ (by omega)

theorem evenColoring_dich (G : SimpleG) :
    Dich (Fam.evenColoring G) (∀ v ∈ rangeN 1 (G.n + 1), (G.nbrs v).length % 2 = 0) :=
  dich_ite _ (by simp)

theorem domset_dich (G : SimpleG) (d : Int) (alt : Bool) : Dich (Fam.domset G d alt) (1 ≤ d) := dich_ite _ (by omega)

theorem cliqueFormula_dich (G : SimpleG) (k : Int) (sb : Bool) : Dich (Fam.G2.cliqueFormula G k sb) (0 ≤ k) :=
  dich_ite _ (by omega)

theorem binaryCliqueFormula_dich (G : SimpleG) (k : Int) (sb : Bool) :
    Dich (Fam.G2.binaryCliqueFormula G k sb) (0 ≤ k) :=
  dich_ite _ (by omega)

theorem ramseyWitness_dich (G : SimpleG) (k s : Int) (sb : Bool) :
    Dich (Fam.G2.ramseyWitnessFormula G k s sb) (0 ≤ k ∧ 0 ≤ s) :=
  dich_guard (dich_ite _ Iff.rfl) (by omega)

theorem pebbling_dich (D : DiG) : Dich (Fam.Pebbling.pebbling D) (D.stillDag = true) := dich_ite _ (by simp)

theorem sparseStone_dich (D : DiG) (B : BipG) : Dich (Fam.Pebbling.sparseStone D B) (D.stillDag = true ∧ B.l = D.n) :=
  dich_guard (dich_ite _ Iff.rfl) (by simp)

/-- `stone D k` is `sparseStone` on the complete bipartite graph, whose left side is `D.n` -/
theorem stone_dich (D : DiG) (k : Int) : Dich (Fam.Pebbling.stone D k) (D.stillDag = true ∧ 0 ≤ k) :=
  dich_guard (dich_guard (sparseStone_dich D _) Iff.rfl) (by simp [BipG.complete]; exact fun h _ => h)

end Cnfgen.Cli
