/-
Character level, LaTeX — the body: the characters `_print_latex` writes (`latexBodyText`: the
`for i in range(len(F))` loop with its `" \\\n&"` row separators and the page break every
`split_every` rows), cut into physical lines and lexed, are exactly the rows `latexBodyRows` of the
`align` blocks `latexBlocks` of the token-level theorems.
-/
import Lemmas.IOLatexText
namespace Cnfgen.IO

/-- the characters written between two pages -/
def pageBreakText : Str := "\n\\end{align}\\pagebreak\n\\begin{align}".toList

/-- `latexLoop` on the contents `ss` of the rows: `pre first` = what `write_clause` /
`write_constraint` put in front of a content -/
def loopText (pre : Bool → Str) (split : Int) : Nat → List Str → Str
  | _, [] => []
  | i, s :: ss =>
    (if split > 0 ∧ (i : Int) % split = 0 ∧ i ≠ 0 then pageBreakText else []) ++
      pre (decide (split > 0 ∧ (i : Int) % split = 0 ∧ i ≠ 0) || i == 0) ++ s ++ loopText pre split (i + 1) ss

theorem latexLoop_shape {α} (rowText : Bool → α → Except Err Str) (coreOf : α → Except Err Row) (pre : Bool → Str)
    (split : Int) : ∀ (rows : List α) (i : Nat) (text : Str),
      (∀ first r t, r ∈ rows → rowText first r = .ok t →
        ∃ s core, t = pre first ++ s ∧ coreOf r = .ok core ∧ lexLatexLine s = core ∧ NoNL s) →
      latexLoop rowText split i rows = .ok text →
      ∃ ss, text = loopText pre split i ss ∧ rows.mapM coreOf = .ok (ss.map lexLatexLine) ∧ ∀ s ∈ ss, NoNL s
  | [], _, text, _, h => by
    rw [latexLoop] at h; cases h
    exact ⟨[], rfl, rfl, by simp⟩
  | r :: rs, i, text, hrow, h => by
    rw [latexLoop] at h
    cases hr : rowText (decide (split > 0 ∧ (i : Int) % split = 0 ∧ i ≠ 0) || i == 0) r with
    | error e => rw [hr] at h; cases h
    | ok t =>
      rw [hr] at h
      simp only at h
      cases hl : latexLoop rowText split (i + 1) rs with
      | error e => rw [hl] at h; cases h
      | ok rest =>
        rw [hl] at h
        have h := (Except.ok.inj h).symm
        obtain ⟨s, core, ht, hc, rfl, hn⟩ := hrow _ r t (by simp) hr
        obtain ⟨ss, hrest, h1, h2⟩ := latexLoop_shape rowText coreOf pre split rs (i + 1) rest
          (fun first r' t' hr' ht' => hrow first r' t' (by simp [hr']) ht') hl
        refine ⟨s :: ss, ?_, by simp [List.mapM_cons, hc, h1, pure, Except.pure], List.forall_mem_cons.2 ⟨hn, h2⟩⟩
        rw [h, ht, hrest, loopText]
        unfold pageBreakText
        simp only [List.append_assoc]

/-- one physical line: `&`, the lead, the content, and `\\` unless the row is the last of its block -/
def lineOf (k : Nat) (land : Bool) (s : Str) (last : Bool) : Str :=
  '&' :: (leadText k land ++ s) ++ (if last then [] else [' ', '\\', '\\'])

theorem endAlign_text : "\n\\end{align}".toList = '\n' :: "\\end{align}".toList := by lit_decide

theorem pageBreakText_eq :
    pageBreakText = '\n' :: ("\\end{align}\\pagebreak".toList ++ '\n' :: "\\begin{align}".toList) := by unfold pageBreakText; lit_decide

theorem beginAlign_noNL : NoNL "\\begin{align}".toList := noNL_lit _ (by lit_decide)
theorem endBreak_noNL : NoNL "\\end{align}\\pagebreak".toList := noNL_lit _ (by lit_decide)

theorem beginAlign_lex : lexLatexLine "\\begin{align}".toList = [W "\\begin{align}"] := by rw [W]; lit_decide
theorem endBreak_lex : lexLatexLine "\\end{align}\\pagebreak".toList = [W "\\end{align}\\pagebreak"] := by
  rw [W]; lit_decide
theorem endAlign_lex : lexLatex "\\end{align}".toList = [[W "\\end{align}"]] := by rw [W]; lit_decide

/-- the page test of the text (on the integer `split_every`) is the page test of `pageBlocks` -/
theorem pageTest_int_iff_nat (split : Int) (i : Nat) :
    (split > 0 ∧ ((i + 1 : Nat) : Int) % split = 0 ∧ i + 1 ≠ 0) ↔ (split.toNat > 0 ∧ (i + 1) % split.toNat = 0) := by
  by_cases hs : split > 0
  · obtain ⟨k, rfl⟩ : ∃ k : Nat, split = (k : Int) := ⟨split.toNat, by omega⟩
    simp only [Int.toNat_natCast]
    rw [← Int.natCast_emod]
    constructor
    · rintro ⟨h1, h2, _⟩; exact ⟨by omega, by omega⟩
    · rintro ⟨h1, h2⟩; exact ⟨by omega, by omega, by omega⟩
  · constructor
    · rintro ⟨h1, _⟩; exact absurd h1 hs
    · rintro ⟨h1, _⟩; omega

theorem loopText_cons_split (pre : Bool → Str) (split : Int) (i : Nat) (s : Str) (ss : List Str)
    (h : split > 0 ∧ (i : Int) % split = 0 ∧ i ≠ 0) :
    loopText pre split i (s :: ss) = pageBreakText ++ pre true ++ s ++ loopText pre split (i + 1) ss := by
  rw [loopText, if_pos h, decide_eq_true h, Bool.true_or]

theorem loopText_cons_nosplit (pre : Bool → Str) (split : Int) (i : Nat) (s : Str) (ss : List Str)
    (h : ¬ (split > 0 ∧ (i : Int) % split = 0 ∧ i ≠ 0)) :
    loopText pre split i (s :: ss) = pre (i == 0) ++ s ++ loopText pre split (i + 1) ss := by
  rw [loopText, if_neg h, decide_eq_false h, Bool.false_or, List.nil_append]

theorem lexLatex_cons_line (s rest : Str) (h : NoNL s) : lexLatex (s ++ '\n' :: rest) = lexLatexLine s :: lexLatex rest := by
  simp [lexLatex, physLines_cons_line false s rest h]

theorem allRel_nonempty {α β} {R : α → β → Prop} {a : List α} {b : List β} (h : AllRel R a b) (ha : a ≠ []) : b ≠ [] := by
  cases h with
  | nil => exact absurd rfl ha
  | cons _ _ => simp

theorem latexBodyRows_cons_cons (r : Row) (b : List Row) (bs : List (List Row)) {rest : List Row}
    (h : latexBodyRows (b :: bs) = [W "\\begin{align}"] :: rest) :
    latexBodyRows ((r :: b) :: bs) = [W "\\begin{align}"] :: r :: rest := by
  cases bs <;> simp only [latexBodyRows, List.cons_append, List.cons.injEq, true_and] at h ⊢ <;> exact h

theorem lead_lex (k : Nat) (land : Bool) (s : Str) :
    lexLatexLine ('&' :: (leadText k land ++ s)) = W "&" :: ((if land then [W "\\land"] else []) ++ lexLatexLine s) := by
  have c0 : splitCoef ['&'] = [W "&"] := by decide
  have c1 : splitCoef "\\land".toList = [W "\\land"] := by rw [W]; lit_decide
  have el : "\\land ".toList = "\\land".toList ++ [' '] := by lit_decide
  have hamp : ∀ x, lexLatexLine ('&' :: ' ' :: x) = W "&" :: lexLatexLine x := fun x => by
    simpa [c0] using lexL_tok_blank ['&'] x (isTok_lit _ (by decide))
  rw [leadText, List.cons_append, hamp]
  cases land
  · rw [if_neg Bool.false_ne_true, if_neg Bool.false_ne_true, lexL_blanks]
    rfl
  · rw [if_pos rfl, if_pos rfl, el, List.append_assoc, List.singleton_append,
      lexL_tok_blank _ _ (isTok_lit _ (by lit_decide)), c1]

theorem leadText_noNL (k : Nat) (land : Bool) : NoNL (leadText k land) := by
  cases land
  · exact noNL_replicate_blank (k + 1)
  · exact noNL_lit (' ' :: "\\land ".toList) (by lit_decide)

theorem lineOf_lex (k : Nat) (land : Bool) (s : Str) (last : Bool) (hn : NoNL s) :
    lexLatexLine (lineOf k land s last) = frame land last (lexLatexLine s) ∧ NoNL (lineOf k land s last) := by
  have hamp : NoNL ('&' :: (leadText k land ++ s)) := (noNL_lit ['&'] (by decide)).append ((leadText_noNL k land).append hn)
  cases last
  · constructor
    · have e : lineOf k land s false = ('&' :: (leadText k land ++ s)) ++ ' ' :: ['\\', '\\'] := by simp [lineOf]
      have c1 : lexLatexLine ['\\', '\\'] = [W "\\\\"] := by decide
      rw [e, lexL_append, lead_lex, c1]
      simp [frame]
    · simp only [lineOf, Bool.false_eq_true, if_false]
      exact hamp.append (noNL_lit _ (by decide))
  · constructor
    · simp only [lineOf, if_true, List.append_nil]
      rw [lead_lex]; simp [frame]
    · simpa [lineOf] using hamp

section lex
variable (cf : Bool) (k : Nat)

/-- from the `&` of row `i` to the end of the body: the lines of the loop's text are the rows of the pages
`pageBlocks` cuts (by its recursion: a row is the last of its block when the next one starts a page) -/
theorem loop_lex (split : Int) : ∀ (ss : List Str) (i : Nat) (f : Bool) (s : Str) (cb : List Row) (cbs : List (List Row)),
    (∀ x ∈ s :: ss, NoNL x) → pageBlocks split.toNat i ((s :: ss).map lexLatexLine) = cb :: cbs →
    [W "\\begin{align}"] :: lexLatex ('&' :: (leadText k (cf && !f) ++ s) ++ loopText (rowPre k cf) split (i + 1) ss ++ "\n\\end{align}".toList) =
      latexBodyRows (blockRows cf f cb :: cbs.map (blockRows cf true))
  | [], i, f, s, cb, cbs, hn, hp => by
    obtain ⟨h1, h2⟩ := lineOf_lex k (cf && !f) s true (hn s (by simp))
    cases hp
    have e : '&' :: (leadText k (cf && !f) ++ s) ++ loopText (rowPre k cf) split (i + 1) [] ++ "\n\\end{align}".toList =
        lineOf k (cf && !f) s true ++ '\n' :: "\\end{align}".toList := by
      simp only [loopText, lineOf, endAlign_text, if_true, List.append_nil]
    rw [e, lexLatex_cons_line _ _ h2, h1, endAlign_lex]
    rfl
  | s' :: ss', i, f, s, cb, cbs, hn, hp => by
    have hn' : ∀ x ∈ s' :: ss', NoNL x := fun x hx => hn x (List.mem_cons_of_mem _ hx)
    obtain ⟨cb', cbs', hrest, he⟩ :=
      pageBlocks_cons_cons split.toNat i (lexLatexLine s) (lexLatexLine s') (ss'.map lexLatexLine)
    rw [List.map_cons, List.map_cons, he] at hp
    by_cases hD : split.toNat > 0 ∧ (i + 1) % split.toNat = 0
    · have hS : split > 0 ∧ ((i + 1 : Nat) : Int) % split = 0 ∧ i + 1 ≠ 0 := (pageTest_int_iff_nat split i).2 hD
      obtain ⟨h1, h2⟩ := lineOf_lex k (cf && !f) s true (hn s (by simp))
      have ih := loop_lex split ss' (i + 1) true s' cb' cbs' hn' hrest
      rw [if_pos hD] at hp
      cases hp
      have e : '&' :: (leadText k (cf && !f) ++ s) ++ loopText (rowPre k cf) split (i + 1) (s' :: ss') ++ "\n\\end{align}".toList =
          lineOf k (cf && !f) s true ++ '\n' :: ("\\end{align}\\pagebreak".toList ++ '\n' :: ("\\begin{align}".toList ++ '\n' ::
            ('&' :: (leadText k (cf && !true) ++ s') ++ loopText (rowPre k cf) split (i + 1 + 1) ss' ++ "\n\\end{align}".toList))) := by
        rw [loopText_cons_split _ split (i + 1) s' ss' hS, rowPre, pageBreakText_eq]
        simp only [lineOf, if_true, List.append_nil, List.append_assoc, List.cons_append, List.nil_append]
      rw [e, lexLatex_cons_line _ _ h2, h1, lexLatex_cons_line _ _ endBreak_noNL, endBreak_lex,
        lexLatex_cons_line _ _ beginAlign_noNL, beginAlign_lex, ih]
      rfl
    · have hS : ¬ (split > 0 ∧ ((i + 1 : Nat) : Int) % split = 0 ∧ i + 1 ≠ 0) := fun h => hD ((pageTest_int_iff_nat split i).1 h)
      obtain ⟨h1, h2⟩ := lineOf_lex k (cf && !f) s false (hn s (by simp))
      have ih := loop_lex split ss' (i + 1) false s' cb' cbs' hn' hrest
      rw [if_neg hD] at hp
      cases hp
      have h0 : ((i + 1 == 0) = false) := by simp
      have e : '&' :: (leadText k (cf && !f) ++ s) ++ loopText (rowPre k cf) split (i + 1) (s' :: ss') ++ "\n\\end{align}".toList =
          lineOf k (cf && !f) s false ++ '\n' ::
            ('&' :: (leadText k (cf && !false) ++ s') ++ loopText (rowPre k cf) split (i + 1 + 1) ss' ++ "\n\\end{align}".toList) := by
        rw [loopText_cons_nosplit _ split (i + 1) s' ss' hS, h0, rowPre]
        simp only [lineOf, Bool.false_eq_true, if_false, List.append_assoc, List.cons_append, List.nil_append]
      obtain ⟨c0, cs0, rfl⟩ := List.exists_cons_of_ne_nil
        (pageBlocks_nonempty split.toNat _ (i + 1) cb' (by rw [hrest]; simp))
      rw [e, lexLatex_cons_line _ _ h2, h1]
      exact (latexBodyRows_cons_cons _ _ _ ih.symm).symm

end lex

/-- names without white space; for pseudo-Boolean formulas, coefficients and bounds below the digit limit -/
def LatexPrintable (F : AnyF) (names : List Str) : Prop :=
  CleanNames names ∧ match F with
    | .cnf _ => True
    | .opb G => ∀ c ∈ G.constraints, SmallPBC c

/-- a body made by `latexLoop`, for either kind of row; `h` is what `latexBodyText` unfolds to -/
theorem body_lex {α} (rowText : Bool → α → Except Err Str) (coreOf : α → Except Err Row) (cf : Bool) (k : Nat)
    (rows : List α)
    (hrow : ∀ first r t, r ∈ rows → rowText first r = .ok t →
      ∃ s core, t = rowPre k cf first ++ s ∧ coreOf r = .ok core ∧ lexLatexLine s = core ∧ NoNL s)
    (split : Int) (hne : rows ≠ []) (t : Str)
    (h : (match latexLoop rowText split 0 rows with
      | .error e => .error e
      | .ok b => .ok ("\\begin{align}".toList ++ b ++ "\n\\end{align}".toList)) = Except.ok (ε := Err) t) :
    ∃ cores, rows.mapM coreOf = .ok cores ∧
      lexLatex t = latexBodyRows ((pageBlocks split.toNat 0 cores).map (blockRows cf true)) := by
  obtain ⟨b, hl, rfl⟩ : ∃ b, latexLoop rowText split 0 rows = .ok b ∧
      t = "\\begin{align}".toList ++ b ++ "\n\\end{align}".toList := by
    cases hb : latexLoop rowText split 0 rows with
    | error e => rw [hb] at h; cases h
    | ok b => rw [hb] at h; exact ⟨b, rfl, (Except.ok.inj h).symm⟩
  obtain ⟨ss, hb, h1, h2⟩ := latexLoop_shape rowText coreOf (rowPre k cf) split rows 0 b hrow hl
  refine ⟨_, h1, ?_⟩
  cases ss with
  | nil => cases allRel_of_mapM _ _ _ h1; exact absurd rfl hne
  | cons s ss =>
    cases hp : pageBlocks split.toNat 0 ((s :: ss).map lexLatexLine) with
    | nil => exact absurd hp (pageBlocks_ne_nil _ _ _ _)
    | cons cb cbs =>
      have h0 : ¬ (split > 0 ∧ ((0 : Nat) : Int) % split = 0 ∧ (0 : Nat) ≠ 0) := by simp
      have htext : "\\begin{align}".toList ++ b ++ "\n\\end{align}".toList = "\\begin{align}".toList ++ '\n' ::
          ('&' :: (leadText k (cf && !true) ++ s) ++ loopText (rowPre k cf) split (0 + 1) ss ++ "\n\\end{align}".toList) := by
        rw [hb, loopText_cons_nosplit _ split 0 s ss h0, rowPre]
        simp only [beq_self_eq_true, if_true, List.append_assoc, List.cons_append, List.nil_append]
      rw [htext, lexLatex_cons_line _ _ beginAlign_noNL, beginAlign_lex,
        loop_lex cf k split ss 0 true s cb cbs h2 hp]
      rfl

theorem lex_latexBodyText (F : AnyF) (names : List Str) (split : Int) (compact : Bool) (hp : LatexPrintable F names)
    (t : Str) (h : latexBodyText F names split compact = .ok t) :
    ∃ blocks, latexBlocks F names split.toNat compact = .ok blocks ∧ lexLatex t = latexBodyRows blocks := by
  unfold latexBodyText at h
  unfold latexBlocks
  by_cases h0 : F.len = 0
  · simp only [h0, if_true] at h ⊢
    cases h
    exact ⟨_, rfl, by lit_decide⟩
  · simp only [h0, if_false] at h ⊢
    cases F with
    | cnf F =>
      obtain ⟨cores, hc, hl⟩ := body_lex (fun first c => clauseRowText names first compact c) (clauseCore names compact)
        compact 6 F.clauses (fun first r t _ ht => clauseRowText_shape names hp.1 first compact r t ht)
        split (by intro e; apply h0; simp [AnyF.len, e]) t h
      exact ⟨_, by simp only [latexCores, hc]; rfl, by rw [hl]; simp [AnyF.isOpb]⟩
    | opb G =>
      obtain ⟨cores, hc, hl⟩ := body_lex (fun first c => constraintRowText names first c) (constraintCore names)
        false 0 G.constraints (fun first r t hr ht => constraintRowText_shape names hp.1 first r t (hp.2 r hr) ht)
        split (by intro e; apply h0; simp [AnyF.len, e]) t h
      exact ⟨_, by simp only [latexCores, hc]; rfl, by rw [hl]; simp [AnyF.isOpb]⟩

/-- a test vector of the writer: `to_latex()` for a three-clause formula with an empty clause -/
theorem latexString_sample :
    latexString (.cnf ⟨3, [[-1, 2], [], [3]]⟩) ["x_1".toList, "y".toList, "z^2".toList] =
      .ok ("\\begin{align}\n&       \\left( {\\overline{x}_1} \\lor            {y} \\right) \\\\\n" ++
           "& \\land \\square \\\\\n& \\land \\left(            {z^2} \\right)\n\\end{align}").toList := by
  rw [String.toList_append]
  lit_decide

theorem isAlignRow_frame (land last : Bool) (core : Row) : isAlignRow (frame land last core) = false := by
  unfold frame
  generalize (if land = true then [W "\\land"] else []) ++ core ++ (if last = true then [] else [W "\\\\"]) = x
  cases x with
  | nil => simp only [W]; lit_decide
  | cons _ _ => rfl

theorem isAlignRow_delims : isAlignRow [W "\\begin{align}"] = true ∧ isAlignRow [W "\\end{align}"] = true ∧
    isAlignRow [W "\\end{align}\\pagebreak"] = true := by simp only [isAlignRow, W]; lit_decide

theorem filter_bodyRows : ∀ (blocks : List (List Row)), (∀ b ∈ blocks, ∀ r ∈ b, isAlignRow r = false) →
    (latexBodyRows blocks).filter (fun r => !isAlignRow r) = blocks.flatten
  | [], _ => rfl
  | [b], h => by
    have hb : b.filter (fun r => !isAlignRow r) = b :=
      List.filter_eq_self.2 (fun r hr => by simp [h b (by simp) r hr])
    simp [latexBodyRows, List.filter_append, hb, isAlignRow_delims]
  | b :: b' :: bs, h => by
    have ih := filter_bodyRows (b' :: bs) (fun x hx => h x (by simp [hx]))
    have hb : b.filter (fun r => !isAlignRow r) = b :=
      List.filter_eq_self.2 (fun r hr => by simp [h b (by simp) r hr])
    have e : latexBodyRows (b :: b' :: bs) =
        [W "\\begin{align}"] :: (b ++ [[W "\\end{align}\\pagebreak"]]) ++ latexBodyRows (b' :: bs) := rfl
    rw [e]
    simp only [List.filter_cons, List.filter_append, hb, isAlignRow_delims, Bool.not_true, Bool.false_eq_true, if_false,
      List.cons_append, List.append_assoc, List.nil_append, ih, List.flatten_cons]

theorem filter_topRows : (latexBodyRows [[[W "\\top"]]]).filter (fun r => !isAlignRow r) = [[W "\\top"]] := by
  simp only [W]
  lit_decide

theorem readLatexRows_top {α} (readRow : Row → Except Err α) :
    readLatexRows readRow (latexBodyRows [[[W "\\top"]]]) = .ok [] := by
  rw [readLatexRows, filter_topRows, if_pos rfl]

theorem Framed.not_align {rows cores : List Row} (h : Framed rows cores) : ∀ r ∈ rows, isAlignRow r = false := by
  unfold Framed at h
  induction h with
  | nil => simp
  | cons hx _ ih =>
    obtain ⟨land, last, rfl⟩ := hx
    simpa [isAlignRow_frame] using ih

theorem filter_pageRows (compact : Bool) (split : Nat) (cores : List Row) :
    (latexBodyRows ((pageBlocks split 0 cores).map (blockRows compact true))).filter (fun r => !isAlignRow r) =
      ((pageBlocks split 0 cores).map (blockRows compact true)).flatten :=
  filter_bodyRows _ fun b hb r hr => (blocks_framed compact split cores).not_align r (List.mem_flatten.2 ⟨b, hb, hr⟩)

theorem readLatexRows_blocks {α} (readRow : Row → Except Err α) (compact : Bool) (split : Nat) (cores : List Row) :
    readLatexRows readRow (latexBodyRows ((pageBlocks split 0 cores).map (blockRows compact true))) =
      ((pageBlocks split 0 cores).map (blockRows compact true)).flatten.mapM readRow := by
  rw [readLatexRows, filter_pageRows, if_neg (blocks_framed compact split cores).ne_top]

/-- for any row reader that reads a framed row content back (`hread`); the empty formula is read from `\top` -/
theorem readLatexRows_text {α} (readRow : Row → Except Err α) (F : AnyF) (names : List Str) (split : Int) (compact : Bool)
    (hp : LatexPrintable F names) (t : Str) (h : latexBodyText F names split compact = .ok t) (xs : List α)
    (hread : ∀ cores, latexCores F names compact = .ok cores →
      AllRel (fun core x => ∀ land last, readRow (frame land last core) = .ok x) cores xs) :
    readLatexRows readRow (lexLatex t) = .ok xs := by
  obtain ⟨blocks, hb, hl⟩ := lex_latexBodyText F names split compact hp t h
  rw [hl]
  by_cases h0 : F.len = 0
  · obtain rfl := (top_iff F names split.toNat compact blocks hb).2 h0
    have : latexCores F names compact = .ok [] := by
      cases F <;> simp only [AnyF.len, List.length_eq_zero_iff] at h0 <;> simp [latexCores, h0, pure, Except.pure]
    cases hread [] this
    exact readLatexRows_top readRow
  · obtain ⟨cores, hc, rfl⟩ := latexBlocks_ok h0 hb
    rw [readLatexRows_blocks]
    exact blocks_read readRow _ _ (hread cores hc)

end Cnfgen.IO
