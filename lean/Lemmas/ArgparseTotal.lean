/-
How the argparse engine of CnfgenModel/Cli/Argparse.lean ends.  One walk of its functions (`engine_ends`) says how each ends
(`Ends E Q`, Lemmas/Ends.lean: `Q := True` for totality, `E := True` for invariants) given what the actions do (`ActSpec`).
From it: the engine answers on EVERY list of tokens — bindings, a CLIError, or the help exit — for every parser whose options
have a modelled arity and whose actions answer (`engine_total`, instantiated up to `parseX_total` for the main parser of every
handled sub-command); and its bindings came out of its actions, every positional having acted (`engine_produced`).
-/
import CnfgenModel.Cli.Argparse
import CnfgenModel.Cli.DispatchChecks
import Lemmas.DispatchTotal
namespace Cnfgen.Cli.AP
open Cnfgen.Gen Cnfgen.Cli

/-- an answer of the parser: a value, a CLIError, or the help exit -/
def Tot {α : Type} (r : Except PErr α) : Prop :=
  (∃ a, r = .ok a) ∨ r = .error .cliError ∨ r = .error .helpExit

theorem Tot.ok {α : Type} (a : α) : Tot (Except.ok a : Except PErr α) := Or.inl ⟨a, rfl⟩
theorem Tot.cli {α : Type} : Tot (Except.error .cliError : Except PErr α) := Or.inr (Or.inl rfl)
theorem Tot.help {α : Type} : Tot (Except.error .helpExit : Except PErr α) := Or.inr (Or.inr rfl)

/-- the target belongs to the parser -/
def TgIn (strs : List (String × Target)) (tg : Target) : Prop := ∃ y ∈ strs, y.2 = tg

theorem lookupOS_mem (strs : List (String × Target)) (t : String) (tg : Target)
    (h : lookupOS strs t = some tg) : (t, tg) ∈ strs := by
  obtain ⟨x, hf, rfl⟩ := Option.map_eq_some_iff.1 h
  have hk := List.find?_some hf
  exact beq_iff_eq.1 hk ▸ List.mem_of_find?_eq_some hf

theorem lookupOS_TgIn (strs : List (String × Target)) (t : String) (tg : Target)
    (h : lookupOS strs t = some tg) : TgIn strs tg :=
  ⟨_, lookupOS_mem strs t tg h, rfl⟩

theorem optionTuples_TgIn (strs : List (String × Target)) (cs : List Char) :
    ∀ x ∈ optionTuples strs cs, TgIn strs x.1 := by
  intro x hx
  unfold optionTuples at hx
  split at hx
  · split at hx
    · simp only [List.mem_map, List.mem_filter] at hx
      obtain ⟨y, ⟨hy, _⟩, rfl⟩ := hx
      exact ⟨y, hy, rfl⟩
    · simp only [List.mem_filterMap] at hx
      obtain ⟨y, hy, h⟩ := hx
      split at h
      · simp at h; subst h; exact ⟨y, hy, rfl⟩
      · split at h
        · simp at h; subst h; exact ⟨y, hy, rfl⟩
        · simp at h
  · simp at hx

theorem classifyTok_TgIn (strs : List (String × Target)) (t : String) (tg : Target) (os : String)
    (ex : Option String) (h : classifyTok strs t = .opt tg os ex) : TgIn strs tg := by
  -- three branches of `classifyTok` answer `.opt`, in this order below: the exact option string (`lookupOS`), the
  -- `pre=ex` form (`viaEq`), the single candidate of `optionTuples`; the others answer `.arg`, `.ambiguous`, `.unknown`
  unfold classifyTok at h
  split at h
  · simp at h
  · split at h
    · simp at h
    · split at h
      · rename_i tg' hl
        simp at h
        exact h.1 ▸ lookupOS_TgIn strs t tg' hl
      · split at h
        · simp at h
        · dsimp only at h
          split at h
          · rename_i it hv
            subst h
            split at hv
            · split at hv
              · rename_i tg' hl
                simp at hv
                exact hv.1 ▸ lookupOS_TgIn strs _ tg' hl
              · simp at hv
            · simp at hv
          · split at h
            · rename_i x hx
              simp at h
              have := optionTuples_TgIn strs _ x (by rw [hx]; simp)
              exact h.1 ▸ this
            · simp at h
            · split at h
              · simp at h
              · split at h <;> simp at h

theorem itemize_TgIn (strs : List (String × Target)) : ∀ (argv : List String) (tg : Target) (os : String)
    (ex : Option String), Item.opt tg os ex ∈ itemize strs argv → TgIn strs tg := by
  intro argv
  induction argv with
  | nil => intro tg os ex h; simp [itemize] at h
  | cons t rest ih =>
    intro tg os ex h
    unfold itemize at h
    split at h
    · simp at h
    · rcases List.mem_cons.1 h with h | h
      · exact classifyTok_TgIn strs t tg os ex h.symm
      · exact ih tg os ex h

theorem segs_known (items : List Item) : ∀ (tg : Target) (os : String) (ex : Option String) (run : Run),
    (OptItem.known tg os ex, run) ∈ (segs items).2 → Item.opt tg os ex ∈ items := by
  induction items with
  | nil => intro tg os ex run h; simp [segs] at h
  | cons it rest ih =>
    intro tg os ex run h
    unfold segs at h
    cases hs : segs rest with
    | mk r ss =>
      rw [hs] at h ih
      cases it with
      | arg t => simp at h; exact List.mem_cons_of_mem _ (ih tg os ex run h)
      | dd => simp at h; exact List.mem_cons_of_mem _ (ih tg os ex run h)
      | opt tg' os' ex' =>
        simp at h
        rcases h with ⟨⟨h1, h2, h3⟩, _⟩ | h
        · subst h1 h2 h3; simp
        · exact List.mem_cons_of_mem _ (ih tg os ex run h)
      | unknown t =>
        simp at h
        exact List.mem_cons_of_mem _ (ih tg os ex run h)
      | ambiguous t =>
        simp at h
        exact List.mem_cons_of_mem _ (ih tg os ex run h)

theorem tot_iff {α : Type} {r : Except PErr α} :
    Tot r ↔ Ends (fun e => e = .cliError ∨ e = .helpExit) (fun _ => True) r := by
  cases r <;> simp [Tot, Ends]

/-- what the walk assumes of the actions: `K` is kept by an optional's action and carried from `o :: ps` to `ps` by the
action of the positional `o`; refusals are in `E` -/
structure ActSpec (bind : Bind) (E : PErr → Prop) (Go Gp : OptSpec → Prop) (K : List OptSpec → Ns → Prop) : Prop where
  cli : E .cliError
  help : E .helpExit
  opt : ∀ o toks, Go o → Ends E (fun b => ∀ ps ns, K ps ns → K ps (b ++ ns)) (bind o toks)
  pos : ∀ o toks, Gp o → Ends E (fun b => ∀ ps ns, K (o :: ps) ns → K ps (b ++ ns)) (bind o toks)

section walk
variable {bind : Bind} {E : PErr → Prop} {Go Gp : OptSpec → Prop} {K : List OptSpec → Ns → Prop}
  (hA : ActSpec bind E Go Gp K)
include hA

theorem takeAction_ends {P : Ns → Prop} (o : OptSpec) (toks : List String) (st : PState)
    (h : Ends E P (bind o toks)) :
    Ends E (fun st' => ∃ b, P b ∧ st'.ns = b ++ st.ns ∧ st'.ps = st.ps) (takeAction bind o toks st) := by
  unfold takeAction
  split
  · exact hA.cli
  · split
    · next hr => exact h.err hr
    · next b hr => exact .ret ⟨b, h.ok hr, rfl, rfl⟩

theorem runFlags_ends : ∀ (l : List Target) (st : PState), (∀ o, Target.opt o ∈ l → Go o) → K st.ps st.ns →
    Ends E (fun st' => st'.ps = st.ps ∧ K st'.ps st'.ns) (runFlags bind l st)
  | [], st, _, hk => .ret ⟨rfl, hk⟩
  | .help :: _, _, _, _ => hA.help
  | .opt o :: rest, st, hl, hk => by
    unfold runFlags
    have h1 := takeAction_ends hA o [] st (hA.opt o [] (hl o (by simp)))
    split
    · next hr => exact h1.err hr
    · next st1 hr =>
      obtain ⟨b, hb, hns, hps⟩ := h1.ok hr
      refine (runFlags_ends rest st1 (fun o' ho' => hl o' (by simp [ho'])) (hns ▸ hps ▸ hb _ _ hk)).mono fun st' h => ?_
      exact ⟨h.1.trans hps, h.2⟩

theorem applyPosX_ends : ∀ (l : List OptSpec) (sls : List (List String)) (i : Nat) (ddg : Option Nat) (st : PState)
    (tail : List OptSpec), (∀ o ∈ l, Gp o) → K (l ++ tail) st.ns →
    Ends E (fun st' => st'.ps = st.ps ∧ K (l.drop sls.length ++ tail) st'.ns) (applyPosX bind l sls i ddg st)
  | [], sls, i, ddg, st, tail, _, hk => by unfold applyPosX; exact .ret ⟨rfl, by simpa using hk⟩
  | o :: os, [], i, ddg, st, tail, _, hk => by unfold applyPosX; exact .ret ⟨rfl, hk⟩
  | o :: os, sl :: sls, i, ddg, st, tail, hg, hk => by
    unfold applyPosX
    have h1 := fun toks => takeAction_ends hA o toks st (hA.pos o toks (hg o (by simp)))
    split
    · next hr => exact (h1 _).err hr
    · next st1 hr =>
      obtain ⟨b, hb, hns, hps⟩ := (h1 _).ok hr
      refine (applyPosX_ends os sls (i + 1) ddg st1 tail (fun o' ho' => hg o' (by simp [ho']))
        (hns ▸ hb _ _ hk)).mono fun st' h => ?_
      exact ⟨h.1.trans hps, by simpa using h.2⟩

theorem lastAction_ends (last : Target) (hl : ∀ o, last = .opt o → Go o) (toks : List String) (st : PState)
    (hk : K st.ps st.ns) :
    Ends E (fun st' => st'.ps = st.ps ∧ K st'.ps st'.ns) (lastAction bind last toks st) := by
  unfold lastAction
  cases last with
  | help => exact hA.help
  | opt o =>
    dsimp only
    split
    · exact hA.cli
    · exact (takeAction_ends hA o _ st (hA.opt o _ (hl o rfl))).mono fun st' ⟨b, hb, hns, hps⟩ =>
        ⟨hps, hns ▸ hps ▸ hb _ _ hk⟩

omit hA in
theorem slices_length : ∀ (cs : List Nat) (toks : List String), (slices cs toks).length = cs.length
  | [], _ => rfl
  | c :: cs, toks => by simp [slices, slices_length cs]

/-- the state the loop keeps: the positionals left are positionals of the parser, and `K` -/
def Inv (Gp : OptSpec → Prop) (K : List OptSpec → Ns → Prop) (st : PState) : Prop :=
  (∀ o ∈ st.ps, Gp o) ∧ K st.ps st.ns

theorem consumePosX_ends (run : Run) (final : Bool) (st : PState) (h : Inv Gp K st) :
    Ends E (Inv Gp K) (consumePosX bind run final st) := by
  unfold consumePosX
  split
  · exact .ret h
  · have h1 := fun sls ddg => applyPosX_ends hA st.ps sls 0 ddg st [] h.1 (by simpa using h.2)
    split
    · next hr => exact (h1 _ _).err hr
    · next st1 hr =>
      exact .ret ⟨fun o ho => h.1 o (List.mem_of_mem_drop ho), by simpa [slices_length] using ((h1 _ _).ok hr).2⟩

end walk

section
variable (bind : Bind) (G : OptSpec → Prop) (hb : ∀ o, G o → ∀ toks, Tot (bind o toks))
include hb

theorem applyPosX_ps : ∀ (ps : List OptSpec) (sls : List (List String)) (i : Nat) (ddg : Option Nat)
    (st st' : PState), applyPosX bind ps sls i ddg st = .ok st' → st'.ps = st.ps :=
  fun ps sls i ddg st st' h =>
    ((applyPosX_ends (E := fun _ => True) (Go := fun _ => True) (Gp := fun _ => True) (K := fun _ _ => True)
      ⟨trivial, trivial, fun _ _ _ => .of_ok fun _ _ _ _ _ => trivial, fun _ _ _ => .of_ok fun _ _ _ _ _ => trivial⟩
      ps sls i ddg st [] (fun _ _ => trivial) trivial).ok h).1

end

/-- the arities an OPTIONAL can have in the model -/
def OptArity (tg : Target) : Prop := arityT tg = .zero ∨ arityT tg = .one ∨ arityT tg = .plus

/-- the chain of options one token stands for: options of the parser, all but the last without argument -/
def ChainOK (strs : List (String × Target)) (r : List Target × Target × Option String) : Prop :=
  (∀ tg ∈ r.1, TgIn strs tg ∧ arityT tg = .zero) ∧ TgIn strs r.2.1

section chain
variable {E : PErr → Prop} (hcli : E .cliError) (strs : List (String × Target))
  (ha : ∀ tg, TgIn strs tg → OptArity tg)
include hcli ha

theorem cluster_ends : ∀ (e : List Char) (tg : Target) (single : Bool), TgIn strs tg →
    Ends E (ChainOK strs) (cluster strs tg single e)
  | [], tg, single, htg => by
    unfold cluster
    rcases ha tg htg with h | h | h <;> rw [h]
    · exact hcli
    · exact .ret ⟨fun _ h => (nomatch h), htg⟩
    · exact .ret ⟨fun _ h => (nomatch h), htg⟩
  | c :: e', tg, single, htg => by
    unfold cluster
    rcases ha tg htg with h | h | h <;> rw [h] <;> dsimp only
    · split
      · exact hcli
      · split
        · exact hcli
        · next tg' hl =>
          -- the next letter is an option of the parser: the chain goes on with it
          have hin := lookupOS_TgIn strs _ tg' hl
          split
          · exact .ret ⟨fun x hx => List.mem_singleton.1 hx ▸ ⟨htg, h⟩, hin⟩
          · have hr := cluster_ends e' tg' true hin
            split
            · next hx => exact hr.err hx
            · next l r hx =>
              exact .ret ⟨fun x hm => (List.mem_cons.1 hm).elim (· ▸ ⟨htg, h⟩) ((hr.ok hx).1 x), (hr.ok hx).2⟩
    · exact .ret ⟨fun _ h => (nomatch h), htg⟩
    · exact .ret ⟨fun _ h => (nomatch h), htg⟩

theorem chainOf_ends (tg : Target) (htg : TgIn strs tg) (os : String) (ex : Option String) :
    Ends E (ChainOK strs) (chainOf strs tg os ex) := by
  unfold chainOf
  cases ex with
  | none => exact .ret ⟨fun _ h => (nomatch h), htg⟩
  | some e => exact cluster_ends hcli strs ha e.toList tg (singleDash os) htg

omit ha in
theorem takeArgs_ends (last : Target) (hl : OptArity last) (lex : Option String) (run : Run) :
    Ends E (fun _ => True) (takeArgs last lex run) := by
  unfold takeArgs
  cases lex with
  | some e => exact .ret trivial
  | none =>
    dsimp only
    rcases hl with h | h | h <;> rw [h] <;> dsimp only
    · exact .ret trivial
    · split
      · exact .ret trivial
      · exact hcli
    · split
      · exact .ret trivial
      · exact hcli

end chain

section loop
variable {bind : Bind} {E : PErr → Prop} {Go Gp : OptSpec → Prop} {K : List OptSpec → Ns → Prop}
  (hA : ActSpec bind E Go Gp K)
variable (strs : List (String × Target)) (ha : ∀ tg, TgIn strs tg → OptArity tg)
variable (hg : ∀ o, TgIn strs (.opt o) → Go o)
include hA ha hg

theorem consumeOptX_ends (tg : Target) (htg : TgIn strs tg) (os : String) (ex : Option String) (run : Run)
    (st : PState) (h : Inv Gp K st) : Ends E (fun r => Inv Gp K r.1) (consumeOptX bind strs tg os ex run st) := by
  unfold consumeOptX
  have hc := chainOf_ends hA.cli strs ha tg htg os ex
  split
  · next hr => exact hc.err hr
  · next flags last lex hr =>
    obtain ⟨g1, g2⟩ := hc.ok hr
    have ht := takeArgs_ends hA.cli last (ha last g2) lex run
    split
    · next hk => exact ht.err hk
    · next toks run' _ =>
      have hf := runFlags_ends hA flags st (fun o ho => hg o (g1 _ ho).1) h.2
      split
      · next hr => exact hf.err hr
      · next st1 hr =>
        have h1 := hf.ok hr
        have hl := lastAction_ends hA last (fun o ho => hg o (ho ▸ g2)) toks st1 h1.2
        split
        · next hr2 => exact hl.err hr2
        · next st2 hr2 => exact .ret ⟨(hl.ok hr2).1 ▸ h1.1 ▸ h.1, (hl.ok hr2).2⟩

theorem runSegs_ends : ∀ (ss : List (OptItem × Run)) (st : PState),
    (∀ tg os ex run, (OptItem.known tg os ex, run) ∈ ss → TgIn strs tg) → Inv Gp K st →
    Ends E (Inv Gp K) (runSegs bind strs ss st)
  | [], st, _, h => .ret h
  | (oi, run) :: rest, st, hss, h => by
    unfold runSegs
    have h1 : Ends E (fun r => Inv Gp K r.1) (stepOpt bind strs oi run st) := by
      unfold stepOpt
      cases oi with
      | unknown => exact .ret h
      | known tg os ex => exact consumeOptX_ends hA strs ha hg tg (hss tg os ex run (by simp)) os ex run st h
    split
    · next hr => exact h1.err hr
    · next st1 run1 hr =>
      have h2 := consumePosX_ends hA run1 rest.isEmpty st1 (h1.ok hr)
      split
      · next hr2 => exact h2.err hr2
      · next st2 hr2 =>
        exact runSegs_ends rest st2 (fun tg os ex run h => hss tg os ex run (List.mem_cons_of_mem _ h)) (h2.ok hr2)

end loop

theorem TgIn_opt_mem (p : PSpec) (o : OptSpec) : TgIn p.strings (.opt o) → o ∈ p.opts := by
  intro ⟨y, hy, hyo⟩
  unfold PSpec.strings optStrings at hy
  simp only [List.mem_append, List.mem_cons, List.mem_flatMap, List.mem_map] at hy
  rcases hy with (rfl | rfl | h) | h
  · simp at hyo
  · simp at hyo
  · simp at h
  · obtain ⟨o', ho', f, _, rfl⟩ := h
    simp at hyo; subst hyo; exact ho'

theorem TgIn_arity (p : PSpec) (ha : ∀ o ∈ p.opts, o.arity = .zero ∨ o.arity = .one ∨ o.arity = .plus)
    (tg : Target) (htg : TgIn p.strings tg) : OptArity tg := by
  cases tg with
  | help => exact Or.inl rfl
  | opt o => exact ha o (TgIn_opt_mem p o htg)

/-- the engine ends with an error of `E`, or with bindings of `K []`: an accepted parse has consumed every positional -/
theorem engine_ends {bind : Bind} {E : PErr → Prop} {Go Gp : OptSpec → Prop} {K : List OptSpec → Ns → Prop}
    (hA : ActSpec bind E Go Gp K) (p : PSpec)
    (ha : ∀ o ∈ p.opts, o.arity = .zero ∨ o.arity = .one ∨ o.arity = .plus)
    (hgo : ∀ o ∈ p.opts, Go o) (hgp : ∀ o ∈ p.poss, Gp o) (argv : List String) (h0 : K p.poss []) :
    Ends E (K []) (engine bind p argv) := by
  have hss : ∀ tg os ex run, (OptItem.known tg os ex, run) ∈ (segs (itemize p.strings argv)).2 → TgIn p.strings tg :=
    fun tg os ex run h => itemize_TgIn p.strings argv tg os ex (segs_known _ tg os ex run h)
  unfold engine engineItems
  split
  · exact hA.cli
  · have h1 := fun run fin => consumePosX_ends hA run fin ⟨p.poss, [], false, []⟩ ⟨hgp, h0⟩
    split
    · next hr => exact (h1 _ _).err hr
    · next st0 hr =>
      have h2 := runSegs_ends hA p.strings (TgIn_arity p ha) (fun o h => hgo o (TgIn_opt_mem p o h)) _ st0 hss
        ((h1 _ _).ok hr)
      unfold finish
      split
      · next hr2 => exact h2.err hr2
      · next st hr2 =>
        split
        · exact hA.cli
        · next hfin =>
          have : st.ps = [] := by simp at hfin; exact hfin.1.1
          exact .ret (this ▸ (h2.ok hr2).2)

theorem engine_total (bind : Bind) (G : OptSpec → Prop) (hb : ∀ o, G o → ∀ toks, Tot (bind o toks)) (p : PSpec)
    (ha : ∀ o ∈ p.opts, o.arity = .zero ∨ o.arity = .one ∨ o.arity = .plus) (hg : ∀ o ∈ p.opts ++ p.poss, G o)
    (argv : List String) : Tot (engine bind p argv) :=
  tot_iff.2 <| engine_ends (K := fun _ _ => True) (Go := G) (Gp := G)
    ⟨Or.inl rfl, Or.inr rfl, fun o toks ho => (tot_iff.1 (hb o ho toks)).mono fun _ _ _ _ _ => trivial,
      fun o toks ho => (tot_iff.1 (hb o ho toks)).mono fun _ _ _ _ _ => trivial⟩
    p ha (fun o ho => hg o (by simp [ho])) (fun o ho => hg o (by simp [ho])) argv trivial

theorem engine_produced (bind : Bind) (p : PSpec)
    (ha : ∀ o ∈ p.opts, o.arity = .zero ∨ o.arity = .one ∨ o.arity = .plus) (argv : List String) (ns : Ns)
    (h : engine bind p argv = .ok ns) : Produced bind (p.opts ++ p.poss) p.poss ns := by
  have hA : ActSpec bind (fun _ => True) (· ∈ p.opts) (· ∈ p.poss)
      (fun ps ns => ∃ done, p.poss = done ++ ps ∧ Produced bind (p.opts ++ p.poss) done ns) := by
    refine ⟨trivial, trivial, fun o toks ho => .of_ok fun b hb ps ns ⟨done, h1, h2⟩ => ⟨done, h1, ?_⟩,
      fun o toks ho => .of_ok fun b hb ps ns ⟨done, h1, h2⟩ => ⟨done ++ [o], by simp [h1], ?_⟩⟩
    · exact ((Produced.one (List.mem_append_left _ ho) hb).append h2).mono (fun _ h => h)
        (fun _ h => List.mem_append_right _ h)
    · exact ((Produced.one (List.mem_append_right _ ho) hb).append h2).mono (fun _ h => h) (by simp [or_comm])
  obtain ⟨done, h1, h2⟩ := (engine_ends hA p ha (fun _ h => h) (fun _ h => h) argv ⟨[], rfl, .nil⟩).ok h
  exact h2.mono (fun _ h => h) (by simp [h1])

theorem liftE_tot {α : Type} (r : Except CliErr α) (h : ∀ e, r = .error e → e = .cliError) : Tot (liftE r) := by
  cases r with
  | ok a => exact Tot.ok a
  | error e => rw [h e rfl]; exact Tot.cli

theorem goodOpt_arity (o : OptSpec) (h : goodOpt o = true) : o.arity ≠ .other := by
  unfold goodOpt at h
  simp only [Bool.and_eq_true, bne_iff_ne, ne_eq] at h
  exact h.1.1.1

theorem bindBase_tot (o : OptSpec) (h : goodOpt o = true) (toks : List String) : Tot (bindBase o toks) := by
  have har := goodOpt_arity o h
  unfold bindBase
  split
  · rename_i hf
    have : o.arity = .opt ∨ o.arity = .one := by
      unfold goodOpt at h
      simp only [Bool.and_eq_true, Bool.or_eq_true, Bool.not_eq_true', beq_iff_eq, hf] at h
      simpa using h.1.1.2
    rcases this with ha | ha <;> rw [ha] <;> (repeat' split) <;> first | exact Tot.ok _ | exact Tot.cli | simp_all
  · split
    · exact Tot.ok _
    · split
      · exact Tot.ok _
      · exact Tot.cli
    · exact liftE_tot _ (fun e he => dtot_bindOne_errs o har _ e he)

theorem phpInner_good : ∀ o ∈ phpInner.opts ++ phpInner.poss, goodOpt o = true := by decide +kernel

theorem phpInner_arity : ∀ o ∈ phpInner.opts, o.arity = .zero ∨ o.arity = .one ∨ o.arity = .plus := by decide +kernel

theorem phpArgsX_tot (toks : List String) : Tot (phpArgsX toks) := by
  cases toks with
  | nil => unfold phpArgsX; exact Tot.cli
  | cons t r =>
    unfold phpArgsX
    dsimp only
    split
    · exact engine_total bindBase (fun o => goodOpt o = true) bindBase_tot phpInner phpInner_arity phpInner_good _
    · exact liftE_tot _ (fun e he => (phpArgs_ends (t :: r)).err he)

theorem composeX_tot (s : CliSpec) (hs : ∀ o ∈ s.opts, goodOpt o = true) (o : OptSpec)
    (hc : o.compose.length = 2) (toks : List String) : Tot (composeX s o toks) := by
  unfold composeX
  match hcm : o.compose, hc with
  | [a, b], _ =>
    cases toks with
    | nil => exact Tot.cli
    | cons t r =>
      dsimp only
      apply engine_total bindBase (fun o => goodOpt o = true) bindBase_tot
      · intro o' ho'; simp at ho'
      · intro o' ho'
        simp only [List.nil_append] at ho'
        unfold subPositionals at ho'
        exact hs o' (List.mem_filter.1 ho').1

theorem mainBind_tot (s : CliSpec) (hs : ∀ o ∈ s.opts, goodOpt o = true) (o : OptSpec) (ho : goodOpt o = true)
    (toks : List String) : Tot (mainBind s o toks) := by
  unfold mainBind
  split
  · exact phpArgsX_tot toks
  · split
    · rename_i hc
      apply composeX_tot s hs o _ toks
      unfold goodOpt at ho
      simp only [Bool.and_eq_true, Bool.or_eq_true, bne_iff_ne, ne_eq, beq_iff_eq] at ho
      rcases ho.2 with h | h
      · exact absurd (by simpa using hc) h
      · exact h
    · exact bindBase_tot o ho toks

theorem supportedX_of_supported (s : CliSpec) (h : s.supported = true) : s.supportedX = true := by
  simp [CliSpec.supportedX, h]

theorem mainSpec_mem (s : CliSpec) (o : OptSpec) (ho : o ∈ (mainSpec s).opts ++ (mainSpec s).poss) : o ∈ s.opts := by
  unfold mainSpec positionals mainOpts at ho
  simp only [List.mem_append, List.mem_filter] at ho
  rcases ho with ho | ho
  · exact ho.1.1
  · exact ho.1.1

theorem parseX_total (s : CliSpec) (hs : ∀ o ∈ s.opts, goodOpt o = true) (argv : List String) :
    Tot (parseX s argv) := by
  unfold parseX
  apply engine_total (mainBind s) (fun o => goodOpt o = true) (fun o ho toks => mainBind_tot s hs o ho toks)
  · intro o ho
    unfold mainSpec mainOpts at ho
    simp only [List.mem_filter, Bool.not_eq_true'] at ho
    have hg := hs o ho.1.1
    unfold goodOpt at hg
    simp only [Bool.and_eq_true, Bool.or_eq_true, beq_iff_eq, ho.2] at hg
    rcases hg.1.2 with ((h | h) | h) | h
    · simp at h
    · exact Or.inl h
    · exact Or.inr (Or.inl h)
    · exact Or.inr (Or.inr h)
  · exact fun o ho => hs o (mainSpec_mem s o ho)

end Cnfgen.Cli.AP
