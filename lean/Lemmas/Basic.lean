/-
What every lemma file needs of `rangeN` and `combos` (Core/Iter.lean) and of `litHolds`, `clauseHolds`, `count` and
`CNF.addClause` (Core/Sem.lean), and the facts about lists that several of them share (nested loops that yield nothing
twice, a fold at its fixed point). Imports the two model files and nothing else, so that Mathlib-free files can use it.
-/
import CnfgenModel.Core.Iter
import CnfgenModel.Core.Sem
namespace Cnfgen

theorem rangeN_eq_range' (a b : Nat) : rangeN a b = List.range' a (b - a) := by
  rw [rangeN, List.range'_eq_map_range]
  exact List.map_congr_left fun x _ => Nat.add_comm x a

theorem mem_rangeN {a b x : Nat} : x ∈ rangeN a b ↔ a ≤ x ∧ x < b := by
  rw [rangeN_eq_range', List.mem_range'_1]
  omega

theorem mem_rangeN_one {n x : Nat} : x ∈ rangeN 1 (n + 1) ↔ 1 ≤ x ∧ x ≤ n := by
  rw [mem_rangeN, Nat.lt_succ_iff]

theorem length_rangeN (a b : Nat) : (rangeN a b).length = b - a := by
  rw [rangeN_eq_range', List.length_range']

theorem rangeN_pairwise (a b : Nat) : (rangeN a b).Pairwise (· < ·) := by
  rw [rangeN_eq_range']
  exact List.pairwise_lt_range'

theorem rangeN_nodup (a b : Nat) : (rangeN a b).Nodup := by
  rw [rangeN_eq_range']
  exact List.nodup_range'

theorem forall_mem_ite_nil {α : Type} {p : Prop} [Decidable p] {l : List α} {Q : α → Prop} :
    (∀ c ∈ (if p then l else []), Q c) ↔ (p → ∀ c ∈ l, Q c) := by
  split <;> simp [*]

theorem litHolds_natCast (α : Assign) {n : Nat} (h : 1 ≤ n) : litHolds α (n : Int) = α n := by
  rw [litHolds, if_pos (by omega), Int.natAbs_natCast]

theorem litHolds_neg_natCast (α : Assign) (n : Nat) : litHolds α (-(n : Int)) = !α n := by
  rw [litHolds, if_neg (by omega), Int.natAbs_neg, Int.natAbs_natCast]

theorem litHolds_neg (α : Assign) (l : Int) (h : l ≠ 0) : litHolds α (-l) = !litHolds α l := by
  unfold litHolds
  rw [Int.natAbs_neg]
  by_cases hp : 0 < l
  · rw [if_pos hp, if_neg (by omega)]
  · rw [if_neg hp, if_pos (by omega), Bool.not_not]

theorem litHolds_congr (α β : Assign) (l : Int) (h : α l.natAbs = β l.natAbs) :
    litHolds α l = litHolds β l := by
  unfold litHolds
  rw [h]

theorem clauseHolds_nil (α : Assign) : clauseHolds α [] = false := rfl

theorem clauseHolds_cons (α : Assign) (x : Int) (c : Clause) :
    clauseHolds α (x :: c) = (litHolds α x || clauseHolds α c) :=
  List.any_cons

theorem clauseHolds_append (α : Assign) (a b : Clause) :
    clauseHolds α (a ++ b) = (clauseHolds α a || clauseHolds α b) :=
  List.any_append

theorem clauseHolds_congr {α β : Assign} : ∀ {c : Clause}, (∀ l ∈ c, α l.natAbs = β l.natAbs) →
    clauseHolds α c = clauseHolds β c
  | [], _ => rfl
  | l :: c, h => by
    rw [clauseHolds_cons, clauseHolds_cons, litHolds_congr α β l (h l List.mem_cons_self),
      clauseHolds_congr fun x hx => h x (List.mem_cons_of_mem _ hx)]

theorem clauseHolds_two_neg (α : Assign) {a b : Nat} :
    clauseHolds α [-((a : Nat) : Int), -((b : Nat) : Int)] = true ↔ ¬ (α a = true ∧ α b = true) := by
  simp [clauseHolds, litHolds_neg_natCast]
  cases α a <;> cases α b <;> simp

theorem clauseHolds_two_pos (α : Assign) {a b : Nat} (ha : 1 ≤ a) (hb : 1 ≤ b) :
    clauseHolds α [((a : Nat) : Int), ((b : Nat) : Int)] = true ↔ (α a = true ∨ α b = true) := by
  simp [clauseHolds, litHolds_natCast α ha, litHolds_natCast α hb]

theorem clauseHolds_map_pos (α : Assign) {β : Type} (l : List β) (f : β → Nat) (h : ∀ b ∈ l, 1 ≤ f b) :
    clauseHolds α (l.map fun b => (f b : Int)) = true ↔ ∃ b ∈ l, α (f b) = true := by
  simp only [clauseHolds, List.any_map, List.any_eq_true, Function.comp]
  exact exists_congr fun b => and_congr_right fun hb => by rw [litHolds_natCast α (h b hb)]

theorem clauseHolds_map_neg (α : Assign) {β : Type} (l : List β) (f : β → Nat) :
    clauseHolds α (l.map fun b => -(f b : Int)) = true ↔ ∃ b ∈ l, α (f b) = false := by
  simp only [clauseHolds, List.any_map, List.any_eq_true, Function.comp]
  exact exists_congr fun b => and_congr_right fun _ => by rw [litHolds_neg_natCast, Bool.not_eq_true']

theorem clauseHolds_map_neg_false (α : Assign) {β : Type} (l : List β) (f : β → Nat) :
    clauseHolds α (l.map fun b => -(f b : Int)) = false ↔ ∀ b ∈ l, α (f b) = true := by
  simp only [clauseHolds, List.any_map, List.any_eq_false, Function.comp, litHolds_neg_natCast, Bool.not_eq_true,
    Bool.not_eq_false']

theorem clauseHolds_append_false (α : Assign) (a b : Clause) :
    clauseHolds α (a ++ b) = false ↔ clauseHolds α a = false ∧ clauseHolds α b = false := by
  rw [clauseHolds_append, Bool.or_eq_false_iff]

theorem clauseHolds_concat_pos (α : Assign) (c : Clause) {k : Nat} (hk : 1 ≤ k) :
    clauseHolds α (c ++ [(k : Int)]) = true ↔ (clauseHolds α c = false → α k = true) := by
  rw [clauseHolds_append, clauseHolds_cons, clauseHolds_nil, Bool.or_false, litHolds_natCast α hk]
  cases clauseHolds α c <;> simp

theorem count_map_pos (α : Assign) {β : Type} (l : List β) (f : β → Nat) (h : ∀ b ∈ l, 1 ≤ f b) :
    count α (l.map fun b => (f b : Int)) = l.countP fun b => α (f b) := by
  rw [count, List.countP_map]
  exact List.countP_congr fun b hb => by simp only [Function.comp, litHolds_natCast α (h b hb)]

theorem length_le_one_iff {β : Type} : ∀ {l : List β}, l.Nodup → (l.length ≤ 1 ↔ ∀ a ∈ l, ∀ b ∈ l, a = b)
  | [], _ => by simp
  | [a], _ => by simp
  | a :: b :: t, hn => by
    have hab : a ≠ b := fun e => (List.nodup_cons.1 hn).1 (e ▸ List.mem_cons_self)
    constructor
    · intro h; simp only [List.length_cons] at h; omega
    · intro h; exact absurd (h a (by simp) b (by simp)) hab

theorem countP_le_one_iff_nodup {β : Type} (l : List β) (p : β → Bool) (hl : l.Nodup) :
    l.countP p ≤ 1 ↔ ∀ a ∈ l, ∀ b ∈ l, p a = true → p b = true → a = b := by
  rw [List.countP_eq_length_filter, length_le_one_iff (hl.sublist List.filter_sublist)]
  simp only [List.mem_filter, and_imp]
  exact ⟨fun h a ha b hb pa pb => h a ha pa b hb pb, fun h a ha pa b hb pb => h a ha b hb pa pb⟩

theorem count_map_pos_le_one (α : Assign) {β : Type} {l : List β} (hl : l.Nodup) (f : β → Nat) (h : ∀ b ∈ l, 1 ≤ f b) :
    count α (l.map fun b => (f b : Int)) ≤ 1 ↔ ∀ a ∈ l, ∀ b ∈ l, α (f a) = true → α (f b) = true → a = b := by
  rw [count_map_pos α l f h, countP_le_one_iff_nodup _ _ hl]

/-- `itertools.combinations(l, 2)` is modelled by several recursive functions with the same two equations; on a strictly
sorted list any of them lists the members in increasing order -/
theorem mem_pairs_of_sorted_of_eqns {P : List Nat → List (Nat × Nat)} (h0 : P [] = [])
    (hc : ∀ x xs, P (x :: xs) = xs.map (fun y => (x, y)) ++ P xs) {l : List Nat} (h : l.Pairwise (· < ·)) {a b : Nat} :
    (a, b) ∈ P l ↔ a ∈ l ∧ b ∈ l ∧ a < b := by
  induction l with
  | nil => simp [h0]
  | cons x xs ih =>
    rw [List.pairwise_cons] at h
    simp only [hc, List.mem_append, List.mem_map, Prod.mk.injEq, List.mem_cons]
    rw [ih h.2]
    constructor
    · rintro (⟨y, hy, rfl, rfl⟩ | ⟨ha, hb, hab⟩)
      · exact ⟨Or.inl rfl, Or.inr hy, h.1 _ hy⟩
      · exact ⟨Or.inr ha, Or.inr hb, hab⟩
    · rintro ⟨ha | ha, hb | hb, hab⟩
      · omega
      · exact Or.inl ⟨b, hb, ha.symm, rfl⟩
      · have := h.1 a ha; omega
      · exact Or.inr ⟨ha, hb, hab⟩

theorem combos_one {β : Type} : ∀ l : List β, combos l 1 = l.map fun y => [y]
  | [] => rfl
  | x :: xs => by
    rw [combos, combos, combos_one xs]
    rfl

/-- a function with the two equations of `mem_pairs_of_sorted_of_eqns` is `combinations(l, 2)` as `combos` models it -/
theorem pairs_eq_combos_of_eqns {β : Type} {P : List β → List (β × β)} (h0 : P [] = [])
    (hc : ∀ x xs, P (x :: xs) = xs.map (fun y => (x, y)) ++ P xs) :
    ∀ l, (P l).map (fun p => [p.1, p.2]) = combos l 2
  | [] => by rw [h0]; rfl
  | x :: xs => by
    rw [hc, List.map_append, List.map_map, pairs_eq_combos_of_eqns h0 hc xs, combos, combos_one, List.map_map]
    rfl

theorem exists_assign_of_inj (D : Nat → Nat → Prop) (id : Nat → Nat → Nat) (R : Nat → Nat → Prop)
    (hinj : ∀ u v u' v', D u v → D u' v' → id u v = id u' v' → u = u' ∧ v = v') :
    ∃ α : Assign, ∀ u v, D u v → (α (id u v) = true ↔ R u v) := by
  classical
  refine ⟨fun i => decide (∃ u v, D u v ∧ id u v = i ∧ R u v), fun u v h => ?_⟩
  rw [decide_eq_true_eq]
  constructor
  · rintro ⟨u', v', h', e, r⟩
    obtain ⟨rfl, rfl⟩ := hinj u' v' u v h' h e
    exact r
  · exact fun r => ⟨u, v, h, rfl, r⟩

theorem nodup_flatMap_of_key {α β : Type} {key : β → α} {l : List α} {f : α → List β} (hl : l.Nodup)
    (hf : ∀ a ∈ l, (f a).Nodup) (hk : ∀ a ∈ l, ∀ b ∈ f a, key b = a) : (l.flatMap f).Nodup :=
  List.pairwise_flatMap.2 ⟨hf, hl.imp_of_mem fun ha ha' hne b hb b' hb' e =>
    hne ((hk _ ha b hb).symm.trans (e ▸ hk _ ha' b' hb'))⟩

theorem nodup_flatMap_map {α β γ : Type} {l : List α} {m : α → List β} {φ : α → β → γ} (hl : l.Nodup)
    (hm : ∀ a ∈ l, (m a).Nodup)
    (inj : ∀ a ∈ l, ∀ b ∈ m a, ∀ a' ∈ l, ∀ b' ∈ m a', φ a b = φ a' b' → a = a' ∧ b = b') :
    (l.flatMap fun a => (m a).map (φ a)).Nodup := by
  refine List.pairwise_flatMap.2 ⟨fun a ha => List.pairwise_map.2 ((hm a ha).imp_of_mem
    fun hb hb' hne e => hne (inj a ha _ hb a ha _ hb' e).2), hl.imp_of_mem fun ha ha' hne z hz z' hz' e => ?_⟩
  obtain ⟨b, hb, rfl⟩ := List.mem_map.1 hz
  obtain ⟨b', hb', rfl⟩ := List.mem_map.1 hz'
  exact hne (inj _ ha b hb _ ha' b' hb' e).1

theorem getD_mem {β : Type} {l : List β} {i : Nat} {d : β} (h : i < l.length) : l.getD i d ∈ l := by
  rw [List.getD_eq_getElem?_getD, List.getElem?_eq_getElem h]
  exact List.getElem_mem h

theorem foldl_fixed {α β : Type} {f : β → α → β} {m : β} : ∀ {c : List α}, (∀ l ∈ c, f m l = m) → c.foldl f m = m
  | [], _ => rfl
  | l :: _, h => by
    rw [List.foldl_cons, h l List.mem_cons_self]
    exact foldl_fixed fun x hx => h x (List.mem_cons_of_mem _ hx)

theorem CNF.addClause_in (F : CNF) (c : Clause) (h : ∀ l ∈ c, l ≠ 0 ∧ l.natAbs ≤ F.nvars) :
    F.addClause c = .ok ⟨F.nvars, F.clauses ++ [c]⟩ := by
  unfold CNF.addClause
  cases c with
  | nil => rfl
  | cons l c =>
    have hz : (l :: c).contains 0 = false := Bool.eq_false_iff.2 fun hc => (h 0 (List.contains_iff_mem.1 hc)).1 rfl
    have hm : (l :: c).foldl (fun m l => max m l.natAbs) F.nvars = F.nvars :=
      foldl_fixed fun x hx => Nat.max_eq_left (h x hx).2
    rw [checkLits, hz, hm]
    rfl

theorem CNF.holds_congr {F : CNF} (hwf : F.WF) {α β : Assign}
    (h : ∀ v, 1 ≤ v → v ≤ F.nvars → α v = β v) : F.holds α = F.holds β := by
  rw [Bool.eq_iff_iff, CNF.holds, CNF.holds, List.all_eq_true, List.all_eq_true]
  refine forall₂_congr fun c hc => ?_
  rw [clauseHolds_congr fun l hl => h _ (by have := (hwf c hc l hl).1; omega) (hwf c hc l hl).2]

end Cnfgen
