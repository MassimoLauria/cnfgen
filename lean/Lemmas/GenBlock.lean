/-
Helper definitions and lemmas for `Props/C11/Generated.lean`: the objects of the translated classes as the model
describes them (`blockSelf` …), and how the translated loops compute (each `*_loop` lemma is an induction over the
fold the translator emitted).
-/
import CnfgenModel.Generated.Funcs
import CnfgenModel.Vars.Manager
import Lemmas.PyRt
import Lemmas.VarsBlock
namespace Cnfgen.GenVars
open Cnfgen Cnfgen.Vars Cnfgen.PyGen

abbrev ints (l : List Nat) : List Int := l.map Int.ofNat

/-- the object `BlockOfVariables(F, ranges)` on a formula with `nv` variables, as the model describes it -/
def blockSelf (nv : Nat) (ranges : List Nat) : BlockOfVariables :=
  { ranges := ints ranges, N := blockSize ranges, weights := ints (weights ranges), offset := (nv : Int) + 1,
    formula := ⟨nv⟩, ids := ⟨(nv : Int) + 1, (nv : Int) + blockSize ranges + 1⟩ }

theorem relative_eq (idx ws : List Nat) (h : ∀ i ∈ idx, 1 ≤ i) :
    Py.sum (List.map (fun (z : Int × Int) => (z.1 - 1) * z.2) (List.zip (ints idx) (ints ws))) =
      (((idx.zip ws).map (fun p => (p.1 - 1) * p.2)).foldl (· + ·) 0 : Nat) := by
  induction idx generalizing ws with
  | nil => simp
  | cons i is ih =>
    cases ws with
    | nil => simp
    | cons w ws =>
      have hi : 1 ≤ i := h i List.mem_cons_self
      have := ih ws (fun j hj => h j (List.mem_cons_of_mem _ hj))
      simp only [ints, List.map_cons, List.zip_cons_cons, Py.sum_cons, List.foldl_cons] at this ⊢
      rw [this, foldl_add_eq (0 + (i - 1) * w), Nat.zero_add, Int.natCast_add, Int.natCast_mul, Int.ofNat_sub hi]
      rfl

theorem weights_pos {ranges : List Nat} (h : 0 < blockSize ranges) : ∀ w ∈ weights ranges, 0 < w := by
  induction ranges with
  | nil => simp [weights]
  | cons r rs ih =>
    rw [blockSize_cons] at h
    have hr : 0 < blockSize rs := Nat.pos_of_mul_pos_left h
    intro w hw
    rw [weights_cons] at hw
    rcases List.mem_cons.1 hw with rfl | hw
    · exact hr
    · exact ih hr w hw

theorem to_index_loop (ws : List Nat) (hw : ∀ w ∈ ws, 0 < w) (acc : List Int) (res : Nat) :
    (List.foldlM (fun (st : List Int × Int) (w : Int) =>
      (Py.floordiv st.2 w) >>= fun q =>
      (Py.mod st.2 w) >>= fun r => Except.ok (st.1 ++ [q + 1], r)) (acc, (res : Int)) (ints ws) >>=
        fun st => Except.ok st.1) = Except.ok (acc ++ ints (blockIndexAux ws res)) := by
  induction ws generalizing acc res with
  | nil => exact congrArg Except.ok (List.append_nil acc).symm
  | cons w ws ih =>
    have hw0 : 0 < w := hw w List.mem_cons_self
    simp only [ints, List.map_cons, List.foldlM_cons, Int.ofNat_eq_natCast, Py.floordiv_nat res w hw0,
      Py.mod_nat res w hw0, Py.ok_bind]
    rw [ih (fun v hv => hw v (List.mem_cons_of_mem _ hv)), List.append_assoc]
    rfl

/-- the label check of the constructors (`try: labelfmt.format(…) except IndexError: raise ValueError`), given the
outcome of the `format` call, is the model's `checkFormat` -/
theorem tryExcept_format {β : Type} (fmt : String) (args : List String) (rest : Unit → Except Err β) :
    Py.tryExcept ((pyFormat fmt args).map (fun _ => ())) Err.indexError (Except.error Err.valueError) rest =
      checkFormat fmt args >>= rest := by
  unfold checkFormat
  cases pyFormat fmt args with
  | ok s => rfl
  | error e => cases e <;> rfl

theorem count_loop (ranges : List Int) (a : Int) :
    List.foldl (fun (v : Int) (x : Int) => if (True ∧ (x ≥ 0)) then v + 1 else v) a ranges =
      a + (ranges.countP (fun x => decide (0 ≤ x)) : Nat) := by
  induction ranges generalizing a with
  | nil => exact (Int.add_zero a).symm
  | cons x xs ih =>
    rw [List.foldl_cons, ih, List.countP_cons]
    by_cases hx : 0 ≤ x
    · rw [if_pos ⟨trivial, hx⟩, if_pos (decide_eq_true hx), Int.natCast_succ, Int.add_assoc, Int.add_comm 1]
    · rw [if_neg (fun h => hx h.2), if_neg (fun h => hx (of_decide_eq_true h)), Nat.add_zero]

theorem count_ne_length_iff (ranges : List Int) :
    ((0 : Int) + (ranges.countP (fun x => decide (0 ≤ x)) : Nat) ≠ (ranges.length : Int)) ↔
      ranges.any (· < 0) = true := by
  rw [Int.zero_add, Ne, Int.natCast_inj, List.countP_eq_length]
  simp only [List.any_eq_true, decide_eq_true_iff, not_forall]
  constructor
  · rintro ⟨x, hx, h⟩; exact ⟨x, hx, by omega⟩
  · rintro ⟨x, hx, h⟩; exact ⟨x, hx, by omega⟩

theorem weights_loop (rs : List Nat) :
    List.foldlM (fun (w : List Int) (r : Int) =>
      (Py.index w (-1)) >>= fun x => Except.ok (w ++ [x * r])) [1] (ints rs).reverse =
      Except.ok (ints (blockSize rs :: weights rs)).reverse := by
  induction rs with
  | nil => rfl
  | cons r rs ih =>
    simp only [ints, List.map_cons, List.reverse_cons, List.foldlM_append, List.foldlM_cons, List.foldlM_nil] at ih ⊢
    rw [ih]
    simp only [bind, Except.bind, Py.index_neg_one, pure, Except.pure, weights_cons, blockSize_cons, List.map_cons,
      List.reverse_cons]
    simp [Int.mul_comm]

theorem ints_toNat {ranges : List Int} (h : ranges.any (· < 0) = false) : ints (ranges.map Int.toNat) = ranges := by
  induction ranges with
  | nil => rfl
  | cons x xs ih =>
    simp only [List.any_cons, Bool.or_eq_false_iff, decide_eq_false_iff_not] at h
    simp only [ints, List.map_cons, Int.ofNat_eq_natCast] at ih ⊢
    rw [ih h.2, Int.toNat_of_nonneg (by omega)]

/-- what the model keeps of a `BlockOfVariables` object -/
def blockGroup (self : BlockOfVariables) (fmt : String) : Group :=
  .block self.offset.toNat (self.ranges.map Int.toNat) fmt

theorem toNat_ints (l : List Nat) : (ints l).map Int.toNat = l :=
  (List.map_map ..).trans ((List.map_congr_left fun _ _ => Int.toNat_natCast _).trans (List.map_id l))

theorem blockGroup_blockSelf (nv : Nat) (ranges : List Nat) (fmt : String) :
    blockGroup (blockSelf nv ranges) fmt = .block (nv + 1) ranges fmt := by
  have h1 : ((nv : Int) + 1).toNat = nv + 1 := by omega
  simp only [blockGroup, blockSelf, toNat_ints, h1]

theorem product_map {α β : Type} (g : α → β) (ls : List (List α)) :
    product (ls.map (List.map g)) = (product ls).map (List.map g) := by
  induction ls with
  | nil => simp [product]
  | cons l ls ih =>
    simp only [List.map_cons, product, ih, List.flatMap_map, List.map_flatMap, List.map_map]
    congr 1

theorem range_nat_toList (a b : Nat) : Py.Range.toList ⟨(a : Int), (b : Int)⟩ = ints (rangeN a b) := by
  show (List.range ((b : Int) - a).toNat).map _ = ((List.range (b - a)).map _).map _
  rw [Int.toNat_sub, List.map_map]
  exact List.map_congr_left fun i _ => (Int.add_comm _ _).trans (Int.natCast_add i a).symm

theorem range_toList_nat (R : Nat) : Py.Range.toList ⟨1, (R : Int) + 1⟩ = ints (rangeN 1 (R + 1)) :=
  range_nat_toList 1 (R + 1)

/-- one coordinate of `indices(*pattern)` as the translated classes compute it (the hand model's `patCol`, on integers):
the whole column for `None`, the given value if it passes the range test -/
def pyCol (a : Option Int) (L : List Int) (P : Int → Prop) [DecidablePred P] : Except Err (List Int) :=
  match a with
  | none => .ok L
  | some x => if P x then .ok [x] else .error .valueError

theorem pyCol_ints {a : Option Int} {L : List Nat} {P : Int → Prop} [DecidablePred P] (h : ∀ x, P x → 0 ≤ x) :
    pyCol a (ints L) P = (patCol a L P).map ints := by
  cases a with
  | none => rfl
  | some x =>
    by_cases hx : P x
    · rw [pyCol, patCol, if_pos hx, if_pos hx]
      exact congrArg (fun y => Except.ok [y]) (Int.toNat_of_nonneg (h x hx)).symm
    · rw [pyCol, patCol, if_neg hx, if_neg hx]
      rfl

/-- one column of the pattern, as the translated loop body of `BlockOfVariables.indices` computes it -/
def genCol (p : Option Int × Int) : Except Err (List Int) :=
  pyCol p.1 (Py.Range.toList (Py.Range.mk 1 (p.2 + 1))) fun i => 1 ≤ i ∧ i ≤ p.2

theorem genCol_eq (p : Option Int × Nat) : genCol (p.1, (p.2 : Int)) = (blockCol p).map ints := by
  rw [genCol, range_toList_nat, pyCol_ints fun x hx => Int.le_trans (by decide) hx.1]
  rfl

theorem mapM_genCol (pat : List (Option Int)) (ranges : List Nat) :
    (pat.zip (ints ranges)).mapM genCol = ((pat.zip ranges).mapM blockCol).map (List.map ints) := by
  rw [ints, ← List.map_id pat, List.zip_map, List.map_id, List.mapM_map]
  exact (mapM_congr fun p _ => genCol_eq p).trans (mapM_map_pure ints _)

theorem legal_pos {ranges idx : List Nat} (h : LegalIdx ranges idx) : ∀ i ∈ idx, 1 ≤ i := by
  induction h with
  | nil => simp
  | cons hab _ ih =>
    intro i hi
    rcases List.mem_cons.1 hi with rfl | hi
    · exact hab.1
    · exact ih i hi

theorem ints_injective {a b : List Nat} (h : ints a = ints b) : a = b :=
  List.map_injective_iff.2 (fun _ _ h => Int.ofNat.inj h) h

end Cnfgen.GenVars
