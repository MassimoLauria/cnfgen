/-
C14 — the two bipartite readers (`_read_graph_matrix_format`, `_read_bipartite_kthlist`):
what a text denotes, reader contract, round trip.
-/
import Lemmas.GraphIOKth
namespace Cnfgen
open GraphFmt GraphLex

namespace BipG

theorem addEdgesFrom_cons (G : BipG) (e : Int × Int) (es : List (Int × Int)) :
    G.addEdgesFrom (e :: es) = match G.addEdge e.1 e.2 with
      | .ok G' => G'.addEdgesFrom es
      | .error x => .error x := by
  simp only [addEdgesFrom, List.foldlM_cons]
  cases G.addEdge e.1 e.2 <;> rfl

theorem addEdgesFrom_append (G : BipG) (es fs : List (Int × Int)) :
    G.addEdgesFrom (es ++ fs) = match G.addEdgesFrom es with
      | .ok G' => G'.addEdgesFrom fs
      | .error x => .error x := by
  simp only [addEdgesFrom, List.foldlM_append]
  cases List.foldlM (fun (g : BipG) e => g.addEdge e.1 e.2) G es <;> rfl

end BipG

namespace GraphFmt

theorem nextTok_reads (s : List (Option Int)) : Reads (nextTok s) (fun br => s = some br.1 :: br.2) := by
  unfold nextTok
  split <;> rfl

/-- the `add_edge` calls made for the cells `cs` on the entries `bits` -/
def bitCalls (cs : List (Nat × Nat)) (bits : List Int) : List (Int × Int) :=
  ((cs.zip bits).filter (fun cb => cb.2 = 1)).map (fun cb => ((cb.1.1 : Int), (cb.1.2 : Int)))

theorem bitCalls_cons (c : Nat × Nat) (cs : List (Nat × Nat)) (b : Int) (bits : List Int) :
    bitCalls (c :: cs) (b :: bits) =
      if b = 1 then ((c.1 : Int), (c.2 : Int)) :: bitCalls cs bits else bitCalls cs bits := by
  simp only [bitCalls, List.zip_cons_cons, List.filter_cons]
  split <;> simp_all

theorem readCells_reads (cs : List (Nat × Nat)) (G : BipG) (s : List (Option Int)) :
    Reads (readCells cs G s) (fun Gr =>
      ∃ bits : List Int, s = bits.map some ++ Gr.2 ∧ bits.length = cs.length ∧ (∀ b ∈ bits, b = 0 ∨ b = 1) ∧
        G.addEdgesFrom (bitCalls cs bits) = .ok Gr.1) := by
  induction cs generalizing G s with
  | nil => exact ⟨[], rfl, rfl, nofun, rfl⟩
  | cons c cs ih =>
    simp only [readCells]
    cases hk : nextTok s with
    | error y => exact (nextTok_reads s).err hk
    | ok bs =>
      obtain ⟨b, s'⟩ := bs
      have hs : s = some b :: s' := (nextTok_reads s).ok hk
      simp only
      split
      · rename_i hb
        cases hq : G.addEdge (c.1 : Int) (c.2 : Int) with
        | error y => exact (BipG.addEdge_error hq).1
        | ok G₁ =>
          refine (ih G₁ s').imp fun Gr ⟨bits, h1, h2, h3, h4⟩ =>
            ⟨b :: bits, by rw [hs, h1]; rfl, by simp [h2], List.forall_mem_cons.2 ⟨Or.inr hb, h3⟩, ?_⟩
          rw [bitCalls_cons, if_pos hb, BipG.addEdgesFrom_cons, hq]
          exact h4
      · rename_i hb
        split
        · rename_i hb0
          refine (ih G s').imp fun Gr ⟨bits, h1, h2, h3, h4⟩ =>
            ⟨b :: bits, by rw [hs, h1]; rfl, by simp [h2], List.forall_mem_cons.2 ⟨Or.inl hb0, h3⟩, ?_⟩
          rw [bitCalls_cons, if_neg hb]
          exact h4
        · rfl

theorem length_matrixCells (l r : Nat) : (matrixCells l r).length = l * r := by
  induction l with
  | zero => simp [matrixCells]
  | succ l ih =>
    have : matrixCells (l + 1) r = matrixCells l r ++ (List.range r).map (fun j => (l + 1, j + 1)) := by
      simp [matrixCells, List.range_succ, List.flatMap_append]
    rw [this, List.length_append, ih, List.length_map, List.length_range, Nat.succ_mul]

/-- T-C14.2 for `_read_graph_matrix_format`: the only exception is ValueError; an accepted text
consists of the two dimensions followed by exactly `l·r` entries, each 0 or 1, and the object
has an edge `(i, j)` exactly where the entry of row `i`, column `j` is 1 -/
theorem readMatrix_reads (rows : List MRow) : Reads (readMatrix rows) (fun G => ∃ bits : List Int,
    matrixStream rows = (((G.l : Int) :: (G.r : Int) :: bits).map some) ∧ bits.length = G.l * G.r ∧
    (∀ b ∈ bits, b = 0 ∨ b = 1) ∧ BipG.Inv G ∧
    ∀ p, p ∈ G.edgeset ↔ (p, (1 : Int)) ∈ (matrixCells G.l G.r).zip bits) := by
  unfold readMatrix
  have t1 := nextTok_reads (matrixStream rows)
  cases h1 : nextTok (matrixStream rows) with
  | error y => exact t1.err h1
  | ok ns =>
    obtain ⟨n, s1⟩ := ns
    simp only
    have t2 := nextTok_reads s1
    cases h2 : nextTok s1 with
    | error y => exact t2.err h2
    | ok ms =>
      obtain ⟨m, s2⟩ := ms
      simp only
      split
      · rfl
      · rename_i hneg
        have t3 := readCells_reads (matrixCells n.toNat m.toNat) (BipG.init n.toNat m.toNat) s2
        cases h3 : readCells (matrixCells n.toNat m.toNat) (BipG.init n.toNat m.toNat) s2 with
        | error y => exact t3.err h3
        | ok Gr =>
          obtain ⟨G₁, rest⟩ := Gr
          obtain ⟨bits, hb1, hb2, hb3, hb4⟩ := t3.ok h3
          obtain ⟨_, hi, hl, hr, hm⟩ := (BipG.addEdgesFrom_reads (BipG.inv_init _ _) _).ok hb4
          simp only
          split
          · rename_i hrest
            have hl : G₁.l = n.toNat := hl
            have hr : G₁.r = m.toNat := hr
            have hrest' : rest = [] := by simpa using hrest
            refine ⟨bits, ?_, ?_, hb3, hi, ?_⟩
            · rw [t1.ok h1, t2.ok h2, hb1, hrest', hl, hr]
              have : ((n.toNat : Nat) : Int) = n := by omega
              have : ((m.toNat : Nat) : Int) = m := by omega
              simp [*]
            · rw [hb2, hl, hr, length_matrixCells]
            · intro p
              rw [hm, hl, hr]
              simp only [BipG.init, List.not_mem_nil, false_or, bitCalls, List.mem_map, List.mem_filter,
                decide_eq_true_eq]
              constructor
              · rintro ⟨_, ⟨⟨c, b⟩, ⟨hc, rfl⟩, rfl⟩, rfl⟩
                simpa using hc
              · exact fun hp => ⟨_, ⟨(p, 1), ⟨hp, rfl⟩, rfl⟩, by simp⟩
          · rfl

def bit (G : BipG) (c : Nat × Nat) : Int := if G.hasEdge (c.1 : Int) (c.2 : Int) then 1 else 0

theorem matrixStream_row (G : BipG) (u : Nat) (rs : List MRow) :
    matrixStream (matrixRow G u :: rs) =
      (List.range G.r).map (fun j => some (bit G (u, j + 1))) ++ matrixStream rs := by
  unfold matrixRow
  by_cases hr : G.r = 0
  · simp [hr, matrixStream]
  · simp only [hr, if_false, matrixStream, List.map_map]
    rfl

theorem matrixStream_rows (G : BipG) (is : List Nat) :
    matrixStream (is.map (fun i => matrixRow G (i + 1))) =
      is.flatMap (fun i => (List.range G.r).map (fun j => some (bit G (i + 1, j + 1)))) := by
  induction is with
  | nil => rfl
  | cons i is ih => rw [List.map_cons, matrixStream_row, ih, List.flatMap_cons]

theorem matrixStream_write (G : BipG) :
    matrixStream (writeMatrix G) =
      some (G.l : Int) :: some (G.r : Int) :: (matrixCells G.l G.r).map (fun c => some (bit G c)) := by
  simp only [writeMatrix, matrixStream, List.map_cons, List.map_nil, List.cons_append, List.nil_append,
    matrixStream_rows, matrixCells, List.map_flatMap, List.map_map]
  rfl

/-- the `add_edge` calls made while reading the cells `cs` of the matrix of `G₀` -/
def cellCalls (G₀ : BipG) (cs : List (Nat × Nat)) : List (Int × Int) :=
  (cs.filter (fun c => G₀.hasEdge (c.1 : Int) (c.2 : Int))).map (fun c => ((c.1 : Int), (c.2 : Int)))

theorem readCells_bits (G₀ : BipG) (cs : List (Nat × Nat)) (G : BipG) (rest : List (Option Int)) :
    readCells cs G (cs.map (fun c => some (bit G₀ c)) ++ rest) =
      match G.addEdgesFrom (cellCalls G₀ cs) with
      | .ok G' => .ok (G', rest)
      | .error x => .error x := by
  induction cs generalizing G with
  | nil => rfl
  | cons c cs ih =>
    simp only [cellCalls, List.map_cons, List.cons_append, readCells, nextTok, bit]
    by_cases hc : G₀.hasEdge (c.1 : Int) (c.2 : Int) = true
    · simp only [hc, if_true, List.filter_cons_of_pos, List.map_cons, BipG.addEdgesFrom_cons]
      cases G.addEdge (c.1 : Int) (c.2 : Int) with
      | error x => rfl
      | ok G₁ => exact ih G₁
    · simp only [hc, Bool.false_eq_true, if_false, List.filter_cons_of_neg, not_false_eq_true]
      simp only [show ¬ ((0 : Int) = 1) by omega, if_false, if_true]
      exact ih G

theorem mem_matrixCells {l r : Nat} {c : Nat × Nat} :
    c ∈ matrixCells l r ↔ (1 ≤ c.1 ∧ c.1 ≤ l) ∧ (1 ≤ c.2 ∧ c.2 ≤ r) := by
  obtain ⟨a, b⟩ := c
  simp only [matrixCells, List.mem_flatMap, List.mem_range, List.mem_map, Prod.mk.injEq]
  constructor
  · rintro ⟨i, hi, j, hj, rfl, rfl⟩; omega
  · rintro ⟨⟨h1, h2⟩, h3, h4⟩
    exact ⟨a - 1, by omega, b - 1, by omega, by omega, by omega⟩

/-- T-C14.1 (matrix) -/
theorem roundtrip_matrix {G : BipG} (h : BipG.Inv G) :
    ∃ G', readMatrix (writeMatrix G) = .ok G' ∧ BipG.Same G G' := by
  obtain ⟨G', hG', hS⟩ := BipG.rebuild h
    (cs := (matrixCells G.l G.r).filter (fun c => G.hasEdge (c.1 : Int) (c.2 : Int))) (fun e => by
      rw [List.mem_filter, mem_matrixCells, BipG.hasEdge_iff]
      simp only [Int.toNat_natCast, Int.natCast_nonneg, true_and]
      exact ⟨fun he => he.2, fun he => ⟨by have := h.range e.1 e.2 he; omega, he⟩⟩)
  refine ⟨G', ?_, hS⟩
  have hneg : ¬ ((G.l : Int) < 0 ∨ (G.r : Int) < 0) := by omega
  have := readCells_bits G (matrixCells G.l G.r) (BipG.init G.l G.r) []
  rw [List.append_nil] at this
  simp only [readMatrix, matrixStream_write, nextTok, hneg, if_false, Int.toNat_natCast, this]
  rw [show (BipG.init G.l G.r).addEdgesFrom (cellCalls G (matrixCells G.l G.r)) = .ok G' from hG']
  rfl

/-- the `add_edge` calls of the final loop of `_read_bipartite_kthlist` -/
def bipCalls (L : Nat) (d : List (Nat × List Nat)) : List (Int × Int) :=
  (listPairs d).map (fun e => ((e.2 : Int), (e.1 : Int) - (L : Int)))

theorem addBipLists_eq (L : Nat) (G : BipG) (d : List (Nat × List Nat)) :
    addBipLists L G d = G.addEdgesFrom (bipCalls L d) := by
  induction d generalizing G with
  | nil => rfl
  | cons p ps ih =>
    have hc : bipCalls L (p :: ps) =
        p.2.map (fun (v : Nat) => ((p.1 : Int), (v : Int) - (L : Int))) ++ bipCalls L ps := by
      simp [bipCalls, listPairs]
    rw [hc, BipG.addEdgesFrom_append]
    simp only [addBipLists, List.foldlM_cons]
    have : (p.2.foldlM (fun g (v : Nat) => g.addEdge (p.1 : Int) ((v : Int) - (L : Int))) G) =
        G.addEdgesFrom (p.2.map (fun (v : Nat) => ((p.1 : Int), (v : Int) - (L : Int)))) := by
      simp only [BipG.addEdgesFrom, List.foldlM_map]
    rw [this]
    cases G.addEdgesFrom (p.2.map (fun (v : Nat) => ((p.1 : Int), (v : Int) - (L : Int)))) with
    | error x => rfl
    | ok G₁ => exact ih G₁

theorem bipRight_above {lo B : Nat} {vs : List Nat} {hi : Nat} (hB : B ≤ hi)
    (hv : ∀ x ∈ vs, lo ≤ x ∧ B + 1 ≤ x) : ∃ hi', bipRight lo hi vs = .ok hi' ∧ B ≤ hi' := by
  induction vs generalizing hi with
  | nil => exact ⟨hi, rfl, hB⟩
  | cons v vs ih =>
    have h1 := hv v (List.mem_cons_self ..)
    have : ¬ v < lo := by omega
    simp only [bipRight, this, if_false]
    exact ih (by omega) (fun x hx => hv x (List.mem_cons_of_mem _ hx))

theorem dictSet_fresh {d : List (Nat × List Nat)} {k : Nat} {v : List Nat} (h : ∀ q ∈ d, q.1 ≠ k) :
    dictSet d k v = d ++ [(k, v)] := by
  unfold dictSet
  have : d.any (fun p => p.1 == k) = false := by
    simp only [List.any_eq_false, beq_iff_eq]
    exact h
  simp [this]

/-- the loop of the bipartite reader on the lines of a written file: left vertices `≤ B`, in
increasing order, neighbours `> B` -/
theorem readBipBody_lists (size B : Nat) (ls : List (Nat × List Nat)) (prev lo hi : Nat)
    (d : List (Nat × List Nat))
    (hsorted : (ls.map (·.1)).Pairwise (· < ·)) (hprev : ∀ p ∈ ls, prev < p.1)
    (hrange : ∀ p ∈ ls, (1 ≤ p.1 ∧ p.1 ≤ B) ∧ ∀ x ∈ p.2, B + 1 ≤ x ∧ x ≤ size)
    (hB : B ≤ hi) (hBs : B ≤ size) (hlo : lo ≤ B + 1) (hd : ∀ q ∈ d, q.1 ≤ prev) :
    readBipBody size prev lo hi d (ls.map (fun p => kthAdjRow p.1 p.2) ++ [.blank]) =
      .ok (ls.foldl (fun lo p => max lo (p.1 + 1)) lo, d ++ ls) := by
  induction ls generalizing prev lo hi d with
  | nil => simp [readBipBody]
  | cons p ps ih =>
    obtain ⟨v, ns⟩ := p
    have hr := hrange (v, ns) (List.mem_cons_self ..)
    have hpv : prev < v := hprev (v, ns) (List.mem_cons_self ..)
    have hadj : kthAdj size (some ((v : Int), ns.map Int.ofNat ++ [0])) = .ok (v, ns) :=
      kthAdj_row ⟨hr.1.1, by omega⟩ (fun x hx => by have := hr.2 x hx; omega)
    have h1 : ¬ v ≤ prev := by omega
    have h2 : ¬ v > hi := by omega
    obtain ⟨hi', hhi, hB'⟩ := bipRight_above (lo := max lo (v + 1)) (vs := ns) hB
      (fun x hx => by have := hr.2 x hx; omega)
    simp only [List.map_cons, List.cons_append, kthAdjRow, readBipBody, hadj, h1, h2, if_false, hhi,
      bipAdvance, List.foldl_cons]
    have hfresh : dictSet d v ns = d ++ [(v, ns)] :=
      dictSet_fresh (fun q hq => by have := hd q hq; omega)
    rw [hfresh]
    have hs : (∀ a ∈ ps.map (·.1), v < a) ∧ (ps.map (·.1)).Pairwise (· < ·) := by
      simpa only [List.map_cons, List.pairwise_cons] using hsorted
    have ih' := ih v (max lo (v + 1)) hi' (d ++ [(v, ns)]) hs.2
      (fun q hq => hs.1 q.1 (List.mem_map.2 ⟨q, hq, rfl⟩))
      (fun q hq => hrange q (List.mem_cons_of_mem _ hq)) hB' (by omega)
      (fun q hq => by
        rcases List.mem_append.1 hq with hq | hq
        · have := hd q hq; omega
        · simp only [List.mem_singleton] at hq; subst hq; exact Nat.le_refl _)
    simp only [kthAdjRow] at ih'
    rw [ih']
    simp

theorem bipRight_reads (lo hi : Nat) (vs : List Nat) : Reads (bipRight lo hi vs) (fun _ => True) := by
  induction vs generalizing hi with
  | nil => trivial
  | cons v vs ih =>
    simp only [bipRight]
    split
    · rfl
    · exact ih _

/-- the loop: the lists it collects are those of the text, and `lo` ends one above the largest left vertex.  Nothing is said
of `hi`: that the neighbours named lie on the right side is what the `add_edge` calls after the loop check. -/
theorem readBipBody_reads {size : Nat} (rows : List KRow) (prev lo hi : Nat) (d : List (Nat × List Nat))
    (hd : ∀ q ∈ d, q.1 ≤ prev) :
    Reads (readBipBody size prev lo hi d rows) (fun ld =>
      ∃ ls, ld.2 = d ++ ls ∧ kthPairs rows = listCalls ls ∧ kthLefts rows = ls.map (fun p => (p.1 : Int)) ∧
        lo ≤ ld.1 ∧ (∀ p ∈ ls, p.1 < ld.1 ∧ 1 ≤ p.1 ∧ p.1 ≤ size) ∧ (ld.1 = lo ∨ ∃ p ∈ ls, ld.1 = p.1 + 1)) := by
  induction rows generalizing prev lo hi d with
  | nil => exact ⟨[], by simp, rfl, rfl, Nat.le_refl _, by simp, Or.inl rfl⟩
  | cons r rs ih =>
    cases r with
    | comment => exact ih prev lo hi d hd
    | blank => exact ih prev lo hi d hd
    | spec s => rfl
    | adj a =>
      simp only [readBipBody]
      cases ha : kthAdj size a with
      | error y => exact (kthAdj_reads _ _).err ha
      | ok sp =>
        obtain ⟨left, right⟩ := sp
        simp only
        split
        · rfl
        · rename_i h1
          split
          · rfl
          · cases hb : bipRight (max lo (left + 1)) hi right with
            | error y => exact (bipRight_reads _ _ _).err hb
            | ok hi1 =>
              simp only [bipAdvance]
              obtain ⟨l, r, rfl, hl, hl1, hl2, key⟩ := (kthAdj_reads _ _).ok ha
              rw [dictSet_fresh (fun q hq => by have := hd q hq; omega)]
              refine (ih left (max lo (left + 1)) hi1 (d ++ [(left, right)]) (fun q hq => by
                  rcases List.mem_append.1 hq with hq | hq
                  · have := hd q hq; omega
                  · simp only [List.mem_singleton] at hq; subst hq; exact Nat.le_refl _)).imp
                fun ld ⟨ls, h3, h4, h5, h6, h8, h9⟩ => ?_
              refine ⟨(left, right) :: ls, by rw [h3]; simp, ?_, ?_, by omega, ?_, ?_⟩
              · rw [kthPairs_cons, key, h4, listCalls_cons]
              · simp only [kthLefts, List.filterMap_cons, List.map_cons, hl]
                exact congrArg _ h5
              · intro p hp
                rcases List.mem_cons.1 hp with rfl | hp
                · exact ⟨by omega, hl1, hl2⟩
                · exact h8 p hp
              · rcases h9 with h9 | ⟨p, hp, h9⟩
                · by_cases hc : lo ≤ left + 1
                  · exact Or.inr ⟨(left, right), List.mem_cons_self .., by omega⟩
                  · exact Or.inl (by omega)
                · exact Or.inr ⟨p, List.mem_cons_of_mem _ hp, h9⟩

/-- `L = lo - 1`, `R = size - lo + 1` of `_read_bipartite_kthlist` when the loop ends with `lo = L + 1` on a text of size `L + R` -/
theorem bipSplit (L R : Nat) :
    ¬ (((L + 1 : Nat) : Int) - 1 < 0 ∨ ((L + R : Nat) : Int) - ((L + 1 : Nat) : Int) + 1 < 0) ∧
      (((L + 1 : Nat) : Int) - 1).toNat = L ∧ (((L + R : Nat) : Int) - ((L + 1 : Nat) : Int) + 1).toNat = R := by
  omega

/-- T-C14.2 for `_read_bipartite_kthlist`: the only exception is ValueError; an accepted text
declares `l + r` vertices, lists left vertices only (all `≤ l`, and `l` itself unless `l = 0`),
names only right vertices (`> l`) as neighbours, and the object has the edge `(a, b)` exactly
when some line of `a` names `b + l` -/
theorem readBipKth_reads (rows : List KRow) : Reads (readBipKth rows) (fun G =>
    BipG.Inv G ∧ kthSize rows = some ((G.l + G.r : Nat) : Int) ∧
    (∀ x ∈ kthLefts rows, 1 ≤ x ∧ x ≤ (G.l : Int)) ∧ (G.l = 0 ∨ (G.l : Int) ∈ kthLefts rows) ∧
    (∀ x ∈ kthPairs rows, (G.l : Int) + 1 ≤ x.1 ∧ x.1 ≤ ((G.l + G.r : Nat) : Int)) ∧
    ∀ a b, (a, b) ∈ G.edgeset ↔ (((b + G.l : Nat) : Int), (a : Int)) ∈ kthPairs rows) := by
  unfold readBipKth
  cases hh : kthHeader rows with
  | error y => exact (kthHeader_reads _).err hh
  | ok sr =>
    obtain ⟨size, rest⟩ := sr
    simp only
    obtain ⟨hsize, hpairs, hleftsrows⟩ := (kthHeader_reads _).ok hh
    have tb := readBipBody_reads (size := size) rest 0 1 size [] (by simp)
    cases hb : readBipBody size 0 1 size [] rest with
    | error y => exact tb.err hb
    | ok ld =>
      obtain ⟨lo', d⟩ := ld
      simp only
      obtain ⟨ls, h3, h4, h5, h6, h8, h9⟩ := tb.ok hb
      simp only at h3 h6 h8 h9
      have h7 : lo' ≤ size + 1 := by
        rcases h9 with h9 | ⟨p, hp, h9⟩
        · omega
        · have := (h8 p hp).2.2; omega
      -- `lo' - 1` is the number of left vertices: name it, so that no subtraction is left for `omega`
      obtain ⟨L, rfl⟩ : ∃ L, lo' = L + 1 := ⟨lo' - 1, by omega⟩
      obtain ⟨R, rfl⟩ : ∃ R, size = L + R := ⟨size - L, by omega⟩
      rw [List.nil_append] at h3
      subst h3
      simp only [bipSplit L R, if_false, addBipLists_eq]
      have ta := BipG.addEdgesFrom_reads (BipG.inv_init L R) (bipCalls L d)
      cases ha : (BipG.init L (R)).addEdgesFrom (bipCalls L d) with
      | error y => exact ta.err ha
      | ok G₁ =>
        simp only
        obtain ⟨hv, hi, hl, hr, hm⟩ := ta.ok ha
        have hl' : G₁.l = L := hl
        have hr' : G₁.r = R := hr
        -- the calls were accepted: every neighbour named is a right vertex
        have hval : ∀ e ∈ listPairs d, L + 1 ≤ e.1 ∧ e.1 ≤ L + R := fun e he => by
          have : BipG.Valid L R (e.2 : Int) ((e.1 : Int) - (L : Int)) := hv _ (List.mem_map_of_mem he)
          unfold BipG.Valid at this
          omega
        split
        · rfl
        · refine ⟨hi, by rw [hsize, hl', hr'], ?_, ?_, ?_, ?_⟩
          · intro x hx
            rw [hleftsrows, h5] at hx
            obtain ⟨p, hp, rfl⟩ := List.mem_map.1 hx
            have := h8 p hp
            rw [hl']; omega
          · rcases h9 with h9 | ⟨p, hp, h9⟩
            · left; rw [hl']; omega
            · right
              rw [hleftsrows, h5, hl']
              exact List.mem_map.2 ⟨p, hp, by omega⟩
          · intro x hx
            rw [hpairs, h4] at hx
            obtain ⟨e, he, rfl⟩ := List.mem_map.1 hx
            have := hval e he
            rw [hl', hr']
            simp only
            omega
          · intro a b
            rw [hm, hpairs, h4, listCalls, mem_map_natCast]
            simp only [BipG.init, List.not_mem_nil, false_or, hl']
            constructor
            · rintro ⟨_, hx, hc⟩
              obtain ⟨e, he, rfl⟩ := List.mem_map.1 hx
              have := hval e he
              simp only [Prod.mk.injEq, Int.toNat_natCast] at hc
              obtain ⟨rfl, rfl⟩ := hc
              rwa [show ((e.1 : Int) - (L : Int)).toNat + L = e.1 by omega]
            · intro he
              exact ⟨_, List.mem_map_of_mem he, by simp only [Int.toNat_natCast, Prod.mk.injEq, true_and]; omega⟩

theorem foldl_lo_range (l : Nat) (f : Nat → List Nat) :
    ((List.range l).map (fun i => (i + 1, f i))).foldl (fun lo p => max lo (p.1 + 1)) 1 = l + 1 := by
  induction l with
  | zero => rfl
  | succ l ih =>
    rw [List.range_succ, List.map_append, List.foldl_append, ih]
    simp

theorem bipCalls_bipLists (G : BipG) :
    bipCalls G.l (bipLists G) = G.edges.map (fun e => ((e.1 : Int), (e.2 : Int))) := by
  simp only [bipCalls, listPairs, bipLists, BipG.edges, List.flatMap_map, List.map_flatMap, List.map_map, Function.comp_def,
    Int.natCast_add, Int.add_sub_cancel]

/-- T-C14.1 (kthlist, bipartite graph) -/
theorem roundtrip_kth_bip (k : Nat) {G : BipG} (h : BipG.Inv G) :
    ∃ G', readBipKth (writeKthBip k G) = .ok G' ∧ BipG.Same G G' := by
  have hfirst : ((bipLists G).map (·.1)) = (List.range G.l).map (· + 1) := by
    simp [bipLists, Function.comp_def]
  have hrange : ∀ p ∈ bipLists G, (1 ≤ p.1 ∧ p.1 ≤ G.l) ∧ ∀ x ∈ p.2, G.l + 1 ≤ x ∧ x ≤ G.l + G.r := by
    intro p hp
    simp only [bipLists, List.mem_map, List.mem_range] at hp
    obtain ⟨i, hi, rfl⟩ := hp
    refine ⟨⟨by omega, by omega⟩, fun x hx => ?_⟩
    simp only [List.mem_map] at hx
    obtain ⟨w, hw, rfl⟩ := hx
    have := h.rnbrs_range hw
    omega
  have hbody := readBipBody_lists (G.l + G.r) G.l (bipLists G) 0 1 (G.l + G.r) []
    (by rw [hfirst]; exact sorted_oneTo _) (fun p hp => (hrange p hp).1.1) hrange
    (by omega) (by omega) (by omega) (by simp)
  have hlo : (bipLists G).foldl (fun lo p => max lo (p.1 + 1)) 1 = G.l + 1 :=
    foldl_lo_range G.l (fun i => (G.rnbrs (i + 1)).map (· + G.l))
  rw [hlo, List.nil_append] at hbody
  obtain ⟨G', hG', hS⟩ := BipG.rebuild h (fun _ => h.mem_edges)
  refine ⟨G', ?_, hS⟩
  have hn : ¬ (((G.l + G.r : Nat) : Int) < 0) := by omega
  simp only [readBipKth, writeKthBip, kthRows, kthHeader_comments, kthHeader, hn, if_false, Int.toNat_natCast, hbody]
  simp only [bipSplit G.l G.r, if_false, addBipLists_eq, bipCalls_bipLists]
  rw [show (BipG.init G.l G.r).addEdgesFrom (G.edges.map (fun e => ((e.1 : Int), (e.2 : Int)))) = .ok G' from hG']
  simp [hS.l, hS.r]

end GraphFmt
end Cnfgen
