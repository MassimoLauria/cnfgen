/-
Helper lemmas for the translated families that add their clauses with `check=True` and use complete mappings at an
arbitrary offset plus a block (`RelativizedPigeonholePrinciple`).
-/
import Lemmas.GenFam
import Props.C11.GeneratedCall
import Lemmas.VarsCall
set_option linter.unusedSimpArgs false
namespace Cnfgen.GenFam
open Cnfgen Cnfgen.Vars Cnfgen.PyGen Cnfgen.GenVars Cnfgen.C11 Cnfgen.Fam Cnfgen.PyF

theorem check_and_update_noop (s : FState) (c : List Int)
    (h : ∀ l ∈ c, l ≠ 0 ∧ (l.natAbs : Int) ≤ s.numvar) : PyF.check_and_update s c = Except.ok s := by
  unfold PyF.check_and_update
  by_cases he : c.isEmpty = true
  · rw [if_pos he]
  · rw [if_neg he]
    have h0 : c.contains 0 = false := by
      rw [Bool.eq_false_iff]; intro hc
      exact (h 0 (by simpa using hc)).1 rfl
    rw [h0]
    simp only [Bool.false_eq_true, if_false]
    rw [foldl_fixed (f := fun m l => if (l.natAbs : Int) > m then (l.natAbs : Int) else m) fun l hl =>
      if_neg (Int.not_lt.2 (h l hl).2)]

theorem add_clause_checked (s : FState) (c : List Int) (h : ∀ l ∈ c, l ≠ 0 ∧ (l.natAbs : Int) ≤ s.numvar) :
    PyF.add_clause s c true = Except.ok (push s (.clause c)) := by
  simp [PyF.add_clause, PyF.checked, check_and_update_noop s c h]

theorem cardinality_leq_checked (s : FState) (c : List Int) (v : Int)
    (h : ∀ l ∈ c, l ≠ 0 ∧ (l.natAbs : Int) ≤ s.numvar) :
    PyF.cardinality_leq s c v true = Except.ok (push s (.lin c .le v)) := by
  simp [PyF.cardinality_leq, PyF.add_linear, Op.ofString?, PyF.checked, check_and_update_noop s c h]

theorem cardinality_eq_checked (s : FState) (c : List Int) (v : Int)
    (h : ∀ l ∈ c, l ≠ 0 ∧ (l.natAbs : Int) ≤ s.numvar) :
    PyF.cardinality_eq s c v true = Except.ok (push s (.lin c .eq v)) := by
  simp [PyF.cardinality_eq, PyF.add_linear, Op.ofString?, PyF.checked, check_and_update_noop s c h]

theorem lits_ok_of_wf {F : Formula} (hF : F.WF) {c : Con} (hc : c ∈ F.cons) (s : FState) (hs : s.numvar = F.nvars) :
    ∀ l ∈ c.lits, l ≠ 0 ∧ (l.natAbs : Int) ≤ s.numvar := by
  intro l hl
  have := hF c hc l hl
  exact ⟨this.1, by rw [hs]; exact_mod_cast this.2⟩

theorem cardinality_leq_wf {F : Formula} (hF : F.WF) (s : FState) (hs : s.numvar = F.nvars) (c : List Int) (v : Int)
    (hc : Con.lin c .le v ∈ F.cons) :
    ((PyF.cardinality_leq s c v true) >>= fun x => Except.ok x) = Except.ok (push s (.lin c .le v)) := by
  rw [cardinality_leq_checked s c v (lits_ok_of_wf hF hc s hs)]; rfl

theorem cardinality_eq_wf {F : Formula} (hF : F.WF) (s : FState) (hs : s.numvar = F.nvars) (c : List Int) (v : Int)
    (hc : Con.lin c .eq v ∈ F.cons) :
    ((PyF.cardinality_eq s c v true) >>= fun x => Except.ok x) = Except.ok (push s (.lin c .eq v)) := by
  rw [cardinality_eq_checked s c v (lits_ok_of_wf hF hc s hs)]; rfl

/-! A generator adds, in order, the constraints of the model formula, each through a builder method with `check=True`.
That a loop emits a given list needs nothing about the state; that all the checks pass is `addAll_wf`, used once per
generator. -/

/-- `F.add_…(…, check=True)` of a constraint given as a value -/
def adds (s : FState) (k : Con) : Except Err FState := (PyF.checked s k.lits true).map (push · k)

def addAll (s : FState) (cs : List Con) : Except Err FState := cs.foldlM adds s

theorem addAll_nil (s : FState) : addAll s [] = Except.ok s := rfl

theorem addAll_cons (s : FState) (k : Con) (cs : List Con) :
    addAll s (k :: cs) = adds s k >>= fun s' => addAll s' cs := rfl

/-- one piece after the other: the continuation is run on an arbitrary state -/
theorem addAll_bind {x : Except Err FState} {f : FState → Except Err FState} {s : FState} {cs ds : List Con}
    (hx : x = addAll s cs) (hf : ∀ s', f s' = addAll s' ds) : (x >>= f) = addAll s (cs ++ ds) := by
  rw [hx, addAll, addAll, List.foldlM_append, funext hf]
  rfl

theorem addAll_last {x : Except Err FState} {s : FState} {cs : List Con} (hx : x = addAll s cs) :
    (x >>= fun s' => Except.ok s') = addAll s cs := by
  rw [hx, bind_ok_eq]

theorem foldlM_addAll_map {α β : Type} (g : β → α) (xs : List β) (body : FState → α → Except Err FState)
    (c : β → List Con) (h : ∀ s x, x ∈ xs → body s (g x) = addAll s (c x)) (s : FState) :
    List.foldlM body s (xs.map g) = addAll s (xs.flatMap c) := by
  induction xs generalizing s with
  | nil => rfl
  | cons x xs ih =>
    rw [List.map_cons, List.foldlM_cons, List.flatMap_cons]
    exact addAll_bind (h s x List.mem_cons_self) fun s' => ih (fun s y hy => h s y (List.mem_cons_of_mem _ hy)) s'

theorem foldlM_adds_map {α β : Type} (g : β → α) (xs : List β) (body : FState → α → Except Err FState)
    (c : β → Con) (h : ∀ s x, x ∈ xs → body s (g x) = addAll s [c x]) (s : FState) :
    List.foldlM body s (xs.map g) = addAll s (xs.map c) := by
  rw [List.map_eq_flatMap (f := c)]
  exact foldlM_addAll_map g xs body _ h s

theorem foldlM_adds_product2 {α β γ : Type} (g : β × γ → α) (xs : List β) (ys : List γ)
    (body : FState → α → Except Err FState) (c : β → γ → Con)
    (h : ∀ s x y, x ∈ xs → y ∈ ys → body s (g (x, y)) = addAll s [c x y]) (s : FState) :
    List.foldlM body s ((Py.product2 xs ys).map g) = addAll s (xs.flatMap fun x => ys.map (c x)) := by
  rw [Py.product2, List.map_flatMap]
  induction xs generalizing s with
  | nil => rfl
  | cons x xs ih =>
    rw [List.flatMap_cons, List.flatMap_cons, List.foldlM_append, List.map_map]
    exact addAll_bind (foldlM_adds_map _ ys body (c x) (fun s y hy => h s x y List.mem_cons_self hy) s)
      fun s' => ih (fun s x' y hx' => h s x' y (List.mem_cons_of_mem _ hx')) s'

theorem adds_mem {F : Formula} (hF : F.WF) {k : Con} (hk : k ∈ F.cons) (pre : List Con) :
    adds ⟨F.nvars, pre⟩ k = Except.ok ⟨F.nvars, pre ++ [k]⟩ := by
  rw [adds, PyF.checked, if_pos rfl, check_and_update_noop _ _ (lits_ok_of_wf hF hk _ rfl)]
  rfl

theorem addAll_wf_after {F : Formula} (hF : F.WF) {x : Except Err FState} {N : Int} {pre cs : List Con}
    (hN : N = F.nvars) (hx : x = addAll ⟨N, pre⟩ cs) (hcons : F.cons = pre ++ cs) :
    x = Except.ok ⟨F.nvars, F.cons⟩ := by
  subst hx hN
  have : ∀ (pre cs : List Con), (∀ k ∈ cs, k ∈ F.cons) →
      addAll ⟨F.nvars, pre⟩ cs = Except.ok ⟨F.nvars, pre ++ cs⟩ := by
    intro pre cs
    induction cs generalizing pre with
    | nil => intro _; rw [List.append_nil]; rfl
    | cons k cs ih =>
      intro h
      rw [addAll_cons, adds_mem hF (h k List.mem_cons_self), Py.ok_bind,
        ih (pre ++ [k]) fun k' hk' => h k' (List.mem_cons_of_mem _ hk'), List.append_assoc]
      rfl
  rw [this pre cs fun k hk => hcons ▸ List.mem_append_right _ hk, hcons]

theorem addAll_wf {F : Formula} (hF : F.WF) {x : Except Err FState} {N : Int} (hN : N = F.nvars)
    (hx : x = addAll ⟨N, []⟩ F.cons) : x = Except.ok ⟨F.nvars, F.cons⟩ :=
  addAll_wf_after hF hN hx (List.nil_append _).symm

theorem foldlM_adds_until {α β : Type} {F : Formula} (hF : F.WF) {N : Int} (hN : N = F.nvars) (g : β → α)
    (xs : List β) (body : FState → α → Except Err FState) (c : β → Con) (hc : F.cons = xs.map c) (p : β → Bool)
    (e : Err) (h : ∀ s, ∀ x ∈ xs, body s (g x) = if p x = true then Except.error e else addAll s [c x]) :
    List.foldlM body ⟨N, []⟩ (xs.map g) =
      if xs.any p = true then Except.error e else Except.ok ⟨F.nvars, F.cons⟩ := by
  subst hN
  have : ∀ (pre : List Con) (ys : List β), (∀ y ∈ ys, y ∈ xs) →
      List.foldlM body ⟨F.nvars, pre⟩ (ys.map g) =
        if ys.any p = true then Except.error e else Except.ok ⟨F.nvars, pre ++ ys.map c⟩ := by
    intro pre ys
    induction ys generalizing pre with
    | nil => intro _; rw [List.map_nil, List.map_nil, List.append_nil]; rfl
    | cons y ys ih =>
      intro hy
      rw [List.map_cons, List.foldlM_cons, h _ y (hy y List.mem_cons_self), List.any_cons]
      cases hp : p y
      · have hk : c y ∈ F.cons := hc ▸ List.mem_map_of_mem (hy y List.mem_cons_self)
        rw [if_neg Bool.false_ne_true, addAll_cons, adds_mem hF hk, Py.ok_bind, addAll_nil, Py.ok_bind,
          ih (pre ++ [c y]) fun z hz => hy z (List.mem_cons_of_mem _ hz), Bool.false_or, List.map_cons,
          List.append_assoc]
        rfl
      · rw [if_pos rfl, Bool.true_or, if_pos rfl]
        rfl
  rw [this [] xs fun y hy => hy, hc]
  rfl

theorem lits_inl (l : List Int) : PyF.lits (l.map Sum.inl) = Except.ok l := by
  induction l with
  | nil => rfl
  | cons a l ih =>
    simp only [PyF.lits, List.map_cons, List.mapM_cons] at ih ⊢
    rw [ih]; rfl

theorem lits_inl' {α : Type} (l : List α) (f : α → Int) :
    PyF.lits (l.map (fun a => (Sum.inl (f a) : Sum Int (List Int)))) = Except.ok (l.map f) := by
  have := lits_inl (l.map f)
  simpa [List.map_map, Function.comp_def] using this

/-- `for x in l: acc = acc + [c(x)]` over the images `g x`, with a body that succeeds on every entry -/
theorem foldlM_append_map_ok {ε α β γ : Type} (g : β → α) (body : List γ → α → Except ε (List γ)) (c : β → γ)
    (l : List β) (h : ∀ acc, ∀ x ∈ l, body acc (g x) = .ok (acc ++ [c x])) (acc : List γ) :
    List.foldlM body acc (l.map g) = .ok (acc ++ l.map c) := by
  induction l generalizing acc with
  | nil => rw [List.map_nil, List.map_nil, List.append_nil]; rfl
  | cons x xs ih =>
    rw [List.map_cons, List.foldlM_cons, h acc x List.mem_cons_self]
    exact (ih (fun acc y hy => h acc y (List.mem_cons_of_mem _ hy)) _).trans (by rw [List.append_assoc]; rfl)

theorem lits_two (a b : Int) : PyF.lits [Sum.inl a, Sum.inl b] = Except.ok [a, b] := lits_inl [a, b]

theorem lits_three (a b c : Int) : PyF.lits [Sum.inl a, Sum.inl b, Sum.inl c] = Except.ok [a, b, c] := lits_inl [a, b, c]

theorem lits_append_inl (l : List Int) (a : Int) :
    PyF.lits (l.map (fun z => (Sum.inl z : Sum Int (List Int))) ++ [Sum.inl a]) = Except.ok (l ++ [a]) := by
  have := lits_inl (l ++ [a])
  simpa [List.map_append] using this

/-- `new_mapping(n, m, label=…)` with natural sizes and a label that formats -/
theorem new_mapping_nat (s : FState) (nv : Nat) (hs : s.numvar = nv) (n m : Nat) :
    VariablesManager.new_mapping s (n : Int) (m : Int) (Except.ok ()) =
      Except.ok (unarySelf nv (BipG.complete n m), { s with numvar := ((nv + n * m : Nat) : Int) }) := by
  rw [new_mapping_eq s nv hs, if_neg (by omega)]
  simp only [Py.tryExcept, Int.toNat_natCast]

theorem unary_domain_complete (nv m n : Nat) :
    UnaryMappingVariables.domain (unarySelf nv (BipG.complete m n)) none = Except.ok (ints (idx m)) := by
  rw [gen_unary_domain_none, range'_eq_idx]; rfl

theorem unary_range_complete (nv m n : Nat) :
    UnaryMappingVariables.range (unarySelf nv (BipG.complete m n)) none = Except.ok (ints (idx n)) := by
  rw [gen_unary_range_none, range'_eq_idx]; rfl

theorem unary_call_pair_complete (nv m n u v : Nat) (hu : 1 ≤ u ∧ u ≤ m) (hv : 1 ≤ v ∧ v ≤ n) :
    UnaryMappingVariables.call (unarySelf nv (BipG.complete m n)) [some (u : Int), some (v : Int)] =
      Except.ok (Sum.inl ((UMap.mk (nv + 1) m n).lit u v)) := by
  have h := gen_bip_call_pair nv (BipG.wf_complete m n) u v
  have he : (BipG.complete m n).hasEdge u v = true := by
    rw [BipG.hasEdge_iff]
    refine ⟨by omega, by omega, ?_⟩
    simpa using (BipG.mem_completeB_edgeset m n u v).2 ⟨hu.1, hu.2, hv.1, hv.2⟩
  rw [if_pos he] at h
  rw [gen_unary_call_eq_bip]
  simp only [unaryToBip_unarySelf, h, UMap.lit, UMap.var, bipId_complete (nv + 1) m n u v hu hv]

theorem block_ids (nv : Nat) (ranges : List Nat) :
    (blockSelf nv ranges).ids = ⟨(nv : Int) + 1, (nv : Int) + ((blockSize ranges : Nat) : Int) + 1⟩ := rfl

theorem add_variable_group_block_eq (s : FState) (nv : Nat) (ranges : List Nat) (hs : s.numvar = nv) :
    VariablesManager.add_variable_group_block s (blockSelf nv ranges) =
      Except.ok { s with numvar := ((nv + blockSize ranges : Nat) : Int) } :=
  add_variable_group_eq s nv _ hs _ (block_ids nv ranges)

/-- `new_block(*ranges, label=…)` with non-negative ranges and a label that formats -/
theorem new_block_eq (s : FState) (nv : Nat) (hs : s.numvar = nv) (ranges : List Nat) (hne : ranges ≠ []) :
    VariablesManager.new_block s (ints ranges) (Except.ok ()) =
      Except.ok (blockSelf nv ranges, { s with numvar := ((nv + blockSize ranges : Nat) : Int) }) := by
  unfold VariablesManager.new_block
  rw [hs, gen_block_init_eq]
  have hne' : ints ranges ≠ [] := by
    cases ranges with
    | nil => exact absurd rfl hne
    | cons a l => simp [ints]
  have hneg : ¬ (List.any (ints ranges) (· < 0) = true) := by
    simp only [ints, List.any_map, List.any_eq_true, not_exists, not_and]
    intro x _; simp
  have hmap : (ints ranges).map Int.toNat = ranges := by
    simp only [ints, List.map_map]
    conv => rhs; rw [← List.map_id ranges]
    apply List.map_congr_left; intro x _; simp
  simp only [Py.tryExcept, hne', if_false, hneg, Py.ok_bind, hmap, Bool.false_eq_true]
  rw [add_variable_group_block_eq s nv _ hs, Py.ok_bind]

/-- `new_block(V, label=…)` with one range and a label that formats -/
theorem new_block_one_eq (s : FState) (nv : Nat) (hs : s.numvar = nv) (V : Nat) :
    VariablesManager.new_block s [(V : Int)] (Except.ok ()) =
      Except.ok (blockSelf nv [V], { s with numvar := ((nv + V : Nat) : Int) }) := by
  have := new_block_eq s nv hs [V] (List.cons_ne_nil _ _)
  rwa [show blockSize [V] = V from Nat.one_mul V] at this

theorem block_call_idx (nv : Nat) (ranges : List Nat) {idx : List Nat} (hne : idx ≠ []) (hl : LegalIdx ranges idx) :
    BlockOfVariables.call (blockSelf nv ranges) (natPat idx) =
      Except.ok (Sum.inl ((blockId (nv + 1) ranges idx : Nat) : Int)) :=
  (gen_block_call_eq_model nv ranges _).trans
    (congrArg (Except.map resSum) ((block_call_full (nv + 1) ranges "" hne).1 hl))

theorem block_call_one (nv V v : Nat) (hv : 1 ≤ v ∧ v ≤ V) :
    BlockOfVariables.call (blockSelf nv [V]) [some (v : Int)] =
      Except.ok (Sum.inl ((blockId (nv + 1) [V] [v] : Nat) : Int)) :=
  block_call_idx nv [V] (idx := [v]) (List.cons_ne_nil _ _) (by simp [LegalIdx, hv])

theorem block_call_two (nv N C i c : Nat) (hi : 1 ≤ i ∧ i ≤ N) (hc : 1 ≤ c ∧ c ≤ C) :
    BlockOfVariables.call (blockSelf nv [N, C]) [some (i : Int), some (c : Int)] =
      Except.ok (Sum.inl ((blockId (nv + 1) [N, C] [i, c] : Nat) : Int)) :=
  block_call_idx nv [N, C] (idx := [i, c]) (List.cons_ne_nil _ _) (by simp [LegalIdx, hi, hc])

end Cnfgen.GenFam
