/-
Lemmas for T-C11.1 — `BlockOfVariables`: mixed-radix index ↔ identifier arithmetic, and `indices(*pattern)` as a filter
of all indices.
-/
import CnfgenModel.Vars.Patterns
import Lemmas.IterNodup
import Lemmas.VarsEnum
import Mathlib.Data.List.Range
namespace Cnfgen
namespace Vars

/-- `idx` is a legal index of a block with the given ranges: same arity, `1 ≤ iⱼ ≤ rangesⱼ` -/
def LegalIdx (ranges idx : List Nat) : Prop := List.Forall₂ (fun i r => 1 ≤ i ∧ i ≤ r) idx ranges

/-- all legal indices, in the order of `indices()` (itertools.product of the ranges) -/
def blockAll (ranges : List Nat) : List (List Nat) := product (ranges.map (fun r => rangeN 1 (r + 1)))

/-- an index matches a pattern: same length, equal wherever the pattern is not `None` -/
def patMatches : Pattern → List Nat → Bool
  | [], [] => true
  | none :: ps, _ :: is => patMatches ps is
  | some x :: ps, i :: is => decide (x = (i : Int)) && patMatches ps is
  | _, _ => false

theorem foldl_add_eq (a : Nat) (l : List Nat) :
    l.foldl (· + ·) a = a + l.foldl (· + ·) 0 := by
  simpa using List.foldl_assoc (α := Nat) (op := (· + ·)) (l := l) (a₁ := a) (a₂ := 0)

theorem blockSize_nil : blockSize [] = 1 := rfl
theorem blockSize_cons (r : Nat) (rs : List Nat) : blockSize (r :: rs) = r * blockSize rs := by
  simpa [blockSize] using List.foldl_assoc (α := Nat) (op := (· * ·)) (l := rs) (a₁ := r) (a₂ := 1)
theorem weights_cons (r : Nat) (rs : List Nat) : weights (r :: rs) = blockSize rs :: weights rs := rfl
theorem blockId_nil (start : Nat) (ranges : List Nat) : blockId start ranges [] = start := by
  simp [blockId]
theorem blockId_cons (start r : Nat) (rs : List Nat) (i : Nat) (is : List Nat) :
    blockId start (r :: rs) (i :: is) = (i - 1) * blockSize rs + blockId start rs is := by
  simp only [blockId, weights_cons, List.zip_cons_cons, List.map_cons, List.foldl_cons]
  rw [foldl_add_eq]
  omega

theorem blockId_eq_start_add (start : Nat) (ranges idx : List Nat) :
    blockId start ranges idx = start + blockId 0 ranges idx := by
  simp [blockId]

theorem le_blockId (start : Nat) (ranges idx : List Nat) : start ≤ blockId start ranges idx := by
  rw [blockId_eq_start_add]; exact Nat.le_add_right _ _

theorem blockId_one (n v : Nat) (hv : 1 ≤ v) : blockId 1 [n] [v] = v := by
  simp only [blockId, weights, List.foldl_cons, List.foldl_nil, List.zip_cons_cons, List.zip_nil_right, List.map_cons,
    List.map_nil, Nat.mul_one]
  omega

theorem blockId_start_add (start k : Nat) (ranges idx : List Nat) :
    blockId (start + k) ranges idx = k + blockId start ranges idx := by
  rw [blockId_eq_start_add (start + k), blockId_eq_start_add start]
  omega

theorem blockAll_nil : blockAll [] = [[]] := rfl

theorem blockAll_cons (r : Nat) (rs : List Nat) :
    blockAll (r :: rs) = (rangeN 1 (r + 1)).flatMap (fun x => (blockAll rs).map (x :: ·)) := rfl

theorem mem_blockAll {ranges idx : List Nat} : idx ∈ blockAll ranges ↔ LegalIdx ranges idx := by
  unfold blockAll LegalIdx
  rw [mem_product, List.forall₂_map_right_iff]
  simp only [mem_rangeN, Nat.lt_succ_iff]

theorem blockAll_ids (start : Nat) (ranges : List Nat) :
    (blockAll ranges).map (blockId start ranges) = List.range' start (blockSize ranges) := by
  induction ranges generalizing start with
  | nil => simp [blockAll_nil, blockId_nil, blockSize_nil]
  | cons r rs ih =>
    rw [blockAll_cons, blockSize_cons, rangeN, List.flatMap_map]
    refine ids_flatMap (tot := (· * blockSize rs)) (Nat.zero_mul _) (fun i => Nat.succ_mul i _) _ fun i _ => ?_
    rw [List.map_map, ← ih]
    refine List.map_congr_left fun is _ => ?_
    simp only [Function.comp, blockId_cons, Nat.add_sub_cancel]
    rw [blockId_start_add]

theorem length_blockAll (ranges : List Nat) : (blockAll ranges).length = blockSize ranges := by
  have h := congrArg List.length (blockAll_ids 0 ranges)
  simpa using h

theorem blockAll_nodup (ranges : List Nat) : (blockAll ranges).Nodup :=
  ids_nodup (blockAll_ids 0 ranges)

theorem blockId_range {ranges idx : List Nat} (start : Nat) (h : LegalIdx ranges idx) :
    start ≤ blockId start ranges idx ∧ blockId start ranges idx < start + blockSize ranges :=
  ids_range (blockAll_ids start ranges) (mem_blockAll.2 h)

theorem blockIndexAux_blockId {ranges idx : List Nat} (h : LegalIdx ranges idx) :
    blockIndexAux (weights ranges) (blockId 0 ranges idx) = idx := by
  unfold LegalIdx at h
  induction h with
  | nil => simp [weights, blockIndexAux]
  | @cons i r is rs hir ht ih =>
    have hlt := (blockId_range 0 ht).2
    rw [Nat.zero_add] at hlt
    have hB : 0 < blockSize rs := by omega
    rw [weights_cons, blockId_cons, blockIndexAux]
    rw [Nat.add_comm ((i - 1) * blockSize rs), Nat.add_mul_div_right _ _ hB, Nat.div_eq_of_lt hlt,
      Nat.add_mul_mod_self_right, Nat.mod_eq_of_lt hlt, ih]
    congr 1
    omega

theorem blockId_inj {ranges idx idx' : List Nat} (start : Nat) (h : LegalIdx ranges idx) (h' : LegalIdx ranges idx')
    (e : blockId start ranges idx = blockId start ranges idx') : idx = idx' :=
  ids_inj (blockAll_ids start ranges) (mem_blockAll.2 h) (mem_blockAll.2 h') e

theorem blockId_surj {start : Nat} {ranges : List Nat} {v : Nat} (h1 : start ≤ v) (h2 : v < start + blockSize ranges) :
    ∃ idx, LegalIdx ranges idx ∧ blockId start ranges idx = v :=
  have ⟨idx, hi, e⟩ := ids_surj (blockAll_ids start ranges) ⟨h1, h2⟩
  ⟨idx, mem_blockAll.1 hi, e⟩

/-- `to_index` enumerates the legal indices, in the order of `indices()`, from `start` -/
theorem block_enumerates (start : Nat) (ranges : List Nat) :
    Enumerates (blockAll ranges) (blockId start ranges) (blockIndex start ranges) start
      (blockSize ranges) where
  ids := blockAll_ids start ranges
  index_id := fun idx hx lit hl => by
    have h := mem_blockAll.1 hx
    unfold blockIndex
    simp only
    rw [hl, if_pos (blockId_range start h), blockId_eq_start_add, Nat.add_sub_cancel_left,
      blockIndexAux_blockId h]
  reject := fun _ hr => if_neg hr

theorem blockIndex_blockId {ranges idx : List Nat} (start : Nat) (h : LegalIdx ranges idx) :
    blockIndex start ranges (blockId start ranges idx : Int) = .ok idx ∧
    blockIndex start ranges (-(blockId start ranges idx : Int)) = .ok idx :=
  (block_enumerates start ranges).index_both (mem_blockAll.2 h)

theorem blockId_blockIndex {ranges idx : List Nat} {start : Nat} {lit : Int}
    (h : blockIndex start ranges lit = .ok idx) :
    LegalIdx ranges idx ∧ blockId start ranges idx = lit.natAbs :=
  have hm := (block_enumerates start ranges).id_index h
  ⟨mem_blockAll.1 hm.1, hm.2⟩

/-- `to_index` is defined exactly on the literals of the group, ValueError otherwise -/
theorem blockIndex_isOk_iff (start : Nat) (ranges : List Nat) (lit : Int) :
    (∃ idx, blockIndex start ranges lit = .ok idx) ↔
      (start ≤ lit.natAbs ∧ lit.natAbs < start + blockSize ranges) :=
  (block_enumerates start ranges).isOk_iff lit

theorem blockIndex_error {start : Nat} {ranges : List Nat} {lit : Int} {e : Err}
    (h : blockIndex start ranges lit = .error e) : e = .valueError :=
  (block_enumerates start ranges).error_eq h

/-- a pattern is acceptable iff it has the right arity and every fixed entry is within its range -/
def LegalPat (ranges : List Nat) (pat : Pattern) : Prop :=
  List.Forall₂ (fun (p : Option Int) (r : Nat) => ∀ x, p = some x → 1 ≤ x ∧ x ≤ (r : Int)) pat ranges

/-- one coordinate of `patMatches` -/
def colMatch (p : Option Int) (i : Nat) : Bool :=
  match p with
  | none => true
  | some x => decide (x = (i : Int))

/-- the column function of `blockIndices` -/
def blockCol (p : Option Int × Nat) : Except Err (List Nat) :=
  match p.1 with
  | none => .ok (rangeN 1 (p.2 + 1))
  | some i => if 1 ≤ i ∧ i ≤ p.2 then .ok [i.toNat] else .error .valueError

theorem patMatches_cons (p : Option Int) (ps : Pattern) (i : Nat) (is : List Nat) :
    patMatches (p :: ps) (i :: is) = (colMatch p i && patMatches ps is) := by
  cases p <;> simp [patMatches, colMatch]

theorem eq_singleton_of_nodup {α : Type} {l : List α} {a : α} (hn : l.Nodup)
    (h : ∀ x, x ∈ l ↔ x = a) : l = [a] :=
  List.perm_singleton.1 ((List.perm_ext_iff_of_nodup hn (List.nodup_singleton a)).2
    (fun x => (h x).trans List.mem_singleton.symm))

theorem filter_flatMap_map {α β γ : Type} (l : List α) (L : List β) (f : α → β → γ) (q : α → Bool)
    (P : β → Bool) (R : γ → Bool) (hR : ∀ x y, R (f x y) = (q x && P y)) :
    (l.flatMap fun x => L.map (f x)).filter R = (l.filter q).flatMap fun x => (L.filter P).map (f x) := by
  induction l with
  | nil => rfl
  | cons a t ih =>
    rw [List.flatMap_cons, List.filter_append, ih, List.filter_map]
    have hcomp : (R ∘ f a) = fun y => (q a && P y) := funext (hR a)
    rw [hcomp]
    cases hq : q a
    · simp [hq]
    · simp [hq]

/-- one coordinate of `indices(*pattern)`: every value of the column `L` for `None`, the given one if it passes the range test -/
def patCol (a : Option Int) (L : List Nat) (P : Int → Prop) [DecidablePred P] : Except Err (List Nat) :=
  match a with
  | none => .ok L
  | some x => if P x then .ok [x.toNat] else .error .valueError

theorem patCol_ok {a : Option Int} {L : List Nat} {P : Int → Prop} [DecidablePred P] (hl : L.Nodup)
    (h : ∀ x, a = some x → P x) (hm : ∀ x, P x → 0 ≤ x ∧ x.toNat ∈ L) :
    patCol a L P = .ok (L.filter (colMatch a)) := by
  cases a with
  | none => exact congrArg Except.ok (List.filter_eq_self.2 fun _ _ => rfl).symm
  | some x =>
    obtain ⟨h0, hx⟩ := hm x (h x rfl)
    rw [patCol, if_pos (h x rfl)]
    refine congrArg Except.ok (eq_singleton_of_nodup (hl.filter _) fun z => ?_).symm
    rw [List.mem_filter, colMatch, decide_eq_true_eq]
    exact ⟨fun hz => Int.ofNat_inj.1 (hz.2.symm.trans (Int.toNat_of_nonneg h0).symm),
      fun hz => hz ▸ ⟨hx, (Int.toNat_of_nonneg h0).symm⟩⟩

theorem patCol_error {a : Option Int} {L : List Nat} {P : Int → Prop} [DecidablePred P]
    (h : ¬ ∀ x, a = some x → P x) : patCol a L P = .error .valueError := by
  cases a with
  | none => exact absurd (fun x hx => nomatch hx) h
  | some x => exact if_neg fun hx => h fun y hy => Option.some.inj hy ▸ hx

theorem blockCol_eq (p : Option Int) (r : Nat) :
    blockCol (p, r) = patCol p (rangeN 1 (r + 1)) fun i => 1 ≤ i ∧ i ≤ r := rfl

theorem blockCol_ok {p : Option Int} {r : Nat} (h : ∀ x, p = some x → 1 ≤ x ∧ x ≤ (r : Int)) :
    blockCol (p, r) = .ok ((rangeN 1 (r + 1)).filter (colMatch p)) :=
  patCol_ok (rangeN_nodup _ _) h fun x hx => ⟨Int.le_trans (by decide) hx.1, mem_rangeN.2 (by omega)⟩

theorem mapM_blockCol_ok {ranges : List Nat} {pat : Pattern} (h : LegalPat ranges pat) :
    ∃ cs, (pat.zip ranges).mapM blockCol = .ok cs ∧
      product cs = (blockAll ranges).filter (patMatches pat) := by
  unfold LegalPat at h
  induction h with
  | nil => exact ⟨[], rfl, rfl⟩
  | @cons p r ps rs hp ht ih =>
    obtain ⟨cs, h1, h2⟩ := ih
    refine ⟨(rangeN 1 (r + 1)).filter (colMatch p) :: cs, ?_, ?_⟩
    · rw [List.zip_cons_cons, List.mapM_cons, blockCol_ok hp, h1]
      rfl
    · rw [blockAll_cons, filter_flatMap_map _ _ List.cons (colMatch p) (patMatches ps) _
        (patMatches_cons p ps), ← h2]
      rfl

theorem mapM_blockCol_error {ranges : List Nat} {pat : Pattern}
    (hlen : pat.length = ranges.length) (h : ¬ LegalPat ranges pat) :
    (pat.zip ranges).mapM blockCol = .error .valueError := by
  induction pat generalizing ranges with
  | nil =>
    cases ranges with
    | nil => exact absurd List.Forall₂.nil h
    | cons r rs => simp at hlen
  | cons p ps ih =>
    cases ranges with
    | nil => simp at hlen
    | cons r rs =>
      rw [List.zip_cons_cons, List.mapM_cons]
      by_cases hp : ∀ x, p = some x → 1 ≤ x ∧ x ≤ (r : Int)
      · have ht : ¬ LegalPat rs ps := fun ht => h (List.Forall₂.cons hp ht)
        rw [blockCol_ok hp, ih (by simpa using hlen) ht]
        rfl
      · rw [blockCol_eq, patCol_error hp]
        rfl

theorem blockIndices_eq (ranges : List Nat) (pattern : Pattern) :
    blockIndices ranges pattern =
      if ¬ pattern.isEmpty ∧ pattern.length ≠ ranges.length then .error .valueError
      else (((if pattern.isEmpty then ranges.map (fun _ => none) else pattern).zip ranges).mapM
        blockCol).map product := rfl

theorem patMatches_none {ranges idx : List Nat} (h : LegalIdx ranges idx) :
    patMatches (ranges.map (fun _ => (none : Option Int))) idx = true := by
  unfold LegalIdx at h
  induction h with
  | nil => rfl
  | cons _ _ ih => exact ih

theorem blockIndices_nil (ranges : List Nat) : blockIndices ranges [] = .ok (blockAll ranges) := by
  have hl : LegalPat ranges (ranges.map (fun _ => (none : Option Int))) := by
    unfold LegalPat
    rw [List.forall₂_map_left_iff]
    exact List.forall₂_same.2 (fun r _ x hx => by cases hx)
  obtain ⟨cs, h1, h2⟩ := mapM_blockCol_ok hl
  rw [blockIndices_eq]
  simp only [List.isEmpty_nil, not_true_eq_false, false_and, if_false, if_true, h1]
  rw [List.filter_eq_self.2 (fun idx hidx => patMatches_none (mem_blockAll.1 hidx))] at h2
  rw [← h2]
  rfl

/-- `indices(*pattern)`: exactly the matching indices, in identifier order; ValueError on an unacceptable pattern -/
theorem blockIndices_pattern {ranges : List Nat} {pat : Pattern} (hp : pat ≠ []) :
    (LegalPat ranges pat → blockIndices ranges pat = .ok ((blockAll ranges).filter (patMatches pat))) ∧
    (¬ LegalPat ranges pat → blockIndices ranges pat = .error .valueError) := by
  have he : pat.isEmpty = false := by cases pat <;> simp_all
  rw [blockIndices_eq]
  simp only [he, Bool.false_eq_true, not_false_eq_true, true_and, if_false]
  constructor
  · intro hl
    have hlen : pat.length = ranges.length := hl.length_eq
    obtain ⟨cs, h1, h2⟩ := mapM_blockCol_ok hl
    rw [if_neg (by simpa using hlen), h1, ← h2]
    rfl
  · intro hl
    by_cases hlen : pat.length = ranges.length
    · rw [if_neg (by simpa using hlen), mapM_blockCol_error hlen hl]
      rfl
    · rw [if_pos hlen]

/-- a full index written as a pattern (no `None`) -/
def natPat (idx : List Nat) : Pattern := idx.map (fun (i : Nat) => some (i : Int))

theorem patMatches_full {idx w : List Nat} : patMatches (natPat idx) w = true ↔ w = idx := by
  unfold natPat
  induction idx generalizing w with
  | nil => cases w <;> simp [patMatches]
  | cons i is ih =>
    cases w with
    | nil => simp [patMatches]
    | cons j js => simp [patMatches, ih, Int.natCast_inj, eq_comm (a := j)]

theorem legalPat_full {ranges idx : List Nat} : LegalPat ranges (natPat idx) ↔ LegalIdx ranges idx := by
  unfold LegalPat LegalIdx natPat
  rw [List.forall₂_map_left_iff]
  simp only [Option.some.injEq, forall_eq']
  norm_cast

theorem blockIndices_full {ranges : List Nat} {idx : List Nat} (hne : idx ≠ []) :
    (LegalIdx ranges idx → blockIndices ranges (natPat idx) = .ok [idx]) ∧
    (¬ LegalIdx ranges idx → blockIndices ranges (natPat idx) = .error .valueError) := by
  have hp : natPat idx ≠ [] := by simpa [natPat] using hne
  obtain ⟨h1, h2⟩ := blockIndices_pattern (ranges := ranges) hp
  constructor
  · intro hl
    rw [h1 (legalPat_full.2 hl)]
    congr 1
    apply eq_singleton_of_nodup ((blockAll_nodup ranges).filter _)
    intro w
    rw [List.mem_filter, patMatches_full, mem_blockAll]
    constructor
    · exact fun h => h.2
    · rintro rfl; exact ⟨hl, rfl⟩
  · intro hl
    exact h2 (fun h => hl (legalPat_full.1 h))

end Vars
end Cnfgen
