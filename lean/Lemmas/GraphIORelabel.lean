/-
C14 — cnfgen's part after the third-party parsers (gml, dot): `normalize_networkx_labels` (sorting the labels and
renumbering them 1..n), `BipartiteGraph.from_networkx`, the digit strings of the dot branch.
-/
import Lemmas.GraphIOBip
import Lemmas.GraphNx
import Lemmas.NatStr
namespace Cnfgen.GraphFmt
open Cnfgen Cnfgen.GraphLex

theorem insertBy_head {α} (le : α → α → Bool) (x : α) (l : List α) (h : ∀ y ∈ l.head?, le x y = true) :
    insertBy le x l = x :: l := by
  cases l with
  | nil => rfl
  | cons y ys => simp only [insertBy, h y (by simp), if_true]

theorem sortBy_of_sorted {α} (le : α → α → Bool) (l : List α) (h : l.Pairwise (fun a b => le a b = true)) :
    sortBy le l = l := by
  induction l with
  | nil => rfl
  | cons x xs ih =>
    have hx := List.pairwise_cons.1 h
    show insertBy le x (sortBy le xs) = x :: xs
    rw [ih hx.2]
    apply insertBy_head
    intro y hy
    cases xs with
    | nil => simp at hy
    | cons z zs => simp only [List.head?_cons, Option.mem_def, Option.some.injEq] at hy; subst hy; exact hx.1 _ (by simp)

/-- T-C14.4 (labels that compare numerically): when the integer labels come in increasing
order, every node keeps its position: the `i`-th node becomes vertex `i + 1` -/
theorem relabelInts_increasing (nodes : List Int) (edges : List (Int × Int)) (h : nodes.Pairwise (· < ·)) :
    relabelInts nodes edges =
      (nodes.length, edges.map (fun e => (nodes.idxOf e.1 + 1, nodes.idxOf e.2 + 1))) := by
  unfold relabelInts relabelWith
  rw [sortBy_of_sorted _ _ (h.imp (fun hab => by simpa using Int.le_of_lt hab))]
  rfl

def consecutive (a : Int) (n : Nat) : List Int := (List.range n).map (fun (i : Nat) => a + (i : Int))

theorem consecutive_sorted (a : Int) (n : Nat) : (consecutive a n).Pairwise (· < ·) := by
  unfold consecutive
  rw [List.pairwise_map]
  exact List.pairwise_lt_range.imp (fun hab => by omega)

theorem idxOf_consecutive (a : Int) (n i : Nat) (hi : i < n) : (consecutive a n).idxOf (a + (i : Int)) = i :=
  idxOf_map_range (fun (i : Nat) => a + (i : Int)) (fun _ _ h _ => by omega) hi

theorem map_map_eq_self {α β} {f : α → β} {g : β → α} {l : List α} (h : ∀ a ∈ l, g (f a) = a) : (l.map f).map g = l :=
  (List.map_map ..).trans ((List.map_congr_left h).trans (List.map_id l))

theorem relabelInts_consecutive (a : Int) (n : Nat) (edges : List (Nat × Nat))
    (h : ∀ e ∈ edges, (1 ≤ e.1 ∧ e.1 ≤ n) ∧ 1 ≤ e.2 ∧ e.2 ≤ n) :
    relabelInts (consecutive a n) (edges.map (fun e => (a + ((e.1 : Int) - 1), a + ((e.2 : Int) - 1)))) = (n, edges) := by
  rw [relabelInts_increasing _ _ (consecutive_sorted a n)]
  have hlen : (consecutive a n).length = n := by simp [consecutive]
  rw [hlen]
  congr 1
  refine map_map_eq_self fun e he => ?_
  obtain ⟨⟨h1, h2⟩, h3, h4⟩ := h e he
  have e1 : a + ((e.1 : Int) - 1) = a + ((e.1 - 1 : Nat) : Int) := by omega
  have e2 : a + ((e.2 : Int) - 1) = a + ((e.2 - 1 : Nat) : Int) := by omega
  simp only
  rw [e1, e2, idxOf_consecutive a n _ (by omega), idxOf_consecutive a n _ (by omega)]
  exact Prod.ext (by simp only; omega) (by simp only; omega)

/-- gml: `write_gml` numbers the nodes `0..n-1` in the order `1..n` and `read_gml(label='id')`
returns these ids; the relabelling sends id `v-1` back to `v` -/
theorem relabelInts_gml (n : Nat) (edges : List (Nat × Nat)) (h : ∀ e ∈ edges, (1 ≤ e.1 ∧ e.1 ≤ n) ∧ 1 ≤ e.2 ∧ e.2 ≤ n) :
    relabelInts (consecutive 0 n) (edges.map (fun e => ((e.1 : Int) - 1, (e.2 : Int) - 1))) = (n, edges) := by
  simpa only [Int.zero_add] using relabelInts_consecutive 0 n edges h

/-- integer labels `1..n` (a networkx graph built by `to_networkx`): the identity -/
theorem relabelInts_id (n : Nat) (edges : List (Nat × Nat)) (h : ∀ e ∈ edges, (1 ≤ e.1 ∧ e.1 ≤ n) ∧ 1 ≤ e.2 ∧ e.2 ≤ n) :
    relabelInts (consecutive 1 n) (edges.map (fun e => ((e.1 : Int), (e.2 : Int)))) = (n, edges) := by
  have e : ∀ x : Int, 1 + (x - 1) = x := fun x => by omega
  simpa only [e] using relabelInts_consecutive 1 n edges h

theorem readNx_simple_self {G : SimpleG} (h : SimpleG.Inv G) :
    ∃ G', readNx .simple (G.n, G.edges) = .ok (.simple G') ∧ SimpleG.Same G G' := by
  obtain ⟨G', h1, h2, h3, _, _, h6⟩ := SimpleG.fromNx_toNx h
  exact ⟨G', by simp only [readNx, simpleOfNx]; rw [show SimpleG.ofEdges G.n G.edges = .ok G' from h1]; rfl,
    SimpleG.same_of_inv h h2 h3 h6⟩

theorem readNx_directed_self (ty : GType) (hty : ty = .digraph ∨ ty = .dag) {G : DiG} (h : DiG.Inv G)
    (hd : ty = .dag → G.stillDag = true) :
    ∃ G', readNx ty (G.n, G.edges) = .ok (.di G') ∧ DiG.Same G G' := by
  obtain ⟨G', h1, h2, h3, _, _, _, h7, h8⟩ := DiG.fromNx_toNx h
  have h1' : DiG.ofEdges G.n G.edges = .ok G' := h1
  refine ⟨G', ?_, DiG.same_of_inv h h2 h3 h8⟩
  rcases hty with rfl | rfl
  · simp only [readNx, diOfNx, h1']; rfl
  · have : G'.stillDag = true := by rw [h7]; exact hd rfl
    simp only [readNx, diOfNx, h1', this, if_true]

/-- the decimal string labels `"1", …, "n"` pydot returns for a written graph -/
def decLabels (n : Nat) : List Str := (List.range n).map (fun i => natStr (i + 1))

/-! ### bipartite graphs through networkx: no relabelling by sorted label, each side is numbered
in node order -/

theorem idxOf_range_map (n k i : Nat) (hi : i < n) : ((List.range n).map (· + k)).idxOf (i + k) = i :=
  idxOf_map_range (· + k) (fun _ _ h _ => by omega) hi

theorem filter_const_true {α} (l : List α) : l.filter (fun _ => true) = l :=
  List.filter_eq_self.2 fun _ _ => rfl

theorem filter_const_false {α} (l : List α) : l.filter (fun _ => false) = [] :=
  List.filter_eq_nil_iff.2 fun _ _ => Bool.false_ne_true

theorem bipToNx_left (G : BipG) :
    (((bipToNx G).1.filter (fun p => p.2 == some false)).map (·.1)) = (List.range G.l).map (· + 1) := by
  simp [bipToNx, List.filter_append, List.filter_map, Function.comp_def, filter_const_true, filter_const_false]

theorem bipToNx_right (G : BipG) :
    (((bipToNx G).1.filter (fun p => p.2 == some true)).map (·.1)) = (List.range G.r).map (· + (G.l + 1)) := by
  simp [bipToNx, List.filter_append, List.filter_map, Function.comp_def, filter_const_true, filter_const_false]
  intro a _; omega

/-- the loop of `BipartiteGraph.from_networkx` over edges that go from a left node to a right node: one `add_edge`
call per edge, between the ranks of its ends -/
theorem bipOfNx_fold {α} [BEq α] [LawfulBEq α] (L R : List α) (es : List (α × α))
    (hE : ∀ e ∈ es, e.1 ∈ L ∧ e.2 ∈ R) (g : BipG) :
    es.foldlM (fun g e =>
        let ucolor := !(L.contains e.1)
        let vcolor := R.contains e.2
        if ucolor == vcolor then Except.error Err.valueError
        else if !ucolor then g.addEdge (rank L e.1 : Nat) (rank R e.2 : Nat)
        else g.addEdge (rank L e.2 : Nat) (rank R e.1 : Nat)) g =
      g.addEdgesFrom (es.map (fun e => (((rank L e.1 : Nat) : Int), ((rank R e.2 : Nat) : Int)))) := by
  induction es generalizing g with
  | nil => rfl
  | cons e es ih =>
    obtain ⟨h1, h2⟩ := hE e (List.mem_cons_self ..)
    simp only [List.map_cons, List.foldlM_cons, List.contains_iff_mem.2 h1, List.contains_iff_mem.2 h2, Bool.not_true,
      BipG.addEdgesFrom_cons]
    simp only [show ((false == true) = false) from rfl, Bool.false_eq_true, if_false, Bool.not_false, if_true]
    cases g.addEdge ((rank L e.1 : Nat) : Int) ((rank R e.2 : Nat) : Int) with
    | error x => rfl
    | ok g₁ => exact ih (fun x hx => hE x (List.mem_cons_of_mem _ hx)) g₁

theorem bipOfNx_ofEdges {α} [BEq α] [LawfulBEq α] {nodes : List (α × Option Bool)} {L R : List α} (es : List (α × α))
    (hnone : nodes.any (fun p => p.2.isNone) = false)
    (hL : (nodes.filter (fun p => p.2 == some false)).map (·.1) = L)
    (hR : (nodes.filter (fun p => p.2 == some true)).map (·.1) = R) (hE : ∀ e ∈ es, e.1 ∈ L ∧ e.2 ∈ R) :
    bipOfNx nodes es = BipG.ofEdges L.length R.length (es.map (fun e => (rank L e.1, rank R e.2))) := by
  unfold bipOfNx
  simp only [hnone, Bool.false_eq_true, if_false, hL, hR]
  rw [bipOfNx_fold L R es hE, BipG.ofEdges, List.map_map]
  rfl

/-- T-C14.4 (bipartite, gml and dot): `from_networkx(to_networkx(G))`, with the sides numbered in
node order as `BipartiteGraph.from_networkx` does, gives back `G` -/
theorem bipOfNx_bipToNx {G : BipG} (h : BipG.Inv G) :
    ∃ G', bipOfNx (bipToNx G).1 (bipToNx G).2 = .ok G' ∧ BipG.Same G G' := by
  have hnone : (bipToNx G).1.any (fun p => p.2.isNone) = false := by
    simp [bipToNx]
  have hr : ∀ e ∈ G.edges, (1 ≤ e.1 ∧ e.1 ≤ G.l) ∧ 1 ≤ e.2 ∧ e.2 ≤ G.r := fun e he => by
    have := h.edges_range (u := e.1) (v := e.2) he; omega
  have hE : ∀ e ∈ G.edges.map (fun e => (e.1, e.2 + G.l)),
      e.1 ∈ (List.range G.l).map (· + 1) ∧ e.2 ∈ (List.range G.r).map (· + (G.l + 1)) := by
    intro x hx
    obtain ⟨e, he, rfl⟩ := List.mem_map.1 hx
    have := hr e he
    exact ⟨List.mem_map.2 ⟨e.1 - 1, List.mem_range.2 (by omega), by omega⟩,
      List.mem_map.2 ⟨e.2 - 1, List.mem_range.2 (by omega), by simp only; omega⟩⟩
  have hrank : (G.edges.map (fun e => (e.1, e.2 + G.l))).map (fun e =>
      (((rank ((List.range G.l).map (· + 1)) e.1 : Nat) : Int),
        ((rank ((List.range G.r).map (· + (G.l + 1))) e.2 : Nat) : Int))) =
      G.edges.map (fun e => ((e.1 : Int), (e.2 : Int))) := by
    rw [List.map_map]
    refine List.map_congr_left (fun e he => ?_)
    have := hr e he
    have h1 := idxOf_range_map G.l 1 (e.1 - 1) (by omega)
    have h2 := idxOf_range_map G.r (G.l + 1) (e.2 - 1) (by omega)
    rw [show e.1 - 1 + 1 = e.1 by omega] at h1
    rw [show e.2 - 1 + (G.l + 1) = e.2 + G.l by omega] at h2
    simp only [Function.comp, rank, h1, h2]
    exact Prod.ext (by simp only; omega) (by simp only; omega)
  obtain ⟨G', hG', hS⟩ := BipG.rebuild h (fun _ => h.mem_edges)
  refine ⟨G', ?_, hS⟩
  unfold bipOfNx
  rw [hnone]
  simp only [Bool.false_eq_true, if_false, bipToNx_left, bipToNx_right, List.length_map, List.length_range]
  simp only [bipToNx]
  rw [bipOfNx_fold _ _ _ hE, hrank]
  exact hG'

/-! ### dot: all-digit node names are turned into integers before the relabelling -/

theorem dedupAux_nodup {α} [BEq α] [LawfulBEq α] (seen l : List α) (hn : l.Nodup) (hd : ∀ x ∈ l, x ∉ seen) :
    dedupAux seen l = l := by
  induction l generalizing seen with
  | nil => rfl
  | cons x xs ih =>
    have hx : seen.contains x = false := by
      rw [Bool.eq_false_iff, ne_eq, List.contains_iff_mem]; exact hd x (List.mem_cons_self ..)
    have hnx := List.nodup_cons.1 hn
    simp only [dedupAux, hx, Bool.false_eq_true, if_false]
    rw [ih (x :: seen) hnx.2 (fun y hy => by
      simp only [List.mem_cons, not_or]
      exact ⟨fun h => hnx.1 (h ▸ hy), hd y (List.mem_cons_of_mem _ hy)⟩)]

/-- T-C14.4c: with the digit-string → int conversion of the dot branch, the names `"1", …, "n"`
pydot returns for a written graph are renumbered by the identity, for EVERY `n` -/
theorem relabelDot_decLabels (n : Nat) (edges : List (Nat × Nat))
    (h : ∀ e ∈ edges, (1 ≤ e.1 ∧ e.1 ≤ n) ∧ 1 ≤ e.2 ∧ e.2 ≤ n) :
    relabelDot (decLabels n) (edges.map (fun e => (natStr e.1, natStr e.2))) = (n, edges) := by
  have hall : (decLabels n).all isDigitStr = true := by
    simp only [decLabels, List.all_eq_true, List.mem_map]
    rintro s ⟨i, _, rfl⟩
    exact isDigitStr_natStr _
  have hnodes : (decLabels n).map (fun u => (digitsVal u : Int)) = consecutive 1 n := by
    simp only [decLabels, consecutive, List.map_map]
    apply List.map_congr_left
    intro i _
    simp only [Function.comp, digitsVal_natStr]
    omega
  have hnd : (consecutive 1 n).Nodup :=
    List.nodup_iff_pairwise_ne.2 ((consecutive_sorted 1 n).imp (fun hab => Int.ne_of_lt hab))
  have hedges : (edges.map (fun e => (natStr e.1, natStr e.2))).map
      (fun e => ((digitsVal e.1 : Int), (digitsVal e.2 : Int))) = edges.map (fun e => ((e.1 : Int), (e.2 : Int))) := by
    rw [List.map_map]
    apply List.map_congr_left
    intro e _
    simp only [Function.comp, digitsVal_natStr]
  unfold relabelDot
  rw [hall, if_pos rfl, hnodes, hedges, dedup, dedupAux_nodup [] _ hnd (by simp)]
  exact relabelInts_id n edges h

end Cnfgen.GraphFmt
