/-
The `--plant` option of `cnfgen randkcnf|randkxor`: the drawn assignment is total and consistent.
-/
import Lemmas.RandKXOR
namespace Cnfgen.Rand
open Cnfgen

theorem plantFrom_ran {A : Err → Prop} {S : Prop} (vs : List Int) :
    Ran A S vs.length (fun a => a.map Int.natAbs = vs.map Int.natAbs ∧ ∀ v ∈ vs, v ∈ a ∨ -v ∈ a)
      (plantFrom vs) := by
  induction vs with
  | nil => exact Ran.pure ⟨rfl, nofun⟩
  | cons v vs ih =>
    unfold plantFrom
    refine (choiceFrom_ran (by simp) 1).bind fun s hs => ih.map fun rest ⟨e1, e2⟩ => ?_
    have hs' : s = -1 ∨ s = 1 := by simpa using hs
    refine ⟨?_, fun w hw => ?_⟩
    · rcases hs' with rfl | rfl <;> simp [e1]
    · rcases List.mem_cons.1 hw with rfl | hw
      · rcases hs' with rfl | rfl
        · right; simp
        · left; simp
      · rcases e2 w hw with h' | h'
        · left; simp [h']
        · right; simp [h']

theorem consistent_of_natAbs_nodup {a : List Int} (hn : (a.map Int.natAbs).Nodup) (hz : ∀ l ∈ a, l ≠ 0) :
    Consistent a := by
  intro l hl hneg
  have := List.inj_on_of_nodup_map hn hl hneg (by simp)
  have := hz l hl
  omega

theorem plantAssignment_ok {n : Nat} {ds ds' : List Draw} {a : List Int} (hL : Legal ds)
    (h : plantAssignment n ds = .ok (a, ds')) : TotalOn n a ∧ Consistent a ∧ Legal ds' := by
  obtain ⟨⟨e1, e2⟩, hL', _⟩ := (plantFrom_ran (A := fun _ => False) (S := True) (vars n)).ok hL h
  refine ⟨fun v h1 h2 => e2 v (mem_vars.2 ⟨h1, h2⟩), ?_, hL'⟩
  have hpos := fun v (hv : v ∈ vars n) => (mem_vars.1 hv).1
  apply consistent_of_natAbs_nodup
  · rw [e1]
    refine (vars_nodup n).map_on ?_
    intro x hx y hy hxy
    have := hpos x hx; have := hpos y hy; omega
  · intro l hl h0
    have : l.natAbs ∈ a.map Int.natAbs := List.mem_map_of_mem hl
    rw [e1, List.mem_map] at this
    obtain ⟨v, hv, hvl⟩ := this
    have := hpos v hv
    omega

theorem cliRandKCNF_eq (plant : Bool) (k n m : Nat) :
    cliRandKCNF plant k n m =
      if plant then plantAssignment n >>= fun a => randomKCNF (fun _ => []) k n m none [a]
      else randomKCNF (fun _ => []) k n m none [] := by
  cases plant <;> rfl

theorem cliRandKXORSys_eq (plant : Bool) (k n m : Nat) :
    cliRandKXORSys plant k n m =
      if plant then plantAssignment n >>= fun a => randomKXORSys (fun _ => []) k n m none [a]
      else randomKXORSys (fun _ => []) k n m none [] := by
  cases plant <;> rfl

end Cnfgen.Rand
