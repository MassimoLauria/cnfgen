/-
Lemmas about the pebbling formula model (`Fam/Pebbling.lean`): well-formedness, variable count,
exact axioms, unsatisfiability on every DAG in topological order with at least one vertex.
-/
import CnfgenModel.Fam.Pebbling
import Lemmas.FamC03aBasic
import Lemmas.VarsBlock
namespace Cnfgen.Fam.Pebbling
open Cnfgen.FamC03a

theorem mem_verts {n v : Nat} : v ∈ verts n ↔ 1 ≤ v ∧ v ≤ n := mem_rangeN_one (n := n)

/-- the facts about a directed graph object that the pebbling theorems use: it is a DAG whose
vertex numbering is a topological order, and its predecessor / successor lists stay inside
`1..n`.  (Every `DirectedGraph` built by `add_edge` with `is_dag()` true satisfies this; that is
C16's invariant, assumed here as a hypothesis.) -/
structure TopoDAG (D : DiG) : Prop where
  pred_lt : ∀ v, 1 ≤ v → v ≤ D.n → ∀ p ∈ D.preds v, 1 ≤ p ∧ p < v
  succ_gt : ∀ v, 1 ≤ v → v ≤ D.n → ∀ s ∈ D.succs v, v < s ∧ s ≤ D.n

/-- the last vertex of the topological order is a sink -/
theorem TopoDAG.succs_last {D : DiG} (h : TopoDAG D) (hn : 1 ≤ D.n) : D.succs D.n = [] :=
  List.eq_nil_iff_forall_not_mem.2 fun s hs => by
    have := h.succ_gt D.n hn (Nat.le_refl _) s hs
    omega

/-- identifier of `x(v)` -/
def xvar (n v : Nat) : Nat := Vars.blockId 1 [n] [v]

theorem xvar_eq (n v : Nat) (h : 1 ≤ v) : xvar n v = v := Vars.blockId_one n v h

theorem xvar_pos (n v : Nat) : 1 ≤ xvar n v := Vars.le_blockId 1 _ _

theorem x_eq (n v : Nat) : x n v = (xvar n v : Int) := rfl

/-- the documented axioms: a vertex all of whose predecessors are pebbled is pebbled (sources:
no predecessor), and no sink is pebbled -/
def PebSpec (D : DiG) (pebbled : Nat → Prop) : Prop :=
  ∀ v, 1 ≤ v → v ≤ D.n →
    ((∀ p ∈ D.preds v, pebbled p) → pebbled v) ∧ (D.succs v = [] → ¬ pebbled v)

theorem propClause_holds (D : DiG) (α : Assign) (v : Nat) :
    clauseHolds α ((D.preds v).map (fun p => - x D.n p) ++ [x D.n v]) = true ↔
      ((∀ p ∈ D.preds v, α (xvar D.n p) = true) → α (xvar D.n v) = true) := by
  simp only [x_eq]
  rw [clauseHolds_concat_pos α _ (xvar_pos _ _), clauseHolds_map_neg_false]

theorem sinkClause_holds (D : DiG) (α : Assign) (v : Nat) :
    clauseHolds α [- x D.n v] = true ↔ ¬ (α (xvar D.n v) = true) := by
  rw [clauseHolds_cons, clauseHolds_nil, Bool.or_false, x_eq, litHolds_neg_natCast]
  cases α (xvar D.n v) <;> simp

theorem peb_holds_iff (D : DiG) (α : Assign) :
    (peb D).holds α = true ↔ PebSpec D (fun v => α (xvar D.n v) = true) := by
  simp only [Formula.holds, peb, List.all_eq_true, List.forall_mem_flatMap, mem_verts, and_imp, List.forall_mem_cons,
    forall_mem_ite_nil, List.not_mem_nil, false_imp_iff, implies_true, and_true, Con.holds, propClause_holds, sinkClause_holds, beq_iff_eq,
    List.length_eq_zero_iff, PebSpec]

theorem peb_nvars (D : DiG) : (peb D).nvars = D.n := rfl

theorem peb_wf (D : DiG) (h : TopoDAG D) : (peb D).WF := by
  have hx : ∀ u, 1 ≤ u → u ≤ D.n → 1 ≤ xvar D.n u ∧ xvar D.n u ≤ D.n := fun u h1 h2 => by
    rw [xvar_eq _ _ h1]; exact ⟨h1, h2⟩
  refine G2.wf_of_consIn (lo := 1) (.flatMap fun v hv => ?_)
  have hv := mem_verts.1 hv
  have rv := hx v hv.1 hv.2
  refine .cons (.append (.map fun p hp => ?_) (.pos rv.1 rv .nil)) (.ite (fun _ => .cons (.neg rv.1 rv .nil) .nil) fun _ => .nil)
  have := h.pred_lt v hv.1 hv.2 p hp
  have r := hx p this.1 (by omega)
  exact .neg r.1 r .nil

theorem all_pebbled (D : DiG) (h : TopoDAG D) (pebbled : Nat → Prop) (hs : PebSpec D pebbled) :
    ∀ v, 1 ≤ v → v ≤ D.n → pebbled v := by
  intro v
  induction v using Nat.strongRecOn with
  | _ v ih =>
    intro hv1 hv2
    refine (hs v hv1 hv2).1 (fun p hp => ?_)
    have := h.pred_lt v hv1 hv2 p hp
    exact ih p this.2 this.1 (by omega)

theorem pebSpec_false (D : DiG) (h : TopoDAG D) (hn : 1 ≤ D.n) (pebbled : Nat → Prop) :
    ¬ PebSpec D pebbled := by
  intro hs
  have hp := all_pebbled D h pebbled hs D.n hn (Nat.le_refl _)
  exact (hs D.n hn (Nat.le_refl _)).2 (h.succs_last hn) hp

theorem peb_unsat (D : DiG) (h : TopoDAG D) (hn : 1 ≤ D.n) : ¬ ∃ α, (peb D).holds α = true := by
  rintro ⟨α, hα⟩
  exact pebSpec_false D h hn _ ((peb_holds_iff D α).1 hα)

end Cnfgen.Fam.Pebbling
