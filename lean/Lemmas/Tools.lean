/-
Helper lemmas for the end-to-end theorems about the two small tools (Props/C18/Tools.lean,
Props/C09/Tools.lean, Props/C17/Tools.lean): what `int()` can return; the pieces of the two `run` functions; how a parse
ends (`parse_ends`: an invariant of the namespace, and the sub-command it stops at); the parse of a command line that
starts with an exact option string.
-/
import CnfgenModel.Cli.Tools
import Lemmas.Ends
namespace Cnfgen.ToolsL
open Cnfgen Cnfgen.IO Cnfgen.Cli.ToolArgs Cnfgen.Cli.Tools

/-! ### `int(token)` returns at most `maxStrDigits` digits -/

theorem digit?_le {c : Char} {d : Nat} (h : digit? c = some d) : d ≤ 9 := by
  unfold digit? at h
  split at h
  · cases h; omega
  · cases h

theorem scanDigits_bound : ∀ (s : IO.Str) (acc nd : Nat) (prev : Bool) (v nd' : Nat),
    scanDigits acc nd prev s = some (v, nd') → acc < 10 ^ nd → v < 10 ^ nd'
  | [], acc, nd, prev, v, nd', h, ha => by
    unfold scanDigits at h
    split at h
    · cases h; exact ha
    · cases h
  | c :: cs, acc, nd, prev, v, nd', h, ha => by
    unfold scanDigits at h
    split at h
    · split at h
      · exact scanDigits_bound cs acc nd false v nd' h ha
      · cases h
    · split at h
      · rename_i d hd
        have hd9 := digit?_le hd
        apply scanDigits_bound cs (acc * 10 + d) (nd + 1) true v nd' h
        rw [Nat.pow_succ]; omega
      · cases h

theorem pyInt_bound {s : IO.Str} {i : Int} (h : pyInt? s = some i) : i.natAbs < 10 ^ maxStrDigits := by
  unfold pyInt? at h
  simp only at h
  split at h
  · rename_i v nd hs
    split at h
    · cases h
    · rename_i hnd
      have hv : v < 10 ^ nd := scanDigits_bound _ 0 0 false v nd hs (by simp)
      have hle : 10 ^ nd ≤ 10 ^ maxStrDigits := Nat.pow_le_pow_right (by decide) (by omega)
      cases h
      split <;> simp <;> omega
  · cases h

theorem classify_int_bound {t : IO.Str} {i : Int} (h : IO.classify t = .int i) : i.natAbs < 10 ^ maxStrDigits := by
  unfold IO.classify at h
  split at h
  · rename_i j hj; cases h; exact pyInt_bound hj
  · split at h <;> cases h

theorem lex_int_bound (u : Bool) (s : IO.Str) (r : Row) (hr : r ∈ lex u s) (i : Int) (hi : Tok.int i ∈ r) :
    i.natAbs < 10 ^ maxStrDigits := by
  simp only [lex, List.mem_map] at hr
  obtain ⟨l, _, rfl⟩ := hr
  simp only [lexLine, List.mem_map] at hi
  obtain ⟨t, _, ht⟩ := hi
  exact classify_int_bound ht

theorem errOutcome_cases (pfx : String) (e : Err) :
    errOutcome pfx e = .cliError .reader pfx ∨ (e ≠ .valueError ∧ errOutcome pfx e = .escaped e.name) := by
  unfold errOutcome
  by_cases h : e = .valueError
  · left; simp [h]
  · right; simp [h]

theorem errOutcome_valueError (pfx : String) : errOutcome pfx .valueError = .cliError .reader pfx := by
  simp [errOutcome]

theorem writeOut_eq (st : Args) (F : CNF) (hdr : Shuffle.Header) :
    writeOut st F hdr =
      .ok (destOf st.output) (renderDimacsText F (if st.verbose then some (toIOHeader hdr) else none) none) := rfl

theorem toolArg_eq (b : Bool) : toolArg b = (if b then Shuffle.Arg.fixed else Shuffle.Arg.shuffle) := rfl

theorem run_all_fixed (F : CNF) (ds : List Shuffle.Draw) :
    Shuffle.run F .fixed .fixed .fixed ds =
      (Shuffle.run F .fixed .fixed .fixed []).map (fun p => (p.1, ds)) := by
  simp [Shuffle.run, Shuffle.resolveFlips, Shuffle.resolveVperm, Shuffle.resolveCperm]

theorem classifyAll_cons (s : Spec) (t : String) (ts : List String) (h : t ≠ "--") :
    classifyAll s (t :: ts) =
      (match classify s t, classifyAll s ts with
       | some c, some r => some ((t, c) :: r)
       | _, _ => none) := by
  rw [classifyAll, if_neg h]
  cases Cli.ToolArgs.classify s t <;> cases classifyAll s ts <;> rfl

def SubOK {σ : Type} (s : Spec) : Stop σ → Prop
  | .sub n _ _ _ => ∃ ch, s.subs = some ch ∧ ch.contains n = true
  | _ => True

theorem takeSub_ends {σ : Type} (s : Spec) (ch : List String) (hs : s.subs = some ch) (n : String) (r : List String)
    (st : σ) (ex : Bool) (Q : σ × Bool → Prop) : Cli.Ends (SubOK s) Q (takeSub ch n r st ex) := by
  unfold takeSub
  split
  · exact ⟨ch, hs, ‹_›⟩
  · trivial

section inv
variable {σ : Type} (s : Spec) (act : σ → Opt → ArgV → Option σ) (P : σ → Prop)
  (hact : ∀ st o a st', act st o a = some st' → P st → P st')
include hact

theorem runActs_ends : ∀ (acts : List (Opt × ArgV)) (st : σ), P st → Cli.Ends (SubOK s) P (runActs act acts st)
  | [], _, hp => hp
  | (o, a) :: rest, st, hp => by
    unfold runActs
    split
    · trivial
    · split
      · trivial
      · rename_i st1 h1
        exact runActs_ends rest st1 (hact st o a st1 h1 hp)

theorem scan_ends : ∀ (fuel : Nat) (toks : List (String × TokC)) (st : σ) (ex : Bool), P st →
    Cli.Ends (SubOK s) (fun p => P p.1) (scan s act fuel toks st ex)
  | _, [], st, ex, hp => by unfold scan; exact hp
  | 0, _ :: _, st, ex, hp => by unfold scan; exact hp
  | fuel + 1, (t, c) :: rest, st, ex, hp => by
    unfold scan
    cases c with
    | arg =>
      dsimp only
      split
      · exact takeSub_ends s _ ‹_› ..
      · exact scan_ends fuel rest st true hp
    | dashdash =>
      dsimp only
      split
      · exact takeSub_ends s _ ‹_› ..
      · exact hp
    | opt o ostr e =>
      cases o with
      | none => exact scan_ends fuel rest st true hp
      | some o =>
        dsimp only
        split
        · trivial
        · have hr := runActs_ends s act P hact ‹_› st hp
          split
          · rename_i hx; rw [hx] at hr; exact hr
          · rename_i st1 h1; rw [h1] at hr; exact scan_ends fuel _ st1 ex hr

theorem parse_ends (argv : List String) (st : σ) (hp : P st) : Cli.Ends (SubOK s) P (parse s act argv st) := by
  unfold parse
  split
  · trivial
  · rename_i toks _
    have hr := scan_ends s act P hact (toks.length + 1) toks st false hp
    split
    · rename_i hx; rw [hx] at hr; exact hr
    · rename_i h1
      rw [h1] at hr
      split
      · trivial
      · exact hr

end inv

/-- the input file named on the command line could be opened: it exists, or an `-o` created it before -/
def InputOpened (env : Env) (st : Args) : Prop :=
  ∀ p, st.input = .file p → (st.opened.contains p = true ∨ (env.file p).isSome = true)

theorem act_inputOpened (env : Env) (st : Args) (o : Opt) (a : ArgV) (st' : Args)
    (h : act env st o a = some st') (hp : InputOpened env st) : InputOpened env st' := by
  unfold act at h
  -- the chain of `if`s is entered link by link (`split` on the whole chain is far dearer)
  by_cases ho : o.dest = "output"
  · -- `-o`: `input` stays, `opened` can only grow
    rw [if_pos ho] at h
    cases a with
    | flag => cases h
    | nil => cases h
    | val v =>
      dsimp only at h
      unfold openWrite at h
      split at h
      · cases h; exact hp
      · split at h
        · cases h
          intro p hpf
          exact (hp p hpf).imp_left fun h1 => by simp only [List.contains_cons, h1, Bool.or_true]
        · cases h
  rw [if_neg ho] at h
  by_cases hi : o.dest = "input"
  · -- `-i`: the new `input` has just been opened
    rw [if_pos hi] at h
    cases a with
    | flag => cases h
    | nil => cases h
    | val v =>
      dsimp only at h
      obtain ⟨i, hi, rfl⟩ := Option.map_eq_some_iff.1 h
      unfold openRead at hi
      split at hi
      · cases hi; intro p hpf; cases hpf
      · split at hi
        · rename_i hcond
          cases hi
          intro p hpf
          cases hpf
          simpa using hcond
        · cases hi
  -- the other options touch neither field
  rw [if_neg hi] at h
  repeat' split at h
  all_goals first | (cases h; exact hp) | cases h

theorem parse_inputOpened (env : Env) (s : Spec) (argv : List String) (st : Args)
    (h : parse s (act env) argv {} = .ok st) : InputOpened env st :=
  (parse_ends s (act env) (InputOpened env) (act_inputOpened env) argv {} (by intro p hp; simp at hp)).ok h

theorem sub_name_mem {σ : Type} (s : Spec) (act : σ → Opt → ArgV → Option σ) (argv : List String) (st : σ)
    (n : String) (r : List String) (st' : σ) (ex : Bool) (h : parse s act argv st = .error (.sub n r st' ex))
    (ch : List String) (hs : s.subs = some ch) : n ∈ ch := by
  obtain ⟨ch', hs', hc⟩ := (parse_ends s act (fun _ => True) (fun _ _ _ _ _ _ => trivial) argv st trivial).err h
  rw [hs] at hs'
  cases hs'
  simpa using hc

theorem classify_exact (s : Spec) (t : String) (o : Opt) (c : Char) (r : List Char) (ht : t.toList = c :: r)
    (hc : c = '-') (hf : s.find t.toList = some o) : Cli.ToolArgs.classify s t = some (.opt (some o) t.toList none) := by
  unfold Cli.ToolArgs.classify
  simp only [ht] at hf ⊢
  subst hc
  simp [hf]

theorem classify_plain (s : Spec) (t : String) (h : t.toList.head? ≠ some '-') :
    Cli.ToolArgs.classify s t = some .arg := by
  unfold Cli.ToolArgs.classify
  cases ht : t.toList with
  | nil => rfl
  | cons c r =>
    rw [ht] at h
    have : c ≠ '-' := by simpa using h
    simp [this]

theorem chain_noarg (s : Spec) (f : Nat) (o : Opt) (ostr : List Char) (next : Option String) (h : o.kind ≠ .one) :
    chain s (f + 1) o ostr none next = some ([(o, .flag)], false) := by
  simp [chain, h]

theorem chain_onearg (s : Spec) (f : Nat) (o : Opt) (ostr : List Char) (a : String) (h : o.kind = .one) :
    chain s (f + 1) o ostr none (some a) = some ([(o, argOf a.toList)], true) := by
  simp [chain, h]

theorem argOf_plain (a : String) (h : a.toList.head? ≠ some '-') : argOf a.toList = .val a := by
  unfold argOf
  have : a.toList ≠ ['-', '-'] := by intro h'; rw [h'] at h; simp at h
  simp [this]

theorem scan_cons {σ : Type} (s : Spec) (act : σ → Opt → ArgV → Option σ) (fuel : Nat) (t : String) (c : TokC)
    (rest : List (String × TokC)) (st : σ) (ex : Bool) :
    scan s act (fuel + 1) ((t, c) :: rest) st ex =
      match c with
      | .arg =>
        (match s.subs with
         | some ch => takeSub ch t (rest.map (·.1)) st ex
         | none => scan s act fuel rest st true)
      | .dashdash =>
        (match s.subs, rest with
         | some ch, _ :: _ => takeSub ch t (rest.map (·.1)) st ex
         | _, _ => .ok (st, true))
      | .opt none _ _ => scan s act fuel rest st true
      | .opt (some o) ostr e =>
        match chain s (t.length + 2) o ostr e (nextArg rest) with
        | none => .error .error
        | some (acts, consumed) =>
          match runActs act acts st with
          | .error x => .error x
          | .ok st' => scan s act fuel (if consumed then rest.drop 1 else rest) st' ex := by
  cases c <;> first | rfl | (rename_i o _ _; cases o <;> rfl)

theorem scan_fuel {σ : Type} (s : Spec) (act : σ → Opt → ArgV → Option σ) :
    ∀ (f1 f2 : Nat) (toks : List (String × TokC)) (st : σ) (ex : Bool),
      toks.length ≤ f1 → toks.length ≤ f2 → scan s act f1 toks st ex = scan s act f2 toks st ex
  | _, _, [], st, ex, _, _ => by rw [scan, scan]
  | 0, _, _ :: _, _, _, h, _ => by simp at h
  | _ + 1, 0, _ :: _, _, _, _, h => by simp at h
  | f1 + 1, f2 + 1, (t, c) :: rest, st, ex, h1, h2 => by
    have l1 : rest.length ≤ f1 := by simp at h1; omega
    have l2 : rest.length ≤ f2 := by simp at h2; omega
    rw [scan_cons, scan_cons]
    cases c with
    | arg =>
      simp only
      cases s.subs with
      | some ch => rfl
      | none => exact scan_fuel s act f1 f2 rest st true l1 l2
    | dashdash => rfl
    | opt o ostr e =>
      cases o with
      | none => exact scan_fuel s act f1 f2 rest st true l1 l2
      | some o =>
        simp only
        generalize chain s (t.length + 2) o ostr e (nextArg rest) = ch
        cases ch with
        | none => rfl
        | some p =>
          obtain ⟨acts, consumed⟩ := p
          simp only
          cases runActs act acts st with
          | error x => rfl
          | ok st' =>
            simp only
            cases consumed
            · exact scan_fuel s act f1 f2 rest st' ex l1 l2
            · simp only [if_true]
              apply scan_fuel s act f1 f2 (rest.drop 1) st' ex <;> simp <;> omega

section head
variable {σ : Type} (s : Spec) (act : σ → Opt → ArgV → Option σ)

theorem parse_flag_head (t : String) (o : Opt) (c : Char) (r : List Char) (ht : t.toList = c :: r) (hc : c = '-')
    (hne : t ≠ "--") (hf : s.find t.toList = some o) (hk : o.kind = .flag) (argv : List String) (st : σ) :
    parse s act (t :: argv) st =
      match act st o .flag with
      | none => .error .error
      | some st' => parse s act argv st' := by
  unfold parse
  rw [classifyAll_cons s t argv hne, classify_exact s t o c r ht hc hf]
  cases hcl : classifyAll s argv with
  | none => cases act st o .flag <;> rfl
  | some toks =>
    simp only [List.length_cons]
    rw [scan_cons]
    simp only
    rw [chain_noarg s _ o _ _ (by rw [hk]; decide)]
    simp only [runActs, hk]
    cases act st o .flag with
    | none => rfl
    | some st' => simp only [reduceCtorEq, if_false, Bool.false_eq_true]

/-- `-h` / `--help` at the head: the help, whatever follows — unless a later token is an ambiguous abbreviation
(that error is raised while the tokens are classified, before any action) -/
theorem parse_help_head (t : String) (o : Opt) (c : Char) (r : List Char) (ht : t.toList = c :: r) (hc : c = '-')
    (hne : t ≠ "--") (hf : s.find t.toList = some o) (hk : o.kind = .help) (argv : List String) (st : σ) :
    parse s act (t :: argv) st = if (classifyAll s argv).isSome then .error .help else .error .error := by
  unfold parse
  rw [classifyAll_cons s t argv hne, classify_exact s t o c r ht hc hf]
  cases hcl : classifyAll s argv with
  | none => rfl
  | some toks =>
    simp only [List.length_cons]
    rw [scan_cons]
    simp only
    rw [chain_noarg s _ o _ _ (by rw [hk]; decide)]
    simp [runActs, hk]

theorem parse_one_head (t a : String) (o : Opt) (c : Char) (r : List Char) (ht : t.toList = c :: r) (hc : c = '-')
    (hne : t ≠ "--") (hf : s.find t.toList = some o) (hk : o.kind = .one) (ha : a.toList.head? ≠ some '-')
    (argv : List String) (st : σ) :
    parse s act (t :: a :: argv) st =
      match act st o (.val a) with
      | none => .error .error
      | some st' => parse s act argv st' := by
  have hane : a ≠ "--" := by intro h; rw [h] at ha; simp at ha
  unfold parse
  rw [classifyAll_cons s t _ hne, classify_exact s t o c r ht hc hf, classifyAll_cons s a _ hane,
    classify_plain s a ha]
  cases hcl : classifyAll s argv with
  | none => cases act st o (.val a) <;> rfl
  | some toks =>
    simp only [List.length_cons]
    rw [scan_cons]
    simp only
    simp only [nextArg]
    rw [chain_onearg s _ o _ a hk, argOf_plain a ha]
    simp only [runActs, hk, reduceCtorEq, if_false]
    cases act st o (.val a) with
    | none => rfl
    | some st' =>
      simp only [if_true, List.drop_one, List.tail_cons]
      rw [scan_fuel s act (toks.length + 1 + 1) (toks.length + 1) toks st' false (by omega) (by omega)]

end head

/-- A test vector `x = f ("…" ++ "…").toList` is checked on lists of characters: a string literal is `String.ofList` of its
characters for the unifier and the kernel, without evaluation, whereas evaluating `toList`, `++` or `=` on strings costs the
kernel time quadratic in their length. -/
theorem eq_of_chars {α : Type} (f : List Char → α) {x : α} {a b : List Char} (h : x = f (a ++ b)) :
    x = f (String.ofList a ++ String.ofList b).toList := by
  rw [← String.ofList_append, String.toList_ofList]; exact h

end Cnfgen.ToolsL
