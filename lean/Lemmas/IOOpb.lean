/-
Lemmas about the OPB writer (token level) and the strict specification-side reader `readOpb`.
-/
import Lemmas.IODimacs
import Lemmas.IOComments
namespace Cnfgen.IO

/-- a constraint as `BaseOPB` stores it after `normalize_opb` / `_check_and_update`:
relation `>=` or `==`, literals non-zero and within `n`.  Coefficients are arbitrary integers. -/
def GoodPBC (n : Nat) (c : PBC) : Prop :=
  (c.op = .ge ∨ c.op = .eq) ∧ ∀ t ∈ c.terms, t.2 ≠ 0 ∧ t.2.natAbs ≤ n

theorem ite_neg_natAbs (l : Int) : (if decide (l < 0) = true then -((l.natAbs : Nat) : Int) else ((l.natAbs : Nat) : Int)) = l := by
  split <;> rename_i h <;> simp at h <;> omega

theorem readConstraint_terms (n : Nat) (o : Op) (d : Int) (ho : o = .ge ∨ o = .eq) :
    ∀ (ts : List (Int × Int)), (∀ t ∈ ts, t.2 ≠ 0 ∧ t.2.natAbs ≤ n) →
      readConstraint n (opbConstraintRow ⟨ts, o, d⟩) = .ok ⟨ts, o, d⟩
  | [], _ => by
    rcases ho with rfl | rfl
    · simp [opbConstraintRow, opbOpText, readConstraint]
    · simp [opbConstraintRow, opbOpText, readConstraint]
  | t :: ts, h => by
    have ht := h t (by simp)
    have ih := readConstraint_terms n o d ho ts (fun x hx => h x (by simp [hx]))
    have h1 : 1 ≤ t.2.natAbs := by have := ht.1; omega
    have hrow : opbConstraintRow ⟨t :: ts, o, d⟩ =
        Tok.int t.1 :: Tok.xvar (decide (t.2 < 0)) t.2.natAbs :: opbConstraintRow ⟨ts, o, d⟩ := by
      simp [opbConstraintRow, opbLitTok]
    rw [hrow, readConstraint, ih]
    simp only [h1, ht.2, and_self, if_true, ite_neg_natAbs]

theorem readConstraint_row (n : Nat) (c : PBC) (h : GoodPBC n c) :
    readConstraint n (opbConstraintRow c) = .ok c := by
  obtain ⟨ts, o, d⟩ := c
  exact readConstraint_terms n o d h.1 ts h.2

theorem mapM_readConstraint (n : Nat) (cs : List PBC) (h : ∀ c ∈ cs, GoodPBC n c) :
    (cs.map opbConstraintRow).mapM (readConstraint n) = .ok cs :=
  (mapM_map_ok opbConstraintRow (readConstraint n) id cs fun c hc => readConstraint_row n c (h c hc)).trans
    (congrArg _ cs.map_id)

theorem opbConstraintRow_notComment (c : PBC) : opbIsComment (opbConstraintRow c) = false := by
  obtain ⟨ts, o, d⟩ := c
  cases ts with
  | nil =>
    by_cases h : o = .ge
    · subst h; simp [opbConstraintRow, opbOpText, opbIsComment]
    · simp [opbConstraintRow, opbOpText, h, opbIsComment]
  | cons t ts => simp [opbConstraintRow, opbIsComment]

theorem opbClauseRow_eq (c : Clause) : opbClauseRow c = opbConstraintRow (PBC.ofClause c) := by
  simp [opbClauseRow, opbConstraintRow, PBC.ofClause, List.flatMap_map, opbOpText]

theorem renderOpbCNF_eq (u : Bool) (F : CNF) (hdr : Option Header) (names : Option (List Str)) :
    renderOpbCNF u F hdr names = renderOpb u ⟨F.nvars, F.clauses.map PBC.ofClause⟩ hdr names := by
  simp [renderOpbCNF, renderOpb, opbClauseRow_eq]

end Cnfgen.IO
