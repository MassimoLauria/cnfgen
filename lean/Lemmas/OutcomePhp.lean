/-
`php` end to end (Props/C18/Php.lean): the custom argparse action `PHPArgs` binds either the bipartite graph `B` or the
three numbers `degree`, `holes`, `pigeons` — TOGETHER.  That a successful parse holds the whole result of one `PHPArgs`
call is the `ran` half of `parseRaw_ends` (Lemmas/DispatchTotal.lean).
-/
import Lemmas.OutcomeG
namespace Cnfgen.Cli
open Cnfgen Cnfgen.Gen

/-- the `php` sub-command as the translator reads it today (`current_php_is_documented`, Props/C18/Php.lean, compares it
with the regenerated table on every run) -/
def phpS : CliSpec :=
  ⟨"PHPCmdHelper", "php", "formula",
    [⟨"pigeonholes", ["pigeonholes"], true, "PHPArgs", "", "*", [], false, .none, false, .none, false, false, [], "", [], ""⟩,
     ⟨"functional", ["--functional"], false, "store_true", "", "", [], false, .none, false, .none, false, false, [], "", [], ""⟩,
     ⟨"onto", ["--onto"], false, "store_true", "", "", [], false, .none, false, .none, false, false, [], "", [], ""⟩],
    [⟨(.and (.hasattr "B") (.isNotNone (.arg "B"))), "", "GraphPigeonholePrinciple", [(.arg "B")],
        [("functional", (.arg "functional")), ("onto", (.arg "onto")), ("formula_class", (.name "formula_class"))], []⟩,
     ⟨(.and (.not (.and (.hasattr "B") (.isNotNone (.arg "B")))) (.cmp "==" (.arg "holes") (.arg "degree"))), "",
        "PigeonholePrinciple", [(.arg "pigeons"), (.arg "holes")],
        [("functional", (.arg "functional")), ("onto", (.arg "onto")), ("formula_class", (.name "formula_class"))], []⟩,
     ⟨(.and (.not (.and (.hasattr "B") (.isNotNone (.arg "B")))) (.not (.cmp "==" (.arg "holes") (.arg "degree")))), "",
        "GraphPigeonholePrinciple",
        [(.opaque "bipartite_random_left_regular(args.pigeons, args.holes, args.degree)" ["pigeons", "holes", "degree"])],
        [("functional", (.arg "functional")), ("onto", (.arg "onto")), ("formula_class", (.name "formula_class"))], []⟩]⟩

/-- what `php`'s parser stores under a key: the graph; `True` for a flag that is given; one of the three numbers -/
def oph_sort (k : String) (v : Val) : Prop :=
  if k = "B" then ∃ toks, v = .graph "bipartite" toks
  else if k = "functional" ∨ k = "onto" then v = .bool true
  else (k = "degree" ∨ k = "holes" ∨ k = "pigeons") ∧ ∃ i, v = .int i

theorem oph_call_sort (bs : Ns) (h : PhpCall bs) : ∀ p ∈ bs, oph_sort p.1 p.2 := by
  rcases h with ⟨toks, rfl⟩ | ⟨d, hh, pp, rfl⟩ <;> simp [oph_sort]

theorem oph_phpS_special : phpS.special = true := by decide

theorem oph_phpS_opts (o : OptSpec) (ho : o ∈ phpS.opts) :
    (o.action = "PHPArgs" ∧ o.dest = "pigeonholes") ∨
    (o.action = "store_true" ∧ o.arity = .zero ∧ o.flagVal = .bool true ∧ o.defaultVal = .bool false ∧
      (o.dest = "functional" ∨ o.dest = "onto")) := by
  simp only [phpS, List.mem_cons, List.not_mem_nil, or_false] at ho
  rcases ho with rfl | rfl | rfl
  · exact Or.inl ⟨rfl, rfl⟩
  · exact Or.inr ⟨rfl, by decide, by decide, by decide, Or.inl rfl⟩
  · exact Or.inr ⟨rfl, by decide, by decide, by decide, Or.inr rfl⟩

theorem oph_acts_sort (o : OptSpec) (ho : o ∈ phpS.opts) : dtot_binds (fun _ p => oph_sort p.1 p.2) o := by
  intro toks b h p hp
  rcases oph_phpS_opts o ho with ⟨ha, _⟩ | ⟨ha, har, hfv, _, hdest⟩
  · unfold bindOne at h
    simp only [ha, beq_self_eq_true, if_true] at h
    exact oph_call_sort b ((phpArgs_ends toks).ok h) p hp
  · have h1 : o.action ≠ "PHPArgs" := by rw [ha]; decide
    have h2 : o.action ≠ "compose_two_parsers" := by rw [ha]; decide
    obtain ⟨hd, ht⟩ := dtot_bindOne_typed o h1 h2 toks b h p hp
    unfold typedBy at ht
    rw [har] at ht
    dsimp only at ht
    rw [← hd, ht, hfv]
    rcases hdest with hd' | hd' <;> simp [hd', oph_sort]

theorem oph_mainOpts : mainOpts phpS = phpS.opts := by decide

theorem oph_mainOK : dtot_mainOK phpS := by
  intro o ho
  simp only [phpS, List.mem_cons, List.not_mem_nil, or_false] at ho
  rcases ho with rfl | rfl | rfl <;> exact Or.inl ⟨by decide, by decide⟩

/-- for `php` the parser of the sub-command is the whole parser (nothing to expand) -/
theorem oph_parseArgs_raw (argv : List String) (b : Ns) (h : parseArgs phpS argv = .ok b) :
    parseRaw phpS argv = .ok b := by
  rwa [parseArgs_eq_raw phpS oph_mainOK fun o ho => ?_] at h
  rw [oph_mainOpts] at ho
  rcases oph_phpS_opts o ho with ⟨ha, _⟩ | ⟨ha, _⟩ <;> rw [ha] <;> decide

theorem oph_bindings (argv : List String) (b : Ns) (h : parseArgs phpS argv = .ok b) :
    (∀ k v, b.lookup k = some v → oph_sort k v) ∧ ∃ bs, PhpCall bs ∧ ∀ p ∈ bs, p ∈ b := by
  have hp := ((parseRaw_ends phpS oph_mainOK argv).ok (oph_parseArgs_raw argv b h)).1
  constructor
  · intro k v hl
    obtain ⟨o, _, hr⟩ := hp.all (fun o ho => oph_acts_sort o (oph_mainOpts ▸ ho)) _ (dtot_lookup_mem b k v hl)
    exact hr
  · have hpos : (⟨"pigeonholes", ["pigeonholes"], true, "PHPArgs", "", "*", [], false, .none, false, .none, false, false,
        [], "", [], ""⟩ : OptSpec) ∈ positionals phpS := by decide
    obtain ⟨toks, b0, hb, hs⟩ := hp.ran _ hpos
    exact ⟨b0, (phpArgs_ends toks).ok hb, hs⟩

theorem oph_defaults : defaults phpS = [("pigeonholes", .none), ("functional", .bool false), ("onto", .bool false)] := by
  decide

theorem oph_lookup_ns (b : Ns) (k : String) :
    (namespaceOf phpS b).lookup k = (match b.lookup k with | some v => some v | none => (defaults phpS).lookup k) := by
  unfold namespaceOf
  rw [List.lookup_append]
  cases b.lookup k <;> rfl

theorem oph_ns (argv : List String) (b : Ns) (h : parseArgs phpS argv = .ok b) :
    (∃ x, (namespaceOf phpS b).lookup "functional" = some (.bool x)) ∧
    (∃ y, (namespaceOf phpS b).lookup "onto" = some (.bool y)) ∧
    ((∃ toks, (namespaceOf phpS b).lookup "B" = some (.graph "bipartite" toks)) ∨
     ((namespaceOf phpS b).lookup "B" = none ∧ ∃ d hh p, (namespaceOf phpS b).lookup "degree" = some (.int d) ∧
        (namespaceOf phpS b).lookup "holes" = some (.int hh) ∧ (namespaceOf phpS b).lookup "pigeons" = some (.int p))) := by
  obtain ⟨T, bs, hcall, hsub⟩ := oph_bindings argv b h
  have flag : ∀ k, (k = "functional" ∨ k = "onto") → ∃ x, (namespaceOf phpS b).lookup k = some (.bool x) := by
    intro k hk
    rw [oph_lookup_ns]
    cases hl : b.lookup k with
    | some v =>
      have := T k v hl
      rcases hk with rfl | rfl <;> simp [oph_sort] at this <;> exact ⟨true, by rw [this]⟩
    | none => rcases hk with rfl | rfl <;> exact ⟨false, by rw [oph_defaults]; rfl⟩
  refine ⟨flag _ (Or.inl rfl), flag _ (Or.inr rfl), ?_⟩
  simp only [oph_lookup_ns]
  rcases hcall with ⟨toks, rfl⟩ | ⟨d, hh, pp, rfl⟩
  · obtain ⟨v, hv⟩ := dtot_lookup_some b "B" _ (hsub _ (List.mem_cons_self ..))
    obtain ⟨toks', rfl⟩ : ∃ t, v = .graph "bipartite" t := by simpa [oph_sort] using T _ v hv
    exact Or.inl ⟨toks', by rw [hv]⟩
  · cases hl : b.lookup "B" with
    | some v =>
      obtain ⟨toks', rfl⟩ : ∃ t, v = .graph "bipartite" t := by simpa [oph_sort] using T _ v hl
      exact Or.inl ⟨toks', rfl⟩
    | none =>
      have int3 : ∀ k w, (k, w) ∈ b → (∀ v, oph_sort k v → ∃ i, v = .int i) →
          ∃ i, (match b.lookup k with | some v => some v | none => (defaults phpS).lookup k) = some (.int i) := by
        intro k w hw hk
        obtain ⟨v, hv⟩ := dtot_lookup_some b k w hw
        obtain ⟨i, rfl⟩ := hk v (T k v hv)
        exact ⟨i, by rw [hv]⟩
      obtain ⟨d', hd'⟩ := int3 "degree" (.int d) (hsub _ (by simp)) (by simp [oph_sort])
      obtain ⟨h', hh'⟩ := int3 "holes" (.int hh) (hsub _ (by simp)) (by simp [oph_sort])
      obtain ⟨p', hp'⟩ := int3 "pigeons" (.int pp) (hsub _ (by simp)) (by simp [oph_sort])
      exact Or.inr ⟨by rw [oph_defaults]; rfl, d', h', p', hd', hh', hp'⟩

def phpT1 : CallTemplate :=
  ⟨(.and (.hasattr "B") (.isNotNone (.arg "B"))), "", "GraphPigeonholePrinciple", [(.arg "B")],
    [("functional", (.arg "functional")), ("onto", (.arg "onto")), ("formula_class", (.name "formula_class"))], []⟩
def phpT2 : CallTemplate :=
  ⟨(.and (.not (.and (.hasattr "B") (.isNotNone (.arg "B")))) (.cmp "==" (.arg "holes") (.arg "degree"))), "",
    "PigeonholePrinciple", [(.arg "pigeons"), (.arg "holes")],
    [("functional", (.arg "functional")), ("onto", (.arg "onto")), ("formula_class", (.name "formula_class"))], []⟩
def phpT3 : CallTemplate :=
  ⟨(.and (.not (.and (.hasattr "B") (.isNotNone (.arg "B")))) (.not (.cmp "==" (.arg "holes") (.arg "degree")))), "",
    "GraphPigeonholePrinciple",
    [(.opaque "bipartite_random_left_regular(args.pigeons, args.holes, args.degree)" ["pigeons", "holes", "degree"])],
    [("functional", (.arg "functional")), ("onto", (.arg "onto")), ("formula_class", (.name "formula_class"))], []⟩

theorem oph_templates : phpS.templates = [phpT1, phpT2, phpT3] := rfl

def phpKw (x y : Bool) : List (String × Val) :=
  [("functional", .bool x), ("onto", .bool y), ("formula_class", .param "formula_class")]

/-- the three paths of `PHPCmdHelper.build_formula`, on a namespace the parser produced -/
theorem oph_paths (argv : List String) (b : Ns) (h : parseArgs phpS argv = .ok b) :
    ∃ x y,
      (∃ toks, (namespaceOf phpS b).lookup "B" = some (.graph "bipartite" toks) ∧
        dispatchTemplate phpS argv = .ok (phpT1, namespaceOf phpS b) ∧
        instantiate (namespaceOf phpS b) phpT1 = .ok ⟨"GraphPigeonholePrinciple", [.graph "bipartite" toks], phpKw x y⟩) ∨
      (∃ pp hh, (namespaceOf phpS b).lookup "pigeons" = some (.int pp) ∧
        (namespaceOf phpS b).lookup "holes" = some (.int hh) ∧
        dispatchTemplate phpS argv = .ok (phpT2, namespaceOf phpS b) ∧
        instantiate (namespaceOf phpS b) phpT2 = .ok ⟨"PigeonholePrinciple", [.int pp, .int hh], phpKw x y⟩) ∨
      (dispatchTemplate phpS argv = .ok (phpT3, namespaceOf phpS b) ∧
        instantiate (namespaceOf phpS b) phpT3 = .ok ⟨"GraphPigeonholePrinciple",
          [.opaque "bipartite_random_left_regular(args.pigeons, args.holes, args.degree)"], phpKw x y⟩) := by
  obtain ⟨⟨x, hx⟩, ⟨y, hy⟩, hB⟩ := oph_ns argv b h
  refine ⟨x, y, ?_⟩
  have hdt := fun t => dispatchTemplate_parse_ok phpS (by decide) argv b t h
  have hkw : evalKw (namespaceOf phpS b)
      [("functional", (.arg "functional")), ("onto", (.arg "onto")), ("formula_class", (.name "formula_class"))] =
      some (phpKw x y) := by
    simp [evalKw, evalE, hx, hy, phpKw]
  rcases hB with ⟨toks, hb⟩ | ⟨hb, d, hh, pp, hd, hhh, hp⟩
  · left
    have hg : evalGuard (namespaceOf phpS b) phpT1.guard = some true := by
      simp [phpT1, evalGuard, evalE, hb, isNoneV, truthy]
    have hsel : selectTemplate (namespaceOf phpS b) phpS.templates = .ok phpT1 := by
      rw [oph_templates]
      simp only [selectTemplate, hg]
    refine ⟨toks, hb, hdt _ hsel, ?_⟩
    simp [instantiate, phpT1, evalPos, evalE, hb, hkw]
  · have hg1 : evalGuard (namespaceOf phpS b) phpT1.guard = some false := by
      simp [phpT1, evalGuard, evalE, hb, truthy]
    by_cases heq : hh = d
    · right; left
      have hg2 : evalGuard (namespaceOf phpS b) phpT2.guard = some true := by
        simp [phpT2, evalGuard, evalE, hb, hhh, hd, truthy, evalCmp, valEq, heq]
      have hsel : selectTemplate (namespaceOf phpS b) phpS.templates = .ok phpT2 := by
        rw [oph_templates]
        simp only [selectTemplate, hg1, hg2]
      refine ⟨pp, hh, hp, hhh, hdt _ hsel, ?_⟩
      simp [instantiate, phpT2, evalPos, evalE, hp, hhh, hkw]
    · right; right
      have hg2 : evalGuard (namespaceOf phpS b) phpT2.guard = some false := by
        simp [phpT2, evalGuard, evalE, hb, hhh, hd, truthy, evalCmp, valEq, heq]
      have hg3 : evalGuard (namespaceOf phpS b) phpT3.guard = some true := by
        simp [phpT3, evalGuard, evalE, hb, hhh, hd, truthy, evalCmp, valEq, heq]
      have hsel : selectTemplate (namespaceOf phpS b) phpS.templates = .ok phpT3 := by
        rw [oph_templates]
        simp only [selectTemplate, hg1, hg2, hg3]
      refine ⟨hdt _ hsel, ?_⟩
      simp [instantiate, phpT3, evalPos, evalE, hkw]

theorem oph_outcome (env : GraphEnv) (h : HelperSpec) (s : CliSpec) (hspec : specOf h = some s) (argv : List String)
    (t : CallTemplate) (ns : Ns) (c : Call) (h1 : dispatchTemplate s argv = .ok (t, ns)) (h2 : instantiate ns t = .ok c) :
    cliOutcomeG env h argv = (evalCallAny env ⟨1, 0, [[], []], []⟩ ns c).map Built.outcome := by
  unfold cliOutcomeG
  rw [hspec]
  dsimp only
  rw [h1]
  dsimp only
  rw [h2]

theorem oph_outcome_err (env : GraphEnv) (h : HelperSpec) (s : CliSpec) (hspec : specOf h = some s) (argv : List String)
    (h1 : dispatchTemplate s argv = .error .cliError) : cliOutcomeG env h argv = some .cliError := by
  unfold cliOutcomeG
  rw [hspec]
  dsimp only
  rw [h1]

theorem oph_eval_graph (env : GraphEnv) (ns : Ns) (toks : List String) (x y : Bool) :
    evalCallAny env ⟨1, 0, [[], []], []⟩ ns ⟨"GraphPigeonholePrinciple", [.graph "bipartite" toks], phpKw x y⟩ =
      some (withB (env.bip 0 toks) fun B => .ok (Fam.gphp B x y)) := by
  cases x <;> cases y <;> rfl

theorem oph_eval_numbers (env : GraphEnv) (ns : Ns) (pp hh : Int) (x y : Bool) :
    evalCallAny env ⟨1, 0, [[], []], []⟩ ns ⟨"PigeonholePrinciple", [.int pp, .int hh], phpKw x y⟩ =
      some (.result (Fam.php pp hh x y)) := by
  cases x <;> cases y <;> rfl

theorem oph_eval_random (env : GraphEnv) (ns : Ns) (src : String) (x y : Bool) :
    evalCallAny env ⟨1, 0, [[], []], []⟩ ns ⟨"GraphPigeonholePrinciple", [.opaque src], phpKw x y⟩ = none := by
  cases x <;> cases y <;> rfl

end Cnfgen.Cli
