/-
Boolean checkers for the graph hypotheses used by the C03 (ordering / pebbling) theorems, so that
they can be discharged by `decide` on concrete graph objects (non-vacuity examples).
-/
import Lemmas.FamPebbling
import Lemmas.FamStone
import Lemmas.FamOrdering
namespace Cnfgen.FamC03a
open Cnfgen.Fam

def topoDAGb (D : DiG) : Bool :=
  (Pebbling.verts D.n).all fun v =>
    (D.preds v).all (fun p => decide (1 ≤ p) && decide (p < v)) &&
    (D.succs v).all (fun s => decide (v < s) && decide (s ≤ D.n))

theorem topoDAG_of_b (D : DiG) (h : topoDAGb D = true) : Pebbling.TopoDAG D := by
  simp only [topoDAGb, List.all_eq_true, Bool.and_eq_true, decide_eq_true_eq, Pebbling.mem_verts] at h
  exact ⟨fun v h1 h2 p hp => (h v ⟨h1, h2⟩).1 p hp, fun v h1 h2 s hs => (h v ⟨h1, h2⟩).2 s hs⟩

def nbrsOKb (G : SimpleG) : Bool :=
  (Ordering.verts G.n).all fun v =>
    (G.nbrs v).all (fun u => decide (1 ≤ u) && decide (u ≤ G.n) && decide (u ≠ v))

theorem nbrsOK_of_b (G : SimpleG) (h : nbrsOKb G = true) : Ordering.NbrsOK G := by
  simp only [nbrsOKb, List.all_eq_true, Bool.and_eq_true, decide_eq_true_eq, Ordering.mem_verts] at h
  intro v h1 h2 u hu
  have := h v ⟨h1, h2⟩ u hu
  exact ⟨this.1.1, this.1.2, this.2⟩

def bipOKb (B : BipG) : Bool :=
  ((Pebbling.verts B.l).all fun u => (B.rnbrs u).all (fun j => decide (1 ≤ j) && decide (j ≤ B.r))) &&
  decide (((List.range B.l).map (fun i => (B.rnbrs (i + 1)).length)).sum = B.numberOfEdges)

theorem bipOK_of_b (B : BipG) (h : bipOKb B = true) : Pebbling.BipOK B := by
  simp only [bipOKb, List.all_eq_true, Bool.and_eq_true, decide_eq_true_eq, Pebbling.mem_verts] at h
  exact ⟨fun u h1 h2 j hj => h.1 u ⟨h1, h2⟩ j hj, h.2⟩

end Cnfgen.FamC03a
