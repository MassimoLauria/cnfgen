/-
Graph isomorphism / automorphism formulas: the hypothesis on graph objects (`GoodGraph`), the meaning
of the edge-consistency clauses and of the `nontrivial` clause, and the range of the literals (`ConsIn`).
-/
import CnfgenModel.Fam.Iso
import Lemmas.FamMapList
namespace Cnfgen
namespace Fam
namespace G2
open Vars

/-- What the families of this file need from a graph object: `has_edge` is symmetric and irreflexive.
(Reachable `Graph` objects satisfy it — property C16; it is an explicit hypothesis here.  It is not
`Fam.GoodGraph` of `Lemmas/FamGraph.lean`, which speaks of the adjacency lists and is what the families of
`Props/C02/Graphs1.lean` assume.) -/
structure GoodGraph (G : SimpleG) : Prop where
  symm : ∀ u v : Nat, adj G u v = adj G v u
  irrefl : ∀ u : Nat, adj G u u = false

theorem adj_eq_contains (G : SimpleG) (u v : Nat) : adj G u v = G.edgeset.contains (u, v) := by
  simp [adj, SimpleG.hasEdge]

/-- a sufficient condition that `decide` can check on a concrete graph -/
theorem goodGraph_of_edgeset (G : SimpleG)
    (h : ∀ e ∈ G.edgeset, (e.2, e.1) ∈ G.edgeset ∧ e.1 ≠ e.2) : GoodGraph G := by
  constructor
  · intro u v
    rw [adj_eq_contains, adj_eq_contains, Bool.eq_iff_iff]
    simp only [List.contains_iff_mem]
    exact ⟨fun hm => (h _ hm).1, fun hm => (h _ hm).1⟩
  · intro u
    rw [adj_eq_contains]
    cases hc : G.edgeset.contains (u, u)
    · rfl
    · rw [List.contains_iff_mem] at hc
      exact absurd rfl (h _ hc).2

/-- the path on four vertices, as built by `add_edge`, is a good graph -/
example : ∀ G, SimpleG.ofEdges 4 [(1, 2), (3, 2), (3, 4)] = .ok G → GoodGraph G := by
  intro G hG
  have : G = ⟨4, 3, [[], [2], [1, 3], [2, 4], [3]], [(4, 3), (3, 4), (3, 2), (2, 3), (2, 1), (1, 2)]⟩ := by
    have h2 : SimpleG.ofEdges 4 [(1, 2), (3, 2), (3, 4)] =
      .ok ⟨4, 3, [[], [2], [1, 3], [2, 4], [3]], [(4, 3), (3, 4), (3, 2), (2, 3), (2, 1), (1, 2)]⟩ := by rfl
    rw [h2] at hG; injection hG with hG; exact hG.symm
  subst this
  exact goodGraph_of_edgeset _ (by decide)

/-- in the shape of the hypothesis `hL` of `pairClauses_table` with `symbreak := false`, hence `false = false ∧ …` -/
theorem mem_isoEdgeCons {G1 G2 : SimpleG} (c : Con) :
    c ∈ isoEdgeCons G1 G2 ↔
      ∃ i i' a b, (1 ≤ i ∧ i < i' ∧ i' ≤ G1.n) ∧ (1 ≤ a ∧ a < b ∧ b ≤ G2.n) ∧
        (adj G1 i i' != adj G2 a b) = true ∧
        (c = .clause [-(mlit 1 G2.n i a), -(mlit 1 G2.n i' b)] ∨
          false = false ∧ c = .clause [-(mlit 1 G2.n i b), -(mlit 1 G2.n i' a)]) := by
  simp only [isoEdgeCons, List.mem_flatMap, Prod.exists, mem_pairs2_verts]
  constructor
  · rintro ⟨i, i', hi, a, b, ha, hc⟩
    split at hc
    · rename_i hbad; exact ⟨i, i', a, b, hi, ha, hbad, by simpa using hc⟩
    · simp at hc
  · rintro ⟨i, i', a, b, hi, ha, hbad, hc⟩
    exact ⟨i, i', hi, a, b, ha, by rw [if_pos hbad]; simpa using hc⟩

theorem isoEdges_iff {G1 G2 : SimpleG} (h2 : GoodGraph G2) {α : Assign} {l : List Nat} (h : EncL 1 G1.n G2.n α l)
    (hnd : l.Nodup) :
    (∀ c ∈ isoEdgeCons G1 G2, Con.holds α c = true) ↔
      ∀ i, 1 ≤ i → ∀ i', i < i' → i' ≤ G1.n → adj G1 i i' = adj G2 (img l i) (img l i') :=
  pairClauses_table mem_isoEdgeCons (symbreak := false) h.len h.rng hnd h.pair_clause
    (ok := fun i i' a b => adj G1 i i' = adj G2 a b) (fun _ _ _ _ => by simp) (fun _ _ a b e => e.trans (h2.symm a b))

theorem graphIsomorphism_consIn (G1 G2 : SimpleG) :
    ConsIn 1 (G1.n * G2.n) (graphIsomorphism G1 G2).cons :=
  ((((forceComplete_in G1.n G2.n (Nat.le_refl 1)).append (forceSurjective_in G1.n G2.n (Nat.le_refl 1))).append
    (forceFunctional_in G1.n G2.n (Nat.le_refl 1))).append (forceInjective_in G1.n G2.n (Nat.le_refl 1))).mono
      (Nat.le_refl 1) (by omega) |>.append (pairClauses_in mem_isoEdgeCons)

theorem notIdentityClause_holds (α : Assign) (n1 n2 : Nat) :
    Con.holds α (notIdentityClause n1 n2) = true ↔
      ∃ u, 1 ≤ u ∧ u ≤ n1 ∧ u ≤ n2 ∧ α (mapId 1 n2 u u) = false := by
  simp only [notIdentityClause, Con.holds, clauseHolds, List.any_map, List.any_eq_true, List.mem_filter, mem_verts,
    Function.comp, decide_eq_true_eq]
  constructor
  · rintro ⟨u, ⟨hu, hu2⟩, h⟩
    rw [litHolds_neg_mlit α] at h
    exact ⟨u, hu.1, hu.2, hu2, by simpa using h⟩
  · rintro ⟨u, h1, h2, h3, h⟩
    exact ⟨u, ⟨⟨h1, h2⟩, h3⟩, by rw [litHolds_neg_mlit α, h]; rfl⟩

theorem graphIsomorphismOpt_consIn (G1 G2 : SimpleG) (b : Bool) :
    ConsIn 1 (G1.n * G2.n) (graphIsomorphismOpt G1 G2 b).cons := by
  refine (graphIsomorphism_consIn G1 G2).append ?_
  cases b
  · exact ConsIn.nil
  · refine .cons (.map fun u hu => ?_) .nil
    have h := List.mem_filter.1 hu
    have m := mapId_in (k := G1.n) (Nat.le_refl 1) (mem_verts.1 h.1).1 (mem_verts.1 h.1).2 (mem_verts.1 h.1).1
      (of_decide_eq_true h.2)
    exact .neg m.1 ⟨m.2.1, by omega⟩ .nil

/-- `GraphAutomorphism(G)` adds the same clause as `GraphIsomorphism(G, G, nontrivial=True)` -/
theorem graphAutomorphism_eq_opt (G : SimpleG) : graphAutomorphism G = graphIsomorphismOpt G G true := by
  have : (verts G.n).filter (fun u => decide (u ≤ G.n)) = verts G.n := by
    rw [List.filter_eq_self]
    intro u hu
    rw [mem_verts] at hu
    simp [hu.2]
  simp [graphAutomorphism, graphIsomorphismOpt, notIdentityClause, this]

theorem graphAutomorphism_consIn (G : SimpleG) : ConsIn 1 (G.n * G.n) (graphAutomorphism G).cons :=
  graphAutomorphism_eq_opt G ▸ graphIsomorphismOpt_consIn G G true

end G2
end Fam
end Cnfgen
