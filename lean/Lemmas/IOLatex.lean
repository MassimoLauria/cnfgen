/-
Lemmas about the LaTeX token rows: page blocks, frames, and the specification-side row readers.
-/
import Lemmas.IODimacs
import CnfgenModel.IO.Latex
namespace Cnfgen.IO

theorem pageBlocks_ne_nil {α} (k i : Nat) (x : α) (xs : List α) : pageBlocks k i (x :: xs) ≠ [] := by
  cases xs with
  | nil => simp [pageBlocks]
  | cons y ys =>
    rw [pageBlocks]
    split
    · simp
    · split <;> simp

/-- the recursion of `pageBlocks` on two or more rows (its `[]` branch is dead) -/
theorem pageBlocks_cons_cons {α} (k i : Nat) (r r' : α) (rs : List α) :
    ∃ b bs, pageBlocks k (i + 1) (r' :: rs) = b :: bs ∧
      pageBlocks k i (r :: r' :: rs) = if k > 0 ∧ (i + 1) % k = 0 then [r] :: b :: bs else (r :: b) :: bs := by
  cases h : pageBlocks k (i + 1) (r' :: rs) with
  | nil => exact absurd h (pageBlocks_ne_nil k _ r' rs)
  | cons b bs => exact ⟨b, bs, rfl, by rw [pageBlocks, h]⟩

theorem pageBlocks_flatten {α} (k : Nat) : ∀ (l : List α) (i : Nat), (pageBlocks k i l).flatten = l
  | [], _ => rfl
  | [_], _ => rfl
  | r :: r' :: rs, i => by
    obtain ⟨b, bs, hr, he⟩ := pageBlocks_cons_cons k i r r' rs
    have ih := pageBlocks_flatten k (r' :: rs) (i + 1)
    rw [hr, List.flatten_cons] at ih
    rw [he]
    split <;> simp [ih]

theorem pageBlocks_nonempty {α} (k : Nat) : ∀ (l : List α) (i : Nat), ∀ b ∈ pageBlocks k i l, b ≠ []
  | [], _ => by simp [pageBlocks]
  | [_], _ => by simp [pageBlocks]
  | r :: r' :: rs, i => by
    obtain ⟨b, bs, hr, he⟩ := pageBlocks_cons_cons k i r r' rs
    have ih := pageBlocks_nonempty k (r' :: rs) (i + 1)
    rw [hr] at ih
    rw [he]
    simp only [List.forall_mem_cons] at ih
    split <;> simp only [List.forall_mem_cons]
    · exact ⟨by simp, ih⟩
    · exact ⟨by simp, ih.2⟩

/-- the second conjunct is what the induction needs: when the first row's index is `i`, the first block has at most
`k - i % k` rows -/
theorem pageBlocks_length {α} (k : Nat) (hk : 0 < k) : ∀ (l : List α) (i : Nat),
    (∀ b ∈ pageBlocks k i l, b.length ≤ k) ∧ (∀ b bs, pageBlocks k i l = b :: bs → b.length ≤ k - i % k)
  | [], _ => by simp [pageBlocks]
  | [_], i => by
    have : i % k < k := Nat.mod_lt _ hk
    simp [pageBlocks]; omega
  | r :: r' :: rs, i => by
    obtain ⟨b, bs, hr, he⟩ := pageBlocks_cons_cons k i r r' rs
    have ih := pageBlocks_length k hk (r' :: rs) (i + 1)
    have hm : i % k < k := Nat.mod_lt _ hk
    rw [hr] at ih
    rw [he]
    have hb := ih.2 b bs rfl
    simp only [List.forall_mem_cons] at ih
    split
    · simp only [List.forall_mem_cons, List.cons.injEq, and_imp]
      exact ⟨⟨by simp; omega, ih.1⟩, by rintro _ _ rfl -; simp; omega⟩
    · rename_i hsplit
      have hns : (i + 1) % k ≠ 0 := fun e => hsplit ⟨hk, e⟩
      have hmod : (i + 1) % k = i % k + 1 := by
        rcases Nat.lt_or_ge (i % k + 1) k with h | h
        · rw [← Nat.mod_add_mod, Nat.mod_eq_of_lt h]
        · exact absurd (by rw [← Nat.mod_add_mod, show i % k + 1 = k by omega, Nat.mod_self]) hns
      simp only [List.forall_mem_cons, List.cons.injEq, and_imp]
      exact ⟨⟨by simp; omega, ih.1.2⟩, by rintro _ _ rfl -; simp; omega⟩

/-- two lists related element by element -/
inductive AllRel {α β} (R : α → β → Prop) : List α → List β → Prop
  | nil : AllRel R [] []
  | cons {a b as bs} : R a b → AllRel R as bs → AllRel R (a :: as) (b :: bs)

/-- shape shared by all literal texts: `{…` or `\o…` -/
def litLike : Tok → Bool
  | .word (c :: d :: _) => c == '{' || (c == '\\' && d == 'o')
  | _ => false

theorem litLike_litCore (nm : Str) (neg : Bool) : litLike (.word (litCore nm neg)) = true := by
  cases neg
  · cases nm <;> simp [litCore, litLike]
  · simp only [litCore, if_true]
    split <;> simp [litLike, overlineOpen]

theorem latexLitTok_litLike (names : List Str) (l : Int) (t : Tok) (h : latexLitTok names l = .ok t) :
    litLike t = true := by
  unfold latexLitTok at h
  split at h
  · simp at h
  · split at h
    · simp at h
    · simp at h; subst h; exact litLike_litCore _ _

theorem enumFrom_mem {α} : ∀ (l : List α) (i j : Nat) (x : α), l[j]? = some x → (i + j, x) ∈ enumFrom i l
  | [], _, j, x, h => by simp at h
  | y :: ys, i, 0, x, h => by simp at h; subst h; simp [enumFrom]
  | y :: ys, i, j + 1, x, h => by
    simp at h
    have := enumFrom_mem ys (i + 1) j x h
    simp only [enumFrom, List.mem_cons]
    right
    have e : i + (j + 1) = i + 1 + j := by omega
    rw [e]; exact this

theorem lookup_of_mem_nodup {β} (tbl : List (Str × β)) (k : Str) (v : β) (hn : (tbl.map Prod.fst).Nodup)
    (h : (k, v) ∈ tbl) : tbl.lookup k = some v := by
  obtain ⟨l₁, l₂, rfl⟩ := List.append_of_mem h
  rw [List.map_append, List.map_cons, List.nodup_append] at hn
  exact List.lookup_eq_some_iff.2 ⟨l₁, l₂, rfl, fun p hp => bne_iff_ne.2
    (hn.2.2 _ (List.mem_map_of_mem hp) _ List.mem_cons_self).symm⟩

/-- the literal table is injective: pairwise distinct literal texts -/
def TableOK (names : List Str) : Prop := ((litTable names).map Prod.fst).Nodup

theorem readLit_latexLitTok (names : List Str) (hT : TableOK names) (l : Int) (t : Tok)
    (h : latexLitTok names l = .ok t) : readLit (litTable names) t = .ok l ∧ litLike t = true := by
  refine ⟨?_, latexLitTok_litLike names l t h⟩
  unfold latexLitTok at h
  split at h
  · simp at h
  · rename_i h0
    split at h
    · simp at h
    · rename_i nm hnm
      simp at h; subst h
      have h1 : 1 ≤ l.natAbs := by omega
      have hmem : (l.natAbs, nm) ∈ enum1 names := by
        have := enumFrom_mem names 1 (l.natAbs - 1) nm hnm
        have e : 1 + (l.natAbs - 1) = l.natAbs := by omega
        rw [e] at this; exact this
      have hin : (litCore nm (decide (l < 0)), l) ∈ litTable names := by
        simp only [litTable, List.mem_flatMap]
        refine ⟨(l.natAbs, nm), hmem, ?_⟩
        by_cases hl : l < 0
        · have : -((l.natAbs : Nat) : Int) = l := by omega
          simp [hl, this]
        · have : ((l.natAbs : Nat) : Int) = l := by omega
          simp [hl, this]
      simp [readLit, lookup_of_mem_nodup _ _ _ hT hin]

/-- a row content the frame can be removed from unambiguously -/
def SafeCore (core : Row) : Prop :=
  core ≠ [] ∧ core.head? ≠ some (W "\\land") ∧ core.getLast? ≠ some (W "\\\\")

theorem dropFrame_frame (land last : Bool) (core : Row) (h : SafeCore core) :
    dropFrame (frame land last core) = .ok core := by
  obtain ⟨hne, hh, hl⟩ := h
  obtain ⟨c0, cs, rfl⟩ := List.exists_cons_of_ne_nil hne
  have hc0 : c0 ≠ W "\\land" := by simpa using hh
  have e1 : (c0 :: (cs ++ [W "\\\\"])).getLast? = some (W "\\\\") := List.getLast?_concat (l := c0 :: cs)
  have e2 : (c0 :: (cs ++ [W "\\\\"])).dropLast = c0 :: cs := List.dropLast_concat (l₁ := c0 :: cs)
  cases land <;> cases last <;> simp [frame, dropFrame, hc0, hl, e1, e2]

theorem sepBy_singletons (sep : Tok) : ∀ (t : Tok) (ts : List Tok),
    sepBy sep ((t :: ts).map (fun x => [x])) = t :: ts.flatMap (fun x => [sep, x])
  | t, [] => by simp [sepBy]
  | t, t' :: ts => by
    have ih := sepBy_singletons sep t' ts
    simp only [List.map_cons] at ih ⊢
    simp [sepBy, ih]

theorem getLast?_seps (sep : Tok) : ∀ (t : Tok) (ts : List Tok),
    (t :: ts.flatMap (fun x => [sep, x])).getLast? = (t :: ts).getLast?
  | t, [] => by simp
  | t, t' :: ts => by
    have ih := getLast?_seps sep t' ts
    simp only [List.flatMap_cons, List.cons_append, List.nil_append, List.getLast?_cons_cons] at ih ⊢
    exact ih

theorem readDisj_seps (tbl : List (Str × Int)) : ∀ (t : Tok) (ts : List Tok) (l : Int) (ls : List Int),
    readLit tbl t = .ok l → AllRel (fun t l => readLit tbl t = .ok l) ts ls →
    readDisj tbl (t :: ts.flatMap (fun x => [W "\\lor", x])) = .ok (l :: ls)
  | t, [], l, ls, h, hf => by cases hf; simp [readDisj, h]
  | t, t' :: ts, l, ls, h, hf => by
    cases hf with
    | cons h' hf' =>
      rename_i l' ls'
      have ih := readDisj_seps tbl t' ts l' ls' h' hf'
      simp only [List.flatMap_cons, List.cons_append, List.nil_append]
      rw [readDisj]
      simp [h, ih]

theorem allRel_of_mapM {α β} (f : α → Except Err β) : ∀ (xs : List α) (ys : List β),
    xs.mapM f = .ok ys → AllRel (fun x y => f x = .ok y) xs ys
  | [], ys, h => by cases h; exact .nil
  | x :: xs, ys, h => by
    rw [List.mapM_cons] at h
    obtain ⟨y, hx, h⟩ := bind_ok.1 h
    obtain ⟨ys', hxs, h⟩ := bind_ok.1 h
    cases h
    exact .cons hx (allRel_of_mapM f xs ys' hxs)

theorem allRel_lits (names : List Str) (hT : TableOK names) : ∀ (cs : List Int) (ts : List Tok),
    AllRel (fun x y => latexLitTok names x = .ok y) cs ts →
    AllRel (fun t l => readLit (litTable names) t = .ok l) ts cs ∧ ∀ y ∈ ts, litLike y = true := by
  intro cs ts h
  induction h with
  | nil => exact ⟨.nil, by simp⟩
  | cons hx _ ih =>
    obtain ⟨h1, h2⟩ := readLit_latexLitTok names hT _ _ hx
    refine ⟨.cons h1 ih.1, ?_⟩
    intro y hy
    rcases List.mem_cons.1 hy with e | e
    · subst e; exact h2
    · exact ih.2 y e

theorem clauseCore_shape {names : List Str} {compact : Bool} {c : Clause} {core : Row}
    (h : clauseCore names compact c = .ok core) :
    (c = [] ∧ core = [W "\\square"]) ∨
    ∃ l ls t ts, c = l :: ls ∧ latexLitTok names l = .ok t ∧ AllRel (fun x y => latexLitTok names x = .ok y) ls ts ∧
      core = (let body := t :: ts.flatMap (fun x => [W "\\lor", x])
        if compact then W "\\left(" :: (body ++ [W "\\right)"]) else body) := by
  unfold clauseCore at h
  split at h
  · rename_i he
    exact .inl ⟨by simpa using he, (Except.ok.inj h).symm⟩
  · rename_i hne
    cases hm : c.mapM (latexLitTok names) with
    | error e => simp [hm] at h
    | ok ls =>
      simp only [hm] at h
      cases allRel_of_mapM _ c ls hm with
      | nil => simp at hne
      | cons h1 hrest =>
        rw [sepBy_singletons] at h
        exact .inr ⟨_, _, _, _, rfl, h1, hrest, (Except.ok.inj h).symm⟩

/-- T-C12.2 (clause rows): content of a clause row, framed in any way → the clause -/
theorem clauseCore_read (names : List Str) (hT : TableOK names) (compact : Bool) (c : Clause) (core : Row)
    (h : clauseCore names compact c = .ok core) (land last : Bool) :
    readClauseRow names (frame land last core) = .ok c := by
  rcases clauseCore_shape h with ⟨rfl, rfl⟩ | ⟨l, cs, t, ts, rfl, h1, hrest, rfl⟩
  · have hs : SafeCore [W "\\square"] := ⟨by simp, by simp [W], by simp [W]⟩
    simp [readClauseRow, dropFrame_frame land last _ hs]
  · obtain ⟨hr1, hl1⟩ := readLit_latexLitTok names hT l t h1
    obtain ⟨hrest', hall'⟩ := allRel_lits names hT cs ts hrest
    have hlast : ∀ x, (t :: ts).getLast? = some x → litLike x = true := by
      intro x hx
      rcases List.mem_cons.1 (List.mem_of_getLast? hx) with e | e
      · subst e; exact hl1
      · exact hall' x e
    have hdisj := readDisj_seps (litTable names) t ts l cs hr1 hrest'
    have ht_ne : ∀ k : Tok, litLike k = false → t ≠ k := by intro k hk e; rw [e] at hl1; simp [hk] at hl1
    generalize hX : ts.flatMap (fun x => [W "\\lor", x]) = X at hdisj
    have hXlast : (t :: X).getLast? = (t :: ts).getLast? := by rw [← hX]; exact getLast?_seps _ t ts
    cases compact
    · have hs : SafeCore (t :: X) := by
        refine ⟨by simp, ?_, ?_⟩
        · simpa using ht_ne (W "\\land") (by decide)
        · rw [hXlast]
          intro e
          have := hlast _ e
          revert this; decide
      have h1' : t ≠ W "\\square" := ht_ne _ (by decide)
      have h2' : t ≠ W "\\left(" := ht_ne _ (by decide)
      simp [readClauseRow, dropFrame_frame land last _ hs, h1', h2', hdisj]
    · have e1 : (t :: (X ++ [W "\\right)"])).getLast? = some (W "\\right)") :=
        List.getLast?_concat (l := t :: X)
      have e2 : (t :: (X ++ [W "\\right)"])).dropLast = t :: X := List.dropLast_concat (l₁ := t :: X)
      have hs : SafeCore (W "\\left(" :: t :: (X ++ [W "\\right)"])) := by
        refine ⟨by simp, by simp [W], ?_⟩
        rw [List.getLast?_cons_cons, e1]
        simp [W]
      simp only [if_true, List.cons_append]
      rw [readClauseRow, dropFrame_frame land last _ hs]
      have hsq : (W "\\left(" :: t :: (X ++ [W "\\right)"])) ≠ [W "\\square"] := by simp
      simp only [hsq, if_false, true_and, e1, e2, if_true]
      exact hdisj

theorem termToks_ok (names : List Str) (hT : TableOK names) (t : Int × Int) (g : List Tok)
    (h : termToks names t = .ok g) :
    ∃ lt, readLit (litTable names) lt = .ok t.2 ∧ litLike lt = true ∧
      g = (if t.1 = 1 then [lt] else [.int t.1, lt]) := by
  unfold termToks at h
  split at h
  · simp at h
  · rename_i lt hlt
    simp at h
    obtain ⟨h1, h2⟩ := readLit_latexLitTok names hT _ _ hlt
    exact ⟨lt, h1, h2, h.symm⟩

theorem readLit_ok_word (tbl : List (Str × Int)) (t : Tok) (l : Int) (h : readLit tbl t = .ok l) :
    ∃ s, t = .word s := by
  cases t with
  | word s => exact ⟨s, rfl⟩
  | int i => simp [readLit] at h
  | xvar a b => simp [readLit] at h

/-- one step of `readSum`: the tokens of one term (a coefficient `1` is not written), then the rest -/
theorem readSum_term (tbl : List (Str × Int)) (fuel : Nat) (t : Int × Int) (s : Str) (rest : Row)
    (hl : readLit tbl (.word s) = .ok t.2) :
    readSum tbl (fuel + 1) ((if t.1 = 1 then [Tok.word s] else [.int t.1, .word s]) ++ rest) =
      match rest with
      | sep :: rest' =>
        if sep = W "+" then
          match readSum tbl fuel rest' with
          | .ok (ts, tail) => .ok (t :: ts, tail)
          | .error e => .error e
        else .ok ([t], rest)
      | [] => .ok ([t], []) := by
  have ht : t = (t.1, t.2) := rfl
  by_cases h1 : t.1 = 1
  · have ht' : t = (1, t.2) := Prod.ext h1 rfl
    simp only [h1, if_true, List.cons_append, List.nil_append]
    rw [readSum, hl]
    · simp only; rw [← ht']; rfl
    · intro c t rest e; cases e  -- the row starts with a word, so the arm `.int c :: t :: rest` is passed over
  · simp only [h1, if_false, List.cons_append, List.nil_append]
    rw [readSum, hl]; simp only; rw [← ht]; rfl

theorem sepBy_cons_cons (sep : Tok) (g g' : List Tok) (gs : List (List Tok)) :
    sepBy sep (g :: g' :: gs) = g ++ sep :: sepBy sep (g' :: gs) := rfl

theorem readSum_groups (names : List Str) (hT : TableOK names) (tail : Row)
    (htail : tail.head? ≠ some (W "+")) :
    ∀ (ts : List (Int × Int)) (gs : List (List Tok)) (fuel : Nat), ts ≠ [] →
      AllRel (fun t g => termToks names t = .ok g) ts gs → (sepBy (W "+") gs ++ tail).length ≤ fuel →
      readSum (litTable names) fuel (sepBy (W "+") gs ++ tail) = .ok (ts, tail)
  | [], _, _, hne, _, _ => absurd rfl hne
  | t :: ts, _, fuel, _, .cons hg hrest, hfuel => by
    obtain ⟨lt, hlt, hlike, rfl⟩ := termToks_ok names hT t _ hg
    obtain ⟨s, rfl⟩ := readLit_ok_word _ _ _ hlt
    have hg1 : 1 ≤ (if t.1 = 1 then [Tok.word s] else [.int t.1, .word s]).length := by split <;> simp
    cases hrest with
    | nil =>
      rw [sepBy] at hfuel ⊢
      obtain ⟨fuel', rfl⟩ : ∃ f', fuel = f' + 1 := ⟨fuel - 1, by rw [List.length_append] at hfuel; omega⟩
      rw [readSum_term _ _ t s tail hlt]
      cases tail with
      | nil => rfl
      | cons a tl => simp only [show a ≠ W "+" by simpa using htail, ↓reduceIte]
    | cons hg' hrest' =>
      rw [sepBy_cons_cons, List.append_assoc, List.cons_append] at hfuel ⊢
      rw [List.length_append, List.length_cons] at hfuel
      obtain ⟨fuel', rfl⟩ : ∃ f', fuel = f' + 1 := ⟨fuel - 1, by omega⟩
      rw [readSum_term _ _ t s _ hlt]
      simp only [↓reduceIte, readSum_groups names hT tail htail _ _ fuel' (by simp) (.cons hg' hrest') (by omega)]

theorem sepBy_cons_prefix (sep : Tok) (g : List Tok) (gs : List (List Tok)) :
    ∃ rest, sepBy sep (g :: gs) = g ++ rest := by
  cases gs with
  | nil => exact ⟨[], by simp [sepBy]⟩
  | cons g' gs' => exact ⟨sep :: sepBy sep (g' :: gs'), by simp [sepBy]⟩

/-- T-C12.2 (constraint rows): content of a constraint row, framed in any way → the constraint -/
theorem constraintCore_read (names : List Str) (hT : TableOK names) (c : PBC) (hop : c.op = .ge ∨ c.op = .eq)
    (core : Row) (h : constraintCore names c = .ok core) (land last : Bool) :
    readConstraintRow names (frame land last core) = .ok c := by
  obtain ⟨ts, o, d⟩ := c
  simp only at hop
  have hfin : readRel ts [Tok.word (latexOpText o), Tok.int d] = .ok ⟨ts, o, d⟩ := by
    rcases hop with rfl | rfl <;> simp [readRel, latexOpText]
  unfold constraintCore at h
  simp only at h
  by_cases hemp : ts.isEmpty = true
  · have hts : ts = [] := by simpa using hemp
    subst hts
    simp at h; subst h
    have hs : SafeCore [Tok.int 0, Tok.word (latexOpText o), Tok.int d] := ⟨by simp, by simp [W], by simp [W]⟩
    rw [readConstraintRow, dropFrame_frame land last _ hs]
    simp only [readLhs]
    exact hfin
  · simp only [hemp] at h
    cases hm : ts.mapM (termToks names) with
    | error e => simp [hm] at h
    | ok gs =>
      simp [hm] at h
      have hrel := allRel_of_mapM _ ts gs hm
      have hne : ts ≠ [] := by simpa using hemp
      obtain ⟨t, ts', rfl⟩ := List.exists_cons_of_ne_nil hne
      cases hrel with
      | cons hg hrest =>
        rename_i g gs'
        obtain ⟨lt, hlt, hlike, hgshape⟩ := termToks_ok names hT t g hg
        obtain ⟨s, rfl⟩ := readLit_ok_word _ _ _ hlt
        obtain ⟨rest, hrest_eq⟩ := sepBy_cons_prefix (W "+") g gs'
        have hsum := readSum_groups names hT [Tok.word (latexOpText o), Tok.int d]
          (by rcases hop with rfl | rfl <;> simp [latexOpText, W]) (t :: ts') (g :: gs') _ (by simp)
          (.cons hg hrest) (Nat.le_refl _)
        subst h
        have hs : SafeCore (sepBy (W "+") (g :: gs') ++ [Tok.word (latexOpText o), Tok.int d]) := by
          refine ⟨by simp, ?_, ?_⟩
          · rw [hrest_eq, hgshape]
            split
            · have : Tok.word s ≠ W "\\land" := by
                intro e; rw [e] at hlike; revert hlike; decide
              simpa using this
            · simp [W]
          · have : (sepBy (W "+") (g :: gs') ++ [Tok.word (latexOpText o), Tok.int d]).getLast? = some (Tok.int d) := by
              rw [List.getLast?_append]; simp
            rw [this]; simp [W]
        have hlhs : readLhs (litTable names) (sepBy (W "+") (g :: gs') ++ [Tok.word (latexOpText o), Tok.int d]) =
            .ok (t :: ts', [Tok.word (latexOpText o), Tok.int d]) := by
          unfold readLhs
          split
          · rename_i w d' heq
            exfalso
            rw [hrest_eq, hgshape] at heq
            split at heq
            · simp at heq
            · have := congrArg List.length heq
              simp at this
          · exact hsum
        rw [readConstraintRow, dropFrame_frame land last _ hs]
        simp only [hlhs]
        exact hfin

theorem AllRel.append {α β} {R : α → β → Prop} : ∀ {a1 : List α} {b1 : List β} {a2 : List α} {b2 : List β},
    AllRel R a1 b1 → AllRel R a2 b2 → AllRel R (a1 ++ a2) (b1 ++ b2)
  | _, _, _, _, .nil, h2 => h2
  | _, _, _, _, .cons h h1, h2 => .cons h (AllRel.append h1 h2)

theorem AllRel.comp {α β γ} {R : α → β → Prop} {S : β → γ → Prop} {T : α → γ → Prop}
    (hT : ∀ a b c, R a b → S b c → T a c) : ∀ {a : List α} {b : List β} {c : List γ},
    AllRel R a b → AllRel S b c → AllRel T a c
  | _, _, _, .nil, .nil => .nil
  | _, _, _, .cons h h1, .cons k k1 => .cons (hT _ _ _ h k) (AllRel.comp hT h1 k1)

theorem AllRel.mono {α β} {R S : α → β → Prop} (h : ∀ a b, R a b → S a b) : ∀ {a : List α} {b : List β},
    AllRel R a b → AllRel S a b
  | _, _, .nil => .nil
  | _, _, .cons k k1 => .cons (h _ _ k) (AllRel.mono h k1)

theorem AllRel.length_eq {α β} {R : α → β → Prop} : ∀ {a : List α} {b : List β}, AllRel R a b → a.length = b.length
  | _, _, .nil => rfl
  | _, _, .cons _ h1 => by simp [AllRel.length_eq h1]

theorem mapM_of_allRel {α β} (f : α → Except Err β) : ∀ {xs : List α} {ys : List β},
    AllRel (fun x y => f x = .ok y) xs ys → xs.mapM f = .ok ys
  | _, _, .nil => by simp [pure, Except.pure]
  | _, _, .cons h h1 => by simp [List.mapM_cons, h, mapM_of_allRel f h1, pure, Except.pure]

/-- every physical row is the frame of the corresponding content -/
def Framed (rows cores : List Row) : Prop :=
  AllRel (fun row core => ∃ land last, row = frame land last core) rows cores

theorem blockRows_framed (compact : Bool) : ∀ (b : List Row) (first : Bool), Framed (blockRows compact first b) b
  | [], _ => .nil
  | [_], _ => .cons ⟨_, _, rfl⟩ .nil
  | _ :: c' :: cs, _ => .cons ⟨_, _, rfl⟩ (blockRows_framed compact (c' :: cs) false)

theorem flatten_framed (f : List Row → List Row) (hf : ∀ b, Framed (f b) b) :
    ∀ (bs : List (List Row)), Framed ((bs.map f).flatten) bs.flatten
  | [] => .nil
  | b :: bs => by
    simp only [List.map_cons, List.flatten_cons]
    exact AllRel.append (hf b) (flatten_framed f hf bs)

theorem blocks_framed (compact : Bool) (split : Nat) (cores : List Row) :
    Framed (((pageBlocks split 0 cores).map (blockRows compact true)).flatten) cores := by
  have := flatten_framed (blockRows compact true) (fun b => blockRows_framed compact b true) (pageBlocks split 0 cores)
  rwa [pageBlocks_flatten] at this

/-- framed rows are not the rendering `\top` of the empty formula: each starts with `&` -/
theorem Framed.ne_top {rows cores : List Row} (h : Framed rows cores) : rows ≠ [[W "\\top"]] := by
  rintro rfl
  cases h with
  | cons hx _ =>
    obtain ⟨land, last, hrow⟩ := hx
    simp [frame, W] at hrow

theorem blocks_read {α} (readRow : Row → Except Err α) (compact : Bool) (split : Nat) {cores : List Row} {xs : List α}
    (h : AllRel (fun core x => ∀ land last, readRow (frame land last core) = .ok x) cores xs) :
    ((pageBlocks split 0 cores).map (blockRows compact true)).flatten.mapM readRow = .ok xs :=
  mapM_of_allRel readRow (AllRel.comp (fun _ _ _ ⟨land, last, hrow⟩ hc => hrow ▸ hc land last)
    (blocks_framed compact split cores) h)

theorem AllRel.of_mapM {α β} {f : α → Except Err β} {R : β → α → Prop} : ∀ {xs : List α} {ys : List β},
    xs.mapM f = .ok ys → (∀ x ∈ xs, ∀ y, f x = .ok y → R y x) → AllRel R ys xs := by
  intro xs ys h hR
  have := allRel_of_mapM f xs ys h
  clear h
  induction this with
  | nil => exact .nil
  | cons hx _ ih => exact .cons (hR _ (by simp) _ hx) (ih fun x hx => hR x (by simp [hx]))

theorem latexBlocks_ok {F : AnyF} {names : List Str} {split : Nat} {compact : Bool} {blocks : List (List Row)}
    (hne : F.len ≠ 0) (h : latexBlocks F names split compact = .ok blocks) :
    ∃ cores, latexCores F names compact = .ok cores ∧
      blocks = (pageBlocks split 0 cores).map (blockRows (compact && !F.isOpb) true) := by
  unfold latexBlocks at h
  rw [if_neg hne] at h
  cases hc : latexCores F names compact with
  | error e => rw [hc] at h; cases h
  | ok cores => rw [hc] at h; exact ⟨cores, rfl, (Except.ok.inj h).symm⟩

theorem square_iff (names : List Str) (compact : Bool) (c : Clause) (core : Row)
    (h : clauseCore names compact c = .ok core) : core = [W "\\square"] ↔ c = [] := by
  rcases clauseCore_shape h with ⟨rfl, rfl⟩ | ⟨l, ls, t, ts, rfl, h1, -, rfl⟩
  · simp
  · have hl := latexLitTok_litLike names l t h1
    refine ⟨fun e => ?_, fun e => by cases e⟩
    cases compact
    · simp only [Bool.false_eq_true, if_false, List.cons.injEq] at e
      rw [e.1] at hl
      exact absurd hl (by decide)
    · simp [W] at e

theorem top_iff (F : AnyF) (names : List Str) (split : Nat) (compact : Bool) (blocks : List (List Row))
    (h : latexBlocks F names split compact = .ok blocks) : blocks = [[[W "\\top"]]] ↔ F.len = 0 := by
  by_cases h0 : F.len = 0
  · rw [latexBlocks, if_pos h0] at h
    exact ⟨fun _ => h0, fun _ => (Except.ok.inj h).symm⟩
  · obtain ⟨cores, -, rfl⟩ := latexBlocks_ok h0 h
    exact ⟨fun e => absurd (congrArg List.flatten e) (blocks_framed _ split cores).ne_top, fun e => absurd e h0⟩

end Cnfgen.IO
