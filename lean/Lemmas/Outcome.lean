/-
Lemmas for the end-to-end theorem of C18 (Props/C18/EndToEnd.lean): `cliOutcome` (CnfgenModel/Cli/Outcome.lean)
on the numeric sub-commands.  Facts about the mapped generators go through `evalCallF_cases`, the list of shapes a
mapped call can have; `evalCall` is `evalCallF` with the formula forgotten (`evalCall_eq_forget`).
-/
import CnfgenModel.Cli.Text
import Lemmas.DispatchNumeric
import Lemmas.DispatchFlag
import Lemmas.DispatchTotal
import Lemmas.FamRamsey
import Lemmas.FamCpls
import Lemmas.FamPitfallAxioms
import Lemmas.Dich
namespace Cnfgen.Cli
open Cnfgen Cnfgen.Gen

theorem dout_forget_ok {α : Type} (x : Except Err α) : forget x = .ok () ↔ ∃ F, x = .ok F := by
  cases x <;> simp [forget, Except.map]

theorem dout_forget_err {α : Type} (x : Except Err α) (e : Err) : forget x = .error e ↔ x = .error e := by
  cases x <;> simp [forget, Except.map]

theorem kwBool_of_lookup (c : Call) (k : String) (b : Bool) (h : c.kw.lookup k = some (.bool b)) :
    kwBool c k = some b := by
  unfold kwBool; rw [h]

theorem ptn_dich (n : Int) : Dich (Fam.Ramsey.ptn n) (0 ≤ n) := by
  unfold Dich
  by_cases h : n < 0
  · left; exact ⟨FamRamsey.ptn_neg n h, by omega⟩
  · right
    refine ⟨?_, by omega⟩
    simp [Fam.Ramsey.ptn, Fam.Ramsey.nonNegInt, h, bind, Except.bind, pure, Except.pure]

theorem ramseyNumber_dich (s k n : Int) : Dich (Fam.Ramsey.ramseyNumber s k n) (1 ≤ s ∧ 1 ≤ k ∧ 0 ≤ n) := by
  unfold Dich
  by_cases h : n < 0 ∨ s < 1 ∨ k < 1
  · left; exact ⟨FamRamsey.ramsey_err s k n h, by omega⟩
  · right
    refine ⟨?_, by omega⟩
    have h1 : ¬ n < 0 := by omega
    have h2 : ¬ s < 1 := by omega
    have h3 : ¬ k < 1 := by omega
    simp [Fam.Ramsey.ramseyNumber, Fam.Ramsey.nonNegInt, Fam.Ramsey.positiveInt, h1, h2, h3, bind,
      Except.bind, pure, Except.pure]

theorem vdw_dich (n k1 k2 : Int) (ks : List Int) :
    Dich (Fam.Ramsey.vdw n k1 k2 ks) (0 ≤ n ∧ 1 ≤ k1 ∧ 1 ≤ k2 ∧ ∀ x ∈ ks, 1 ≤ x) := by
  unfold Dich
  by_cases h : n < 0 ∨ k1 < 1 ∨ k2 < 1 ∨ ∃ x ∈ ks, x < 1
  · left
    refine ⟨FamRamsey.vdw_err n k1 k2 ks h, ?_⟩
    rintro ⟨a1, a2, a3, a4⟩
    rcases h with h | h | h | ⟨x, hx, h⟩
    · omega
    · omega
    · omega
    · have := a4 x hx; omega
  · right
    have h1 : ¬ n < 0 := fun a => h (Or.inl a)
    have h2 : ¬ k1 < 1 := fun a => h (Or.inr (Or.inl a))
    have h3 : ¬ k2 < 1 := fun a => h (Or.inr (Or.inr (Or.inl a)))
    have h4 : ∀ x ∈ ks, ¬ x < 1 := fun x hx a => h (Or.inr (Or.inr (Or.inr ⟨x, hx, a⟩)))
    refine ⟨?_, by omega, by omega, by omega, fun x hx => by have := h4 x hx; omega⟩
    have a4 : ks.any (fun x => decide (x < 1)) = false := by
      rw [List.any_eq_false]
      intro x hx
      simpa using h4 x hx
    simp only [Fam.Ramsey.vdw, Fam.Ramsey.nonNegInt, Fam.Ramsey.positiveInt, Fam.Ramsey.positiveIntSeq,
      h1, h2, h3, a4, bind, Except.bind, pure, Except.pure, if_false, Bool.false_eq_true]
    split <;> exact ⟨_, rfl⟩

theorem cpls_dich (a b c : Int) :
    Dich (Fam.Cpls.cpls a b c)
      (∃ a' p q : Nat, a = (a' : Int) ∧ b = ((2 ^ p : Nat) : Int) ∧ c = ((2 ^ q : Nat) : Int) ∧ 1 ≤ a') := by
  unfold Dich
  rcases FamCpls.cpls_ok_or_valueError a b c with ⟨F, hF⟩ | he
  · right
    refine ⟨⟨F, hF⟩, ?_⟩
    obtain ⟨a', p, q, h1, h2, h3, h4⟩ := FamCpls.cpls_accepts_only a b c F hF
    exact ⟨a', p, q, h2, h3, h4, h1⟩
  · left
    refine ⟨he, ?_⟩
    rintro ⟨a', p, q, rfl, rfl, rfl, h1⟩
    rw [FamCpls.cpls_ok a' p q h1] at he
    cases he

/-- the documented precondition of each generator `evalCall` maps, on its numeric arguments -/
def GenPre (c : Call) : Prop :=
  if c.fn = "PigeonholePrinciple" then ∃ m n, c.pos = [.int m, .int n] ∧ 0 ≤ m ∧ 0 ≤ n
  else if c.fn = "BinaryPigeonholePrinciple" then ∃ m n, c.pos = [.int m, .int n] ∧ 0 ≤ m ∧ 0 ≤ n
  else if c.fn = "RelativizedPigeonholePrinciple" then
    ∃ m r n, c.pos = [.int m, .int r, .int n] ∧ 0 ≤ m ∧ 0 ≤ r ∧ 0 ≤ n
  else if c.fn = "CountingPrinciple" then ∃ m p, c.pos = [.int m, .int p] ∧ 0 ≤ m ∧ 1 ≤ p
  else if c.fn = "CliqueColoring" then ∃ n k cc, c.pos = [.int n, .int k, .int cc] ∧ 0 ≤ n ∧ 0 ≤ k ∧ 0 ≤ cc
  else if c.fn = "OrderingPrinciple" then ∃ n rest, c.pos = .int n :: rest ∧ 0 ≤ n
  else if c.fn = "PythagoreanTriples" then ∃ n, c.pos = [.int n] ∧ 0 ≤ n
  else if c.fn = "RamseyNumber" then ∃ s k n, c.pos = [.int s, .int k, .int n] ∧ 1 ≤ s ∧ 1 ≤ k ∧ 0 ≤ n
  else if c.fn = "VanDerWaerden" then
    ∃ n k1 k2 ks, allInts c.pos = some (n :: k1 :: k2 :: ks) ∧ 0 ≤ n ∧ 1 ≤ k1 ∧ 1 ≤ k2 ∧ ∀ x ∈ ks, 1 ≤ x
  else if c.fn = "CPLSFormula" then
    ∃ a p q : Nat, c.pos = [.int (a : Int), .int ((2 ^ p : Nat) : Int), .int ((2 ^ q : Nat) : Int)] ∧ 1 ≤ a
  else if c.fn = "PitfallFormula" then
    ∃ v d ny nz k, c.pos = [.int v, .int d, .int ny, .int nz, .int k] ∧
      1 ≤ v ∧ 1 ≤ d ∧ 1 ≤ ny ∧ 2 ≤ nz ∧ 1 ≤ k ∧ k % 2 = 0 ∧ d < v ∧ v * d % 2 ≠ 1
  else False

theorem pitfall_forget (v d ny nz k : Int) (g : SimpleG) :
    forget (Fam.Pitfall.pitfall v d ny nz k g) = Fam.Pitfall.check v d ny nz k := by
  unfold Fam.Pitfall.pitfall forget
  cases Fam.Pitfall.check v d ny nz k <;> rfl

theorem ite_eq_some {α : Type} {p : Prop} [Decidable p] {a rest : Option α} {r : α}
    (h : (if p then a else rest) = some r) : p ∧ a = some r ∨ rest = some r := by
  split at h
  · exact Or.inl ⟨‹p›, h⟩
  · exact Or.inr h

/-- the shapes of a call `evalCallF` maps: generator name, positional arguments, family entry point.
(The chain is taken apart link by link: `split` on the whole chain, and `cases` on an equation between family
results — which unfolds them — are far dearer.) -/
theorem evalCallF_cases (g : SimpleG) (P : String → List Val → Except Err Formula → Prop)
    (php : ∀ m n f o, P "PigeonholePrinciple" [.int m, .int n] (Fam.php m n f o))
    (bphp : ∀ m n, P "BinaryPigeonholePrinciple" [.int m, .int n] (Fam.bphp m n))
    (rphp : ∀ m r n, P "RelativizedPigeonholePrinciple" [.int m, .int r, .int n] (Fam.rphp m r n))
    (counting : ∀ m p, P "CountingPrinciple" [.int m, .int p] (Fam.counting m p))
    (cc : ∀ n k c, P "CliqueColoring" [.int n, .int k, .int c] (Fam.cliqueColoring n k c))
    (op : ∀ n t s p kv k, kv = .none ∧ k = 0 ∨ kv = .int k →
      P "OrderingPrinciple" [.int n, .bool t, .bool s, .bool p, kv] (Fam.Ordering.op n t s p k))
    (ptn : ∀ n, P "PythagoreanTriples" [.int n] (Fam.Ramsey.ptn n))
    (ramsey : ∀ s k n, P "RamseyNumber" [.int s, .int k, .int n] (Fam.Ramsey.ramseyNumber s k n))
    (vdw : ∀ pos n k1 k2 ks, allInts pos = some (n :: k1 :: k2 :: ks) →
      P "VanDerWaerden" pos (Fam.Ramsey.vdw n k1 k2 ks))
    (cpls : ∀ a b c, P "CPLSFormula" [.int a, .int b, .int c] (Fam.Cpls.cpls a b c))
    (pitfall : ∀ v d ny nz k,
      P "PitfallFormula" [.int v, .int d, .int ny, .int nz, .int k] (Fam.Pitfall.pitfall v d ny nz k g))
    (c : Call) (r : Except Err Formula) (h : evalCallF g c = some r) : P c.fn c.pos r := by
  obtain ⟨fn, pos, kw⟩ := c
  simp only [evalCallF, beq_iff_eq] at h
  replace h := ite_eq_some h
  obtain ⟨rfl, h⟩ | h := h
  · split at h
    · obtain rfl := Option.some.inj h; exact php ..
    · cases h
  replace h := ite_eq_some h
  obtain ⟨rfl, h⟩ | h := h
  · split at h
    · obtain rfl := Option.some.inj h; exact bphp ..
    · cases h
  replace h := ite_eq_some h
  obtain ⟨rfl, h⟩ | h := h
  · split at h
    · obtain rfl := Option.some.inj h; exact rphp ..
    · cases h
  replace h := ite_eq_some h
  obtain ⟨rfl, h⟩ | h := h
  · split at h
    · obtain rfl := Option.some.inj h; exact counting ..
    · cases h
  replace h := ite_eq_some h
  obtain ⟨rfl, h⟩ | h := h
  · split at h
    · obtain rfl := Option.some.inj h; exact cc ..
    · cases h
  replace h := ite_eq_some h
  obtain ⟨rfl, h⟩ | h := h
  · split at h
    · obtain rfl := Option.some.inj h; exact op _ _ _ _ _ _ (.inl ⟨rfl, rfl⟩)
    · obtain rfl := Option.some.inj h; exact op _ _ _ _ _ _ (.inr rfl)
    · cases h
  replace h := ite_eq_some h
  obtain ⟨rfl, h⟩ | h := h
  · split at h
    · obtain rfl := Option.some.inj h; exact ptn ..
    · cases h
  replace h := ite_eq_some h
  obtain ⟨rfl, h⟩ | h := h
  · split at h
    · obtain rfl := Option.some.inj h; exact ramsey ..
    · cases h
  replace h := ite_eq_some h
  obtain ⟨rfl, h⟩ | h := h
  · split at h
    · obtain rfl := Option.some.inj h; exact vdw _ _ _ _ _ ‹_›
    · cases h
  replace h := ite_eq_some h
  obtain ⟨rfl, h⟩ | h := h
  · split at h
    · obtain rfl := Option.some.inj h; exact cpls ..
    · cases h
  replace h := ite_eq_some h
  obtain ⟨rfl, h⟩ | h := h
  · split at h
    · obtain rfl := Option.some.inj h; exact pitfall ..
    · cases h
  cases h

theorem evalCallF_fn_mem (g : SimpleG) (c : Call) (r : Except Err Formula) (h : evalCallF g c = some r) :
    c.fn ∈ evalFns := by
  refine evalCallF_cases g (fun fn _ _ => fn ∈ evalFns) ?_ ?_ ?_ ?_ ?_ ?_ ?_ ?_ ?_ ?_ ?_ c r h <;> intros <;>
    simp [evalFns]

theorem ite_eq_map_ite {α β : Type} (f : α → β) (p : Prop) [Decidable p] (a b : Option β) (a' b' : Option α)
    (ha : a = a'.map f) (hb : b = b'.map f) : ite p a b = (ite p a' b').map f := by
  split <;> assumption

/-- the two chains of `if`s are taken apart together, which leaves one small goal per generator: the same `match` on
both sides -/
theorem evalCall_eq_forget (g : SimpleG) (c : Call) : evalCall c = (evalCallF g c).map forget := by
  unfold evalCall evalCallF
  repeat' apply ite_eq_map_ite
  all_goals try generalize kwBool c "functional" = a, kwBool c "onto" = b
  all_goals try generalize allInts c.pos = p
  all_goals try generalize c.pos = p
  all_goals first | rfl | split <;> simp_all [pitfall_forget]

theorem dich_forget_iff {α : Type} {x : Except Err α} {P Q : Prop} (hd : Dich x P) (hpq : P ↔ Q) :
    (forget x = .ok () ∨ forget x = .error .valueError) ∧ (forget x = .ok () ↔ Q) := by
  rcases hd with ⟨hx, hp⟩ | ⟨⟨F, hx⟩, hp⟩
  · subst hx
    simp [forget, Except.map, ← hpq, hp]
  · subst hx
    simp [forget, Except.map, ← hpq, hp]

theorem dout_evalCall (c : Call) (r : Except Err Unit) (h : evalCall c = some r) :
    (r = .ok () ∨ r = .error .valueError) ∧ (r = .ok () ↔ GenPre c) := by
  rw [evalCall_eq_forget default c, Option.map_eq_some_iff] at h
  obtain ⟨r', hr', rfl⟩ := h
  obtain ⟨fn, pos, kw⟩ := c
  refine evalCallF_cases default
    (fun fn pos r' => (forget r' = .ok () ∨ forget r' = .error .valueError) ∧
      (forget r' = .ok () ↔ GenPre ⟨fn, pos, kw⟩)) ?_ ?_ ?_ ?_ ?_ ?_ ?_ ?_ ?_ ?_ ?_ ⟨fn, pos, kw⟩ r' hr'
  · exact fun m n f o => dich_forget_iff (php_dich m n f o) (by simp [GenPre])
  · exact fun m n => dich_forget_iff (bphp_dich m n) (by simp [GenPre])
  · exact fun m r n => dich_forget_iff (rphp_dich m r n) (by simp [GenPre])
  · exact fun m p => dich_forget_iff (counting_dich m p) (by simp [GenPre])
  · exact fun n k c => dich_forget_iff (cliqueColoring_dich n k c) (by simp [GenPre])
  · exact fun n t s p kv k _ => dich_forget_iff (op_dich n t s p k) (by simp [GenPre])
  · exact fun n => dich_forget_iff (ptn_dich n) (by simp [GenPre])
  · exact fun s k n => dich_forget_iff (ramseyNumber_dich s k n) (by simp [GenPre])
  · exact fun pos n k1 k2 ks hp => dich_forget_iff (vdw_dich n k1 k2 ks) (by simp [GenPre, hp])
  · intro a b c
    refine dich_forget_iff (cpls_dich a b c) ?_
    simp only [GenPre, reduceCtorEq, String.reduceEq, if_false, if_true, List.cons.injEq, Val.int.injEq, and_true]
    exact ⟨fun ⟨a', p, q, h1, h2, h3, ha⟩ => ⟨a', p, q, ⟨h1, h2, h3⟩, ha⟩,
      fun ⟨a', p, q, ⟨h1, h2, h3⟩, ha⟩ => ⟨a', p, q, h1, h2, h3, ha⟩⟩
  · intro v d ny nz k
    rw [pitfall_forget]
    exact ⟨FamPitfall.check_ok_or_valueError .., (FamPitfall.check_iff ..).trans (by simp [GenPre])⟩

theorem evalCall_clean (c : Call) (r : Except Err Unit) (h : evalCall c = some r) :
    r = .ok () ∨ r = .error .valueError := (dout_evalCall c r h).1

theorem evalCall_ok_iff (c : Call) (r : Except Err Unit) (h : evalCall c = some r) :
    r = .ok () ↔ GenPre c := (dout_evalCall c r h).2

theorem dout_evalE_congr (ns ns' : Ns) (h : ∀ k, ns.lookup k = ns'.lookup k) (e : Expr) :
    evalE ns e = evalE ns' e := by
  induction e <;> simp [evalE, *]

theorem dout_evalPos_congr (ns ns' : Ns) (h : ∀ k, ns.lookup k = ns'.lookup k) (es : List Expr) :
    evalPos ns es = evalPos ns' es := by
  induction es with
  | nil => rfl
  | cons e rest ih => simp only [evalPos, dout_evalE_congr ns ns' h e, ih]

theorem dout_evalKw_congr (ns ns' : Ns) (h : ∀ k, ns.lookup k = ns'.lookup k) (kw : List (String × Expr)) :
    evalKw ns kw = evalKw ns' kw := by
  induction kw with
  | nil => rfl
  | cons p rest ih =>
    obtain ⟨k, e⟩ := p
    simp only [evalKw, dout_evalE_congr ns ns' h e, ih]

theorem dout_instantiate_congr (ns ns' : Ns) (h : ∀ k, ns.lookup k = ns'.lookup k) (t : CallTemplate) :
    instantiate ns t = instantiate ns' t := by
  unfold instantiate
  rw [dout_evalPos_congr ns ns' h, dout_evalKw_congr ns ns' h]

theorem dout_zip_exists {α β : Type} (l : List α) (vs : List β) (hl : l.length ≤ vs.length) :
    ∀ x ∈ l, ∃ v, (x, v) ∈ l.zip vs := by
  induction l generalizing vs with
  | nil => simp
  | cons a l ih =>
    cases vs with
    | nil => simp at hl
    | cons v vs =>
      intro x hx
      rcases List.mem_cons.1 hx with rfl | hx
      · exact ⟨v, by simp⟩
      · obtain ⟨w, hw⟩ := ih vs (by simpa using hl) x hx
        exact ⟨w, by simp [hw]⟩

theorem dout_zip_map_self {α β : Type} (l : List α) (g : α → β) :
    l.zip (l.map g) = l.map (fun x => (x, g x)) := by
  induction l with
  | nil => rfl
  | cons a l ih => simp [ih]

theorem dout_vals_unique {α : Type} (f : α → Option Int) (l : List α) (vs : List Int)
    (hl : vs.length = l.length) (h : ∀ p ∈ l.zip vs, f p.1 = some p.2) :
    vs = l.map (fun x => (f x).getD 0) := by
  induction l generalizing vs with
  | nil => cases vs with
    | nil => rfl
    | cons v vs => simp at hl
  | cons a l ih =>
    cases vs with
    | nil => simp at hl
    | cons v vs =>
      have h0 := h (a, v) (by simp)
      simp only at h0
      rw [List.map_cons, h0, Option.getD_some,
        ← ih vs (by simpa using hl) (fun p hp => h p (by simp [hp]))]

theorem dout_zip_map (ps : List OptSpec) (toks : List String) (g : OptSpec × String → Int) :
    (ps.zip ((ps.zip toks).map g)).map (fun p => (p.1.dest, Val.int p.2)) =
      (ps.zip toks).map (fun p => (p.1.dest, Val.int (g p))) := by
  induction ps generalizing toks with
  | nil => rfl
  | cons o os ih =>
    cases toks with
    | nil => simp
    | cons t ts => simp [ih]

theorem dout_covered_parts (s : CliSpec) (hc : outcomeCovered s = true) :
    s.supported = true ∧ numericOnly s = true ∧ specWF s = true ∧ (∀ o ∈ s.opts, o.positional = true) ∧
    ∃ t, s.templates = [t] ∧ t.guard = .bool true ∧ t.raises = "" ∧ t.fn ∈ evalFns := by
  unfold outcomeCovered at hc
  simp only [Bool.and_eq_true, List.all_eq_true] at hc
  obtain ⟨⟨⟨⟨h1, h2⟩, h3⟩, h4⟩, h5⟩ := hc
  refine ⟨h1, h2, h3, h4, ?_⟩
  split at h5
  · rename_i t ht
    simp only [Bool.and_eq_true, beq_iff_eq, List.contains_eq_mem, decide_eq_true_eq] at h5
    exact ⟨t, ht, h5.1.1, h5.1.2, h5.2⟩
  · cases h5

def dout_valOf (p : OptSpec × String) : Int := (validate p.1.ty p.2).getD 0

theorem dout_convertOne_ty (o : OptSpec) (t : String) (h : o.ty ≠ "") :
    convertOne o t = (validate o.ty t).map .int := by
  unfold convertOne
  have : (o.ty == "") = false := by simp [h]
  simp [this]

theorem dout_namespace (s : CliSpec) (hn : numericOnly s = true) (hwf : specWF s = true)
    (hallpos : ∀ o ∈ s.opts, o.positional = true) (argv : List String) (hf : inFragment s argv = true) (b : Ns)
    (h : parseArgs s argv = .ok b)
    (hconv : ∀ p ∈ (positionals s).zip (argTokens s argv), convertOne p.1 p.2 = some (.int (dout_valOf p))) (k : String) :
    (namespaceOf s b).lookup k =
      (nsOfVals s (((positionals s).zip (argTokens s argv)).map dout_valOf)).lookup k := by
  unfold namespaceOf nsOfVals
  rw [List.lookup_append, List.lookup_append, dout_zip_map]
  congr 1
  have hl := fun v => dnum_lookup s hn hwf argv hf b h k v
  refine lookup_eq_of_iff b _ k fun v => ?_
  simp only [List.mem_map, Prod.mk.injEq]
  constructor
  · intro hb
    rcases (hl v).2 hb with ⟨p, hp, rfl, hc⟩ | ⟨o, ho, hp, _⟩
    · exact ⟨p, hp, rfl, Option.some.inj ((hconv p hp).symm.trans hc)⟩
    · rw [hallpos o ho] at hp; cases hp
  · rintro ⟨p, hp, rfl, rfl⟩
    exact (hl _).1 ⟨p, hp, rfl, hconv p hp⟩

/-- `cliOutcome_covered`, from what is needed of the sub-command: typed positionals, a call that can be
instantiated with integers, and that `evalCall` maps -/
theorem dout_cliOutcome_covered (h : HelperSpec) (s : CliSpec) (hspec : specOf h = some s)
    (hc : outcomeCovered s = true)
    (hty : ∀ o ∈ positionals s, o.ty ≠ "")
    (hinst : ∀ vals : List Int, vals.length = (positionals s).length → (callOfVals s vals).isSome = true)
    (hshape : ∀ (vals : List Int) (c : Call), vals.length = (positionals s).length →
      callOfVals s vals = some c → (evalCall c).isSome = true)
    (argv : List String) (hf : inFragment s argv = true) :
    (cliOutcome h argv = some .ok ∨ cliOutcome h argv = some .cliError) ∧
    (cliOutcome h argv = some .ok ↔
      ∃ vals : List Int, ∃ c : Call,
        (argTokens s argv).length = (positionals s).length ∧ vals.length = (positionals s).length ∧
        (∀ p ∈ ((positionals s).zip (argTokens s argv)).zip vals, validate p.1.1.ty p.1.2 = some p.2) ∧
        callOfVals s vals = some c ∧ GenPre c) := by
  obtain ⟨hsup, hn, hwf, hallpos, t, htpl, hguard, hraises, hfn⟩ := dout_covered_parts s hc
  have hpa := dnum_parseArgs s hn argv hf
  cases hr : parseArgs s argv with
  | error e =>
    rw [hr] at hpa
    simp only at hpa
    obtain ⟨he, hno⟩ := hpa
    subst he
    have hco : cliOutcome h argv = some .cliError := by
      simp [cliOutcome, dispatch, hspec, dispatchSpec, dispatchTemplate, hsup, hr]
    rw [hco]
    refine ⟨Or.inr rfl, ?_⟩
    constructor
    · intro hh; cases hh
    · rintro ⟨vals, c, hl1, hl2, hv, _⟩
      exfalso
      apply hno
      refine ⟨hl1, ?_⟩
      intro p hp
      have hlen : ((positionals s).zip (argTokens s argv)).length ≤ vals.length := by
        simp only [List.length_zip]; omega
      obtain ⟨v, hv'⟩ := dout_zip_exists _ vals hlen p hp
      have := hv (p, v) hv'
      simp only at this
      rw [dout_convertOne_ty _ _ (hty p.1 (List.of_mem_zip hp).1), this]
      rfl
  | ok b =>
    rw [hr] at hpa
    simp only at hpa
    obtain ⟨hlen, hall, hin, hout⟩ := hpa
    have hval : ∀ p ∈ (positionals s).zip (argTokens s argv), validate p.1.ty p.2 = some (dout_valOf p) := by
      intro p hp
      have := hall p hp
      rw [dout_convertOne_ty _ _ (hty p.1 (List.of_mem_zip hp).1)] at this
      unfold dout_valOf
      cases hv : validate p.1.ty p.2 with
      | none => simp [hv] at this
      | some v => rfl
    have hconv : ∀ p ∈ (positionals s).zip (argTokens s argv),
        convertOne p.1 p.2 = some (.int (dout_valOf p)) := by
      intro p hp
      rw [dout_convertOne_ty _ _ (hty p.1 (List.of_mem_zip hp).1), hval p hp]
      rfl
    have hlen0 : (((positionals s).zip (argTokens s argv)).map dout_valOf).length = (positionals s).length := by
      simp only [List.length_map, List.length_zip]; omega
    have hns := dout_namespace s hn hwf hallpos argv hf b hr hconv
    have hinstEq := dout_instantiate_congr _ _ hns t
    obtain ⟨c, hcall⟩ := Option.isSome_iff_exists.1 (hinst _ hlen0)
    have hic : instantiate (nsOfVals s (((positionals s).zip (argTokens s argv)).map dout_valOf)) t = .ok c := by
      unfold callOfVals at hcall
      rw [htpl] at hcall
      simp only at hcall
      split at hcall
      · rename_i c' hc'
        cases hcall
        exact hc'
      · cases hcall
    obtain ⟨r, hev⟩ := Option.isSome_iff_exists.1 (hshape _ c hlen0 hcall)
    have hco : cliOutcome h argv = some (shield r) := by
      simp [cliOutcome, dispatch, hspec, dispatchSpec, dispatchTemplate, hsup, hr, htpl, selectTemplate,
        evalGuard, hguard, evalE, truthy, hinstEq, hic, hev]
    have hvalid : ∀ p ∈ ((positionals s).zip (argTokens s argv)).zip
        (((positionals s).zip (argTokens s argv)).map dout_valOf), validate p.1.1.ty p.1.2 = some p.2 := by
      intro p hp
      rw [dout_zip_map_self] at hp
      obtain ⟨q, hq, rfl⟩ := List.mem_map.1 hp
      exact hval q hq
    have huniq : ∀ vals : List Int, vals.length = (positionals s).length →
        (∀ p ∈ ((positionals s).zip (argTokens s argv)).zip vals, validate p.1.1.ty p.1.2 = some p.2) →
        vals = ((positionals s).zip (argTokens s argv)).map dout_valOf := by
      intro vals hl hv
      exact dout_vals_unique (fun p : OptSpec × String => validate p.1.ty p.2) _ vals
        (by simp only [List.length_zip]; omega) hv
    rw [hco]
    rcases evalCall_clean c r hev with rfl | rfl
    · have hpre : GenPre c := (evalCall_ok_iff c _ hev).1 rfl
      refine ⟨Or.inl rfl, ?_⟩
      constructor
      · intro _
        exact ⟨_, c, hlen, hlen0, hvalid, hcall, hpre⟩
      · intro _; rfl
    · refine ⟨Or.inr rfl, ?_⟩
      constructor
      · intro hh; cases hh
      · rintro ⟨vals, c', _, hl2, hv, hcall', hpre⟩
        exfalso
        rw [huniq vals hl2 hv, hcall] at hcall'
        cases hcall'
        have := (evalCall_ok_iff c _ hev).2 hpre
        cases this

/-! ### a decidable sufficient condition for the three side conditions -/

/-- an argument of the call that is a positional of the sub-command or an integer constant -/
def dout_posOK (ds : List String) : Expr → Bool
  | .arg d => ds.contains d
  | .int _ => true
  | _ => false

/-- a keyword argument that is a parameter of the helper's method or a constant -/
def dout_kwOK : Expr → Bool
  | .name _ => true
  | .none => true
  | .bool _ => true
  | .int _ => true
  | .str _ => true
  | _ => false

/-- the generators of `evalCall` whose arguments are all integers, with the number of arguments -/
def dout_arityOK (fn : String) (n : Nat) : Bool :=
  (fn == "BinaryPigeonholePrinciple" && n == 2) || (fn == "RelativizedPigeonholePrinciple" && n == 3) ||
  (fn == "CountingPrinciple" && n == 2) || (fn == "CliqueColoring" && n == 3) ||
  (fn == "PythagoreanTriples" && n == 1) || (fn == "RamseyNumber" && n == 3) ||
  (fn == "VanDerWaerden" && decide (3 ≤ n)) || (fn == "CPLSFormula" && n == 3) ||
  (fn == "PitfallFormula" && n == 5)

def dout_shapeOK (s : CliSpec) : Bool :=
  (positionals s).all (fun o => o.ty != "") &&
  (match s.templates with
   | [t] => t.raises == "" && t.fn != "" && t.pos.all (dout_posOK (destsOf (positionals s))) &&
            t.kw.all (fun p => dout_kwOK p.2) && dout_arityOK t.fn t.pos.length
   | _ => false)

theorem dout_nsOfVals_int (s : CliSpec) (vals : List Int) (hl : vals.length = (positionals s).length) :
    ∀ d ∈ destsOf (positionals s), ∃ i, (nsOfVals s vals).lookup d = some (.int i) := by
  intro d hd
  unfold destsOf at hd
  obtain ⟨o, ho, rfl⟩ := List.mem_map.1 hd
  obtain ⟨v, hv⟩ := dout_zip_exists (positionals s) vals (by omega) o ho
  have hm : (o.dest, Val.int v) ∈ ((positionals s).zip vals).map (fun p => (p.1.dest, Val.int p.2)) :=
    List.mem_map.2 ⟨(o, v), hv, rfl⟩
  obtain ⟨w, hw⟩ := dtot_lookup_some _ _ _ hm
  have hw' := dtot_lookup_mem _ _ _ hw
  obtain ⟨q, _, hq⟩ := List.mem_map.1 hw'
  unfold nsOfVals
  rw [List.lookup_append, hw]
  exact ⟨q.2, by rw [← (Prod.mk.inj hq).2, Option.some_or]⟩

theorem evalPos_ints_of (ns : Ns) (es : List Expr)
    (h : ∀ e ∈ es, (∀ e', e ≠ .star e') ∧ ∃ i, evalE ns e = some (.int i)) :
    ∃ l : List Int, evalPos ns es = some (l.map .int) ∧ l.length = es.length := by
  induction es with
  | nil => exact ⟨[], rfl, rfl⟩
  | cons e rest ih =>
    obtain ⟨l, hl, hlen⟩ := ih fun e' he' => h e' (List.mem_cons_of_mem _ he')
    obtain ⟨hns, i, hi⟩ := h e (List.mem_cons_self ..)
    exact ⟨i :: l, evalPos_cons _ _ _ _ _ hns hi hl, congrArg (· + 1) hlen⟩

theorem dout_evalPos_ints (ns : Ns) (ds : List String) (hns : ∀ d ∈ ds, ∃ i, ns.lookup d = some (.int i))
    (es : List Expr) (hes : ∀ e ∈ es, dout_posOK ds e = true) :
    ∃ l : List Int, evalPos ns es = some (l.map .int) ∧ l.length = es.length := by
  refine evalPos_ints_of ns es fun e he => ?_
  have := hes e he
  cases e <;> simp only [dout_posOK, Bool.false_eq_true] at this
  case arg d =>
    obtain ⟨i, hi⟩ := hns d (by simpa using this)
    exact ⟨fun _ hc => (by cases hc), i, by simp [evalE, hi]⟩
  case int i => exact ⟨fun _ hc => (by cases hc), i, rfl⟩

theorem dout_evalKw_some (ns : Ns) (kw : List (String × Expr)) (h : ∀ p ∈ kw, dout_kwOK p.2 = true) :
    ∃ k, evalKw ns kw = some k := by
  refine evalKw_defined ns kw fun p hp => ?_
  have he := h p hp
  cases hp2 : p.2 <;> rw [hp2] at he <;> simp only [dout_kwOK, Bool.false_eq_true] at he
  all_goals exact ⟨_, rfl⟩

theorem dout_allInts_map (l : List Int) : allInts (l.map .int) = some l := by
  induction l with
  | nil => rfl
  | cons a l ih => simp [allInts, ih]

theorem dout_evalCall_ints (fn : String) (l : List Int) (kw : List (String × Val))
    (h : dout_arityOK fn l.length = true) : (evalCall ⟨fn, l.map .int, kw⟩).isSome = true := by
  unfold dout_arityOK at h
  simp only [Bool.or_eq_true, Bool.and_eq_true, beq_iff_eq, decide_eq_true_eq] at h
  rcases h with (((((((⟨rfl, hl⟩ | ⟨rfl, hl⟩) | ⟨rfl, hl⟩) | ⟨rfl, hl⟩) | ⟨rfl, hl⟩) | ⟨rfl, hl⟩) | ⟨rfl, hl⟩) |
    ⟨rfl, hl⟩) | ⟨rfl, hl⟩
  · match l, hl with
    | [a, b], _ => simp [evalCall]
  · match l, hl with
    | [a, b, c], _ => simp [evalCall]
  · match l, hl with
    | [a, b], _ => simp [evalCall]
  · match l, hl with
    | [a, b, c], _ => simp [evalCall]
  · match l, hl with
    | [a], _ => simp [evalCall]
  · match l, hl with
    | [a, b, c], _ => simp [evalCall]
  · match l, hl with
    | a :: b :: c :: ks, _ =>
      have := dout_allInts_map (a :: b :: c :: ks)
      simp only [List.map_cons] at this
      simp [evalCall, this]
  · match l, hl with
    | [a, b, c], _ => simp [evalCall]
  · match l, hl with
    | [a, b, c, d, e], _ => simp [evalCall]

theorem dout_shape (s : CliSpec) (h : dout_shapeOK s = true) :
    (∀ o ∈ positionals s, o.ty ≠ "") ∧
    (∀ vals : List Int, vals.length = (positionals s).length → (callOfVals s vals).isSome = true) ∧
    (∀ (vals : List Int) (c : Call), vals.length = (positionals s).length →
      callOfVals s vals = some c → (evalCall c).isSome = true) := by
  unfold dout_shapeOK at h
  rw [Bool.and_eq_true, List.all_eq_true] at h
  obtain ⟨hty, ht⟩ := h
  split at ht
  case h_2 => cases ht
  rename_i t htpl
  simp only [Bool.and_eq_true, List.all_eq_true, beq_iff_eq, bne_iff_ne] at ht
  obtain ⟨⟨⟨⟨hraises, hfn⟩, hpos⟩, hkw⟩, har⟩ := ht
  have hcall : ∀ vals : List Int, vals.length = (positionals s).length →
      ∃ (l : List Int) (k : List (String × Val)), l.length = t.pos.length ∧
        callOfVals s vals = some ⟨t.fn, l.map .int, k⟩ := by
    intro vals hl
    obtain ⟨l, hl1, hl2⟩ := dout_evalPos_ints _ _ (dout_nsOfVals_int s vals hl) t.pos hpos
    obtain ⟨k, hk⟩ := dout_evalKw_some (nsOfVals s vals) t.kw hkw
    refine ⟨l, k, hl2, ?_⟩
    unfold callOfVals
    rw [htpl]
    simp [instantiate, hraises, hfn, hl1, hk]
  refine ⟨fun o ho => by simpa using hty o ho, ?_, ?_⟩
  · intro vals hl
    obtain ⟨l, k, _, hc⟩ := hcall vals hl
    rw [hc]; rfl
  · intro vals c hl hc
    obtain ⟨l, k, hlen, hc'⟩ := hcall vals hl
    rw [hc'] at hc
    cases hc
    exact dout_evalCall_ints _ _ _ (by rw [hlen]; exact har)

/-- the covered sub-commands of the regenerated table, by name, each with that shape and standard options (one
evaluation of the table for the three facts below) -/
theorem dout_covered_table :
    (cliSpecs.filter outcomeCovered).map (fun s => ((s.kind, s.name), dout_shapeOK s && s.standard)) =
      [(("formula", "bphp"), true), (("formula", "cliquecoloring"), true), (("formula", "count"), true),
       (("formula", "cpls"), true), (("formula", "parity"), true), (("formula", "pitfall"), true),
       (("formula", "ptn"), true), (("formula", "ram"), true), (("formula", "rphp"), true)] := by decide +kernel

theorem dout_covered_all : (cliSpecs.filter outcomeCovered).all (fun s => dout_shapeOK s && s.standard) = true := by
  have h := congrArg (List.all · Prod.snd) dout_covered_table
  rw [List.all_map] at h
  exact h

theorem dout_covered_shapeOK : (cliSpecs.filter outcomeCovered).all dout_shapeOK = true :=
  List.all_eq_true.2 fun s hs => (Bool.and_eq_true_iff.1 (List.all_eq_true.1 dout_covered_all s hs)).1

theorem outcomeCovered_standard (s : CliSpec) (hs : s ∈ cliSpecs) (hc : outcomeCovered s = true) :
    s.standard = true :=
  (Bool.and_eq_true_iff.1 (List.all_eq_true.1 dout_covered_all s (List.mem_filter.2 ⟨hs, hc⟩))).2

theorem dout_specOf_mem (h : HelperSpec) (s : CliSpec) (hspec : specOf h = some s) : s ∈ cliSpecs := by
  unfold specOf at hspec
  exact List.mem_of_find?_eq_some hspec

/-- `cliOutcome` of a covered sub-command, for every command line of the fragment: a CLIError unless the
number of tokens is the number of positionals, every token passes the validator of its positional, and the
call made with the converted values is accepted by the generator; then `ok` -/
theorem cliOutcome_covered (h : HelperSpec) (s : CliSpec) (hspec : specOf h = some s)
    (hc : outcomeCovered s = true) (argv : List String) (hf : inFragment s argv = true) :
    (cliOutcome h argv = some .ok ∨ cliOutcome h argv = some .cliError) ∧
    (cliOutcome h argv = some .ok ↔
      ∃ vals : List Int, ∃ c : Call,
        (argTokens s argv).length = (positionals s).length ∧ vals.length = (positionals s).length ∧
        (∀ p ∈ ((positionals s).zip (argTokens s argv)).zip vals, validate p.1.1.ty p.1.2 = some p.2) ∧
        callOfVals s vals = some c ∧ GenPre c) := by
  have hsh : dout_shapeOK s = true :=
    (List.all_eq_true.1 dout_covered_shapeOK) s (List.mem_filter.2 ⟨dout_specOf_mem h s hspec, hc⟩)
  obtain ⟨hty, hinst, hshape⟩ := dout_shape s hsh
  exact dout_cliOutcome_covered h s hspec hc hty hinst hshape argv hf

/-- the stages of the run of a covered sub-command on a command line of the fragment: the parser or the helper's path
refuses (CLIError), or the path is a library call that `evalCall` maps -/
theorem covered_run (h : HelperSpec) (s : CliSpec) (hspec : specOf h = some s) (hc : outcomeCovered s = true)
    (argv : List String) (hf : inFragment s argv = true) :
    dispatchTemplate s argv = .error .cliError ∨
    ∃ t ns, dispatchTemplate s argv = .ok (t, ns) ∧
      (instantiate ns t = .error .cliError ∨ ∃ c r, instantiate ns t = .ok c ∧ evalCall c = some r) := by
  have he := (cliOutcome_covered h s hspec hc argv hf).1
  unfold cliOutcome dispatch at he
  rw [hspec] at he
  dsimp only at he
  unfold dispatchSpec at he
  cases hd : dispatchTemplate s argv with
  | error e =>
    rw [hd] at he
    cases e with
    | cliError => exact Or.inl rfl
    | crash x => rcases he with he | he <;> simp at he
    | unsupported x => rcases he with he | he <;> simp at he
  | ok tn =>
    obtain ⟨t, ns⟩ := tn
    rw [hd] at he
    dsimp only at he
    refine Or.inr ⟨t, ns, rfl, ?_⟩
    cases hi : instantiate ns t with
    | error e =>
      rw [hi] at he
      cases e with
      | cliError => exact Or.inl rfl
      | crash x => rcases he with he | he <;> simp at he
      | unsupported x => rcases he with he | he <;> simp at he
    | ok c =>
      rw [hi] at he
      dsimp only at he
      cases hev : evalCall c with
      | none => rw [hev] at he; rcases he with he | he <;> simp at he
      | some r => exact Or.inr ⟨c, r, rfl, hev⟩

/-- a helper, its sub-command and two decidable facts about the latter, by ONE evaluation of the tables (witnesses for the
hypotheses of the end-to-end theorems) -/
theorem exists_spec_of_find (p : HelperSpec → Bool) (q r : CliSpec → Bool)
    (h : ((helpers.find? p).bind fun h => (specOf h).map fun s => q s && r s) = some true) :
    ∃ h s, helpers.find? p = some h ∧ specOf h = some s ∧ q s = true ∧ r s = true := by
  obtain ⟨h', hf, hm⟩ := Option.bind_eq_some_iff.1 h
  obtain ⟨s, hs, hq⟩ := Option.map_eq_some_iff.1 hm
  exact ⟨h', s, hf, hs, Bool.and_eq_true_iff.1 hq⟩

end Cnfgen.Cli
