/-
Binary mapping `new_binary_mapping(k, N)` as `BinaryCliqueFormula` uses it: the 0-based code `code α bits i` of the image
of `i` (the `bval` of Lemmas/C01Binary.lean, where the general facts are), the table of the codes, and the meaning of the
constraints of `BinaryCliqueFormula` on that table.
-/
import CnfgenModel.Fam.Subgraph
import Lemmas.FamSubgraph
import Lemmas.FamCount
import Lemmas.VarsBinary
import Lemmas.C01Binary
namespace Cnfgen
namespace Fam
namespace G2
open Vars

theorem clog2_le (m b : Nat) (h : m ≤ 2 ^ b) : clog2 m ≤ b := (Vars.clog2_spec m).2 b h

/-- the 0-based code of the image of `i`: bit `b` is the variable `binId 1 bits i b` -/
def code (α : Assign) (bits i : Nat) : Nat := binVal α 1 bits i

theorem code_lt (α : Assign) (bits i : Nat) : code α bits i < 2 ^ bits := binVal_lt α 1 bits i

theorem code_eq_bval (α : Assign) (bits i : Nat) : code α bits i = bval α 1 bits i := (bval_eq_binVal α 1 bits i).symm

theorem code_eq_iff (α : Assign) {bits j : Nat} (i : Nat) (hj : j < 2 ^ bits) :
    code α bits i = j ↔ ∀ b < bits, α (binId 1 bits i b) = j.testBit b :=
  bitSum_eq_iff_testBit bits _ j hj

theorem testBit_code (α : Assign) {bits b : Nat} (i : Nat) (hb : b < bits) :
    (code α bits i).testBit b = α (binId 1 bits i b) :=
  ((code_eq_iff α i (code_lt α bits i)).1 rfl b hb).symm

/-- `forbidC` is the `forbidLits` of `Lemmas/C01Binary.lean` by unfolding, so `Fam.forbid2_holds` applies as it stands. -/
theorem forbid2_holds (α : Assign) {bits i i' j j' : Nat} (hi : 1 ≤ i) (hi' : 1 ≤ i') (hj : j < 2 ^ bits)
    (hj' : j' < 2 ^ bits) :
    Con.holds α (.clause (forbidC 1 bits i j ++ forbidC 1 bits i' j')) = true ↔
      ¬ (code α bits i = j ∧ code α bits i' = j') := by
  rw [code_eq_bval, code_eq_bval]
  exact Fam.forbid2_holds α (Nat.le_refl 1) hi hi' hj hj'

/-- the table read off the codes: vertex = code + 1 -/
def binTable (α : Assign) (bits k : Nat) : List Nat := (List.range k).map (fun p => code α bits (p + 1) + 1)

theorem img_binTable (α : Assign) (bits : Nat) {k i : Nat} (h1 : 1 ≤ i) (h2 : i ≤ k) :
    img (binTable α bits k) i = code α bits i + 1 :=
  img_map_range (fun i => code α bits i + 1) h1 h2

theorem binTable_length (α : Assign) (bits k : Nat) : (binTable α bits k).length = k := by
  simp [binTable]

theorem binComplete_table (α : Assign) (bits k N : Nat) :
    (∀ c ∈ binComplete 1 bits k N, Con.holds α c = true) ↔ ∀ v ∈ binTable α bits k, 1 ≤ v ∧ v ≤ N := by
  rw [binComplete_holds α (Nat.le_refl 1)]
  simp only [binTable, List.forall_mem_map, List.mem_range, code_eq_bval]
  refine ⟨fun h p hp => ⟨Nat.le_add_left 1 _, h (p + 1) (Nat.le_add_left 1 _) hp⟩, fun h i h1 h2 => ?_⟩
  have := (h (i - 1) (by omega)).2
  rwa [Nat.sub_add_cancel h1] at this

theorem code_lt_of_table {α : Assign} {bits k N : Nat}
    (hr : ∀ v ∈ binTable α bits k, 1 ≤ v ∧ v ≤ N) {i : Nat} (h1 : 1 ≤ i) (h2 : i ≤ k) :
    code α bits i < N := by
  have := (hr _ (img_mem h1 (by rw [binTable_length]; exact h2))).2
  rw [img_binTable α bits h1 h2] at this
  omega

section
variable {α : Assign} {bits k N : Nat} (hN : N ≤ 2 ^ bits)
  (hr : ∀ v ∈ binTable α bits k, 1 ≤ v ∧ v ≤ N)
include hN hr

theorem binInjective_table :
    (∀ c ∈ binInjective 1 bits k N, Con.holds α c = true) ↔ (binTable α bits k).Nodup := by
  rw [List.nodup_iff_pairwise_ne, ← pairwise_img_iff (binTable_length α bits k),
    binInjective_holds α (Nat.le_refl 1) hN]
  simp only [← code_eq_bval]
  constructor
  · intro h i h1 i' hlt h2 e
    rw [img_binTable α bits h1 (by omega), img_binTable α bits (by omega) h2] at e
    exact h _ (code_lt_of_table hr h1 (by omega)) i i' h1 hlt h2 ⟨rfl, by omega⟩
  · rintro h y _ i i' h1 hlt h2 ⟨e1, e2⟩
    apply h i h1 i' hlt h2
    rw [img_binTable α bits h1 (by omega), img_binTable α bits (by omega) h2, e1, e2]

theorem binNondecreasing_table :
    (∀ c ∈ binNondecreasing 1 bits k N, Con.holds α c = true) ↔
      (binTable α bits k).Pairwise (· ≤ ·) := by
  rw [← pairwise_img_iff (binTable_length α bits k)]
  simp only [binNondecreasing, List.forall_mem_flatMap, List.forall_mem_map, Prod.forall, mem_pairs2_verts,
    mem_pairs2_range, and_imp]
  constructor
  · intro h i h1 i' hlt h2
    rw [img_binTable α bits h1 (by omega), img_binTable α bits (by omega) h2]
    apply Classical.byContradiction
    intro hgt
    have hc := code_lt_of_table hr h1 (by omega)
    exact (forbid2_holds α h1 (by omega) (code_lt α _ _) (code_lt α _ _)).1
      (h i i' h1 hlt h2 _ _ (by omega) hc) ⟨rfl, rfl⟩
  · intro h i i' h1 hlt h2 v1 v2 hv hv2
    rw [forbid2_holds α h1 (by omega) (by omega) (by omega)]
    rintro ⟨e1, e2⟩
    have := h i h1 i' hlt h2
    rw [img_binTable α bits h1 (by omega), img_binTable α bits (by omega) h2] at this
    omega

end

theorem binTable_pair_clause {α : Assign} {bits k N : Nat} (hN : N ≤ 2 ^ bits) (i i' a b : Nat) (hi : 1 ≤ i)
    (hii' : i < i') (hi' : i' ≤ k) (ha1 : 1 ≤ a) (ha : a ≤ N) (hb1 : 1 ≤ b) (hb : b ≤ N) :
    Con.holds α (.clause (forbidC 1 bits i (a - 1) ++ forbidC 1 bits i' (b - 1))) = true ↔
      ¬ (img (binTable α bits k) i = a ∧ img (binTable α bits k) i' = b) := by
  rw [forbid2_holds α hi (by omega) (by omega) (by omega), img_binTable α bits hi (by omega),
    img_binTable α bits (by omega) hi']
  omega

theorem binCliqueEdges_table {α : Assign} {G : SimpleG} (hG : GoodGraph G) {k : Nat} {symbreak : Bool}
    (hr : ∀ v ∈ binTable α (clog2 G.n) k, 1 ≤ v ∧ v ≤ G.n) (hs : Shape symbreak (binTable α (clog2 G.n) k)) :
    (∀ c ∈ binCliqueEdgeCons G k symbreak, Con.holds α c = true) ↔
      (binTable α (clog2 G.n) k).Pairwise (fun a b => adj G a b = true) :=
  nonEdgeClauses_table (cl := fun i a i' b => .clause (forbidC 1 (clog2 G.n) i (a - 1) ++ forbidC 1 (clog2 G.n) i' (b - 1)))
    hG (binTable_length α _ k) hr hs (binTable_pair_clause (le_two_pow_clog2 G.n))

/-- the assignment whose codes are `l[i-1] - 1` -/
def encodeB (bits k : Nat) (l : List Nat) : Assign :=
  fun x => decide (1 ≤ x ∧ x ≤ k * bits) &&
    Nat.testBit (img l ((x - 1) / bits + 1) - 1) (bits - 1 - (x - 1) % bits)

theorem encodeB_binId {bits k : Nat} (l : List Nat) {i b : Nat} (hi1 : 1 ≤ i) (hi : i ≤ k) (hb : b < bits) :
    encodeB bits k l (binId 1 bits i b) = Nat.testBit (img l i - 1) b := by
  show (decide _ && binAssignOf bits (fun i => img l i - 1) (binId 1 bits i b)) = _
  rw [binAssignOf_binId _ hi1 hb, decide_eq_true (Fam.binId_le hi1 hi hb), Bool.true_and]

theorem code_encodeB {bits k : Nat} (l : List Nat) {i : Nat} (hi1 : 1 ≤ i) (hi : i ≤ k)
    (hlt : img l i - 1 < 2 ^ bits) : code (encodeB bits k l) bits i = img l i - 1 :=
  (code_eq_iff _ i hlt).2 fun _ hb => encodeB_binId l hi1 hi hb

theorem binTable_encodeB {bits k N : Nat} (hN : N ≤ 2 ^ bits) {l : List Nat} (hlen : l.length = k)
    (hr : ∀ v ∈ l, 1 ≤ v ∧ v ≤ N) : binTable (encodeB bits k l) bits k = l := by
  apply ext_img (by simp [binTable, hlen])
  intro i h1 h2
  have h2' : i ≤ k := by simpa [binTable] using h2
  rw [img_binTable _ _ h1 h2']
  have := hr _ (img_mem h1 (by rw [hlen]; exact h2'))
  rw [code_encodeB l h1 h2' (by omega)]
  omega

theorem binTable_congr {bits k : Nat} {α β : Assign} (h : AgreeOn (k * bits) α β) :
    binTable α bits k = binTable β bits k := by
  unfold binTable
  apply List.map_congr_left
  intro p hp
  rw [List.mem_range] at hp
  refine congrArg (· + 1) ((code_eq_iff α _ (code_lt β bits _)).2 fun b hb => ?_)
  have hid := Fam.binId_le (Nat.le_add_left 1 p) hp hb
  rw [h _ hid.1 hid.2, testBit_code β _ hb]

theorem agree_encodeB_binTable (α : Assign) (bits k : Nat) :
    AgreeOn (k * bits) α (encodeB bits k (binTable α bits k)) := by
  intro x h1 h2
  obtain ⟨i, b, hi1, hi2, hb, rfl⟩ := binId_surj h1 h2
  rw [encodeB_binId _ hi1 hi2 hb, img_binTable α bits hi1 hi2, Nat.add_sub_cancel, testBit_code α _ hb]

theorem binaryCliqueCore_consIn (G : SimpleG) (k : Nat) (symbreak : Bool) :
    ConsIn 1 (k * clog2 G.n) (binaryCliqueCore G k symbreak).cons := by
  have two : ∀ (i i' j j' : Nat), 1 ≤ i → i ≤ k → 1 ≤ i' → i' ≤ k →
      ∀ l ∈ (Con.clause (forbidC 1 (clog2 G.n) i j ++ forbidC 1 (clog2 G.n) i' j')).lits,
        l ≠ 0 ∧ 1 ≤ l.natAbs ∧ l.natAbs ≤ k * clog2 G.n := fun _ _ _ _ a b a' b' => forbid2_in a b a' b'
  have hc := binComplete_in (clog2 G.n) k G.n
  have hi := binInjective_in (clog2 G.n) k G.n
  have hn : ConsIn 1 (k * clog2 G.n) (if symbreak then binNondecreasing 1 (clog2 G.n) k G.n else []) := by
    cases symbreak
    · exact ConsIn.nil
    · intro c hc
      simp only [if_true, binNondecreasing, List.mem_flatMap, List.mem_map, Prod.exists, mem_pairs2_verts] at hc
      obtain ⟨i, i', ⟨h1, hlt, h2⟩, v1, v2, _, rfl⟩ := hc
      exact two i i' v2 v1 h1 (by omega) (by omega) h2
  have he : ConsIn 1 (k * clog2 G.n) (binCliqueEdgeCons G k symbreak) := by
    intro c hc
    simp only [binCliqueEdgeCons, List.mem_flatMap, Prod.exists, mem_pairs2_verts] at hc
    obtain ⟨i, i', ⟨h1, hlt, h2⟩, a, b, _, hc⟩ := hc
    rcases List.mem_cons.1 hc with rfl | hc
    · exact two i i' (a - 1) (b - 1) h1 (by omega) (by omega) h2
    · cases symbreak
      · simp only [Bool.not_false, if_true, List.mem_singleton] at hc
        subst hc
        exact two i i' (b - 1) (a - 1) h1 (by omega) (by omega) h2
      · simp at hc
  exact ((hc.append hi).append hn).append he

end G2
end Fam
end Cnfgen
