/-
Helper lemmas for C05: the substitution engine (`apply_substitution` = OR of CNFs by
distribution), the faithful `run` loop on well-formed input, literal ranges of the builders.
-/
import CnfgenModel.Trans.Subst
import Lemmas.Linear
namespace Cnfgen
namespace Subst
open Linear

theorem mem_distribute_cons (D : List Clause) (Ds : List (List Clause)) (d : Clause) :
    d ∈ distribute (D :: Ds) ↔ ∃ x ∈ D, ∃ e ∈ distribute Ds, d = x ++ e := by
  simp only [distribute, product, List.mem_map, List.mem_flatMap]
  constructor
  · rintro ⟨t, ⟨x, hx, t', ht', rfl⟩, rfl⟩
    exact ⟨x, hx, t'.flatten, ⟨t', ht', rfl⟩, by simp⟩
  · rintro ⟨x, hx, e, ⟨t', ht', rfl⟩, rfl⟩
    exact ⟨x :: t', ⟨x, hx, t', ht', rfl⟩, by simp⟩

theorem distribute_holds (β : Assign) (doms : List (List Clause)) :
    (∀ d ∈ distribute doms, clauseHolds β d = true) ↔
      ∃ D ∈ doms, ∀ c ∈ D, clauseHolds β c = true := by
  induction doms with
  | nil => simp [distribute, product, clauseHolds]
  | cons D Ds ih =>
    simp only [List.mem_cons, exists_eq_or_imp, ← ih]
    constructor
    · intro h
      by_cases hD : ∀ c ∈ D, clauseHolds β c = true
      · exact Or.inl hD
      · right
        simp only [Classical.not_forall] at hD
        obtain ⟨c, hc, hcf⟩ := hD
        intro e he
        have := h (c ++ e) ((mem_distribute_cons D Ds _).2 ⟨c, hc, e, he, rfl⟩)
        rw [clauseHolds_append] at this
        simpa [hcf] using this
    · intro h d hd
      obtain ⟨x, hx, e, he, rfl⟩ := (mem_distribute_cons D Ds d).1 hd
      rw [clauseHolds_append]
      rcases h with h | h
      · simp [h x hx]
      · simp [h e he]

theorem mem_substClauses (enc : Int → List Clause) (cs : List Clause) (d : Clause) :
    d ∈ substClauses enc cs ↔ ∃ c ∈ cs, d ∈ distribute (c.map enc) := by
  simp [substClauses, List.mem_flatMap]

/-- under `β` the encoder gives the original variable `v` the value `b`: its clauses for the literal `v` hold iff `b`,
those for `-v` iff `¬ b` -/
def Means (β : Assign) (enc : Int → List Clause) (v : Nat) (b : Bool) : Prop :=
  ((∀ c ∈ enc (v : Int), clauseHolds β c = true) ↔ b = true) ∧
  ((∀ c ∈ enc (-(v : Int)), clauseHolds β c = true) ↔ b = false)

theorem enc_holds (β g : Assign) (enc : Int → List Clause) (N : Nat)
    (hm : ∀ v, 1 ≤ v → v ≤ N → Means β enc v (g v))
    (l : Int) (h0 : l ≠ 0) (hN : l.natAbs ≤ N) :
    (∀ c ∈ enc l, clauseHolds β c = true) ↔ litHolds g l = true := by
  by_cases hp : 0 < l
  · have e : l = ((l.natAbs : Nat) : Int) := by omega
    rw [e, litHolds_natCast g (by omega)]
    exact (hm l.natAbs (by omega) hN).1
  · have e : l = -((l.natAbs : Nat) : Int) := by omega
    rw [e, litHolds_neg_natCast, Bool.not_eq_true']
    exact (hm l.natAbs (by omega) hN).2

def Bounded (M : Nat) (cs : List Clause) : Prop := ∀ c ∈ cs, ∀ x ∈ c, x ≠ 0 ∧ x.natAbs ≤ M

/-- T-C05.0, clause-list form, for any per-literal encoder that gives the variables of the formula the values `g`
(under this `β`). -/
theorem substClauses_holds (β g : Assign) (enc : Int → List Clause) (N : Nat) (cs : List Clause)
    (hF : Bounded N cs) (hm : ∀ v, 1 ≤ v → v ≤ N → Means β enc v (g v)) :
    (∀ d ∈ substClauses enc cs, clauseHolds β d = true) ↔ ∀ c ∈ cs, clauseHolds g c = true := by
  have key : ∀ c ∈ cs, (∀ d ∈ distribute (c.map enc), clauseHolds β d = true) ↔ clauseHolds g c = true := by
    intro c hc
    have hl := fun l hl => enc_holds β g enc N hm l (hF c hc l hl).1 (hF c hc l hl).2
    have hg : clauseHolds g c = true ↔ ∃ l ∈ c, litHolds g l = true := by simp [clauseHolds]
    rw [distribute_holds, hg]
    simp only [List.mem_map]
    constructor
    · rintro ⟨_, ⟨l, hlc, rfl⟩, h⟩; exact ⟨l, hlc, (hl l hlc).1 h⟩
    · rintro ⟨l, hlc, h⟩; exact ⟨_, ⟨l, hlc, rfl⟩, (hl l hlc).2 h⟩
  constructor
  · intro h c hc
    exact (key c hc).1 (fun d hd => h d ((mem_substClauses enc cs d).2 ⟨c, hc, hd⟩))
  · intro h d hd
    obtain ⟨c, hc, hd⟩ := (mem_substClauses enc cs d).1 hd
    exact (key c hc).2 (h c hc) d hd

/-- the encoder maps the literals of a formula over `N` variables to clauses over `M` variables -/
def EncB (N M : Nat) (enc : Int → List Clause) : Prop :=
  ∀ l : Int, l ≠ 0 → l.natAbs ≤ N → Bounded M (enc l)

theorem mem_distribute_lits (doms : List (List Clause)) (d : Clause) (l : Int)
    (hd : d ∈ distribute doms) (hl : l ∈ d) : ∃ D ∈ doms, ∃ c ∈ D, l ∈ c := by
  induction doms generalizing d with
  | nil => simp [distribute, product] at hd; subst hd; simp at hl
  | cons D Ds ih =>
    obtain ⟨x, hx, e, he, rfl⟩ := (mem_distribute_cons D Ds d).1 hd
    rcases List.mem_append.1 hl with h | h
    · exact ⟨D, by simp, x, hx, h⟩
    · obtain ⟨D', hD', c, hc, hlc⟩ := ih e he h
      exact ⟨D', by simp [hD'], c, hc, hlc⟩

theorem substClauses_bounded (N M : Nat) (enc : Int → List Clause) (cs : List Clause)
    (hF : Bounded N cs) (henc : EncB N M enc) :
    Bounded M (substClauses enc cs) := by
  intro d hd x hx
  obtain ⟨c, hc, hd⟩ := (mem_substClauses enc cs d).1 hd
  obtain ⟨D, hD, c', hc', hx'⟩ := mem_distribute_lits _ d x hd hx
  obtain ⟨l, hl, rfl⟩ := List.mem_map.1 hD
  exact henc l (hF c hc l hl).1 (hF c hc l hl).2 c' hc' x hx'

theorem Bounded.append {M : Nat} {a b : List Clause} (ha : Bounded M a) (hb : Bounded M b) :
    Bounded M (a ++ b) := by
  intro c hc
  rcases List.mem_append.1 hc with h | h
  · exact ha c h
  · exact hb c h

/-! ### `_check_and_update` and the variable count -/

theorem foldl_max_init (ls : List Int) (a : Nat) :
    ls.foldl (fun m l => max m l.natAbs) a = max a (clauseMax ls) := by
  unfold clauseMax
  induction ls generalizing a with
  | nil => simp
  | cons x xs ih =>
    rw [List.foldl_cons, List.foldl_cons, ih (max a x.natAbs), ih (max 0 x.natAbs), Nat.zero_max, Nat.max_assoc]

theorem clauseMax_cons (x : Int) (xs : List Int) :
    clauseMax (x :: xs) = max x.natAbs (clauseMax xs) := by
  rw [clauseMax, List.foldl_cons, foldl_max_init, Nat.zero_max]

theorem le_clauseMax (c : Clause) (x : Int) (hx : x ∈ c) : x.natAbs ≤ clauseMax c := by
  induction c with
  | nil => simp at hx
  | cons y ys ih =>
    rw [clauseMax_cons]
    rcases List.mem_cons.1 hx with h | h
    · subst h; exact Nat.le_max_left _ _
    · exact Nat.le_trans (ih h) (Nat.le_max_right _ _)

theorem clauseMax_le (c : Clause) (M : Nat) (h : ∀ x ∈ c, x.natAbs ≤ M) : clauseMax c ≤ M := by
  induction c with
  | nil => simp [clauseMax]
  | cons y ys ih =>
    rw [clauseMax_cons]
    exact Nat.max_le.2 ⟨h y (by simp), ih (fun x hx => h x (by simp [hx]))⟩

theorem foldl_maxVar_init (cs : List Clause) (a : Nat) :
    cs.foldl (fun m c => max m (clauseMax c)) a = max a (maxVar cs) := by
  unfold maxVar
  induction cs generalizing a with
  | nil => simp
  | cons x xs ih =>
    rw [List.foldl_cons, List.foldl_cons, ih (max a (clauseMax x)), ih (max 0 (clauseMax x)), Nat.zero_max,
      Nat.max_assoc]

theorem maxVar_cons (c : Clause) (cs : List Clause) :
    maxVar (c :: cs) = max (clauseMax c) (maxVar cs) := by
  rw [maxVar, List.foldl_cons, foldl_maxVar_init, Nat.zero_max]

theorem maxVar_nil : maxVar [] = 0 := rfl

theorem maxVar_append (a b : List Clause) : maxVar (a ++ b) = max (maxVar a) (maxVar b) := by
  induction a with
  | nil => rw [List.nil_append, maxVar_nil, Nat.zero_max]
  | cons x xs ih => rw [List.cons_append, maxVar_cons, maxVar_cons, ih, Nat.max_assoc]

theorem le_maxVar (cs : List Clause) (c : Clause) (x : Int) (hc : c ∈ cs) (hx : x ∈ c) :
    x.natAbs ≤ maxVar cs := by
  induction cs with
  | nil => simp at hc
  | cons y ys ih =>
    rw [maxVar_cons]
    rcases List.mem_cons.1 hc with h | h
    · subst h; exact Nat.le_trans (le_clauseMax c x hx) (Nat.le_max_left _ _)
    · exact Nat.le_trans (ih h) (Nat.le_max_right _ _)

theorem maxVar_le (cs : List Clause) (M : Nat) (h : ∀ c ∈ cs, ∀ x ∈ c, x.natAbs ≤ M) :
    maxVar cs ≤ M := by
  induction cs with
  | nil => simp [maxVar_nil]
  | cons y ys ih =>
    rw [maxVar_cons]
    exact Nat.max_le.2 ⟨clauseMax_le y M (h y (by simp)), ih (fun c hc => h c (by simp [hc]))⟩

theorem checkLits_ok (n : Nat) (c : Clause) (h : ∀ l ∈ c, l ≠ 0) :
    checkLits n c = .ok (max n (clauseMax c)) := by
  unfold checkLits
  have : ¬ (0 : Int) ∈ c := fun h0 => h 0 h0 rfl
  simp [this, foldl_max_init]

theorem addClause_ok (G : CNF) (c : Clause) (h : ∀ l ∈ c, l ≠ 0) :
    G.addClause c true = .ok ⟨max G.nvars (clauseMax c), G.clauses ++ [c]⟩ := by
  unfold CNF.addClause
  cases c with
  | nil => simp [clauseMax]
  | cons x xs => simp [checkLits_ok G.nvars (x :: xs) h]

theorem addAll_ok (G : CNF) (cs : List Clause) (h : ∀ c ∈ cs, ∀ l ∈ c, l ≠ 0) :
    addAll G cs = .ok ⟨max G.nvars (maxVar cs), G.clauses ++ cs⟩ := by
  induction cs generalizing G with
  | nil => simp [addAll, maxVar_nil]
  | cons c cs ih =>
    simp only [addAll, addClause_ok G c (h c (by simp))]
    rw [ih _ (fun c' hc' => h c' (by simp [hc']))]
    simp only [maxVar_cons, List.append_assoc, List.singleton_append, Nat.max_assoc]

/-! ### the `substitutions[lit]` table on a well-formed formula -/

theorem pyIndex_table (N : Nat) (enc : Int → List Clause) (l : Int) (h0 : l ≠ 0) (hN : l.natAbs ≤ N) :
    pyIndex (table N enc) l = .ok (some (enc l)) := by
  unfold pyIndex table
  simp only [List.length_map, List.length_range]
  by_cases hp : 0 < l
  · have hneg : ¬ l < 0 := by omega
    simp only [hneg, if_false]
    have h1 : l.toNat < 2 * N + 1 := by omega
    have h2 : ¬ l.toNat = 0 := by omega
    have h3 : l.toNat ≤ N := by omega
    have h4 : ((l.toNat : Nat) : Int) = l := by omega
    simp [List.getElem?_map, List.getElem?_range h1, h2, h3, h4]
  · have hneg : l < 0 := by omega
    simp only [hneg, if_true]
    obtain ⟨j, hj⟩ : ∃ j : Nat, l + ((2 * N + 1 : Nat) : Int) = (j : Int) :=
      ⟨(l + ((2 * N + 1 : Nat) : Int)).toNat, by omega⟩
    rw [hj]
    have hj0 : ¬ ((j : Int) < 0) := by omega
    have h1 : j < 2 * N + 1 := by omega
    have h2 : ¬ j = 0 := by omega
    have h3 : ¬ j ≤ N := by omega
    have h4 : -(((2 * N + 1 - j : Nat)) : Int) = l := by omega
    simp only [hj0, if_false, Int.toNat_natCast]
    simp [List.getElem?_map, List.getElem?_range h1, h2, h3, h4]

theorem lookupAll_ok (N : Nat) (enc : Int → List Clause) (c : Clause)
    (h : ∀ l ∈ c, l ≠ 0 ∧ l.natAbs ≤ N) :
    lookupAll (table N enc) c = .ok (c.map (fun l => some (enc l))) := by
  induction c with
  | nil => simp [lookupAll]
  | cons x xs ih =>
    simp only [lookupAll, pyIndex_table N enc x (h x (by simp)).1 (h x (by simp)).2,
      ih (fun l hl => h l (by simp [hl])), List.map_cons]

theorem allSome_map_some {α β : Type} (f : α → β) (l : List α) :
    allSome (l.map (fun x => some (f x))) = some (l.map f) := by
  induction l with
  | nil => simp [allSome]
  | cons x xs ih => simp [allSome, ih]

theorem substClausePy_ok (N : Nat) (enc : Int → List Clause) (c : Clause)
    (h : ∀ l ∈ c, l ≠ 0 ∧ l.natAbs ≤ N) :
    substClausePy (table N enc) c = .ok (distribute (c.map enc)) := by
  simp only [substClausePy, lookupAll_ok N enc c h, allSome_map_some]

/-- the faithful loop on a well-formed formula: no exception, the clauses are the closed form,
the variable count is what `_check_and_update` accumulates -/
theorem run_ok (init : CNF) (N M : Nat) (enc : Int → List Clause) (cs : List Clause)
    (hF : Bounded N cs) (henc : EncB N M enc) :
    run init N enc cs =
      .ok ⟨max init.nvars (maxVar (substClauses enc cs)), init.clauses ++ substClauses enc cs⟩ := by
  induction cs generalizing init with
  | nil => simp [run, substClauses, maxVar_nil]
  | cons c cs ih =>
    have hc := hF c (by simp)
    have hb : Bounded M (distribute (c.map enc)) := by
      have := substClauses_bounded N M enc [c] (by simpa [Bounded] using hc) henc
      simpa [substClauses] using this
    simp only [run, substClausePy_ok N enc c hc,
      addAll_ok init _ (fun d hd l hl => (hb d hd l hl).1)]
    rw [ih _ (fun c' hc' => hF c' (by simp [hc']))]
    have e : substClauses enc (c :: cs) = distribute (c.map enc) ++ substClauses enc cs := by
      simp [substClauses]
    simp only [e, maxVar_append, List.append_assoc, Nat.max_assoc]

/-! ### the builders only use the literals they are given (up to sign) -/

def Uses (ls : List Int) (cs : List Clause) : Prop := ∀ c ∈ cs, ∀ x ∈ c, x ∈ ls ∨ -x ∈ ls

theorem Uses.bounded {ls : List Int} {cs : List Clause} {M : Nat} (h : Uses ls cs)
    (hl : ∀ y ∈ ls, y ≠ 0 ∧ y.natAbs ≤ M) : Bounded M cs := by
  intro c hc x hx
  rcases h c hc x hx with h' | h'
  · exact hl x h'
  · have := hl (-x) h'; constructor <;> omega

namespace Uses
variable {ls xs : List Int} {cs ds : List Clause} {x y : Int}

theorem nil : Uses ls [] := fun _ hc => nomatch hc

theorem empty : Uses ls [[]] := List.forall_mem_singleton.2 fun _ hx => nomatch hx

theorem self : Uses ls [ls] := List.forall_mem_singleton.2 fun _ => Or.inl

theorem append (ha : Uses ls cs) (hb : Uses ls ds) : Uses ls (cs ++ ds) :=
  List.forall_mem_append.2 ⟨ha, hb⟩

theorem tail (h : Uses xs cs) : Uses (x :: xs) cs :=
  fun c hc l hl => (h c hc l hl).imp (List.mem_cons_of_mem _) (List.mem_cons_of_mem _)

/-- clauses over `xs`, each extended by `x` or by `-x`: the step of every builder's recursion -/
theorem map_cons (hy : y = x ∨ -y = x) (h : Uses xs cs) : Uses (x :: xs) (cs.map (y :: ·)) := by
  rw [Uses, List.forall_mem_map]
  intro c hc l hl
  rcases List.mem_cons.1 hl with rfl | hl
  · exact hy.imp (fun e => List.mem_cons.2 (.inl e)) (fun e => List.mem_cons.2 (.inl e))
  · exact h.tail c hc l hl

theorem neg (h : Uses (ls.map (fun l => -l)) cs) : Uses ls cs := by
  have e : ∀ z : Int, z ∈ ls.map (fun l => -l) → -z ∈ ls := fun z hz => by
    obtain ⟨y, hy, rfl⟩ := List.mem_map.1 hz
    rwa [Int.neg_neg]
  exact fun c hc x hx => (h c hc x hx).symm.imp (fun h' => Int.neg_neg x ▸ e _ h') (e x)

end Uses

theorem combos_uses : ∀ (ls : List Int) (j : Nat), Uses ls (combos ls j)
  | [], 0 => .empty
  | _ :: _, 0 => .empty
  | [], _ + 1 => .nil
  | _ :: xs, j + 1 => ((combos_uses xs j).map_cons (.inl rfl)).append (combos_uses xs (j + 1)).tail

theorem geq_uses (ls : List Int) (k : Int) : Uses ls (geq ls k) := by
  unfold geq
  split
  · exact .nil
  · split
    · exact .empty
    · exact combos_uses ls _

theorem leq_uses (ls : List Int) (k : Int) : Uses ls (leq ls k) := (geq_uses _ _).neg

theorem neqClauses_uses : ∀ (ls : List Int) (k : Nat), Uses ls (neqClauses ls k)
  | [], 0 => .self
  | _ :: _, 0 => .self
  | [], _ + 1 => .nil
  | x :: xs, k + 1 =>
    ((neqClauses_uses xs k).map_cons (.inr (Int.neg_neg x))).append ((neqClauses_uses xs (k + 1)).map_cons (.inl rfl))

theorem neq_uses (ls : List Int) (k : Int) : Uses ls (neq ls k) := by
  unfold neq
  split
  · exact .nil
  · exact neqClauses_uses ls _

theorem add_uses (ls : List Int) (o : Op) (k : Int) : Uses ls (Linear.add ls o k) := by
  cases o <;> simp only [Linear.add]
  · exact leq_uses ls k
  · exact geq_uses ls k
  · exact leq_uses ls _
  · exact geq_uses ls _
  · exact (leq_uses ls k).append (geq_uses ls k)
  · exact neq_uses ls k

theorem parityClauses_uses : ∀ (ls : List Int) (w : Bool), Uses ls (parityClauses ls w)
  | [], true => .empty
  | [], false => .nil
  | x :: xs, w =>
    ((parityClauses_uses xs w).map_cons (.inl rfl)).append ((parityClauses_uses xs (!w)).map_cons (.inr (Int.neg_neg x)))

theorem parity_uses (ls : List Int) (b : Int) : Uses ls (Linear.parity ls b) :=
  parityClauses_uses ls _

/-- the loop of `oneify` on a negative literal is the `!= 1` loop of `add_linear` -/
theorem flipEach_eq (ls : List Int) : flipEach ls = neqClauses ls 1 := by
  induction ls with
  | nil => simp [flipEach, neqClauses]
  | cons x xs ih => simp [flipEach, neqClauses, ih]

end Subst
end Cnfgen
