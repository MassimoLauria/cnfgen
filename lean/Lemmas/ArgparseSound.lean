/-
Spellings that argparse documents as equivalent are equivalent in the model of its engine (CnfgenModel/Cli/Argparse.lean),
inside ANY command line: `--opt=v` is `--opt v` (`eqform_items`), `-xyz` is `-x -y -z` (`cluster_items`), both by
`engineItems_block`. These are about items; Lemmas/ArgparseTokens.lean restates them about tokens.
-/
import CnfgenModel.Cli.Argparse
namespace Cnfgen.Cli.AP
open Cnfgen.Gen Cnfgen.Cli

theorem itemize_append (strs : List (String × Target)) (pre rest : List String) (h : "--" ∉ pre) :
    itemize strs (pre ++ rest) = pre.map (classifyTok strs) ++ itemize strs rest := by
  induction pre with
  | nil => simp
  | cons t pre ih =>
    have ht : (t == "--") = false := by
      have : t ≠ "--" := fun e => h (by simp [e])
      simpa using this
    have hp : "--" ∉ pre := fun e => h (by simp [e])
    simp only [List.cons_append, itemize, ht, Bool.false_eq_true, if_false, List.map_cons, ih hp]

def stepItem (it : Item) (acc : Run × List (OptItem × Run)) : Run × List (OptItem × Run) :=
  match it with
  | .arg t => (⟨t :: acc.1.args, acc.1.dd.map (· + 1)⟩, acc.2)
  | .dd => (⟨acc.1.args, some 0⟩, acc.2)
  | .opt tg os ex => (⟨[], none⟩, (.known tg os ex, acc.1) :: acc.2)
  | .unknown _ => (⟨[], none⟩, (.unknown, acc.1) :: acc.2)
  | .ambiguous _ => (⟨[], none⟩, (.unknown, acc.1) :: acc.2)

theorem segs_cons (it : Item) (rest : List Item) : segs (it :: rest) = stepItem it (segs rest) := by
  conv => lhs; unfold segs
  cases hs : segs rest with
  | mk r ss => cases it <;> simp [stepItem]

def pushItems (xs : List Item) (acc : Run × List (OptItem × Run)) : Run × List (OptItem × Run) :=
  xs.foldr stepItem acc

theorem segs_append (xs ys : List Item) : segs (xs ++ ys) = pushItems xs (segs ys) := by
  induction xs with
  | nil => simp [pushItems]
  | cons x xs ih => rw [List.cons_append, segs_cons, ih]; simp [pushItems]

theorem pushItems_tail (xs : List Item) (r : Run) (tl : List (OptItem × Run)) :
    pushItems xs (r, tl) = ((pushItems xs (r, [])).1, (pushItems xs (r, [])).2 ++ tl) := by
  induction xs with
  | nil => simp [pushItems]
  | cons x xs ih =>
    have : pushItems (x :: xs) (r, tl) = stepItem x (pushItems xs (r, tl)) := by simp [pushItems]
    rw [this, ih]
    have h2 : pushItems (x :: xs) (r, []) = stepItem x (pushItems xs (r, [])) := by simp [pushItems]
    rw [h2]
    cases x <;> simp [stepItem]

/-- `runSegs` where "this is the last segment" is `fin` at the end of the list -/
def runSegsF (bind : Bind) (strs : List (String × Target)) (fin : Bool) :
    List (OptItem × Run) → PState → Except PErr PState
  | [], st => .ok st
  | (oi, run) :: rest, st =>
    match stepOpt bind strs oi run st with
    | .error x => .error x
    | .ok (st1, run1) =>
      match consumePosX bind run1 (rest.isEmpty && fin) st1 with
      | .error x => .error x
      | .ok st2 => runSegsF bind strs fin rest st2

theorem runSegsF_true (bind : Bind) (strs : List (String × Target)) :
    ∀ (ss : List (OptItem × Run)) (st : PState), runSegsF bind strs true ss st = runSegs bind strs ss st := by
  intro ss
  induction ss with
  | nil => intro st; simp [runSegsF, runSegs]
  | cons x rest ih =>
    intro st
    obtain ⟨oi, run⟩ := x
    simp only [runSegsF, runSegs, Bool.and_true]
    cases stepOpt bind strs oi run st with
    | error e => rfl
    | ok p =>
      obtain ⟨st1, run1⟩ := p
      dsimp only
      cases consumePosX bind run1 rest.isEmpty st1 with
      | error e => rfl
      | ok st2 => exact ih st2

theorem runSegsF_append (bind : Bind) (strs : List (String × Target)) (fin : Bool) :
    ∀ (a b : List (OptItem × Run)) (st : PState),
      runSegsF bind strs fin (a ++ b) st =
        match runSegsF bind strs (b.isEmpty && fin) a st with
        | .error x => .error x
        | .ok st' => runSegsF bind strs fin b st' := by
  intro a
  induction a with
  | nil => intro b st; simp [runSegsF]
  | cons x rest ih =>
    intro b st
    obtain ⟨oi, run⟩ := x
    simp only [List.cons_append, runSegsF]
    cases stepOpt bind strs oi run st with
    | error e => rfl
    | ok p =>
      obtain ⟨st1, run1⟩ := p
      dsimp only
      have hflag : ((rest ++ b).isEmpty && fin) = (rest.isEmpty && (b.isEmpty && fin)) := by
        cases rest <;> simp
      rw [hflag]
      cases consumePosX bind run1 (rest.isEmpty && (b.isEmpty && fin)) st1 with
      | error e => rfl
      | ok st2 => exact ih b st2

/-- Two lists of items that both start a new segment list `B r` in front of whatever follows
(`r`: the run that follows) and whose segment lists the loop cannot tell apart give the same result inside any
command line. -/
theorem engineItems_block (bind : Bind) (p : PSpec) (pre post X Y : List Item)
    (BX BY : Run → List (OptItem × Run))
    (hX : ∀ r, pushItems X (r, []) = (⟨[], none⟩, BX r)) (hY : ∀ r, pushItems Y (r, []) = (⟨[], none⟩, BY r))
    (hneX : ∀ r, BX r ≠ []) (hneY : ∀ r, BY r ≠ [])
    (hamb : X.any Item.isAmbiguous = Y.any Item.isAmbiguous)
    (heq : ∀ fin st, runSegsF bind p.strings fin (BX (segs post).1) st =
      runSegsF bind p.strings fin (BY (segs post).1) st) :
    engineItems bind p (pre ++ X ++ post) = engineItems bind p (pre ++ Y ++ post) := by
  have key : ∀ (Z : List Item) (BZ : Run → List (OptItem × Run)),
      (∀ r, pushItems Z (r, []) = (⟨[], none⟩, BZ r)) →
      segs (pre ++ Z ++ post) =
        ((pushItems pre (⟨[], none⟩, [])).1,
         (pushItems pre (⟨[], none⟩, [])).2 ++ (BZ (segs post).1 ++ (segs post).2)) := by
    intro Z BZ hZ
    rw [List.append_assoc, segs_append, segs_append]
    have h1 : pushItems Z (segs post) = (⟨[], none⟩, BZ (segs post).1 ++ (segs post).2) := by
      have := pushItems_tail Z (segs post).1 (segs post).2
      rw [hZ] at this
      simpa using this
    rw [h1, pushItems_tail]
  have h1 : ∀ {B : List (OptItem × Run)} (T : List (OptItem × Run)), B ≠ [] → (B ++ T).isEmpty = false :=
    fun T h => by simp [h]
  have h2 : ∀ {B : List (OptItem × Run)} (S T : List (OptItem × Run)), B ≠ [] → (S ++ (B ++ T)).isEmpty = false :=
    fun S T h => by simp [h]
  unfold engineItems
  rw [key X BX hX, key Y BY hY]
  -- both loops: the segments of `pre`, the block, the segments of `post`
  simp only [List.append_assoc, List.any_append, hamb, ← runSegsF_true, runSegsF_append, h1 _ (hneX _), h1 _ (hneY _),
    h2 _ _ (hneX _), h2 _ _ (hneY _), Bool.and_true, heq]

theorem cluster_valued (strs : List (String × Target)) (tg : Target) (single : Bool) (v : String)
    (h : arityT tg = .one ∨ arityT tg = .plus) : cluster strs tg single v.toList = .ok ([], tg, some v) := by
  cases hv : v.toList with
  | nil =>
    have : v = "" := by
      have := String.ofList_toList (s := v)
      rw [hv] at this
      exact this.symm
    subst this
    unfold cluster
    rcases h with h | h <;> rw [h]
  | cons c e' =>
    have : String.ofList (c :: e') = v := by rw [← hv]; exact String.ofList_toList
    unfold cluster
    rcases h with h | h <;> rw [h] <;> simp [this]

theorem eqform_step (bind : Bind) (strs : List (String × Target)) (tg : Target) (os v : String) (r : Run)
    (h : arityT tg = .one ∨ arityT tg = .plus ∧ r.avail = []) (st : PState) :
    stepOpt bind strs (.known tg os (some v)) r st =
      stepOpt bind strs (.known tg os none) ⟨v :: r.args, r.dd.map (· + 1)⟩ st := by
  simp only [stepOpt, consumeOptX, chainOf]
  rw [cluster_valued strs tg _ v (h.imp_right And.left)]
  dsimp only
  have ht1 : takeArgs tg (some v) r = .ok ([v], r) := by simp [takeArgs]
  have ht2 : takeArgs tg none ⟨v :: r.args, r.dd.map (· + 1)⟩ = .ok ([v], r) := by
    obtain ⟨args, dd⟩ := r
    rcases h with h1 | ⟨h1, hr⟩
    · cases dd <;> simp [takeArgs, h1, Run.avail, Run.dropFront]
    · cases dd with
      | none =>
        simp [Run.avail] at hr
        subst hr
        simp [takeArgs, h1, Run.avail, Run.dropFront]
      | some a =>
        simp [Run.avail] at hr
        rcases hr with hr | hr <;> subst hr <;> simp [takeArgs, h1, Run.avail, Run.dropFront]
  rw [ht1, ht2]

theorem eqform_items (bind : Bind) (p : PSpec) (pre post : List Item) (tg : Target) (os v : String)
    (h : arityT tg = .one ∨ arityT tg = .plus ∧ (segs post).1.avail = []) :
    engineItems bind p (pre ++ [Item.opt tg os (some v)] ++ post) =
      engineItems bind p (pre ++ [Item.opt tg os none, Item.arg v] ++ post) := by
  apply engineItems_block bind p pre post _ _
    (fun r => [(OptItem.known tg os (some v), r)])
    (fun r => [(OptItem.known tg os none, ⟨v :: r.args, r.dd.map (· + 1)⟩)])
  · intro r; simp [pushItems, stepItem]
  · intro r; simp [pushItems, stepItem]
  · intro r; simp
  · intro r; simp
  · simp [Item.isAmbiguous]
  · intro fin st
    simp only [runSegsF]
    rw [eqform_step bind p.strings tg os v _ h st]

theorem stepOpt_flag (bind : Bind) (strs : List (String × Target)) (tg : Target) (os : String)
    (h0 : arityT tg = .zero) (r : Run) (st : PState) :
    stepOpt bind strs (.known tg os none) r st =
      match runFlags bind [tg] st with
      | .error x => .error x
      | .ok st' => .ok (st', r) := by
  simp only [stepOpt, consumeOptX, chainOf]
  have : takeArgs tg none r = .ok ([], r) := by simp [takeArgs, h0]
  rw [this]
  dsimp only
  cases tg with
  | help => simp [runFlags, lastAction]
  | opt o =>
    simp only [runFlags, lastAction, List.erase_nil]
    cases h : takeAction bind o [] st with
    | error e => rfl
    | ok st' => rfl

theorem runFlags_append (bind : Bind) : ∀ (a b : List Target) (st : PState),
    runFlags bind (a ++ b) st =
      match runFlags bind a st with
      | .error x => .error x
      | .ok st' => runFlags bind b st' := by
  intro a
  induction a with
  | nil => intro b st; simp [runFlags]
  | cons t a ih =>
    intro b st
    cases t with
    | help => simp [runFlags]
    | opt o =>
      simp only [List.cons_append, runFlags]
      cases takeAction bind o [] st with
      | error e => rfl
      | ok st' => exact ih b st'

theorem consumePosX_skip (bind : Bind) (st : PState) : consumePosX bind ⟨[], none⟩ false st = .ok st := by
  simp [consumePosX]

theorem runSegsF_flags (bind : Bind) (strs : List (String × Target)) (fin : Bool) (r : Run) :
    ∀ (ts : List (Target × String)) (t : Target × String) (st : PState), (∀ x ∈ t :: ts, arityT x.1 = .zero) →
      runSegsF bind strs fin (pushItems ((t :: ts).map fun t => Item.opt t.1 t.2 none) (r, [])).2 st =
        match runFlags bind ((t :: ts).map (·.1)) st with
        | .error x => .error x
        | .ok st' => consumePosX bind r fin st'
  | [], t, st, hz => by
    simp only [pushItems, List.map_cons, List.map_nil, List.foldr_cons, List.foldr_nil, stepItem, runSegsF,
      List.isEmpty_nil, Bool.true_and]
    rw [stepOpt_flag bind strs t.1 t.2 (hz t (by simp)) r st]
    cases runFlags bind [t.1] st with
    | error e => rfl
    | ok st' =>
      dsimp only
      cases consumePosX bind r fin st' with
      | error e => rfl
      | ok st'' => rfl
  | t' :: ts, t, st, hz => by
    have ih := fun st' => runSegsF_flags bind strs fin r ts t' st' fun x hx => hz x (List.mem_cons_of_mem _ hx)
    simp only [pushItems, List.map_cons, List.foldr_cons, stepItem, runSegsF] at ih ⊢
    rw [stepOpt_flag bind strs t.1 t.2 (hz t (by simp)) ⟨[], none⟩ st,
      show t.1 :: t'.1 :: ts.map (·.1) = [t.1] ++ t'.1 :: ts.map (·.1) from rfl, runFlags_append]
    cases runFlags bind [t.1] st with
    | error e => rfl
    | ok st' =>
      dsimp only
      rw [List.isEmpty_cons, Bool.false_and, consumePosX_skip]
      exact ih st'

/-- every character stands for an option without argument -/
def FlagsOf (strs : List (String × Target)) : List Char → List Target → Prop
  | [], [] => True
  | c :: e, t :: ts =>
    (lookupOS strs (String.ofList ['-', c]) = some t ∧ arityT t = .zero) ∧ FlagsOf strs e ts
  | _, _ => False

theorem FlagsOf_zero (strs : List (String × Target)) : ∀ (e : List Char) (ts : List Target), FlagsOf strs e ts →
    ∀ t ∈ ts, arityT t = .zero := by
  intro e
  induction e with
  | nil => intro ts h t ht; cases ts with | nil => simp at ht | cons a b => simp [FlagsOf] at h
  | cons c e ih =>
    intro ts h t ht
    cases ts with
    | nil => simp at ht
    | cons a b =>
      simp only [FlagsOf] at h
      rcases List.mem_cons.1 ht with rfl | ht
      · exact h.1.2
      · exact ih b h.2 t ht

theorem cluster_flags_chain (strs : List (String × Target)) :
    ∀ (e : List Char) (tgs : List Target) (tg : Target), e ≠ [] → arityT tg = .zero →
      FlagsOf strs e tgs →
      ∃ l last, cluster strs tg true e = .ok (l, last, none) ∧ l ++ [last] = tg :: tgs ∧ arityT last = .zero := by
  intro e
  induction e with
  | nil => intro tgs tg h; exact absurd rfl h
  | cons c e' ih =>
    intro tgs tg _ h0 hall
    cases tgs with
    | nil => simp [FlagsOf] at hall
    | cons t tgs' =>
      simp only [FlagsOf] at hall
      obtain ⟨hc, hrest⟩ := hall
      unfold cluster
      simp only [h0, Bool.not_true, Bool.false_eq_true, if_false, hc.1]
      cases e' with
      | nil =>
        cases tgs' with
        | nil => exact ⟨[tg], t, by simp, by simp, hc.2⟩
        | cons a b => simp [FlagsOf] at hrest
      | cons c2 e2 =>
        obtain ⟨l, last, h1, h2, h3⟩ := ih tgs' t (by simp) hc.2 hrest
        refine ⟨tg :: l, last, ?_, ?_, h3⟩
        · simp [h1]
        · simp [h2]

theorem stepOpt_cluster (bind : Bind) (strs : List (String × Target)) (tg : Target) (os : String) (e : String)
    (tgs : List Target) (hs : singleDash os = true) (he : e.toList ≠ []) (h0 : arityT tg = .zero)
    (hall : FlagsOf strs e.toList tgs) (r : Run) (st : PState) :
    stepOpt bind strs (.known tg os (some e)) r st =
      match runFlags bind (tg :: tgs) st with
      | .error x => .error x
      | .ok st' => .ok (st', r) := by
  obtain ⟨l, last, h1, h2, h3⟩ := cluster_flags_chain strs e.toList tgs tg he h0 hall
  simp only [stepOpt, consumeOptX, chainOf]
  rw [hs, h1]
  dsimp only
  have : takeArgs last none r = .ok ([], r) := by simp [takeArgs, h3]
  rw [this]
  dsimp only
  rw [← h2, runFlags_append]
  cases runFlags bind l st with
  | error x => rfl
  | ok st1 =>
    dsimp only
    cases last with
    | help => simp [lastAction, runFlags]
    | opt o =>
      simp only [lastAction, List.erase_nil, runFlags]
      cases takeAction bind o [] st1 with
      | error x => rfl
      | ok st2 => rfl

theorem cluster_items (bind : Bind) (p : PSpec) (pre post : List Item) (tg : Target) (os e : String)
    (ts : List (Target × String)) (hs : singleDash os = true) (he : e.toList ≠ []) (h0 : arityT tg = .zero)
    (hall : FlagsOf p.strings e.toList (ts.map (·.1))) :
    engineItems bind p (pre ++ [Item.opt tg os (some e)] ++ post) =
      engineItems bind p (pre ++ ((tg, os) :: ts).map (fun t => Item.opt t.1 t.2 none) ++ post) := by
  apply engineItems_block bind p pre post _ _
    (fun r => [(OptItem.known tg os (some e), r)])
    (fun r => (pushItems (((tg, os) :: ts).map fun t => Item.opt t.1 t.2 none) (r, [])).2)
  · intro r; simp [pushItems, stepItem]
  · intro r; simp [pushItems, stepItem]
  · intro r; simp
  · intro r; simp [pushItems, stepItem]
  · simp [Item.isAmbiguous, List.any_map, Function.comp_def]
  · intro fin st
    generalize (segs post).1 = r
    have hz : ∀ t ∈ (tg, os) :: ts, arityT t.1 = .zero := by
      intro t ht
      rcases List.mem_cons.1 ht with rfl | ht
      · exact h0
      · exact FlagsOf_zero p.strings e.toList (ts.map (·.1)) hall t.1 (List.mem_map.2 ⟨t, ht, rfl⟩)
    rw [runSegsF_flags bind p.strings fin r ts (tg, os) st hz]
    simp only [runSegsF, List.isEmpty_nil, Bool.true_and]
    rw [stepOpt_cluster bind p.strings tg os e (ts.map (·.1)) hs he h0 hall r st]
    simp only [List.map_cons]
    cases runFlags bind (tg :: ts.map (·.1)) st with
    | error x => rfl
    | ok st' =>
      dsimp only
      cases consumePosX bind r fin st' with
      | error x => rfl
      | ok st'' => rfl

end Cnfgen.Cli.AP
