/-
The model of cnfgen/families/cpls.py (`CnfgenModel/Fam/Cpls.lean`): it accepts exactly `a ≥ 1`, `b = 2^p`,
`c = 2^q`, its two `assert`s never fire, and the formula has closed-form sizes, is well formed and is
unsatisfiable (Thapen's CPLS principle).
-/
import CnfgenModel.Fam.Cpls
import Lemmas.Linear
import Lemmas.Constr
import Lemmas.VarsBinary
import Lemmas.VarsBlock
namespace Cnfgen.FamCpls
open Cnfgen Cnfgen.Fam

theorem clog2_two_pow (p : Nat) : Vars.clog2 (2 ^ p) = p := by
  obtain ⟨h1, h2⟩ := Vars.clog2_spec (2 ^ p)
  have hle : Vars.clog2 (2 ^ p) ≤ p := h2 p (Nat.le_refl _)
  have hge : p ≤ Vars.clog2 (2 ^ p) := (Nat.pow_le_pow_iff_right (by omega)).1 h1
  omega

theorem intlog2Aux_two_pow (p : Nat) : ∀ (fuel i : Nat), i ≤ p → p ≤ i + fuel →
    Cpls.intlog2Aux (2 ^ p) fuel i = p := by
  intro fuel
  induction fuel with
  | zero => intro i h1 h2; simp [Cpls.intlog2Aux]; omega
  | succ f ih =>
    intro i h1 h2
    unfold Cpls.intlog2Aux
    by_cases h : i < p
    · have : 2 ^ i < 2 ^ p := Nat.pow_lt_pow_right (by omega) h
      rw [if_pos this]
      exact ih (i + 1) (by omega) (by omega)
    · have hip : i = p := by omega
      subst hip
      simp

theorem intlog2_two_pow (p : Nat) : Cpls.intlog2 (2 ^ p) = p := by
  unfold Cpls.intlog2
  exact intlog2Aux_two_pow p _ 0 (by omega) (by have := Nat.lt_two_pow_self (n := p); omega)

theorem land_two_pow_pred (p : Nat) : (2 ^ p) &&& (2 ^ p - 1) = 0 := by
  rw [Nat.and_two_pow_sub_one_eq_mod]; simp

theorem mem_product2 {α : Type} (A B : List α) (t : List α) :
    t ∈ product [A, B] ↔ ∃ x ∈ A, ∃ y ∈ B, t = [x, y] := by
  simp only [mem_product, List.forall₂_cons_right_iff, List.forall₂_nil_right_iff]
  constructor
  · rintro ⟨x, _, hx, ⟨y, _, hy, rfl, rfl⟩, rfl⟩
    exact ⟨x, hx, y, hy, rfl⟩
  · rintro ⟨x, hx, y, hy, rfl⟩
    exact ⟨x, _, hx, ⟨y, _, hy, rfl, rfl⟩, rfl⟩

theorem mem_product4 {α : Type} (A B C D : List α) (t : List α) :
    t ∈ product [A, B, C, D] ↔ ∃ i ∈ A, ∃ x ∈ B, ∃ x' ∈ C, ∃ y ∈ D, t = [i, x, x', y] := by
  simp only [mem_product, List.forall₂_cons_right_iff, List.forall₂_nil_right_iff]
  constructor
  · rintro ⟨i, _, hi, ⟨x, _, hx, ⟨x', _, hx', ⟨y, _, hy, rfl, rfl⟩, rfl⟩, rfl⟩, rfl⟩
    exact ⟨i, hi, x, hx, x', hx', y, hy, rfl⟩
  · rintro ⟨i, hi, x, hx, x', hx', y, hy, rfl⟩
    exact ⟨i, _, hi, ⟨x, _, hx, ⟨x', _, hx', ⟨y, _, hy, rfl, rfl⟩, rfl⟩, rfl⟩, rfl⟩

theorem length_product_nil {α : Type} : (product ([] : List (List α))).length = 1 := rfl

def ax2Con (a b c : Nat) : List Nat → Con
  | [i, x, xx, y] => Con.clause (Vars.forbidClause (Cpls.fStart a b c i) (Cpls.bitsB b) x (xx - 1) ++
      [-(Cpls.gId a b c (i + 1) xx y : Int), (Cpls.gId a b c i x y : Int)])
  | _ => Con.clause []

def ax3Con (a b c : Nat) : List Nat → Con
  | [x, y] => Con.clause (Vars.forbidClause (Cpls.uStart a b c) (Cpls.bitsC c) x (y - 1) ++
      [(Cpls.gId a b c a x y : Int)])
  | _ => Con.clause []

def ax2 (a b c : Nat) : List Con :=
  (product [rangeN 1 a, rangeN 1 (b + 1), rangeN 1 (b + 1), rangeN 1 (c + 1)]).map (ax2Con a b c)

def ax3 (a b c : Nat) : List Con :=
  (product [rangeN 1 (b + 1), rangeN 1 (c + 1)]).map (ax3Con a b c)

theorem axiom2_ok (a p q : Nat) : Cpls.axiom2 a (2 ^ p) (2 ^ q) = .ok (ax2 a (2 ^ p) (2 ^ q)) := by
  unfold Cpls.axiom2 ax2
  apply mapM_ok
  intro t ht
  rw [mem_product4] at ht
  obtain ⟨i, _, x, _, xx, hxx, y, _, rfl⟩ := ht
  rw [mem_rangeN] at hxx
  simp only [ax2Con]
  rw [Vars.forbid_ok (by rw [Cpls.bitsB, clog2_two_pow]; omega)]
  rfl

theorem axiom3_ok (a p q : Nat) : Cpls.axiom3 a (2 ^ p) (2 ^ q) = .ok (ax3 a (2 ^ p) (2 ^ q)) := by
  unfold Cpls.axiom3 ax3
  apply mapM_ok
  intro t ht
  rw [mem_product2] at ht
  obtain ⟨x, _, y, hy, rfl⟩ := ht
  rw [mem_rangeN] at hy
  simp only [ax3Con]
  rw [Vars.forbid_ok (by rw [Cpls.bitsC, clog2_two_pow]; omega)]
  rfl

theorem length_axiom1 (a b c : Nat) : (Cpls.axiom1 a b c).length = c := by
  simp [Cpls.axiom1, length_rangeN]

theorem length_ax2 (a b c : Nat) : (ax2 a b c).length = (a - 1) * b * b * c := by
  simp only [ax2, List.length_map, length_product, List.map_cons, List.map_nil, List.prod_cons, List.prod_nil, length_rangeN, Nat.add_sub_cancel, Nat.mul_one, Nat.mul_assoc]

theorem length_ax3 (a b c : Nat) : (ax3 a b c).length = b * c := by
  simp only [ax3, List.length_map, length_product, List.map_cons, List.map_nil, List.prod_cons, List.prod_nil, length_rangeN, Nat.add_sub_cancel, Nat.mul_one]

theorem cpls_ok (a p q : Nat) (ha : 1 ≤ a) :
    Cpls.cpls (a : Int) ((2 ^ p : Nat) : Int) ((2 ^ q : Nat) : Int) =
      .ok ⟨a * 2 ^ p * 2 ^ q + a * (2 ^ p * p) + 2 ^ p * q,
        Cpls.axiom1 a (2 ^ p) (2 ^ q) ++ ax2 a (2 ^ p) (2 ^ q) ++ ax3 a (2 ^ p) (2 ^ q)⟩ := by
  have hb : (1 : Nat) ≤ 2 ^ p := Nat.one_le_two_pow
  have hc : (1 : Nat) ≤ 2 ^ q := Nat.one_le_two_pow
  unfold Cpls.cpls
  simp only [Cpls.positiveInt, Int.toNat_natCast]
  rw [if_neg (by omega), if_neg (by omega), if_neg (by omega)]
  simp only [land_two_pow_pred, axiom2_ok, axiom3_ok, Cpls.bitsB, Cpls.bitsC, clog2_two_pow,
    intlog2_two_pow, List.length_append, length_axiom1]
  simp only [ne_eq, not_true_eq_false, if_false, bind, Except.bind, length_ax2, length_ax3,
    Nat.mul_assoc]
  rfl

theorem cpls_nvars (a p q : Nat) (ha : 1 ≤ a) (F : Formula)
    (h : Cpls.cpls (a : Int) ((2 ^ p : Nat) : Int) ((2 ^ q : Nat) : Int) = .ok F) :
    F.nvars = a * 2 ^ p * 2 ^ q + a * (2 ^ p * p) + 2 ^ p * q := by
  rw [cpls_ok a p q ha] at h
  cases h; rfl

theorem cpls_ncons (a p q : Nat) (ha : 1 ≤ a) (F : Formula)
    (h : Cpls.cpls (a : Int) ((2 ^ p : Nat) : Int) ((2 ^ q : Nat) : Int) = .ok F) :
    F.cons.length = 2 ^ q + (a - 1) * 2 ^ p * 2 ^ p * 2 ^ q + 2 ^ p * 2 ^ q := by
  rw [cpls_ok a p q ha] at h
  cases h
  simp only [List.length_append, length_axiom1, length_ax2, length_ax3]

theorem forbid_false (α : Assign) (start bits i : Nat) (hs : 1 ≤ start) (hi : 1 ≤ i) :
    clauseHolds α (Vars.forbidClause start bits i (Vars.binVal α start bits i)) = false :=
  (Vars.forbidClause_spec α hs hi (Vars.binVal_lt α start bits i)).2 rfl

theorem gId_pos (a b c i x y : Nat) : 1 ≤ Cpls.gId a b c i x y := by
  unfold Cpls.gId Vars.blockId; omega

theorem fStart_pos (a b c i : Nat) : 1 ≤ Cpls.fStart a b c i := by unfold Cpls.fStart; omega
theorem uStart_pos (a b c : Nat) : 1 ≤ Cpls.uStart a b c := by unfold Cpls.uStart; omega

/-- the path `x₁ = 1, x_{i+1} = f_i(x_i)` read off the assignment (`pathX … j = x_{j+1}`) -/
def pathX (α : Assign) (a b c : Nat) : Nat → Nat
  | 0 => 1
  | j + 1 => Vars.binVal α (Cpls.fStart a b c (j + 1)) (Cpls.bitsB b) (pathX α a b c j) + 1

theorem pathX_range (α : Assign) (a b c : Nat) (hb : 2 ^ Cpls.bitsB b ≤ b) (j : Nat) :
    1 ≤ pathX α a b c j ∧ pathX α a b c j ≤ b := by
  cases j with
  | zero => exact ⟨Nat.le_refl _, Nat.le_trans Nat.one_le_two_pow hb⟩
  | succ j =>
    have := Vars.binVal_lt α (Cpls.fStart a b c (j + 1)) (Cpls.bitsB b) (pathX α a b c j)
    simp only [pathX]
    omega

theorem ax3_sem (α : Assign) (a b c x y : Nat)
    (h : Con.holds α (ax3Con a b c [x, y]) = true)
    (hf : clauseHolds α (Vars.forbidClause (Cpls.uStart a b c) (Cpls.bitsC c) x (y - 1)) = false) :
    α (Cpls.gId a b c a x y) = true := by
  simp only [ax3Con, Con.holds, clauseHolds_append, hf, Bool.false_or] at h
  simpa [clauseHolds, litHolds_natCast α (gId_pos a b c a x y)] using h

theorem ax2_sem (α : Assign) (a b c i x xx y : Nat)
    (h : Con.holds α (ax2Con a b c [i, x, xx, y]) = true)
    (hf : clauseHolds α (Vars.forbidClause (Cpls.fStart a b c i) (Cpls.bitsB b) x (xx - 1)) = false)
    (hg : α (Cpls.gId a b c (i + 1) xx y) = true) :
    α (Cpls.gId a b c i x y) = true := by
  simp only [ax2Con, Con.holds, clauseHolds_append, hf, Bool.false_or] at h
  simpa [clauseHolds, litHolds_natCast α (gId_pos a b c i x y),
    litHolds_neg_natCast, hg] using h

theorem ax1_sem (α : Assign) (a b c y : Nat)
    (h : Con.holds α (Con.clause [-(Cpls.gId a b c 1 1 y : Int)]) = true) :
    α (Cpls.gId a b c 1 1 y) = false := by
  simpa [Con.holds, clauseHolds, litHolds_neg_natCast] using h

theorem mem_axiom1_iff (a b c : Nat) (con : Con) :
    con ∈ Cpls.axiom1 a b c ↔
      ∃ y, 1 ≤ y ∧ y ≤ c ∧ con = Con.clause [-(Cpls.gId a b c 1 1 y : Int)] := by
  simp only [Cpls.axiom1, List.mem_map, mem_rangeN]
  constructor
  · rintro ⟨y, hy, rfl⟩; exact ⟨y, hy.1, by omega, rfl⟩
  · rintro ⟨y, h1, h2, rfl⟩; exact ⟨y, ⟨h1, by omega⟩, rfl⟩

theorem mem_ax2_iff (a b c : Nat) (con : Con) :
    con ∈ ax2 a b c ↔
      ∃ i x x' y, (1 ≤ i ∧ i < a) ∧ (1 ≤ x ∧ x ≤ b) ∧ (1 ≤ x' ∧ x' ≤ b) ∧ (1 ≤ y ∧ y ≤ c) ∧
        con = Con.clause (Vars.forbidClause (Cpls.fStart a b c i) (Cpls.bitsB b) x (x' - 1) ++
          [-(Cpls.gId a b c (i + 1) x' y : Int), (Cpls.gId a b c i x y : Int)]) := by
  simp only [ax2, List.mem_map, mem_product4, mem_rangeN]
  constructor
  · rintro ⟨t, ⟨i, hi, x, hx, x', hx', y, hy, rfl⟩, rfl⟩
    exact ⟨i, x, x', y, hi, by omega, by omega, by omega, rfl⟩
  · rintro ⟨i, x, x', y, hi, hx, hx', hy, rfl⟩
    exact ⟨[i, x, x', y], ⟨i, hi, x, by omega, x', by omega, y, by omega, rfl⟩, rfl⟩

theorem mem_ax3_iff (a b c : Nat) (con : Con) :
    con ∈ ax3 a b c ↔
      ∃ x y, (1 ≤ x ∧ x ≤ b) ∧ (1 ≤ y ∧ y ≤ c) ∧
        con = Con.clause (Vars.forbidClause (Cpls.uStart a b c) (Cpls.bitsC c) x (y - 1) ++
          [(Cpls.gId a b c a x y : Int)]) := by
  simp only [ax3, List.mem_map, mem_product2, mem_rangeN]
  constructor
  · rintro ⟨t, ⟨x, hx, y, hy, rfl⟩, rfl⟩
    exact ⟨x, y, by omega, by omega, rfl⟩
  · rintro ⟨x, y, hx, hy, rfl⟩
    exact ⟨[x, y], ⟨x, by omega, y, by omega, rfl⟩, rfl⟩

/-- The three axiom groups contradict each other as soon as every bit string names a node, resp. a colour:
follow the path `x₁ = 1, x_{i+1} = f_i(x_i)`, take the colour `y` that `u` picks at its end (Axiom 3 gives
`G_a(x_a, y)`), and push `G_i(x_i, y)` down the path with Axiom 2 until it contradicts Axiom 1. -/
theorem cpls_false (α : Assign) (a b c : Nat) (ha : 1 ≤ a) (hb : 2 ^ Cpls.bitsB b ≤ b) (hc : 2 ^ Cpls.bitsC c ≤ c)
    (hF : ∀ con, (con ∈ Cpls.axiom1 a b c ∨ con ∈ ax2 a b c) ∨ con ∈ ax3 a b c → con.holds α = true) : False := by
  have hX := pathX_range α a b c hb
  -- the colour chosen by `u` at the end of the path
  have hyl := Vars.binVal_lt α (Cpls.uStart a b c) (Cpls.bitsC c) (pathX α a b c (a - 1))
  generalize hy : Vars.binVal α (Cpls.uStart a b c) (Cpls.bitsC c) (pathX α a b c (a - 1)) + 1 = y
  have hyr : 1 ≤ y ∧ y ≤ c := by omega
  have h3 : α (Cpls.gId a b c a (pathX α a b c (a - 1)) y) = true := by
    apply ax3_sem α a _ _ _ _ (hF _ (Or.inr ((mem_ax3_iff a _ _ _).2 ⟨_, _, hX _, hyr, rfl⟩)))
    rw [← hy, Nat.add_sub_cancel]
    exact forbid_false α _ _ _ (uStart_pos _ _ _) (hX _).1
  have key : ∀ d j, j + 1 + d = a → α (Cpls.gId a b c (j + 1) (pathX α a b c j) y) = true := by
    intro d
    induction d with
    | zero =>
      intro j hj
      have : a - 1 = j := by omega
      rw [this] at h3
      rw [show j + 1 = a by omega]; exact h3
    | succ d ih =>
      intro j hj
      have hnext := ih (j + 1) (by omega)
      apply ax2_sem α a _ _ (j + 1) _ _ y
        (hF _ (Or.inl (Or.inr ((mem_ax2_iff a _ _ _).2 ⟨j + 1, _, _, y, by omega, hX j, hX (j + 1), hyr, rfl⟩))))
        _ hnext
      show clauseHolds α (Vars.forbidClause _ _ _ (Vars.binVal α _ _ _ + 1 - 1)) = false
      rw [Nat.add_sub_cancel]
      exact forbid_false α _ _ _ (fStart_pos _ _ _ _) (hX _).1
  have h1 := key (a - 1) 0 (by omega)
  have h1' := ax1_sem α a _ _ y (hF _ (Or.inl (Or.inl ((mem_axiom1_iff a _ _ _).2 ⟨y, hyr.1, hyr.2, rfl⟩))))
  rw [show pathX α a b c 0 = 1 from rfl] at h1
  rw [h1] at h1'
  exact Bool.noConfusion h1'

theorem cpls_unsat (a p q : Nat) (ha : 1 ≤ a) (F : Formula)
    (h : Cpls.cpls (a : Int) ((2 ^ p : Nat) : Int) ((2 ^ q : Nat) : Int) = .ok F) :
    ∀ α : Assign, F.holds α = false := by
  intro α
  rw [cpls_ok a p q ha] at h
  cases h
  refine Bool.eq_false_iff.2 fun hF => ?_
  simp only [Formula.holds, List.all_eq_true, List.mem_append] at hF
  exact cpls_false α a _ _ ha (by rw [Cpls.bitsB, clog2_two_pow]) (by rw [Cpls.bitsC, clog2_two_pow]) hF

theorem cpls_mem_iff (a p q : Nat) (ha : 1 ≤ a) (F : Formula)
    (h : Cpls.cpls (a : Int) ((2 ^ p : Nat) : Int) ((2 ^ q : Nat) : Int) = .ok F) (con : Con) :
    con ∈ F.cons ↔
      (∃ y, 1 ≤ y ∧ y ≤ 2 ^ q ∧ con = Con.clause [-(Cpls.gId a (2 ^ p) (2 ^ q) 1 1 y : Int)]) ∨
      (∃ i x x' y, (1 ≤ i ∧ i < a) ∧ (1 ≤ x ∧ x ≤ 2 ^ p) ∧ (1 ≤ x' ∧ x' ≤ 2 ^ p) ∧
        (1 ≤ y ∧ y ≤ 2 ^ q) ∧
        con = Con.clause (Vars.forbidClause (Cpls.fStart a (2 ^ p) (2 ^ q) i) p x (x' - 1) ++
          [-(Cpls.gId a (2 ^ p) (2 ^ q) (i + 1) x' y : Int),
            (Cpls.gId a (2 ^ p) (2 ^ q) i x y : Int)])) ∨
      (∃ x y, (1 ≤ x ∧ x ≤ 2 ^ p) ∧ (1 ≤ y ∧ y ≤ 2 ^ q) ∧
        con = Con.clause (Vars.forbidClause (Cpls.uStart a (2 ^ p) (2 ^ q)) q x (y - 1) ++
          [(Cpls.gId a (2 ^ p) (2 ^ q) a x y : Int)])) := by
  rw [cpls_ok a p q ha] at h
  cases h
  simp only [List.mem_append, mem_axiom1_iff, mem_ax2_iff, mem_ax3_iff, Cpls.bitsB, Cpls.bitsC,
    clog2_two_pow, or_assoc]

theorem gId_range (a b c i x y : Nat) (hi : 1 ≤ i ∧ i ≤ a) (hx : 1 ≤ x ∧ x ≤ b) (hy : 1 ≤ y ∧ y ≤ c) :
    1 ≤ Cpls.gId a b c i x y ∧ Cpls.gId a b c i x y ≤ a * b * c := by
  have := Vars.blockId_range (ranges := [a, b, c]) (idx := [i, x, y]) 1 (.cons hi (.cons hx (.cons hy .nil)))
  simp only [Vars.blockSize, List.foldl_cons, List.foldl_nil, Nat.one_mul] at this
  unfold Cpls.gId; omega

/-- the three groups of variables `G`, `f_1 … f_a`, `u` follow one another -/
theorem cpls_consIn (a b c : Nat) (ha : 1 ≤ a) (hb : 1 ≤ b) :
    G2.ConsIn 1 (a * b * c + a * (b * Cpls.bitsB b) + b * Cpls.bitsC c) (Cpls.axiom1 a b c ++ ax2 a b c ++ ax3 a b c) := by
  have hG : ∀ i x y, (1 ≤ i ∧ i ≤ a) → (1 ≤ x ∧ x ≤ b) → (1 ≤ y ∧ y ≤ c) → 1 ≤ Cpls.gId a b c i x y ∧
      Cpls.gId a b c i x y ≤ a * b * c + a * (b * Cpls.bitsB b) + b * Cpls.bitsC c := fun i x y hi hx hy =>
    have := gId_range a b c i x y hi hx hy
    ⟨this.1, by omega⟩
  refine ((G2.ConsIn.map fun y hy => ?_).append fun con hcon => ?_).append fun con hcon => ?_
  · have r := hG 1 1 y ⟨Nat.le_refl _, ha⟩ ⟨Nat.le_refl _, hb⟩ (mem_rangeN_one.1 hy)
    exact .neg r.1 r .nil
  · obtain ⟨i, x, x', y, hi, hx, hx', hy, rfl⟩ := (mem_ax2_iff a b c con).1 hcon
    have r := hG i x y ⟨hi.1, by omega⟩ hx hy
    have r' := hG (i + 1) x' y ⟨by omega, hi.2⟩ hx' hy
    refine LitsIn.append (LitsIn.mono (Vars.forbidClause_in (fStart_pos a b c i) hx) (fStart_pos a b c i) ?_) (.neg r'.1 r' (.pos r.1 r .nil))
    have h2 : (i - 1 + 1) * (b * Cpls.bitsB b) ≤ a * (b * Cpls.bitsB b) := Nat.mul_le_mul_right _ (by omega)
    rw [Nat.add_mul] at h2
    unfold Cpls.fStart
    omega
  · obtain ⟨x, y, hx, hy, rfl⟩ := (mem_ax3_iff a b c con).1 hcon
    have r := hG a x y ⟨ha, Nat.le_refl _⟩ hx hy
    refine LitsIn.append (LitsIn.mono (Vars.forbidClause_in (uStart_pos a b c) hx) (uStart_pos a b c) ?_) (.pos r.1 r .nil)
    unfold Cpls.uStart
    omega

theorem cpls_wf (a p q : Nat) (ha : 1 ≤ a) (F : Formula)
    (h : Cpls.cpls (a : Int) ((2 ^ p : Nat) : Int) ((2 ^ q : Nat) : Int) = .ok F) : F.WF := by
  rw [cpls_ok a p q ha] at h
  cases h
  have := cpls_consIn a (2 ^ p) (2 ^ q) ha Nat.one_le_two_pow
  rw [Cpls.bitsB, Cpls.bitsC, clog2_two_pow, clog2_two_pow] at this
  exact G2.wf_of_consIn this

theorem two_pow_of_land_pred (b : Nat) (hb : 1 ≤ b) (h : b &&& (b - 1) = 0) : ∃ p, b = 2 ^ p :=
  (Nat.and_sub_one_eq_zero_iff_isPowerOfTwo (by omega)).1 h

theorem cpls_rejects (a b c : Int)
    (h : a < 1 ∨ b < 1 ∨ c < 1 ∨ b.toNat &&& (b.toNat - 1) ≠ 0 ∨ c.toNat &&& (c.toNat - 1) ≠ 0) :
    Cpls.cpls a b c = .error .valueError := by
  unfold Cpls.cpls
  simp only [Cpls.positiveInt]
  by_cases ha : a < 1
  · rw [if_pos ha]; rfl
  by_cases hb : b < 1
  · rw [if_neg ha, if_pos hb]; rfl
  by_cases hc : c < 1
  · rw [if_neg ha, if_neg hb, if_pos hc]; rfl
  rw [if_neg ha, if_neg hb, if_neg hc]
  simp only [bind, Except.bind, throw, throwThe, MonadExceptOf.throw]
  by_cases hb2 : b.toNat &&& (b.toNat - 1) ≠ 0
  · rw [if_pos hb2]
  · rw [if_neg hb2, if_pos ((((h.resolve_left ha).resolve_left hb).resolve_left hc).resolve_left hb2)]

theorem cpls_args (a b c : Int)
    (h : ¬ (a < 1 ∨ b < 1 ∨ c < 1 ∨ b.toNat &&& (b.toNat - 1) ≠ 0 ∨ c.toNat &&& (c.toNat - 1) ≠ 0)) :
    ∃ a' p q : Nat, 1 ≤ a' ∧ a = (a' : Int) ∧ b = ((2 ^ p : Nat) : Int) ∧ c = ((2 ^ q : Nat) : Int) := by
  simp only [not_or, Decidable.not_not] at h
  obtain ⟨ha, hb, hc, hb2, hc2⟩ := h
  obtain ⟨p, hp⟩ := two_pow_of_land_pred b.toNat (by omega) hb2
  obtain ⟨q, hq⟩ := two_pow_of_land_pred c.toNat (by omega) hc2
  exact ⟨a.toNat, p, q, by omega, by omega, by omega, by omega⟩

/-- the generator accepts only `a ≥ 1` and powers of two `b`, `c` (and all of these: `cpls_ok`) -/
theorem cpls_accepts_only (a b c : Int) (F : Formula) (h : Cpls.cpls a b c = .ok F) :
    ∃ a' p q : Nat, 1 ≤ a' ∧ a = (a' : Int) ∧ b = ((2 ^ p : Nat) : Int) ∧ c = ((2 ^ q : Nat) : Int) := by
  refine cpls_args a b c fun hr => ?_
  rw [cpls_rejects a b c hr] at h
  cases h

/-- unsatisfiability for every accepted input -/
theorem cpls_unsat_all (a b c : Int) (F : Formula) (h : Cpls.cpls a b c = .ok F) :
    ∀ α : Assign, F.holds α = false := by
  obtain ⟨a', p, q, ha, rfl, rfl, rfl⟩ := cpls_accepts_only a b c F h
  exact cpls_unsat a' p q ha F h

/-- the two `assert`s at the end of `CPLSFormula` never fire: the generator either returns a formula
or raises `ValueError` -/
theorem cpls_ok_or_valueError (a b c : Int) :
    (∃ F, Cpls.cpls a b c = .ok F) ∨ Cpls.cpls a b c = .error .valueError := by
  by_cases hr : a < 1 ∨ b < 1 ∨ c < 1 ∨ b.toNat &&& (b.toNat - 1) ≠ 0 ∨ c.toNat &&& (c.toNat - 1) ≠ 0
  · exact Or.inr (cpls_rejects a b c hr)
  · obtain ⟨a', p, q, ha, rfl, rfl, rfl⟩ := cpls_args a b c hr
    exact Or.inl ⟨_, cpls_ok a' p q ha⟩

/-! ## the hypotheses are satisfiable -/

example : ∃ F, Cpls.cpls 2 2 2 = .ok F := ⟨_, cpls_ok 2 1 1 (by omega)⟩
example : ∃ F, Cpls.cpls 3 4 2 = .ok F ∧ F.nvars = 52 ∧ F.cons.length = 74 :=
  ⟨_, cpls_ok 3 2 1 (by omega), by decide, by
    simp only [List.length_append, length_axiom1, length_ax2, length_ax3]⟩
example : ∃ F, Cpls.cpls 1 1 1 = .ok F := ⟨_, cpls_ok 1 0 0 (by omega)⟩

end Cnfgen.FamCpls
