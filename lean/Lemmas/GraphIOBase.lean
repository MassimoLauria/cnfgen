/-
C14 — semantics of `add_edge` as seen by the file readers: one interface (`GSem`) for the two
non-bipartite classes, so that the kthlist and DIMACS reader lemmas are proven once.
Builds on the representation invariants of `Lemmas/GraphInv.lean` (C16).
-/
import Lemmas.GraphNx
import CnfgenModel.IO.GraphFmt
namespace Cnfgen
open GraphFmt

/-- the contract of a reader step: what it returns satisfies `P`, and the only exception it raises is ValueError -/
def Reads {α} (r : Except Err α) (P : α → Prop) : Prop :=
  match r with
  | .ok a => P a
  | .error e => e = .valueError

theorem Reads.ok {α} {r : Except Err α} {P : α → Prop} (h : Reads r P) {a : α} (e : r = .ok a) : P a := by
  subst e; exact h

theorem Reads.err {α} {r : Except Err α} {P : α → Prop} (h : Reads r P) {x : Err} (e : r = .error x) :
    x = .valueError := by
  subst e; exact h

theorem Reads.imp {α} {r : Except Err α} {P Q : α → Prop} (h : Reads r P) (hpq : ∀ a, P a → Q a) : Reads r Q := by
  cases r with
  | ok a => exact hpq a h
  | error e => exact h

/-- `for e in es: G.add_edge(e)` -/
def GSem.addAll {γ : Type} (C : GClass γ) (G : γ) (es : List (Int × Int)) : Except Err γ :=
  es.foldlM (fun g e => C.addEdge g e.1 e.2) G

/-- what the readers need to know about a graph class: a representation invariant, the edge set, which calls of
`add_edge` are legal and which pairs a legal call contributes; a run of calls succeeds exactly when all are legal
(for the two classes: `AddLaw.fold_ok`, `AddLaw.fold_error` of `SimpleG.law`, `DiG.law` in `Lemmas/GraphInv.lean`) -/
structure GSem {γ : Type} (C : GClass γ) where
  Inv : γ → Prop
  E : γ → List (Nat × Nat)
  Valid : Nat → Int → Int → Prop
  contrib : Int → Int → Nat × Nat → Prop
  init_inv : ∀ n, Inv (C.init n)
  init_E : ∀ n, E (C.init n) = []
  init_order : ∀ n, C.order (C.init n) = n
  addAll_valid : ∀ {G : γ} {es : List (Int × Int)}, Inv G → (∀ x ∈ es, Valid (C.order G) x.1 x.2) →
    ∃ G', GSem.addAll C G es = .ok G' ∧ Inv G' ∧ C.order G' = C.order G ∧
      ∀ p, p ∈ E G' ↔ (p ∈ E G ∨ ∃ x ∈ es, contrib x.1 x.2 p)
  addAll_invalid : ∀ {G : γ} {es : List (Int × Int)}, Inv G → ¬ (∀ x ∈ es, Valid (C.order G) x.1 x.2) →
    GSem.addAll C G es = .error .valueError

namespace SimpleG

theorem norm_eq_norm {a b c d : Nat} : norm a b = norm c d ↔ (a, b) = (c, d) ∨ (a, b) = (d, c) := by
  refine ⟨fun h => ?_, ?_⟩
  · rcases norm_cases a b with e₁ | e₁ <;> rcases norm_cases c d with e₂ | e₂ <;> rw [e₁, e₂] at h
    · exact .inl h
    · exact .inr h
    · cases h; exact .inr rfl
    · cases h; exact .inl rfl
  · rintro (h | h) <;> cases h
    · rfl
    · exact norm_comm a b

/-- what `SimpleG.law` says of a run of legal calls, in terms of the symmetric edge set -/
theorem addEdgesFrom_edgeset {G : SimpleG} (h : Inv G) {es : List (Int × Int)} (hv : ∀ e ∈ es, Valid G.n e.1 e.2) :
    ∃ G', G.addEdgesFrom es = .ok G' ∧ Inv G' ∧ G'.n = G.n ∧
      ∀ p, p ∈ G'.edgeset ↔ (p ∈ G.edgeset ∨ ∃ e ∈ es, p = (e.1.toNat, e.2.toNat) ∨ p = (e.2.toNat, e.1.toNat)) := by
  obtain ⟨G', h1, ⟨h2, h3⟩, h4⟩ := (law G.n).fold_ok ⟨h, rfl⟩ hv
  refine ⟨G', h1, h2, h3, fun p => ?_⟩
  rw [h2.mem_edgeset_iff, h4, ← h.mem_edgeset_iff]
  simp only [norm_eq_norm]

/-- equality of everything observable: order, edge counter, adjacency table, edge set -/
structure Same (G G' : SimpleG) : Prop where
  n : G'.n = G.n
  m : G'.m = G.m
  adj : G'.adj = G.adj
  edgeset : ∀ p, p ∈ G'.edgeset ↔ p ∈ G.edgeset

theorem Same.edges {G G' : SimpleG} (h : Same G G') : G'.edges = G.edges := by
  simp only [SimpleG.edges, h.n, h.adj]

theorem same_of_inv {G G' : SimpleG} (h : Inv G) (h' : Inv G') (hn : G'.n = G.n)
    (he : ∀ p, p ∈ G'.edgeset ↔ p ∈ G.edgeset) : Same G G' :=
  have ⟨m, adj, es⟩ := Inv.ext h h' hn (fun e => by rw [mem_abs, mem_abs, he])
  ⟨hn, m, adj, es⟩

end SimpleG

namespace DiG

structure Same (G G' : DiG) : Prop where
  n : G'.n = G.n
  m : G'.m = G.m
  pred : G'.pred = G.pred
  succ : G'.succ = G.succ
  stillDag : G'.stillDag = G.stillDag
  edgeset : ∀ p, p ∈ G'.edgeset ↔ p ∈ G.edgeset

theorem Same.edges {G G' : DiG} (h : Same G G') : G'.edges = G.edges := by
  simp only [DiG.edges, h.n, h.succ]

theorem same_of_inv {G G' : DiG} (h : Inv G) (h' : Inv G') (hn : G'.n = G.n)
    (he : ∀ p, p ∈ G'.edgeset ↔ p ∈ G.edgeset) : Same G G' :=
  have ⟨m, succ, pred, dag⟩ := Inv.ext h h' hn he
  ⟨hn, m, pred, succ, dag, he⟩

end DiG

namespace BipG

theorem addEdgesFrom_reads {G : BipG} (h : Inv G) (es : List (Int × Int)) : Reads (G.addEdgesFrom es) (fun G' =>
    (∀ x ∈ es, Valid G.l G.r x.1 x.2) ∧ Inv G' ∧ G'.l = G.l ∧ G'.r = G.r ∧
      ∀ p, p ∈ G'.edgeset ↔ (p ∈ G.edgeset ∨ ∃ x ∈ es, p = (x.1.toNat, x.2.toNat))) := by
  by_cases hv : ∀ x ∈ es, Valid G.l G.r x.1 x.2
  · obtain ⟨G', (h1 : G.addEdgesFrom es = _), ⟨i, l, r⟩, m⟩ := (law G.l G.r).fold_ok ⟨h, rfl, rfl⟩ hv
    rw [h1]; exact ⟨hv, i, l, r, m⟩
  · rw [show G.addEdgesFrom es = _ from (law G.l G.r).fold_error ⟨h, rfl, rfl⟩ hv]; rfl

structure Same (G G' : BipG) : Prop where
  l : G'.l = G.l
  r : G'.r = G.r
  ladj : G'.ladj = G.ladj
  radj : G'.radj = G.radj
  card : G'.edgeset.length = G.edgeset.length
  edgeset : ∀ p, p ∈ G'.edgeset ↔ p ∈ G.edgeset

theorem Same.edges {G G' : BipG} (h : Same G G') : G'.edges = G.edges := by
  simp only [BipG.edges, BipG.rnbrs, h.l, h.ladj]

theorem same_of_inv {G G' : BipG} (h : Inv G) (h' : Inv G') (hl : G'.l = G.l) (hr : G'.r = G.r)
    (he : ∀ p, p ∈ G'.edgeset ↔ p ∈ G.edgeset) : Same G G' :=
  have ⟨ladj, radj, card⟩ := Inv.ext h h' hl hr he
  ⟨hl, hr, ladj, radj, card, he⟩

end BipG

/-! ### the two non-bipartite classes as instances of `GSem`

`BipG` is not one: `GClass.init` takes one order, `BipartiteGraph(L, R)` two, and the bipartite kthlist reader knows
`L` only after the last line.  Its readers use `BipG.addEdgesFrom_reads`, the same law. -/

def simpleSem : GSem simpleClass where
  Inv := SimpleG.Inv
  E := (·.edgeset)
  Valid := SimpleG.Valid
  contrib := fun u v p => p = (u.toNat, v.toNat) ∨ p = (v.toNat, u.toNat)
  init_inv := SimpleG.inv_init
  init_E := fun _ => rfl
  init_order := fun _ => rfl
  addAll_valid := fun h hv => SimpleG.addEdgesFrom_edgeset h hv
  addAll_invalid := fun h hv => (SimpleG.law _).fold_error ⟨h, rfl⟩ hv

def diSem : GSem diClass where
  Inv := DiG.Inv
  E := (·.edgeset)
  Valid := DiG.Valid
  contrib := fun u v p => p = (u.toNat, v.toNat)
  init_inv := DiG.inv_init
  init_E := fun _ => rfl
  init_order := fun _ => rfl
  addAll_valid := fun h hv => by
    obtain ⟨G', h1, ⟨h2, h3⟩, h4⟩ := (DiG.law _).fold_ok ⟨h, rfl⟩ hv
    exact ⟨G', h1, h2, h3, h4⟩
  addAll_invalid := fun h hv => (DiG.law _).fold_error ⟨h, rfl⟩ hv

theorem simpleSem_edges {n : Nat} {pairs : List (Int × Int)} {E : List (Nat × Nat)}
    (hv : ∀ x ∈ pairs, simpleSem.Valid n x.1 x.2) (hm : ∀ p, p ∈ E ↔ ∃ x ∈ pairs, simpleSem.contrib x.1 x.2 p)
    (a b : Nat) : (a, b) ∈ E ↔ (((a : Int), (b : Int)) ∈ pairs ∨ ((b : Int), (a : Int)) ∈ pairs) := by
  refine (hm (a, b)).trans ⟨?_, ?_⟩
  · rintro ⟨x, hx, hc⟩
    have hr : SimpleG.Valid n x.1 x.2 := hv x hx
    unfold SimpleG.Valid at hr
    have e1 : ((x.1.toNat : Nat) : Int) = x.1 := Int.toNat_of_nonneg (by omega)
    have e2 : ((x.2.toNat : Nat) : Int) = x.2 := Int.toNat_of_nonneg (by omega)
    rcases hc with hc | hc <;> injection hc with h1 h2
    · left; rw [h1, h2, e1, e2]; exact hx
    · right; rw [h1, h2, e1, e2]; exact hx
  · rintro (hx | hx)
    · exact ⟨_, hx, Or.inl (by simp)⟩
    · exact ⟨_, hx, Or.inr (by simp)⟩

theorem diSem_edges {n : Nat} {pairs : List (Int × Int)} {E : List (Nat × Nat)}
    (hv : ∀ x ∈ pairs, diSem.Valid n x.1 x.2) (hm : ∀ p, p ∈ E ↔ ∃ x ∈ pairs, diSem.contrib x.1 x.2 p)
    (a b : Nat) : (a, b) ∈ E ↔ ((a : Int), (b : Int)) ∈ pairs := by
  refine (hm (a, b)).trans ⟨?_, fun hx => ⟨_, hx, by simp [diSem]⟩⟩
  rintro ⟨x, hx, hc⟩
  have hr : DiG.Valid n x.1 x.2 := hv x hx
  unfold DiG.Valid at hr
  have e1 : ((x.1.toNat : Nat) : Int) = x.1 := Int.toNat_of_nonneg (by omega)
  have e2 : ((x.2.toNat : Nat) : Int) = x.2 := Int.toNat_of_nonneg (by omega)
  injection (hc : (a, b) = (x.1.toNat, x.2.toNat)) with h1 h2
  rw [h1, h2, e1, e2]; exact hx

theorem DiG.Inv.pairs_increasing {g : DiG} (hi : DiG.Inv g) (hd : g.stillDag = true) {pairs : List (Int × Int)}
    (hv : ∀ x ∈ pairs, 1 ≤ x.1 ∧ x.1 ≤ g.n ∧ 1 ≤ x.2 ∧ x.2 ≤ g.n)
    (hm : ∀ a b : Nat, (a, b) ∈ g.edgeset ↔ ((a : Int), (b : Int)) ∈ pairs) : ∀ x ∈ pairs, x.1 < x.2 := by
  intro x hx
  have hr := hv x hx
  have hmem : (x.1.toNat, x.2.toNat) ∈ g.edgeset := by
    rw [hm, Int.toNat_of_nonneg (by omega), Int.toNat_of_nonneg (by omega)]; exact hx
  have := (hi.dag.1 hd) _ hmem
  simp only at this
  omega

namespace GSem
variable {γ : Type} {C : GClass γ} (S : GSem C)

theorem addAll_nil (G : γ) : addAll C G [] = .ok G := rfl

theorem addAll_cons (G : γ) (e : Int × Int) (es : List (Int × Int)) :
    addAll C G (e :: es) = match C.addEdge G e.1 e.2 with
      | .ok G' => addAll C G' es
      | .error x => .error x := by
  simp only [addAll, List.foldlM_cons]
  cases C.addEdge G e.1 e.2 <;> rfl

theorem addAll_append (G : γ) (es fs : List (Int × Int)) :
    addAll C G (es ++ fs) = match addAll C G es with
      | .ok G' => addAll C G' fs
      | .error x => .error x := by
  simp only [addAll, List.foldlM_append]
  cases List.foldlM (fun g e => C.addEdge g e.1 e.2) G es <;> rfl

theorem addAll_reads {G : γ} (h : S.Inv G) (es : List (Int × Int)) : Reads (addAll C G es) (fun G' =>
    (∀ x ∈ es, S.Valid (C.order G) x.1 x.2) ∧ S.Inv G' ∧ C.order G' = C.order G ∧
      ∀ p, p ∈ S.E G' ↔ (p ∈ S.E G ∨ ∃ x ∈ es, S.contrib x.1 x.2 p)) := by
  by_cases hv : ∀ x ∈ es, S.Valid (C.order G) x.1 x.2
  · obtain ⟨G', h1, h2⟩ := S.addAll_valid h hv
    rw [h1]; exact ⟨hv, h2⟩
  · rw [S.addAll_invalid h hv]; rfl

theorem addAll_ok {G G' : γ} (h : S.Inv G) {es : List (Int × Int)} (e : addAll C G es = .ok G') :
    (∀ x ∈ es, S.Valid (C.order G) x.1 x.2) ∧ S.Inv G' ∧ C.order G' = C.order G ∧
      ∀ p, p ∈ S.E G' ↔ (p ∈ S.E G ∨ ∃ x ∈ es, S.contrib x.1 x.2 p) :=
  (S.addAll_reads h es).ok e

theorem addAll_init_ok {n : Nat} {cs : List (Int × Int)} {G' : γ} (e : addAll C (C.init n) cs = .ok G') :
    (∀ x ∈ cs, S.Valid n x.1 x.2) ∧ S.Inv G' ∧ C.order G' = n ∧
      ∀ p, p ∈ S.E G' ↔ ∃ x ∈ cs, S.contrib x.1 x.2 p := by
  obtain ⟨hv, hi, ho, hm⟩ := S.addAll_ok (S.init_inv n) e
  rw [S.init_order] at hv ho
  exact ⟨hv, hi, ho, fun p => by rw [hm, S.init_E]; simp⟩

end GSem

/-! ### replaying the edges of an object on the empty one (what a reader does with a written file) -/

theorem mem_map_natCast {cs : List (Nat × Nat)} {a b : Nat} :
    ((a : Int), (b : Int)) ∈ cs.map (fun e => ((e.1 : Int), (e.2 : Int))) ↔ (a, b) ∈ cs := by
  constructor
  · intro h
    obtain ⟨e, he, hc⟩ := List.mem_map.1 h
    injection hc with h1 h2
    obtain rfl : e = (a, b) := Prod.ext (by simp only; omega) (by simp only; omega)
    exact he
  · exact fun h => List.mem_map.2 ⟨(a, b), h, rfl⟩

theorem SimpleG.rebuild {G : SimpleG} (h : SimpleG.Inv G) {cs : List (Nat × Nat)} (hcs : ∀ e ∈ cs, e ∈ G.edgeset)
    (hcov : ∀ a b, (a, b) ∈ G.edgeset → (a, b) ∈ cs ∨ (b, a) ∈ cs) :
    ∃ G', GSem.addAll simpleClass (SimpleG.init G.n) (cs.map (fun e => ((e.1 : Int), (e.2 : Int)))) = .ok G' ∧
      SimpleG.Same G G' := by
  have hes : ∀ p, p ∈ SimpleG.abs G ↔ ∃ e ∈ cs, p = SimpleG.norm e.1 e.2 := by
    refine fun ⟨a, b⟩ => ⟨fun hp => ?_, ?_⟩
    · obtain ⟨hlt, hp⟩ := SimpleG.mem_abs.1 hp
      rcases hcov _ _ hp with hc | hc
      · exact ⟨_, hc, (SimpleG.norm_of_le (Nat.le_of_lt hlt)).symm⟩
      · exact ⟨_, hc, ((SimpleG.norm_comm b a).trans (SimpleG.norm_of_le (Nat.le_of_lt hlt))).symm⟩
    · rintro ⟨e, he, hp⟩
      exact hp ▸ h.mem_edgeset_iff.1 (hcs e he)
  obtain ⟨G', h1, _, h3, h4, h5, h6⟩ := SimpleG.fromNx_listing h (fun e he => h.range e.1 e.2 (hcs e he)) hes
  exact ⟨G', h1, h3, h4, h5, h6⟩

theorem DiG.rebuild {G : DiG} (h : DiG.Inv G) {cs : List (Nat × Nat)} (hcs : ∀ e, e ∈ cs ↔ e ∈ G.edgeset) :
    ∃ G', GSem.addAll diClass (DiG.init G.n) (cs.map (fun e => ((e.1 : Int), (e.2 : Int)))) = .ok G' ∧ DiG.Same G G' := by
  obtain ⟨G', h1, _, h3, h4, h5, h6, h7, h8⟩ := DiG.fromNx_listing h (fun p => (hcs p).symm)
  exact ⟨G', h1, h3, h4, h6, h5, h7, h8⟩

theorem BipG.rebuild {G : BipG} (h : BipG.Inv G) {cs : List (Nat × Nat)} (hcs : ∀ e, e ∈ cs ↔ e ∈ G.edgeset) :
    ∃ G', BipG.ofEdges G.l G.r cs = .ok G' ∧ BipG.Same G G' := by
  obtain ⟨G', h1, hi, hl, hr, hm⟩ := BipG.ofEdges_spec (l := G.l) (r := G.r) (es := cs)
    (fun e he => h.range e.1 e.2 ((hcs e).1 he))
  exact ⟨G', h1, BipG.same_of_inv h hi hl hr fun p => (hm p).trans (hcs p)⟩

end Cnfgen
