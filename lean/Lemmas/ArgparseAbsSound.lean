/-
Soundness of the abstract interpreter of CnfgenModel/Cli/ArgparseAbs.lean: in every namespace that a world describes,
`aval` gives the kind of the value of an expression (`aval_sound`), `aguard` contains the truth value of a guard
(`aguard_sound`), and when `arun` says yes the helper takes a path whose call can be built (`arun_sound`, the instance
for `tmplOK` of `run_sound`, which leaves the check of the path taken open).
-/
import CnfgenModel.Cli.ArgparseAbs
import Lemmas.DispatchTotal
import Lemmas.ArgparseRefine
namespace Cnfgen.Cli.AP
open Cnfgen.Gen Cnfgen.Cli

/-- the values of a kind (the concretisation γ of the abstract domain; `gamW` is the same for worlds, `Cons` for the
facts learnt from the tests taken: they are CONSistent with the namespace) -/
def gam : AV → Val → Prop
  | .none, v => v = .none
  | .tt, v => v = .bool true
  | .ff, v => v = .bool false
  | .bool, v => ∃ b, v = .bool b
  | .int, v => ∃ i, v = .int i
  | .intc k, v => v = .int k
  | .intOrNone, v => v = .none ∨ ∃ i, v = .int i
  | .str s, v => v = .str s
  | .strIn l, v => ∃ s ∈ l, v = .str s
  | .ints, v => ∃ l, v = .ints l
  | .graphC, v => ∃ k c r, v = .graph k (c :: r) ∧ constructed k c = true
  | .graphAny, v => ∃ k t, v = .graph k t
  | .toks Option.none, v => ∃ l, v = .toks l
  | .toks (some h), v => ∃ r, v = .toks (h :: r)
  | .param, v => ∃ n, v = .param n
  | .opq, v => ∃ s, v = .opaque s
  | .pos, v => v = .pos
  | .posOrInt, v => v = .pos ∨ ∃ i, v = .int i
  | .any, _ => True

/-- the namespaces of a world: the listed dests hold a value of their kind, the others do not exist -/
def gamW (w : World) (ns : Ns) : Prop :=
  ∀ d, match w.lookup d with
    | Option.none => ns.lookup d = Option.none
    | some a => ∃ v, ns.lookup d = some v ∧ gam a v

theorem gamW_some (w : World) (ns : Ns) (h : gamW w ns) (d : String) (a : AV) (hd : w.lookup d = some a) :
    ∃ v, ns.lookup d = some v ∧ gam a v := by
  have := h d
  rw [hd] at this
  exact this

theorem gamW_none (w : World) (ns : Ns) (h : gamW w ns) (d : String) (hd : w.lookup d = Option.none) :
    ns.lookup d = Option.none := by
  have := h d
  rw [hd] at this
  exact this

theorem gamW_isSome (w : World) (ns : Ns) (h : gamW w ns) (d : String) :
    (ns.lookup d).isSome = (w.lookup d).isSome := by
  cases hd : w.lookup d with
  | none => rw [gamW_none w ns h d hd]; rfl
  | some a => obtain ⟨v, hv, _⟩ := gamW_some w ns h d a hd; rw [hv]; rfl

theorem gam_toks (hd : Option String) (v : Val) (h : gam (.toks hd) v) : ∃ l, v = .toks l := by
  cases hd with
  | none => exact h
  | some x => obtain ⟨r, hr⟩ := h; exact ⟨_, hr⟩

/-- the truth values an abstract one stands for -/
def gamB : AB → Bool → Prop
  | .const c, b => b = c
  | .atom, _ => True

theorem atruthy_sound (x : AV) (r : AB) (v : Val) (h : atruthy x = some r) (hg : gam x v) :
    ∃ b, truthy v = some b ∧ gamB r b := by
  cases x with
  | tt | ff | none | intc _ | str _ => cases h; cases hg; exact ⟨_, rfl, rfl⟩
  | bool | int | ints => cases h; obtain ⟨_, rfl⟩ := hg; exact ⟨_, rfl, trivial⟩
  | strIn _ => cases h; obtain ⟨_, _, rfl⟩ := hg; exact ⟨_, rfl, trivial⟩
  | intOrNone => cases h; rcases hg with rfl | ⟨_, rfl⟩ <;> exact ⟨_, rfl, trivial⟩
  | _ => cases h

theorem aisNone_sound (x : AV) (r : AB) (v : Val) (h : aisNone x = some r) (hg : gam x v) :
    ∃ b, isNoneV v = some b ∧ gamB r b := by
  cases x with
  | param | opq | any => cases h
  | none | tt | ff | intc _ | str _ | pos => cases h; cases hg; exact ⟨_, rfl, rfl⟩
  | bool | int | ints => cases h; obtain ⟨_, rfl⟩ := hg; exact ⟨_, rfl, rfl⟩
  | strIn _ | graphAny => cases h; obtain ⟨_, _, rfl⟩ := hg; exact ⟨_, rfl, rfl⟩
  | graphC => cases h; obtain ⟨_, _, _, rfl, _⟩ := hg; exact ⟨_, rfl, rfl⟩
  | toks hd => cases h; obtain ⟨_, rfl⟩ := gam_toks _ _ hg; exact ⟨_, rfl, rfl⟩
  | intOrNone => cases h; rcases hg with rfl | ⟨_, rfl⟩ <;> exact ⟨_, rfl, trivial⟩
  | posOrInt => cases h; rcases hg with rfl | ⟨_, rfl⟩ <;> exact ⟨_, rfl, rfl⟩

theorem isIntLike_val (x : AV) (v : Val) (h : isIntLike x = true) (hg : gam x v) : ∃ i, v = .int i := by
  cases x <;> simp [isIntLike] at h
  · exact hg
  · exact ⟨_, hg⟩

theorem isIntNone_val (x : AV) (v : Val) (h : isIntNone x = true) (hg : gam x v) : v = .none ∨ ∃ i, v = .int i := by
  cases x <;> simp [isIntNone] at h
  · exact Or.inl hg
  · exact Or.inr hg
  · exact Or.inr ⟨_, hg⟩
  · exact hg

theorem isStrLike_val (x : AV) (v : Val) (h : isStrLike x = true) (hg : gam x v) : ∃ s, v = .str s := by
  cases x <;> simp [isStrLike] at h
  · exact ⟨_, hg⟩
  · obtain ⟨s, _, hs⟩ := hg; exact ⟨s, hs⟩

theorem evalCmp_eq_defined (op : String) (hop : op = "==" ∨ op = "!=") (vx vy : Val)
    (hv : ∃ b, valEq vx vy = some b) (hnp : vx ≠ .pos) : ∃ b, evalCmp op vx vy = some b := by
  obtain ⟨b, hb⟩ := hv
  unfold evalCmp
  split
  · exact absurd rfl hnp
  · rcases hop with rfl | rfl
    · exact ⟨b, by simp [hb]⟩
    · exact ⟨!b, by simp [hb]⟩

theorem acmp_sound (op : String) (x y : AV) (r : AB) (vx vy : Val) (h : acmp op x y = some r) (hx : gam x vx)
    (hy : gam y vy) : ∃ b, evalCmp op vx vy = some b ∧ gamB r b := by
  unfold acmp at h
  split at h
  · -- pos, intc k
    rename_i k
    simp only [gam] at hx hy
    subst hx hy
    cases hc : cmpPos op k with
    | none => simp [hc] at h
    | some c =>
      simp [hc] at h; subst h
      exact ⟨c, by simp [evalCmp, hc], rfl⟩
  · -- posOrInt, intc k
    rename_i k
    simp only [gam] at hx hy
    subst hy
    split at h
    · rename_i hc
      simp at h; subst h
      simp only [Bool.and_eq_true] at hc
      rcases hx with rfl | ⟨i, rfl⟩
      · cases hcp : cmpPos op k with
        | none => rw [hcp] at hc; simp at hc
        | some c => exact ⟨c, by simp [evalCmp, hcp], trivial⟩
      · obtain ⟨b, hb⟩ := dtot_evalCmp_int op i k hc.2
        exact ⟨b, hb, trivial⟩
    · simp at h
  · -- the general rule: the comparison is defined, its outcome is not known
    split at h
    · rename_i heq
      split at h <;> cases h
      rename_i hc
      simp only [Bool.or_eq_true, beq_iff_eq] at heq
      simp only [Bool.or_eq_true, Bool.and_eq_true] at hc
      have hv : (∃ b, valEq vx vy = some b) ∧ vx ≠ .pos := by
        rcases hc with ⟨h1, h2⟩ | ⟨h1, h2⟩
        · rcases isIntNone_val x vx h1 hx with rfl | ⟨i, rfl⟩ <;>
          rcases isIntNone_val y vy h2 hy with rfl | ⟨j, rfl⟩ <;> simp [valEq]
        · obtain ⟨s1, rfl⟩ := isStrLike_val x vx h1 hx
          obtain ⟨s2, rfl⟩ := isStrLike_val y vy h2 hy
          simp [valEq]
      exact (evalCmp_eq_defined op heq vx vy hv.1 hv.2).imp fun _ hb => ⟨hb, trivial⟩
    · split at h <;> cases h
      rename_i hc
      simp only [Bool.and_eq_true] at hc
      obtain ⟨i, rfl⟩ := isIntLike_val x vx hc.1.2 hx
      obtain ⟨j, rfl⟩ := isIntLike_val y vy hc.2 hy
      exact (dtot_evalCmp_int op i j hc.1.1).imp fun _ hb => ⟨hb, trivial⟩

theorem evalBinop_int (op : String) (i j : Int)
    (h : (op == "+" || op == "-" || op == "*") = true ∨ (op == "%" || op == "//") = true ∧ j ≠ 0) :
    ∃ v, evalBinop op (.int i) (.int j) = some v ∧ gam .int v := by
  simp only [Bool.or_eq_true, beq_iff_eq] at h
  have : ∃ n, evalBinop op (.int i) (.int j) = some (.int n) := by
    rcases h with ((rfl | rfl) | rfl) | ⟨rfl | rfl, hj⟩ <;> simp [evalBinop, *]
  exact this.elim fun n hn => ⟨_, hn, n, rfl⟩

theorem abinop_sound (op : String) (x y a : AV) (vx vy : Val) (h : abinop op x y = some a) (hx : gam x vx)
    (hy : gam y vy) : ∃ v, evalBinop op vx vy = some v ∧ gam a v := by
  unfold abinop at h
  split at h
  · rename_i hc
    simp only [Bool.and_eq_true] at hc
    obtain ⟨i, rfl⟩ := isIntLike_val x vx hc.1 hx
    obtain ⟨j, rfl⟩ := isIntLike_val y vy hc.2 hy
    split at h
    · cases h
      exact evalBinop_int op i j (Or.inl ‹_›)
    · split at h
      · split at h
        · rename_i k
          split at h
          · cases h
            cases hy
            exact evalBinop_int op i j (Or.inr ⟨‹_›, by simpa using ‹(j != 0) = true›⟩)
          · cases h
        · cases h
      · cases h
  · split at h
    · rename_i hc
      cases h
      simp only [Bool.or_eq_true, beq_iff_eq] at hc
      rcases hc with rfl | rfl
      · obtain ⟨s, rfl⟩ := hx
        exact ⟨.opaque "arithmetic", rfl, _, rfl⟩
      · obtain ⟨s, rfl⟩ := hy
        exact ⟨.opaque "arithmetic", by cases vx <;> rfl, _, rfl⟩
    · split at h
      · rename_i hc
        cases h
        simp only [Bool.and_eq_true, beq_iff_eq] at hc
        obtain ⟨rfl, hb⟩ := hc
        cases hx
        obtain ⟨j, rfl⟩ := isIntLike_val y vy hb hy
        exact ⟨.opaque "arithmetic", rfl, trivial⟩
      · split at h
        · rename_i hc
          cases h
          simp only [Bool.and_eq_true, beq_iff_eq] at hc
          obtain ⟨⟨rfl, hb⟩, hop⟩ := hc
          obtain ⟨j, rfl⟩ := isIntLike_val y vy hb hy
          rcases hx with rfl | ⟨i, rfl⟩
          · exact ⟨.opaque "arithmetic", rfl, trivial⟩
          · exact (evalBinop_int op i j (Or.inl hop)).imp fun _ h => ⟨h.1, trivial⟩
        · cases h

theorem evalE_order_nongraph (ord : List String → Nat) (ns : Ns) (g : Expr) (v : Val) (hg : evalE ns g = some v)
    (h : ∀ k t, v ≠ .graph k t) : evalE ns (fixOrder ord ns (.order g)) = some (.opaque "order") := by
  cases v <;> first | exact absurd rfl (h _ _) | simp only [fixOrder, hg, evalE, Option.map_some, orderOf]

theorem gam_nongraph (a : AV) (v : Val) (hg : gam a v) (h1 : a ≠ .graphC) (h2 : a ≠ .graphAny) (h3 : a ≠ .any) :
    ∀ k t, v ≠ .graph k t := by
  intro k t hv
  subst hv
  cases a with
  | graphC => exact h1 rfl
  | graphAny => exact h2 rfl
  | any => exact h3 rfl
  | toks hd => cases hd <;> simp [gam] at hg
  | _ => simp [gam] at hg

/-- In every namespace of the world, the expression (with the `G.order()` of graph files replaced
by their numbers) has a value, of the kind `aval` computes. -/
theorem aval_sound (ord : List String → Nat) (w : World) (ns : Ns) (hw : gamW w ns) :
    ∀ (e : Expr) (a : AV), aval w e = some a → ∃ v, evalE ns (fixOrder ord ns e) = some v ∧ gam a v := by
  intro e
  induction e with
  | arg d =>
    intro a h
    simp only [aval] at h
    obtain ⟨v, hv, hg⟩ := gamW_some w ns hw d a h
    exact ⟨v, by simp [fixOrder, evalE, hv], hg⟩
  | hasattr d =>
    intro a h
    simp only [aval] at h
    have := gamW_isSome w ns hw d
    simp only [fixOrder, evalE]
    cases hl : (w.lookup d).isSome with
    | true => rw [hl] at h this; simp at h; subst h; exact ⟨_, rfl, by simp [gam, this]⟩
    | false => rw [hl] at h this; simp at h; subst h; exact ⟨_, rfl, by simp [gam, this]⟩
  | getattr d e ih =>
    intro a h
    simp only [aval] at h
    simp only [fixOrder, evalE]
    cases hl : w.lookup d with
    | some x =>
      rw [hl] at h; simp at h; subst h
      obtain ⟨v, hv, hg⟩ := gamW_some w ns hw d x hl
      exact ⟨v, by simp [hv], hg⟩
    | none =>
      rw [hl] at h
      rw [gamW_none w ns hw d hl]
      exact ih a h
  | none => intro a h; simp [aval] at h; subst h; exact ⟨_, rfl, rfl⟩
  | bool b =>
    intro a h
    simp only [aval] at h
    cases b <;> simp at h <;> subst h <;> exact ⟨_, rfl, rfl⟩
  | int i => intro a h; simp [aval] at h; subst h; exact ⟨_, rfl, rfl⟩
  | str s => intro a h; simp [aval] at h; subst h; exact ⟨_, rfl, rfl⟩
  | name n => intro a h; simp [aval] at h; subst h; exact ⟨_, rfl, ⟨_, rfl⟩⟩
  | not e ih =>
    intro a h
    simp only [aval, Option.map_eq_some_iff, Option.bind_eq_some_iff] at h
    obtain ⟨r, ⟨x, hx, hr⟩, rfl⟩ := h
    obtain ⟨v, hv, hg⟩ := ih x hx
    obtain ⟨b, hb, _⟩ := atruthy_sound x r v hr hg
    exact ⟨.bool (!b), by simp [fixOrder, evalE, hv, hb], ⟨_, rfl⟩⟩
  | isNone e ih =>
    intro a h
    simp only [aval, Option.map_eq_some_iff, Option.bind_eq_some_iff] at h
    obtain ⟨r, ⟨x, hx, hr⟩, rfl⟩ := h
    obtain ⟨v, hv, hg⟩ := ih x hx
    obtain ⟨b, hb, _⟩ := aisNone_sound x r v hr hg
    exact ⟨.bool b, by simp [fixOrder, evalE, hv, hb], ⟨_, rfl⟩⟩
  | isNotNone e ih =>
    intro a h
    simp only [aval, Option.map_eq_some_iff, Option.bind_eq_some_iff] at h
    obtain ⟨r, ⟨x, hx, hr⟩, rfl⟩ := h
    obtain ⟨v, hv, hg⟩ := ih x hx
    obtain ⟨b, hb, _⟩ := aisNone_sound x r v hr hg
    exact ⟨.bool (!b), by simp [fixOrder, evalE, hv, hb], ⟨_, rfl⟩⟩
  | cmp op x y ihx ihy =>
    intro a h
    simp only [aval] at h
    split at h
    · rename_i ax ay hx hy
      obtain ⟨r, hr, rfl⟩ := Option.map_eq_some_iff.1 h
      obtain ⟨vx, hvx, hgx⟩ := ihx ax hx
      obtain ⟨vy, hvy, hgy⟩ := ihy ay hy
      obtain ⟨b, hb, _⟩ := acmp_sound op ax ay r vx vy hr hgx hgy
      exact ⟨.bool b, by simp [fixOrder, evalE, hvx, hvy, hb], ⟨_, rfl⟩⟩
    · cases h
  | star e ih =>
    intro a h
    simp only [aval] at h
    obtain ⟨v, hv, hg⟩ := ih a h
    exact ⟨v, by simp [fixOrder, evalE, hv], hg⟩
  | binop op x y ihx ihy =>
    intro a h
    simp only [aval] at h
    split at h
    · rename_i ax ay hx hy
      obtain ⟨vx, hvx, hgx⟩ := ihx ax hx
      obtain ⟨vy, hvy, hgy⟩ := ihy ay hy
      obtain ⟨v, hv, hg⟩ := abinop_sound op ax ay a vx vy h hgx hgy
      exact ⟨v, by simp [fixOrder, evalE, hvx, hvy, hv], hg⟩
    · cases h
  | order g ih =>
    intro a h
    simp only [aval] at h
    split at h
    · rename_i hno
      -- `g` holds no `G.order()`: it is its own `fixOrder`
      have ihg : ∀ ag, aval w g = some ag → ∃ vg, evalE ns g = some vg ∧ gam ag vg := fun ag hx => by
        simpa only [fixOrder_id ord ns g hno] using ih ag hx
      split at h
      · rename_i hx
        obtain ⟨_, hvg, k, c, r, rfl, hcon⟩ := ihg _ hx
        cases h
        unfold constructed at hcon
        exact ⟨.pos, by simp only [fixOrder, hvg, hcon, if_true, evalE, Option.map_some, orderOf], rfl⟩
      · rename_i hx
        obtain ⟨_, hvg, k, t, rfl⟩ := ihg _ hx
        cases h
        cases t with
        | nil => exact ⟨.int (ord []), by simp only [fixOrder, hvg, evalE], Or.inr ⟨_, rfl⟩⟩
        | cons c r =>
          cases hcon : ((graphConstructions.lookup k).getD []).contains c with
          | true => exact ⟨.pos, by simp only [fixOrder, hvg, hcon, if_true, evalE, Option.map_some, orderOf], Or.inl rfl⟩
          | false =>
            exact ⟨.int (ord (c :: r)), by simp only [fixOrder, hvg, hcon, Bool.false_eq_true, if_false, evalE],
              Or.inr ⟨_, rfl⟩⟩
      · cases h
      · rename_i x hC hA hY hx
        obtain ⟨vg, hvg, hgg⟩ := ihg x hx
        cases h
        exact ⟨_, evalE_order_nongraph ord ns g vg hvg (gam_nongraph x vg hgg hC hA hY), _, rfl⟩
      · cases h
    · cases h
  | nil => intro a h; simp [aval] at h; subst h; exact ⟨.toks [], rfl, ⟨_, rfl⟩⟩
  | cons hd tl ihh iht =>
    intro a h
    simp only [aval] at h
    split at h
    · rename_i s _ hx hy
      obtain ⟨_, hvh, rfl⟩ := ihh _ hx
      obtain ⟨_, hvt, hgt⟩ := iht _ hy
      obtain ⟨l, rfl⟩ := gam_toks _ _ hgt
      cases h
      exact ⟨.toks (s :: l), by simp only [fixOrder, evalE, hvh, hvt, tokOf], _, rfl⟩
    · rename_i _ hx hy
      obtain ⟨_, hvh, i, rfl⟩ := ihh _ hx
      obtain ⟨_, hvt, hgt⟩ := iht _ hy
      obtain ⟨l, rfl⟩ := gam_toks _ _ hgt
      cases h
      exact ⟨.toks (toString i :: l), by simp only [fixOrder, evalE, hvh, hvt, tokOf], _, rfl⟩
    · rename_i k _ hx hy
      obtain ⟨_, hvh, rfl⟩ := ihh _ hx
      obtain ⟨_, hvt, hgt⟩ := iht _ hy
      obtain ⟨l, rfl⟩ := gam_toks _ _ hgt
      cases h
      exact ⟨.toks (toString k :: l), by simp only [fixOrder, evalE, hvh, hvt, tokOf], _, rfl⟩
    · -- any other pair of kinds: the value exists
      rename_i x y _ _ _ hx hy
      obtain ⟨vh, hvh, _⟩ := ihh _ hx
      obtain ⟨vt, hvt, _⟩ := iht _ hy
      cases h
      simp only [fixOrder, evalE, hvh, hvt]
      cases vt with
      | toks l => dsimp only; cases tokOf vh <;> exact ⟨_, rfl, trivial⟩
      | _ => exact ⟨_, rfl, trivial⟩
    · cases h
  | mkgraph k sp ih =>
    intro a h
    simp only [aval] at h
    split at h
    · rename_i x hx
      obtain ⟨_, hvs, r, rfl⟩ := ih _ hx
      cases h
      refine ⟨.graph k (x :: r), by simp only [fixOrder, evalE, hvs], ?_⟩
      split
      · exact ⟨_, _, _, rfl, ‹_›⟩
      · exact ⟨_, _, rfl⟩
    · rename_i hx
      obtain ⟨_, hvs, l, rfl⟩ := ih _ hx
      cases h
      exact ⟨.graph k l, by simp only [fixOrder, evalE, hvs], _, _, rfl⟩
    · rename_i hx
      obtain ⟨vs, hvs, _⟩ := ih _ hx
      cases h
      simp only [fixOrder, evalE, hvs]
      cases vs <;> exact ⟨_, rfl, trivial⟩
    · cases h
  | «opaque» src ds => intro a h; simp [aval] at h; subst h; exact ⟨_, rfl, ⟨_, rfl⟩⟩
  | and | or | ite => intro a' h; simp [aval] at h

/-- the facts hold in the namespace -/
def Cons (ord : List String → Nat) (ns : Ns) (fs : Facts) : Prop :=
  ∀ p ∈ fs, evalGuard ns (fixOrder ord ns p.1) = some p.2

theorem lookup_map_keep (w : World) (f : String × AV → String × AV) (hf : ∀ p, (f p).1 = p.1) (k : String) :
    (w.map f).lookup k = (w.lookup k).map (fun a => (f (k, a)).2) := by
  induction w with
  | nil => rfl
  | cons p rest ih =>
    obtain ⟨k', a⟩ := p
    have h1 : f (k', a) = (k', (f (k', a)).2) := Prod.ext (hf _) rfl
    rw [List.map_cons, h1, List.lookup_cons, List.lookup_cons, ih]
    cases hk : k == k' with
    | true => cases beq_iff_eq.1 hk; rfl
    | false => rfl

theorem refine_map_sound (w : World) (ns : Ns) (d : String) (a' : AV)
    (hcond : ∀ v, ns.lookup d = some v → gam .intOrNone v → gam a' v) (hw : gamW w ns) :
    gamW (w.map (fun p => if p.1 == d && p.2 == .intOrNone then (p.1, a') else p)) ns := by
  intro k
  rw [lookup_map_keep w _ (fun p => by by_cases h : (p.1 == d && p.2 == AV.intOrNone) = true <;> simp [h]) k]
  have := hw k
  cases hl : w.lookup k with
  | none => rw [hl] at this; simpa using this
  | some a =>
    rw [hl] at this
    obtain ⟨v, hv, hg⟩ := this
    simp only [Option.map_some]
    by_cases hc : (k == d && a == .intOrNone) = true
    · simp only [hc, if_true]
      simp only [Bool.and_eq_true, beq_iff_eq] at hc
      obtain ⟨rfl, rfl⟩ := hc
      exact ⟨v, hv, hcond v hv hg⟩
    · have hc' : (k == d && a == .intOrNone) = false := by simpa using hc
      simp only [hc', Bool.false_eq_true, if_false]
      exact ⟨v, hv, hg⟩

theorem refineOne_sound (ord : List String → Nat) (w : World) (ns : Ns) (f : Expr × Bool) (hw : gamW w ns)
    (hf : evalGuard ns (fixOrder ord ns f.1) = some f.2) : gamW (refineOne w f) ns := by
  -- only four shapes of facts change the world
  have key : ∀ (d : String) (want : Bool),
      ((ns.lookup d).bind isNoneV = some want) →
      gamW (w.map (fun p => if p.1 == d && p.2 == .intOrNone then (p.1, if want then AV.none else AV.int) else p)) ns := by
    intro d want hwant
    apply refine_map_sound w ns d _ _ hw
    intro v hv hg
    rw [hv] at hwant
    simp only [Option.bind_some] at hwant
    rcases hg with rfl | ⟨i, rfl⟩
    · simp [isNoneV] at hwant; subst hwant; rfl
    · simp [isNoneV] at hwant; subst hwant; exact ⟨i, rfl⟩
  -- what a test of `d` against `None` that came out as `b` says of the namespace
  have test : ∀ (d : String) (b : Bool),
      (evalGuard ns (fixOrder ord ns (.isNone (.arg d))) = some b → (ns.lookup d).bind isNoneV = some b) ∧
      (evalGuard ns (fixOrder ord ns (.isNotNone (.arg d))) = some b → (ns.lookup d).bind isNoneV = some (!b)) := by
    intro d b
    simp only [fixOrder, evalGuard, evalE]
    cases hl : ns.lookup d with
    | none => simp
    | some v =>
      cases hn : isNoneV v with
      | none => simp [hn]
      | some t =>
        constructor <;>
        · simp only [Option.bind_some, hn, Option.map_some, truthy]
          rintro ⟨rfl⟩
          simp
  unfold refineOne
  split
  · simpa using key _ false ((test _ true).2 hf)
  · simpa using key _ false ((test _ false).1 hf)
  · simpa using key _ true ((test _ false).2 hf)
  · simpa using key _ true ((test _ true).1 hf)
  · exact hw

theorem refine_sound (ord : List String → Nat) (ns : Ns) : ∀ (fs : Facts) (w : World), gamW w ns → Cons ord ns fs →
    gamW (refine w fs) ns := by
  intro fs
  induction fs with
  | nil => intro w hw _; exact hw
  | cons f rest ih =>
    intro w hw hc
    unfold refine
    simp only [List.foldl_cons]
    exact ih (refineOne w f) (refineOne_sound ord w ns f hw (hc f (by simp)))
      (fun p hp => hc p (by simp [hp]))

theorem atomOut_sound (ord : List String → Nat) (ns : Ns) (e : Expr) (fs : Facts) (r : Option AB)
    (outs : List (Bool × Facts))
    (hr : ∀ rr, r = some rr → ∃ b, evalGuard ns (fixOrder ord ns e) = some b ∧ gamB rr b)
    (hc : Cons ord ns fs) (h : atomOut e fs r = some outs) :
    ∃ o ∈ outs, evalGuard ns (fixOrder ord ns e) = some o.1 ∧ Cons ord ns o.2 := by
  unfold atomOut at h
  cases r with
  | none => simp at h
  | some rr =>
    obtain ⟨b, hb, hcb⟩ := hr rr rfl
    cases rr with
    | const c =>
      simp at h; subst h
      exact ⟨(c, fs), by simp, by rw [hb, hcb], hc⟩
    | atom =>
      dsimp only at h
      cases hl : fs.lookup e with
      | some b' =>
        rw [hl] at h
        simp at h; subst h
        have := hc (e, b') (dtot_lookup_mem fs e b' hl)
        exact ⟨(b', fs), by simp, this, hc⟩
      | none =>
        rw [hl] at h
        simp at h; subst h
        refine ⟨(b, (e, b) :: fs), by cases b <;> simp, hb, fun p hp => ?_⟩
        rcases List.mem_cons.1 hp with rfl | hp
        · exact hb
        · exact hc p hp

/-- an outcome continued by `k`: what holds of one of ITS outcomes holds of one of all the outcomes -/
theorem seqOuts_sound {P : Bool × Facts → Prop} (k : Bool → Facts → Option (List (Bool × Facts))) :
    ∀ (outs L : List (Bool × Facts)), seqOuts k outs = some L → ∀ o ∈ outs,
      (∀ l', k o.1 o.2 = some l' → ∃ x ∈ l', P x) → ∃ x ∈ L, P x := by
  intro outs
  induction outs with
  | nil => intro L _ o ho; simp at ho
  | cons o' rest ih =>
    intro L h o ho hk
    unfold seqOuts at h
    cases hk' : k o'.1 o'.2 with
    | none => simp [hk'] at h
    | some l' =>
      cases hs : seqOuts k rest with
      | none => simp [hk', hs] at h
      | some l =>
        simp [hk', hs] at h; subst h
        rcases List.mem_cons.1 ho with rfl | ho
        · exact (hk l' hk').imp fun x hx => ⟨List.mem_append_left _ hx.1, hx.2⟩
        · exact (ih l hs o ho hk).imp fun x hx => ⟨List.mem_append_right _ hx.1, hx.2⟩

/-- The truth value of the guard in the namespace is one of the outcomes `aguard` lists, and what that
outcome has learnt holds in the namespace. -/
theorem aguard_sound (ord : List String → Nat) (w : World) (ns : Ns) (hw : gamW w ns) :
    ∀ (e : Expr) (fs : Facts) (outs : List (Bool × Facts)), Cons ord ns fs → aguard w e fs = some outs →
      ∃ o ∈ outs, evalGuard ns (fixOrder ord ns e) = some o.1 ∧ Cons ord ns o.2 := by
  intro e
  induction e with
  | and a b iha ihb =>
    intro fs outs hc h
    obtain ⟨outsA, ha, h⟩ := Option.bind_eq_some_iff.1 h
    obtain ⟨oa, hoa, hva, hca⟩ := iha fs outsA hc ha
    refine seqOuts_sound _ outsA outs h oa hoa fun l' hk => ?_
    cases hb1 : oa.1 <;> rw [hb1] at hk hva <;> simp only [fixOrder, dtot_evalGuard_and, hva]
    · cases hk
      exact ⟨_, List.mem_singleton.2 rfl, rfl, hca⟩
    · exact ihb oa.2 l' hca hk
  | or a b iha ihb =>
    intro fs outs hc h
    obtain ⟨outsA, ha, h⟩ := Option.bind_eq_some_iff.1 h
    obtain ⟨oa, hoa, hva, hca⟩ := iha fs outsA hc ha
    refine seqOuts_sound _ outsA outs h oa hoa fun l' hk => ?_
    cases hb1 : oa.1 <;> rw [hb1] at hk hva <;> simp only [fixOrder, dtot_evalGuard_or, hva]
    · exact ihb oa.2 l' hca hk
    · cases hk
      exact ⟨_, List.mem_singleton.2 rfl, rfl, hca⟩
  | not e ih =>
    intro fs outs hc h
    obtain ⟨outsE, he, rfl⟩ := Option.map_eq_some_iff.1 h
    obtain ⟨o, ho, hv, hco⟩ := ih fs outsE hc he
    exact ⟨(!o.1, o.2), List.mem_map.2 ⟨o, ho, rfl⟩, dtot_evalGuard_not ns _ o.1 hv, hco⟩
  | hasattr d =>
    intro fs outs hc h
    simp only [aguard] at h
    simp at h; subst h
    refine ⟨((w.lookup d).isSome, fs), by simp, ?_, hc⟩
    simp [fixOrder, evalGuard, evalE, truthy, gamW_isSome w ns hw d]
  | bool b =>
    intro fs outs hc h
    simp only [aguard] at h
    simp at h; subst h
    exact ⟨(b, fs), by simp, by simp [fixOrder, evalGuard, evalE, truthy], hc⟩
  | isNone e _ =>
    intro fs outs hc h
    refine atomOut_sound ord ns (.isNone e) fs _ outs (fun rr hrr => ?_) hc h
    obtain ⟨x, hx, hr⟩ := Option.bind_eq_some_iff.1 hrr
    obtain ⟨v, hv, hg⟩ := aval_sound ord _ ns (refine_sound ord ns fs w hw hc) e x hx
    obtain ⟨b, hb, hcb⟩ := aisNone_sound x rr v hr hg
    exact ⟨b, by simp [fixOrder, evalGuard, evalE, hv, hb, truthy], hcb⟩
  | isNotNone e _ =>
    intro fs outs hc h
    refine atomOut_sound ord ns (.isNotNone e) fs _ outs (fun rr hrr => ?_) hc h
    obtain ⟨r0, hr0, rfl⟩ := Option.map_eq_some_iff.1 hrr
    obtain ⟨x, hx, hr⟩ := Option.bind_eq_some_iff.1 hr0
    obtain ⟨v, hv, hg⟩ := aval_sound ord _ ns (refine_sound ord ns fs w hw hc) e x hx
    obtain ⟨b, hb, hcb⟩ := aisNone_sound x r0 v hr hg
    refine ⟨!b, by simp [fixOrder, evalGuard, evalE, hv, hb, truthy], ?_⟩
    cases r0 with
    | const c0 => exact congrArg not hcb
    | atom => trivial
  | cmp op x y _ _ =>
    intro fs outs hc h
    refine atomOut_sound ord ns (.cmp op x y) fs _ outs (fun rr hrr => ?_) hc h
    have hwr := refine_sound ord ns fs w hw hc
    split at hrr
    · rename_i ax ay hx hy
      obtain ⟨vx, hvx, hgx⟩ := aval_sound ord _ ns hwr x ax hx
      obtain ⟨vy, hvy, hgy⟩ := aval_sound ord _ ns hwr y ay hy
      obtain ⟨b, hb, hcb⟩ := acmp_sound op ax ay rr vx vy hrr hgx hgy
      exact ⟨b, by simp [fixOrder, evalGuard, evalE, hvx, hvy, hb, truthy], hcb⟩
    · cases hrr
  | arg d =>
    intro fs outs hc h
    refine atomOut_sound ord ns (.arg d) fs _ outs (fun rr hrr => ?_) hc h
    obtain ⟨x, hx, hr⟩ := Option.bind_eq_some_iff.1 hrr
    obtain ⟨v, hv, hg⟩ := gamW_some _ ns (refine_sound ord ns fs w hw hc) d x hx
    obtain ⟨b, hb, hcb⟩ := atruthy_sound x rr v hr hg
    exact ⟨b, by simp [fixOrder, evalGuard, evalE, hv, hb], hcb⟩
  | _ => intro fs outs _ h; simp [aguard] at h

theorem fixOrder_star (ord : List String → Nat) (ns : Ns) (e x : Expr) (h : fixOrder ord ns e = .star x) :
    ∃ e', e = .star e' := by
  cases e <;> simp [fixOrder] at h
  · exact ⟨_, rfl⟩
  · rename_i g
    split at h
    · split at h <;> simp at h
    · simp at h
    · simp at h

theorem posStep_nonstar (fe : Expr) (v : Val) (vs : List Val) :
    (∀ x, fe ≠ .star x) →
    (match fe, v with
      | .star _, .ints l => some (l.map Val.int ++ vs)
      | .star _, _ => none
      | _, _ => some (v :: vs)) = some (v :: vs) := by
  intro h
  cases fe <;> first | rfl | exact absurd rfl (h _)

theorem evalPos_sound (ord : List String → Nat) (w : World) (ns : Ns) (hw : gamW w ns) (es : List Expr)
    (h : es.all (fun e => match e with
        | .star e' => aval w e' == some .ints
        | e => (aval w e).isSome) = true) :
    ∃ vs, evalPos ns (es.map (fixOrder ord ns)) = some vs := by
  refine evalPos_defined ns _ fun fe hfe => ?_
  obtain ⟨e, he, rfl⟩ := List.mem_map.1 hfe
  have h1 := List.all_eq_true.1 h e he
  by_cases hs : ∃ e', e = .star e'
  · obtain ⟨e', rfl⟩ := hs
    obtain ⟨v, hv, l, rfl⟩ := aval_sound ord w ns hw e' .ints (by simpa using h1)
    exact ⟨_, by simpa only [fixOrder, evalE] using hv, fun _ _ => ⟨l, rfl⟩⟩
  · have hns : ∀ e', e ≠ .star e' := fun e' he => hs ⟨e', he⟩
    have h1 : (aval w e).isSome = true := by
      cases e <;> first | exact h1 | exact absurd rfl (hns _)
    obtain ⟨a, ha⟩ := Option.isSome_iff_exists.1 h1
    obtain ⟨v, hv, _⟩ := aval_sound ord w ns hw e a ha
    exact ⟨v, hv, fun x hx => let ⟨e', he'⟩ := fixOrder_star ord ns e x hx; absurd he' (hns e')⟩

theorem evalKw_sound (ord : List String → Nat) (w : World) (ns : Ns) (hw : gamW w ns) (kw : List (String × Expr))
    (h : kw.all (fun p => (aval w p.2).isSome) = true) :
    ∃ vs, evalKw ns (kw.map (fun p => (p.1, fixOrder ord ns p.2))) = some vs := by
  refine evalKw_defined ns _ fun fp hfp => ?_
  obtain ⟨p, hp, rfl⟩ := List.mem_map.1 hfp
  obtain ⟨a, ha⟩ := Option.isSome_iff_exists.1 (List.all_eq_true.1 h p hp)
  obtain ⟨v, hv, _⟩ := aval_sound ord w ns hw p.2 a ha
  exact ⟨v, hv⟩

theorem tmplOK_sound (ord : List String → Nat) (w : World) (ns : Ns) (hw : gamW w ns) (t : CallTemplate)
    (h : tmplOK w t = true) :
    (∃ c, instantiate ns (fixTemplate ord ns t) = .ok c) ∨
      instantiate ns (fixTemplate ord ns t) = .error .cliError := by
  unfold tmplOK at h
  by_cases hrz : t.raises = ""
  · rw [if_neg (by simp [hrz])] at h
    simp only [Bool.and_eq_true, aargs, bne_iff_ne, ne_eq] at h
    obtain ⟨p, hp⟩ := evalPos_sound ord w ns hw t.pos h.2.1
    obtain ⟨k, hk⟩ := evalKw_sound ord w ns hw t.kw h.2.2
    exact Or.inl ⟨_, instantiate_call (t := fixTemplate ord ns t) hrz h.1 hp hk⟩
  · rw [if_pos (by simpa using hrz)] at h
    exact Or.inr (instantiate_raises (t := fixTemplate ord ns t) hrz h)

/-- Whatever is checked of the path taken (`run` is `arun w`, or `arunG ok w` of Cli/OutcomeX.lean): in every namespace of
the world, with the facts learnt so far, when `run` says yes the helper's method takes a path, and `ok` held of it in a
world of the namespace. -/
theorem run_sound (ord : List String → Nat) (w : World) (ns : Ns) (hw : gamW w ns)
    (ok : World → CallTemplate → Bool) (P : CallTemplate → Prop)
    (hok : ∀ w' t, gamW w' ns → ok w' t = true → P t) (run : List CallTemplate → Facts → Bool)
    (hnil : ∀ fs, run [] fs = false)
    (hcons : ∀ t rest fs, run (t :: rest) fs =
      match aguard w t.guard fs with
      | Option.none => false
      | some outs => outs.all (fun o => if o.1 then ok (refine w o.2) t else run rest o.2)) :
    ∀ (ts : List CallTemplate) (fs : Facts), Cons ord ns fs → run ts fs = true →
      ∃ t ∈ ts, selectTemplate ns (ts.map (fixTemplate ord ns)) = .ok (fixTemplate ord ns t) ∧ P t := by
  intro ts
  induction ts with
  | nil => intro fs _ h; simp [hnil] at h
  | cons t rest ih =>
    intro fs hc h
    rw [hcons] at h
    cases hg : aguard w t.guard fs with
    | none => simp [hg] at h
    | some outs =>
      rw [hg] at h
      dsimp only at h
      obtain ⟨o, ho, hv, hco⟩ := aguard_sound ord w ns hw t.guard fs outs hc hg
      have hall := List.all_eq_true.1 h o ho
      simp only [List.map_cons, selectTemplate, show (fixTemplate ord ns t).guard = fixOrder ord ns t.guard from rfl, hv]
      cases ho1 : o.1 with
      | true =>
        rw [ho1] at hall
        exact ⟨t, List.mem_cons_self .., rfl, hok _ t (refine_sound ord ns o.2 w hw hco) hall⟩
      | false =>
        rw [ho1] at hall
        obtain ⟨t', hm, hP⟩ := ih o.2 hco hall
        exact ⟨t', List.mem_cons_of_mem _ hm, hP⟩

/-- when `arun` says yes, the call of the path taken can be built or the path raises a ValueError -/
theorem arun_sound (ord : List String → Nat) (w : World) (ns : Ns) (hw : gamW w ns) (ts : List CallTemplate)
    (fs : Facts) (hc : Cons ord ns fs) (h : arun w ts fs = true) :
    ∃ t, selectTemplate ns (ts.map (fixTemplate ord ns)) = .ok (fixTemplate ord ns t) ∧
      ((∃ c, instantiate ns (fixTemplate ord ns t) = .ok c) ∨
        instantiate ns (fixTemplate ord ns t) = .error .cliError) :=
  let ⟨t, _, h⟩ := run_sound ord w ns hw tmplOK _ (fun w' t hw' => tmplOK_sound ord w' ns hw' t) (arun w)
    (fun _ => rfl) (fun _ _ _ => rfl) ts fs hc h
  ⟨t, h⟩

end Cnfgen.Cli.AP
