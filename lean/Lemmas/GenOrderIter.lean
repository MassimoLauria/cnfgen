/-
The closed forms of `Fam/Ordering.lean` (`verts`, `perm3`, `comb3`, `comb2`, `permId`, `combId`)
against the generic itertools model of `Core/Iter.lean` (`combos`, `permsK`, `picks`, `rangeN`),
for every `n`.
-/
import Lemmas.FamOrdering
import Lemmas.C01Combos
import Lemmas.FamIter
import Lemmas.FamRamsey
import Lemmas.VarsWords
namespace Cnfgen.GenOrderIter
open Cnfgen Cnfgen.Fam.Ordering Cnfgen.Vars

theorem flatMap_filter_eq {α β : Type} (p : α → Bool) (f : α → List β) (l : List α) :
    (l.filter p).flatMap f = l.flatMap (fun a => if p a then f a else []) := by
  induction l with
  | nil => rfl
  | cons x xs ih =>
    by_cases h : p x = true
    · simp [h, ih]
    · simp [h, ih]

theorem picks_eq_of_nodup {α : Type} [DecidableEq α] {l : List α} (hl : l.Nodup) :
    picks l = l.map (fun a => (a, l.filter (· != a))) := by
  induction l with
  | nil => rfl
  | cons x xs ih =>
    rw [List.nodup_cons] at hl
    rw [picks, ih hl.2, List.map_cons, List.map_map]
    congr 1
    · have : xs.filter (· != x) = xs := by
        rw [List.filter_eq_self]
        intro a ha
        simp only [bne_iff_ne, ne_eq]
        rintro rfl; exact hl.1 ha
      simp [this]
    · apply List.map_congr_left
      intro a ha
      have hxa : x ≠ a := by rintro rfl; exact hl.1 ha
      simp [hxa]

theorem permsK_one {α : Type} (l : List α) : permsK 1 l = l.map (fun a => [a]) := by
  rw [permsK_succ]
  simp only [permsK_zero, List.map_cons, List.map_nil]
  rw [← List.map_eq_flatMap]
  conv_rhs => rw [← picks_map_fst l]
  simp [List.map_map, Function.comp_def]

theorem permsK_succ_of_nodup {α : Type} [DecidableEq α] {l : List α} (hl : l.Nodup) (k : Nat) :
    permsK (k + 1) l = l.flatMap (fun a => (permsK k (l.filter (· != a))).map (a :: ·)) := by
  rw [permsK_succ, picks_eq_of_nodup hl, List.flatMap_map]

theorem permsK_two_of_nodup {α : Type} [DecidableEq α] {l : List α} (hl : l.Nodup) :
    permsK 2 l = l.flatMap (fun a => (l.filter (· != a)).map (fun b => [a, b])) := by
  rw [permsK_succ_of_nodup hl]
  simp only [permsK_one, List.map_map, Function.comp_def]

theorem permsK_three_of_nodup {α : Type} [DecidableEq α] {l : List α} (hl : l.Nodup) :
    permsK 3 l = l.flatMap (fun a => l.flatMap (fun b =>
      (l.filter (fun c => a != b && a != c && b != c)).map (fun c => [a, b, c]))) := by
  rw [permsK_succ_of_nodup hl]
  apply List.flatMap_congr
  intro a _
  rw [permsK_two_of_nodup (hl.filter _), flatMap_filter_eq, List.map_flatMap]
  apply List.flatMap_congr
  intro b _
  by_cases hab : a = b
  · subst hab; simp
  · have hba : b ≠ a := fun h => hab h.symm
    simp only [bne_iff_ne, ne_eq, hba, not_false_eq_true, if_true, List.filter_filter, List.map_map,
      Function.comp_def]
    congr 1
    apply List.filter_congr
    intro c _
    have h1 : (a != b) = true := by simp [hab]
    rw [h1, Bool.true_and, Bool.and_comm, bne_comm (a := c), bne_comm (a := c)]

theorem combos_succ_of_sorted {l : List Nat} (hl : l.Pairwise (· < ·)) (k : Nat) :
    combos l (k + 1) =
      l.flatMap (fun a => (combos (l.filter (fun b => decide (a < b))) k).map (a :: ·)) := by
  induction l with
  | nil => simp [combos]
  | cons x xs ih =>
    rw [List.pairwise_cons] at hl
    rw [combos, ih hl.2, List.flatMap_cons]
    congr 1
    · have : (x :: xs).filter (fun b => decide (x < b)) = xs := by
        rw [List.filter_cons, if_neg (by simp), List.filter_eq_self]
        intro a ha
        simpa using hl.1 a ha
      rw [this]
    · apply List.flatMap_congr
      intro a ha
      have h1 : ¬ a < x := by have := hl.1 a ha; omega
      simp [h1]

theorem combos_two_loop {l : List Nat} (hl : l.Pairwise (· < ·)) :
    combos l 2 = l.flatMap (fun a => (l.filter (fun b => decide (a < b))).map (fun b => [a, b])) := by
  rw [combos_succ_of_sorted hl]
  simp only [combos_one, List.map_map, Function.comp_def]

theorem combos_three_loop {l : List Nat} (hl : l.Pairwise (· < ·)) :
    combos l 3 = l.flatMap (fun a => l.flatMap (fun b =>
      (l.filter (fun c => decide (a < b) && decide (b < c))).map (fun c => [a, b, c]))) := by
  rw [combos_succ_of_sorted hl]
  apply List.flatMap_congr
  intro a _
  rw [combos_two_loop (hl.filter _), flatMap_filter_eq, List.map_flatMap]
  apply List.flatMap_congr
  intro b _
  by_cases hab : a < b
  · simp only [hab, decide_true, if_true, List.filter_filter, List.map_map, Function.comp_def,
      Bool.true_and]
    congr 1
    apply List.filter_congr
    intro c _
    by_cases hbc : b < c
    · have : a < c := by omega
      simp [hbc, this]
    · simp [hbc]
  · simp [hab]

theorem rangeN_eq_verts (n : Nat) : rangeN 1 (n + 1) = verts n := by
  simp [rangeN, verts]

theorem verts_sorted (n : Nat) : (verts n).Pairwise (· < ·) := by
  rw [← rangeN_eq_verts]; exact rangeN_pairwise _ _

theorem verts_nodup (n : Nat) : (verts n).Nodup := by
  rw [← rangeN_eq_verts]; exact rangeN_nodup _ _

theorem combosSeqs_two_eq (n : Nat) : combosSeqs n 2 = (comb2 n).map (fun p => [p.1, p.2]) := by
  rw [combosSeqs, rangeN_eq_verts, combos_two_loop (verts_sorted n), comb2]
  simp only [List.map_flatMap, List.map_map, Function.comp_def]

theorem combosSeqs_three_eq (n : Nat) :
    combosSeqs n 3 = (comb3 n).map (fun t => [t.1, t.2.1, t.2.2]) := by
  rw [combosSeqs, rangeN_eq_verts, combos_three_loop (verts_sorted n), comb3]
  simp only [List.map_flatMap, List.map_map, Function.comp_def]

theorem permsSeqs_three_eq (n : Nat) :
    permsSeqs n 3 = (perm3 n).map (fun t => [t.1, t.2.1, t.2.2]) := by
  rw [permsSeqs, rangeN_eq_verts, permsK_three_of_nodup (verts_nodup n), perm3]
  simp only [List.map_flatMap, List.map_map, Function.comp_def]

theorem permsSeqs_two_eq (n : Nat) : permsSeqs n 2 = (perm2 n).map (fun p => [p.1, p.2]) := by
  rw [permsSeqs, rangeN_eq_verts, permsK_two_of_nodup (verts_nodup n), perm2]
  simp only [List.map_flatMap, List.map_map, Function.comp_def]

theorem mem_permsSeqs_two {n u v : Nat} :
    [u, v] ∈ permsSeqs n 2 ↔ (1 ≤ u ∧ u ≤ n) ∧ (1 ≤ v ∧ v ≤ n) ∧ u ≠ v := by
  rw [mem_permsSeqs]
  simp only [List.length_cons, List.length_nil, List.nodup_cons, List.mem_cons, List.not_mem_nil,
    or_false, not_false_eq_true, List.nodup_nil, and_true, true_and, forall_eq_or_imp, forall_eq]
  constructor
  · rintro ⟨h, hu, hv⟩; exact ⟨hu, hv, h⟩
  · rintro ⟨hu, hv, h⟩; exact ⟨h, hu, hv⟩

theorem permIds_seqs (n : Nat) :
    (permsSeqs n 2).map (fun w => permId n (w.getD 0 0) (w.getD 1 0)) = List.range' 1 (n * (n - 1)) := by
  rw [permsSeqs_two_eq, List.map_map]
  exact permIds n

theorem length_permsSeqs_two (n : Nat) : (permsSeqs n 2).length = n * (n - 1) := by
  simpa using congrArg List.length (permIds_seqs n)

theorem permId_eq_idxOf {n u v : Nat} (hu : 1 ≤ u ∧ u ≤ n) (hv : 1 ≤ v ∧ v ≤ n) (h : u ≠ v) :
    1 + (permsSeqs n 2).idxOf [u, v] = permId n u v :=
  ids_idxOf (permIds_seqs n) (mem_permsSeqs_two.2 ⟨hu, hv, h⟩)

theorem combIds_seqs (n : Nat) :
    (combosSeqs n 2).map (fun w => combId n (w.getD 0 0) (w.getD 1 0)) = List.range' 1 (combOff n n) := by
  rw [combosSeqs_two_eq, List.map_map]
  exact combIds n

theorem combId_eq_idxOf {n u v : Nat} (hu : 1 ≤ u) (h : u < v) (hv : v ≤ n) :
    1 + (combosSeqs n 2).idxOf [u, v] = combId n u v :=
  ids_idxOf (combIds_seqs n) (FamRamsey.mem_pairs.2 ⟨hu, h, hv⟩)

end Cnfgen.GenOrderIter
