/-
Representation invariants of the three graph objects (`SimpleG.Inv`, `DiG.Inv`, `BipG.Inv`) and their
preservation by every update (C16, T-C16.1); what one `add_edge` and a run of them do (`addEdge_cases`,
`law`, `ofEdges_spec`); and, in each namespace `Inv`, the facts the formula-family models need about any
graph that satisfies the invariant (every graph reachable from `init` by updates, every `ofEdges` result).
-/
import Lemmas.GraphList
namespace Cnfgen

namespace SimpleG

/-- what `add_edge` accepts -/
def Valid (n : Nat) (u v : Int) : Prop := 1 ≤ u ∧ u ≤ n ∧ 1 ≤ v ∧ v ≤ n ∧ u ≠ v

instance (n : Nat) (u v : Int) : Decidable (Valid n u v) := by unfold Valid; exact inferInstance

/-- the abstract value of the object: its set of unordered edges, as the duplicate-free list
of normalised pairs `(u, v)`, `u < v` -/
def abs (G : SimpleG) : List (Nat × Nat) := G.edgeset.filter (fun e => decide (e.1 < e.2))

theorem mem_abs {G : SimpleG} {e : Nat × Nat} : e ∈ abs G ↔ e.1 < e.2 ∧ e ∈ G.edgeset := by
  simp [abs, And.comm]

def norm (u v : Nat) : Nat × Nat := (min u v, max u v)

theorem norm_comm (a b : Nat) : norm a b = norm b a := by
  simp only [norm, Nat.min_comm, Nat.max_comm]

theorem norm_of_le {a b : Nat} (h : a ≤ b) : norm a b = (a, b) := by
  simp only [norm, Nat.min_eq_left h, Nat.max_eq_right h]

theorem norm_cases (a b : Nat) : norm a b = (a, b) ∨ norm a b = (b, a) :=
  (Nat.le_total a b).imp norm_of_le fun h => (norm_comm a b).trans (norm_of_le h)

theorem norm_lt {a b : Nat} (hab : a ≠ b) : (norm a b).1 < (norm a b).2 := by
  simp only [norm]; omega

/-- the three redundant representations agree -/
structure Inv (G : SimpleG) : Prop where
  /-- `adjlist` has `n+1` rows, each strictly sorted, and stores exactly `edgeset` -/
  rep : Rep G.adj G.n (fun u v => (u, v) ∈ G.edgeset)
  /-- `edgeset` holds both orientations -/
  symm : ∀ u v, (u, v) ∈ G.edgeset → (v, u) ∈ G.edgeset
  range : ∀ u v, (u, v) ∈ G.edgeset → 1 ≤ u ∧ u ≤ G.n ∧ 1 ≤ v ∧ v ≤ G.n ∧ u ≠ v
  nodup : G.edgeset.Nodup
  /-- the counter counts unordered edges: `m = |abs|` -/
  count : (abs G).length = G.m

theorem Inv.norm_mem {G : SimpleG} (h : Inv G) {a b : Nat} : norm a b ∈ G.edgeset ↔ (a, b) ∈ G.edgeset := by
  rcases norm_cases a b with e | e <;> rw [e]
  exact ⟨h.symm b a, h.symm a b⟩

/-- `edgeset` is the symmetric closure of `abs` -/
theorem Inv.mem_edgeset_iff {G : SimpleG} (h : Inv G) {u v : Nat} : (u, v) ∈ G.edgeset ↔ norm u v ∈ abs G := by
  rw [mem_abs, h.norm_mem]
  exact ⟨fun hm => ⟨norm_lt (h.range u v hm).2.2.2.2, hm⟩, And.right⟩

theorem inv_init (n : Nat) : Inv (init n) :=
  ⟨(Rep.init n).congr (by simp [init]), by simp [init], by simp [init], by simp [init], by simp [init, abs]⟩

/-- the state after inserting the new edge `{x, y}`, `x < y` -/
def insertNew (G : SimpleG) (x y : Nat) : SimpleG :=
  { n := G.n, m := G.m + 1,
    adj := (G.adj.modify x (insertSorted · y)).modify y (insertSorted · x),
    edgeset := (y, x) :: (x, y) :: G.edgeset }

theorem abs_insertNew (G : SimpleG) {x y : Nat} (hxy : x < y) :
    abs (insertNew G x y) = (x, y) :: abs G := by
  simp [abs, insertNew, hxy, Nat.lt_asymm hxy]

theorem inv_insertNew {G : SimpleG} (h : Inv G) {x y : Nat} (hx : 1 ≤ x) (hxy : x < y) (hy : y ≤ G.n)
    (hn : (x, y) ∉ G.edgeset) : Inv (insertNew G x y) := by
  have hn' : (y, x) ∉ G.edgeset := fun hm => hn (h.symm _ _ hm)
  refine ⟨?_, ?_, ?_, ?_, ?_⟩
  · have r1 := h.rep.insert (u := x) (v := y) (by omega) hn
    have r2 := r1.insert (u := y) (v := x) hy (by
      simp only [not_or]; exact ⟨by omega, hn'⟩)
    refine r2.congr (fun a b => ?_)
    simp only [insertNew, List.mem_cons, Prod.mk.injEq]
  · intro a b
    simp only [insertNew, List.mem_cons, Prod.mk.injEq]
    rintro (⟨rfl, rfl⟩ | ⟨rfl, rfl⟩ | hm)
    · simp
    · simp
    · exact Or.inr (Or.inr (h.symm _ _ hm))
  · intro a b
    simp only [insertNew, List.mem_cons, Prod.mk.injEq]
    rintro (⟨rfl, rfl⟩ | ⟨rfl, rfl⟩ | hm)
    · omega
    · omega
    · exact h.range _ _ hm
  · simp only [insertNew, List.nodup_cons, List.mem_cons, Prod.mk.injEq, not_or]
    exact ⟨⟨by omega, hn'⟩, hn, h.nodup⟩
  · rw [abs_insertNew G hxy, List.length_cons, h.count]; rfl

theorem addEdge_cases (G : SimpleG) (u v : Int) :
    (¬ Valid G.n u v ∧ G.addEdge u v = .error .valueError) ∨
    (Valid G.n u v ∧ (u.toNat, v.toNat) ∈ G.edgeset ∧ G.addEdge u v = .ok G) ∨
    (Valid G.n u v ∧ (u.toNat, v.toNat) ∉ G.edgeset ∧
      G.addEdge u v = .ok (insertNew G (min u.toNat v.toNat) (max u.toNat v.toNat))) := by
  unfold addEdge
  by_cases hv : Valid G.n u v
  · right
    have hv' : (1 ≤ u ∧ u ≤ G.n ∧ 1 ≤ v ∧ v ≤ G.n ∧ u ≠ v) := hv
    rw [if_neg (fun hn => hn hv')]
    by_cases hc : (u.toNat, v.toNat) ∈ G.edgeset
    · left; simp [hv, hc]
    · right; simp [hv, hc, insertNew]
  · left
    have hv' : ¬ (1 ≤ u ∧ u ≤ G.n ∧ 1 ≤ v ∧ v ≤ G.n ∧ u ≠ v) := hv
    exact ⟨hv, by rw [if_pos hv']⟩

theorem inv_addEdge {G G' : SimpleG} (h : Inv G) {u v : Int} (e : G.addEdge u v = .ok G') : Inv G' := by
  rcases addEdge_cases G u v with ⟨_, h1⟩ | ⟨_, _, h1⟩ | ⟨hv, hc, h1⟩
  · rw [h1] at e; cases e
  · rw [h1] at e; cases e; exact h
  · rw [h1] at e; cases e
    obtain ⟨h1, h2, h3, h4, h5⟩ := hv
    exact inv_insertNew h (by omega) (norm_lt (by omega)) (by omega) (mt h.norm_mem.1 hc)

theorem addEdge_n {G G' : SimpleG} {u v : Int} (e : G.addEdge u v = .ok G') : G'.n = G.n := by
  rcases addEdge_cases G u v with ⟨_, h1⟩ | ⟨_, _, h1⟩ | ⟨_, _, h1⟩ <;> rw [h1] at e <;> cases e <;> rfl

theorem hasEdge_iff (G : SimpleG) (u v : Int) :
    G.hasEdge u v = true ↔ 0 ≤ u ∧ 0 ≤ v ∧ (u.toNat, v.toNat) ∈ G.edgeset := by
  simp [hasEdge, and_assoc]

/-- list fact behind `m -= 1`: deleting a member of a duplicate-free list -/
theorem length_filter_ne {α} [BEq α] [LawfulBEq α] {l : List α} (hl : l.Nodup) {z : α} (hz : z ∈ l) :
    (l.filter (fun e => e != z)).length + 1 = l.length := by
  induction l with
  | nil => cases hz
  | cons b bs ih =>
    have hb' := List.nodup_cons.1 hl
    by_cases hbz : b = z
    · subst hbz
      have : (bs.filter (fun e => e != b)) = bs := by
        rw [List.filter_eq_self]; intro e he; simp; rintro rfl; exact hb'.1 he
      simp [this]
    · have hz' : z ∈ bs := by
        rcases List.mem_cons.1 hz with rfl | hz'
        · exact absurd rfl hbz
        · exact hz'
      have := ih hb'.2 hz'
      simp [hbz]; omega

/-- removing `{a, b}` from `edgeset` removes the normalised pair from `abs` -/
theorem abs_filter (es : List (Nat × Nat)) {a b : Nat} (hab : a ≠ b) :
    (es.filter (fun e => e != (a, b) && e != (b, a))).filter (fun e => decide (e.1 < e.2)) =
    (es.filter (fun e => decide (e.1 < e.2))).filter (fun e => e != (min a b, max a b)) := by
  rw [List.filter_filter, List.filter_filter]
  apply List.filter_congr
  rintro ⟨e1, e2⟩ _
  rcases Nat.lt_or_gt_of_ne hab with hlt | hgt
  · rw [Nat.min_eq_left (by omega), Nat.max_eq_right (by omega)]
    by_cases h12 : e1 < e2
    · have : (e1, e2) ≠ (b, a) := by intro hh; injection hh; omega
      simp [h12, this]
    · simp [h12]
  · rw [Nat.min_eq_right (by omega), Nat.max_eq_left (by omega)]
    by_cases h12 : e1 < e2
    · have : (e1, e2) ≠ (a, b) := by intro hh; injection hh; omega
      simp [h12, this]
    · simp [h12]

theorem inv_removeEdge {G : SimpleG} (h : Inv G) (u v : Int) : Inv (G.removeEdge u v) := by
  unfold removeEdge
  by_cases he : G.hasEdge u v = true
  · rw [if_neg (by simp [he])]
    obtain ⟨_, _, hm⟩ := (hasEdge_iff G u v).1 he
    generalize u.toNat = a at hm
    generalize v.toNat = b at hm
    have hr := h.range a b hm
    refine ⟨?_, ?_, ?_, ?_, ?_⟩
    · refine ((h.rep.erase a b).erase b a).congr (fun x y => ?_)
      simp only [List.mem_filter, Bool.and_eq_true, bne_iff_ne, ne_eq, Prod.mk.injEq, and_assoc]
    · intro x y
      simp only [List.mem_filter, Bool.and_eq_true, bne_iff_ne, ne_eq, Prod.mk.injEq]
      rintro ⟨hxy, h1, h2⟩
      exact ⟨h.symm _ _ hxy, fun hh => h2 ⟨hh.2, hh.1⟩, fun hh => h1 ⟨hh.2, hh.1⟩⟩
    · intro x y hxy
      exact h.range x y (List.mem_filter.1 hxy).1
    · exact h.nodup.sublist List.filter_sublist
    · have hab : a ≠ b := hr.2.2.2.2
      have hnd : (abs G).Nodup := h.nodup.sublist List.filter_sublist
      have := length_filter_ne hnd (h.mem_edgeset_iff.1 hm)
      have hc := h.count
      simp only [abs, norm] at this hc ⊢
      rw [abs_filter _ hab]
      omega
  · rw [if_pos (by simp [he])]; exact h

theorem removeEdge_n (G : SimpleG) (u v : Int) : (G.removeEdge u v).n = G.n := by
  unfold removeEdge; split <;> rfl

theorem inv_updateVertexNumber {G G' : SimpleG} (h : Inv G) {k : Int}
    (e : G.updateVertexNumber k = .ok G') : Inv G' := by
  unfold updateVertexNumber at e
  split at e
  · cases e
  · cases e
    refine ⟨?_, h.symm, ?_, h.nodup, h.count⟩
    · have := h.rep.extend (k.toNat - G.n)
      have e2 : G.n + (k.toNat - G.n) = max G.n k.toNat := by omega
      rw [e2] at this
      exact this
    · intro u v hm
      have := h.range u v hm
      simp only
      omega

theorem updateVertexNumber_cases (G : SimpleG) (k : Int) :
    (k < 0 ∧ G.updateVertexNumber k = .error .valueError) ∨
    (0 ≤ k ∧ ∃ G', G.updateVertexNumber k = .ok G' ∧ G'.n = max G.n k.toNat ∧ G'.m = G.m ∧
      G'.edgeset = G.edgeset) := by
  unfold updateVertexNumber
  by_cases hk : k < 0
  · left; exact ⟨hk, by rw [if_pos hk]⟩
  · right
    exact ⟨by omega, { G with n := max G.n k.toNat, adj := G.adj ++ List.replicate (k.toNat - G.n) [] },
      by rw [if_neg hk], rfl, rfl, rfl⟩

theorem inPlace : InPlace (fun (g : SimpleG) e => g.addEdge e.1 e.2) addEdgesFromP :=
  ⟨fun _ => rfl, fun _ h => by simp only [addEdgesFromP, h], fun _ h => by simp only [addEdgesFromP, h]⟩

/-- `addEdgesFrom` (the `Except` form used by `ofEdges`) is `addEdgesFromP` without the state
of a failed run -/
theorem addEdgesFrom_eq (G : SimpleG) (es : List (Int × Int)) :
    G.addEdgesFrom es = (G.addEdgesFromP es).2.elim (.ok (G.addEdgesFromP es).1) .error :=
  inPlace.foldlM_eq G es

theorem inv_addEdgesFrom {G G' : SimpleG} (h : Inv G) {es : List (Int × Int)}
    (e : G.addEdgesFrom es = .ok G') : Inv G' :=
  foldlM_keeps (fun h e => inv_addEdge h e) h e

theorem inv_ofEdges {n : Nat} {es : List (Nat × Nat)} {G : SimpleG} (e : ofEdges n es = .ok G) : Inv G :=
  inv_addEdgesFrom (inv_init n) e

theorem ofEdges_n {n : Nat} {es : List (Nat × Nat)} {G : SimpleG} (e : ofEdges n es = .ok G) : G.n = n :=
  foldlM_keeps (I := fun G => G.n = n) (fun h e => (addEdge_n e).trans h) rfl e

namespace Inv
variable {G : SimpleG} (h : Inv G)
include h

theorem adj_length : G.adj.length = G.n + 1 := h.rep.len

theorem mem_nbrs {u v : Nat} : v ∈ G.nbrs u ↔ (u, v) ∈ G.edgeset := h.rep.mem u v

theorem nbrs_sorted (u : Nat) : SortedLt (G.nbrs u) := h.rep.sorted u

theorem nbrs_nodup (u : Nat) : (G.nbrs u).Nodup := (h.nbrs_sorted u).nodup

theorem mem_nbrs_comm {u v : Nat} : v ∈ G.nbrs u ↔ u ∈ G.nbrs v := by
  rw [h.mem_nbrs, h.mem_nbrs]; exact ⟨h.symm u v, h.symm v u⟩

theorem nbrs_range {u v : Nat} (hv : v ∈ G.nbrs u) : 1 ≤ u ∧ u ≤ G.n ∧ 1 ≤ v ∧ v ≤ G.n ∧ u ≠ v :=
  h.range u v (h.mem_nbrs.1 hv)

theorem nbrs_of_not_vertex {u : Nat} (hu : ¬ (1 ≤ u ∧ u ≤ G.n)) : G.nbrs u = [] := by
  cases hl : G.nbrs u with
  | nil => rfl
  | cons v vs =>
    have := h.nbrs_range (u := u) (v := v) (by rw [hl]; simp)
    omega

omit h in
theorem edges_eq_table : G.edges = tableEdges (fun u => (G.nbrs u).drop (bisectRight (G.nbrs u) u)) (G.n - 1) := rfl

theorem mem_edges {u v : Nat} : (u, v) ∈ G.edges ↔ u < v ∧ v ∈ G.nbrs u := by
  rw [Inv.edges_eq_table, mem_tableEdges]
  simp only
  rw [mem_drop_bisectRight (h.nbrs_sorted u)]
  constructor
  · rintro ⟨_, _, h3, h4⟩; exact ⟨h4, h3⟩
  · rintro ⟨h1, h2⟩
    have := h.nbrs_range h2
    exact ⟨by omega, by omega, h2, h1⟩

theorem mem_edges' {e : Nat × Nat} : e ∈ G.edges ↔ e.1 < e.2 ∧ e ∈ G.edgeset := by
  obtain ⟨u, v⟩ := e; rw [h.mem_edges, h.mem_nbrs]

theorem edges_sorted : SortedLex G.edges := by
  rw [Inv.edges_eq_table]
  exact sorted_tableEdges (fun u => sorted_drop (h.nbrs_sorted u) _) _

theorem edges_nodup : G.edges.Nodup := h.edges_sorted.nodup

theorem edges_range {u v : Nat} (he : (u, v) ∈ G.edges) : 1 ≤ u ∧ u < v ∧ v ≤ G.n := by
  have := h.mem_edges.1 he
  have := h.nbrs_range this.2
  omega

theorem hasEdge_iff_nbrs {u v : Nat} : G.hasEdge u v = true ↔ v ∈ G.nbrs u := by
  rw [SimpleG.hasEdge_iff, h.mem_nbrs]; simp

theorem abs_nodup : (abs G).Nodup := h.nodup.sublist List.filter_sublist

/-- `number_of_edges()` is the length of the edge listing -/
theorem m_eq_length_edges : G.m = G.edges.length := by
  rw [← h.count]
  exact ((List.perm_ext_iff_of_nodup h.abs_nodup h.edges_nodup).2
    (fun e => mem_abs.trans h.mem_edges'.symm)).length_eq

theorem hasEdge_comm (u v : Int) : G.hasEdge u v = G.hasEdge v u := by
  rw [Bool.eq_iff_iff, SimpleG.hasEdge_iff, SimpleG.hasEdge_iff]
  constructor
  · rintro ⟨a, b, c⟩; exact ⟨b, a, h.symm _ _ c⟩
  · rintro ⟨a, b, c⟩; exact ⟨b, a, h.symm _ _ c⟩

end Inv

theorem addEdge_invalid {G : SimpleG} {u v : Int} (hv : ¬ Valid G.n u v) :
    G.addEdge u v = .error .valueError := by
  rcases addEdge_cases G u v with ⟨_, h1⟩ | ⟨hv', _⟩ | ⟨hv', _⟩
  · exact h1
  · exact absurd hv' hv
  · exact absurd hv' hv

theorem addEdge_spec {G : SimpleG} {n : Nat} (h : Inv G ∧ G.n = n) {u v : Int} (hv : Valid n u v) :
    ∃ G', G.addEdge u v = .ok G' ∧ (Inv G' ∧ G'.n = n) ∧
      ∀ p, p ∈ abs G' ↔ p = norm u.toNat v.toNat ∨ p ∈ abs G := by
  obtain ⟨h, rfl⟩ := h
  have hab : u.toNat ≠ v.toNat := by obtain ⟨h1, h2, h3, h4, h5⟩ := hv; omega
  rcases addEdge_cases G u v with ⟨hv', _⟩ | ⟨_, hc, h1⟩ | ⟨_, hc, h1⟩
  · exact absurd hv hv'
  · refine ⟨G, h1, ⟨h, rfl⟩, fun p => ⟨Or.inr, ?_⟩⟩
    rintro (rfl | hp)
    · exact h.mem_edgeset_iff.1 hc
    · exact hp
  · refine ⟨_, h1, ⟨inv_addEdge h h1, rfl⟩, fun p => ?_⟩
    have := abs_insertNew G (norm_lt hab)
    simp only [norm] at this ⊢
    rw [this, List.mem_cons]

theorem law (n : Nat) : AddLaw (fun (g : SimpleG) (e : Int × Int) => g.addEdge e.1 e.2) (fun G => Inv G ∧ G.n = n)
    (fun e => Valid n e.1 e.2) abs (fun e => norm e.1.toNat e.2.toNat) :=
  ⟨fun h hv => addEdge_spec h hv, fun h hv => addEdge_invalid (h.2 ▸ hv)⟩

theorem ofEdges_spec {n : Nat} {es : List (Nat × Nat)}
    (hv : ∀ e ∈ es, 1 ≤ e.1 ∧ e.1 ≤ n ∧ 1 ≤ e.2 ∧ e.2 ≤ n ∧ e.1 ≠ e.2) :
    ∃ G, ofEdges n es = .ok G ∧ Inv G ∧ G.n = n ∧
      ∀ p, p ∈ abs G ↔ ∃ e ∈ es, p = norm e.1 e.2 := by
  have ⟨G, e, ⟨i, hn⟩, m⟩ := ((law n).comap fun e : Nat × Nat => ((e.1 : Int), (e.2 : Int))).fold_ok ⟨inv_init n, rfl⟩
    (as := es) fun e he => by have := hv e he; simp only [Valid]; omega
  refine ⟨G, (List.foldlM_map ..).trans e, i, hn, fun p => (m p).trans ?_⟩
  simp only [abs, init, List.filter_nil, List.not_mem_nil, false_or, Int.toNat_natCast]

theorem ofEdges_error {n : Nat} {es : List (Nat × Nat)}
    (hv : ¬ ∀ e ∈ es, 1 ≤ e.1 ∧ e.1 ≤ n ∧ 1 ≤ e.2 ∧ e.2 ≤ n ∧ e.1 ≠ e.2) :
    ofEdges n es = .error .valueError :=
  (List.foldlM_map ..).trans <| ((law n).comap fun e : Nat × Nat => ((e.1 : Int), (e.2 : Int))).fold_error ⟨inv_init n, rfl⟩
    fun hall => hv fun e he => by have := hall e he; simp only [Valid] at this; omega

/-- `Graph(n)` followed by in-range calls `add_edge(u, v)` with `u < v`: how every generator of C15 builds its graph -/
theorem ofEdges_upward {n : Nat} {es : List (Nat × Nat)}
    (hin : ∀ e ∈ es, 1 ≤ e.1 ∧ e.1 < e.2 ∧ e.2 ≤ n) :
    ∃ G, ofEdges n es = .ok G ∧ Inv G ∧ G.n = n ∧
      (∀ u v, (u, v) ∈ G.edgeset ↔ (u, v) ∈ es ∨ (v, u) ∈ es) ∧ (es.Nodup → G.m = es.length) := by
  obtain ⟨G, e, h, hn, hm⟩ := ofEdges_spec (n := n) (es := es) (fun e he => by have := hin e he; omega)
  have hnorm : ∀ e ∈ es, norm e.1 e.2 = e := fun e he => norm_of_le (Nat.le_of_lt (hin e he).2.1)
  have habs : ∀ p, p ∈ abs G ↔ p ∈ es := fun p => (hm p).trans
    ⟨fun ⟨e, he, hp⟩ => hp ▸ (hnorm e he).symm ▸ he, fun hp => ⟨p, hp, (hnorm p hp).symm⟩⟩
  refine ⟨G, e, h, hn, fun u v => ?_, fun hnd => ?_⟩
  · rw [h.mem_edgeset_iff, habs]
    refine ⟨fun hm => ?_, fun hh => hh.elim (fun hh => (hnorm _ hh).symm ▸ hh)
      fun hh => norm_comm u v ▸ (hnorm _ hh).symm ▸ hh⟩
    rcases norm_cases u v with e | e <;> rw [e] at hm
    · exact Or.inl hm
    · exact Or.inr hm
  · rw [← h.count]
    exact ((List.perm_ext_iff_of_nodup h.abs_nodup hnd).2 habs).length_eq

end SimpleG

namespace DiG

def Valid (n : Nat) (u v : Int) : Prop := 1 ≤ u ∧ u ≤ n ∧ 1 ≤ v ∧ v ≤ n

instance (n : Nat) (u v : Int) : Decidable (Valid n u v) := by unfold Valid; exact inferInstance

structure Inv (G : DiG) : Prop where
  /-- `succ` stores `edgeset` by source -/
  succRep : Rep G.succ G.n (fun u v => (u, v) ∈ G.edgeset)
  /-- `pred` stores `edgeset` by destination -/
  predRep : Rep G.pred G.n (fun v u => (u, v) ∈ G.edgeset)
  range : ∀ u v, (u, v) ∈ G.edgeset → 1 ≤ u ∧ u ≤ G.n ∧ 1 ≤ v ∧ v ≤ G.n
  nodup : G.edgeset.Nodup
  count : G.edgeset.length = G.m
  /-- the flag remembers whether every inserted edge was increasing -/
  dag : G.stillDag = true ↔ ∀ e ∈ G.edgeset, e.1 < e.2

theorem inv_init (n : Nat) : Inv (init n) :=
  ⟨(Rep.init n).congr (by simp [init]), (Rep.init n).congr (by simp [init]), by simp [init],
   by simp [init], by simp [init], by simp [init]⟩

def insertNew (G : DiG) (s d : Nat) : DiG :=
  { n := G.n, m := G.m + 1,
    pred := G.pred.modify d (insertSorted · s),
    succ := G.succ.modify s (insertSorted · d),
    edgeset := (s, d) :: G.edgeset,
    stillDag := G.stillDag && decide (s < d) }

theorem inv_insertNew {G : DiG} (h : Inv G) {s d : Nat} (hs : 1 ≤ s ∧ s ≤ G.n) (hd : 1 ≤ d ∧ d ≤ G.n)
    (hn : (s, d) ∉ G.edgeset) : Inv (insertNew G s d) := by
  refine ⟨?_, ?_, ?_, ?_, ?_, ?_⟩
  · refine (h.succRep.insert (u := s) (v := d) hs.2 hn).congr (fun a b => ?_)
    simp only [insertNew, List.mem_cons, Prod.mk.injEq]
  · refine (h.predRep.insert (u := d) (v := s) hd.2 hn).congr (fun a b => ?_)
    simp only [insertNew, List.mem_cons, Prod.mk.injEq, and_comm]
  · intro a b
    simp only [insertNew, List.mem_cons, Prod.mk.injEq]
    rintro (⟨rfl, rfl⟩ | hm)
    · exact ⟨hs.1, hs.2, hd.1, hd.2⟩
    · exact h.range _ _ hm
  · simp only [insertNew, List.nodup_cons]; exact ⟨hn, h.nodup⟩
  · simp only [insertNew, List.length_cons, h.count]
  · simp only [insertNew, Bool.and_eq_true, decide_eq_true_eq, h.dag, List.mem_cons, forall_eq_or_imp]
    exact And.comm

theorem hasEdge_iff (G : DiG) (u v : Int) :
    G.hasEdge u v = true ↔ 0 ≤ u ∧ 0 ≤ v ∧ (u.toNat, v.toNat) ∈ G.edgeset := by
  simp [hasEdge, and_assoc]

theorem addEdge_cases (G : DiG) (u v : Int) :
    (¬ Valid G.n u v ∧ G.addEdge u v = .error .valueError) ∨
    (Valid G.n u v ∧ (u.toNat, v.toNat) ∈ G.edgeset ∧ G.addEdge u v = .ok G) ∨
    (Valid G.n u v ∧ (u.toNat, v.toNat) ∉ G.edgeset ∧
      G.addEdge u v = .ok (insertNew G u.toNat v.toNat)) := by
  unfold addEdge
  by_cases hv : Valid G.n u v
  · right
    have hv' : (1 ≤ u ∧ u ≤ G.n ∧ 1 ≤ v ∧ v ≤ G.n) := hv
    rw [if_neg (fun hn => hn hv')]
    by_cases hc : (u.toNat, v.toNat) ∈ G.edgeset
    · left
      have : G.hasEdge u v = true := (hasEdge_iff G u v).2 ⟨by omega, by omega, hc⟩
      exact ⟨hv, hc, by rw [if_pos this]⟩
    · right
      have : ¬ G.hasEdge u v = true := fun hh => hc ((hasEdge_iff G u v).1 hh).2.2
      exact ⟨hv, hc, by rw [if_neg this]; rfl⟩
  · left
    have hv' : ¬ (1 ≤ u ∧ u ≤ G.n ∧ 1 ≤ v ∧ v ≤ G.n) := hv
    exact ⟨hv, by rw [if_pos hv']⟩

theorem inv_addEdge {G G' : DiG} (h : Inv G) {u v : Int} (e : G.addEdge u v = .ok G') : Inv G' := by
  rcases addEdge_cases G u v with ⟨_, h1⟩ | ⟨_, _, h1⟩ | ⟨hv, hc, h1⟩
  · rw [h1] at e; cases e
  · rw [h1] at e; cases e; exact h
  · rw [h1] at e; cases e
    obtain ⟨h1, h2, h3, h4⟩ := hv
    exact inv_insertNew h ⟨by omega, by omega⟩ ⟨by omega, by omega⟩ hc

theorem addEdge_n {G G' : DiG} {u v : Int} (e : G.addEdge u v = .ok G') : G'.n = G.n := by
  rcases addEdge_cases G u v with ⟨_, h1⟩ | ⟨_, _, h1⟩ | ⟨_, _, h1⟩ <;> rw [h1] at e <;> cases e <;> rfl

theorem inPlace : InPlace (fun (g : DiG) e => g.addEdge e.1 e.2) addEdgesFromP :=
  ⟨fun _ => rfl, fun _ h => by simp only [addEdgesFromP, h], fun _ h => by simp only [addEdgesFromP, h]⟩

theorem addEdgesFrom_eq (G : DiG) (es : List (Int × Int)) :
    G.addEdgesFrom es = (G.addEdgesFromP es).2.elim (.ok (G.addEdgesFromP es).1) .error :=
  inPlace.foldlM_eq G es

theorem inv_addEdgesFrom {G G' : DiG} (h : Inv G) {es : List (Int × Int)}
    (e : G.addEdgesFrom es = .ok G') : Inv G' :=
  foldlM_keeps (fun h e => inv_addEdge h e) h e

theorem inv_ofEdges {n : Nat} {es : List (Nat × Nat)} {G : DiG} (e : ofEdges n es = .ok G) : Inv G :=
  inv_addEdgesFrom (inv_init n) e

namespace Inv
variable {G : DiG} (h : Inv G)
include h

theorem succ_length : G.succ.length = G.n + 1 := h.succRep.len
theorem pred_length : G.pred.length = G.n + 1 := h.predRep.len

theorem mem_succs {u v : Nat} : v ∈ G.succs u ↔ (u, v) ∈ G.edgeset := h.succRep.mem u v
theorem mem_preds {u v : Nat} : u ∈ G.preds v ↔ (u, v) ∈ G.edgeset := h.predRep.mem v u

theorem succs_sorted (u : Nat) : SortedLt (G.succs u) := h.succRep.sorted u
theorem preds_sorted (u : Nat) : SortedLt (G.preds u) := h.predRep.sorted u
theorem succs_nodup (u : Nat) : (G.succs u).Nodup := (h.succs_sorted u).nodup
theorem preds_nodup (u : Nat) : (G.preds u).Nodup := (h.preds_sorted u).nodup

theorem mem_succs_iff_mem_preds {u v : Nat} : v ∈ G.succs u ↔ u ∈ G.preds v := by
  rw [h.mem_succs, h.mem_preds]

theorem succs_range {u v : Nat} (hv : v ∈ G.succs u) : 1 ≤ u ∧ u ≤ G.n ∧ 1 ≤ v ∧ v ≤ G.n :=
  h.range u v (h.mem_succs.1 hv)

omit h in
theorem edges_eq_table : G.edges = tableEdges G.succs G.n := rfl
omit h in
theorem edgesBySucc_eq_table : G.edgesBySucc = tableEdgesT G.preds G.n := rfl

theorem mem_edges {e : Nat × Nat} : e ∈ G.edges ↔ e ∈ G.edgeset := by
  obtain ⟨u, v⟩ := e
  rw [Inv.edges_eq_table, mem_tableEdges]
  simp only
  rw [h.mem_succs]
  constructor
  · exact fun hh => hh.2.2
  · intro hm; have := h.range u v hm; exact ⟨this.1, this.2.1, hm⟩

theorem mem_edges_iff_succs {u v : Nat} : (u, v) ∈ G.edges ↔ v ∈ G.succs u := by
  rw [h.mem_edges, h.mem_succs]

theorem edges_sorted : SortedLex G.edges := by
  rw [Inv.edges_eq_table]; exact sorted_tableEdges h.succs_sorted _

theorem edges_nodup : G.edges.Nodup := h.edges_sorted.nodup

theorem mem_edgesBySucc {e : Nat × Nat} : e ∈ G.edgesBySucc ↔ e ∈ G.edgeset := by
  obtain ⟨u, v⟩ := e
  rw [Inv.edgesBySucc_eq_table, tableEdgesT_eq, List.mem_map]
  constructor
  · rintro ⟨⟨a, b⟩, hm, heq⟩
    simp only [Prod.swap, Prod.mk.injEq] at heq
    obtain ⟨rfl, rfl⟩ := heq
    have := mem_tableEdges.1 hm
    exact h.mem_preds.1 this.2.2
  · intro hm
    have := h.range u v hm
    exact ⟨(v, u), mem_tableEdges.2 ⟨this.2.2.1, this.2.2.2, h.mem_preds.2 hm⟩, rfl⟩

theorem edgesBySucc_sorted : (G.edgesBySucc.map Prod.swap).Pairwise lexLt := by
  rw [Inv.edgesBySucc_eq_table, tableEdgesT_eq, List.map_map]
  have : (Prod.swap ∘ Prod.swap : Nat × Nat → Nat × Nat) = id := by funext x; rfl
  rw [this, List.map_id]
  exact sorted_tableEdges h.preds_sorted _

theorem hasEdge_iff_succs {u v : Nat} : G.hasEdge u v = true ↔ v ∈ G.succs u := by
  rw [DiG.hasEdge_iff, h.mem_succs]; simp

end Inv

theorem addEdge_invalid {G : DiG} {u v : Int} (hv : ¬ Valid G.n u v) :
    G.addEdge u v = .error .valueError := by
  rcases addEdge_cases G u v with ⟨_, h1⟩ | ⟨hv', _⟩ | ⟨hv', _⟩
  · exact h1
  · exact absurd hv' hv
  · exact absurd hv' hv

theorem addEdge_spec {G : DiG} {n : Nat} (h : Inv G ∧ G.n = n) {u v : Int} (hv : Valid n u v) :
    ∃ G', G.addEdge u v = .ok G' ∧ (Inv G' ∧ G'.n = n) ∧
      ∀ p, p ∈ G'.edgeset ↔ p = (u.toNat, v.toNat) ∨ p ∈ G.edgeset := by
  obtain ⟨h, rfl⟩ := h
  rcases addEdge_cases G u v with ⟨hv', _⟩ | ⟨_, hc, h1⟩ | ⟨_, hc, h1⟩
  · exact absurd hv hv'
  · refine ⟨G, h1, ⟨h, rfl⟩, fun p => ⟨Or.inr, ?_⟩⟩
    rintro (rfl | hp)
    · exact hc
    · exact hp
  · exact ⟨_, h1, ⟨inv_addEdge h h1, rfl⟩, fun p => List.mem_cons⟩

theorem law (n : Nat) : AddLaw (fun (g : DiG) (e : Int × Int) => g.addEdge e.1 e.2) (fun G => Inv G ∧ G.n = n)
    (fun e => Valid n e.1 e.2) DiG.edgeset (fun e => (e.1.toNat, e.2.toNat)) :=
  ⟨fun h hv => addEdge_spec h hv, fun h hv => addEdge_invalid (h.2 ▸ hv)⟩

theorem ofEdges_spec {n : Nat} {es : List (Nat × Nat)}
    (hv : ∀ e ∈ es, 1 ≤ e.1 ∧ e.1 ≤ n ∧ 1 ≤ e.2 ∧ e.2 ≤ n) :
    ∃ G, ofEdges n es = .ok G ∧ Inv G ∧ G.n = n ∧ ∀ p, p ∈ G.edgeset ↔ p ∈ es := by
  have ⟨G, e, ⟨i, hn⟩, m⟩ := ((law n).comap fun e : Nat × Nat => ((e.1 : Int), (e.2 : Int))).fold_ok ⟨inv_init n, rfl⟩
    (as := es) fun e he => by have := hv e he; simp only [Valid]; omega
  refine ⟨G, (List.foldlM_map ..).trans e, i, hn, fun p => (m p).trans ?_⟩
  simp [init]

theorem ofEdges_error {n : Nat} {es : List (Nat × Nat)}
    (hv : ¬ ∀ e ∈ es, 1 ≤ e.1 ∧ e.1 ≤ n ∧ 1 ≤ e.2 ∧ e.2 ≤ n) :
    ofEdges n es = .error .valueError :=
  (List.foldlM_map ..).trans <| ((law n).comap fun e : Nat × Nat => ((e.1 : Int), (e.2 : Int))).fold_error ⟨inv_init n, rfl⟩
    fun hall => hv fun e he => by have := hall e he; simp only [Valid] at this; omega

end DiG

namespace BipG

def Valid (l r : Nat) (u v : Int) : Prop := 1 ≤ u ∧ u ≤ l ∧ 1 ≤ v ∧ v ≤ r

instance (l r : Nat) (u v : Int) : Decidable (Valid l r u v) := by unfold Valid; exact inferInstance

structure Inv (G : BipG) : Prop where
  lRep : Rep G.ladj G.l (fun u v => (u, v) ∈ G.edgeset)
  rRep : Rep G.radj G.r (fun v u => (u, v) ∈ G.edgeset)
  range : ∀ u v, (u, v) ∈ G.edgeset → 1 ≤ u ∧ u ≤ G.l ∧ 1 ≤ v ∧ v ≤ G.r
  nodup : G.edgeset.Nodup

theorem inv_init (l r : Nat) : Inv (init l r) :=
  ⟨(Rep.init l).congr (by simp [init]), (Rep.init r).congr (by simp [init]), by simp [init], by simp [init]⟩

def insertNew (G : BipG) (a b : Nat) : BipG :=
  { G with ladj := G.ladj.modify a (insertSorted · b),
           radj := G.radj.modify b (insertSorted · a),
           edgeset := (a, b) :: G.edgeset }

theorem inv_insertNew {G : BipG} (h : Inv G) {a b : Nat} (ha : 1 ≤ a ∧ a ≤ G.l) (hb : 1 ≤ b ∧ b ≤ G.r)
    (hn : (a, b) ∉ G.edgeset) : Inv (insertNew G a b) := by
  refine ⟨?_, ?_, ?_, ?_⟩
  · refine (h.lRep.insert (u := a) (v := b) ha.2 hn).congr (fun x y => ?_)
    simp only [insertNew, List.mem_cons, Prod.mk.injEq]
  · refine (h.rRep.insert (u := b) (v := a) hb.2 hn).congr (fun x y => ?_)
    simp only [insertNew, List.mem_cons, Prod.mk.injEq, and_comm]
  · intro x y
    simp only [insertNew, List.mem_cons, Prod.mk.injEq]
    rintro (⟨rfl, rfl⟩ | hm)
    · exact ⟨ha.1, ha.2, hb.1, hb.2⟩
    · exact h.range _ _ hm
  · simp only [insertNew, List.nodup_cons]; exact ⟨hn, h.nodup⟩

theorem hasEdge_iff (G : BipG) (u v : Int) :
    G.hasEdge u v = true ↔ 0 ≤ u ∧ 0 ≤ v ∧ (u.toNat, v.toNat) ∈ G.edgeset := by
  simp [hasEdge, and_assoc]

theorem addEdge_cases (G : BipG) (u v : Int) :
    (¬ Valid G.l G.r u v ∧ G.addEdge u v = .error .valueError) ∨
    (Valid G.l G.r u v ∧ (u.toNat, v.toNat) ∈ G.edgeset ∧ G.addEdge u v = .ok G) ∨
    (Valid G.l G.r u v ∧ (u.toNat, v.toNat) ∉ G.edgeset ∧
      G.addEdge u v = .ok (insertNew G u.toNat v.toNat)) := by
  unfold addEdge
  by_cases hv : Valid G.l G.r u v
  · right
    have hv' : (1 ≤ u ∧ u ≤ G.l ∧ 1 ≤ v ∧ v ≤ G.r) := hv
    rw [if_neg (fun hn => hn hv')]
    by_cases hc : (u.toNat, v.toNat) ∈ G.edgeset
    · left
      have : G.hasEdge u v = true := (hasEdge_iff G u v).2 ⟨by omega, by omega, hc⟩
      exact ⟨hv, hc, by rw [if_pos this]⟩
    · right
      have : ¬ G.hasEdge u v = true := fun hh => hc ((hasEdge_iff G u v).1 hh).2.2
      exact ⟨hv, hc, by rw [if_neg this]; rfl⟩
  · left
    have hv' : ¬ (1 ≤ u ∧ u ≤ G.l ∧ 1 ≤ v ∧ v ≤ G.r) := hv
    exact ⟨hv, by rw [if_pos hv']⟩

theorem addEdge_error {G : BipG} {u v : Int} {e : Err} (h : G.addEdge u v = .error e) :
    e = .valueError ∧ ¬ (1 ≤ u ∧ u ≤ G.l ∧ 1 ≤ v ∧ v ≤ G.r) := by
  rcases addEdge_cases G u v with ⟨hv, h1⟩ | ⟨_, _, h1⟩ | ⟨_, _, h1⟩ <;> rw [h1] at h <;> cases h
  exact ⟨rfl, hv⟩

theorem inv_addEdge {G G' : BipG} (h : Inv G) {u v : Int} (e : G.addEdge u v = .ok G') : Inv G' := by
  rcases addEdge_cases G u v with ⟨_, h1⟩ | ⟨_, _, h1⟩ | ⟨hv, hc, h1⟩
  · rw [h1] at e; cases e
  · rw [h1] at e; cases e; exact h
  · rw [h1] at e; cases e
    obtain ⟨h1, h2, h3, h4⟩ := hv
    exact inv_insertNew h ⟨by omega, by omega⟩ ⟨by omega, by omega⟩ hc

theorem mem_edgeset_addEdge {G G' : BipG} {u v : Int} (e : G.addEdge u v = .ok G') :
    Valid G.l G.r u v ∧ ∀ p, p ∈ G'.edgeset ↔ p = (u.toNat, v.toNat) ∨ p ∈ G.edgeset := by
  rcases addEdge_cases G u v with ⟨_, h1⟩ | ⟨hv, hc, h1⟩ | ⟨hv, _, h1⟩
  · rw [h1] at e; cases e
  · rw [h1] at e; cases e
    exact ⟨hv, fun p => ⟨Or.inr, fun h => h.elim (fun h => h ▸ hc) id⟩⟩
  · rw [h1] at e; cases e
    exact ⟨hv, fun p => List.mem_cons⟩

theorem addEdge_returns {G : BipG} {u v : Int} (h : Valid G.l G.r u v) :
    ∃ G', G.addEdge u v = .ok G' ∧ G'.l = G.l ∧ G'.r = G.r := by
  rcases addEdge_cases G u v with ⟨hn, _⟩ | ⟨_, _, h1⟩ | ⟨_, _, h1⟩
  · exact absurd h hn
  · exact ⟨_, h1, rfl, rfl⟩
  · exact ⟨_, h1, rfl, rfl⟩

theorem addEdge_lr {G G' : BipG} {u v : Int} (e : G.addEdge u v = .ok G') : G'.l = G.l ∧ G'.r = G.r := by
  rcases addEdge_cases G u v with ⟨_, h1⟩ | ⟨_, _, h1⟩ | ⟨_, _, h1⟩ <;> rw [h1] at e <;> cases e <;> exact ⟨rfl, rfl⟩

theorem inPlace : InPlace (fun (g : BipG) e => g.addEdge e.1 e.2) addEdgesFromP :=
  ⟨fun _ => rfl, fun _ h => by simp only [addEdgesFromP, h], fun _ h => by simp only [addEdgesFromP, h]⟩

theorem addEdgesFrom_eq (G : BipG) (es : List (Int × Int)) :
    G.addEdgesFrom es = (G.addEdgesFromP es).2.elim (.ok (G.addEdgesFromP es).1) .error :=
  inPlace.foldlM_eq G es

theorem inv_addEdgesFrom {G G' : BipG} (h : Inv G) {es : List (Int × Int)}
    (e : G.addEdgesFrom es = .ok G') : Inv G' :=
  foldlM_keeps (fun h e => inv_addEdge h e) h e

theorem inv_ofEdges {l r : Nat} {es : List (Nat × Nat)} {G : BipG} (e : ofEdges l r es = .ok G) : Inv G :=
  inv_addEdgesFrom (inv_init l r) e

namespace Inv
variable {G : BipG} (h : Inv G)
include h

theorem ladj_length : G.ladj.length = G.l + 1 := h.lRep.len
theorem radj_length : G.radj.length = G.r + 1 := h.rRep.len

theorem mem_rnbrs {u v : Nat} : v ∈ G.rnbrs u ↔ (u, v) ∈ G.edgeset := h.lRep.mem u v
theorem mem_lnbrs {u v : Nat} : u ∈ G.lnbrs v ↔ (u, v) ∈ G.edgeset := h.rRep.mem v u

theorem rnbrs_sorted (u : Nat) : SortedLt (G.rnbrs u) := h.lRep.sorted u
theorem lnbrs_sorted (v : Nat) : SortedLt (G.lnbrs v) := h.rRep.sorted v
theorem rnbrs_nodup (u : Nat) : (G.rnbrs u).Nodup := (h.rnbrs_sorted u).nodup
theorem lnbrs_nodup (v : Nat) : (G.lnbrs v).Nodup := (h.lnbrs_sorted v).nodup

theorem mem_rnbrs_iff_mem_lnbrs {u v : Nat} : v ∈ G.rnbrs u ↔ u ∈ G.lnbrs v := by
  rw [h.mem_rnbrs, h.mem_lnbrs]

theorem rnbrs_range {u v : Nat} (hv : v ∈ G.rnbrs u) : 1 ≤ u ∧ u ≤ G.l ∧ 1 ≤ v ∧ v ≤ G.r :=
  h.range u v (h.mem_rnbrs.1 hv)

theorem lnbrs_range {u v : Nat} (hu : u ∈ G.lnbrs v) : 1 ≤ u ∧ u ≤ G.l ∧ 1 ≤ v ∧ v ≤ G.r :=
  h.range u v (h.mem_lnbrs.1 hu)

omit h in
theorem edges_eq_table : G.edges = tableEdges G.rnbrs G.l := rfl

theorem mem_edges {e : Nat × Nat} : e ∈ G.edges ↔ e ∈ G.edgeset := by
  obtain ⟨u, v⟩ := e
  rw [Inv.edges_eq_table, mem_tableEdges]
  simp only
  rw [h.mem_rnbrs]
  constructor
  · exact fun hh => hh.2.2
  · intro hm; have := h.range u v hm; exact ⟨this.1, this.2.1, hm⟩

theorem mem_edges_iff_rnbrs {u v : Nat} : (u, v) ∈ G.edges ↔ v ∈ G.rnbrs u := by
  rw [h.mem_edges, h.mem_rnbrs]
theorem mem_edges_iff_lnbrs {u v : Nat} : (u, v) ∈ G.edges ↔ u ∈ G.lnbrs v := by
  rw [h.mem_edges, h.mem_lnbrs]

theorem edges_sorted : SortedLex G.edges := by
  rw [Inv.edges_eq_table]; exact sorted_tableEdges h.rnbrs_sorted _

theorem edges_nodup : G.edges.Nodup := h.edges_sorted.nodup

theorem edges_range {u v : Nat} (he : (u, v) ∈ G.edges) : 1 ≤ u ∧ u ≤ G.l ∧ 1 ≤ v ∧ v ≤ G.r :=
  h.range u v (h.mem_edges.1 he)

theorem hasEdge_iff_rnbrs {u v : Nat} : G.hasEdge u v = true ↔ v ∈ G.rnbrs u := by
  rw [BipG.hasEdge_iff, h.mem_rnbrs]; simp

theorem numberOfEdges_eq : G.numberOfEdges = G.edges.length :=
  ((List.perm_ext_iff_of_nodup h.nodup h.edges_nodup).2 (fun _ => h.mem_edges.symm)).length_eq

end Inv

theorem addEdge_invalid {G : BipG} {u v : Int} (hv : ¬ Valid G.l G.r u v) :
    G.addEdge u v = .error .valueError := by
  rcases addEdge_cases G u v with ⟨_, h1⟩ | ⟨hv', _⟩ | ⟨hv', _⟩
  · exact h1
  · exact absurd hv' hv
  · exact absurd hv' hv

theorem addEdge_spec {G : BipG} {l r : Nat} (h : Inv G ∧ G.l = l ∧ G.r = r) {u v : Int} (hv : Valid l r u v) :
    ∃ G', G.addEdge u v = .ok G' ∧ (Inv G' ∧ G'.l = l ∧ G'.r = r) ∧
      ∀ p, p ∈ G'.edgeset ↔ p = (u.toNat, v.toNat) ∨ p ∈ G.edgeset := by
  obtain ⟨h, rfl, rfl⟩ := h
  rcases addEdge_cases G u v with ⟨hv', _⟩ | ⟨_, hc, h1⟩ | ⟨_, hc, h1⟩
  · exact absurd hv hv'
  · refine ⟨G, h1, ⟨h, rfl, rfl⟩, fun p => ⟨Or.inr, ?_⟩⟩
    rintro (rfl | hp)
    · exact hc
    · exact hp
  · exact ⟨_, h1, ⟨inv_addEdge h h1, rfl, rfl⟩, fun p => List.mem_cons⟩

theorem law (l r : Nat) : AddLaw (fun (g : BipG) (e : Int × Int) => g.addEdge e.1 e.2)
    (fun G => Inv G ∧ G.l = l ∧ G.r = r) (fun e => Valid l r e.1 e.2) BipG.edgeset (fun e => (e.1.toNat, e.2.toNat)) :=
  ⟨fun h hv => addEdge_spec h hv, fun h hv => addEdge_invalid (h.2.1 ▸ h.2.2 ▸ hv)⟩

theorem ofEdges_spec {l r : Nat} {es : List (Nat × Nat)}
    (hv : ∀ e ∈ es, 1 ≤ e.1 ∧ e.1 ≤ l ∧ 1 ≤ e.2 ∧ e.2 ≤ r) :
    ∃ G, ofEdges l r es = .ok G ∧ Inv G ∧ G.l = l ∧ G.r = r ∧ ∀ p, p ∈ G.edgeset ↔ p ∈ es := by
  have ⟨G, e, ⟨i, hl, hr⟩, m⟩ := ((law l r).comap fun e : Nat × Nat => ((e.1 : Int), (e.2 : Int))).fold_ok ⟨inv_init l r, rfl, rfl⟩
    (as := es) fun e he => by have := hv e he; simp only [Valid]; omega
  refine ⟨G, (List.foldlM_map ..).trans e, i, hl, hr, fun p => (m p).trans ?_⟩
  simp [init]

theorem ofEdges_error {l r : Nat} {es : List (Nat × Nat)}
    (hv : ¬ ∀ e ∈ es, 1 ≤ e.1 ∧ e.1 ≤ l ∧ 1 ≤ e.2 ∧ e.2 ≤ r) :
    ofEdges l r es = .error .valueError :=
  (List.foldlM_map ..).trans <| ((law l r).comap fun e : Nat × Nat => ((e.1 : Int), (e.2 : Int))).fold_error ⟨inv_init l r, rfl, rfl⟩
    fun hall => hv fun e he => by have := hall e he; simp only [Valid] at this; omega

end BipG

end Cnfgen
