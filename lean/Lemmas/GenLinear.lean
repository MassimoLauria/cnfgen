/-
Helper lemmas for the translated `CNFLinear.add_linear` (`Props/C04/GeneratedLinear.lean`): the in-place flip /
emit / flip-back loop of the `!=` branch produces the model's `neqClauses`.
-/
import CnfgenModel.Generated.Funcs
import CnfgenModel.Build.Linear
import Lemmas.PyFold
import Lemmas.IterNodup
set_option linter.unusedSimpArgs false
namespace Cnfgen.GenLinear
open Cnfgen Cnfgen.PyGen

/-- `lits[i] *= -1` for the positions of `flips`, one after the other -/
def flipSeq (l : List Int) (flips : List Nat) : List Int :=
  flips.foldl (fun l i => l.set i (l.getD i 0 * -1)) l

/-- one round of the inner loop of the `!=` branch, as translated -/
def flipStepM (lits : List Int) (i : Int) : Except Err (List Int) :=
  (Py.index lits i) >>= fun x => (Py.listSet lits i (x * (-1))) >>= fun l => Except.ok l

theorem flipSeq_cons (l : List Int) (i : Nat) (flips : List Nat) :
    flipSeq l (i :: flips) = flipSeq (l.set i (l.getD i 0 * -1)) flips :=
  rfl

theorem flipSeq_length (l : List Int) (flips : List Nat) : (flipSeq l flips).length = l.length := by
  induction flips generalizing l with
  | nil => rfl
  | cons i is ih => rw [flipSeq_cons, ih, List.length_set]

theorem flipStepM_nat (l : List Int) (i : Nat) (hi : i < l.length) :
    flipStepM l (i : Int) = Except.ok (l.set i (l.getD i 0 * -1)) := by
  have hset : ∀ v, Py.listSet l (i : Int) v = Except.ok (l.set i v) := fun v => by
    rw [Py.listSet, if_pos (Int.natCast_nonneg i), Int.toNat_natCast, if_pos hi]
  rw [flipStepM, Py.index_nat l i hi, Py.ok_bind, hset, Py.ok_bind, List.getD_eq_getElem?_getD,
    List.getElem?_eq_getElem hi, Option.getD_some]

theorem flip_loop (l : List Int) (flips : List Nat) (h : ∀ i ∈ flips, i < l.length) :
    List.foldlM flipStepM l (flips.map (fun (i : Nat) => (i : Int))) = Except.ok (flipSeq l flips) := by
  induction flips generalizing l with
  | nil => rfl
  | cons i is ih =>
    rw [List.forall_mem_cons] at h
    rw [List.map_cons, List.foldlM_cons, flipStepM_nat l i h.1, Py.ok_bind, flipSeq_cons]
    exact ih _ fun j hj => (List.length_set ..).symm ▸ h.2 j hj

theorem flipSeq_cons_succ (x : Int) (xs : List Int) (f : List Nat) :
    flipSeq (x :: xs) (f.map Nat.succ) = x :: flipSeq xs f := by
  induction f generalizing xs with
  | nil => rfl
  | cons i is ih => exact ih (xs.set i (xs.getD i 0 * -1))

theorem flipSeq_cons_zero (x : Int) (xs : List Int) (f : List Nat) :
    flipSeq (x :: xs) (0 :: f.map Nat.succ) = (-x) :: flipSeq xs f := by
  show flipSeq ((x * -1) :: xs) (f.map Nat.succ) = _
  rw [flipSeq_cons_succ, Int.mul_neg_one]

theorem map_flipSeq_combos (l : List Int) (k : Nat) :
    (combos (List.range l.length) k).map (flipSeq l) = Linear.neqClauses l k := by
  induction l generalizing k with
  | nil => cases k <;> rfl
  | cons x xs ih =>
    cases k with
    | zero =>
      rw [combos, Linear.neqClauses]
      rfl
    | succ k =>
      rw [List.length_cons, List.range_succ_eq_map]
      simp only [combos, combos_map, List.map_append, List.map_map, Linear.neqClauses, ← ih]
      congr 1
      · apply List.map_congr_left
        intro f _
        simp only [Function.comp, flipSeq_cons_zero]
      · apply List.map_congr_left
        intro f _
        simp only [Function.comp, flipSeq_cons_succ]

/-- `for c in l: self.add_clause(c)` -/
theorem emit_loop {σ β : Type} (u : σ) (log l : List β) :
    List.foldl (fun (self : σ × List β) (c : β) => (self.1, self.2 ++ [c])) (u, log) l = (u, log ++ l) := by
  induction l generalizing log with
  | nil => simp
  | cons x xs ih => simp [ih]

theorem flipSeq_restore (l : List Int) (k : Nat) :
    ∀ f ∈ combos (List.range l.length) k, flipSeq (flipSeq l f) f = l := by
  induction l generalizing k with
  | nil =>
    cases k with
    | zero => exact List.forall_mem_singleton.2 rfl
    | succ k => exact fun _ hf => absurd hf List.not_mem_nil
  | cons x xs ih =>
    cases k with
    | zero =>
      rw [combos]
      exact List.forall_mem_singleton.2 rfl
    | succ k =>
      rw [List.length_cons, List.range_succ_eq_map]
      simp only [combos, combos_map, List.forall_mem_append, List.forall_mem_map]
      refine ⟨fun g hg => ?_, fun g hg => ?_⟩
      · rw [flipSeq_cons_zero, flipSeq_cons_zero, ih k g hg, Int.neg_neg]
      · rw [flipSeq_cons_succ, flipSeq_cons_succ, ih (k + 1) g hg]

theorem combos_range_lt (n k : Nat) (f : List Nat) (hf : f ∈ combos (List.range n) k) : ∀ i ∈ f, i < n := by
  intro i hi
  have := (Cnfgen.mem_combos.1 hf).1
  exact List.mem_range.1 (this.subset hi)

/-- one round of the outer loop of the `!=` branch -/
def neqStepM (st : List Int × (Unit × List (List Int))) (flips : List Int) :
    Except Err (List Int × (Unit × List (List Int))) :=
  (List.foldlM flipStepM st.1 flips) >>= fun lits =>
    (List.foldlM flipStepM lits flips) >>= fun lits' => Except.ok (lits', (st.2.1, st.2.2 ++ [lits]))

theorem neq_loop (l : List Int) (k : Nat) (F : List (List Nat)) (hF : ∀ f ∈ F, f ∈ combos (List.range l.length) k)
    (log : List (List Int)) :
    List.foldlM neqStepM (l, ((), log)) (F.map (fun f => f.map (fun (i : Nat) => (i : Int)))) =
      Except.ok (l, ((), log ++ F.map (flipSeq l))) := by
  induction F generalizing log with
  | nil => simp
  | cons f fs ih =>
    have hf := hF f (by simp)
    have hlt := combos_range_lt _ _ _ hf
    simp only [List.map_cons, List.foldlM_cons, neqStepM]
    rw [flip_loop l f hlt, Py.ok_bind,
      flip_loop (flipSeq l f) f (fun i hi => by rw [flipSeq_length]; exact hlt i hi), Py.ok_bind,
      flipSeq_restore l k f hf, Py.ok_bind, ih (fun g hg => hF g (by simp [hg]))]
    simp

end Cnfgen.GenLinear
