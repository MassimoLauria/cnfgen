/-
The graph objects as the translated code sees them (`absBip`, `absGraph`, `absDi` of `Vars/GenGlue.lean`): what their observers
return on vertices given as naturals, in the model's own terms (`rnbrs`, `nbrs`, `edges`).
-/
import CnfgenModel.Vars.GenGlue
import Lemmas.GenBlock
namespace Cnfgen.GenVars
open Cnfgen Cnfgen.Vars Cnfgen.PyGen

theorem rightNeighbors_ok (G : BipG) {u : Int} (hu : 1 ≤ u ∧ u ≤ G.l) :
    G.rightNeighbors u = Except.ok (G.rnbrs u.toNat) := by
  unfold BipG.rightNeighbors
  rw [if_neg (not_not.2 hu)]
  rfl

theorem leftNeighbors_ok (G : BipG) {v : Int} (hv : 1 ≤ v ∧ v ≤ G.r) :
    G.leftNeighbors v = Except.ok (G.lnbrs v.toNat) := by
  unfold BipG.leftNeighbors
  rw [if_neg (not_not.2 hv)]
  rfl

theorem abs_left_neighbors_eq (G : BipG) (v : Int) :
    (absBip G).left_neighbors v = (G.leftNeighbors v).map ints := rfl

theorem abs_right_neighbors_eq (G : BipG) (u : Int) :
    (absBip G).right_neighbors u = (G.rightNeighbors u).map ints := rfl

theorem abs_right_neighbors (G : BipG) {u : Nat} (hu : 1 ≤ u ∧ u ≤ G.l) :
    (absBip G).right_neighbors (u : Int) = Except.ok (ints (G.rnbrs u)) := by
  show (G.rightNeighbors u).map _ = _
  rw [rightNeighbors_ok G (by omega)]
  rfl

theorem abs_right_degree (G : BipG) {u : Nat} (hu : 1 ≤ u ∧ u ≤ G.l) :
    (absBip G).right_degree (u : Int) = Except.ok (((G.rnbrs u).length : Nat) : Int) := by
  show (G.rightDegree u).map _ = _
  unfold BipG.rightDegree
  rw [rightNeighbors_ok G (by omega)]
  rfl

theorem neighbors_nat (G : SimpleG) {v : Nat} (hv : 1 ≤ v ∧ v ≤ G.n) : G.neighbors (v : Int) = .ok (G.nbrs v) := by
  rw [SimpleG.neighbors, if_neg (not_not.2 ⟨by omega, by omega⟩), Int.toNat_natCast]
  rfl

theorem abs_neighbors (G : SimpleG) {v : Nat} (hv : 1 ≤ v ∧ v ≤ G.n) :
    (absGraph G).neighbors (v : Int) = Except.ok (ints (G.nbrs v)) :=
  congrArg (Except.map (List.map Int.ofNat)) (neighbors_nat G hv)

theorem abs_degree (G : SimpleG) {v : Nat} (hv : 1 ≤ v ∧ v ≤ G.n) :
    (absGraph G).degree (v : Int) = Except.ok (((G.nbrs v).length : Nat) : Int) :=
  congrArg (fun r => (r >>= fun l => pure l.length).map fun (n : Nat) => (n : Int)) (neighbors_nat G hv)

theorem abs_edges (G : SimpleG) : (absGraph G).edges = G.edges.map (fun e => ((e.1 : Int), (e.2 : Int))) := rfl

theorem abs_vertices (G : SimpleG) : Py.Range.toList (absGraph G).vertices = ints (rangeN 1 (G.n + 1)) :=
  range_toList_nat G.n

theorem abs_predecessors (D : DiG) {v : Nat} (hv : 1 ≤ v ∧ v ≤ D.n) :
    (absDi D).predecessors (v : Int) = Except.ok (ints (D.preds v)) := by
  show (D.predecessors v).map _ = _
  rw [DiG.predecessors, if_neg (not_not.2 ⟨by omega, by omega⟩), Int.toNat_natCast]
  rfl

theorem abs_out_degree (D : DiG) {v : Nat} (hv : 1 ≤ v ∧ v ≤ D.n) :
    (absDi D).out_degree (v : Int) = Except.ok (((D.succs v).length : Nat) : Int) := by
  show (D.outDegree v).map _ = _
  rw [DiG.outDegree, DiG.successors, if_neg (not_not.2 ⟨by omega, by omega⟩), Int.toNat_natCast]
  rfl

end Cnfgen.GenVars
