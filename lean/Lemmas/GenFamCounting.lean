/-
The double loop of `CountingPrinciple` (`stars[i-1].append(var)` for every element `i` of every subset): the rows
after the loop, in closed form.
-/
import Lemmas.GenFamWord
import Lemmas.C01Counting
set_option linter.unusedSimpArgs false
namespace Cnfgen.GenFam
open Cnfgen Cnfgen.Vars Cnfgen.PyGen Cnfgen.GenVars Cnfgen.PyF Cnfgen.C11 Cnfgen.Fam

def rowsOf (M : Nat) (f : Nat → List Int) : List (List Int) := (idx M).map f

theorem rowsOf_length (M : Nat) (f : Nat → List Int) : (rowsOf M f).length = M := by
  simp [rowsOf, idx, rangeN]

theorem rowsOf_getElem (M : Nat) (f : Nat → List Int) (j : Nat) (h : j < (rowsOf M f).length) :
    (rowsOf M f)[j] = f (j + 1) := by
  simp [rowsOf, idx, rangeN]

theorem rowsOf_index (M : Nat) (f : Nat → List Int) (i : Nat) (hi : 1 ≤ i ∧ i ≤ M) :
    Py.index (rowsOf M f) ((i : Int) - 1) = Except.ok (f i) := by
  have e : ((i : Int) - 1) = ((i - 1 : Nat) : Int) := by omega
  rw [e, Py.index_nat _ _ (by rw [rowsOf_length]; omega), rowsOf_getElem]
  congr 2; omega

theorem rowsOf_set (M : Nat) (f : Nat → List Int) (i : Nat) (hi : 1 ≤ i ∧ i ≤ M) (v : List Int) :
    Py.listSet (rowsOf M f) ((i : Int) - 1) v = Except.ok (rowsOf M (fun x => if x = i then v else f x)) := by
  have h0 : (0 : Int) ≤ (i : Int) - 1 := by omega
  have h1 : ((i : Int) - 1).toNat < (rowsOf M f).length := by rw [rowsOf_length]; omega
  simp only [Py.listSet, h0, if_true, h1]
  congr 1
  apply List.ext_getElem
  · simp [rowsOf_length]
  · intro j hj1 hj2
    rw [List.getElem_set, rowsOf_getElem, rowsOf_getElem]
    have : ((i : Int) - 1).toNat = i - 1 := by omega
    rw [this]
    by_cases hji : i - 1 = j
    · have : j + 1 = i := by omega
      simp [hji, this]
    · have : ¬ (j + 1 = i) := by omega
      simp [hji, this]

theorem unNone_some {α : Type} (a : α) : Py.unNone (some a) = Except.ok a := rfl

theorem star_inner (M : Nat) (var : Int) (w : List Nat) (hnd : w.Nodup) (hw : ∀ i ∈ w, 1 ≤ i ∧ i ≤ M)
    (f : Nat → List Int) :
    List.foldlM (fun (stars : List (List Int)) (i : Option Int) =>
        (Py.unNone i) >>= fun v =>
        (Py.index stars (v - 1)) >>= fun row =>
        (Py.listSet stars (v - 1) (row ++ [var])) >>= fun l =>
        Except.ok l) (rowsOf M f) (upPat w) =
      Except.ok (rowsOf M (fun x => if x ∈ w then f x ++ [var] else f x)) := by
  induction w generalizing f with
  | nil => simp [upPat, ints]
  | cons i w ih =>
    have hi := hw i (by simp)
    have hiw : i ∉ w := (List.nodup_cons.1 hnd).1
    simp only [upPat, ints, List.map_cons, List.foldlM_cons, unNone_some, Py.ok_bind, Int.ofNat_eq_natCast,
      rowsOf_index M f i hi, rowsOf_set M f i hi]
    have := ih (List.nodup_cons.1 hnd).2 (fun j hj => hw j (by simp [hj])) (fun x => if x = i then f i ++ [var] else f x)
    simp only [upPat, ints, Int.ofNat_eq_natCast] at this
    rw [this]
    congr 2
    funext x
    by_cases hx : x = i
    · subst hx; simp [hiw]
    · simp [hx]

theorem star_outer (M : Nat) (L : List (List Nat × Int)) (hnd : ∀ S ∈ L, S.1.Nodup)
    (hw : ∀ S ∈ L, ∀ i ∈ S.1, 1 ≤ i ∧ i ≤ M) (f : Nat → List Int) :
    List.foldlM (fun (stars : List (List Int)) (x : List (Option Int) × Int) =>
        (List.foldlM (fun (stars : List (List Int)) (i : Option Int) =>
          (Py.unNone i) >>= fun v =>
          (Py.index stars (v - 1)) >>= fun row =>
          (Py.listSet stars (v - 1) (row ++ [x.2])) >>= fun l =>
          Except.ok l) stars x.1) >>= fun stars => Except.ok stars)
      (rowsOf M f) (L.map (fun S => (upPat S.1, S.2))) =
      Except.ok (rowsOf M (fun x => f x ++ L.filterMap (fun S => if S.1.contains x then some S.2 else none))) := by
  induction L generalizing f with
  | nil => simp
  | cons S L ih =>
    simp only [List.map_cons, List.foldlM_cons]
    rw [star_inner M S.2 S.1 (hnd S (by simp)) (hw S (by simp)) f, Py.ok_bind, Py.ok_bind,
      ih (fun T hT => hnd T (by simp [hT])) (fun T hT => hw T (by simp [hT]))]
    congr 2
    funext x
    by_cases hx : x ∈ S.1
    · simp [hx]
    · simp [hx]

end Cnfgen.GenFam
