/-
One more `VarIndex` (`Lemmas/C01Bij2.lean`): the positions of a duplicate-free list.  With the grid
and concatenation combinators of `Lemmas/C01BijSum.lean` it numbers the variables of
CliqueColoring, three consecutive groups (`e` : pairs, `q` : grid, `r` : grid).
-/
import Lemmas.C01Bij2
import Lemmas.C01BijSum
namespace Cnfgen.Fam
open Cnfgen

/-- the elements of a duplicate-free list, numbered `1 + position` -/
def ccListIndex {α : Type} [BEq α] [LawfulBEq α] (l : List α) (hnd : l.Nodup) :
    VarIndex {e : α // e ∈ l} l.length where
  var e := 1 + l.idxOf e.1
  inv x := ⟨l[x.val]'x.isLt, List.getElem_mem _⟩
  var_pos e := by omega
  var_le e := by
    have := List.idxOf_lt_length_iff.2 e.2
    omega
  var_inv x := by
    have := hnd.idxOf_getElem x.val x.isLt
    simp only [this]; omega
  var_inj e e' h := by
    apply Subtype.ext
    exact (List.idxOf_inj e.2).1 (by omega)

theorem ccListIndex_var {α : Type} [BEq α] [LawfulBEq α] (l : List α) (hnd : l.Nodup)
    (e : {e : α // e ∈ l}) : (ccListIndex l hnd).var e = 1 + l.idxOf e.1 := rfl

end Cnfgen.Fam
