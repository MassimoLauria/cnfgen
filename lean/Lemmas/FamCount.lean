/-
Counting satisfying assignments by an explicit bijection: `Counts F P enc` gives `Models F ≃ {o // P o}`
(`Counts.equiv`), "one satisfying assignment per witness", without cardinal arithmetic.  `G2.Tabular` is the
instance for the formulas over one unary mapping group.
-/
import Mathlib.Logic.Equiv.Defs
import Lemmas.FamMapList
import Lemmas.C01Bij
namespace Cnfgen

def AgreeOn (n : Nat) (α β : Assign) : Prop := ∀ x, 1 ≤ x → x ≤ n → α x = β x

theorem AgreeOn.symm {n : Nat} {α β : Assign} (h : AgreeOn n α β) : AgreeOn n β α :=
  fun x h1 h2 => (h x h1 h2).symm

theorem AgreeOn.trans {n : Nat} {α β γ : Assign} (h : AgreeOn n α β) (h' : AgreeOn n β γ) : AgreeOn n α γ :=
  fun x h1 h2 => (h x h1 h2).trans (h' x h1 h2)

theorem Formula.holds_congr {α β : Assign} (F : Formula) (h : F.WF) (hab : AgreeOn F.nvars α β) :
    F.holds α = F.holds β :=
  Fam.Formula.holds_congr F h α β hab

def restrict (n : Nat) (α : Assign) : Fin n → Bool := fun i => α (i.val + 1)

def extend (n : Nat) (a : Fin n → Bool) : Assign :=
  fun x => if h : 1 ≤ x ∧ x ≤ n then a ⟨x - 1, by omega⟩ else false

theorem extend_restrict (n : Nat) (α : Assign) : AgreeOn n (extend n (restrict n α)) α :=
  fun _ h1 h2 => Fam.extend_restrict n α h1 h2

theorem restrict_extend (n : Nat) (a : Fin n → Bool) : restrict n (extend n a) = a :=
  Fam.restrict_extend a

theorem restrict_congr {n : Nat} {α β : Assign} (h : AgreeOn n α β) : restrict n α = restrict n β := by
  funext i
  exact h (i.val + 1) (by omega) (by have := i.isLt; omega)

/-- satisfying assignments of `F` over its own variables -/
def Models (F : Formula) : Type := {a : Fin F.nvars → Bool // F.holds (extend F.nvars a) = true}

/-- `enc` counts the satisfying assignments of `F` by the objects with `P`: it always satisfies `F`, reaches every
satisfying assignment up to agreement on `1 … nvars`, and is injective up to that agreement -/
abbrev Counts (F : Formula) {Obj : Type} (P : Obj → Prop) (enc : Obj → Assign) : Prop :=
  (∀ o, P o → F.holds (enc o) = true) ∧
  (∀ α, F.holds α = true → ∃ o, P o ∧ AgreeOn F.nvars α (enc o)) ∧
  (∀ o o', P o → P o' → AgreeOn F.nvars (enc o) (enc o') → o = o')

namespace Counts
variable {F : Formula} {Obj : Type} {P : Obj → Prop} {enc : Obj → Assign} (h : Counts F P enc)
include h

theorem sat_iff : (∃ α, F.holds α = true) ↔ ∃ o, P o :=
  ⟨fun ⟨α, hα⟩ => let ⟨o, ho, _⟩ := h.2.1 α hα; ⟨o, ho⟩, fun ⟨o, ho⟩ => ⟨_, h.1 o ho⟩⟩

theorem equiv (hwf : F.WF) : Nonempty (Models F ≃ {o : Obj // P o}) := by
  have back : ∀ o, P o → F.holds (extend F.nvars (restrict F.nvars (enc o))) = true := fun o ho => by
    rw [Formula.holds_congr F hwf (extend_restrict F.nvars (enc o))]; exact h.1 o ho
  refine ⟨⟨fun a => ⟨Classical.choose (h.2.1 _ a.2), (Classical.choose_spec (h.2.1 _ a.2)).1⟩,
    fun o => ⟨restrict F.nvars (enc o.1), back o.1 o.2⟩, fun a => Subtype.ext ?_, fun o => Subtype.ext ?_⟩⟩
  · show restrict F.nvars (enc _) = a.1
    rw [← restrict_congr (Classical.choose_spec (h.2.1 _ a.2)).2, restrict_extend]
  · have := Classical.choose_spec (h.2.1 _ (back o.1 o.2))
    exact h.2.2 _ _ this.1 o.2 (this.2.symm.trans (extend_restrict F.nvars (enc o.1)))

end Counts

namespace Fam
namespace G2

/-- `F` is a formula about tables: a formula over one unary mapping group `1 … k·N` that holds exactly under the
assignments that encode a table `[f 1, …, f k]` with property `P`.  Each family over such a group proves this once;
satisfiability, the explicit count and unsatisfiability are then read off. -/
structure Tabular (F : Formula) (k N : Nat) (P : List Nat → Prop) : Prop where
  nvars : F.nvars = k * N
  wf : F.WF
  holds_iff : ∀ α, F.holds α = true ↔ ∃ l, P l ∧ EncL 1 k N α l
  bound : ∀ l, P l → l.length = k ∧ ∀ v ∈ l, 1 ≤ v ∧ v ≤ N

namespace Tabular
variable {F : Formula} {k N : Nat} {P : List Nat → Prop} (h : Tabular F k N P)
include h

theorem encL {l : List Nat} (hl : P l) : EncL 1 k N (encode 1 k N l) l :=
  encode_encL (h.bound l hl).1 (h.bound l hl).2

theorem count : Counts F P (encode 1 k N) := by
  have hn := h.nvars
  refine ⟨fun l hl => (h.holds_iff _).2 ⟨l, hl, h.encL hl⟩, ?_, ?_⟩
  · intro α hα
    obtain ⟨l, hl, he⟩ := (h.holds_iff α).1 hα
    exact ⟨l, hl, fun x h1 h2 => he.agree (h.encL hl) h1 (by omega)⟩
  · intro l l' hl hl' hag
    exact ((h.encL hl).congr (fun x h1 h2 => hag x h1 (by omega))).unique (h.encL hl')

theorem sat_iff : (∃ α, F.holds α = true) ↔ ∃ l, P l := h.count.sat_iff

theorem equiv : Nonempty (Models F ≃ {l : List Nat // P l}) := h.count.equiv h.wf

theorem unsat (hP : ∀ l, ¬ P l) (α : Assign) : F.holds α = false :=
  Bool.eq_false_iff.2 fun hα => let ⟨l, hl⟩ := h.sat_iff.1 ⟨α, hα⟩; hP l hl

end Tabular

end G2
end Fam
end Cnfgen
