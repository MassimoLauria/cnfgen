/-
Lemmas for T-C10.2 — the history invariant of the `VariablesManager` / `BaseCNF` state machine:
the largest variable mentioned by a stored clause never exceeds the declared number of variables,
so that a new group (which starts at `numvar + 1`) is disjoint from everything mentioned before.
-/
import CnfgenModel.Vars.Manager
import Lemmas.Exc
namespace Cnfgen
namespace Vars

def Inv (s : MState) : Prop := s.maxMentioned ≤ s.numvar

theorem maxAbs_le_iff (c : Clause) (n : Nat) : maxAbs c ≤ n ↔ ∀ l ∈ c, l.natAbs ≤ n := by
  induction c with
  | nil => simp [maxAbs]
  | cons l ls ih => simp [maxAbs, Nat.max_le, ih]
theorem maxMentionedOf_le_iff (cs : List Clause) (n : Nat) :
    maxMentionedOf cs ≤ n ↔ ∀ c ∈ cs, ∀ l ∈ c, l.natAbs ≤ n := by
  induction cs with
  | nil => simp [maxMentionedOf]
  | cons c cs ih => simp [maxMentionedOf, Nat.max_le, ih, maxAbs_le_iff]
theorem maxMentionedOf_append (cs ds : List Clause) :
    maxMentionedOf (cs ++ ds) = max (maxMentionedOf cs) (maxMentionedOf ds) := by
  induction cs with
  | nil => simp [maxMentionedOf]
  | cons c cs ih => simp [maxMentionedOf, ih, Nat.max_assoc]

theorem maxMentionedOf_singleton (c : Clause) : maxMentionedOf [c] = maxAbs c := by
  simp [maxMentionedOf]

theorem inv_iff (s : MState) : Inv s ↔ ∀ c ∈ s.clauses, ∀ l ∈ c, l.natAbs ≤ s.numvar := by
  simp [Inv, MState.maxMentioned, maxMentionedOf_le_iff]

theorem inv_init : Inv MState.init := by
  simp [Inv, MState.init, MState.maxMentioned, maxMentionedOf]

theorem bind_ok {α β} {x : Except Err α} {f : α → Except Err β} {b : β} :
    (x >>= f) = .ok b ↔ ∃ a, x = .ok a ∧ f a = .ok b :=
  _root_.Cnfgen.bind_ok

theorem bind_error {α β} {x : Except Err α} {f : α → Except Err β} {e : Err} :
    (x >>= f) = .error e ↔ x = .error e ∨ ∃ a, x = .ok a ∧ f a = .error e :=
  _root_.Cnfgen.bind_error

theorem mkGroup_start {numvar : Nat} {spec : GroupSpec} {g : Group} (h : mkGroup numvar spec = .ok g) :
    g.start = numvar + 1 := by
  -- every branch of `mkGroup` is a chain of checks that ends in `pure (C (numvar + 1) …)`: split along the checks, `h` is
  -- either `.ok (C (numvar + 1) …) = .ok g` (first alternative) or has an error on its left side (second)
  cases spec <;> simp only [mkGroup, bind, Except.bind, pure, Except.pure, throw, throwThe,
    MonadExceptOf.throw] at h <;>
    (repeat' split at h) <;> first
      | (cases h; rfl)
      | (simp at h; done)

theorem addClause_extends (s : MState) (c : Clause) (check : Bool) :
    (∃ cs, (addClause s c check).1.clauses = s.clauses ++ cs) ∧
    (addClause s c check).1.groups = s.groups ∧ s.numvar ≤ (addClause s c check).1.numvar := by
  unfold addClause
  split
  · exact ⟨⟨[c], rfl⟩, rfl, Nat.le_refl _⟩
  · split
    · split
      · exact ⟨⟨[], (List.append_nil _).symm⟩, rfl, Nat.le_refl _⟩
      · exact ⟨⟨[c], rfl⟩, rfl, Nat.le_max_left _ _⟩
    · exact ⟨⟨[c], rfl⟩, rfl, Nat.le_refl _⟩

theorem updateVarNum_extends (s : MState) (n : Int) :
    (updateVarNum s n).1.clauses = s.clauses ∧ (updateVarNum s n).1.groups = s.groups ∧
    s.numvar ≤ (updateVarNum s n).1.numvar := by
  unfold updateVarNum
  split
  · exact ⟨rfl, rfl, Nat.le_refl _⟩
  · exact ⟨rfl, rfl, Nat.le_max_left _ _⟩

theorem addGroup_extends (s : MState) (g : Group) :
    (addGroup s g).1.clauses = s.clauses ∧ (∃ gs, (addGroup s g).1.groups = s.groups ++ gs) ∧
    s.numvar ≤ (addGroup s g).1.numvar := by
  unfold addGroup
  split
  · exact ⟨rfl, ⟨[g], rfl⟩, Nat.le_refl _⟩
  · split
    · exact ⟨rfl, ⟨[], (List.append_nil _).symm⟩, Nat.le_refl _⟩
    · exact ⟨rfl, ⟨[g], rfl⟩, Nat.le_max_left _ _⟩

theorem newGroup_extends (s : MState) (spec : GroupSpec) :
    (newGroup s spec).1.clauses = s.clauses ∧ (∃ gs, (newGroup s spec).1.groups = s.groups ++ gs) ∧
    s.numvar ≤ (newGroup s spec).1.numvar := by
  unfold newGroup
  split
  · exact ⟨rfl, ⟨[], (List.append_nil _).symm⟩, Nat.le_refl _⟩
  · exact addGroup_extends s _

theorem step_extends (s : MState) (op : MOp) :
    (∃ cs, (step s op).1.clauses = s.clauses ++ cs) ∧ (∃ gs, (step s op).1.groups = s.groups ++ gs) ∧
    s.numvar ≤ (step s op).1.numvar := by
  cases op with
  | addClause c check =>
    have h := addClause_extends s c check
    exact ⟨h.1, ⟨[], h.2.1.trans (List.append_nil _).symm⟩, h.2.2⟩
  | updateVarNum n =>
    have h := updateVarNum_extends s n
    exact ⟨⟨[], h.1.trans (List.append_nil _).symm⟩, ⟨[], h.2.1.trans (List.append_nil _).symm⟩, h.2.2⟩
  | newGroup spec =>
    have h := newGroup_extends s spec
    exact ⟨⟨[], h.1.trans (List.append_nil _).symm⟩, h.2.1, h.2.2⟩

theorem step_numvar_mono (s : MState) (op : MOp) : s.numvar ≤ (step s op).1.numvar :=
  (step_extends s op).2.2
theorem step_clauses_prefix (s : MState) (op : MOp) : ∃ cs, (step s op).1.clauses = s.clauses ++ cs :=
  (step_extends s op).1
theorem step_groups_prefix (s : MState) (op : MOp) : ∃ gs, (step s op).1.groups = s.groups ++ gs :=
  (step_extends s op).2.1

theorem addClause_checked_inv {s : MState} (c : Clause) (h : Inv s) : Inv (addClause s c true).1 := by
  unfold Inv MState.maxMentioned at *
  unfold addClause
  split
  · rename_i hc
    have : c = [] := by simpa using hc
    subst this
    simp [maxMentionedOf_append, maxMentionedOf, maxAbs, h]
  · simp only [if_true]
    split
    · exact h
    · simp only [maxMentionedOf_append, maxMentionedOf_singleton]
      omega
theorem addClause_rejected {s : MState} {c : Clause} {check : Bool} {e : Err}
    (h : (addClause s c check).2 = .error e) : (addClause s c check).1 = s ∧ e = .valueError ∧ check = true := by
  unfold addClause at h ⊢
  -- of the four branches only `check`, `0 ∈ c` answers with an error: the others leave `h : .ok none = .error e`
  repeat' split at h
  all_goals simp_all
  all_goals (cases h; rfl)
theorem addClause_unchecked_inv {s : MState} (c : Clause) (h : Inv s) :
    Inv (addClause s c false).1 ↔ maxAbs c ≤ s.numvar := by
  unfold Inv MState.maxMentioned at *
  have : (addClause s c false).1 = { s with clauses := s.clauses ++ [c] } := by
    unfold addClause; split <;> simp
  rw [this]
  simp only [maxMentionedOf_append, maxMentionedOf_singleton]
  omega
theorem updateVarNum_inv {s : MState} (n : Int) (h : Inv s) : Inv (updateVarNum s n).1 := by
  unfold Inv MState.maxMentioned at *
  unfold updateVarNum; split
  · exact h
  · simp only; omega

theorem newGroup_inv {s : MState} (spec : GroupSpec) (h : Inv s) : Inv (newGroup s spec).1 := by
  unfold Inv MState.maxMentioned at *
  rw [(newGroup_extends s spec).1]
  exact Nat.le_trans h (newGroup_extends s spec).2.2

theorem addGroup_fresh {s : MState} {g : Group} (hst : g.start = s.numvar + 1) :
    addGroup s g =
      ({ s with groups := s.groups ++ [g], numvar := s.numvar + g.len }, .ok (some g)) := by
  unfold addGroup
  by_cases hz : g.len = 0
  · rw [if_pos hz, hz, Nat.add_zero]
  · rw [if_neg hz, if_neg (by omega), show max s.numvar (g.start + g.len - 1) = s.numvar + g.len by omega]

theorem newGroup_eq (s : MState) (spec : GroupSpec) :
    newGroup s spec = match mkGroup s.numvar spec with
      | .error e => (s, .error e)
      | .ok g => ({ s with groups := s.groups ++ [g], numvar := s.numvar + g.len }, .ok (some g)) := by
  unfold newGroup
  cases hg : mkGroup s.numvar spec with
  | error e => rfl
  | ok g => exact addGroup_fresh (mkGroup_start hg)

theorem newGroup_ok_mk {s : MState} {spec : GroupSpec} {g : Group} (h : (newGroup s spec).2 = .ok (some g)) :
    mkGroup s.numvar spec = .ok g ∧ newGroup s spec = addGroup s g := by
  cases hg : mkGroup s.numvar spec with
  | error e => rw [newGroup_eq, hg] at h; cases h
  | ok g' =>
    rw [newGroup_eq, hg] at h
    cases h
    exact ⟨rfl, by rw [newGroup, hg]⟩

theorem newGroup_ok {s : MState} {spec : GroupSpec} {g : Group} (h : (newGroup s spec).2 = .ok (some g)) :
    g.start = s.numvar + 1 ∧ g.ids = List.range' (s.numvar + 1) g.len ∧
    (newGroup s spec).1.numvar = s.numvar + g.len ∧
    (newGroup s spec).1.groups = s.groups ++ [g] ∧ (newGroup s spec).1.clauses = s.clauses := by
  obtain ⟨hmk, heq⟩ := newGroup_ok_mk h
  have hs := mkGroup_start hmk
  rw [heq, addGroup_fresh hs]
  exact ⟨hs, by rw [Group.ids, hs], rfl, rfl, rfl⟩
theorem newGroup_error {s : MState} {spec : GroupSpec} {e : Err} (h : (newGroup s spec).2 = .error e) :
    (newGroup s spec).1 = s := by
  rw [newGroup_eq] at h ⊢
  split at h
  · rfl
  · cases h
theorem newGroup_not_none (s : MState) (spec : GroupSpec) : (newGroup s spec).2 ≠ .ok none := by
  rw [newGroup_eq]
  split
  · exact fun h => nomatch h
  · exact fun h => nomatch h

theorem newGroup_fresh {s : MState} {spec : GroupSpec} {g : Group} (hinv : Inv s)
    (h : (newGroup s spec).2 = .ok (some g)) :
    ∀ v ∈ g.ids, s.maxMentioned < v ∧ ∀ c ∈ s.clauses, ∀ l ∈ c, l.natAbs ≠ v := by
  obtain ⟨_, hids, _⟩ := newGroup_ok h
  intro v hv
  rw [hids, List.mem_range'_1] at hv
  have hlt : s.maxMentioned < v := Nat.lt_of_le_of_lt hinv (by omega)
  refine ⟨hlt, ?_⟩
  intro c hc l hl
  have := (inv_iff s).1 hinv c hc l hl
  omega

/-- the obligation of the caller of `add_clause(…, check=False)` -/
def Guarded (s : MState) : MOp → Prop
  | .addClause c false => maxAbs c ≤ s.numvar
  | _ => True

/-- every unchecked insertion of the history is within the variables declared at that moment -/
def GuardedRun : MState → List MOp → Prop
  | _, [] => True
  | s, op :: ops => Guarded s op ∧ GuardedRun (step s op).1 ops

theorem step_inv {s : MState} {op : MOp} (h : Inv s) (hg : Guarded s op) : Inv (step s op).1 := by
  cases op with
  | addClause c check =>
    cases check with
    | true => exact addClause_checked_inv c h
    | false => exact (addClause_unchecked_inv c h).2 hg
  | updateVarNum n => exact updateVarNum_inv n h
  | newGroup spec => exact newGroup_inv spec h

theorem run_nil (s : MState) : run s [] = s := rfl

theorem run_cons (s : MState) (op : MOp) (ops : List MOp) : run s (op :: ops) = run (step s op).1 ops := rfl
theorem run_append (s : MState) (ops ops' : List MOp) : run s (ops ++ ops') = run (run s ops) ops' := by
  simp [run, List.foldl_append]

/-- T-C10.2, histories: the invariant holds after every guarded history -/
theorem run_inv {s : MState} {ops : List MOp} (h : Inv s) (hg : GuardedRun s ops) : Inv (run s ops) := by
  induction ops generalizing s with
  | nil => exact h
  | cons op ops ih => rw [run_cons]; exact ih (step_inv h hg.1) hg.2

theorem guardedRun_append {s : MState} {ops ops' : List MOp} :
    GuardedRun s (ops ++ ops') ↔ GuardedRun s ops ∧ GuardedRun (run s ops) ops' := by
  induction ops generalizing s with
  | nil => simp [GuardedRun, run_nil]
  | cons op ops ih => simp [GuardedRun, run_cons, ih, and_assoc]

/-- T-C10.2, freshness along histories: whenever a guarded history creates a group, none of its
identifiers was mentioned by a clause stored before -/
theorem history_fresh {ops : List MOp} {spec : GroupSpec} {g : Group}
    (hg : GuardedRun MState.init (ops ++ [.newGroup spec]))
    (h : (newGroup (run MState.init ops) spec).2 = .ok (some g)) :
    ∀ v ∈ g.ids, ∀ c ∈ (run MState.init ops).clauses, ∀ l ∈ c, l.natAbs ≠ v := by
  have hinv : Inv (run MState.init ops) := run_inv inv_init (guardedRun_append.1 hg).1
  intro v hv
  exact (newGroup_fresh hinv h v hv).2

theorem run_numvar_mono (s : MState) (ops : List MOp) : s.numvar ≤ (run s ops).numvar := by
  induction ops generalizing s with
  | nil => exact Nat.le_refl _
  | cons op ops ih => rw [run_cons]; exact Nat.le_trans (step_numvar_mono s op) (ih _)

end Vars
end Cnfgen
