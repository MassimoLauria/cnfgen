/-
C14 — the kthlist reader for simple and directed graphs (`_read_nonbipartite_kthlist` over
`_kthlist_parse`): what a text denotes, reader contract, round trip.
-/
import Lemmas.GraphIOBase
namespace Cnfgen.GraphFmt
open Cnfgen Cnfgen.GraphLex

/-- the number of vertices the text declares: its first line that is neither a comment nor
blank, when that line is a size line -/
def kthSize : List KRow → Option Int
  | [] => none
  | .comment :: rs => kthSize rs
  | .blank :: rs => kthSize rs
  | .spec s :: _ => s
  | .adj _ :: _ => none

/-- the pairs `(v, left)` an adjacency line `left : v₁ … v_k 0` states -/
def kthRowPairs : KRow → List (Int × Int)
  | .adj (some (l, r)) => r.dropLast.map (fun v => (v, l))
  | _ => []

def kthPairs (rows : List KRow) : List (Int × Int) := rows.flatMap kthRowPairs

/-- the left vertices a bipartite kthlist text lists, in order -/
def kthLefts (rows : List KRow) : List Int :=
  rows.filterMap (fun r => match r with | .adj (some (l, _)) => some l | _ => none)

theorem kthPairs_cons (r : KRow) (rs : List KRow) : kthPairs (r :: rs) = kthRowPairs r ++ kthPairs rs := by
  simp [kthPairs]

theorem kthHeader_reads (rows : List KRow) : Reads (kthHeader rows) (fun sr =>
    kthSize rows = some (sr.1 : Int) ∧ kthPairs rows = kthPairs sr.2 ∧ kthLefts rows = kthLefts sr.2) := by
  induction rows with
  | nil => rfl
  | cons r rs ih =>
    cases r with
    | comment => exact ih
    | blank => exact ih
    | spec s =>
      cases s with
      | none => rfl
      | some s =>
        simp only [kthHeader]
        split
        · rfl
        · refine ⟨?_, rfl, rfl⟩
          simp only [kthSize]; congr 1; omega
    | adj a => rfl

theorem kthAdj_reads (size : Nat) (a : Option (Int × List Int)) : Reads (kthAdj size a) (fun sp =>
    ∃ l r, a = some (l, r) ∧ l = (sp.1 : Int) ∧ 1 ≤ sp.1 ∧ sp.1 ≤ size ∧
      kthRowPairs (.adj a) = sp.2.map (fun (v : Nat) => ((v : Int), (sp.1 : Int)))) := by
  unfold kthAdj
  split
  · rfl
  · rename_i left right
    split
    · rfl
    · split
      · rfl
      · rename_i h2
        split
        · rfl
        · rename_i h3
          simp only [List.any_eq_true, Bool.or_eq_true, decide_eq_true_eq, not_exists, not_and, not_or,
            Int.not_lt] at h3
          refine ⟨left, right, rfl, by simp only; omega, by simp only; omega, by simp only; omega, ?_⟩
          simp only [kthRowPairs, List.map_map]
          refine List.map_congr_left fun x hx => ?_
          have := h3 x hx
          simp only [Function.comp, Prod.mk.injEq]
          omega

theorem kthAdj_row {size v : Nat} {ns : List Nat} (hv : 1 ≤ v ∧ v ≤ size) (hn : ∀ x ∈ ns, 1 ≤ x ∧ x ≤ size) :
    kthAdj size (some ((v : Int), ns.map Int.ofNat ++ [0])) = .ok (v, ns) := by
  unfold kthAdj
  have h1 : (ns.map Int.ofNat ++ [0]).getLast? = some (0 : Int) := by simp
  have h2 : ¬ ((v : Int) < 1 ∨ (v : Int) > size) := by omega
  have h3 : ((ns.map Int.ofNat).any (fun x => decide (x < 1) || decide (x > (size : Int)))) = false := by
    simp only [List.any_eq_false, List.mem_map, Bool.or_eq_true, decide_eq_true_eq, not_or,
      forall_exists_index, and_imp, forall_apply_eq_imp_iff₂]
    intro x hx
    have := hn x hx
    show ¬ ((x : Int) < 1) ∧ ¬ ((x : Int) > size)
    omega
  simp only [h1, ne_eq, not_true_eq_false, if_false, h2, List.dropLast_concat, h3, Bool.false_eq_true,
    List.map_map]
  congr 2
  calc ns.map (Int.toNat ∘ Int.ofNat) = ns.map id := List.map_congr_left (fun x _ => by simp)
    _ = ns := List.map_id _


theorem addPreds_eq {γ} (C : GClass γ) (G : γ) (succ : Nat) (preds : List Nat) :
    addPreds C G succ preds = GSem.addAll C G (preds.map (fun (v : Nat) => ((v : Int), (succ : Int)))) := by
  simp only [addPreds, GSem.addAll, List.foldlM_map]

section
variable {γ : Type} {C : GClass γ} (S : GSem C)

theorem readKthBody_reads {size : Nat} (rows : List KRow) {G : γ} (prev : Nat) (h : S.Inv G) :
    Reads (readKthBody C size G prev rows) (fun G' => GSem.addAll C G (kthPairs rows) = .ok G') := by
  induction rows generalizing G prev with
  | nil => rfl
  | cons r rs ih =>
    cases r with
    | comment => exact ih prev h
    | blank => exact ih prev h
    | spec s => rfl
    | adj a =>
      simp only [readKthBody]
      have ha := kthAdj_reads size a
      cases hk : kthAdj size a with
      | error x => exact ha.err hk
      | ok sp =>
        obtain ⟨succ, preds⟩ := sp
        obtain ⟨l, r, rfl, _, _, _, key⟩ := ha.ok hk
        simp only
        split
        · rfl
        · have hp := S.addAll_reads h (preds.map (fun (v : Nat) => ((v : Int), (succ : Int))))
          rw [addPreds_eq]
          cases hq : GSem.addAll C G (preds.map (fun (v : Nat) => ((v : Int), (succ : Int)))) with
          | error x => exact hp.err hq
          | ok G₁ =>
            refine (ih succ (hp.ok hq).2.1).imp fun G' h' => ?_
            rw [kthPairs_cons, key, GSem.addAll_append, hq]
            exact h'

theorem readKth_reads (rows : List KRow) : Reads (readKth C rows) (fun G =>
    S.Inv G ∧ kthSize rows = some (C.order G : Int) ∧ (∀ x ∈ kthPairs rows, S.Valid (C.order G) x.1 x.2) ∧
      ∀ p, p ∈ S.E G ↔ ∃ x ∈ kthPairs rows, S.contrib x.1 x.2 p) := by
  unfold readKth
  have hh := kthHeader_reads rows
  cases hk : kthHeader rows with
  | error y => exact hh.err hk
  | ok sr =>
    obtain ⟨size, rest⟩ := sr
    obtain ⟨hsize, hpairs, _⟩ := hh.ok hk
    have hb := readKthBody_reads S (size := size) rest 0 (S.init_inv size)
    simp only
    cases hr : readKthBody C size (C.init size) 0 rest with
    | error y => exact hb.err hr
    | ok G₁ =>
      obtain ⟨hv, hi, ho, hm⟩ := S.addAll_init_ok (hb.ok hr)
      simp only
      split
      · rfl
      · subst ho
        exact ⟨hi, hsize, hpairs ▸ hv, hpairs ▸ hm⟩

end

/-- the pairs `(v, left)` that lists `left : v₁ … v_k` state -/
def listPairs (ls : List (Nat × List Nat)) : List (Nat × Nat) := ls.flatMap (fun p => p.2.map (fun v => (v, p.1)))

def listCalls (ls : List (Nat × List Nat)) : List (Int × Int) := (listPairs ls).map (fun e => ((e.1 : Int), (e.2 : Int)))

theorem listCalls_cons (p : Nat × List Nat) (ps : List (Nat × List Nat)) :
    listCalls (p :: ps) = p.2.map (fun (v : Nat) => ((v : Int), (p.1 : Int))) ++ listCalls ps := by
  simp [listCalls, listPairs]

theorem readKthBody_lists {γ : Type} (C : GClass γ) (size : Nat) (ls : List (Nat × List Nat)) (G : γ) (prev : Nat)
    (hsorted : (ls.map (·.1)).Pairwise (· < ·)) (hprev : ∀ p ∈ ls, prev < p.1)
    (hrange : ∀ p ∈ ls, (1 ≤ p.1 ∧ p.1 ≤ size) ∧ ∀ x ∈ p.2, 1 ≤ x ∧ x ≤ size) :
    readKthBody C size G prev (ls.map (fun p => kthAdjRow p.1 p.2) ++ [.blank]) =
      GSem.addAll C G (listCalls ls) := by
  induction ls generalizing G prev with
  | nil => simp [readKthBody, listCalls, listPairs, GSem.addAll_nil]
  | cons p ps ih =>
    obtain ⟨v, ns⟩ := p
    have hr := hrange (v, ns) (List.mem_cons_self ..)
    have hlt : ¬ v ≤ prev := by have := hprev (v, ns) (List.mem_cons_self ..); simp only at this; omega
    simp only [List.map_cons, List.cons_append, kthAdjRow, readKthBody, kthAdj_row hr.1 hr.2, hlt, if_false]
    rw [listCalls_cons, GSem.addAll_append, addPreds_eq]
    cases GSem.addAll C G (ns.map (fun (x : Nat) => ((x : Int), (v : Int)))) with
    | error x => rfl
    | ok G₁ =>
      simp only
      have hs : (∀ a ∈ ps.map (·.1), v < a) ∧ (ps.map (·.1)).Pairwise (· < ·) := by
        simpa only [List.map_cons, List.pairwise_cons] using hsorted
      apply ih
      · exact hs.2
      · intro q hq
        exact hs.1 q.1 (List.mem_map.2 ⟨q, hq, rfl⟩)
      · intro q hq; exact hrange q (List.mem_cons_of_mem _ hq)

theorem kthHeader_comments (k : Nat) (rs : List KRow) :
    kthHeader (List.replicate k .comment ++ rs) = kthHeader rs := by
  induction k with
  | zero => rfl
  | succ k ih => simp only [List.replicate_succ, List.cons_append, kthHeader, ih]

/-- the lists a writer prints: one per vertex `1..n`, in order -/
theorem mem_listPairs_range {n : Nat} {f : Nat → List Nat} {a b : Nat} :
    (a, b) ∈ listPairs ((List.range n).map (fun i => (i + 1, f (i + 1)))) ↔ (1 ≤ b ∧ b ≤ n) ∧ a ∈ f b := by
  simp only [listPairs, List.mem_flatMap, List.mem_map, List.mem_range, Prod.mk.injEq]
  constructor
  · rintro ⟨_, ⟨i, hi, rfl⟩, v, hv, rfl, rfl⟩
    exact ⟨⟨by omega, by omega⟩, hv⟩
  · rintro ⟨⟨h1, h2⟩, ha⟩
    exact ⟨_, ⟨b - 1, by omega, rfl⟩, a, by rwa [show b - 1 + 1 = b by omega], rfl, by omega⟩

theorem readKth_written {γ : Type} (C : GClass γ) (k n : Nat) (f : Nat → List Nat)
    (hr : ∀ e ∈ listPairs ((List.range n).map (fun i => (i + 1, f (i + 1)))), 1 ≤ e.1 ∧ e.1 ≤ n) {G' : γ}
    (hG' : GSem.addAll C (C.init n) ((listPairs ((List.range n).map (fun i => (i + 1, f (i + 1))))).map
      (fun e => ((e.1 : Int), (e.2 : Int)))) = .ok G') (ho : C.order G' = n) :
    readKth C (kthRows k n ((List.range n).map (fun i => (i + 1, f (i + 1))))) = .ok G' := by
  have hn : ¬ ((n : Int) < 0) := by omega
  have hrange : ∀ p ∈ (List.range n).map (fun i => (i + 1, f (i + 1))),
      (1 ≤ p.1 ∧ p.1 ≤ n) ∧ ∀ x ∈ p.2, 1 ≤ x ∧ x ≤ n := fun p hp => by
    obtain ⟨i, hi, rfl⟩ := List.mem_map.1 hp
    have hi' := List.mem_range.1 hi
    exact ⟨⟨by simp only; omega, by simp only; omega⟩,
      fun x hx => hr (x, i + 1) (mem_listPairs_range.2 ⟨⟨by omega, by omega⟩, hx⟩)⟩
  simp only [readKth, kthRows, kthHeader_comments, kthHeader, hn, if_false, Int.toNat_natCast]
  rw [readKthBody_lists C n _ (C.init n) 0 (by simpa [Function.comp_def, oneTo] using sorted_oneTo n)
    (fun p hp => (hrange p hp).1.1) hrange, show GSem.addAll C (C.init n) (listCalls _) = .ok G' from hG']
  exact if_neg (fun hne => hne ho.symm)

/-- T-C14.1 (kthlist, simple graph) -/
theorem roundtrip_kth_simple (k : Nat) {G : SimpleG} (h : SimpleG.Inv G) :
    ∃ G', readKth simpleClass (writeKthSimple k G) = .ok G' ∧ SimpleG.Same G G' := by
  have hmem : ∀ {a b : Nat}, (a, b) ∈ listPairs (simpleLists G) ↔ (b, a) ∈ G.edgeset := fun {a b} =>
    (mem_listPairs_range (f := G.nbrs)).trans
      ⟨fun hx => h.mem_nbrs.1 hx.2, fun hx => ⟨by have := h.range b a hx; omega, h.mem_nbrs.2 hx⟩⟩
  obtain ⟨G', hG', hS⟩ := SimpleG.rebuild h (cs := listPairs (simpleLists G))
    (fun e he => h.symm _ _ (hmem.1 he)) (fun a b hab => Or.inr (hmem.2 hab))
  exact ⟨G', readKth_written simpleClass k G.n G.nbrs (fun e he => by have := h.range _ _ (hmem.1 he); omega) hG' hS.n, hS⟩

/-- T-C14.1 (kthlist, directed graph; the same file is read for `digraph` and `dag`) -/
theorem roundtrip_kth_di (k : Nat) {G : DiG} (h : DiG.Inv G) :
    ∃ G', readKth diClass (writeKthDi k G) = .ok G' ∧ DiG.Same G G' := by
  have hmem : ∀ e, e ∈ listPairs (diLists G) ↔ e ∈ G.edgeset := fun e =>
    (mem_listPairs_range (f := G.preds)).trans
      ⟨fun hx => h.mem_preds.1 hx.2, fun hx => ⟨by have := h.range e.1 e.2 hx; omega, h.mem_preds.2 hx⟩⟩
  obtain ⟨G', hG', hS⟩ := DiG.rebuild h hmem
  exact ⟨G', readKth_written diClass k G.n G.preds (fun e he => by have := h.range _ _ ((hmem e).1 he); omega) hG' hS.n, hS⟩

end Cnfgen.GraphFmt
