/-
The decimal printer `natStr` (Python's `str(n)`), once for all formats: its recursion, that it prints decimal digits only,
at least one, whose value is `n`, and how many.  Everything the formula lexer, the graph lexer and the GML tokenizer know
about a printed number follows from `natStr_digits` and `natStr_length_le` without another induction.
-/
import CnfgenModel.IO.GraphLex
namespace Cnfgen.IO

theorem natStrAux_append (f n : Nat) (acc : Str) : natStrAux f n acc = natStrAux f n [] ++ acc := by
  induction f generalizing n acc with
  | zero => rfl
  | succ f ih =>
    simp only [natStrAux]
    split
    · rfl
    · rw [ih (n / 10) (digitChar (n % 10) :: acc), ih (n / 10) [digitChar (n % 10)]]
      simp

theorem natStrAux_fuel (f f' n : Nat) (h : n < f) (h' : n < f') : natStrAux f n [] = natStrAux f' n [] := by
  induction f generalizing f' n with
  | zero => omega
  | succ f ih =>
    cases f' with
    | zero => omega
    | succ f' =>
      simp only [natStrAux]
      split
      · rfl
      · rw [natStrAux_append f, natStrAux_append f', ih f' (n / 10) (by omega) (by omega)]

theorem natStr_lt10 {n : Nat} (h : n < 10) : natStr n = [digitChar n] := by
  simp [natStr, natStrAux, h]

theorem natStr_ge10 {n : Nat} (h : 10 ≤ n) : natStr n = natStr (n / 10) ++ [digitChar (n % 10)] := by
  have hn : ¬ n < 10 := by omega
  have h1 : natStr n = natStrAux n (n / 10) [digitChar (n % 10)] := by
    simp only [natStr, natStrAux, hn, if_false]
  rw [h1, natStrAux_append, natStrAux_fuel n (n / 10 + 1) (n / 10) (by omega) (by omega)]
  rfl

/-- a decimal ASCII digit -/
def IsDigit (c : Char) : Prop := 48 ≤ c.toNat ∧ c.toNat ≤ 57

instance (c : Char) : Decidable (IsDigit c) := inferInstanceAs (Decidable (_ ∧ _))

theorem digitChar_isDigit : ∀ d, d < 10 → IsDigit (digitChar d) ∧ (digitChar d).toNat - 48 = d := by
  unfold IsDigit; decide

theorem digit?_of_isDigit {c : Char} (h : IsDigit c) : digit? c = some (c.toNat - 48) := by
  simp [digit?, h.1, h.2]

/-- value of a digit string read left to right, starting from `acc` -/
def digitsFrom (acc : Nat) (s : Str) : Nat := s.foldl (fun a c => a * 10 + (c.toNat - 48)) acc

theorem natStr_digits (n : Nat) : (∀ c ∈ natStr n, IsDigit c) ∧ natStr n ≠ [] ∧ digitsFrom 0 (natStr n) = n := by
  induction n using Nat.strongRecOn with
  | _ n ih =>
    by_cases h : n < 10
    · rw [natStr_lt10 h]
      have := digitChar_isDigit n h
      refine ⟨by simpa using this.1, by simp, by simp [digitsFrom, this.2]⟩
    · rw [natStr_ge10 (by omega)]
      obtain ⟨h1, _, h3⟩ := ih (n / 10) (by omega)
      have := digitChar_isDigit (n % 10) (by omega)
      refine ⟨?_, by simp, ?_⟩
      · intro c hc
        rcases List.mem_append.1 hc with e | e
        · exact h1 c e
        · simp at e; subst e; exact this.1
      · unfold digitsFrom at h3 ⊢
        rw [List.foldl_append, h3]
        simp only [List.foldl_cons, List.foldl_nil, this.2]
        omega

theorem natStr_length_le (n : Nat) : ∀ k, 1 ≤ k → ((natStr n).length ≤ k ↔ n < 10 ^ k) := by
  induction n using Nat.strongRecOn with
  | _ n ih =>
    intro k hk
    obtain ⟨j, rfl⟩ : ∃ j, k = j + 1 := ⟨k - 1, by omega⟩
    by_cases h : n < 10
    · have : 10 ^ 1 ≤ 10 ^ (j + 1) := Nat.pow_le_pow_right (by omega) hk
      rw [natStr_lt10 h]
      simp only [List.length_singleton]
      omega
    · rw [natStr_ge10 (by omega), Nat.pow_succ]
      simp only [List.length_append, List.length_singleton]
      have hne : 1 ≤ (natStr (n / 10)).length := List.length_pos_iff.2 (natStr_digits _).2.1
      rcases Nat.eq_zero_or_pos j with rfl | hj
      · simp only [Nat.pow_zero, Nat.one_mul]; omega
      · have := ih (n / 10) (by omega) j hj
        omega

theorem natStr_length_pos (n : Nat) : 1 ≤ (natStr n).length := List.length_pos_iff.2 (natStr_digits n).2.1

theorem natStr_length_mono (n i : Nat) (h : i ≤ n) : (natStr i).length ≤ (natStr n).length :=
  (natStr_length_le i _ (natStr_length_pos n)).2
    (Nat.lt_of_le_of_lt h ((natStr_length_le n _ (natStr_length_pos n)).1 (Nat.le_refl _)))

end Cnfgen.IO

namespace Cnfgen.GraphLex

theorem digitsVal_natStr (n : Nat) : digitsVal (natStr n) = n := (IO.natStr_digits n).2.2

theorem isDigitStr_natStr (n : Nat) : isDigitStr (natStr n) = true := by
  obtain ⟨h1, h2, _⟩ := IO.natStr_digits n
  simp only [isDigitStr, Bool.and_eq_true, Bool.not_eq_true', List.isEmpty_eq_false_iff, List.all_eq_true]
  exact ⟨h2, fun c hc => by rw [IO.digit?_of_isDigit (h1 c hc)]; rfl⟩

end Cnfgen.GraphLex
