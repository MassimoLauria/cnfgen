import CnfgenModel.Build.OPB
import Lemmas.Linear
namespace Cnfgen
open PB

theorem pbSum_cons (α : Assign) (t : Int × Int) (ts : List (Int × Int)) :
    pbSum α (t :: ts) = (if litHolds α t.2 then t.1 else 0) + pbSum α ts :=
  rfl

/-- the flipped term `-c·¬l` contributes what `c·l` does, minus the constant `c` -/
theorem flip_term (b : Bool) (c : Int) :
    (if (!b) = true then -c else 0) = (if b = true then c else 0) - c := by
  cases b
  · exact (Int.zero_sub c).symm
  · exact (Int.sub_self c).symm

/-- flipping the negative coefficients adds their absolute values to both sides -/
theorem normTerms_sum (α : Assign) (ts : List (Int × Int)) (v : Int)
    (h : ∀ t ∈ ts, t.2 ≠ 0) :
    pbSum α (normTerms ts v).1 - (normTerms ts v).2 = pbSum α ts - v := by
  induction ts generalizing v with
  | nil => rfl
  | cons t ts ih =>
    obtain ⟨c, l⟩ := t
    rw [List.forall_mem_cons] at h
    simp only [normTerms]
    split
    · simp only [pbSum_cons, litHolds_neg α l h.1, flip_term]
      rw [Int.add_sub_assoc, Int.add_sub_assoc, ih (v + -c) h.2]
      omega
    · split
      next hz => rw [pbSum_cons, ih v h.2, hz, ite_self, Int.zero_add]
      next =>
        simp only [pbSum_cons]
        rw [Int.add_sub_assoc, Int.add_sub_assoc, ih v h.2]

theorem Op.denote_sub (o : Op) (a b : Int) : o.denote a b = o.denote (a - b) 0 := by
  cases o <;> simp only [Op.denote, decide_eq_decide, ge_iff_le, gt_iff_lt, ne_eq]
  · exact ⟨Int.sub_nonpos_of_le, Int.le_of_sub_nonpos⟩
  · exact Int.sub_nonneg.symm
  · exact ⟨Int.sub_neg_of_lt, Int.lt_of_sub_neg⟩
  · exact Int.sub_pos.symm
  · exact Int.sub_eq_zero.symm
  · exact not_congr Int.sub_eq_zero.symm

theorem normTerms_denote (α : Assign) (ts : List (Int × Int)) (o : Op) (v : Int) (h : ∀ t ∈ ts, t.2 ≠ 0) :
    o.denote (pbSum α (normTerms ts v).1) (normTerms ts v).2 = o.denote (pbSum α ts) v := by
  rw [Op.denote_sub, normTerms_sum α ts v h, ← Op.denote_sub]

theorem normTerms_forall (P : Int × Int → Prop) (ts : List (Int × Int)) (v : Int)
    (hneg : ∀ t ∈ ts, t.1 < 0 → P (-t.1, -t.2)) (hpos : ∀ t ∈ ts, 0 < t.1 → P t) :
    ∀ t ∈ (normTerms ts v).1, P t := by
  induction ts generalizing v with
  | nil => exact fun _ ht => nomatch ht
  | cons t ts ih =>
    obtain ⟨c, l⟩ := t
    rw [List.forall_mem_cons] at hneg hpos
    simp only [normTerms]
    split
    next hc => exact List.forall_mem_cons.2 ⟨hneg.1 hc, ih _ hneg.2 hpos.2⟩
    next hc =>
      split
      next => exact ih _ hneg.2 hpos.2
      next hz => exact List.forall_mem_cons.2 ⟨hpos.1 (Int.lt_iff_le_and_ne.2 ⟨Int.not_lt.1 hc, Ne.symm hz⟩), ih _ hneg.2 hpos.2⟩

theorem normTerms_pos (ts : List (Int × Int)) (v : Int) :
    ∀ t ∈ (normTerms ts v).1, 0 < t.1 :=
  normTerms_forall (0 < ·.1) ts v (fun _ _ hc => Int.neg_pos_of_neg hc) (fun _ _ hc => hc)

theorem normTerms_lits_ne (ts : List (Int × Int)) (v : Int) (h : ∀ t ∈ ts, t.2 ≠ 0) :
    ∀ t ∈ (normTerms ts v).1, t.2 ≠ 0 :=
  normTerms_forall (·.2 ≠ 0) ts v (fun t ht _ => Int.neg_ne_zero.2 (h t ht)) (fun t ht _ => h t ht)

theorem pbSum_map_neg (α : Assign) (ts : List (Int × Int)) :
    pbSum α (ts.map (fun t => (-t.1, t.2))) = - pbSum α ts := by
  induction ts with
  | nil => rfl
  | cons t ts ih =>
    rw [List.map_cons, pbSum_cons, pbSum_cons, ih]
    cases litHolds α t.2
    · exact (congrArg Neg.neg (Int.zero_add _)).trans (Int.zero_add _).symm |>.symm
    · exact Int.neg_add.symm

theorem pbSum_unit (α : Assign) (ls : List Int) : pbSum α (unit ls) = (count α ls : Int) := by
  induction ls with
  | nil => rfl
  | cons x xs ih =>
    rw [unit, List.map_cons, pbSum_cons, ← unit, ih, count_cons]
    cases litHolds α x
    · exact Int.zero_add _
    · exact Int.add_comm 1 _

theorem ofClause_holds (α : Assign) (c : Clause) :
    (PBC.ofClause c).holds α = clauseHolds α c := by
  rw [Bool.eq_iff_iff, clauseHolds_iff_count_pos]
  show decide (pbSum α (unit c) ≥ 1) = true ↔ _
  rw [pbSum_unit, decide_eq_true_iff]
  exact Int.natCast_pos

end Cnfgen
