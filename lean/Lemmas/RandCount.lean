/-
Closed forms for the exact maximum when nothing is planted:
`all_clauses(k,n,[])` has `C(n,k)·2^k` members, `all_good_parities(k,n,[])` has `2·C(n,k)`.
-/
import Lemmas.RandKXOR
import Lemmas.IterCount
namespace Cnfgen.Rand
open Cnfgen

theorem length_allClauses_nil (k n : Nat) : (allClauses k n []).length = n.choose k * 2 ^ k := by
  unfold allClauses
  rw [length_flatMap_const _ _ (2 ^ k)]
  · rw [length_combos]; simp [vars]
  · intro dom _
    have : ∀ c : Clause, clauseSatisfied c [] = true := fun c => by simp [clauseSatisfied]
    simp [this, length_productRep]

theorem length_allGoodParities_nil (k n : Nat) :
    ∃ full, allGoodParities k n [] = .ok full ∧ full.length = 2 * n.choose k := by
  refine ⟨_, goodParitiesOf_eq (fun _ _ a ha => absurd ha List.not_mem_nil), ?_⟩
  rw [length_flatMap_const _ _ 2 (fun X _ => by simp [ParityOK]), length_combos, Nat.mul_comm]
  simp [vars]

end Cnfgen.Rand
