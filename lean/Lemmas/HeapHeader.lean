/-
C19 heap lemmas — `add_description` on the REAL keys (strings): which key is picked, for any header —
gaps in the numbering, keys that are not of the form `transformation <n>`, keys like `transformation 01`
that only look like one — and for a chain of any length.
-/
import CnfgenModel.Heap.Formula
import Lemmas.Shuffle
namespace Cnfgen
namespace Heap
open Cnfgen.Shuffle (tkey firstFree firstFree_spec)

theorem hasKey_eq (h : Hdr) (k : String) : hasKey h k = Shuffle.hasKey h k := rfl

theorem addDescription_spec (h : Hdr) (text : String) :
    addDescription h text = h ++ [(tkey (firstFree h), text)] ∧ 1 ≤ firstFree h ∧
      hasKey h (tkey (firstFree h)) = false ∧
      ∀ j, 1 ≤ j → j < firstFree h → hasKey h (tkey j) = true := by
  obtain ⟨a, b, c⟩ := firstFree_spec h
  refine ⟨?_, a, b, c⟩
  unfold addDescription setKey
  rw [hasKey_eq, b]; simp

theorem hasKey_append (h h' : Hdr) (k : String) : hasKey (h ++ h') k = (hasKey h k || hasKey h' k) := by
  simp [hasKey, List.any_append]

theorem firstFree_lt_next (h : Hdr) (text : String) : firstFree h < firstFree (addDescription h text) := by
  obtain ⟨e, a, b, c⟩ := addDescription_spec h text
  obtain ⟨a', b', c'⟩ := firstFree_spec (addDescription h text)
  rw [e] at a' b' ⊢
  apply Decidable.byContradiction
  intro hge
  have hle : firstFree (h ++ [(tkey (firstFree h), text)]) ≤ firstFree h := by omega
  rw [← hasKey_eq, hasKey_append] at b'
  rcases Nat.lt_or_ge (firstFree (h ++ [(tkey (firstFree h), text)])) (firstFree h) with hlt | hge'
  · have := c _ a' hlt
    simp [this] at b'
  · have heq : firstFree (h ++ [(tkey (firstFree h), text)]) = firstFree h := by omega
    rw [heq] at b'
    simp [hasKey] at b'

/-- a chain of `add_description` calls (one per applied transformation) -/
def describeAll (h : Hdr) (texts : List String) : Hdr := texts.foldl addDescription h

/-- the numbers the chain picks -/
def pickedIdx : Hdr → List String → List Nat
  | _, [] => []
  | h, t :: ts => firstFree h :: pickedIdx (addDescription h t) ts

theorem describeAll_eq : ∀ (texts : List String) (h : Hdr),
    describeAll h texts = h ++ List.zipWith (fun i t => (tkey i, t)) (pickedIdx h texts) texts
  | [], h => by simp [describeAll, pickedIdx]
  | t :: ts, h => by
    have ih := describeAll_eq ts (addDescription h t)
    simp only [describeAll, List.foldl_cons, pickedIdx, List.zipWith_cons_cons] at ih ⊢
    rw [ih, (addDescription_spec h t).1]
    simp

theorem pickedIdx_length : ∀ (texts : List String) (h : Hdr), (pickedIdx h texts).length = texts.length
  | [], _ => rfl
  | t :: ts, h => by simp [pickedIdx, pickedIdx_length ts]

theorem pickedIdx_lower : ∀ (texts : List String) (h : Hdr), ∀ i ∈ pickedIdx h texts, firstFree h ≤ i
  | [], _ => by simp [pickedIdx]
  | t :: ts, h => by
    intro i hi
    simp only [pickedIdx, List.mem_cons] at hi
    rcases hi with rfl | hi
    · exact Nat.le_refl _
    · have := pickedIdx_lower ts _ i hi
      have := firstFree_lt_next h t
      omega

theorem pickedIdx_increasing : ∀ (texts : List String) (h : Hdr), (pickedIdx h texts).Pairwise (· < ·)
  | [], _ => by simp [pickedIdx]
  | t :: ts, h => by
    simp only [pickedIdx, List.pairwise_cons]
    refine ⟨?_, pickedIdx_increasing ts _⟩
    intro i hi
    have := pickedIdx_lower ts _ i hi
    have := firstFree_lt_next h t
    omega

theorem hasKey_mono_addDescription (h : Hdr) (t k : String) (hk : hasKey h k = true) :
    hasKey (addDescription h t) k = true := by
  rw [(addDescription_spec h t).1, hasKey_append, hk]; rfl

theorem pickedIdx_free : ∀ (texts : List String) (h : Hdr), ∀ i ∈ pickedIdx h texts, hasKey h (tkey i) = false
  | [], _ => by simp [pickedIdx]
  | t :: ts, h => by
    intro i hi
    simp only [pickedIdx, List.mem_cons] at hi
    rcases hi with rfl | hi
    · exact (addDescription_spec h t).2.2.1
    · have := pickedIdx_free ts _ i hi
      cases hh : hasKey h (tkey i) with
      | false => rfl
      | true => rw [hasKey_mono_addDescription h t _ hh] at this; cases this

end Heap
end Cnfgen
