/-
C15, `grid` / `torus`: the edge relation of `networkx.grid_graph(dims, periodic)` as modelled in
`Nx.gridProduct` (paths / cycles, iterated `cartesian_product`), in terms of mixed-radix coordinates
of the node positions (first dimension least significant), the number of edges, and the degrees.
-/
import Lemmas.C15NxBase
import Mathlib.Tactic.Ring
import Mathlib.Data.List.Induction
namespace Cnfgen.Nx
open Cnfgen

theorem mul_add_div_of_lt {u n x : Nat} (hx : x < n) : (u * n + x) / n = u := by
  rw [Nat.mul_comm, Nat.mul_add_div (by omega)]; simp [Nat.div_eq_of_lt hx]

theorem mul_add_lt {a u n x : Nat} (hu : u < a) (hx : x < n) : u * n + x < a * n := by
  have : (u + 1) * n ≤ a * n := Nat.mul_le_mul_right n hu
  rw [Nat.add_mul] at this; omega

theorem mul_add_inj {n a x b y : Nat} (hx : x < n) (hy : y < n) (h : a * n + x = b * n + y) : a = b ∧ x = y := by
  have h1 := congrArg (· / n) h
  have h2 := congrArg (· % n) h
  simp only [mul_add_div_of_lt hx, mul_add_div_of_lt hy] at h1
  simp only [Nat.mul_add_mod_of_lt hx, Nat.mul_add_mod_of_lt hy] at h2
  exact ⟨h1, h2⟩

/-- positions `a`, `b` are neighbours on the path (`periodic = false`) / cycle of length `d` -/
def LineAdj (periodic : Bool) (d a b : Nat) : Prop :=
  a + 1 = b ∨ b + 1 = a ∨ (periodic = true ∧ ((a + 1 = d ∧ b = 0) ∨ (b + 1 = d ∧ a = 0)))

instance (p : Bool) (d a b : Nat) : Decidable (LineAdj p d a b) := by unfold LineAdj; exact inferInstance

theorem mem_pathPairs {d a b : Nat} : (a, b) ∈ pathPairs d ↔ a + 1 = b ∧ b < d := by
  simp only [pathPairs, List.mem_map, List.mem_range, Prod.mk.injEq]
  constructor
  · rintro ⟨i, hi, rfl, rfl⟩; omega
  · rintro ⟨h1, h2⟩; exact ⟨a, by omega, rfl, h1⟩

theorem lineGraph_n (p : Bool) (d : Nat) : (lineGraph p d).n = d := by
  unfold lineGraph; split <;> rfl

theorem lineGraph_E {p : Bool} {d a b : Nat} :
    (lineGraph p d).E a b ↔ a < d ∧ b < d ∧ LineAdj p d a b := by
  unfold lineGraph NxG.E LineAdj
  cases p
  · simp only [Bool.false_eq_true, ↓reduceIte, pathGraph, mem_pathPairs, false_and, or_false]
    constructor
    · rintro (⟨h1, h2⟩ | ⟨h1, h2⟩)
      · exact ⟨by omega, h2, .inl h1⟩
      · exact ⟨h2, by omega, .inr h1⟩
    · rintro ⟨h1, h2, h3 | h3⟩
      · exact .inl ⟨h3, h2⟩
      · exact .inr ⟨h3, h1⟩
  · simp only [↓reduceIte, cycleGraph, List.mem_append, mem_pathPairs, true_and]
    by_cases hd : d = 0
    · subst hd; simp
    · simp only [hd, ↓reduceIte, List.mem_singleton, Prod.mk.injEq]
      constructor
      · rintro ((⟨h1, h2⟩ | ⟨h1, h2⟩) | ⟨h1, h2⟩ | ⟨h1, h2⟩)
        · exact ⟨by omega, h2, .inl h1⟩
        · exact ⟨by omega, by omega, .inr (.inr (.inl ⟨by omega, h2⟩))⟩
        · exact ⟨h2, by omega, .inr (.inl h1)⟩
        · exact ⟨by omega, by omega, .inr (.inr (.inr ⟨by omega, h2⟩))⟩
      · rintro ⟨h1, h2, h3 | h3 | ⟨h3, h4⟩ | ⟨h3, h4⟩⟩
        · exact .inl (.inl ⟨h3, h2⟩)
        · exact .inr (.inl ⟨h3, h1⟩)
        · exact .inl (.inr ⟨by omega, h4⟩)
        · exact .inr (.inr ⟨by omega, h4⟩)

theorem lineGraph_WF (p : Bool) (d : Nat) : (lineGraph p d).WF := by
  intro e he
  have h : (lineGraph p d).E e.1 e.2 := Or.inl he
  rw [lineGraph_E] at h
  rw [lineGraph_n]; exact ⟨h.1, h.2.1⟩

theorem lineGraph_loopless {p : Bool} {d : Nat} (h : ¬ (p = true ∧ d = 1)) : (lineGraph p d).Loopless := by
  intro e he
  have hE : (lineGraph p d).E e.1 e.2 := Or.inl he
  rw [lineGraph_E] at hE
  obtain ⟨h1, h2, h3⟩ := hE
  unfold LineAdj at h3
  intro heq
  rw [heq] at h3 h1
  rcases h3 with h3 | h3 | ⟨hp, h3⟩
  · omega
  · omega
  · apply h; refine ⟨hp, ?_⟩; omega

theorem cycle_one_loop : (0, 0) ∈ (lineGraph true 1).tedges := by decide +kernel

theorem mem_product_tedges {A B : NxG} {r s : Nat} :
    (r, s) ∈ (cartesianProduct A B).tedges ↔
      (∃ u v x, (u, v) ∈ A.edges ∧ x < B.n ∧ r = u * B.n + x ∧ s = v * B.n + x) ∨
      (∃ x u v, x < A.n ∧ (u, v) ∈ B.edges ∧ r = x * B.n + u ∧ s = x * B.n + v) := by
  simp only [cartesianProduct, List.mem_append, List.mem_flatMap, List.mem_map, List.mem_range, Prod.mk.injEq]
  constructor
  · rintro (⟨⟨u, v⟩, he, x, hx, rfl, rfl⟩ | ⟨x, hx, ⟨u, v⟩, he, rfl, rfl⟩)
    · exact Or.inl ⟨u, v, x, he, hx, rfl, rfl⟩
    · exact Or.inr ⟨x, u, v, hx, he, rfl, rfl⟩
  · rintro (⟨u, v, x, he, hx, rfl, rfl⟩ | ⟨x, u, v, hx, he, rfl, rfl⟩)
    · exact Or.inl ⟨(u, v), he, x, hx, rfl, rfl⟩
    · exact Or.inr ⟨x, hx, (u, v), he, rfl, rfl⟩

theorem product_n (A B : NxG) : (cartesianProduct A B).n = A.n * B.n := rfl

theorem mem_product_tedges_iff {A B : NxG} (hA : A.WF) (hB : B.WF) {r s : Nat} :
    (r, s) ∈ (cartesianProduct A B).tedges ↔ r < A.n * B.n ∧ s < A.n * B.n ∧
      (((r / B.n, s / B.n) ∈ A.edges ∧ r % B.n = s % B.n) ∨ (r / B.n = s / B.n ∧ (r % B.n, s % B.n) ∈ B.edges)) := by
  rw [mem_product_tedges]
  constructor
  · rintro (⟨u, v, x, hm, hx, rfl, rfl⟩ | ⟨x, u, v, hx, hm, rfl, rfl⟩)
    · have hr := hA.of_E (NxG.mem_edges.1 hm).2.2
      rw [mul_add_div_of_lt hx, mul_add_div_of_lt hx, Nat.mul_add_mod_of_lt hx, Nat.mul_add_mod_of_lt hx]
      exact ⟨mul_add_lt hr.1 hx, mul_add_lt hr.2 hx, .inl ⟨hm, rfl⟩⟩
    · have hr := hB.of_E (NxG.mem_edges.1 hm).2.2
      rw [mul_add_div_of_lt hr.1, mul_add_div_of_lt hr.2, Nat.mul_add_mod_of_lt hr.1, Nat.mul_add_mod_of_lt hr.2]
      exact ⟨mul_add_lt hx hr.1, mul_add_lt hx hr.2, .inr ⟨rfl, hm⟩⟩
  · rintro ⟨hr, hs, h⟩
    have hpos : 0 < B.n := Nat.pos_of_ne_zero fun h0 => by rw [h0] at hr; exact absurd hr (Nat.not_lt_zero _)
    rcases h with ⟨h1, h2⟩ | ⟨h1, h2⟩
    · exact .inl ⟨_, _, _, h1, Nat.mod_lt _ hpos, (Nat.div_add_mod' r B.n).symm,
        by rw [h2]; exact (Nat.div_add_mod' s B.n).symm⟩
    · exact .inr ⟨_, _, _, by rw [Nat.mul_comm] at hr; exact Nat.div_lt_of_lt_mul hr, h2,
        (Nat.div_add_mod' r B.n).symm, by rw [h1]; exact (Nat.div_add_mod' s B.n).symm⟩

theorem product_WF {A B : NxG} (hA : A.WF) (hB : B.WF) : (cartesianProduct A B).WF := fun _ he =>
  have h := (mem_product_tedges_iff hA hB).1 he
  ⟨h.1, h.2.1⟩

theorem NxG.E_iff_edges {G : NxG} (h : G.WF) {u v : Nat} : G.E u v ↔ (u, v) ∈ G.edges ∨ (v, u) ∈ G.edges := by
  simp only [NxG.mem_edges]
  constructor
  · intro hE
    rcases Nat.le_total u v with hle | hle
    · exact .inl ⟨(h.of_E hE).1, hle, hE⟩
    · exact .inr ⟨(h.of_E hE).2, hle, NxG.E_comm.1 hE⟩
  · rintro (⟨_, _, hE⟩ | ⟨_, _, hE⟩)
    · exact hE
    · exact NxG.E_comm.1 hE

theorem product_E {A B : NxG} (hA : A.WF) (hB : B.WF) {r s : Nat} :
    (cartesianProduct A B).E r s ↔ r < A.n * B.n ∧ s < A.n * B.n ∧
      ((A.E (r / B.n) (s / B.n) ∧ r % B.n = s % B.n) ∨ (r / B.n = s / B.n ∧ B.E (r % B.n) (s % B.n))) := by
  rw [NxG.E_iff_edges hA, NxG.E_iff_edges hB]
  show (_ ∈ _ ∨ _ ∈ _) ↔ _
  rw [mem_product_tedges_iff hA hB, mem_product_tedges_iff hA hB]
  -- the two orders of a call of the product are the two orders of the call in the component
  constructor
  · rintro (⟨hr, hs, ⟨h1, h2⟩ | ⟨h1, h2⟩⟩ | ⟨hs, hr, ⟨h1, h2⟩ | ⟨h1, h2⟩⟩)
    · exact ⟨hr, hs, .inl ⟨.inl h1, h2⟩⟩
    · exact ⟨hr, hs, .inr ⟨h1, .inl h2⟩⟩
    · exact ⟨hr, hs, .inl ⟨.inr h1, h2.symm⟩⟩
    · exact ⟨hr, hs, .inr ⟨h1.symm, .inr h2⟩⟩
  · rintro ⟨hr, hs, ⟨h1 | h1, h2⟩ | ⟨h1, h2 | h2⟩⟩
    · exact .inl ⟨hr, hs, .inl ⟨h1, h2⟩⟩
    · exact .inr ⟨hs, hr, .inl ⟨h1, h2.symm⟩⟩
    · exact .inl ⟨hr, hs, .inr ⟨h1, h2⟩⟩
    · exact .inr ⟨hs, hr, .inr ⟨h1.symm, h2⟩⟩

theorem product_loopless {A B : NxG} (hA : A.WF) (hB : B.WF) (lA : A.Loopless) (lB : B.Loopless) :
    (cartesianProduct A B).Loopless := by
  rintro ⟨r, s⟩ he heq
  simp only at heq
  subst heq
  have hE : (cartesianProduct A B).E r r := Or.inl he
  rw [product_E hA hB] at hE
  rcases hE.2.2 with ⟨h, _⟩ | ⟨_, h⟩
  · exact lA.of_E h rfl
  · exact lB.of_E h rfl

def prodL : List Nat → Nat
  | [] => 1
  | d :: ds => d * prodL ds

/-- mixed-radix digits of a position, first dimension least significant: the node of
`networkx.grid_graph(dims)` at position `r` of the sorted order is the tuple `(x_k, …, x_1)` with
`coords dims r = [x_1, …, x_k]` -/
def coords : List Nat → Nat → List Nat
  | [], _ => []
  | d :: ds, r => (r % d) :: coords ds (r / d)

theorem length_coords (ds : List Nat) (r : Nat) : (coords ds r).length = ds.length := by
  induction ds generalizing r with
  | nil => rfl
  | cons d ds ih => simp [coords, ih]

theorem prodL_append (xs ys : List Nat) : prodL (xs ++ ys) = prodL xs * prodL ys := by
  induction xs with
  | nil => simp [prodL]
  | cons x xs ih => simp [prodL, ih, Nat.mul_assoc]

theorem prodL_snoc (ds : List Nat) (d : Nat) : prodL (ds ++ [d]) = d * prodL ds := by
  rw [prodL_append]; simp [prodL, Nat.mul_comm]

theorem coords_snoc (ds : List Nat) (d r : Nat) :
    coords (ds ++ [d]) r = coords ds (r % prodL ds) ++ [(r / prodL ds) % d] := by
  induction ds generalizing r with
  | nil => simp [coords, prodL]
  | cons x xs ih =>
    simp only [List.cons_append, coords, prodL, ih]
    rw [Nat.mod_mul_right_mod, Nat.mod_mul_right_div_self, Nat.div_div_eq_div_mul]

theorem coords_inj {ds : List Nat} {r s : Nat} (hr : r < prodL ds) (hs : s < prodL ds)
    (h : coords ds r = coords ds s) : r = s := by
  induction ds generalizing r s with
  | nil => simp [prodL] at hr hs; omega
  | cons d ds ih =>
    simp only [coords, List.cons.injEq] at h
    simp only [prodL] at hr hs
    have h2 := ih (Nat.div_lt_of_lt_mul hr) (Nat.div_lt_of_lt_mul hs) h.2
    have e1 := Nat.div_add_mod r d
    have e2 := Nat.div_add_mod s d
    rw [h2, h.1] at e1
    omega

theorem coords_lt {ds : List Nat} {r : Nat} (hpos : ∀ d ∈ ds, 0 < d) :
    List.Forall₂ (fun x d => x < d) (coords ds r) ds := by
  induction ds generalizing r with
  | nil => exact List.Forall₂.nil
  | cons d ds ih =>
    exact List.Forall₂.cons (Nat.mod_lt _ (hpos d (by simp))) (ih (fun x hx => hpos x (by simp [hx])))

theorem prodL_pos {ds : List Nat} (h : ∀ d ∈ ds, 0 < d) : 0 < prodL ds := by
  induction ds with
  | nil => simp [prodL]
  | cons x xs ih =>
    simp only [prodL]
    exact Nat.mul_pos (h x (by simp)) (ih (fun y hy => h y (by simp [hy])))

/-- coordinate vectors `x`, `y` differ in exactly one coordinate, and there by a step along the
path / cycle of that dimension -/
def GridAdj (p : Bool) : List Nat → List Nat → List Nat → Prop
  | d :: ds, a :: x, b :: y => (LineAdj p d a b ∧ x = y) ∨ (a = b ∧ GridAdj p ds x y)
  | _, _, _ => False

theorem gridAdj_snoc (p : Bool) (ds : List Nat) (d : Nat) (x y : List Nat) (a b : Nat)
    (hx : x.length = ds.length) (hy : y.length = ds.length) :
    GridAdj p (ds ++ [d]) (x ++ [a]) (y ++ [b]) ↔ (GridAdj p ds x y ∧ a = b) ∨ (x = y ∧ LineAdj p d a b) := by
  induction ds generalizing x y with
  | nil =>
    have hx0 : x = [] := List.eq_nil_of_length_eq_zero hx
    have hy0 : y = [] := List.eq_nil_of_length_eq_zero hy
    subst hx0 hy0
    simp [GridAdj]
  | cons e es ih =>
    match x, y, hx, hy with
    | x0 :: xs, y0 :: ys, hx, hy =>
      simp only [List.length_cons, Nat.add_right_cancel_iff] at hx hy
      simp only [List.cons_append, GridAdj, ih xs ys hx hy, List.cons.injEq, List.append_singleton_inj]
      constructor
      · rintro (⟨h1, h2, h3⟩ | ⟨h1, (⟨h2, h3⟩ | ⟨h2, h3⟩)⟩)
        · exact Or.inl ⟨Or.inl ⟨h1, h2⟩, h3⟩
        · exact Or.inl ⟨Or.inr ⟨h1, h2⟩, h3⟩
        · exact Or.inr ⟨⟨h1, h2⟩, h3⟩
      · rintro (⟨(⟨h1, h2⟩ | ⟨h1, h2⟩), h3⟩ | ⟨⟨h1, h2⟩, h3⟩)
        · exact Or.inl ⟨h1, h2, h3⟩
        · exact Or.inr ⟨h1, Or.inl ⟨h2, h3⟩⟩
        · exact Or.inr ⟨h1, Or.inr ⟨h2, h3⟩⟩

theorem gridProduct_single (p : Bool) (d : Nat) : gridProduct p [d] = lineGraph p d := rfl

theorem gridProduct_snoc (p : Bool) {ds : List Nat} (hne : ds ≠ []) (d : Nat) :
    gridProduct p (ds ++ [d]) = cartesianProduct (lineGraph p d) (gridProduct p ds) := by
  match ds, hne with
  | d0 :: rest, _ => simp [gridProduct, List.foldl_append]

/-- `grid_graph(dims, periodic)` before relabelling: `prod dims` nodes; two positions are joined iff
their coordinate vectors are neighbours in the grid / torus -/
theorem gridProduct_spec (p : Bool) : ∀ ds : List Nat, ds ≠ [] →
    (gridProduct p ds).n = prodL ds ∧ (gridProduct p ds).WF ∧
    ∀ r s, (gridProduct p ds).E r s ↔ r < prodL ds ∧ s < prodL ds ∧ GridAdj p ds (coords ds r) (coords ds s) := by
  apply List.reverseRec
  · intro h; exact absurd rfl h
  · intro ds d ih _
    by_cases hne : ds = []
    · subst hne
      simp only [List.nil_append, gridProduct_single, lineGraph_n, prodL, Nat.mul_one]
      refine ⟨trivial, lineGraph_WF p d, ?_⟩
      intro r s
      rw [lineGraph_E]
      constructor
      · rintro ⟨h1, h2, h3⟩
        refine ⟨h1, h2, ?_⟩
        simp only [coords, GridAdj, Nat.mod_eq_of_lt h1, Nat.mod_eq_of_lt h2]
        exact Or.inl ⟨h3, trivial⟩
      · rintro ⟨h1, h2, h3⟩
        refine ⟨h1, h2, ?_⟩
        simp only [coords, GridAdj, Nat.mod_eq_of_lt h1, Nat.mod_eq_of_lt h2] at h3
        rcases h3 with ⟨h3, _⟩ | ⟨_, h3⟩
        · exact h3
        · exact absurd h3 id
    · obtain ⟨hn, hW, hE⟩ := ih hne
      rw [gridProduct_snoc p hne, prodL_snoc]
      refine ⟨by rw [product_n, lineGraph_n, hn], product_WF (lineGraph_WF p d) hW, ?_⟩
      intro r s
      rw [product_E (lineGraph_WF p d) hW, lineGraph_n, hn, lineGraph_E]
      constructor
      · rintro ⟨hr, hs, h⟩
        refine ⟨hr, hs, ?_⟩
        rw [coords_snoc, coords_snoc, gridAdj_snoc p ds d _ _ _ _ (length_coords _ _) (length_coords _ _)]
        rcases h with ⟨⟨h1, h2, h3⟩, h4⟩ | ⟨h1, h2⟩
        · right
          rw [Nat.mod_eq_of_lt h1, Nat.mod_eq_of_lt h2, h4]
          exact ⟨rfl, h3⟩
        · left
          rw [h1]
          exact ⟨((hE _ _).1 h2).2.2, rfl⟩
      · rintro ⟨hr, hs, h⟩
        refine ⟨hr, hs, ?_⟩
        have hP : 0 < prodL ds := by
          rcases Nat.eq_zero_or_pos (prodL ds) with h0 | h0
          · rw [h0] at hr; simp at hr
          · exact h0
        have hrd : r / prodL ds < d := Nat.div_lt_of_lt_mul (by rw [Nat.mul_comm]; exact hr)
        have hsd : s / prodL ds < d := Nat.div_lt_of_lt_mul (by rw [Nat.mul_comm]; exact hs)
        rw [coords_snoc, coords_snoc, gridAdj_snoc p ds d _ _ _ _ (length_coords _ _) (length_coords _ _),
          Nat.mod_eq_of_lt hrd, Nat.mod_eq_of_lt hsd] at h
        rcases h with ⟨h1, h2⟩ | ⟨h1, h2⟩
        · right
          exact ⟨h2, (hE _ _).2 ⟨Nat.mod_lt _ hP, Nat.mod_lt _ hP, h1⟩⟩
        · left
          exact ⟨⟨hrd, hsd, h2⟩, coords_inj (Nat.mod_lt _ hP) (Nat.mod_lt _ hP) h1⟩

theorem gridProduct_loopless (p : Bool) : ∀ ds : List Nat, ds ≠ [] → ¬ (p = true ∧ 1 ∈ ds) →
    (gridProduct p ds).Loopless := by
  apply List.reverseRec
  · intro h; exact absurd rfl h
  · intro ds d ih _ h1
    have hd : ¬ (p = true ∧ d = 1) := fun h => h1 ⟨h.1, by simp [h.2]⟩
    by_cases hne : ds = []
    · subst hne; exact lineGraph_loopless hd
    · rw [gridProduct_snoc p hne]
      exact product_loopless (lineGraph_WF p d) (gridProduct_spec p ds hne).2.1 (lineGraph_loopless hd)
        (ih hne (fun h => h1 ⟨h.1, by simp [h.2]⟩))

theorem gridProduct_loop (ds : List Nat) (h1 : 1 ∈ ds) (hpos : ∀ d ∈ ds, 0 < d) :
    (gridProduct true ds).E 0 0 := by
  have hne : ds ≠ [] := by intro h; rw [h] at h1; cases h1
  revert h1 hpos hne
  induction ds using List.reverseRec with
  | nil => intro h; cases h
  | append_singleton ds d ih =>
    intro h1 hpos _
    by_cases hne : ds = []
    · subst hne
      simp only [List.nil_append, List.mem_singleton] at h1
      subst h1
      exact Or.inl cycle_one_loop
    · have hW := (gridProduct_spec true ds hne).2.1
      have hn := (gridProduct_spec true ds hne).1
      have hP : 0 < prodL ds := prodL_pos (fun x hx => hpos x (by simp [hx]))
      have hd : 0 < d := hpos d (by simp)
      rw [gridProduct_snoc true hne, product_E (lineGraph_WF true d) hW, lineGraph_n, hn]
      refine ⟨Nat.mul_pos hd hP, Nat.mul_pos hd hP, ?_⟩
      simp only [Nat.zero_div, Nat.zero_mod]
      rcases List.mem_append.1 h1 with h | h
      · exact Or.inr ⟨trivial, ih h (fun x hx => hpos x (by simp [hx])) hne⟩
      · simp only [List.mem_singleton] at h
        subst h
        exact Or.inl ⟨Or.inl cycle_one_loop, trivial⟩

theorem product_oriented {A B : NxG} (lA : A.Loopless) (lB : B.Loopless) : (cartesianProduct A B).Oriented := by
  rintro ⟨r, s⟩ he
  rcases mem_product_tedges.1 he with ⟨u, v, x, hm, hx, rfl, rfl⟩ | ⟨x, u, v, hx, hm, rfl, rfl⟩
  · have h := NxG.mem_edges.1 hm
    have hne := lA.of_E h.2.2
    have hlt : u < v := by omega
    have : u * B.n < v * B.n := Nat.mul_lt_mul_of_pos_right hlt (by omega)
    simp only; omega
  · have h := NxG.mem_edges.1 hm
    have hne := lB.of_E h.2.2
    simp only; omega

theorem product_tedges_nodup {A B : NxG} (hB : B.WF) (lA : A.Loopless) :
    (cartesianProduct A B).tedges.Nodup := by
  have hlt : ∀ e ∈ B.edges, e.1 < B.n ∧ e.2 < B.n := fun e he => hB.of_E (NxG.mem_edges'.1 he).2.2
  show List.Nodup (_ ++ _)
  apply List.Nodup.append
  · refine nodup_flatMap_map (NxG.nodup_edges A) (fun _ _ => List.nodup_range) ?_
    intro e _ x hx e' _ x' hx' h
    have h1 := mul_add_inj (List.mem_range.1 hx) (List.mem_range.1 hx') (Prod.mk.inj h).1
    have h2 := mul_add_inj (List.mem_range.1 hx) (List.mem_range.1 hx') (Prod.mk.inj h).2
    exact ⟨Prod.ext h1.1 h2.1, h1.2⟩
  · refine nodup_flatMap_map List.nodup_range (fun _ _ => NxG.nodup_edges B) ?_
    intro x _ e he x' _ e' he' h
    have h1 := mul_add_inj (hlt e he).1 (hlt e' he').1 (Prod.mk.inj h).1
    have h2 := mul_add_inj (hlt e he).2 (hlt e' he').2 (Prod.mk.inj h).2
    exact ⟨h1.1, Prod.ext h1.2 h2.2⟩
  · -- a call of the first loop changes the `A`-component, a call of the second keeps it
    intro z hz1 hz2
    simp only [List.mem_flatMap, List.mem_map, List.mem_range] at hz1 hz2
    obtain ⟨e, he, x, hx, rfl⟩ := hz1
    obtain ⟨y, _, f, hf, h⟩ := hz2
    have h1 := mul_add_inj (hlt f hf).1 hx (Prod.mk.inj h).1
    have h2 := mul_add_inj (hlt f hf).2 hx (Prod.mk.inj h).2
    exact lA.of_E (NxG.mem_edges'.1 he).2.2 (h1.1.symm.trans h2.1)

theorem product_edges_length {A B : NxG} (hA : A.WF) (hB : B.WF) (lA : A.Loopless) (lB : B.Loopless) :
    (cartesianProduct A B).edges.length = A.edges.length * B.n + A.n * B.edges.length := by
  rw [NxG.length_edges (product_WF hA hB) (product_oriented lA lB) (product_tedges_nodup hB lA)]
  simp [cartesianProduct, List.length_flatMap]

/-- number of edges of the path / cycle on `d` nodes (the cycle on 2 nodes is one edge) -/
def lineEdges (p : Bool) (d : Nat) : Nat := if p = true ∧ 3 ≤ d then d else d - 1

/-- `Σ_i lineEdges d_i · Π_{j≠i} d_j` -/
def gridEdgeCount (p : Bool) : List Nat → Nat
  | [] => 0
  | d :: ds => lineEdges p d * prodL ds + d * gridEdgeCount p ds

theorem gridEdgeCount_snoc (p : Bool) (ds : List Nat) (d : Nat) :
    gridEdgeCount p (ds ++ [d]) = lineEdges p d * prodL ds + d * gridEdgeCount p ds := by
  induction ds with
  | nil => simp [gridEdgeCount, prodL]
  | cons x xs ih =>
    simp only [List.cons_append, gridEdgeCount, ih, prodL, prodL_snoc]
    ring

theorem nodup_pathPairs (d : Nat) : (pathPairs d).Nodup := by
  apply List.nodup_range.map
  intro a b h
  simp only [Prod.mk.injEq] at h
  exact h.1

theorem pathPairs_lt {d : Nat} {e : Nat × Nat} (he : e ∈ pathPairs d) : e.1 < e.2 ∧ e.2 < d := by
  obtain ⟨a, b⟩ := e
  have := mem_pathPairs.1 he
  exact ⟨by omega, this.2⟩

theorem lineGraph_edges_length {p : Bool} {d : Nat} (h : ¬ (p = true ∧ d = 1)) :
    (lineGraph p d).edges.length = lineEdges p d := by
  by_cases hp : p = true ∧ 3 ≤ d
  · -- the cycle on at least three nodes: only the closing call `(d - 1, 0)` is made as (larger, smaller)
    obtain ⟨rfl, hd⟩ := hp
    have hG : lineGraph true d = ⟨d, pathPairs d ++ [(d - 1, 0)]⟩ := by
      simp only [lineGraph, cycleGraph, if_true, if_neg (show d ≠ 0 by omega)]
    have hn : (pathPairs d ++ [(d - 1, 0)]).map NxG.norm = pathPairs d ++ [(0, d - 1)] := by
      rw [List.map_append, NxG.map_norm_of_oriented fun e he => (pathPairs_lt he).1]
      show _ ++ [(min (d - 1) 0, max (d - 1) 0)] = _
      rw [Nat.min_zero, Nat.max_zero]
    have hN : ((pathPairs d ++ [(d - 1, 0)]).map NxG.norm).Nodup := by
      rw [hn]
      apply List.Nodup.append (nodup_pathPairs d) (by simp)
      intro z hz1 hz2
      rw [List.mem_singleton.1 hz2] at hz1
      have := mem_pathPairs.1 hz1
      omega
    rw [hG, NxG.length_edges_of_norm (hG ▸ lineGraph_WF true d) hN]
    simp [lineEdges, hd, pathPairs]; omega
  · have hle : lineEdges p d = d - 1 := by simp [lineEdges, hp]
    rw [hle]
    by_cases hp2 : p = true
    · subst hp2
      have hd : d = 0 ∨ d = 2 := by
        have : ¬ 3 ≤ d := fun h3 => hp ⟨rfl, h3⟩
        have : d ≠ 1 := fun h1 => h ⟨rfl, h1⟩
        omega
      rcases hd with rfl | rfl <;> decide +kernel
    · have hpf : p = false := by cases p <;> simp_all
      subst hpf
      have hG : lineGraph false d = ⟨d, pathPairs d⟩ := rfl
      rw [hG, NxG.length_edges]
      · simp [pathPairs]
      · exact fun e he => ⟨(pathPairs_lt he).1.trans (pathPairs_lt he).2, (pathPairs_lt he).2⟩
      · exact fun e he => (pathPairs_lt he).1
      · exact nodup_pathPairs d

theorem gridSimple_of_product (p : Bool) (ds : List Nat) (hne : ds ≠ []) (h1 : ¬ (p = true ∧ 1 ∈ ds)) :
    ∃ S, gridSimple ds p = .ok S ∧ S.n = prodL ds ∧ SimpleG.Inv S ∧
      (∀ u v, (u, v) ∈ S.edgeset ↔ 1 ≤ u ∧ 1 ≤ v ∧ (gridProduct p ds).E (u - 1) (v - 1)) ∧
      S.m = (gridProduct p ds).edges.length := by
  obtain ⟨hn, hW, _⟩ := gridProduct_spec p ds hne
  have hL := gridProduct_loopless p ds hne h1
  obtain ⟨S, s1, s2, s3, s4, s5⟩ :=
    fromNetworkx_spec (G := gridGraph ds p) (NxG.relabelCopy_WF hW) (NxG.relabelCopy_oriented hL).loopless
  exact ⟨S, s1, s2.trans hn, s3, fun u v => (s4 u v).trans (by rw [gridGraph, NxG.relabelCopy_E hW]),
    s5.trans (NxG.length_edges_relabelCopy hW hL)⟩

theorem gridProduct_edges_length (p : Bool) : ∀ ds : List Nat, ds ≠ [] → ¬ (p = true ∧ 1 ∈ ds) →
    (gridProduct p ds).edges.length = gridEdgeCount p ds := by
  apply List.reverseRec
  · intro h; exact absurd rfl h
  · intro ds d ih _ h1
    have hd : ¬ (p = true ∧ d = 1) := fun h => h1 ⟨h.1, by simp [h.2]⟩
    rw [gridEdgeCount_snoc]
    by_cases hne : ds = []
    · subst hne
      simp [gridProduct_single, lineGraph_edges_length hd, gridEdgeCount, prodL]
    · have h1' : ¬ (p = true ∧ 1 ∈ ds) := fun h => h1 ⟨h.1, by simp [h.2]⟩
      obtain ⟨hn, hW, _⟩ := gridProduct_spec p ds hne
      rw [gridProduct_snoc p hne, product_edges_length (lineGraph_WF p d) hW (lineGraph_loopless hd)
        (gridProduct_loopless p ds hne h1'), lineGraph_edges_length hd, hn, lineGraph_n, ih hne h1']

theorem product_deg {A B : NxG} (hA : A.WF) (hB : B.WF) (lA : A.Loopless) {r : Nat} (hr : r < A.n * B.n) :
    (cartesianProduct A B).deg r = A.deg (r / B.n) + B.deg (r % B.n) := by
  have hpos : 0 < B.n := by
    rcases Nat.eq_zero_or_pos B.n with h0 | h0
    · rw [h0] at hr; simp at hr
    · exact h0
  have hg : r % B.n < B.n := Nat.mod_lt _ hpos
  unfold NxG.deg
  rw [← List.length_map (f := fun a' => a' * B.n + r % B.n) (as := A.nbrList (r / B.n)),
    ← List.length_map (f := fun g' => r / B.n * B.n + g') (as := B.nbrList (r % B.n)), ← List.length_append]
  apply List.Perm.length_eq
  rw [List.perm_ext_iff_of_nodup (NxG.nodup_nbrList _ _)]
  · intro s
    rw [NxG.mem_nbrList, product_E hA hB, product_n]
    simp only [List.mem_append, List.mem_map, NxG.mem_nbrList]
    constructor
    · rintro ⟨hs, _, _, h⟩
      rcases h with ⟨h1, h2⟩ | ⟨h1, h2⟩
      · left
        refine ⟨s / B.n, ⟨(hA.of_E h1).2, h1⟩, ?_⟩
        rw [h2]; exact Nat.div_add_mod' s B.n
      · right
        refine ⟨s % B.n, ⟨Nat.mod_lt _ hpos, h2⟩, ?_⟩
        rw [h1]; exact Nat.div_add_mod' s B.n
    · rintro (⟨a', ⟨ha', hE⟩, rfl⟩ | ⟨g', ⟨hg', hE⟩, rfl⟩)
      · have hlt := mul_add_lt ha' hg
        refine ⟨hlt, hr, hlt, Or.inl ?_⟩
        rw [mul_add_div_of_lt hg, Nat.mul_add_mod_of_lt hg]
        exact ⟨hE, rfl⟩
      · have hlt : r / B.n * B.n + g' < A.n * B.n :=
          mul_add_lt (Nat.div_lt_of_lt_mul (by rw [Nat.mul_comm]; exact hr)) hg'
        refine ⟨hlt, hr, hlt, Or.inr ?_⟩
        rw [mul_add_div_of_lt hg', Nat.mul_add_mod_of_lt hg']
        exact ⟨rfl, hE⟩
  · apply List.Nodup.append
    · exact (NxG.nodup_nbrList _ _).map fun x y h => (mul_add_inj hg hg h).1
    · apply (NxG.nodup_nbrList _ _).map
      intro x y h
      simp only at h
      omega
    · intro z hz1 hz2
      simp only [List.mem_map, NxG.mem_nbrList] at hz1 hz2
      obtain ⟨a', ⟨_, hE⟩, rfl⟩ := hz1
      obtain ⟨g', ⟨hg', _⟩, h⟩ := hz2
      exact lA.of_E hE (mul_add_inj hg' hg h).1

theorem cycle_deg {d a : Nat} (hd : 3 ≤ d) (ha : a < d) : (lineGraph true d).deg a = 2 := by
  -- the two neighbours, by the position of `a` on the cycle
  obtain ⟨x, y, hxy, hmem⟩ : ∃ x y, x ≠ y ∧ ∀ s, (s < d ∧ LineAdj true d a s) ↔ s = x ∨ s = y := by
    simp only [LineAdj, true_and]
    by_cases h0 : a = 0
    · subst h0; exact ⟨1, d - 1, by omega, fun s => by omega⟩
    by_cases h1 : a + 1 = d
    · subst h1; exact ⟨0, a - 1, by omega, fun s => by omega⟩
    · exact ⟨a + 1, a - 1, by omega, fun s => by omega⟩
  have : ((lineGraph true d).nbrList a).Perm [x, y] := by
    rw [List.perm_ext_iff_of_nodup (NxG.nodup_nbrList _ _) (by simp [hxy])]
    intro s
    rw [NxG.mem_nbrList, lineGraph_n, lineGraph_E, and_iff_right ha, and_self_left, hmem]
    simp only [List.mem_cons, List.not_mem_nil, or_false]
  unfold NxG.deg
  rw [this.length_eq]; rfl

theorem torus_deg : ∀ ds : List Nat, ds ≠ [] → (∀ d ∈ ds, 3 ≤ d) → ∀ r, r < prodL ds →
    (gridProduct true ds).deg r = 2 * ds.length := by
  apply List.reverseRec
  · intro h; exact absurd rfl h
  · intro ds d ih _ h3 r hr
    have hd : 3 ≤ d := h3 d (by simp)
    rw [prodL_snoc] at hr
    by_cases hne : ds = []
    · subst hne
      simp only [prodL, Nat.mul_one] at hr
      simp [gridProduct_single, cycle_deg hd hr]
    · have h3' : ∀ x ∈ ds, 3 ≤ x := fun x hx => h3 x (by simp [hx])
      obtain ⟨hn, hW, _⟩ := gridProduct_spec true ds hne
      have hP : 0 < prodL ds := prodL_pos (fun x hx => by have := h3' x hx; omega)
      rw [gridProduct_snoc true hne, product_deg (lineGraph_WF true d) hW
        (lineGraph_loopless (by omega)) (by rw [lineGraph_n, hn]; exact hr), hn,
        cycle_deg hd (Nat.div_lt_of_lt_mul (by rw [Nat.mul_comm]; exact hr)), ih hne h3' _ (Nat.mod_lt _ hP)]
      simp only [List.length_append, List.length_singleton]
      omega

theorem coords_getD (ds : List Nat) (r i : Nat) (hi : i < ds.length) :
    (coords ds r).getD i 0 = r / prodL (ds.take i) % ds.getD i 0 := by
  induction ds generalizing r i with
  | nil => simp at hi
  | cons d ds ih =>
    cases i with
    | zero => simp [coords, prodL]
    | succ j =>
      have hj : j < ds.length := by simpa using hi
      simp only [coords, List.getD_cons_succ, List.take_succ_cons, prodL, ih (r / d) j hj, Nat.div_div_eq_div_mul]

theorem gridAdj_iff_index (p : Bool) : ∀ (ds x y : List Nat), x.length = ds.length → y.length = ds.length →
    (GridAdj p ds x y ↔ ∃ i, i < ds.length ∧ LineAdj p (ds.getD i 0) (x.getD i 0) (y.getD i 0) ∧
      ∀ j, j < ds.length → j ≠ i → x.getD j 0 = y.getD j 0) := by
  intro ds
  induction ds with
  | nil => intro x y _ _; simp [GridAdj]
  | cons d ds ih =>
    intro x y hx hy
    match x, y, hx, hy with
    | a :: x, b :: y, hx, hy =>
      simp only [List.length_cons, Nat.add_right_cancel_iff] at hx hy
      simp only [GridAdj]
      constructor
      · rintro (⟨h1, rfl⟩ | ⟨rfl, h2⟩)
        · refine ⟨0, Nat.succ_pos _, h1, fun j _ hj => ?_⟩
          cases j with
          | zero => exact absurd rfl hj
          | succ k => rfl
        · obtain ⟨i, hi, h3, h4⟩ := (ih x y hx hy).1 h2
          refine ⟨i + 1, Nat.succ_lt_succ hi, h3, fun j hj hne => ?_⟩
          cases j with
          | zero => rfl
          | succ k => exact h4 k (Nat.lt_of_succ_lt_succ hj) (by omega)
      · rintro ⟨i, hi, h3, h4⟩
        cases i with
        | zero =>
          refine .inl ⟨h3, List.ext_getElem (hx.trans hy.symm) fun k hk1 hk2 => ?_⟩
          have := h4 (k + 1) (Nat.succ_lt_succ (hx ▸ hk1)) (by omega)
          simpa [List.getD_eq_getElem?_getD, hk1, hk2] using this
        | succ k =>
          refine .inr ⟨h4 0 (Nat.succ_pos _) (by omega),
            (ih x y hx hy).2 ⟨k, Nat.lt_of_succ_lt_succ hi, h3, fun j hj hne => ?_⟩⟩
          exact h4 (j + 1) (Nat.succ_lt_succ hj) (by omega)

end Cnfgen.Nx
