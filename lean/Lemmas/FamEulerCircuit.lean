/-
Euler's theorem for the graphs of cnfgen, used for the converse of the even-colouring criterion
(`Props/C02/EvenColoringSat.lean`): the graph as a Mathlib `SimpleGraph` on `ℕ`, so that the `Walk` / `IsTrail` API
applies, and — if every vertex has even degree — the edges of the component of `r` form a closed trail.
-/
import Lemmas.FamComponents
import Mathlib.Combinatorics.SimpleGraph.Trails
namespace Cnfgen
namespace Fam

variable {G : SimpleG}

/-- the graph as a Mathlib `SimpleGraph` on `ℕ`: `a ~ b` iff `b` is listed as a neighbour of the
vertex `a ≤ n` or vice versa (for a `GoodGraph` the two are equivalent) -/
def toSG (G : SimpleG) : SimpleGraph ℕ :=
  SimpleGraph.fromRel (fun a b => a ≤ G.n ∧ b ∈ G.nbrs a)

theorem toSG_adj (hG : GoodGraph G) {a b : ℕ} : (toSG G).Adj a b ↔ a ≤ G.n ∧ b ∈ G.nbrs a := by
  unfold toSG
  rw [SimpleGraph.fromRel_adj]
  constructor
  · rintro ⟨_, h | h⟩
    · exact h
    · exact ⟨(hG.mem h.1 h.2).2.1, hG.symm h.1 h.2⟩
  · intro h
    exact ⟨fun e => (hG.mem h.1 h.2).2.2.1 e.symm, Or.inl h⟩

theorem toSG_adj_iff_step (hG : GoodGraph G) {a b : ℕ} : (toSG G).Adj a b ↔ Step G a b :=
  toSG_adj hG

theorem reach_of_walk (hG : GoodGraph G) {u v : ℕ} (p : (toSG G).Walk u v) : Reach G u v := by
  induction p with
  | nil => exact reach_refl _
  | cons h p ih =>
    have h1 := (toSG_adj hG).1 h
    exact reach_trans (reach_adj h1.1 h1.2) ih

theorem reach_of_mem_support (hG : GoodGraph G) {u v x : ℕ} (p : (toSG G).Walk u v)
    (hx : x ∈ p.support) : Reach G u x :=
  reach_of_walk hG (p.takeUntil x hx)

theorem trail_length_le (hG : GoodGraph G) {u v : ℕ} (p : (toSG G).Walk u v) (hp : p.IsTrail) :
    p.length ≤ (G.n + 1) * (G.n + 1) := by
  classical
  rw [← SimpleGraph.Walk.length_edges, ← List.toFinset_card_of_nodup hp.edges_nodup]
  have hsub : p.edges.toFinset ⊆
      ((Finset.range (G.n + 1)) ×ˢ (Finset.range (G.n + 1))).image (fun q => s(q.1, q.2)) := by
    intro e he
    rw [List.mem_toFinset] at he
    have hE := p.edges_subset_edgeSet he
    induction e using Sym2.ind with
    | _ a b =>
      rw [SimpleGraph.mem_edgeSet] at hE
      have h1 := (toSG_adj hG).1 hE
      have h2 := hG.mem h1.1 h1.2
      simp only [Finset.mem_image, Finset.mem_product, Finset.mem_range, Prod.exists]
      exact ⟨a, b, ⟨by omega, by omega⟩, rfl⟩
  calc _ ≤ _ := Finset.card_le_card hsub
    _ ≤ _ := Finset.card_image_le
    _ = _ := by simp

theorem trail_edges_perm (hG : GoodGraph G) {u v : ℕ} (p : (toSG G).Walk u v) (ht : p.IsTrail)
    {x : ℕ} (hx : x ≤ G.n) (hcov : ∀ w ∈ G.nbrs x, s(x, w) ∈ p.edges) :
    (p.edges.filter (fun e => decide (x ∈ e))).Perm ((G.nbrs x).map (fun w => s(x, w))) := by
  apply (List.perm_ext_iff_of_nodup (ht.edges_nodup.filter _) _).2
  · intro e
    simp only [List.mem_filter, decide_eq_true_eq, List.mem_map]
    constructor
    · rintro ⟨he, hxe⟩
      obtain ⟨w, rfl⟩ := Sym2.mem_iff_exists.1 hxe
      exact ⟨w, ((toSG_adj hG).1 (p.adj_of_mem_edges he)).2, rfl⟩
    · rintro ⟨w, hw, rfl⟩
      exact ⟨hcov w hw, Sym2.mem_mk_left x w⟩
  · exact (hG.nodup hx).map (fun a b h => Sym2.congr_right.1 h)

theorem isTrail_concat {u v w : ℕ} (p : (toSG G).Walk u v) (hp : p.IsTrail)
    (h : (toSG G).Adj v w) (hn : s(v, w) ∉ p.edges) : (p.concat h).IsTrail := by
  rw [SimpleGraph.Walk.isTrail_def, SimpleGraph.Walk.edges_concat, List.nodup_concat]
  exact ⟨hn, hp.edges_nodup⟩

theorem longest_trail_closed (hG : GoodGraph G)
    (hdeg : ∀ v, 1 ≤ v → v ≤ G.n → (G.nbrs v).length % 2 = 0)
    {u v : ℕ} (p : (toSG G).Walk u v) (hp : p.IsTrail) (hu : 1 ≤ u ∧ u ≤ G.n)
    (hmax : ∀ v' (q : (toSG G).Walk u v'), q.IsTrail → q.length ≤ p.length) : u = v := by
  by_contra hne
  have hv := reach_range hG hu (reach_of_walk hG p)
  have hodd : ¬ Even (p.edges.countP fun e => v ∈ e) := by
    rw [hp.even_countP_edges_iff v]
    intro h
    exact (h hne).2 rfl
  by_cases hall : ∀ w ∈ G.nbrs v, s(v, w) ∈ p.edges
  · apply hodd
    rw [List.countP_eq_length_filter, (trail_edges_perm hG p hp hv.2 hall).length_eq, List.length_map]
    exact Nat.even_iff.2 (hdeg v hv.1 hv.2)
  · push Not at hall
    obtain ⟨w, hw, hnot⟩ := hall
    have hadj : (toSG G).Adj v w := (toSG_adj hG).2 ⟨hv.2, hw⟩
    have := hmax w (p.concat hadj) (isTrail_concat p hp hadj hnot)
    rw [SimpleGraph.Walk.length_concat] at this
    omega

theorem closed_walk_cover (hG : GoodGraph G) {u : ℕ} (p : (toSG G).Walk u u) {a : ℕ} (h : Reach G u a) :
    a ∈ p.support ∨ ∃ x ∈ p.support, ∃ y, (toSG G).Adj x y ∧ s(x, y) ∉ p.edges := by
  induction h with
  | refl => exact Or.inl p.start_mem_support
  | @tail b c _ hstep ih =>
    rcases ih with hb | hex
    · by_cases hin : s(b, c) ∈ p.edges
      · exact Or.inl (p.snd_mem_support_of_mem_edges hin)
      · exact Or.inr ⟨b, hb, c, (toSG_adj hG).2 hstep, hin⟩
    · exact Or.inr hex

theorem exists_longest_trail (hG : GoodGraph G) {r : ℕ} :
    ∃ (u v : ℕ) (p : (toSG G).Walk u v), Reach G r u ∧ p.IsTrail ∧
      ∀ (u' v' : ℕ) (q : (toSG G).Walk u' v'), Reach G r u' → q.IsTrail → q.length ≤ p.length := by
  classical
  let P : ℕ → Prop := fun k => ∃ (u v : ℕ) (p : (toSG G).Walk u v),
    Reach G r u ∧ p.IsTrail ∧ p.length = k
  have h0 : P 0 := ⟨r, r, SimpleGraph.Walk.nil, reach_refl r, SimpleGraph.Walk.IsTrail.nil, rfl⟩
  have hspec : P (Nat.findGreatest P ((G.n + 1) * (G.n + 1))) :=
    Nat.findGreatest_spec (Nat.zero_le _) h0
  obtain ⟨u, v, p, hru, hp, hlen⟩ := hspec
  refine ⟨u, v, p, hru, hp, ?_⟩
  intro u' v' q hru' hq
  by_contra hlt
  push Not at hlt
  rw [hlen] at hlt
  exact Nat.findGreatest_is_greatest hlt (trail_length_le hG q hq) ⟨u', v', q, hru', hq, rfl⟩

/-- Euler's theorem, by a longest trail among those that start in the component of `r`: it is closed (`longest_trail_closed`:
at an open end the parity leaves an unused edge to go on with), and it misses no edge of the component (else rotate
it to a vertex with an unused edge and go on along that edge). -/
theorem exists_euler_circuit (hG : GoodGraph G)
    (hdeg : ∀ v, 1 ≤ v → v ≤ G.n → (G.nbrs v).length % 2 = 0)
    {r : ℕ} (hr : 1 ≤ r ∧ r ≤ G.n) :
    ∃ (u : ℕ) (p : (toSG G).Walk u u), Reach G r u ∧ p.IsTrail ∧
      ∀ a b, Reach G r a → b ∈ G.nbrs a → s(a, b) ∈ p.edges := by
  obtain ⟨u, v, p, hru, hp, hmax⟩ := exists_longest_trail hG (r := r)
  have hu := reach_range hG hr hru
  have huv : u = v := longest_trail_closed hG hdeg p hp hu (fun v' q hq => hmax u v' q hru hq)
  subst huv
  refine ⟨u, p, hru, hp, ?_⟩
  intro a b hra hb
  by_contra hnot
  have ha := reach_range hG hr hra
  have hua : Reach G u a := reach_trans (reach_symm hG hru) hra
  have hex : ∃ x ∈ p.support, ∃ y, (toSG G).Adj x y ∧ s(x, y) ∉ p.edges := by
    rcases closed_walk_cover hG p hua with hs | hex
    · exact ⟨a, hs, b, (toSG_adj hG).2 ⟨ha.2, hb⟩, hnot⟩
    · exact hex
  obtain ⟨x, hx, y, hxy, hn⟩ := hex
  have hrx : Reach G r x := reach_trans hru (reach_of_mem_support hG p hx)
  have hrot : (p.rotate x hx).IsTrail := (SimpleGraph.Walk.isTrail_rotate hx).2 hp
  have hn' : s(x, y) ∉ (p.rotate x hx).edges := by
    rw [(p.rotate_edges x hx).mem_iff]; exact hn
  have := hmax x y ((p.rotate x hx).concat hxy) hrx (isTrail_concat _ hrot hxy hn')
  rw [SimpleGraph.Walk.length_concat, SimpleGraph.Walk.length_rotate] at this
  omega

end Fam
end Cnfgen
