/-
Binary mappings (`new_binary_mapping`): identifiers, the number an element spells, the `forbid(i, j)` clause, the two
constraint groups `force_complete_mapping` / `force_injective_mapping`, bit length.  Serves BinaryPigeonholePrinciple
(Props/C01/Bphp.lean) and BinaryCliqueFormula (Lemmas/FamBinary.lean).
-/
import Lemmas.C01Basic
import CnfgenModel.Fam.Php
import Batteries.Data.Nat.Lemmas
import Lemmas.VarsBinary
import Lemmas.FamMapping
namespace Cnfgen.Fam
open Cnfgen

/-- the hole (0-based) whose binary name is spelled by the variables `v(i, bits-1) … v(i, 0)` -/
def bval (α : Assign) (start bits i : Nat) : Nat :=
  Nat.ofBits (fun b : Fin bits => α (Vars.binId start bits i b))

theorem bval_lt (α : Assign) (start bits i : Nat) : bval α start bits i < 2 ^ bits :=
  Nat.ofBits_lt_two_pow _

theorem binId_le {bits i b m : Nat} (hi : 1 ≤ i) (him : i ≤ m) (hb : b < bits) :
    1 ≤ Vars.binId 1 bits i b ∧ Vars.binId 1 bits i b ≤ m * bits := by
  have := Vars.binId_range (Nat.le_refl 1) ⟨hi, him⟩ hb
  omega

theorem binId_surj {m bits x : Nat} (h1 : 1 ≤ x) (h2 : x ≤ m * bits) :
    ∃ i b, 1 ≤ i ∧ i ≤ m ∧ b < bits ∧ x = Vars.binId 1 bits i b := by
  have hbits : 0 < bits := Nat.pos_of_ne_zero fun h => by subst h; omega
  have hm := Nat.mod_lt (x - 1) hbits
  have hd : (x - 1) / bits < m := by rw [Nat.div_lt_iff_lt_mul hbits]; omega
  refine ⟨(x - 1) / bits + 1, bits - 1 - (x - 1) % bits, Nat.le_add_left 1 _, hd, by omega, ?_⟩
  have := Nat.div_add_mod (x - 1) bits
  rw [Vars.binId, Nat.add_mul, Nat.one_mul, Nat.mul_comm]
  omega

/-- `Vars.binVal` is the sum of powers of two that `Lemmas/VarsBinary.lean` reasons about -/
theorem bval_eq_binVal (α : Assign) (start bits i : Nat) : bval α start bits i = Vars.binVal α start bits i :=
  (Vars.bitSum_eq_ofBits (fun b => α (Vars.binId start bits i b)) bits).symm

theorem forbid_true_iff (α : Assign) {start bits i j : Nat} (hs : 1 ≤ start) (hi : 1 ≤ i)
    (hj : j < 2 ^ bits) :
    clauseHolds α (forbidLits start bits i j) = true ↔ bval α start bits i ≠ j := by
  rw [forbidLits, Vars.forbid_zipWith, Ne, bval_eq_binVal, ← Vars.forbidClause_spec α hs hi hj, Bool.not_eq_false]

theorem forbidLits_in {bits i j m : Nat} (hi : 1 ≤ i) (him : i ≤ m) :
    ∀ l ∈ forbidLits 1 bits i j, l ≠ 0 ∧ 1 ≤ l.natAbs ∧ l.natAbs ≤ m * bits := by
  rw [forbidLits, Vars.forbid_zipWith]
  exact Nat.add_sub_cancel_left 1 (m * bits) ▸ Vars.forbidClause_in (Nat.le_refl 1) ⟨hi, him⟩

theorem forbid2_holds (α : Assign) {start bits i i' j j' : Nat} (hs : 1 ≤ start) (hi : 1 ≤ i) (hi' : 1 ≤ i')
    (hj : j < 2 ^ bits) (hj' : j' < 2 ^ bits) :
    Con.holds α (.clause (forbidLits start bits i j ++ forbidLits start bits i' j')) = true ↔
      ¬ (bval α start bits i = j ∧ bval α start bits i' = j') := by
  simp only [Con.holds, clauseHolds_append, Bool.or_eq_true, forbid_true_iff α hs hi hj, forbid_true_iff α hs hi' hj']
  exact not_and_or.symm

/-! ### the two constraint groups of a binary mapping
`G2.forbidC` is `forbidLits`, by unfolding. -/

/-- `force_complete_mapping`: the numbers `N … 2^bits - 1` are forbidden, so every element spells a number below `N` -/
theorem binComplete_holds (α : Assign) {start : Nat} (hs : 1 ≤ start) (bits k N : Nat) :
    (∀ c ∈ G2.binComplete start bits k N, Con.holds α c = true) ↔
      ∀ i, 1 ≤ i → i ≤ k → bval α start bits i < N := by
  simp only [G2.binComplete, List.forall_mem_flatMap, List.forall_mem_map, G2.mem_verts, mem_rangeN, and_imp, Con.holds]
  refine forall₃_congr fun i h1 _ => ⟨fun h => Nat.lt_of_not_le fun hge => ?_, fun h j _ hj => ?_⟩
  · have hlt := bval_lt α start bits i
    exact (forbid_true_iff α hs h1 hlt).1 (h _ hge hlt) rfl
  · exact (forbid_true_iff α hs h1 hj).2 (by omega)

theorem binInjective_holds (α : Assign) {start bits N : Nat} (hs : 1 ≤ start) (hN : N ≤ 2 ^ bits) (k : Nat) :
    (∀ c ∈ G2.binInjective start bits k N, Con.holds α c = true) ↔
      ∀ y, y < N → ∀ i i', 1 ≤ i → i < i' → i' ≤ k → ¬ (bval α start bits i = y ∧ bval α start bits i' = y) := by
  simp only [G2.binInjective, List.forall_mem_flatMap, List.forall_mem_map, List.mem_range, Prod.forall,
    G2.mem_pairs2_verts, and_imp]
  exact forall₂_congr fun y hy => forall₂_congr fun i i' => forall₃_congr fun h1 hlt _ =>
    forbid2_holds α hs h1 (by omega) (by omega) (by omega)

theorem binComplete_in (bits k N : Nat) : G2.ConsIn 1 (k * bits) (G2.binComplete 1 bits k N) :=
  .flatMap fun _ hi => .map fun _ _ => forbidLits_in (G2.mem_verts.1 hi).1 (G2.mem_verts.1 hi).2

theorem forbid2_in {bits k i i' j j' : Nat} (h1 : 1 ≤ i) (h2 : i ≤ k) (h1' : 1 ≤ i') (h2' : i' ≤ k) :
    ∀ l ∈ (Con.clause (forbidLits 1 bits i j ++ forbidLits 1 bits i' j')).lits,
      l ≠ 0 ∧ 1 ≤ l.natAbs ∧ l.natAbs ≤ k * bits := fun l hl =>
  (List.mem_append.1 hl).elim (forbidLits_in h1 h2 l) (forbidLits_in h1' h2' l)

theorem binInjective_in (bits k N : Nat) : G2.ConsIn 1 (k * bits) (G2.binInjective 1 bits k N) :=
  .flatMap fun _ _ => .map fun x hx =>
    have h := G2.mem_pairs2_verts.1 hx
    forbid2_in h.1 (by omega) (by omega) h.2.2

theorem le_two_pow_clog2 (n : Nat) : n ≤ 2 ^ Vars.clog2 n := (Vars.clog2_spec n).1

theorem clog2_min (n b : Nat) (hb : b < Vars.clog2 n) : 2 ^ b < n := by
  apply Nat.lt_of_not_le
  intro h
  have := (Vars.clog2_spec n).2 b h
  omega

/-- the assignment under which pigeon `i` spells the number `g i` -/
def binAssignOf (k : Nat) (g : Nat → Nat) : Assign :=
  fun x => Nat.testBit (g ((x - 1) / k + 1)) (k - 1 - (x - 1) % k)

theorem binAssignOf_binId {k i b : Nat} (g : Nat → Nat) (hi : 1 ≤ i) (hb : b < k) :
    binAssignOf k g (Vars.binId 1 k i b) = (g i).testBit b := by
  have hx : Vars.binId 1 k i b - 1 = (k - 1 - b) + (i - 1) * k := by
    rw [Vars.binId_eq (Nat.le_refl 1) hi hb]; omega
  have hlt : k - 1 - b < k := by omega
  simp only [binAssignOf, hx, Nat.add_mul_div_right _ _ (Nat.zero_lt_of_lt hb), Nat.add_mul_mod_self_right,
    Nat.div_eq_of_lt hlt, Nat.mod_eq_of_lt hlt, Nat.zero_add, Nat.sub_add_cancel hi]
  congr 1
  omega

theorem bval_binAssignOf {k i : Nat} (g : Nat → Nat) (hi : 1 ≤ i) (hlt : g i < 2 ^ k) :
    bval (binAssignOf k g) 1 k i = g i := by
  have : (fun b : Fin k => binAssignOf k g (Vars.binId 1 k i b)) = fun b : Fin k => (g i).testBit b := by
    funext b; exact binAssignOf_binId g hi b.isLt
  simp only [bval, this, Nat.ofBits_testBit, Nat.mod_eq_of_lt hlt]

theorem bval_inj (α β : Assign) (start bits i : Nat) (h : bval α start bits i = bval β start bits i)
    (b : Nat) (hb : b < bits) : α (Vars.binId start bits i b) = β (Vars.binId start bits i b) := by
  have := congrArg (fun x => Nat.testBit x b) h
  simpa only [bval, Nat.testBit_ofBits_lt _ b hb] using this

end Cnfgen.Fam
