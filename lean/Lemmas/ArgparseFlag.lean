/-
An ungrouped flag put in front of ANY command line (abbreviations, `=`, clusters, `--`, unknown options, `-h` …) changes
nothing but its own binding (`engine_flag_cons`, `flagX_noninterference`): the engine never reads the bindings
while parsing, so a binding placed under all the others stays there (the `_frame` lemmas).
-/
import CnfgenModel.Cli.Argparse
import CnfgenModel.Cli.DispatchChecks
import Lemmas.DispatchFlag
import Lemmas.ArgparseTokens
namespace Cnfgen.Cli.AP
open Cnfgen.Gen Cnfgen.Cli

/-- a binding placed under all the others -/
def pushB (x : String × Val) (st : PState) : PState := { st with ns := st.ns ++ [x] }

section frame
variable (bind : Bind) (x : String × Val)

theorem takeAction_frame (o : OptSpec) (toks : List String) (st : PState) :
    takeAction bind o toks (pushB x st) = Except.map (pushB x) (takeAction bind o toks st) := by
  unfold takeAction pushB
  dsimp only
  split
  · rfl
  · cases bind o toks with
    | error e => rfl
    | ok b => simp [Except.map]

theorem applyPosX_frame : ∀ (ps : List OptSpec) (sls : List (List String)) (i : Nat) (ddg : Option Nat)
    (st : PState), applyPosX bind ps sls i ddg (pushB x st) = Except.map (pushB x) (applyPosX bind ps sls i ddg st) := by
  intro ps
  induction ps with
  | nil => intro sls i ddg st; simp [applyPosX, Except.map]
  | cons o os ih =>
    intro sls i ddg st
    cases sls with
    | nil => simp [applyPosX, Except.map]
    | cons sl sls =>
      simp only [applyPosX]
      rw [takeAction_frame]
      cases takeAction bind o (if ddg == some i then sl else sl.erase "--") st with
      | error e => rfl
      | ok st' => simp only [Except.map]; exact ih sls (i + 1) ddg st'

theorem consumePosX_frame (run : Run) (final : Bool) (st : PState) :
    consumePosX bind run final (pushB x st) = Except.map (pushB x) (consumePosX bind run final st) := by
  unfold consumePosX
  have hps : (pushB x st).ps = st.ps := rfl
  split
  · rfl
  · rw [hps, applyPosX_frame]
    cases applyPosX bind st.ps
        (slices (matchPartial (st.ps.map OptSpec.arity) run.args.length st.ps.length) run.args) 0
        (ddgOf (matchPartial (st.ps.map OptSpec.arity) run.args.length st.ps.length) run) st with
    | error e => rfl
    | ok st' => simp [Except.map, pushB]

theorem runFlags_frame : ∀ (l : List Target) (st : PState),
    runFlags bind l (pushB x st) = Except.map (pushB x) (runFlags bind l st) := by
  intro l
  induction l with
  | nil => intro st; simp [runFlags, Except.map]
  | cons tg rest ih =>
    intro st
    cases tg with
    | help => simp [runFlags, Except.map]
    | opt o =>
      simp only [runFlags]
      rw [takeAction_frame]
      cases takeAction bind o [] st with
      | error e => rfl
      | ok st' => simp only [Except.map]; exact ih st'

theorem stepOpt_frame (strs : List (String × Target)) (oi : OptItem) (run : Run) (st : PState) :
    stepOpt bind strs oi run (pushB x st) =
      Except.map (fun p => (pushB x p.1, p.2)) (stepOpt bind strs oi run st) := by
  unfold stepOpt
  cases oi with
  | unknown => simp [Except.map, pushB]
  | known tg os ex =>
    dsimp only
    unfold consumeOptX
    cases chainOf strs tg os ex with
    | error e => rfl
    | ok c =>
      obtain ⟨flags, last, lex⟩ := c
      dsimp only
      cases takeArgs last lex run with
      | error e => rfl
      | ok r =>
        obtain ⟨toks, run'⟩ := r
        dsimp only
        rw [runFlags_frame]
        cases runFlags bind flags st with
        | error e => rfl
        | ok st1 =>
          simp only [Except.map]
          cases last with
          | help => rfl
          | opt o =>
            simp only [lastAction]
            rw [takeAction_frame]
            by_cases hdd : (toks == ["--"]) = true
            · simp only [hdd, if_true]
            · simp only [hdd, Bool.false_eq_true, if_false]
              cases takeAction bind o (toks.erase "--") st1 with
              | error e => rfl
              | ok st2 => rfl

theorem runSegs_frame (strs : List (String × Target)) : ∀ (ss : List (OptItem × Run)) (st : PState),
    runSegs bind strs ss (pushB x st) = Except.map (pushB x) (runSegs bind strs ss st) := by
  intro ss
  induction ss with
  | nil => intro st; simp [runSegs, Except.map]
  | cons s rest ih =>
    intro st
    obtain ⟨oi, run⟩ := s
    simp only [runSegs]
    rw [stepOpt_frame]
    cases stepOpt bind strs oi run st with
    | error e => rfl
    | ok p =>
      obtain ⟨st1, run1⟩ := p
      simp only [Except.map]
      rw [consumePosX_frame]
      cases consumePosX bind run1 rest.isEmpty st1 with
      | error e => rfl
      | ok st2 => simp only [Except.map]; exact ih st2

end frame

theorem engine_flag_cons (bind : Bind) (p : PSpec) (f : String) (o : OptSpec) (x : String × Val)
    (argv : List String) (hf : f ≠ "--") (hc : classifyTok p.strings f = .opt (.opt o) f none)
    (h0 : o.arity = .zero) (hg : o.group = "") (hb : bind o [] = .ok [x])
    (hreq : ∀ ns, requiredOK p (ns ++ [x]) = requiredOK p ns) :
    engine bind p (f :: argv) = Except.map (fun ns => ns ++ [x]) (engine bind p argv) := by
  unfold engine
  rw [itemize_cons_ne _ _ _ hf, hc]
  unfold engineItems
  rw [segs_cons]
  simp only [List.any_cons, Item.isAmbiguous, Bool.false_or, stepItem]
  split
  · rfl
  · -- the empty leading run is skipped; the flag's action; then the run that was leading
    have hstep : stepOpt bind p.strings (.known (.opt o) f none) (segs (itemize p.strings argv)).1
        ⟨p.poss, [], false, []⟩ = .ok (pushB x ⟨p.poss, [], false, []⟩, (segs (itemize p.strings argv)).1) := by
      rw [stepOpt_flag bind p.strings (.opt o) f h0]
      simp [runFlags, takeAction, hg, hb, pushB]
    simp only [List.isEmpty_cons, consumePosX_skip, runSegs]
    rw [hstep]
    dsimp only
    rw [consumePosX_frame]
    cases consumePosX bind (segs (itemize p.strings argv)).1 (segs (itemize p.strings argv)).2.isEmpty
        ⟨p.poss, [], false, []⟩ with
    | error e => rfl
    | ok st0 =>
      simp only [Except.map]
      rw [runSegs_frame]
      cases runSegs bind p.strings (segs (itemize p.strings argv)).2 st0 with
      | error e => rfl
      | ok st =>
        simp only [Except.map, finish, pushB, hreq]
        split <;> rfl

theorem flag_mainBind (s : CliSpec) (o : OptSpec) (h0 : o.arity = .zero) (hty : isFileType o.ty = false)
    (toks : List String) : mainBind s o toks = .ok [(o.dest, o.flagVal)] := by
  unfold mainBind
  have ha := dtot_arity_plain_action o (Or.inl h0)
  simp only [beq_eq_false_iff_ne.2 ha.1, beq_eq_false_iff_ne.2 ha.2, Bool.false_eq_true, if_false]
  unfold bindBase
  simp only [hty, Bool.false_eq_true, if_false, h0]
  simp [liftE, dflag_bindOne o h0 toks]

theorem requiredOK_flag (s : CliSpec) (o : OptSpec) (hwf : specWF s = true) (ho : o ∈ s.opts)
    (hfl : isFlag o = true) (ns : Ns) :
    requiredOK (mainSpec s) (ns ++ [(o.dest, o.flagVal)]) = requiredOK (mainSpec s) ns := by
  unfold requiredOK
  apply dflag_all_congr
  intro o' ho'
  by_cases hr : o'.required = true
  · rw [dflag_required_any s o o' ns hwf ho hfl (List.mem_filter.1 (List.mem_filter.1 ho').1).1 hr
      (by simpa using (List.mem_filter.1 ho').2)]
  · simp [hr]

theorem parseX_flag_cons (s : CliSpec) (o : OptSpec) (f : String) (argv : List String) (hwf : specWF s = true)
    (ho : o ∈ s.opts) (hfl : isFlag o = true) (hg : o.group = "") (hty : isFileType o.ty = false)
    (hf : f ≠ "--") (hc : classifyTok (mainSpec s).strings f = .opt (.opt o) f none) :
    parseX s (f :: argv) = Except.map (fun ns => ns ++ [(o.dest, o.flagVal)]) (parseX s argv) := by
  have h0 : o.arity = .zero := by simpa [isFlag] using hfl
  unfold parseX
  exact engine_flag_cons (mainBind s) (mainSpec s) f o (o.dest, o.flagVal) argv hf hc h0 hg
    (flag_mainBind s o h0 hty []) (requiredOK_flag s o hwf ho hfl)

/-- the option names under the `G.order()` of an expression -/
def orderDeps : Expr → List String
  | .order g => g.deps
  | .getattr _ e => orderDeps e
  | .not e => orderDeps e
  | .isNone e => orderDeps e
  | .isNotNone e => orderDeps e
  | .star e => orderDeps e
  | .and a b => orderDeps a ++ orderDeps b
  | .or a b => orderDeps a ++ orderDeps b
  | .cmp _ a b => orderDeps a ++ orderDeps b
  | .ite c t e => orderDeps c ++ orderDeps t ++ orderDeps e
  | .binop _ a b => orderDeps a ++ orderDeps b
  | .cons h t => orderDeps h ++ orderDeps t
  | .mkgraph _ sp => orderDeps sp
  | _ => []

theorem fixOrder_frame (ord : List String → Nat) (ns ns' : Ns) (d : String)
    (h : ∀ k, k ≠ d → ns.lookup k = ns'.lookup k) (e : Expr) (hd : d ∉ orderDeps e) :
    fixOrder ord ns e = fixOrder ord ns' e := by
  induction e <;> simp only [orderDeps, List.mem_append, not_or] at hd <;> simp [fixOrder, *]
  case order g _ => rw [evalE_frame ns ns' d h g hd]

theorem fixOrder_deps (ord : List String → Nat) (ns : Ns) (e : Expr) (d : String)
    (hd : d ∈ (fixOrder ord ns e).deps) : d ∈ e.deps := by
  induction e <;> simp only [fixOrder, Expr.deps, List.mem_cons, List.mem_append] at hd ⊢
  case order g _ => repeat' split at hd <;> simp_all [Expr.deps]
  all_goals grind

/-- the option is under no `G.order()` of the helper -/
def notUnderOrder (s : CliSpec) (d : String) : Bool :=
  s.templates.all (fun t => !(orderDeps t.guard).contains d && t.pos.all (fun e => !(orderDeps e).contains d) &&
    t.kw.all (fun p => !(orderDeps p.2).contains d))

theorem fixTemplate_frame (ord : List String → Nat) (ns ns' : Ns) (d : String)
    (h : ∀ k, k ≠ d → ns.lookup k = ns'.lookup k) (s : CliSpec) (hno : notUnderOrder s d = true) :
    s.templates.map (fixTemplate ord ns) = s.templates.map (fixTemplate ord ns') := by
  apply List.map_congr_left
  intro t ht
  have := (List.all_eq_true.1 hno) t ht
  simp only [Bool.and_eq_true, Bool.not_eq_true', List.all_eq_true, List.contains_eq_mem,
    decide_eq_false_iff_not] at this
  obtain ⟨⟨h1, h2⟩, h3⟩ := this
  unfold fixTemplate
  have e1 := fixOrder_frame ord ns ns' d h t.guard h1
  have e2 : t.pos.map (fixOrder ord ns) = t.pos.map (fixOrder ord ns') :=
    List.map_congr_left (fun e he => fixOrder_frame ord ns ns' d h e (h2 e he))
  have e3 : t.kw.map (fun p => (p.1, fixOrder ord ns p.2)) = t.kw.map (fun p => (p.1, fixOrder ord ns' p.2)) :=
    List.map_congr_left (fun p hp => by rw [fixOrder_frame ord ns ns' d h p.2 (h3 p hp)])
  rw [e1, e2, e3]

/-- T-C17.5a′ on the extended interpreter.  An ungrouped flag `o` that no guard tests, spelled by ANY token `f` that
the parser reads as `o` (its option strings, their unique prefixes), in front of ANY list of tokens: the run fails as
it failed without it (CLIError, help exit, …) or the helper takes the SAME path, in a namespace where every expression
that does not mention `o.dest` has the same value. -/
theorem flagX_noninterference (ord : List String → Nat) (s : CliSpec) (o : OptSpec) (f : String)
    (argv : List String) (hwf : specWF s = true) (ho : o ∈ s.opts) (hfl : isFlag o = true) (hg : o.group = "")
    (hty : isFileType o.ty = false) (hf : f ≠ "--")
    (hc : classifyTok (mainSpec s).strings f = .opt (.opt o) f none)
    (hng : (guardDeps s).contains o.dest = false) (hno : notUnderOrder s o.dest = true) :
    match dispatchTemplateX ord s argv with
    | .error e => dispatchTemplateX ord s (f :: argv) = .error e
    | .ok (t, ns) =>
      ∃ ns', dispatchTemplateX ord s (f :: argv) = .ok (t, ns') ∧
        ∀ e : Expr, o.dest ∉ e.deps → evalE ns' e = evalE ns e := by
  unfold dispatchTemplateX
  rw [parseX_flag_cons s o f argv hwf ho hfl hg hty hf hc]
  cases hp : parseX s argv with
  | error e => simp [Except.map]
  | ok b =>
    simp only [Except.map, namespaceOf]
    have hag : ∀ k, k ≠ o.dest →
        ((b ++ [(o.dest, o.flagVal)]) ++ defaults s).lookup k = (b ++ defaults s).lookup k :=
      fun k hk => dflag_lookup_insert k o.dest o.flagVal b (defaults s) hk
    rw [fixTemplate_frame ord _ _ o.dest hag s hno]
    have hguards : ∀ t ∈ s.templates.map (fixTemplate ord (b ++ defaults s)), o.dest ∉ t.guard.deps := by
      intro t ht hd
      obtain ⟨t0, ht0, rfl⟩ := List.mem_map.1 ht
      exact dflag_guardDeps s o.dest hng t0 ht0 (fixOrder_deps ord _ t0.guard o.dest hd)
    rw [selectTemplate_frame _ _ o.dest hag _ hguards]
    cases hsel : selectTemplate (b ++ defaults s) (s.templates.map (fixTemplate ord (b ++ defaults s))) with
    | error e => simp
    | ok t =>
      refine ⟨_, rfl, ?_⟩
      intro e he
      exact evalE_frame _ _ o.dest hag e he

end Cnfgen.Cli.AP
