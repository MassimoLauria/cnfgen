/-
Lemmas for C15, bipartite samplers: folds of `add_edge`, `bipartite_random_left_regular`,
`bipartite_random_m_edges`, `bipartite_random`.  No Mathlib.
-/
import Lemmas.GraphBuildBasic
namespace Cnfgen
open GRand

namespace BipG

theorem addEdgesFrom_error_gb {es : List (Int × Int)} {G : BipG} {e : Err} (h : G.addEdgesFrom es = .error e) :
    e = .valueError := foldlM_error (fun h => (addEdge_error h).1) h

theorem numberOfEdges_init (l r : Nat) : (init l r).numberOfEdges = 0 := rfl

end BipG

namespace GRand

theorem pairsToInt_natPair (es : List (Nat × Nat)) : (pairsToInt es).map natPair = es := by
  induction es with
  | nil => rfl
  | cons e es ih =>
    simp only [pairsToInt, List.map_cons, List.map_map] at ih ⊢
    simp [natPair, ih]

theorem mem_allPairs {L R : Nat} {e : Nat × Nat} :
    e ∈ allPairs L R ↔ 1 ≤ e.1 ∧ e.1 ≤ L ∧ 1 ≤ e.2 ∧ e.2 ≤ R := by
  obtain ⟨a, b⟩ := e
  simp only [allPairs, List.mem_flatMap, List.mem_map, mem_rangeN, Prod.mk.injEq]
  constructor
  · rintro ⟨u, hu, v, hv, rfl, rfl⟩; omega
  · intro h; exact ⟨a, by omega, b, by omega, rfl, rfl⟩

theorem sum_map_const {α} (l : List α) (c : Nat) : (l.map (fun _ => c)).sum = l.length * c := by
  rw [List.map_const', List.sum_replicate_nat]

theorem nodup_pairs (us : List Nat) (vs : Nat → List Nat) (hu : us.Nodup) (hv : ∀ u, (vs u).Nodup) :
    (us.flatMap (fun u => (vs u).map (fun v => (u, v)))).Nodup :=
  nodup_flatMap_map hu (fun u _ => hv u) fun _ _ _ _ _ _ _ _ h => Prod.mk.inj h

theorem nodup_allPairs (L R : Nat) : (allPairs L R).Nodup :=
  nodup_pairs _ _ (rangeN_nodup _ _) fun _ => rangeN_nodup _ _

theorem length_allPairs (L R : Nat) : (allPairs L R).length = L * R := by
  simp only [allPairs, List.length_flatMap, List.length_map, length_rangeN]
  rw [sum_map_const, length_rangeN]; simp

def rowCalls (u : Nat) (vs : List Nat) : List (Int × Int) := vs.map (fun (v : Nat) => ((u : Int), (v : Int)))

theorem rowCalls_natPair (u : Nat) (vs : List Nat) : (rowCalls u vs).map natPair = vs.map (fun v => (u, v)) := by
  simp [rowCalls, natPair, List.map_map, Function.comp_def]

theorem addRow_eq (G : BipG) (u : Nat) (vs : List Nat) :
    addRow G u vs = G.addEdgesFrom (rowCalls u vs) := by
  simp only [addRow, BipG.addEdgesFrom, rowCalls]
  induction vs generalizing G with
  | nil => rfl
  | cons v vs ih =>
    simp only [List.foldlM, List.map_cons]
    cases G.addEdge u v <;> simp [bind, Except.bind, ih]

theorem distinctRandints_run (r : Int) (fuel need : Nat) (acc : List Nat) (hnd : acc.Nodup)
    (hmem : ∀ v ∈ acc, 1 ≤ v ∧ (v : Int) ≤ r) :
    Run (fun s => s.length = acc.length + need ∧ s.Nodup ∧ ∀ v : Nat, v ∈ s → 1 ≤ v ∧ (v : Int) ≤ r) (fun _ => r < 1)
      (distinctRandints r fuel need acc) := by
  induction fuel generalizing need acc with
  | zero =>
    cases need with
    | zero => exact Run.pure ⟨rfl, hnd, hmem⟩
    | succ n => exact Run.stuck
  | succ fuel ih =>
    cases need with
    | zero => exact Run.pure ⟨rfl, hnd, hmem⟩
    | succ n =>
      simp only [distinctRandints]
      refine ((randint_spec 1 r).mono (fun _ h => h) fun _ h => h.2).bind fun v hv =>
        Run.ite_of (fun _ => ih _ acc hnd hmem) fun hc => ?_
      refine (ih n (v.toNat :: acc) (List.nodup_cons.2 ⟨by simpa using hc, hnd⟩) fun w hw => ?_).mono
        (fun s h => ⟨by have := h.1; simp only [List.length_cons] at this; omega, h.2⟩) fun _ h => h
      rcases List.mem_cons.1 hw with rfl | hw
      · omega
      · exact hmem w hw

theorem distinctRandints_complete (r : Int) (vs : List Nat) (fuel : Nat) (acc : List Nat) (rest : List Draw)
    (hfuel : vs.length ≤ fuel) (hnd : vs.Nodup) (hdisj : ∀ v ∈ vs, v ∉ acc)
    (hmem : ∀ v ∈ vs, 1 ≤ v ∧ (v : Int) ≤ r) :
    distinctRandints r fuel vs.length acc (vs.map (fun (v : Nat) => Draw.randint (v : Int)) ++ rest)
      = .ok (vs.reverse ++ acc) rest := by
  induction vs generalizing fuel acc with
  | nil => cases fuel <;> simp [distinctRandints, pure, RM.pure]
  | cons v vs ih =>
    cases fuel with
    | zero => simp at hfuel
    | succ fuel =>
      have hv := hmem v (by simp)
      have hr : ¬ r < 1 := by omega
      simp only [List.nodup_cons] at hnd
      have := ih fuel (v :: acc) (by simpa using hfuel) hnd.2 (by
        intro w hw hc
        rcases List.mem_cons.1 hc with rfl | hc
        · exact hnd.1 hw
        · exact hdisj w (by simp [hw]) hc) (fun w hw => hmem w (by simp [hw]))
      have hna' : v ∉ acc := hdisj v (by simp)
      have h1 : (1 : Int) ≤ (v : Int) := by omega
      simp only [List.length_cons, List.map_cons, List.cons_append, distinctRandints]
      show RM.bind _ _ _ = _
      simp [RM.bind, randint, hr, h1, hv.2, hna', this]

theorem glrdNeighbours_run (r : Nat) (d : Int) :
    Run (fun s => 0 ≤ d → (s.length : Int) = d ∧ s.Nodup ∧ ∀ x ∈ s, x ∈ rangeN 1 (r + 1))
      (fun e => e = .valueError ∧ (d < 0 ∨ (r : Int) < d)) (glrdNeighbours r d) := by
  unfold glrdNeighbours
  refine Run.ite_of (fun _ => (sample_spec _ d).mono (fun s h _ => h) fun e h => ⟨h.1, ?_⟩) fun hr => ?_
  · have := h.2; rw [length_rangeN] at this; omega
  · refine Run.fuel fun n => (distinctRandints_run r n d.toNat [] List.nodup_nil (by simp)).mono
      (fun s h hd => ⟨by have := h.1; simp only [List.length_nil] at this; omega, h.2.1, fun x hx => by
        have := h.2.2 x hx; rw [mem_rangeN]; omega⟩) fun e h => by simp only [sysMaxsize] at hr; omega

theorem addRow_adds {G : BipG} {u : Nat} {vs : List Nat} (hu : 1 ≤ u ∧ u ≤ G.l) (hvs : ∀ v ∈ vs, 1 ≤ v ∧ v ≤ G.r) :
    ∃ G' new, addRow G u vs = .ok G' ∧ G.Adds new G' ∧
      ∀ p, p ∈ G'.edgeset ↔ p ∈ G.edgeset ∨ p ∈ vs.map fun v => (u, v) := by
  rw [addRow_eq, ← rowCalls_natPair]
  refine BipG.addEdgesFrom_adds fun e he => ?_
  obtain ⟨v, hv, rfl⟩ := List.mem_map.1 he
  have := hvs v hv
  exact ⟨by omega, by omega, by omega, by omega⟩

theorem addRow_run (G : BipG) (u : Nat) (vs : List Nat) (hu : 1 ≤ u ∧ u ≤ G.l)
    (hvs : ∀ v ∈ vs, 1 ≤ v ∧ v ≤ G.r) (hnd : vs.Nodup) (hfree : ∀ e ∈ G.edgeset, e.1 ≠ u) :
    Run (fun G' => ∃ new, G.Adds new G' ∧ new.Perm (vs.map fun v => (u, v))) (fun _ => False)
      (RM.lift (addRow G u vs)) :=
  have ⟨_, new, h, ha, hm⟩ := addRow_adds hu hvs
  Run.lift_ok h ⟨new, ha, ha.perm (nodup_map_inj _ (fun a b hab => by simpa using hab) hnd)
    (fun e he hc => by obtain ⟨v, _, rfl⟩ := List.mem_map.1 he; exact hfree _ hc rfl) hm⟩

theorem leftRegularLoop_run (r : Nat) (d : Int) (us : List Nat) (G : BipG) (hd : 0 ≤ d ∧ d ≤ r)
    (hr : G.r = r) (hus : us.Nodup) (hin : ∀ u ∈ us, 1 ≤ u ∧ u ≤ G.l) (hfree : ∀ e ∈ G.edgeset, e.1 ∉ us) :
    Run (fun G' => ∃ new, G.Adds new G' ∧ ∀ u, (new.countP (·.1 == u) : Int) = if u ∈ us then d else 0)
      (fun _ => False) (leftRegularLoop r d us G) := by
  induction us generalizing G with
  | nil => exact Run.pure ⟨[], .refl G, by simp⟩
  | cons u us ih =>
    simp only [leftRegularLoop]
    simp only [List.nodup_cons] at hus
    refine ((glrdNeighbours_run r d).mono (fun _ h => h hd.1) fun _ h => by omega).bind fun s ⟨hlen, hnd, hmem⟩ => ?_
    have hperm := perm_sortNat s
    refine (addRow_run G u (sortNat s) (hin u (by simp)) (fun v hv => ?_) (hperm.nodup_iff.2 hnd)
      fun e he hc => hfree e he (by simp [hc])).bind fun G1 ⟨n₁, h₁, hp₁⟩ => ?_
    · have := hmem v (hperm.mem_iff.1 hv); rw [mem_rangeN] at this; omega
    refine (ih G1 (h₁.r.trans hr) hus.2 (fun x hx => h₁.l ▸ hin x (by simp [hx])) fun e he => ?_).mono
      (fun G' ⟨n₂, h₂, hc₂⟩ => ⟨_, h₁.trans h₂, fun x => ?_⟩) fun _ h => h
    · rcases h₁.mem.1 he with he | he
      · obtain ⟨v, _, rfl⟩ := List.mem_map.1 (hp₁.mem_iff.1 he)
        exact hus.1
      · exact fun hc => hfree e he (by simp [hc])
    · rw [List.countP_append, Int.natCast_add, hc₂ x, hp₁.countP_eq, List.countP_map]
      by_cases hx : x = u
      · subst hx
        rw [if_neg hus.1, if_pos (by simp), List.countP_eq_length.2 fun a _ => by simp, hperm.length_eq]; omega
      · rw [List.countP_eq_zero.2 fun a _ => by simpa using fun h => hx h.symm]
        simp [hx]

/-- `bipartite_random_left_regular(l, r, d)`, every `r`, both branches: whenever it returns every left vertex has
degree `min(r, d)`; it raises only its documented `ValueError`, and only for a negative argument -/
theorem leftRegular_run (l r d : Int) :
    Run (fun G => G.InvGB ∧ G.l = l.toNat ∧ G.r = r.toNat ∧ ∀ u, 1 ≤ u → u ≤ G.l → (G.leftDeg u : Int) = min r d)
      (fun e => e = .valueError ∧ (l < 0 ∨ r < 0 ∨ d < 0)) (leftRegular l r d) := by
  unfold leftRegular
  refine Run.ite_of (fun hg => Run.raise ⟨rfl, hg⟩) fun hg => ?_
  refine (leftRegularLoop_run r.toNat (min r d) _ _ (by omega) rfl (rangeN_nodup _ _)
    (fun u hu => ?_) (by simp [BipG.init])).mono (fun G ⟨new, h, hc⟩ => ?_) fun _ h => h.elim
  · rw [mem_rangeN] at hu; simp only [BipG.init]; omega
  · have hI := h.inv (BipG.inv_init_gb _ _)
    refine ⟨hI, h.l, h.r, fun u h1 h2 => ?_⟩
    have hl : G.l = l.toNat := h.l
    rw [hI.ldeg, h.edgeset, show (BipG.init l.toNat r.toNat).edgeset = [] from rfl, List.append_nil, hc u,
      if_pos (mem_rangeN.2 ⟨h1, by omega⟩)]

theorem glrdNeighbours_complete (r : Nat) (d : Int) (vs : List Nat) (rest : List Draw)
    (hbig : sysMaxsize < r) (hd : d = vs.length) (hnd : vs.Nodup) (hmem : ∀ v ∈ vs, 1 ≤ v ∧ v ≤ r) :
    glrdNeighbours r d (vs.map (fun (v : Nat) => Draw.randint (v : Int)) ++ rest) = .ok vs.reverse rest := by
  unfold glrdNeighbours
  rw [if_neg (by omega)]
  have := distinctRandints_complete r vs (vs.map (fun (v : Nat) => Draw.randint (v : Int)) ++ rest).length [] rest
    (by simp) hnd (by simp) (fun v hv => by have := hmem v hv; omega)
  simp only [List.append_nil] at this
  subst hd
  simpa using this

/-- a legal draw list on which the `r > sys.maxsize` branch returns: `1, …, d` for every left vertex -/
def glrdEasyDraws (n : Nat) (d : Nat) : List Draw :=
  (List.replicate n ((rangeN 1 (d + 1)).map (fun (v : Nat) => Draw.randint (v : Int)))).flatten

/-- termination of the rejection loops, in the only form the draws-as-inputs model can state it:
for every `r > sys.maxsize` there is a legal draw list on which the loop over the left vertices returns -/
theorem leftRegularLoop_returns (r : Nat) (d : Nat) (us : List Nat) (G : BipG)
    (hbig : sysMaxsize < r) (hr : G.r = r) (hd : d ≤ r) (hus : ∀ u ∈ us, 1 ≤ u ∧ u ≤ G.l) :
    ∃ G', leftRegularLoop r d us G (glrdEasyDraws us.length d) = .ok G' [] := by
  induction us generalizing G with
  | nil => exact ⟨G, rfl⟩
  | cons u us ih =>
    have hs := glrdNeighbours_complete r d (rangeN 1 (d + 1)) (glrdEasyDraws us.length d) hbig
      (by rw [length_rangeN]; simp) (rangeN_nodup _ _) (by intro v hv; rw [mem_rangeN] at hv; omega)
    have hmem : ∀ v ∈ sortNat (rangeN 1 (d + 1)).reverse, 1 ≤ v ∧ v ≤ r := by
      intro v hv
      have := (perm_sortNat _).mem_iff.1 hv
      rw [List.mem_reverse, mem_rangeN] at this; omega
    obtain ⟨G1, _, hrow, h1, _⟩ := addRow_adds (hus u (by simp)) (hr ▸ hmem)
    obtain ⟨G', hG'⟩ := ih G1 (h1.r.trans hr) fun x hx => h1.l ▸ hus x (by simp [hx])
    refine ⟨G', ?_⟩
    simp only [leftRegularLoop, glrdEasyDraws, List.length_cons, List.replicate_succ, List.flatten_cons]
    show RM.bind _ _ _ = _
    unfold RM.bind
    rw [show (List.replicate us.length ((rangeN 1 (d + 1)).map (fun (v : Nat) => Draw.randint (v : Int)))).flatten
      = glrdEasyDraws us.length d from rfl, hs]
    show RM.bind _ _ _ = _
    unfold RM.bind
    rw [hrow]
    exact hG'

def outMap {α β} (f : α → β) : Out α → Out β
  | .ok a rest => .ok (f a) rest
  | .exc e => .exc e
  | .foreign => .foreign
  | .stuck => .stuck

theorem dropRadj_addEdge (G : BipG) (u v : Int) :
    (dropRadj G).addEdge u v = (G.addEdge u v).map dropRadj := by
  unfold BipG.addEdge
  by_cases h1 : (1 ≤ u ∧ u ≤ G.l ∧ 1 ≤ v ∧ v ≤ G.r)
  · by_cases h2 : G.hasEdge u v = true
    · simp [h1, h2, dropRadj, Except.map]
      exact h2
    · simp [h1, h2, dropRadj, Except.map]
      exact Bool.eq_false_iff.2 h2
  · have h1' : ¬ (1 ≤ u ∧ u ≤ (dropRadj G).l ∧ 1 ≤ v ∧ v ≤ (dropRadj G).r) := h1
    simp only [h1, h1', not_false_eq_true, if_true, Except.map]

theorem dropRadj_addRow (G : BipG) (u : Nat) (vs : List Nat) :
    addRow (dropRadj G) u vs = (addRow G u vs).map dropRadj := by
  induction vs generalizing G with
  | nil => rfl
  | cons v vs ih =>
    simp only [addRow, List.foldlM] at ih ⊢
    rw [dropRadj_addEdge]
    cases G.addEdge u v with
    | error e => rfl
    | ok G1 => exact ih G1

theorem dropRadj_leftRegularLoop (r : Nat) (d : Int) (us : List Nat) (G : BipG) (ds : List Draw) :
    leftRegularLoop r d us (dropRadj G) ds = outMap dropRadj (leftRegularLoop r d us G ds) := by
  induction us generalizing G ds with
  | nil => rfl
  | cons u us ih =>
    simp only [leftRegularLoop]
    show RM.bind _ _ _ = outMap _ (RM.bind _ _ _)
    unfold RM.bind
    cases glrdNeighbours r d ds with
    | ok s mid =>
      show RM.bind _ _ _ = outMap _ (RM.bind _ _ _)
      unfold RM.bind
      rw [dropRadj_addRow]
      cases addRow G u (sortNat s) with
      | error e => rfl
      | ok G1 => exact ih G1 mid
    | exc e => rfl
    | foreign => rfl
    | stuck => rfl

/-- what the compiled driver runs for `r > sys.maxsize` is the run of the model minus the right adjacency table -/
theorem leftRegularNoRadj_eq (l r d : Int) (ds : List Draw) :
    leftRegularNoRadj l r d ds = outMap dropRadj (leftRegular l r d ds) := by
  unfold leftRegularNoRadj leftRegular
  split
  · rfl
  · exact dropRadj_leftRegularLoop _ _ _ (BipG.init l.toNat r.toNat) ds

theorem dropRadj_edges (G : BipG) : (dropRadj G).edges = G.edges := rfl
theorem dropRadj_numberOfEdges (G : BipG) : (dropRadj G).numberOfEdges = G.numberOfEdges := rfl

theorem addPairs_adds {G : BipG} {es : List (Nat × Nat)}
    (hv : ∀ e ∈ es, 1 ≤ e.1 ∧ e.1 ≤ G.l ∧ 1 ≤ e.2 ∧ e.2 ≤ G.r) :
    ∃ G' new, G.addEdgesFrom (pairsToInt es) = .ok G' ∧ G.Adds new G' ∧
      ∀ p, p ∈ G'.edgeset ↔ p ∈ G.edgeset ∨ p ∈ es := by
  have := BipG.addEdgesFrom_adds (G := G) (es := pairsToInt es) fun e he => by
    obtain ⟨y, hy, rfl⟩ := List.mem_map.1 he
    have := hv y hy
    exact ⟨by omega, by omega, by omega, by omega⟩
  rwa [pairsToInt_natPair] at this

theorem _root_.Cnfgen.BipG.addEdge_run (G : BipG) (u v : Int) (h : BipG.Valid G.l G.r u v) :
    Run (G.Adds (if (u.toNat, v.toNat) ∈ G.edgeset then [] else [(u.toNat, v.toNat)])) (fun _ => False)
      (RM.lift (G.addEdge u v)) :=
  Run.lift _ (fun _ => BipG.addEdge_adds) fun _ he => (BipG.addEdge_error he).2 h

theorem mEdgesSparse_run (L R : Int) (fuel need : Nat) (G : BipG) (hL : 1 ≤ L ∧ L = G.l) (hR : 1 ≤ R ∧ R = G.r) :
    Run (fun G' => ∃ new, G.Adds new G' ∧ new.length = need) (fun _ => False) (mEdgesSparse L R fuel need G) := by
  induction fuel generalizing need G with
  | zero =>
    cases need with
    | zero => exact Run.pure ⟨[], .refl G, rfl⟩
    | succ n => exact Run.stuck
  | succ fuel ih =>
    cases need with
    | zero => exact Run.pure ⟨[], .refl G, rfl⟩
    | succ n =>
      simp only [mEdgesSparse]
      refine ((randint_spec 1 L).mono (fun _ h => h) fun _ h => by omega).bind fun u hu =>
        ((randint_spec 1 R).mono (fun _ h => h) fun _ h => by omega).bind fun v hv =>
          Run.ite_of (fun _ => ih _ G hL hR) fun he => ?_
      refine (BipG.addEdge_run G u v ⟨by omega, by omega, by omega, by omega⟩).bind fun G1 h1 =>
        (ih n G1 (h1.l ▸ hL) (h1.r ▸ hR)).mono (fun G' ⟨new, h, hn⟩ => ⟨_, h1.trans h, ?_⟩) fun _ h => h
      rw [if_neg fun hc => he ((BipG.hasEdge_iff G u v).2 ⟨by omega, by omega, hc⟩), List.length_append, hn]; rfl

theorem mEdgesBody_run (L R m : Int) (hL : 1 ≤ L) (hR : 1 ≤ R) (hm : 0 ≤ m ∧ m ≤ L * R) :
    Run (fun G => ∃ new, (BipG.init L.toNat R.toNat).Adds new G ∧ new.length = m.toNat) (fun _ => False)
      (mEdgesBody L R m) := by
  unfold mEdgesBody
  refine Run.ite ?_ (Run.fuel fun n => mEdgesSparse_run L R n m.toNat _ ⟨hL, by simp [BipG.init]; omega⟩
    ⟨hR, by simp [BipG.init]; omega⟩)
  refine ((samplePairs_spec _ m).mono (fun _ h => h) fun _ h => ?_).bind fun es ⟨hlen, hnd, hmem⟩ => ?_
  · have h2 : ((L.toNat * R.toNat : Nat) : Int) = L * R := by
      rw [Int.natCast_mul, Int.toNat_of_nonneg (by omega), Int.toNat_of_nonneg (by omega)]
    rw [length_allPairs] at h; omega
  · obtain ⟨G, new, hadd, h, hmem'⟩ := addPairs_adds (G := BipG.init L.toNat R.toNat) (es := es) fun e he => by
      have := mem_allPairs.1 (hmem e he); simp only [BipG.init]; omega
    exact Run.lift_ok hadd ⟨new, h, by rw [(h.perm hnd (by simp [BipG.init]) hmem').length_eq]; omega⟩

/-- `bipartite_random_m_edges(L, R, m)`: whenever it returns there are exactly `m` edges; the only exception
is the documented `ValueError` for a request out of range (the final assertion never fails) -/
theorem randomMEdges_run (L R m : Int) :
    Run (fun G => 0 ≤ m ∧ m ≤ L * R ∧ G.InvGB ∧ G.l = L.toNat ∧ G.r = R.toNat ∧ G.numberOfEdges = m.toNat)
      (fun e => e = .valueError ∧ (L < 1 ∨ R < 1 ∨ m < 0 ∨ m > L * R)) (randomMEdges L R m) := by
  unfold randomMEdges
  refine Run.ite_of (fun hg => Run.raise ⟨rfl, hg⟩) fun hg => ?_
  refine ((mEdgesBody_run L R m (by omega) (by omega) (by omega)).mono (fun _ h => h) fun _ h => h.elim).bind
    fun G ⟨new, h, hn⟩ => ?_
  have hm : G.numberOfEdges = m.toNat := by rw [h.numberOfEdges, hn]; rfl
  rw [if_pos hm]; exact Run.pure ⟨by omega, by omega, h.inv (BipG.inv_init_gb _ _), h.l, h.r, hm⟩

/-- `∀ x < unitDen, le x` is the case `p = 1`: the comparison succeeds for every possible draw -/
theorem coinLoop_run (le : Nat → Bool) (ps : List (Nat × Nat)) (G : BipG)
    (hps : ∀ p ∈ ps, BipG.Valid G.l G.r p.1 p.2) :
    Run (fun G' => ∃ new, G.Adds new G' ∧ (∀ e ∈ new, e ∈ ps) ∧
        ((∀ x, x < unitDen → le x = true) → ∀ e ∈ ps, e ∈ G'.edgeset))
      (fun _ => False) (coinLoop le ps G) := by
  induction ps generalizing G with
  | nil => exact Run.pure ⟨[], .refl G, nofun, fun _ => nofun⟩
  | cons p ps ih =>
    obtain ⟨u, v⟩ := p
    simp only [coinLoop]
    refine random_spec.bind fun x hx => Run.ite_of (fun _ => ?_) fun hle => ?_
    · refine (BipG.addEdge_run G u v (hps (u, v) (by simp))).bind fun G1 h1 =>
        (ih G1 fun p hp => h1.l ▸ h1.r ▸ hps p (List.mem_cons_of_mem _ hp)).mono
          (fun G' ⟨new, h, hsub, hall⟩ => ⟨_, h1.trans h, fun e he => ?_, fun hle' e he => ?_⟩) fun _ h => h
      · rcases List.mem_append.1 he with he | he
        · exact List.mem_cons_of_mem _ (hsub e he)
        · split at he
          · cases he
          · exact List.mem_singleton.1 he ▸ List.mem_cons_self ..
      · rcases List.mem_cons.1 he with rfl | he
        · refine h.mem.2 (Or.inr ?_)
          by_cases hc : ((u : Int).toNat, (v : Int).toNat) ∈ G.edgeset
          · exact h1.mem.2 (Or.inr hc)
          · exact h1.mem.2 (Or.inl (by rw [if_neg hc]; exact List.mem_singleton.2 rfl))
        · exact hall hle' e he
    · exact (ih G fun p hp => hps p (List.mem_cons_of_mem _ hp)).mono (fun G' ⟨new, h, hsub, hall⟩ =>
        ⟨new, h, fun e he => List.mem_cons_of_mem _ (hsub e he), fun hle' => (hle (hle' x hx)).elim⟩) fun _ h => h

theorem bipRandom_run (L R pn : Int) (pd : Nat) :
    Run (fun G => G.InvGB ∧ G.l = L.toNat ∧ G.r = R.toNat ∧ (pn = pd → G.numberOfEdges = L.toNat * R.toNat))
      (fun e => e = .valueError ∧ (L < 1 ∨ R < 1 ∨ pn < 0 ∨ pn > pd)) (bipRandom L R pn pd) := by
  unfold bipRandom
  refine Run.ite_of (fun hg => Run.raise ⟨rfl, hg⟩) fun hg => ?_
  refine (coinLoop_run _ _ _ fun p hp => ?_).mono
    (fun G ⟨new, h, hsub, hall⟩ => ⟨h.inv (BipG.inv_init_gb _ _), h.l, h.r, fun hp => ?_⟩) fun _ h => h.elim
  · have := mem_allPairs.1 hp
    exact ⟨by omega, by simp only [BipG.init]; omega, by omega, by simp only [BipG.init]; omega⟩
  · have hall' := hall (by
      intro x hx; simp only [unitLe, decide_eq_true_eq]; subst hp
      have : (x : Int) ≤ (unitDen : Int) := by omega
      rw [Int.mul_comm]
      exact Int.mul_le_mul_of_nonneg_left this (by omega))
    have hperm : new.Perm (allPairs L.toNat R.toNat) :=
      (List.perm_ext_iff_of_nodup h.nodup (nodup_allPairs _ _)).2 fun e =>
        ⟨hsub e, fun he => (h.mem.1 (hall' e he)).resolve_right (by simp [BipG.init])⟩
    rw [h.numberOfEdges, hperm.length_eq, length_allPairs]
    rfl

end GRand
end Cnfgen
