/-
The lexer on lines: a text `s ++ "\n" ++ rest` whose first part contains no line terminator is read as
the line `s` followed by the lines of `rest` (universal-newline mode or not); the pieces of
`splitlines()` and what is joined from them contain no line terminator.
-/
import CnfgenModel.IO.Lex
import CnfgenModel.IO.Dimacs
import CnfgenModel.IO.Opb
import Lemmas.NatStr
namespace Cnfgen.IO

/-- `lit_decide` closes a closed, decidable fact that mentions `"…".toList` of string LITERALS: it rewrites every such
`toList` to the list of characters with `String.toList_ofList` (a literal is `String.ofList [chars]` by definition, for the
unifier and for the kernel, so the rewrite evaluates nothing) and then evaluates in the kernel (`decide +kernel`).
Without the rewrite the kernel decodes the UTF-8 bytes of every literal, which is quadratic in its length. -/
macro "lit_decide" : tactic => `(tactic| ((repeat rw [String.toList_ofList]) <;> decide +kernel))

/-- no character at which a text reader would start a new physical line -/
def NoNL (s : Str) : Prop := ∀ c ∈ s, c ≠ '\n' ∧ c ≠ '\r'

/-- no white-space character (`isSpace`: the whole set of `str.isspace`, not only the blank) -/
def NoWS (s : Str) : Prop := ∀ c ∈ s, isSpace c = false

theorem isSpace_blank : isSpace ' ' = true := by decide
theorem isSpace_nl : isSpace '\n' = true := by decide

theorem not_nl_of_not_space {c : Char} (h : isSpace c = false) : c ≠ '\n' ∧ c ≠ '\r' := by
  constructor <;> (intro e; subst e; revert h; decide)

theorem noNL_of_noWS {s : Str} (h : NoWS s) : NoNL s := fun c hc => not_nl_of_not_space (h c hc)

theorem noWS_append {a b : Str} (ha : NoWS a) (hb : NoWS b) : NoWS (a ++ b) := List.forall_mem_append.2 ⟨ha, hb⟩

theorem noWS_cons {c : Char} {s : Str} (hc : isSpace c = false) (hs : NoWS s) : NoWS (c :: s) :=
  List.forall_mem_cons.2 ⟨hc, hs⟩

theorem noWS_lit (s : Str) (h : s.all (fun c => !isSpace c) = true) : NoWS s := by
  intro c hc; simpa using (List.all_eq_true.1 h) c hc

/-- a token: what `split()` returns as one piece -/
def IsTok (t : Str) : Prop := t ≠ [] ∧ NoWS t

theorem IsTok.noNL {t : Str} (h : IsTok t) : NoNL t := noNL_of_noWS h.2

theorem isTok_cons {c : Char} {s : Str} (hc : isSpace c = false) (hs : NoWS s) : IsTok (c :: s) :=
  ⟨List.cons_ne_nil _ _, noWS_cons hc hs⟩

theorem isTok_lit (s : Str) (h : (!s.isEmpty && s.all (fun c => !isSpace c)) = true) : IsTok s := by
  simp only [Bool.and_eq_true, Bool.not_eq_true', List.all_eq_true] at h
  refine ⟨?_, fun c hc => by simpa using h.2 c hc⟩
  intro e; subst e; simp at h

theorem noNL_of_noBreak {s : Str} (h : ∀ c ∈ s, isLineBreak c = false) : NoNL s := by
  intro c hc
  have := h c hc
  constructor <;> (intro e; subst e; revert this; decide)

theorem NoNL.append {a b : Str} (ha : NoNL a) (hb : NoNL b) : NoNL (a ++ b) :=
  List.forall_mem_append.2 ⟨ha, hb⟩

theorem NoNL.cons {c : Char} {s : Str} (hc : c ≠ '\n' ∧ c ≠ '\r') (hs : NoNL s) : NoNL (c :: s) :=
  List.forall_mem_cons.2 ⟨hc, hs⟩

theorem noNL_nil : NoNL [] := fun _ h => nomatch h

theorem noNL_lit (s : Str) (h : s.all (fun c => c != '\n' && c != '\r') = true) : NoNL s := by
  intro c hc
  simpa using List.all_eq_true.1 h c hc

theorem noNL_flatMap {α} (l : List α) (f : α → Str) (h : ∀ x ∈ l, NoNL (f x)) : NoNL (l.flatMap f) := by
  intro c hc
  obtain ⟨x, hx, hcx⟩ := List.mem_flatMap.1 hc
  exact h x hx c hcx

theorem splitLB_noBreak (s : Str) : ∀ (b : Bool), ∀ p ∈ splitLB b s, ∀ c ∈ p, isLineBreak c = false := by
  induction s with
  | nil => intro b p hp c hc; simp [splitLB] at hp; subst hp; simp at hc
  | cons x xs ih =>
    intro b p hp c hc
    unfold splitLB at hp
    split at hp
    · exact ih _ p hp c hc
    · split at hp
      · rcases List.mem_cons.1 hp with h | h
        · subst h; simp at hc
        · exact ih _ p h c hc
      · rename_i hx
        split at hp
        · rename_i l ls heq
          rcases List.mem_cons.1 hp with h | h
          · subst h
            rcases List.mem_cons.1 hc with h' | h'
            · subst h'; simpa using hx
            · exact ih false l (by rw [heq]; simp) c h'
          · exact ih false p (by rw [heq]; simp [h]) c hc
        · simp at hp; subst hp
          simp at hc; subst hc; simpa using hx

theorem splitlines_noNL (s : Str) : ∀ p ∈ splitlines s, NoNL p := by
  intro p hp
  apply noNL_of_noBreak
  unfold splitlines at hp
  simp only at hp
  split at hp
  · exact splitLB_noBreak s false p ((List.dropLast_sublist _).subset hp)
  · exact splitLB_noBreak s false p hp

theorem mem_join {sep : Str} : ∀ {l : List Str} {c : Char}, c ∈ join sep l → c ∈ sep ∨ ∃ p ∈ l, c ∈ p
  | [], c, h => by simp [join] at h
  | [x], c, h => by simp [join] at h; exact Or.inr ⟨x, by simp, h⟩
  | x :: y :: rest, c, h => by
    simp only [join, List.mem_append] at h
    rcases h with (h | h) | h
    · exact Or.inr ⟨x, by simp, h⟩
    · exact Or.inl h
    · rcases mem_join h with h' | ⟨p, hp, hc⟩
      · exact Or.inl h'
      · exact Or.inr ⟨p, List.mem_cons_of_mem _ hp, hc⟩

theorem noNL_join (sep : Str) (parts : List Str) (hs : NoNL sep) (hp : ∀ p ∈ parts, NoNL p) : NoNL (join sep parts) := by
  intro c hc
  rcases mem_join hc with h | ⟨p, hpm, hcp⟩
  · exact hs c h
  · exact hp p hpm c hcp

theorem flatLabel_noNL (label : Str) : NoNL (flatLabel label) :=
  noNL_join _ _ (noNL_lit _ (by decide)) (splitlines_noNL label)

theorem natStr_noNL (n : Nat) : NoNL (natStr n) := by
  intro c hc
  have := (natStr_digits n).1 c hc
  constructor <;> (intro e; subst e; revert this; unfold IsDigit; decide)

theorem splitNL_ne_nil : ∀ (s : Str), splitNL s ≠ []
  | [] => by simp [splitNL]
  | c :: cs => by
    unfold splitNL
    split
    · simp
    · split <;> simp

theorem splitNL_cons_line : ∀ (s rest : Str), (∀ c ∈ s, c ≠ '\n') → splitNL (s ++ '\n' :: rest) = s :: splitNL rest
  | [], rest, _ => by simp [splitNL]
  | c :: cs, rest, h => by
    have hc : c ≠ '\n' := h c (by simp)
    have ih := splitNL_cons_line cs rest (fun d hd => h d (by simp [hd]))
    simp [splitNL, hc, ih]

theorem readlines_cons_line (s rest : Str) (h : ∀ c ∈ s, c ≠ '\n') :
    readlines (s ++ '\n' :: rest) = s :: readlines rest := by
  unfold readlines
  simp only [splitNL_cons_line s rest h]
  have hne := splitNL_ne_nil rest
  cases hsp : splitNL rest with
  | nil => exact absurd hsp hne
  | cons a as =>
    have h1 : (s :: a :: as).getLast? = (a :: as).getLast? := by simp [List.getLast?_cons_cons]
    have h2 : (s :: a :: as).dropLast = s :: (a :: as).dropLast := by simp [List.dropLast]
    rw [h1, h2]
    split <;> rfl

theorem universalNLAux_append (s t : Str) (h : '\r' ∉ s) : universalNLAux false (s ++ t) = s ++ universalNLAux false t := by
  induction s with
  | nil => rfl
  | cons c s ih =>
    have hc : c ≠ '\r' := fun e => h (e ▸ List.mem_cons_self ..)
    rw [List.cons_append, universalNLAux]
    simp only [hc, if_false, ih (fun e => h (List.mem_cons_of_mem _ e))]
    split <;> simp_all

theorem universalNL_id (s : Str) (h : '\r' ∉ s) : universalNL s = s := by
  simpa [universalNL, universalNLAux] using universalNLAux_append s [] h

/-- `u`: the medium is a text-mode file (universal newlines), else a `StringIO` -/
theorem medium_cons_line (u : Bool) (s rest : Str) (h : NoNL s) :
    (if u then universalNL (s ++ '\n' :: rest) else s ++ '\n' :: rest) =
      s ++ '\n' :: (if u then universalNL rest else rest) := by
  cases u
  · rfl
  · exact universalNLAux_append s _ fun hm => (h _ hm).2 rfl

theorem physLines_cons_line (u : Bool) (s rest : Str) (h : NoNL s) :
    physLines u (s ++ '\n' :: rest) = s :: physLines u rest := by
  unfold physLines
  rw [medium_cons_line u s rest h]
  exact readlines_cons_line s _ fun c hc => (h c hc).1

theorem physLines_nil (u : Bool) : physLines u [] = [] := by cases u <;> decide

theorem lex_cons_line (u : Bool) (s rest : Str) (h : NoNL s) :
    lex u (s ++ '\n' :: rest) = lexLine s :: lex u rest := by
  simp [lex, physLines_cons_line u s rest h]

theorem lex_nil (u : Bool) : lex u [] = [] := by simp [lex, physLines_nil]

theorem lex_line (u : Bool) (s : Str) (h : NoNL s) : lex u (s ++ ['\n']) = [lexLine s] := by
  rw [lex_cons_line u s [] h, lex_nil]

theorem lex_lines {α} (u : Bool) (line : α → Str) (row : α → Row) (xs : List α)
    (h : ∀ x ∈ xs, NoNL (line x) ∧ lexLine (line x) = row x) :
    lex u (xs.flatMap (fun x => line x ++ ['\n'])) = xs.map row := by
  induction xs with
  | nil => exact lex_nil u
  | cons x xs ih =>
    have hx := h x (by simp)
    rw [List.flatMap_cons, List.append_assoc, List.singleton_append, lex_cons_line u _ _ hx.1, hx.2,
      ih (fun y hy => h y (by simp [hy])), List.map_cons]

end Cnfgen.IO
