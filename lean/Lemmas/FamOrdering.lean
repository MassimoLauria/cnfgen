/-
Lemmas about the ordering-principle model (`Fam/Ordering.lean`).
-/
import CnfgenModel.Fam.Ordering
import CnfgenModel.Core.Iter
import Lemmas.FamC03aBasic
import Lemmas.VarsEnum
namespace Cnfgen.Fam.Ordering
open Cnfgen.FamC03a

theorem mem_verts {n v : Nat} : v ∈ verts n ↔ 1 ≤ v ∧ v ≤ n := mem_rangeN_one (n := n)

theorem mem_perm3 {n a b c : Nat} :
    (a, b, c) ∈ perm3 n ↔ (1 ≤ a ∧ a ≤ n) ∧ (1 ≤ b ∧ b ≤ n) ∧ (1 ≤ c ∧ c ≤ n) ∧ a ≠ b ∧ a ≠ c ∧ b ≠ c := by
  simp only [perm3, List.mem_flatMap, List.mem_map, List.mem_filter, mem_verts, Prod.mk.injEq,
    Bool.and_eq_true, bne_iff_ne, ne_eq]
  constructor
  · rintro ⟨v1, h1, v2, h2, v3, ⟨h3, ⟨hab, hac⟩, hbc⟩, rfl, rfl, rfl⟩
    exact ⟨h1, h2, h3, hab, hac, hbc⟩
  · rintro ⟨h1, h2, h3, hab, hac, hbc⟩
    exact ⟨a, h1, b, h2, c, ⟨h3, ⟨hab, hac⟩, hbc⟩, rfl, rfl, rfl⟩

theorem mem_comb3 {n a b c : Nat} :
    (a, b, c) ∈ comb3 n ↔ 1 ≤ a ∧ a < b ∧ b < c ∧ c ≤ n := by
  simp only [comb3, List.mem_flatMap, List.mem_map, List.mem_filter, mem_verts, Prod.mk.injEq,
    Bool.and_eq_true, decide_eq_true_eq]
  constructor
  · rintro ⟨v1, h1, v2, h2, v3, ⟨h3, hab, hbc⟩, rfl, rfl, rfl⟩
    omega
  · rintro ⟨h1, hab, hbc, hc⟩
    exact ⟨a, by omega, b, by omega, c, ⟨by omega, hab, hbc⟩, rfl, rfl, rfl⟩

theorem mem_comb2 {n a b : Nat} : (a, b) ∈ comb2 n ↔ 1 ≤ a ∧ a < b ∧ b ≤ n := by
  simp only [comb2, List.mem_flatMap, List.mem_map, List.mem_filter, mem_verts, Prod.mk.injEq,
    decide_eq_true_eq]
  constructor
  · rintro ⟨v1, h1, v2, ⟨h2, hab⟩, rfl, rfl⟩
    omega
  · rintro ⟨h1, hab, hb⟩
    exact ⟨a, by omega, b, ⟨by omega, hab⟩, rfl, rfl⟩

/-- `itertools.permutations(V, 2)`, written like the enumerations of the model -/
def perm2 (n : Nat) : List (Nat × Nat) :=
  (verts n).flatMap fun v1 => ((verts n).filter (· != v1)).map fun v2 => (v1, v2)

theorem mem_perm2 {n a b : Nat} : (a, b) ∈ perm2 n ↔ (1 ≤ a ∧ a ≤ n) ∧ (1 ≤ b ∧ b ≤ n) ∧ a ≠ b := by
  simp only [perm2, List.mem_flatMap, List.mem_map, List.mem_filter, mem_verts, Prod.mk.injEq, bne_iff_ne, ne_eq]
  constructor
  · rintro ⟨v1, h1, v2, ⟨h2, hne⟩, rfl, rfl⟩
    exact ⟨h1, h2, fun h => hne h.symm⟩
  · rintro ⟨h1, h2, hne⟩
    exact ⟨a, h1, b, ⟨h2, fun h => hne h.symm⟩, rfl, rfl⟩

/-- the nested-loop enumerations are `itertools.combinations` of `Core/Iter`
(here on a concrete size; for every `n`: `combosSeqs_two_eq`, `combosSeqs_three_eq`, `combId_eq_idxOf` in
`Lemmas/GenOrderIter.lean`) -/
example : (comb3 6).map (fun t => [t.1, t.2.1, t.2.2]) = combos (rangeN 1 7) 3 := by decide +kernel
example : (comb2 6).map (fun t => [t.1, t.2]) = combos (rangeN 1 7) 2 := by decide +kernel
/-- identifiers are the 1-based positions in `combinations(range(1,n+1),2)` -/
example : ((combos (rangeN 1 7) 2).map fun w => combId 6 (w.getD 0 0) (w.getD 1 0)) = (List.range 15).map (· + 1) := by
  decide +kernel
/-- `completeG` is what `Graph.complete_graph` builds with `add_edge` -/
example : (SimpleG.ofEdges 4 (comb2 4)).toOption = some (completeG 4) := by decide +kernel

/-! An enumeration mapped to its identifiers is an interval that starts at 1 (`permIds`, `combIds`: row after row, `Vars.ids_flatMap`);
range and injectivity, and in `Lemmas/GenOrderIter.lean` "identifier = position", are read off that equation. -/

theorem verts_eq (n : Nat) : verts n = List.range' 1 n := by
  rw [verts, List.range'_eq_map_range]
  exact List.map_congr_left fun _ _ => Nat.add_comm _ _

theorem verts_filter_lt (a m : Nat) : (verts (a + m)).filter (fun b => decide (a < b)) = List.range' (1 + a) m := by
  rw [verts_eq, ← List.range'_append_1, List.filter_append, List.filter_eq_nil_iff.2, List.filter_eq_self.2, List.nil_append]
  · intro b hb; have := List.mem_range'_1.1 hb; simp; omega
  · intro b hb; have := List.mem_range'_1.1 hb; simp; omega

theorem verts_filter_ne (i m : Nat) :
    (verts (i + 1 + m)).filter (· != i + 1) = List.range' 1 i ++ List.range' (i + 2) m := by
  rw [verts_eq, ← List.range'_append_1, ← List.range'_append_1, List.filter_append, List.filter_append,
    List.filter_eq_self.2, List.filter_eq_nil_iff.2, List.filter_eq_self.2, List.append_nil, Nat.add_comm 1]
  · intro b hb; have := List.mem_range'_1.1 hb; simp; omega
  · intro b hb; have := List.mem_range'_1.1 hb; simp; omega
  · intro b hb; have := List.mem_range'_1.1 hb; simp; omega

theorem permId_pos {n u v : Nat} (hu : 1 ≤ u) (hv : 1 ≤ v) (h : u ≠ v) : 1 ≤ permId n u v := by
  unfold permId; split <;> omega

theorem combId_pos {n u v : Nat} (h : u < v) : 1 ≤ combId n u v := by
  unfold combId; omega

/-- row `i + 1` holds the `n - 1` others in order: the smaller ones, then the larger ones -/
theorem permIds (n : Nat) : (perm2 n).map (fun p => permId n p.1 p.2) = List.range' 1 (n * (n - 1)) := by
  rw [perm2, verts, List.flatMap_map]
  refine Vars.ids_flatMap (tot := (· * (n - 1))) (len := fun _ => n - 1) (Nat.zero_mul _) (fun _ => Nat.succ_mul _ _) n
    fun i hi => ?_
  obtain ⟨m, rfl⟩ : ∃ m, n = i + 1 + m := ⟨n - (i + 1), by omega⟩
  rw [List.map_map, ← verts, verts_filter_ne, List.map_append, Vars.map_range'_of_add (c := 1 + i * (i + 1 + m - 1)),
    Vars.map_range'_of_add (c := 1 + i * (i + 1 + m - 1) + i), List.range'_append_1]
  · congr 1; omega
  · intro t _; simp only [Function.comp, permId, Nat.add_sub_cancel]; split <;> omega
  · intro t _; simp only [Function.comp, permId, Nat.add_sub_cancel]; split <;> omega

theorem permId_range {n u v : Nat} (hu : 1 ≤ u ∧ u ≤ n) (hv : 1 ≤ v ∧ v ≤ n) (h : u ≠ v) :
    1 ≤ permId n u v ∧ permId n u v ≤ n * (n - 1) :=
  have : 1 ≤ permId n u v ∧ permId n u v < 1 + n * (n - 1) := Vars.ids_range (permIds n) (mem_perm2.2 ⟨hu, hv, h⟩)
  ⟨this.1, Nat.lt_one_add_iff.1 this.2⟩

theorem permId_inj {n u v u' v' : Nat} (hu : 1 ≤ u ∧ u ≤ n) (hv : 1 ≤ v ∧ v ≤ n) (h : u ≠ v)
    (hu' : 1 ≤ u' ∧ u' ≤ n) (hv' : 1 ≤ v' ∧ v' ≤ n) (h' : u' ≠ v')
    (heq : permId n u v = permId n u' v') : u = u' ∧ v = v' :=
  Prod.mk.inj (Vars.ids_inj (permIds n) (mem_perm2.2 ⟨hu, hv, h⟩) (mem_perm2.2 ⟨hu', hv', h'⟩) heq)

theorem combOff_closed (n : Nat) : ∀ k, k ≤ n → 2 * combOff n k + k * (k + 1) = 2 * k * n
  | 0, _ => by simp [combOff]
  | k + 1, h => by
    have ih := combOff_closed n k (by omega)
    obtain ⟨d, rfl⟩ : ∃ d, n = k + 1 + d := ⟨n - (k + 1), by omega⟩
    simp only [combOff]
    have : k + 1 + d - (k + 1) = d := by omega
    rw [this]
    simp only [Nat.mul_add, Nat.add_mul, Nat.mul_one, Nat.one_mul] at ih ⊢
    omega

theorem combOff_full (n : Nat) : combOff n n = n * (n - 1) / 2 := by
  have h := combOff_closed n n (Nat.le_refl _)
  rw [Nat.mul_sub_one]
  simp only [Nat.mul_add, Nat.mul_one, Nat.mul_assoc] at h
  omega

/-- row `i + 1` holds the `n - (i + 1)` larger ones; `combOff n i` identifiers stand before it -/
theorem combIds (n : Nat) : (comb2 n).map (fun p => combId n p.1 p.2) = List.range' 1 (combOff n n) := by
  rw [comb2, verts, List.flatMap_map]
  refine Vars.ids_flatMap (tot := combOff n) (len := fun i => n - (i + 1)) rfl (fun _ => rfl) n fun i hi => ?_
  obtain ⟨m, rfl⟩ : ∃ m, n = i + 1 + m := ⟨n - (i + 1), by omega⟩
  rw [List.map_map, ← verts, verts_filter_lt, Nat.add_sub_cancel_left]
  exact Vars.map_range'_of_add fun t _ => by simp only [Function.comp, combId, Nat.add_sub_cancel]; omega

theorem combId_range {n u v : Nat} (hu : 1 ≤ u) (h : u < v) (hv : v ≤ n) :
    1 ≤ combId n u v ∧ combId n u v ≤ n * (n - 1) / 2 :=
  have : 1 ≤ combId n u v ∧ combId n u v < 1 + combOff n n := Vars.ids_range (combIds n) (mem_comb2.2 ⟨hu, h, hv⟩)
  ⟨this.1, combOff_full n ▸ Nat.lt_one_add_iff.1 this.2⟩

theorem combId_inj {n u v u' v' : Nat} (hu : 1 ≤ u) (h : u < v) (hvn : v ≤ n)
    (hu' : 1 ≤ u') (h' : u' < v') (hvn' : v' ≤ n)
    (heq : combId n u v = combId n u' v') : u = u' ∧ v = v' :=
  Prod.mk.inj (Vars.ids_inj (combIds n) (mem_comb2.2 ⟨hu, h, hvn⟩) (mem_comb2.2 ⟨hu', h', hvn'⟩) heq)

/-! A non-empty finite set in which every element has an `R`-predecessor does not exist once a smaller set of the same kind
can be carved out below its maximum; the two Knuth-type lemmas differ only in which smaller set their restricted
transitivity allows. -/

def NoMin (R : Nat → Nat → Prop) (S : Nat → Prop) : Prop :=
  (∃ v, S v) ∧ ∀ v, S v → ∃ u, S u ∧ u ≠ v ∧ R u v

theorem no_descent (R : Nat → Nat → Prop) (S₀ : Nat → Prop)
    (step : ∀ S m, (∀ v, S v → S₀ v) → NoMin R S → S m → (∀ v, S v → v ≤ m) →
      ∃ S', (∀ v, S' v → S v ∧ v ≠ m) ∧ NoMin R S') :
    ∀ N S, (∀ v, S v → S₀ v) → (∀ v, S v → v ≤ N) → ¬ NoMin R S := by
  intro N
  induction N with
  | zero =>
    intro S _ hb ⟨⟨v, hv⟩, hmin⟩
    obtain ⟨u, hu, hne, _⟩ := hmin v hv
    have := hb v hv; have := hb u hu; omega
  | succ N ih =>
    intro S hsub hb hS
    by_cases hm : S (N + 1)
    · obtain ⟨S', hS', hno⟩ := step S (N + 1) hsub hS hm hb
      refine ih S' (fun v hv => hsub v (hS' v hv).1) (fun v hv => ?_) hno
      have := hb v (hS' v hv).1; have := (hS' v hv).2; omega
    · refine ih S hsub (fun v hv => ?_) hS
      have := hb v hv
      have : v ≠ N + 1 := fun h => hm (h ▸ hv)
      omega

/-- (Knuth variant 2 and everything stronger) a relation on a non-empty finite set of naturals
that is antisymmetric, transitive at least through a *largest middle element*, and in which every
element has a predecessor, does not exist: drop the largest element. -/
theorem no_order_k2 (N : Nat) (S : Nat → Prop) (R : Nat → Nat → Prop)
    (hb : ∀ v, S v → v ≤ N) (hne : ∃ v, S v)
    (has : ∀ u v, S u → S v → u ≠ v → ¬ (R u v ∧ R v u))
    (htr : ∀ a b c, S a → S b → S c → a ≠ b → b ≠ c → a ≠ c → a < b → c < b → R a b → R b c → R a c)
    (hmin : ∀ v, S v → ∃ u, S u ∧ u ≠ v ∧ R u v) : False := by
  refine no_descent R S (fun T m hsub hT hm hmax => ?_) N S (fun _ h => h) hb ⟨hne, hmin⟩
  obtain ⟨w, hw, hwm, hRw⟩ := hT.2 m hm
  refine ⟨fun v => T v ∧ v ≠ m, fun _ h => h, ⟨w, hw, hwm⟩, fun v ⟨hv, hvm⟩ => ?_⟩
  obtain ⟨u, hu, huv, hR⟩ := hT.2 v hv
  by_cases hum : u = m
  · subst hum
    have hwv : w ≠ v := fun h => has w u (hsub w hw) (hsub u hm) hwm ⟨hRw, h ▸ hR⟩
    have := hmax w hw; have := hmax v hv
    exact ⟨w, ⟨hw, hwm⟩, hwv, htr w u v (hsub w hw) (hsub u hm) (hsub v hv) hwm (Ne.symm hvm) hwv (by omega) (by omega)
      hRw hR⟩
  · exact ⟨u, ⟨hu, hum⟩, huv, hR⟩

/-- (Knuth variant 3) the same with transitivity only through a *largest last element*: the predecessors of the
largest element are closed under predecessors. -/
theorem no_order_k3 (N : Nat) (S : Nat → Prop) (R : Nat → Nat → Prop)
    (hb : ∀ v, S v → v ≤ N) (hne : ∃ v, S v)
    (has : ∀ u v, S u → S v → u ≠ v → ¬ (R u v ∧ R v u))
    (htr : ∀ a b c, S a → S b → S c → a ≠ b → b ≠ c → a ≠ c → a < c → b < c → R a b → R b c → R a c)
    (hmin : ∀ v, S v → ∃ u, S u ∧ u ≠ v ∧ R u v) : False := by
  refine no_descent R S (fun T m hsub hT hm hmax => ?_) N S (fun _ h => h) hb ⟨hne, hmin⟩
  obtain ⟨w, hw, hwm, hRw⟩ := hT.2 m hm
  refine ⟨fun v => T v ∧ v ≠ m ∧ R v m, fun _ h => ⟨h.1, h.2.1⟩, ⟨w, hw, hwm, hRw⟩, fun v ⟨hv, hvm, hRv⟩ => ?_⟩
  obtain ⟨u, hu, huv, hR⟩ := hT.2 v hv
  have hum : u ≠ m := fun h => has v m (hsub v hv) (hsub m hm) hvm ⟨hRv, h ▸ hR⟩
  have := hmax u hu; have := hmax v hv
  exact ⟨u, ⟨hu, hum, htr u v m (hsub u hu) (hsub v hv) (hsub m hm) huv hvm hum (by omega) (by omega) hR hRv⟩, huv, hR⟩

/-- the facts about a simple graph object that the theorems use: neighbours are vertices of the
graph, different from the vertex itself (C16's invariant of reachable `Graph` objects) -/
def NbrsOK (G : SimpleG) : Prop := ∀ v, 1 ≤ v → v ≤ G.n → ∀ u ∈ G.nbrs v, 1 ≤ u ∧ u ≤ G.n ∧ u ≠ v

/-- the relation "u is below v" read off an assignment (plain / total / Knuth encodings) -/
def Rel (α : Assign) (n u v : Nat) : Prop := α (permId n u v) = true
/-- the relation "u is below v" read off an assignment (smart encoding) -/
def RelS (α : Assign) (n u v : Nat) : Prop :=
  if u < v then α (combId n u v) = true else α (combId n v u) = false

/-- the documented axioms over a relation `R` on the vertices `1..n` (irreflexive by construction:
there is no variable for `R v v`) -/
structure OrdSpec (G : SimpleG) (total plant : Bool) (knuth : Int) (R : Nat → Nat → Prop) : Prop where
  /-- every vertex, except the last one if planted, has a smaller neighbour -/
  nonmin : ∀ v, 1 ≤ v → v ≤ G.n → ¬ (v = G.n ∧ plant = true) → ∃ u ∈ G.nbrs v, R u v
  /-- transitivity (only the instances a Knuth variant keeps) -/
  trans : ∀ a b c, 1 ≤ a → a ≤ G.n → 1 ≤ b → b ≤ G.n → 1 ≤ c → c ≤ G.n → a ≠ b → a ≠ c → b ≠ c →
    knuthKeep knuth a b c = true → R a b → R b c → R a c
  antisym : ∀ a b, 1 ≤ a → a < b → b ≤ G.n → ¬ (R a b ∧ R b a)
  total : total = true → ∀ a b, 1 ≤ a → a < b → b ≤ G.n → R a b ∨ R b a

theorem exempt_iff (v n : Nat) (plant : Bool) :
    (!(v == n && plant)) = true ↔ ¬ (v = n ∧ plant = true) := by
  cases plant <;> simp

theorem clause3_holds (α : Assign) (i j k : Nat) (hk : 1 ≤ k) :
    clauseHolds α [-(i : Int), -(j : Int), (k : Int)] = true ↔ (α i = true → α j = true → α k = true) := by
  simp only [clauseHolds, List.any_cons, List.any_nil, Bool.or_false, litHolds_neg_natCast, litHolds_natCast α hk]
  cases α i <;> cases α j <;> cases α k <;> simp

theorem clause3_holds' (α : Assign) (i j k : Nat) (hi : 1 ≤ i) (hj : 1 ≤ j) :
    clauseHolds α [(i : Int), (j : Int), -(k : Int)] = true ↔ (α k = true → α i = true ∨ α j = true) := by
  simp only [clauseHolds, List.any_cons, List.any_nil, Bool.or_false, litHolds_neg_natCast, litHolds_natCast α hi,
    litHolds_natCast α hj]
  cases α i <;> cases α j <;> cases α k <;> simp

theorem nonmin_holds (G : SimpleG) (hG : NbrsOK G) (plant : Bool) (α : Assign) :
    (∀ c ∈ nonmin G false plant, c.holds α = true) ↔
      ∀ v, 1 ≤ v → v ≤ G.n → ¬ (v = G.n ∧ plant = true) → ∃ u ∈ G.nbrs v, Rel α G.n u v := by
  simp only [nonmin, List.forall_mem_map, List.forall_mem_filter, mem_verts, exempt_iff, and_imp, Con.holds,
    nonminClause, Bool.false_eq_true, if_false, X, Rel]
  exact forall_congr' fun v => forall₃_congr fun h1 h2 _ => clauseHolds_map_pos α _ _ fun u hu =>
    have := hG v h1 h2 u hu
    permId_pos this.1 h1 this.2.2

theorem below_holds (α : Assign) (n u v : Nat) :
    litHolds α (below n u v) = true ↔ RelS α n u v := by
  unfold below RelS Xs
  split
  · rename_i hlt; rw [litHolds_natCast α (combId_pos hlt)]
  · rw [litHolds_neg_natCast]; simp

theorem nonminS_holds (G : SimpleG) (plant : Bool) (α : Assign) :
    (∀ c ∈ nonmin G true plant, c.holds α = true) ↔
      ∀ v, 1 ≤ v → v ≤ G.n → ¬ (v = G.n ∧ plant = true) → ∃ u ∈ G.nbrs v, RelS α G.n u v := by
  simp only [nonmin, List.forall_mem_map, List.forall_mem_filter, mem_verts, exempt_iff, and_imp, Con.holds,
    nonminClause, if_true, clauseHolds, List.any_map, List.any_eq_true, Function.comp, below_holds]

theorem trans_holds (n : Nat) (knuth : Int) (α : Assign) :
    (∀ c ∈ trans n knuth, c.holds α = true) ↔
      ∀ a b c, 1 ≤ a → a ≤ n → 1 ≤ b → b ≤ n → 1 ≤ c → c ≤ n → a ≠ b → a ≠ c → b ≠ c →
        knuthKeep knuth a b c = true → Rel α n a b → Rel α n b c → Rel α n a c := by
  simp only [trans, List.forall_mem_map, List.forall_mem_filter, Prod.forall, mem_perm3, and_imp, Con.holds, X, Rel]
  exact forall₃_congr fun a b c => forall₅_congr fun h1 _ _ _ h5 => forall₅_congr fun _ _ hac _ _ =>
    clause3_holds α _ _ _ (permId_pos h1 h5 hac)

theorem antisym_holds (n : Nat) (α : Assign) :
    (∀ c ∈ antisym n, c.holds α = true) ↔
      ∀ a b, 1 ≤ a → a < b → b ≤ n → ¬ (Rel α n a b ∧ Rel α n b a) := by
  simp only [antisym, List.forall_mem_map, Prod.forall, mem_comb2, and_imp, Con.holds, X, Rel, clauseHolds_two_neg]

theorem totality_holds (n : Nat) (α : Assign) :
    (∀ c ∈ totality n, c.holds α = true) ↔
      ∀ a b, 1 ≤ a → a < b → b ≤ n → (Rel α n a b ∨ Rel α n b a) := by
  simp only [totality, List.forall_mem_map, Prod.forall, mem_comb2, and_imp, Con.holds, X, Rel]
  exact forall₂_congr fun a b => forall₃_congr fun h1 h2 _ =>
    clauseHolds_two_pos α (permId_pos h1 (by omega) (by omega)) (permId_pos (by omega) h1 (by omega))

theorem gop_holds_iff (G : SimpleG) (hG : NbrsOK G) (total plant : Bool) (knuth : Int) (α : Assign) :
    (gop G total false plant knuth).holds α = true ↔ OrdSpec G total plant knuth (Rel α G.n) := by
  simp only [gop, Bool.false_eq_true, if_false]
  rw [Formula.holds_append, List.forall_mem_append, List.forall_mem_append, nonmin_holds G hG, trans_holds,
    antisym_holds, forall_mem_ite_nil, totality_holds]
  exact ⟨fun ⟨⟨⟨h1, h2⟩, h3⟩, h4⟩ => ⟨h1, h2, h3, h4⟩, fun ⟨h1, h2, h3, h4⟩ => ⟨⟨⟨h1, h2⟩, h3⟩, h4⟩⟩

theorem knuthKeep_k3 {a b c : Nat} (hac : a < c) (hbc : b < c) : knuthKeep 3 a b c = true := by
  have h1 : ¬ c < a := by omega
  have h2 : ¬ c < b := by omega
  simp [knuthKeep, h1, h2]

theorem knuthKeep_k2 {knuth : Int} (hk : knuth ≠ 3) {a b c : Nat} (hab : a < b) (hcb : c < b) :
    knuthKeep knuth a b c = true := by
  have h1 : ¬ b < a := by omega
  have h2 : ¬ b < c := by omega
  simp [knuthKeep, h1, h2, hk]

theorem knuthKeep_zero (a b c : Nat) : knuthKeep 0 a b c = true := by
  simp [knuthKeep]

theorem ordSpec_false (G : SimpleG) (hG : NbrsOK G) (hn : 1 ≤ G.n) (total : Bool) (knuth : Int)
    (R : Nat → Nat → Prop) : ¬ OrdSpec G total false knuth R := by
  intro h
  have has : ∀ u v, (1 ≤ u ∧ u ≤ G.n) → (1 ≤ v ∧ v ≤ G.n) → u ≠ v → ¬ (R u v ∧ R v u) := by
    intro u v hu hv hne
    rcases Nat.lt_or_gt_of_ne hne with hlt | hlt
    · exact h.antisym u v hu.1 hlt hv.2
    · intro hh; exact h.antisym v u hv.1 hlt hu.2 ⟨hh.2, hh.1⟩
  have hmin : ∀ v, (1 ≤ v ∧ v ≤ G.n) → ∃ u, (1 ≤ u ∧ u ≤ G.n) ∧ u ≠ v ∧ R u v := by
    intro v hv
    obtain ⟨u, hu, hR⟩ := h.nonmin v hv.1 hv.2 (by simp)
    have := hG v hv.1 hv.2 u hu
    exact ⟨u, ⟨this.1, this.2.1⟩, this.2.2, hR⟩
  by_cases hk : knuth = 3
  · subst hk
    refine no_order_k3 G.n (fun v => 1 ≤ v ∧ v ≤ G.n) R (fun v hv => hv.2) ⟨1, Nat.le_refl _, hn⟩ has ?_ hmin
    intro a b c ha hb hc hab hbc hac hlt1 hlt2
    exact h.trans a b c ha.1 ha.2 hb.1 hb.2 hc.1 hc.2 hab hac hbc (knuthKeep_k3 hlt1 hlt2)
  · refine no_order_k2 G.n (fun v => 1 ≤ v ∧ v ≤ G.n) R (fun v hv => hv.2) ⟨1, Nat.le_refl _, hn⟩ has ?_ hmin
    intro a b c ha hb hc hab hbc hac hlt1 hlt2
    exact h.trans a b c ha.1 ha.2 hb.1 hb.2 hc.1 hc.2 hab hac hbc (knuthKeep_k2 hk hlt1 hlt2)

theorem gop_unsat (G : SimpleG) (hG : NbrsOK G) (hn : 1 ≤ G.n) (total : Bool) (knuth : Int) :
    ¬ ∃ α, (gop G total false false knuth).holds α = true := by
  rintro ⟨α, hα⟩
  exact ordSpec_false G hG hn total knuth _ ((gop_holds_iff G hG total false knuth α).1 hα)

theorem RelS_lt {α : Assign} {n u v : Nat} (h : u < v) : RelS α n u v ↔ α (combId n u v) = true := by
  unfold RelS; rw [if_pos h]

theorem RelS_gt {α : Assign} {n u v : Nat} (h : v < u) : RelS α n u v ↔ α (combId n v u) = false := by
  unfold RelS; rw [if_neg (by omega)]

theorem RelS_flip {α : Assign} {n u v : Nat} (h : u ≠ v) : RelS α n v u ↔ ¬ RelS α n u v := by
  rcases Nat.lt_or_gt_of_ne h with hlt | hlt
  · rw [RelS_gt hlt, RelS_lt hlt, Bool.not_eq_true]
  · rw [RelS_lt hlt, RelS_gt hlt, Bool.not_eq_false]

theorem transSmart_holds (n : Nat) (α : Assign) :
    (∀ c ∈ transSmart n, c.holds α = true) ↔
      ∀ a b c, 1 ≤ a → a < b → b < c → c ≤ n →
        ¬ (RelS α n a b ∧ RelS α n b c ∧ RelS α n c a) ∧ ¬ (RelS α n a c ∧ RelS α n c b ∧ RelS α n b a) := by
  simp only [transSmart, List.forall_mem_flatMap, Prod.forall, mem_comb3, and_imp, List.mem_cons, List.not_mem_nil,
    or_false, forall_eq_or_imp, forall_eq, Con.holds, Xs]
  refine forall₃_congr fun a b c => forall₄_congr fun _ h2 h3 _ => ?_
  rw [clause3_holds' α _ _ _ (combId_pos h2) (combId_pos h3), clause3_holds α _ _ _ (combId_pos (by omega)),
    RelS_lt h2, RelS_lt h3, RelS_lt (Nat.lt_trans h2 h3), RelS_gt h2, RelS_gt h3, RelS_gt (Nat.lt_trans h2 h3)]
  cases α (combId n a b) <;> cases α (combId n b c) <;> cases α (combId n a c) <;> simp

/-- a relation with exactly one of `R u v`, `R v u` for `u ≠ v` (a tournament) is transitive iff no sorted triple is a
directed triangle in either direction: a failure of transitivity is a triangle, and one of its rotations starts at its
least vertex -/
theorem tournament_trans {n : Nat} {R : Nat → Nat → Prop} (hf : ∀ u v, u ≠ v → (R v u ↔ ¬ R u v)) :
    (∀ a b c, 1 ≤ a → a < b → b < c → c ≤ n → ¬ (R a b ∧ R b c ∧ R c a) ∧ ¬ (R a c ∧ R c b ∧ R b a)) ↔
    (∀ a b c, 1 ≤ a → a ≤ n → 1 ≤ b → b ≤ n → 1 ≤ c → c ≤ n → a ≠ b → a ≠ c → b ≠ c → R a b → R b c → R a c) := by
  constructor
  · intro h x y z hx1 hx2 hy1 hy2 hz1 hz2 hxy hxz hyz r1 r2
    refine Classical.not_not.1 fun hn => ?_
    have r3 := (hf x z hxz).2 hn
    rcases Nat.lt_or_gt_of_ne hxy with h1 | h1 <;> rcases Nat.lt_or_gt_of_ne hxz with h2 | h2 <;>
      rcases Nat.lt_or_gt_of_ne hyz with h3 | h3
    · exact (h x y z hx1 h1 h3 hz2).1 ⟨r1, r2, r3⟩
    · exact (h x z y hx1 h2 h3 hy2).2 ⟨r1, r2, r3⟩
    · omega
    · exact (h z x y hz1 h2 h1 hy2).1 ⟨r3, r1, r2⟩
    · exact (h y x z hy1 h1 h2 hz2).2 ⟨r2, r3, r1⟩
    · omega
    · exact (h y z x hy1 h3 h2 hx2).1 ⟨r2, r3, r1⟩
    · exact (h z y x hz1 h3 h1 hx2).2 ⟨r3, r1, r2⟩
  · intro h a b c h1 h2 h3 h4
    refine ⟨fun ⟨r1, r2, r3⟩ => (hf a c (by omega)).1 r3 ?_, fun ⟨r1, r2, r3⟩ => (hf a b (by omega)).1 r3 ?_⟩
    · exact h a b c h1 (by omega) (by omega) (by omega) (by omega) h4 (by omega) (by omega) (by omega) r1 r2
    · exact h a c b h1 (by omega) (by omega) h4 (by omega) (by omega) (by omega) (by omega) (by omega) r1 r2

/-- exactly the documented axioms (smart encoding: `total` and `knuth` are ignored by the code) -/
theorem gop_smart_holds_iff (G : SimpleG) (total plant : Bool) (knuth : Int) (α : Assign) :
    (gop G total true plant knuth).holds α = true ↔ OrdSpec G true plant 0 (RelS α G.n) := by
  simp only [gop, if_true]
  rw [Formula.holds_append, nonminS_holds G, transSmart_holds, tournament_trans fun _ _ => RelS_flip]
  constructor
  · rintro ⟨h1, h2⟩
    exact ⟨h1, fun a b c ha1 ha2 hb1 hb2 hc1 hc2 hab hac hbc _ => h2 a b c ha1 ha2 hb1 hb2 hc1 hc2 hab hac hbc,
      fun a b _ hab _ h => (RelS_flip (Nat.ne_of_lt hab)).1 h.2 h.1,
      fun _ a b _ hab _ => Classical.or_iff_not_imp_left.2 (RelS_flip (Nat.ne_of_lt hab)).2⟩
  · intro h
    exact ⟨h.nonmin, fun a b c ha1 ha2 hb1 hb2 hc1 hc2 hab hac hbc =>
      h.trans a b c ha1 ha2 hb1 hb2 hc1 hc2 hab hac hbc (knuthKeep_zero a b c)⟩

theorem gop_smart_unsat (G : SimpleG) (hG : NbrsOK G) (hn : 1 ≤ G.n) (total : Bool) (knuth : Int) :
    ¬ ∃ α, (gop G total true false knuth).holds α = true := by
  rintro ⟨α, hα⟩
  exact ordSpec_false G hG hn true 0 _ ((gop_smart_holds_iff G total false knuth α).1 hα)

theorem gop_nvars (G : SimpleG) (total plant : Bool) (knuth : Int) :
    (gop G total false plant knuth).nvars = G.n * (G.n - 1) := by simp [gop]

theorem gop_smart_nvars (G : SimpleG) (total plant : Bool) (knuth : Int) :
    (gop G total true plant knuth).nvars = G.n * (G.n - 1) / 2 := by simp [gop]

theorem gop_wf (G : SimpleG) (hG : NbrsOK G) (total smart plant : Bool) (knuth : Int) :
    (gop G total smart plant knuth).WF := by
  have hnb : ∀ v ∈ (verts G.n).filter (fun v => !(v == G.n && plant)), ∀ u ∈ G.nbrs v,
      (1 ≤ u ∧ u ≤ G.n) ∧ (1 ≤ v ∧ v ≤ G.n) ∧ u ≠ v := fun v hv u hu =>
    have hv := mem_verts.1 (List.mem_filter.1 hv).1
    have := hG v hv.1 hv.2 u hu
    ⟨⟨this.1, this.2.1⟩, hv, this.2.2⟩
  have hpair : ∀ p ∈ comb2 G.n, (1 ≤ p.1 ∧ p.1 ≤ G.n) ∧ (1 ≤ p.2 ∧ p.2 ≤ G.n) ∧ p.1 ≠ p.2 := by
    rintro ⟨a, b⟩ hm
    have := mem_comb2.1 hm
    simp only; omega
  unfold gop
  split
  · refine G2.wf_of_consIn (lo := 1) (.append (.map fun v hv => .map fun u hu => ?_) (.flatMap fun ⟨a, b, d⟩ ht => ?_))
    · have := hnb v hv u hu
      unfold below
      split
      · have r := combId_range this.1.1 ‹_› this.2.1.2
        exact .pos r.1 r .nil
      · have r := combId_range this.2.1.1 (by omega) this.1.2
        exact .neg r.1 r .nil
    · obtain ⟨h1, h2, h3, h4⟩ := mem_comb3.1 ht
      have hab := combId_range h1 h2 (by omega : b ≤ G.n)
      have hbd := combId_range (by omega : 1 ≤ b) h3 h4
      have had := combId_range h1 (by omega : a < d) h4
      exact .cons (.pos hab.1 hab (.pos hbd.1 hbd (.neg had.1 had .nil)))
        (.cons (.neg hab.1 hab (.neg hbd.1 hbd (.pos had.1 had .nil))) .nil)
  · refine G2.wf_of_consIn (lo := 1) ((((G2.ConsIn.map fun v hv => .map fun u hu => ?_).append
      (.map fun t ht => ?_)).append (.map fun p hp => ?_)).append (.ite (fun _ => .map fun p hp => ?_) fun _ => .nil))
    · have := hnb v hv u hu
      have r := permId_range this.1 this.2.1 this.2.2
      exact .pos r.1 r .nil
    · obtain ⟨ha, hb, hc, hab, hac, hbc⟩ := mem_perm3.1 (List.mem_filter.1 ht).1
      have r1 := permId_range ha hb hab
      have r2 := permId_range hb hc hbc
      have r3 := permId_range ha hc hac
      exact .neg r1.1 r1 (.neg r2.1 r2 (.pos r3.1 r3 .nil))
    · obtain ⟨ha, hb, hne⟩ := hpair p hp
      have r1 := permId_range ha hb hne
      have r2 := permId_range hb ha (Ne.symm hne)
      exact .neg r1.1 r1 (.neg r2.1 r2 .nil)
    · obtain ⟨ha, hb, hne⟩ := hpair p hp
      have r1 := permId_range ha hb hne
      have r2 := permId_range hb ha (Ne.symm hne)
      exact .pos r1.1 r1 (.pos r2.1 r2 .nil)

theorem verts_getElem? (n k : Nat) (h : k < n) : (verts n)[k]? = some (k + 1) := by
  simp [verts, h]

theorem completeG_nbrs (n v : Nat) (h1 : 1 ≤ v) (h2 : v ≤ n) :
    (completeG n).nbrs v = (verts n).filter (· != v) := by
  obtain ⟨k, rfl⟩ : ∃ k, v = k + 1 := ⟨v - 1, by omega⟩
  simp only [SimpleG.nbrs, completeG, List.getD_cons_succ]
  rw [List.getD_eq_getElem?_getD, List.getElem?_map, verts_getElem? n k (by omega)]
  rfl

theorem completeG_ok (n : Nat) : NbrsOK (completeG n) := by
  intro v h1 h2 u hu
  rw [completeG_nbrs n v h1 h2] at hu
  simp only [List.mem_filter, mem_verts, bne_iff_ne, ne_eq] at hu
  exact ⟨hu.1.1, hu.1.2, hu.2⟩

theorem op_eq (n : Nat) (total smart plant : Bool) (knuth : Int) :
    op (n : Int) total smart plant knuth = .ok (gop (completeG n) total smart plant knuth) := by
  simp [op]

theorem op_neg (size : Int) (h : size < 0) (total smart plant : Bool) (knuth : Int) :
    op size total smart plant knuth = .error .valueError := by
  simp [op, h]

theorem ordSpec_congr (G : SimpleG) (hG : NbrsOK G) (total plant : Bool) (knuth : Int) (R R' : Nat → Nat → Prop)
    (h : ∀ u v, 1 ≤ u → u ≤ G.n → 1 ≤ v → v ≤ G.n → u ≠ v → (R u v ↔ R' u v))
    (hs : OrdSpec G total plant knuth R) : OrdSpec G total plant knuth R' := by
  refine ⟨?_, ?_, ?_, ?_⟩
  · intro v h1 h2 h3
    obtain ⟨u, hu, hR⟩ := hs.nonmin v h1 h2 h3
    have := hG v h1 h2 u hu
    exact ⟨u, hu, (h u v this.1 this.2.1 h1 h2 this.2.2).1 hR⟩
  · intro a b c h1 h2 h3 h4 h5 h6 hab hac hbc hk r1 r2
    exact (h a c h1 h2 h5 h6 hac).1 (hs.trans a b c h1 h2 h3 h4 h5 h6 hab hac hbc hk
      ((h a b h1 h2 h3 h4 hab).2 r1) ((h b c h3 h4 h5 h6 hbc).2 r2))
  · intro a b h1 h2 h3 hh
    exact hs.antisym a b h1 h2 h3 ⟨(h a b h1 (by omega) (by omega) h3 (by omega)).2 hh.1,
      (h b a (by omega) h3 h1 (by omega) (by omega)).2 hh.2⟩
  · intro ht a b h1 h2 h3
    rcases hs.total ht a b h1 h2 h3 with r | r
    · exact Or.inl ((h a b h1 (by omega) (by omega) h3 (by omega)).1 r)
    · exact Or.inr ((h b a (by omega) h3 h1 (by omega) (by omega)).1 r)

theorem gop_sat_iff (G : SimpleG) (hG : NbrsOK G) (total plant : Bool) (knuth : Int) :
    (∃ α, (gop G total false plant knuth).holds α = true) ↔ ∃ R, OrdSpec G total plant knuth R := by
  constructor
  · rintro ⟨α, hα⟩; exact ⟨_, (gop_holds_iff G hG total plant knuth α).1 hα⟩
  · rintro ⟨R, hR⟩
    obtain ⟨α, hα⟩ := exists_assign_of_inj (fun u v => (1 ≤ u ∧ u ≤ G.n) ∧ (1 ≤ v ∧ v ≤ G.n) ∧ u ≠ v) (permId G.n) R
      fun _ _ _ _ h h' e => permId_inj h.1 h.2.1 h.2.2 h'.1 h'.2.1 h'.2.2 e
    refine ⟨α, (gop_holds_iff G hG total plant knuth α).2 (ordSpec_congr G hG total plant knuth R _ ?_ hR)⟩
    exact fun u v h1 h2 h3 h4 hne => (hα u v ⟨⟨h1, h2⟩, ⟨h3, h4⟩, hne⟩).symm

theorem gop_smart_sat_iff (G : SimpleG) (hG : NbrsOK G) (total plant : Bool) (knuth : Int) :
    (∃ α, (gop G total true plant knuth).holds α = true) ↔ ∃ R, OrdSpec G true plant 0 R := by
  constructor
  · rintro ⟨α, hα⟩; exact ⟨_, (gop_smart_holds_iff G total plant knuth α).1 hα⟩
  · rintro ⟨R, hR⟩
    obtain ⟨α, key⟩ := exists_assign_of_inj (fun u v => 1 ≤ u ∧ u < v ∧ v ≤ G.n) (combId G.n) R
      fun _ _ _ _ h h' e => combId_inj h.1 h.2.1 h.2.2 h'.1 h'.2.1 h'.2.2 e
    refine ⟨α, (gop_smart_holds_iff G total plant knuth α).2 (ordSpec_congr G hG true plant 0 R _ ?_ hR)⟩
    intro u v h1 h2 h3 h4 hne
    rcases Nat.lt_or_gt_of_ne hne with hlt | hlt
    · rw [RelS_lt hlt]; exact (key u v ⟨h1, hlt, h4⟩).symm
    · rw [RelS_flip (Nat.ne_of_lt hlt), RelS_lt hlt, key v u ⟨h3, hlt, h2⟩]
      exact ⟨fun r r' => hR.antisym v u h3 hlt h2 ⟨r', r⟩, (hR.total rfl v u h3 hlt h2).resolve_left⟩

/-- the order `n < n-1 < … < 1` (the allowed minimum is the last vertex) -/
theorem completeG_planted_spec (n : Nat) (total : Bool) (knuth : Int) :
    OrdSpec (completeG n) total true knuth (fun u v => v < u) := by
  refine ⟨?_, ?_, ?_, ?_⟩
  · intro v h1 h2 h3
    have hn : (completeG n).n = n := rfl
    rw [hn] at h2 h3
    refine ⟨n, ?_, by simp at h3; omega⟩
    rw [completeG_nbrs n v h1 h2]
    simp only [List.mem_filter, mem_verts, bne_iff_ne, ne_eq]
    simp at h3
    omega
  · intro a b c _ _ _ _ _ _ _ _ _ _ r1 r2; omega
  · intro a b _ _ _ hh; omega
  · intro _ a b _ hab _; exact Or.inr hab

theorem op_planted_sat (n : Nat) (total smart : Bool) (knuth : Int) :
    ∃ α, (gop (completeG n) total smart true knuth).holds α = true := by
  cases smart
  · exact (gop_sat_iff _ (completeG_ok n) total true knuth).2 ⟨_, completeG_planted_spec n total knuth⟩
  · exact (gop_smart_sat_iff _ (completeG_ok n) total true knuth).2 ⟨_, completeG_planted_spec n true 0⟩

end Cnfgen.Fam.Ordering
