/-
Lemmas for the translated `GraphOrderingPrinciple`: the two word groups (`new_combinations(n, 2)`, `new_permutations(n, 2)`)
seen through the closed forms of the model (`combId`, `permId`: Lemmas/GenOrderIter.lean), loops that skip some iterations.
-/
import Lemmas.GenFamWord
import Lemmas.GenOrderIter
set_option linter.unusedSimpArgs false
namespace Cnfgen.GenFam
open Cnfgen Cnfgen.Vars Cnfgen.PyGen Cnfgen.GenVars Cnfgen.PyF Cnfgen.C11 Cnfgen.Fam Cnfgen.Fam.Ordering
open Cnfgen.GenOrderIter

theorem wordEnum_permutations (n k : Nat) : wordEnum "permutations" n k = some (permsSeqs n k) := by
  have h1 : ¬ ("permutations" = "combinations") := by decide
  have h2 : ¬ ("permutations" = "combinations_with_replacement") := by decide
  simp only [wordEnum, h1, h2, if_false, if_true]

/-- `new_permutations(n, k, label=…)` with a label that formats -/
theorem new_permutations_eq (s : FState) (nv : Nat) (hs : s.numvar = nv) (n k : Nat) :
    VariablesManager.new_permutations s (n : Int) (some (k : Int)) (Except.ok ()) =
      Except.ok (wordSelf nv n k "permutations" (permsSeqs n k),
        { s with numvar := ((nv + (permsSeqs n k).length : Nat) : Int) }) := by
  unfold VariablesManager.new_permutations
  simp only []
  rw [hs, gen_word_init_eq]
  have hneg : ¬ ((n : Int) < 0 ∨ (k : Int) < 0) := by omega
  simp only [Py.tryExcept, hneg, if_false, wordEnum_permutations, Int.toNat_natCast, Py.ok_bind]
  rw [add_variable_group_word_eq s nv _ _ _ _ hs, Py.ok_bind]

/-- `X(u, v)`, `u < v`, of the smart encoding -/
theorem comb_call (n u v : Nat) (h : 1 ≤ u ∧ u < v ∧ v ≤ n) :
    WordOfIndicesVariables.call (wordSelf 0 (n : Int) ((2 : Nat) : Int) "combinations" (combosSeqs n 2))
        [some (u : Int), some (v : Int)] = Except.ok (Sum.inl (Xs n u v)) := by
  have := word_call_word 0 (n : Int) ((2 : Nat) : Int) "combinations" (FamRamsey.pairs_nodup n) [u, v] (by simp)
    (FamRamsey.mem_pairs.2 h)
  simp only [natPat, List.map_cons, List.map_nil] at this
  rw [this, Nat.zero_add, combId_eq_idxOf h.1 h.2.1 h.2.2]
  rfl

/-- `X(u, v)`, `u ≠ v`, of the other encodings -/
theorem perm_call (n u v : Nat) (hu : 1 ≤ u ∧ u ≤ n) (hv : 1 ≤ v ∧ v ≤ n) (hne : u ≠ v) :
    WordOfIndicesVariables.call (wordSelf 0 (n : Int) 2 "permutations" (permsSeqs n 2))
        [some (u : Int), some (v : Int)] = Except.ok (Sum.inl (X n u v)) := by
  have := word_call_word 0 (n : Int) ((2 : Nat) : Int) "permutations" (permsSeqs_nodup n 2) [u, v] (by simp)
    (mem_permsSeqs_two.2 ⟨hu, hv, hne⟩)
  simp only [natPat, List.map_cons, List.map_nil, Nat.cast_ofNat] at this
  rw [this, Nat.zero_add, permId_eq_idxOf hu hv hne]
  rfl

theorem flatMap_ite_keep {α β : Type} (l : List α) (p : α → Bool) (f : α → β) :
    l.flatMap (fun a => if p a = true then [f a] else []) = (l.filter p).map f :=
  (flatMap_filter_eq p (fun a => [f a]) l).symm.trans List.map_eq_flatMap.symm

theorem pairs_verts (n : Nat) : pairs (rangeN 1 (n + 1)) = comb2 n := by
  have h := combosSeqs_two_eq n
  rw [combosSeqs, ← pairs_eq_combos] at h
  exact List.map_injective_iff.2 (fun a b hab => by
    cases a; cases b; simp only [List.cons.injEq, and_true] at hab; simp [hab.1, hab.2]) h

end Cnfgen.GenFam
