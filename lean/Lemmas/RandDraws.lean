/-
Helper lemmas for the draw-consuming monad `Rand.RandM` and its primitives.
-/
import CnfgenModel.Rand.Draws
namespace Cnfgen.Rand

theorem Legal.cons {d : Draw} {ds : List Draw} : Legal (d :: ds) ↔ d.Legal ∧ Legal ds := by
  simp [Legal]

theorem Legal.nil : Legal [] := by simp [Legal]

theorem Legal.append {a b : List Draw} : Legal (a ++ b) ↔ Legal a ∧ Legal b := by
  simp [Legal, List.mem_append, or_imp, forall_and]

namespace RandM
variable {α β : Type}

theorem pure_apply (a : α) (ds : List Draw) : (pure a : RandM α) ds = .ok (a, ds) := rfl

theorem bind_apply (x : RandM α) (f : α → RandM β) (ds : List Draw) :
    (x >>= f) ds = match x ds with
      | .error e => .error e
      | .ok (a, ds') => f a ds' := rfl

theorem pure_bind (a : α) (f : α → RandM β) : pure a >>= f = f a := rfl

theorem bind_eq_ok {x : RandM α} {f : α → RandM β} {ds : List Draw} {r : β × List Draw} :
    (x >>= f) ds = .ok r ↔ ∃ a ds', x ds = .ok (a, ds') ∧ f a ds' = .ok r := by
  rw [bind_apply]
  cases h : x ds with
  | error e => simp
  | ok p =>
    obtain ⟨a, ds'⟩ := p
    simp only [Except.ok.injEq, Prod.mk.injEq]
    constructor
    · intro h; exact ⟨a, ds', ⟨rfl, rfl⟩, h⟩
    · rintro ⟨_, _, ⟨rfl, rfl⟩, h⟩; exact h

theorem bind_eq_error {x : RandM α} {f : α → RandM β} {ds : List Draw} {e : RErr} :
    (x >>= f) ds = .error e ↔
      x ds = .error e ∨ ∃ a ds', x ds = .ok (a, ds') ∧ f a ds' = .error e := by
  rw [bind_apply]
  cases h : x ds with
  | error e' => simp
  | ok p =>
    obtain ⟨a, ds'⟩ := p
    simp only [Except.ok.injEq, Prod.mk.injEq, reduceCtorEq, false_or]
    constructor
    · intro h; exact ⟨a, ds', ⟨rfl, rfl⟩, h⟩
    · rintro ⟨_, _, ⟨rfl, rfl⟩, h⟩; exact h

theorem pure_eq_ok {a : α} {ds : List Draw} {r : α × List Draw} :
    (pure a : RandM α) ds = .ok r ↔ r = (a, ds) := by
  rw [pure_apply]; constructor
  · intro h; cases h; rfl
  · intro h; rw [h]

theorem pure_ne_error {a : α} {ds : List Draw} {e : RErr} : (pure a : RandM α) ds ≠ .error e := by
  rw [pure_apply]; intro h; cases h

theorem raise_apply (e : Err) (ds : List Draw) : (raise e : RandM α) ds = .error (.py e) := rfl

theorem lift_ok (a : α) : (lift (.ok a) : RandM α) = pure a := rfl
theorem lift_error (e : Err) : (lift (.error e) : RandM α) = raise e := rfl

variable {γ : Type}

theorem bind_assoc (x : RandM α) (f : α → RandM β) (g : β → RandM γ) :
    x >>= f >>= g = x >>= fun a => f a >>= g := by
  funext ds
  simp only [bind_apply]
  cases x ds <;> rfl

theorem bind_pure_eq_error {x : RandM α} {f : α → β} {ds : List Draw} {e : RErr} :
    (x >>= fun a => pure (f a)) ds = .error e ↔ x ds = .error e := by
  rw [bind_eq_error]
  exact ⟨fun h => h.elim id fun ⟨_, _, _, h⟩ => absurd h pure_ne_error, Or.inl⟩

theorem bind_pure_eq_ok {x : RandM α} {f : α → β} {ds ds' : List Draw} {b : β} :
    (x >>= fun a => pure (f a)) ds = .ok (b, ds') ↔ ∃ a, x ds = .ok (a, ds') ∧ b = f a := by
  rw [bind_eq_ok]
  constructor
  · rintro ⟨a, ds1, h1, h2⟩
    cases pure_eq_ok.1 h2
    exact ⟨a, h1, rfl⟩
  · rintro ⟨a, h1, rfl⟩
    exact ⟨a, ds', h1, rfl⟩

end RandM

/-! ### the primitives of `random`

`sample`, `choice`, `randint` have one shape, `prim`: each is given by what it reads from a draw. -/

def prim {α : Type} (bad : Prop) [Decidable bad] (E : Err) (read : Draw → Option α) : RandM α := fun ds =>
  if bad then .error (.py E)
  else match ds with
    | [] => .error .outOfDraws
    | d :: rest =>
      match read d with
      | some a => .ok (a, rest)
      | none => .error .mismatch

section
variable {α : Type} {bad : Prop} [Decidable bad] {E : Err} {read : Draw → Option α} {ds ds' : List Draw}

theorem prim_eq_ok {a : α} :
    prim bad E read ds = .ok (a, ds') ↔ ¬ bad ∧ ∃ d, read d = some a ∧ ds = d :: ds' := by
  unfold prim
  constructor
  · intro h
    split at h
    · cases h
    · rename_i hb
      split at h
      · cases h
      · split at h
        · rename_i hr
          cases h; exact ⟨hb, _, hr, rfl⟩
        · cases h
  · rintro ⟨hb, d, hr, rfl⟩
    simp only [if_neg hb, hr]

theorem prim_eq_error {e : RErr} (h : prim bad E read ds = .error e) :
    (e = .py E ∧ bad) ∨ (e = .outOfDraws ∧ ds = []) ∨ e = .mismatch := by
  unfold prim at h
  split at h
  · rename_i hb
    cases h; exact Or.inl ⟨rfl, hb⟩
  · split at h
    · cases h; exact Or.inr (Or.inl ⟨rfl, rfl⟩)
    · split at h
      · cases h
      · cases h; exact Or.inr (Or.inr rfl)

end

def readSample (n k : Nat) : Draw → Option (List Nat)
  | .sample n' k' idx => if n' = n ∧ k' = k then some idx else none
  | _ => none

theorem sample_eq (n k : Nat) : sample n k = prim (n < k) .valueError (readSample n k) := by
  funext ds
  unfold sample prim
  split
  · rfl
  · cases ds with
    | nil => rfl
    | cons d rest =>
      cases d <;> try rfl
      simp only [readSample]
      split <;> rfl

theorem readSample_eq_some {n k : Nat} {d : Draw} {idx : List Nat} :
    readSample n k d = some idx ↔ d = .sample n k idx := by
  cases d <;> simp [readSample]
  exact ⟨fun ⟨⟨a, b⟩, c⟩ => ⟨a, b, c⟩, fun ⟨a, b, c⟩ => ⟨⟨a, b⟩, c⟩⟩

def readChoice (len : Nat) : Draw → Option Nat
  | .choice len' i => if len' = len then some i else none
  | _ => none

theorem choice_eq (len : Nat) : choice len = prim (len = 0) .indexError (readChoice len) := by
  funext ds
  unfold choice prim
  split
  · rfl
  · cases ds with
    | nil => rfl
    | cons d rest =>
      cases d <;> try rfl
      simp only [readChoice]
      split <;> rfl

theorem readChoice_eq_some {len i : Nat} {d : Draw} : readChoice len d = some i ↔ d = .choice len i := by
  cases d <;> simp [readChoice]

def readRandint (a b : Int) : Draw → Option Int
  | .randint a' b' v => if a' = a ∧ b' = b then some v else none
  | _ => none

theorem randint_eq (a b : Int) : randint a b = prim (b < a) .valueError (readRandint a b) := by
  funext ds
  unfold randint prim
  split
  · rfl
  · cases ds with
    | nil => rfl
    | cons d rest =>
      cases d <;> try rfl
      simp only [readRandint]
      split <;> rfl

theorem readRandint_eq_some {a b v : Int} {d : Draw} : readRandint a b d = some v ↔ d = .randint a b v := by
  cases d <;> simp [readRandint]
  exact ⟨fun ⟨⟨a, b⟩, c⟩ => ⟨a, b, c⟩, fun ⟨a, b, c⟩ => ⟨⟨a, b⟩, c⟩⟩

theorem reseed_apply (σ : Int → List Draw) (seed : Option Int) (rng : List Draw) :
    reseed σ seed rng = .ok ((), match seed with | some s => σ s | none => rng) := by
  cases seed <;> rfl

end Cnfgen.Rand
