/-
Helper lemmas for the translated `BipartiteEdgesVariables` (`Props/C11/GeneratedBip.lean`): the object as the model
describes it (`bipSelf`), the observers of `absBip G` on the model's values, the constructor's loop (prefix sums of
the right degrees), and the correctness of CPython's binary search `Py.bisectRight` on the offsets
(`[None, o₁ ≤ o₂ ≤ …]`) against the model's linear `bisectRight`.
-/
import Lemmas.GenAbs
import Lemmas.GenBinary
import Lemmas.VarsBip
namespace Cnfgen.GenVars
open Cnfgen Cnfgen.Vars Cnfgen.PyGen

/-- the offsets of the rows (`self.offset[1:]`): `offset[u] = start + (edges of the rows before u)` -/
def bipOffs (nv : Nat) (G : BipG) : List Nat := (List.range G.l).map (fun i => nv + 1 + degSum G i)

/-- `BipartiteEdgesVariables(F, G)` on a formula with `nv` variables, as the model describes it -/
def bipSelf (nv : Nat) (G : BipG) : BipartiteEdgesVariables :=
  { G := absBip G,
    offset := none :: ((List.range G.l).map (fun i => some (((nv + 1 + degSum G i : Nat)) : Int))),
    formula := ⟨nv⟩,
    ids := ⟨(nv : Int) + 1, (nv : Int) + (G.numberOfEdges : Nat) + 1⟩ }

theorem bipOffs_eq (nv : Nat) (G : BipG) : bipOffs nv G = (bipOffsets G (nv + 1)).drop 1 := by
  rw [bipOffsets_eq]; rfl

theorem bipSelf_offset (nv : Nat) (G : BipG) :
    (bipSelf nv G).offset = none :: (bipOffs nv G).map (fun (n : Nat) => some (n : Int)) := by
  show _ = none :: ((List.range G.l).map _).map _
  rw [List.map_map]; rfl

theorem bipOffs_length (nv : Nat) (G : BipG) : (bipOffs nv G).length = G.l := by
  rw [bipOffs, List.length_map, List.length_range]

theorem bipOffs_get (nv : Nat) (G : BipG) {i : Nat} (hi : i < G.l) :
    (bipOffs nv G)[i]? = some (nv + 1 + degSum G i) := by
  rw [bipOffs, List.getElem?_map, List.getElem?_range hi]
  rfl

theorem bipOffs_sorted (nv : Nat) (G : BipG) : (bipOffs nv G).Pairwise (· ≤ ·) := by
  unfold bipOffs
  rw [List.pairwise_map]
  refine List.pairwise_lt_range.imp ?_
  intro a b hab
  exact Nat.add_le_add_left (degSum_mono G (Nat.le_of_lt hab)) _

theorem bip_contains_iff (nv : Nat) (G : BipG) (v : Int) :
    BipartiteEdgesVariables.contains (bipSelf nv G) v = true ↔
      nv + 1 ≤ v.natAbs ∧ v.natAbs < nv + 1 + G.numberOfEdges := by
  unfold BipartiteEdgesVariables.contains bipSelf
  rw [decide_eq_true_iff, Py.range_contains, Py.abs_eq]
  omega

theorem index_ints (l : List Nat) (k : Nat) :
    Py.index (ints l) (k : Int) =
      match l[k]? with
      | some v => Except.ok (v : Int)
      | none => Except.error Err.indexError := by
  rcases Nat.lt_or_ge k l.length with hk | hk
  · rw [Py.index_nat _ k (by rw [List.length_map]; exact hk), List.getElem?_eq_getElem hk, List.getElem_map]
    rfl
  · rw [Py.index_nat_none _ k (by rw [List.length_map]; exact hk), List.getElem?_eq_none hk]

theorem idxOf_ints (l : List Nat) (v : Nat) : (ints l).idxOf (v : Int) = l.idxOf v := by
  induction l with
  | nil => rfl
  | cons x xs ih =>
    show List.idxOf (v : Int) (Int.ofNat x :: ints xs) = _
    rw [List.idxOf_cons, List.idxOf_cons, ih]
    have e : (Int.ofNat x == (v : Int)) = (x == v) := by
      rw [Bool.eq_iff_iff, beq_iff_eq, beq_iff_eq]
      exact Int.ofNat_inj
    rw [e]

theorem indexOf_ints {l : List Nat} {v : Nat} (hv : v ∈ l) :
    Py.indexOf (ints l) (v : Int) = Except.ok ((l.idxOf v : Nat) : Int) := by
  unfold Py.indexOf
  rw [idxOf_ints, List.length_map, if_pos (List.idxOf_lt_length_iff.2 hv)]

theorem rangeN_one_succ (n : Nat) : rangeN 1 (n + 1 + 1) = rangeN 1 (n + 1) ++ [n + 1] := by
  simp [rangeN, List.range_succ]

theorem offsets_snoc (nv : Nat) (G : BipG) (m : Nat) :
    none :: (List.range (m + 1)).map (fun i => some (((nv + 1 + degSum G i : Nat)) : Int)) =
      (none :: (List.range m).map (fun i => some (((nv + 1 + degSum G i : Nat)) : Int))) ++
        [some (((nv + 1 + degSum G m : Nat)) : Int)] := by
  rw [List.range_succ, List.map_append]
  rfl

/-- the offsets after `n` rounds of the loop: `[None, start, start + d₁, …, start + d₁ + … + dₙ]` -/
theorem offsets_loop (nv : Nat) (G : BipG) (n : Nat) (hn : n ≤ G.l) :
    List.foldlM (fun (offset : List (Option Int)) (u : Int) =>
        ((absBip G).right_degree u) >>= fun d =>
        (Py.index offset (-1)) >>= fun x =>
        (Py.unNone x) >>= fun v => Except.ok (offset ++ [some (v + d)]))
      [none, some ((nv : Int) + 1)] (ints (rangeN 1 (n + 1))) =
    Except.ok (none :: (List.range (n + 1)).map (fun i => some (((nv + 1 + degSum G i : Nat)) : Int))) := by
  induction n with
  | zero => rfl
  | succ n ih =>
    rw [rangeN_one_succ, ints, List.map_append, List.foldlM_append, ih (by omega)]
    simp only [List.map_cons, List.map_nil, Int.ofNat_eq_natCast, Py.ok_bind, List.foldlM_cons, List.foldlM_nil,
      abs_right_degree G (u := n + 1) ⟨by omega, hn⟩]
    rw [offsets_snoc nv G (n + 1), offsets_snoc nv G n]
    simp only [Py.index_neg_one, Py.ok_bind, Py.unNone, Py.pure_eq, degSum_succ]
    simp only [← Int.natCast_add, Nat.add_assoc]

theorem offset_index (nv : Nat) (G : BipG) {u : Nat} (hu : 1 ≤ u ∧ u ≤ G.l) :
    Py.index (bipSelf nv G).offset (u : Int) = Except.ok (some (((nv + 1 + degSum G (u - 1) : Nat)) : Int)) := by
  obtain ⟨k, rfl⟩ := Nat.exists_eq_add_one.2 hu.1
  have hk : k + 1 < (bipSelf nv G).offset.length := by
    simp only [bipSelf, List.length_cons, List.length_map, List.length_range]
    omega
  rw [Py.index_nat _ (k + 1) hk]
  simp only [bipSelf, List.getElem_cons_succ, List.getElem_map, List.getElem_range, Nat.add_sub_cancel]

theorem bisectRight_cons (y : Nat) (ys : List Nat) (x : Nat) :
    bisectRight (y :: ys) x = if y ≤ x then bisectRight ys x + 1 else 0 := rfl

theorem bisectRight_pos {l : List Nat} {x o : Nat} (h0 : l[0]? = some o) (hox : o ≤ x) : 1 ≤ bisectRight l x := by
  cases l with
  | nil => cases h0
  | cons y ys =>
    cases h0
    rw [bisectRight_cons, if_pos hox]
    exact Nat.le_add_left 1 _

theorem bisectRight_spec {l : List Nat} (hs : l.Pairwise (· ≤ ·)) (x : Nat) :
    bisectRight l x ≤ l.length ∧ ∀ i (hi : i < l.length), i < bisectRight l x ↔ l[i] ≤ x := by
  induction l with
  | nil => exact ⟨Nat.le_refl 0, fun i hi => absurd hi (Nat.not_lt_zero i)⟩
  | cons y ys ih =>
    obtain ⟨hy, hys⟩ := List.pairwise_cons.1 hs
    obtain ⟨hle, hiff⟩ := ih hys
    rw [bisectRight_cons]
    by_cases hyx : y ≤ x
    · rw [if_pos hyx]
      refine ⟨Nat.succ_le_succ hle, fun i hi => ?_⟩
      cases i with
      | zero => exact ⟨fun _ => hyx, fun _ => Nat.succ_pos _⟩
      | succ j => exact Nat.succ_lt_succ_iff.trans (hiff j (Nat.lt_of_succ_lt_succ hi))
    · rw [if_neg hyx]
      refine ⟨Nat.zero_le _, fun i hi => ⟨fun h => absurd h (Nat.not_lt_zero i), fun h => absurd ?_ hyx⟩⟩
      cases i with
      | zero => exact h
      | succ j => exact Nat.le_trans (hy _ (List.getElem_mem _)) h

/-- **`bisect.bisect_right(offset, var)`** as CPython computes it (binary search; `offset[0]` is `None`) is one more
than the model's linear `bisectRight` on `offset[1:]`, when the offsets are sorted and `offset[1] ≤ var`
(so that the `None` is never compared: no TypeError) -/
theorem py_bisectRight_offsets (offs : List Nat) (x : Nat) (hs : offs.Pairwise (· ≤ ·))
    {o : Nat} (h0 : offs[0]? = some o) (hox : o ≤ x) :
    Py.bisectRight (none :: offs.map (fun (n : Nat) => some (n : Int))) (x : Int) =
      Except.ok ((bisectRight offs x + 1 : Nat) : Int) := by
  obtain ⟨hle, hiff⟩ := bisectRight_spec hs x
  have hget : ∀ j (hj : j < offs.length),
      (none :: offs.map (fun (n : Nat) => some (n : Int)))[j + 1]? = some (some (offs[j] : Int)) := by
    intro j hj
    rw [List.getElem?_cons_succ, List.getElem?_map, List.getElem?_eq_getElem hj]
    rfl
  refine Py.bisectRight_eq_of _ _ (bisectRight offs x + 1) (Nat.succ_le_succ (bisectRight_pos h0 hox)) ?_ ?_ ?_
  · rw [List.length_cons, List.length_map]
    exact Nat.succ_le_succ hle
  · intro i hi1 hik
    obtain ⟨j, rfl⟩ := Nat.exists_eq_add_one.2 hi1
    have hjk := Nat.lt_of_succ_lt_succ hik
    have hj := Nat.lt_of_lt_of_le hjk hle
    exact ⟨_, hget j hj, Int.ofNat_le.2 ((hiff j hj).1 hjk)⟩
  · intro i hik hil
    obtain ⟨j, rfl⟩ := Nat.exists_eq_add_one.2 (Nat.lt_of_lt_of_le (Nat.succ_pos _) hik)
    rw [List.length_cons, List.length_map] at hil
    have hj := Nat.lt_of_succ_lt_succ hil
    exact ⟨_, hget j hj, Int.ofNat_lt.2 (Nat.lt_of_not_le fun h =>
      Nat.not_lt.2 (Nat.le_of_succ_le_succ hik) ((hiff j hj).2 h))⟩

/-- the row of an identifier `x` of the group, as the search finds it: a left vertex `b` whose offset is `≤ x` -/
theorem bip_row (nv : Nat) {G : BipG} (h : G.WF) {x : Nat} (hx : nv + 1 ≤ x ∧ x < nv + 1 + G.numberOfEdges) :
    Py.bisectRight (bipSelf nv G).offset (x : Int) = Except.ok ((bisectRight (bipOffs nv G) x + 1 : Nat) : Int) ∧
      1 ≤ bisectRight (bipOffs nv G) x ∧ bisectRight (bipOffs nv G) x ≤ G.l ∧
      nv + 1 + degSum G (bisectRight (bipOffs nv G) x - 1) ≤ x := by
  -- the graph has a left vertex, since it has an edge
  have hl : 0 < G.l := by
    apply Nat.pos_of_ne_zero
    intro h0
    have ht := degSum_total h
    rw [h0] at ht
    exact Nat.lt_irrefl x (Nat.lt_of_lt_of_le hx.2 (by rw [← ht]; exact hx.1))
  have h0 : (bipOffs nv G)[0]? = some (nv + 1 + degSum G 0) := bipOffs_get nv G hl
  have hb1 := bisectRight_pos h0 hx.1
  obtain ⟨hble, hiff⟩ := bisectRight_spec (bipOffs_sorted nv G) x
  rw [bipOffs_length] at hble
  refine ⟨?_, hb1, hble, ?_⟩
  · rw [bipSelf_offset]
    exact py_bisectRight_offsets _ x (bipOffs_sorted nv G) h0 hx.1
  · have hlt := Nat.sub_lt hb1 Nat.one_pos
    have hl' := Nat.lt_of_lt_of_le hlt hble
    have hg := List.getElem?_eq_getElem ((bipOffs_length nv G).symm ▸ hl')
    rw [bipOffs_get nv G hl'] at hg
    exact Option.some.inj hg ▸ (hiff _ _).1 hlt

end Cnfgen.GenVars
