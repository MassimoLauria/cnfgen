/-
Lemmas about the run-time library of the translator (`CnfgenModel/Core/Py.lean`): how the meaning of
each Python construct computes on the values the model uses (naturals seen as integers).
-/
import CnfgenModel.Core.Py
namespace Cnfgen
namespace Py

@[simp] theorem len_eq {α : Type} (l : List α) : Py.len l = (l.length : Int) := rfl

@[simp] theorem abs_eq (x : Int) : Py.abs x = (x.natAbs : Int) := rfl

theorem sum_eq (l : List Int) : Py.sum l = l.sum := by
  have aux : ∀ a, l.foldl (· + ·) a = a + l.sum := by
    induction l with
    | nil => simp
    | cons x xs ih => simp [ih, Int.add_assoc]
  simp [Py.sum, aux]

@[simp] theorem sum_nil : Py.sum [] = 0 := rfl
@[simp] theorem sum_cons (x : Int) (xs : List Int) : Py.sum (x :: xs) = x + Py.sum xs := by
  simp [sum_eq]

theorem itertoolsR_nonneg (r : Int) (h : 0 ≤ r) : Py.itertoolsR r = .ok r.toNat := by
  have : ¬ (r < 0) := by omega
  simp [Py.itertoolsR, this]

theorem itertoolsR_neg (r : Int) (h : r < 0) : Py.itertoolsR r = .error .valueError := by
  simp [Py.itertoolsR, h]

theorem index_neg_one {α : Type} (l : List α) (a : α) : Py.index (l ++ [a]) (-1) = .ok a := by
  simp [Py.index]; omega

theorem index_nat {α : Type} (l : List α) (i : Nat) (h : i < l.length) : Py.index l (i : Int) = .ok l[i] := by
  simp [Py.index, h]

theorem index_nat_none {α : Type} (l : List α) (i : Nat) (h : l.length ≤ i) : Py.index l (i : Int) = .error .indexError := by
  simp [Py.index, h]

@[simp] theorem index_zero {α : Type} (a : α) (l : List α) : Py.index (a :: l) 0 = .ok a := by
  simp [Py.index]

@[simp] theorem index_one {α : Type} (a b : α) (l : List α) : Py.index (a :: b :: l) 1 = .ok b := by
  simp [Py.index]

theorem pop_append {α : Type} (l : List α) (a : α) : Py.pop (l ++ [a]) = .ok (a, l) := by
  simp [Py.pop]

theorem floordiv_nat (a b : Nat) (hb : 0 < b) : Py.floordiv (a : Int) (b : Int) = .ok ((a / b : Nat) : Int) := by
  have : b ≠ 0 := by omega
  simp [Py.floordiv, this, Int.fdiv_eq_ediv_of_nonneg]

/-- Python's `%` with a positive modulus is Lean's `%` on integers -/
theorem mod_pos (a : Int) (M : Nat) (hM : 0 < M) : Py.mod a (M : Int) = .ok (a % (M : Int)) := by
  have hne : ¬ ((M : Int) = 0) := by omega
  simp only [Py.mod, hne, if_false]
  rw [Int.fmod_eq_emod_of_nonneg _ (by omega)]

theorem mod_nat (a b : Nat) (hb : 0 < b) : Py.mod (a : Int) (b : Int) = .ok ((a % b : Nat) : Int) :=
  (mod_pos a b hb).trans (congrArg Except.ok (Int.natCast_emod a b).symm)

theorem range_contains (a b x : Int) : Py.Range.contains ⟨a, b⟩ x = true ↔ a ≤ x ∧ x < b := by
  simp [Py.Range.contains]

theorem range_one_toList (z : Int) :
    Py.Range.toList ⟨1, z + 1⟩ = (rangeN 1 (z.toNat + 1)).map Int.ofNat := by
  simp only [Py.Range.toList, rangeI, rangeN, List.map_map, Int.add_sub_cancel, Nat.add_sub_cancel]
  exact List.map_congr_left fun a _ => Int.add_comm 1 a

theorem range_len_nat (a : Int) (n : Nat) : Py.Range.len ⟨a, a + n⟩ = n := by
  simp only [Py.Range.len]
  split
  · omega
  · exact Int.sub_eq_iff_eq_add'.mpr rfl

/-! ### the identifiers `range(nv + 1, nv + n + 1)` of a group of `n` variables created on a formula with `nv` -/

theorem ids_len (a : Int) (n : Nat) : Py.Range.len ⟨a + 1, a + n + 1⟩ = n :=
  Int.add_right_comm a n 1 ▸ range_len_nat (a + 1) n

theorem ids_contains (nv n : Nat) (v : Int) :
    Py.Range.contains ⟨(nv : Int) + 1, (nv : Int) + n + 1⟩ (Py.abs v) =
      (decide (nv + 1 ≤ v.natAbs) && decide (v.natAbs < nv + 1 + n)) := by
  simp only [Py.Range.contains, Py.abs]
  congr 1
  · exact decide_eq_decide.2 (by omega)
  · exact decide_eq_decide.2 (by omega)

theorem abs_abs (v : Int) : Py.abs (Py.abs v) = Py.abs v := rfl

/-- the test that opens every `to_index`: `var = abs(lit)`, then `if var not in self: raise …` -/
theorem ite_not_ids_contains {α : Type} (nv n : Nat) (lit : Int) (a b : α) :
    (if ¬ decide (Py.Range.contains ⟨(nv : Int) + 1, (nv : Int) + n + 1⟩ (Py.abs (Py.abs lit)) = true) = true
      then a else b) = if nv + 1 ≤ lit.natAbs ∧ lit.natAbs < nv + 1 + n then b else a := by
  simp only [abs_abs, ids_contains, Bool.and_eq_true, decide_eq_true_iff, ite_not]

theorem tryExcept_ok {α β : Type} (a : α) (kind : Err) (h : Except Err β) (rest : α → Except Err β) :
    Py.tryExcept (.ok a) kind h rest = rest a := rfl

theorem tryExcept_error {α β : Type} (e kind : Err) (h : Except Err β) (rest : α → Except Err β) :
    Py.tryExcept (.error e) kind h rest = if e = kind then h else .error e := rfl

theorem tryExcept_eq_ok {α β : Type} {o : Except Err α} {kind e : Err} {rest : α → Except Err β} {b : β}
    (h : Py.tryExcept o kind (.error e) rest = .ok b) : ∃ a, rest a = .ok b := by
  cases o with
  | ok a => exact ⟨a, h⟩
  | error e' =>
    rw [tryExcept_error] at h
    split at h <;> cases h

theorem map_tryExcept {α β γ : Type} (f : β → γ) (o : Except Err α) (kind : Err) (h : Except Err β)
    (rest : α → Except Err β) :
    Except.map f (Py.tryExcept o kind h rest) = Py.tryExcept o kind (Except.map f h) (fun a => Except.map f (rest a)) := by
  cases o with
  | ok a => rfl
  | error e =>
    simp only [Py.tryExcept]
    split <;> rfl

@[simp] theorem ok_bind {α β : Type} (a : α) (f : α → Except Err β) : (Except.ok a : Except Err α) >>= f = f a := rfl
@[simp] theorem error_bind {α β : Type} (e : Err) (f : α → Except Err β) :
    (Except.error e : Except Err α) >>= f = Except.error e := rfl
@[simp] theorem map_ok {α β : Type} (a : α) (f : α → β) : Except.map f (Except.ok a : Except Err α) = Except.ok (f a) := rfl
@[simp] theorem map_error {α β : Type} (e : Err) (f : α → β) :
    Except.map f (Except.error e : Except Err α) = Except.error e := rfl
@[simp] theorem pure_eq {α : Type} (a : α) : (pure a : Except Err α) = Except.ok a := rfl

/-- loops with pointwise equal bodies are equal (the generated body is matched up to unfolding) -/
theorem foldlM_ext {σ α : Type} (f g : σ → α → Except Err σ) (h : ∀ s a, f s a = g s a) (init : σ) (l : List α) :
    List.foldlM f init l = List.foldlM g init l := by
  rw [show f = g from funext fun s => funext fun a => h s a]

theorem foldl_ext {σ α : Type} (f g : σ → α → σ) (h : ∀ s a, f s a = g s a) (init : σ) (l : List α) :
    List.foldl f init l = List.foldl g init l := by
  rw [show f = g from funext fun s => funext fun a => h s a]

/-- `for x in l: out.append(f(x))` -/
theorem foldl_append_map {α β : Type} (f : α → β) (l : List α) (out : List β) :
    List.foldl (fun (out : List β) (x : α) => out ++ [f x]) out l = out ++ l.map f := by
  induction l generalizing out with
  | nil => simp
  | cons x xs ih => simp [ih]

theorem product2_map {α β α' β' : Type} (f : α → α') (g : β → β') (a : List α) (b : List β) :
    Py.product2 (a.map f) (b.map g) = (Py.product2 a b).map fun p => (f p.1, g p.2) := by
  simp only [Py.product2, List.flatMap_map, List.map_flatMap, List.map_map, Function.comp_def]

theorem mem_product2 {α β : Type} {a : List α} {b : List β} {p : α × β} :
    p ∈ Py.product2 a b ↔ p.1 ∈ a ∧ p.2 ∈ b := by
  simp only [Py.product2, List.mem_flatMap, List.mem_map]
  exact ⟨fun ⟨x, hx, y, hy, h⟩ => h ▸ ⟨hx, hy⟩, fun h => ⟨p.1, h.1, p.2, h.2, rfl⟩⟩

theorem mid_bounds {lo hi : Nat} (h : lo < hi) : lo ≤ (lo + hi) / 2 ∧ (lo + hi) / 2 < hi :=
  ⟨(Nat.le_div_iff_mul_le Nat.two_pos).2 (Nat.mul_two lo ▸ Nat.add_le_add_left (Nat.le_of_lt h) lo),
    (Nat.div_lt_iff_lt_mul Nat.two_pos).2 (Nat.mul_two hi ▸ Nat.add_lt_add_right h hi)⟩

theorem bisectLoop_eq (l : List (Option Int)) (x : Int) (k : Nat) (hk2 : 2 ≤ k)
    (hlo : ∀ i, 1 ≤ i → i < k → ∃ y, l[i]? = some (some y) ∧ y ≤ x)
    (hhi : ∀ i, k ≤ i → i < l.length → ∃ y, l[i]? = some (some y) ∧ x < y) :
    ∀ (fuel lo hi : Nat), hi ≤ lo + fuel → lo ≤ k → k ≤ hi → hi ≤ l.length →
      Py.bisectLoop l x fuel lo hi = .ok k := by
  intro fuel
  induction fuel with
  | zero =>
    intro lo hi hf h1 h2 _
    exact congrArg Except.ok (Nat.le_antisymm h1 (Nat.le_trans h2 hf))
  | succ fuel ih =>
    intro lo hi hf h1 h2 h3
    show (if lo < hi then _ else _) = _
    by_cases hlt : lo < hi
    · rw [if_pos hlt]
      -- entry 0 is never inspected: `mid = (lo + hi) // 2 ≥ 1` as long as `hi ≥ k ≥ 2`
      have hm1 : 1 ≤ (lo + hi) / 2 :=
        (Nat.le_div_iff_mul_le Nat.two_pos).2 (Nat.le_trans hk2 (Nat.le_trans h2 (Nat.le_add_left hi lo)))
      obtain ⟨hm2, hm3⟩ := mid_bounds hlt
      generalize (lo + hi) / 2 = m at hm1 hm2 hm3 ⊢
      by_cases hmk : m < k
      · obtain ⟨y, hy, hyx⟩ := hlo m hm1 hmk
        simp only [hy]
        rw [if_neg (Int.not_lt.2 hyx)]
        have hf' : hi ≤ m + 1 + fuel :=
          Nat.le_trans hf (Nat.succ_add m fuel ▸ Nat.succ_le_succ (Nat.add_le_add_right hm2 fuel))
        exact ih _ _ hf' hmk h2 h3
      · obtain ⟨y, hy, hyx⟩ := hhi m (Nat.le_of_not_lt hmk) (Nat.lt_of_lt_of_le hm3 h3)
        simp only [hy]
        rw [if_pos hyx]
        exact ih _ _ (Nat.le_of_lt_succ (Nat.lt_of_lt_of_le hm3 hf)) h1 (Nat.le_of_not_lt hmk)
          (Nat.le_trans (Nat.le_of_lt hm3) h3)
    · rw [if_neg hlt]
      exact congrArg Except.ok (Nat.le_antisymm h1 (Nat.le_trans h2 (Nat.le_of_not_lt hlt)))

/-- `bisect_right(l, x)` on a list whose entries from position 1 on are numbers, `≤ x` before position `k ≥ 2`
and `> x` from `k` on: the answer is `k`, and entry 0 (a `None`) is never compared -/
theorem bisectRight_eq_of (l : List (Option Int)) (x : Int) (k : Nat) (hk2 : 2 ≤ k) (hkl : k ≤ l.length)
    (hlo : ∀ i, 1 ≤ i → i < k → ∃ y, l[i]? = some (some y) ∧ y ≤ x)
    (hhi : ∀ i, k ≤ i → i < l.length → ∃ y, l[i]? = some (some y) ∧ x < y) :
    Py.bisectRight l x = .ok (k : Int) := by
  unfold Py.bisectRight
  rw [bisectLoop_eq l x k hk2 hlo hhi _ 0 l.length (Nat.le_trans (Nat.le_succ _) (Nat.le_add_left _ 0))
    (Nat.zero_le k) hkl (Nat.le_refl _)]
  rfl

end Py
end Cnfgen
