/-
Helper lemmas for C20: `selectInterface` (the decision part of `sat_solve`).
-/
import CnfgenModel.Solver.Select
namespace Cnfgen.Solver

theorem lookup_isSome (n : String) (h : n ∈ names) : ∃ f, lookup n = some f := by
  obtain ⟨p, hp, rfl⟩ := List.mem_map.1 h
  exact Option.isSome_iff_exists.1 (List.lookup_isSome_iff.2 ⟨p, hp, beq_self_eq_true _⟩)

theorem names_nonempty : ∀ n ∈ names, n.isEmpty = false := by decide +kernel

theorem select_sameas_unknown (cmd : Option String) (s : String) (inst : List String)
    (hs : s ∉ names) : selectInterface cmd (some s) inst = .error .valueError := by
  simp [selectInterface, sameasUnknown, hs]

theorem sameasUnknown_eq_false (sameas : Option String) :
    sameasUnknown sameas = false ↔ ∀ s, sameas = some s → s ∈ names := by
  cases sameas <;> simp [sameasUnknown]

theorem select_of_known (cmd sameas : Option String) (inst : List String)
    (h : ∀ s, sameas = some s → s ∈ names) :
    selectInterface cmd sameas inst =
      match cmd with
      | none => autoChoice inst
      | some c =>
        match pySplit c.toList with
        | [] => autoChoice inst
        | t :: _ => namedChoice c (String.ofList t) sameas inst := by
  unfold selectInterface
  rw [(sameasUnknown_eq_false sameas).mpr h]
  rfl

theorem select_auto (cmd sameas : Option String) (inst : List String)
    (hblank : cmd = none ∨ ∃ c, cmd = some c ∧ pySplit c.toList = [])
    (h : ∀ s, sameas = some s → s ∈ names) : selectInterface cmd sameas inst = autoChoice inst := by
  rw [select_of_known cmd sameas inst h]
  rcases hblank with rfl | ⟨c, rfl, hc⟩
  · rfl
  · simp only [hc]

theorem select_cmd (c : String) (t : Str) (ts : List Str) (sameas : Option String)
    (inst : List String) (h : ∀ s, sameas = some s → s ∈ names)
    (hc : pySplit c.toList = t :: ts) :
    selectInterface (some c) sameas inst = namedChoice c (String.ofList t) sameas inst := by
  rw [select_of_known _ sameas inst h]
  simp only [hc]

theorem namedChoice_key (solver : String) (sameas : Option String)
    (h : ∀ s, sameas = some s → s ∈ names) (hsup : solver ∈ names ∨ sameas ≠ none) :
    keyOf sameas solver ∈ names := by
  cases sameas with
  | none =>
    rcases hsup with h1 | h1
    · exact h1
    · exact absurd rfl h1
  | some s =>
    have hs := h s rfl
    simp [keyOf, names_nonempty s hs, hs]

theorem autoChoice_errors (inst : List String) (e : Err) (h : autoChoice inst = .error e) :
    e = .runtimeError := by
  unfold autoChoice at h
  split at h
  · cases h
  · injection h with h; exact h.symm

theorem namedChoice_errors (c solver : String) (sameas : Option String) (inst : List String)
    (h : ∀ s, sameas = some s → s ∈ names) (e : Err)
    (he : namedChoice c solver sameas inst = .error e) : e = .runtimeError := by
  unfold namedChoice at he
  split at he
  · injection he with he; exact he.symm
  · rename_i hcond
    have hsup : solver ∈ names ∨ sameas ≠ none := by
      cases sameas with
      | none => left; simpa using hcond
      | some s => right; simp
    obtain ⟨f, hf⟩ := lookup_isSome _ (namedChoice_key solver sameas h hsup)
    rw [hf] at he
    simp only at he
    split at he
    · cases he
    · injection he with he; exact he.symm

theorem select_known_errors (cmd sameas : Option String) (inst : List String)
    (h : ∀ s, sameas = some s → s ∈ names) (e : Err)
    (he : selectInterface cmd sameas inst = .error e) : e = .runtimeError := by
  rw [select_of_known cmd sameas inst h] at he
  split at he
  · exact autoChoice_errors inst e he
  · split at he
    · exact autoChoice_errors inst e he
    · exact namedChoice_errors _ _ sameas inst h e he

theorem select_valueError_iff (cmd sameas : Option String) (inst : List String) :
    selectInterface cmd sameas inst = .error .valueError ↔ sameasUnknown sameas = true := by
  constructor
  · intro h
    cases hu : sameasUnknown sameas with
    | true => rfl
    | false => cases select_known_errors cmd sameas inst ((sameasUnknown_eq_false sameas).mp hu) _ h
  · intro hu
    simp [selectInterface, hu]

end Cnfgen.Solver
