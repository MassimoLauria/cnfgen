/-
Lemmas for the translated `CliqueFormula`: `to_dict()` of a unary mapping and its lookups, `force_nondecreasing_mapping`,
`non_edges`.
-/
import Lemmas.GenFamRphp
import Lemmas.GenWords
import Lemmas.GraphComplete
import Lemmas.PyFold
import CnfgenModel.Fam.Subgraph
set_option linter.unusedSimpArgs false
namespace Cnfgen.GenFam
open Cnfgen Cnfgen.Vars Cnfgen.PyGen Cnfgen.GenVars Cnfgen.PyF Cnfgen.C11 Cnfgen.Fam

/-- looking a key up in a dictionary built by a comprehension whose values are a function of the key -/
theorem lookup_foldl_dictSet {κ ν : Type} [BEq κ] [LawfulBEq κ] (l : List (κ × ν)) (d : List (κ × ν)) (k : κ) (v : ν)
    (hval : ∀ p ∈ l, p.1 = k → p.2 = v) (hex : (∃ p ∈ l, p.1 = k) ∨ List.lookup k d = some v) :
    List.lookup k (l.foldl (fun d kv => Py.dictSet d kv.1 kv.2) d) = some v := by
  induction l generalizing d with
  | nil =>
    rcases hex with ⟨p, hp, _⟩ | h
    · simp at hp
    · simpa using h
  | cons q l ih =>
    rw [List.foldl_cons]
    apply ih _ (fun p hp => hval p (by simp [hp]))
    by_cases hq : q.1 = k
    · right
      rw [GenVars.lookup_dictSet, hq]
      simp [hval q (by simp) hq]
    · rcases hex with ⟨p, hp, hpk⟩ | h
      · rcases List.mem_cons.1 hp with rfl | hp
        · exact absurd hpk hq
        · exact Or.inl ⟨p, hp, hpk⟩
      · right
        rw [GenVars.lookup_dictSet]
        have : ¬ ((k == q.1) = true) := by
          intro hc; exact hq (by simpa using hc : k = q.1).symm
        rw [if_neg this]; exact h

theorem dictGet_dictOfPairs {κ ν : Type} [BEq κ] [LawfulBEq κ] (l : List (κ × ν)) (k : κ) (v : ν)
    (hval : ∀ p ∈ l, p.1 = k → p.2 = v) (hex : ∃ p ∈ l, p.1 = k) :
    Py.dictGet (Py.dictOfPairs l) k = Except.ok v := by
  simp only [Py.dictGet, Py.dictOfPairs, lookup_foldl_dictSet l [] k v hval (Or.inl hex)]

/-- the dictionary `f.to_dict()` of a unary mapping -/
def unaryDict (nv : Nat) (G : BipG) : List ((Int × Int) × Int) :=
  Py.dictOfPairs (G.edges.map (fun p => (((p.1 : Int), (p.2 : Int)), ((bipId G (nv + 1) p.1 p.2 : Nat) : Int))))

theorem unary_pairs_ids (nv : Nat) {G : BipG} (h : G.WF) (l : List (Nat × Nat)) (hl : ∀ p ∈ l, p ∈ G.edgeset) :
    List.mapM (fun (t : Int × Int) => (UnaryMappingVariables.index_to_lit (unarySelf nv G) [t.1, t.2]) >>=
        fun r => Except.ok (t, r)) (intPairs l) =
      Except.ok (l.map (fun p => (((p.1 : Int), (p.2 : Int)), ((bipId G (nv + 1) p.1 p.2 : Nat) : Int)))) := by
  induction l with
  | nil => rfl
  | cons p ps ih =>
    have hp : (p.1, p.2) ∈ G.edgeset := hl p (by simp)
    simp only [intPairs, List.map_cons, List.mapM_cons, gen_unary_index_to_lit_eq_model nv h hp,
      Py.ok_bind] at ih ⊢
    rw [ih (fun q hq => hl q (by simp [hq]))]
    rfl

theorem to_dict_unary_eq (nv : Nat) {G : BipG} (h : G.WF) :
    UnaryMappingVariables.to_dict (unarySelf nv G) = Except.ok (unaryDict nv G) := by
  unfold UnaryMappingVariables.to_dict
  rw [gen_unary_indices_eq_model]
  simp only [bipIndices, Py.map_ok, Py.ok_bind]
  rw [unary_pairs_ids nv h G.edges (fun p hp => (BipG.mem_edges h p.1 p.2).1 hp), Py.ok_bind]
  rfl

theorem unaryDict_get (nv : Nat) {G : BipG} (h : G.WF) (u v : Nat) (he : (u, v) ∈ G.edgeset) :
    Py.dictGet (unaryDict nv G) ((u : Int), (v : Int)) = Except.ok ((bipId G (nv + 1) u v : Nat) : Int) := by
  apply dictGet_dictOfPairs
  · intro p hp hk
    simp only [List.mem_map] at hp
    obtain ⟨q, _, rfl⟩ := hp
    simp only [Prod.mk.injEq, Int.natCast_inj] at hk
    rw [hk.1, hk.2]
  · exact ⟨_, List.mem_map.2 ⟨(u, v), (BipG.mem_edges h u v).2 he, rfl⟩, rfl⟩

theorem flatMap_ite_single {α β : Type} (l : List α) (p : α → Prop) [DecidablePred p] (f : α → β) :
    l.flatMap (fun a => if p a then [f a] else []) = l.filterMap (fun a => if p a then some (f a) else none) := by
  induction l with
  | nil => rfl
  | cons a l ih => by_cases h : p a <;> simp [h, ih]

theorem force_nondecreasing_unary_complete (s : FState) (nv k N : Nat) :
    VariablesManager.force_nondecreasing_mapping_unary s (unarySelf nv (BipG.complete k N)) =
      Except.ok { s with cons := s.cons ++ G2.forceNondecreasing (nv + 1) k N } := by
  have hw := BipG.wf_complete k N
  unfold VariablesManager.force_nondecreasing_mapping_unary
  rw [to_dict_unary_eq nv hw, Py.ok_bind, gen_unary_domain_none, Py.ok_bind, range'_eq_idx, combos2_eq_pairs, ints,
    pairs_map]
  have hl : (BipG.complete k N).l = k := rfl
  rw [hl, foldlM_pushAll_map s.numvar _ (pairs (idx k)) _ (fun x =>
    (G2.verts N).flatMap (fun v1 => (G2.verts N).filterMap (fun v2 =>
      if v1 > v2 then some (Con.clause [-(G2.mlit (nv + 1) N x.1 v1), -(G2.mlit (nv + 1) N x.2 v2)]) else none))) ?_ s rfl]
  · simp [G2.forceNondecreasing, G2.pairs2_eq_pairs, G2.verts, idx]
  · intro s p hp _
    have hp' := mem_pairs_mem _ _ _ hp
    have h1 := mem_idx.1 hp'.1
    have h2 := mem_idx.1 hp'.2
    simp only [Int.ofNat_eq_natCast, gen_unary_range_row nv _ (show 1 ≤ p.1 ∧ p.1 ≤ (BipG.complete k N).l from h1),
      gen_unary_range_row nv _ (show 1 ≤ p.2 ∧ p.2 ≤ (BipG.complete k N).l from h2), Py.ok_bind,
      BipG.complete_rnbrs h1, BipG.complete_rnbrs h2, oneTo_eq_idx]
    rw [ints, Py.product2_map, foldlM_pushAll_map s.numvar _ (Py.product2 (idx N) (idx N)) _ (fun y =>
      if y.1 > y.2 then [Con.clause [-(G2.mlit (nv + 1) N p.1 y.1), -(G2.mlit (nv + 1) N p.2 y.2)]] else []) ?_ s rfl]
    · simp only [Py.ok_bind, Py.product2, List.flatMap_assoc, List.flatMap_map, flatMap_ite_single, G2.verts, idx]
    · intro s y hy _
      have ha' := mem_idx.1 (Py.mem_product2.1 hy).1
      have hb' := mem_idx.1 (Py.mem_product2.1 hy).2
      by_cases hgt : y.1 > y.2
      · have hgt' : (y.1 : Int) > (y.2 : Int) := Int.ofNat_lt.2 hgt
        simp only [hgt, hgt', if_true, Int.ofNat_eq_natCast,
          unaryDict_get nv hw p.1 y.1 (BipG.mem_complete_edgeset.2 ⟨h1.1, h1.2, ha'.1, ha'.2⟩),
          unaryDict_get nv hw p.2 y.2 (BipG.mem_complete_edgeset.2 ⟨h2.1, h2.2, hb'.1, hb'.2⟩),
          Py.ok_bind, add_clause_nocheck, bipId_complete (nv + 1) k N p.1 y.1 h1 ha',
          bipId_complete (nv + 1) k N p.2 y.2 h2 hb', G2.mlit, push]
      · have hgt' : ¬ (y.1 : Int) > (y.2 : Int) := fun h => hgt (Int.ofNat_lt.1 h)
        simp only [hgt, hgt', if_false, Int.ofNat_eq_natCast, Py.ok_bind, List.append_nil]

/-- `for v in l: if c(v): out.append(g(v))` -/
theorem foldl_cond_map {α β : Type} (c : α → Bool) (g : α → β) (l : List α) (out : List β) :
    List.foldl (fun (out : List β) (v : α) => if c v = true then out ++ [g v] else out) out l =
      out ++ (l.filter c).map g := by
  induction l generalizing out with
  | nil => simp
  | cons a l ih =>
    rw [List.foldl_cons, ih]
    cases h : c a <;> simp [h]

theorem foldl_cond_append {α : Type} (c : α → Bool) (l : List α) (out : List α) :
    List.foldl (fun (out : List α) (v : α) => if c v = true then out ++ [v] else out) out l = out ++ l.filter c :=
  (foldl_cond_map c id l out).trans (by rw [List.map_id])

theorem foldl_foldl_cond {α γ : Type} (R : α → List γ) (c : α → γ → Bool) (L : List α) (out : List (α × γ)) :
    List.foldl (fun (out : List (α × γ)) (u : α) =>
        List.foldl (fun (out : List (α × γ)) (v : γ) => if c u v = true then out ++ [(u, v)] else out) out (R u)) out L =
      out ++ L.flatMap (fun u => ((R u).filter (c u)).map (fun v => (u, v))) := by
  induction L generalizing out with
  | nil => simp
  | cons u L ih =>
    rw [List.foldl_cons, ih, foldl_cond_map (c u) (fun v => (u, v))]
    simp

theorem pairs2_rangeN (a b : Nat) :
    G2.pairs2 (rangeN a b) = (rangeN a b).flatMap (fun u => (rangeN (u + 1) b).map (fun v => (u, v))) := by
  generalize hn : b - a = n
  induction n generalizing a with
  | zero =>
    have : rangeN a b = [] := by simp [rangeN, hn]
    simp [this, G2.pairs2]
  | succ n ih =>
    have hr : rangeN a b = a :: rangeN (a + 1) b := by
      simp only [rangeN, hn, show b - (a + 1) = n by omega, List.range_succ_eq_map, List.map_cons, List.map_map,
        Nat.zero_add, Function.comp_def]
      congr 1
      apply List.map_congr_left; intro x _; omega
    rw [hr, G2.pairs2, ih (a + 1) (by omega), List.flatMap_cons]

/-- **`non_edges(G)` of the source is the model's `nonEdges`** (pairs `u < v` that are not edges, in order) -/
theorem gen_non_edges_eq_model (G : SimpleG) : non_edges (absGraph G) = intPairs (G2.nonEdges G) := by
  unfold non_edges
  have hn : (absGraph G).order = (G.n : Int) := rfl
  simp only [hn]
  rw [show Py.Range.toList ⟨(1 : Int), (G.n : Int)⟩ = _ from range_nat_toList 1 G.n]
  have hbody : ∀ (out : List (Int × Int)) (u : Int),
      List.foldl (fun (out : List (Int × Int)) (v : Int) =>
        (if (¬ (((absGraph G).has_edge u v) = true)) then out ++ [(u, v)] else out)) out
        (Py.Range.toList (Py.Range.mk (u + (1 : Int)) ((G.n : Int) + (1 : Int)))) =
      List.foldl (fun (out : List (Int × Int)) (v : Int) =>
        if (!(absGraph G).has_edge u v) = true then out ++ [(u, v)] else out) out
        (Py.Range.toList (Py.Range.mk (u + (1 : Int)) ((G.n : Int) + (1 : Int)))) := by
    intro out u
    apply List.foldl_ext
    intro o v _
    cases (absGraph G).has_edge u v <;> simp
  rw [Py.foldl_ext _ _ hbody]
  rw [foldl_foldl_cond (fun (u : Int) => Py.Range.toList (Py.Range.mk (u + (1 : Int)) ((G.n : Int) + (1 : Int))))
    (fun u v => !(absGraph G).has_edge u v)]
  simp only [List.nil_append, G2.nonEdges, G2.verts]
  rw [pairs2_rangeN, ints, List.flatMap_map]
  -- the outer range of the source stops at N - 1: the last vertex contributes nothing
  have hlast : (rangeN 1 (G.n + 1)).flatMap (fun u => (rangeN (u + 1) (G.n + 1)).map (fun v => (u, v))) =
      (rangeN 1 G.n).flatMap (fun u => (rangeN (u + 1) (G.n + 1)).map (fun v => (u, v))) := by
    rcases Nat.eq_zero_or_pos G.n with h0 | hpos
    · simp [h0, rangeN]
    · have : rangeN 1 (G.n + 1) = rangeN 1 G.n ++ [G.n] := by
        simp only [rangeN, show G.n + 1 - 1 = (G.n - 1) + 1 by omega, List.range_succ, List.map_append,
          List.map_cons, List.map_nil]
        congr 2; omega
      rw [this, List.flatMap_append]
      simp [rangeN]
  rw [hlast, List.filter_flatMap, intPairs, List.map_flatMap]
  apply List.flatMap_congr
  intro u hu
  have e : ((Int.ofNat u) + 1 : Int) = ((u + 1 : Nat) : Int) := by simp
  have e2 : ((G.n : Int) + 1) = ((G.n + 1 : Nat) : Int) := by simp
  rw [e, e2, range_nat_toList, ints, List.filter_map, List.map_map, List.filter_map, List.map_map]
  congr 1

end Cnfgen.GenFam
