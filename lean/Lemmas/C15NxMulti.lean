/-
C15, `complete N B`: `networkx.complete_multipartite_graph(*sizes)` as modelled in
`Nx.completeMultipartite`: two nodes are joined iff they lie in different blocks; number of edges.
-/
import Lemmas.C15NxBase
import Mathlib.Tactic.Ring
namespace Cnfgen.Nx
open Cnfgen

/-- the index of the block that contains position `r` (blocks of the given sizes, laid out in order) -/
def blockOf : List Nat → Nat → Nat
  | [], _ => 0
  | s :: ss, r => if r < s then 0 else 1 + blockOf ss (r - s)

/-- `Σ_{i<j} s_i · s_j` -/
def multiEdgeCount : List Nat → Nat
  | [] => 0
  | s :: ss => s * ss.sum + multiEdgeCount ss

theorem mem_blocks_range {st : Nat} {sizes : List Nat} {t : List Nat} (ht : t ∈ blocks st sizes) :
    ∀ x ∈ t, st ≤ x ∧ x < st + sizes.sum := by
  induction sizes generalizing st with
  | nil => simp [blocks] at ht
  | cons s ss ih =>
    simp only [blocks, List.mem_cons] at ht
    intro x hx
    simp only [List.sum_cons]
    rcases ht with rfl | ht
    · have := List.mem_range'_1.1 hx; omega
    · have := ih ht x hx; omega

theorem exists_block {st : Nat} {sizes : List Nat} {x : Nat} (h1 : st ≤ x) (h2 : x < st + sizes.sum) :
    ∃ t ∈ blocks st sizes, x ∈ t := by
  induction sizes generalizing st with
  | nil => simp at h2; omega
  | cons s ss ih =>
    simp only [List.sum_cons] at h2
    by_cases hx : x < st + s
    · exact ⟨List.range' st s, by simp [blocks], List.mem_range'_1.2 ⟨h1, hx⟩⟩
    · obtain ⟨t, ht, hxt⟩ := ih (st := st + s) (by omega) (by omega)
      exact ⟨t, by simp [blocks, ht], hxt⟩

theorem mem_blockPairs {st : Nat} {sizes : List Nat} {u v : Nat} :
    (u, v) ∈ blockPairs (blocks st sizes) ↔
      st ≤ u ∧ u < st + sizes.sum ∧ st ≤ v ∧ v < st + sizes.sum ∧ blockOf sizes (u - st) < blockOf sizes (v - st) := by
  induction sizes generalizing st with
  | nil => simp [blocks, blockPairs]; omega
  | cons s ss ih =>
    simp only [blocks, blockPairs, List.mem_append, List.mem_flatMap, List.mem_map, Prod.mk.injEq, List.sum_cons,
      blockOf, ih]
    constructor
    · rintro (⟨t, ht, a, ha, b, hb, rfl, rfl⟩ | ⟨h1, h2, h3, h4, h5⟩)
      · have hr := mem_blocks_range ht b hb
        have ha' := List.mem_range'_1.1 ha
        refine ⟨by omega, by omega, by omega, by omega, ?_⟩
        rw [if_pos (by omega), if_neg (by omega)]; omega
      · refine ⟨by omega, by omega, by omega, by omega, ?_⟩
        rw [if_neg (by omega), if_neg (by omega)]
        have e1 : u - st - s = u - (st + s) := by omega
        have e2 : v - st - s = v - (st + s) := by omega
        rw [e1, e2]; omega
    · rintro ⟨h1, h2, h3, h4, h5⟩
      by_cases hu : u - st < s
      · rw [if_pos hu] at h5
        by_cases hv : v - st < s
        · rw [if_pos hv] at h5; omega
        · left
          obtain ⟨t, ht, hvt⟩ := exists_block (st := st + s) (sizes := ss) (x := v) (by omega) (by omega)
          exact ⟨t, ht, u, List.mem_range'_1.2 ⟨h1, by omega⟩, v, hvt, rfl, rfl⟩
      · rw [if_neg hu] at h5
        by_cases hv : v - st < s
        · rw [if_pos hv] at h5; omega
        · rw [if_neg hv] at h5
          right
          have e1 : u - st - s = u - (st + s) := by omega
          have e2 : v - st - s = v - (st + s) := by omega
          rw [e1, e2] at h5
          exact ⟨by omega, by omega, by omega, by omega, by omega⟩

theorem blockOf_mono {sizes : List Nat} {u v : Nat} (h : u ≤ v) : blockOf sizes u ≤ blockOf sizes v := by
  induction sizes generalizing u v with
  | nil => simp [blockOf]
  | cons s ss ih =>
    simp only [blockOf]
    by_cases hu : u < s
    · rw [if_pos hu]; omega
    · rw [if_neg hu, if_neg (by omega)]
      have := ih (u := u - s) (v := v - s) (by omega); omega

theorem completeMultipartite_n (sizes : List Nat) : (completeMultipartite sizes).n = sizes.sum := rfl

theorem completeMultipartite_E {sizes : List Nat} {u v : Nat} :
    (completeMultipartite sizes).E u v ↔ u < sizes.sum ∧ v < sizes.sum ∧ blockOf sizes u ≠ blockOf sizes v := by
  unfold NxG.E completeMultipartite
  simp only [mem_blockPairs, Nat.zero_le, Nat.zero_add, Nat.sub_zero, true_and]
  omega

theorem completeMultipartite_WF (sizes : List Nat) : (completeMultipartite sizes).WF := by
  intro e he
  have h : (completeMultipartite sizes).E e.1 e.2 := Or.inl he
  rw [completeMultipartite_E] at h
  exact ⟨h.1, h.2.1⟩

theorem completeMultipartite_oriented (sizes : List Nat) : (completeMultipartite sizes).Oriented := by
  rintro ⟨u, v⟩ he
  have h := (mem_blockPairs (st := 0)).1 he
  simp only [Nat.sub_zero] at h
  simp only
  by_contra hlt
  have := blockOf_mono (sizes := sizes) (u := v) (v := u) (by omega)
  omega

theorem mem_blockPairs_fst {bs : List (List Nat)} {e : Nat × Nat} (h : e ∈ blockPairs bs) : ∃ b ∈ bs, e.1 ∈ b := by
  induction bs with
  | nil => simp [blockPairs] at h
  | cons s rest ih =>
    simp only [blockPairs, List.mem_append, List.mem_flatMap, List.mem_map] at h
    rcases h with ⟨t, _, u, hu, v, _, rfl⟩ | h
    · exact ⟨s, by simp, hu⟩
    · obtain ⟨b, hb, h⟩ := ih h
      exact ⟨b, by simp [hb], h⟩

theorem nodup_blockPairs : ∀ bs : List (List Nat), (∀ b ∈ bs, b.Nodup) → bs.Pairwise List.Disjoint →
    (blockPairs bs).Nodup := by
  intro bs
  induction bs with
  | nil => intro _ _; simp [blockPairs]
  | cons s rest ih =>
    intro hnd hpw
    rw [List.pairwise_cons] at hpw
    simp only [blockPairs]
    apply List.Nodup.append
    · rw [List.nodup_flatMap]
      constructor
      · intro t ht
        exact nodup_flatMap_map (hnd s (by simp)) (fun _ _ => hnd t (by simp [ht])) fun _ _ _ _ _ _ _ _ h => Prod.mk.inj h
      · apply hpw.2.imp
        intro t t' hd
        simp only [Function.onFun]
        intro z hz1 hz2
        simp only [List.mem_flatMap, List.mem_map] at hz1 hz2
        obtain ⟨_, _, x, hx, rfl⟩ := hz1
        obtain ⟨_, _, y, hy, h⟩ := hz2
        simp only [Prod.mk.injEq] at h
        rw [h.2] at hy
        exact hd hx hy
    · exact ih (fun b hb => hnd b (by simp [hb])) hpw.2
    · intro z hz1 hz2
      simp only [List.mem_flatMap, List.mem_map] at hz1
      obtain ⟨t, _, u, hu, v, _, rfl⟩ := hz1
      obtain ⟨b, hb, h⟩ := mem_blockPairs_fst hz2
      exact hpw.1 b hb hu h

theorem blocks_nodup (st : Nat) (sizes : List Nat) : ∀ b ∈ blocks st sizes, b.Nodup := by
  induction sizes generalizing st with
  | nil => simp [blocks]
  | cons s ss ih =>
    intro b hb
    simp only [blocks, List.mem_cons] at hb
    rcases hb with rfl | hb
    · exact List.nodup_range'
    · exact ih _ b hb

theorem blocks_disjoint (st : Nat) (sizes : List Nat) : (blocks st sizes).Pairwise List.Disjoint := by
  induction sizes generalizing st with
  | nil => simp [blocks]
  | cons s ss ih =>
    simp only [blocks, List.pairwise_cons]
    refine ⟨?_, ih _⟩
    intro t ht x hx1 hx2
    have h1 := List.mem_range'_1.1 hx1
    have h2 := mem_blocks_range ht x hx2
    omega

theorem map_length_blocks (st : Nat) (sizes : List Nat) : (blocks st sizes).map List.length = sizes := by
  induction sizes generalizing st with
  | nil => simp [blocks]
  | cons s ss ih => simp [blocks, ih]

theorem sum_length_blocks (st : Nat) (sizes : List Nat) : ((blocks st sizes).map List.length).sum = sizes.sum := by
  rw [map_length_blocks]

theorem length_blockPairs (bs : List (List Nat)) :
    (blockPairs bs).length = multiEdgeCount (bs.map List.length) := by
  induction bs with
  | nil => simp [blockPairs, multiEdgeCount]
  | cons s rest ih =>
    simp only [blockPairs, List.length_append, ih, List.map_cons, multiEdgeCount]
    congr 1
    clear ih
    induction rest with
    | nil => simp
    | cons t ts ih2 =>
      simp only [List.flatMap_cons, List.length_append, ih2, List.map_cons, List.sum_cons, Nat.mul_add]
      congr 1
      clear ih2
      induction s with
      | nil => simp
      | cons a as ih3 => simp [List.flatMap_cons, ih3, Nat.add_mul, Nat.add_comm]

theorem completeMultipartite_edges_length (sizes : List Nat) :
    (completeMultipartite sizes).edges.length = multiEdgeCount sizes := by
  rw [NxG.length_edges (completeMultipartite_WF sizes) (completeMultipartite_oriented sizes)
    (nodup_blockPairs _ (blocks_nodup 0 sizes) (blocks_disjoint 0 sizes))]
  show (blockPairs (blocks 0 sizes)).length = _
  rw [length_blockPairs, map_length_blocks]

theorem blockOf_replicate {b n r : Nat} (hr : r < b * n) : blockOf (List.replicate b n) r = r / n := by
  induction b generalizing r with
  | zero => simp at hr
  | succ k ih =>
    have hn : 0 < n := by
      rcases Nat.eq_zero_or_pos n with h | h
      · subst h; simp at hr
      · exact h
    simp only [List.replicate_succ, blockOf]
    by_cases h : r < n
    · rw [if_pos h, Nat.div_eq_of_lt h]
    · rw [if_neg h, ih (by rw [Nat.add_mul] at hr; omega)]
      have : r = (r - n) + n := by omega
      conv_rhs => rw [this, Nat.add_div_right _ hn]
      omega

theorem multiEdgeCount_replicate (b n : Nat) : 2 * multiEdgeCount (List.replicate b n) = n * n * (b * (b - 1)) := by
  induction b with
  | zero => simp [multiEdgeCount]
  | succ k ih =>
    simp only [List.replicate_succ, multiEdgeCount, List.sum_replicate_nat, Nat.mul_add, ih, Nat.add_sub_cancel]
    cases k with
    | zero => simp
    | succ j => simp only [Nat.add_sub_cancel]; ring

end Cnfgen.Nx
