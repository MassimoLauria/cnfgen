/-
Lemmas about the DIMACS reader's state machine (`CnfgenModel/IO/Dimacs.lean`).
-/
import Lemmas.IOLex
import Lemmas.Basic
import Lemmas.Exc
namespace Cnfgen.IO

/-- tokens of a clause list as the writer lays them out: literals, then `0` -/
def enc (cs : List Clause) : List Tok := cs.flatMap clauseRow

def GoodLits (n : Nat) (c : List Int) : Prop := ∀ l ∈ c, l ≠ 0 ∧ l.natAbs ≤ n

theorem enc_nil : enc [] = [] := rfl
theorem enc_cons (c : Clause) (cs : List Clause) : enc (c :: cs) = c.map Tok.int ++ Tok.int 0 :: enc cs := by
  simp [enc, clauseRow]
theorem enc_append (a b : List Clause) : enc (a ++ b) = enc a ++ enc b := by simp [enc]
theorem enc_snoc (o : List Clause) (b : Clause) : enc (o ++ [b]) = enc o ++ b.map Tok.int ++ [Tok.int 0] := by
  simp [enc, clauseRow]

theorem enc_eq_map (cs : List Clause) : enc cs = (cs.flatMap (fun c => c ++ [0])).map Tok.int := by
  induction cs with
  | nil => rfl
  | cons c cs ih => simp [enc_cons, ih]

instance instDecEqExcept {ε α} [DecidableEq ε] [DecidableEq α] : DecidableEq (Except ε α) := fun a b =>
  match a, b with
  | .ok x, .ok y => if h : x = y then isTrue (by rw [h]) else isFalse (by intro e; cases e; exact h rfl)
  | .error x, .error y => if h : x = y then isTrue (by rw [h]) else isFalse (by intro e; cases e; exact h rfl)
  | .ok _, .error _ => isFalse (by intro e; cases e)
  | .error _, .ok _ => isFalse (by intro e; cases e)

@[simp] theorem except_bind_ok {ε α β} (x : α) (f : α → Except ε β) : (Except.ok x >>= f) = f x := rfl
@[simp] theorem except_bind_error {ε α β} (e : ε) (f : α → Except ε β) : (Except.error e >>= f) = Except.error e := rfl

theorem litTok_good (n : Nat) (b : List Int) (o : List Clause) (l : Int) (h : l ≠ 0 ∧ l.natAbs ≤ n) :
    litTok n (b, o) (.int l) = .ok (b ++ [l], o) := by
  have : 1 ≤ l.natAbs := by have := h.1; omega
  simp [litTok, h.1, h.2, this]

theorem litFold_lits (n : Nat) : ∀ (c : Clause) (b : List Int) (o : List Clause), GoodLits n c →
    (c.map Tok.int).foldlM (litTok n) (b, o) = .ok (b ++ c, o)
  | [], b, o, _ => by simp [pure, Except.pure]
  | l :: c, b, o, h => by
    have hl := h l (by simp)
    have hc : GoodLits n c := fun x hx => h x (by simp [hx])
    simp [List.foldlM_cons, litTok_good n b o l hl, litFold_lits n c (b ++ [l]) o hc]

theorem litFold_enc (n : Nat) : ∀ (cs : List Clause) (o : List Clause), (∀ c ∈ cs, GoodLits n c) →
    (enc cs).foldlM (litTok n) ([], o) = .ok ([], o ++ cs)
  | [], o, _ => by simp [enc_nil, pure, Except.pure]
  | c :: cs, o, h => by
    have hc := h c (by simp)
    have hcs : ∀ c' ∈ cs, GoodLits n c' := fun x hx => h x (by simp [hx])
    have ih := litFold_enc n cs (o ++ [c]) hcs
    rw [enc_cons, List.foldlM_append, litFold_lits n c [] o hc]
    simp [List.foldlM_cons, litTok, ih]

theorem litFold_sound (n : Nat) : ∀ (toks : List Tok) (b : List Int) (o : List Clause) (b' : List Int) (o' : List Clause),
    toks.foldlM (litTok n) (b, o) = .ok (b', o') →
    enc o ++ b.map Tok.int ++ toks = enc o' ++ b'.map Tok.int ∧
    (GoodLits n b → (∀ c ∈ o, GoodLits n c) → GoodLits n b' ∧ ∀ c ∈ o', GoodLits n c)
  | [], b, o, b', o', h => by
    simp [pure, Except.pure] at h
    obtain ⟨rfl, rfl⟩ := h
    exact ⟨by simp, fun hb ho => ⟨hb, ho⟩⟩
  | t :: ts, b, o, b', o', h => by
    rw [List.foldlM_cons] at h
    cases t with
    | int lv =>
      by_cases h0 : lv = 0
      · subst h0
        simp [litTok] at h
        have ih := litFold_sound n ts [] (o ++ [b]) b' o' h
        refine ⟨?_, ?_⟩
        · rw [← ih.1, enc_snoc]; simp
        · intro hb ho
          apply ih.2 (by intro l hl; simp at hl)
          intro c hc
          rcases List.mem_append.1 hc with hc | hc
          · exact ho c hc
          · simp at hc; subst hc; exact hb
      · by_cases hr : 1 ≤ lv.natAbs ∧ lv.natAbs ≤ n
        · simp [litTok, h0, hr] at h
          have ih := litFold_sound n ts (b ++ [lv]) o b' o' h
          refine ⟨?_, ?_⟩
          · rw [← ih.1]; simp
          · intro hb ho
            apply ih.2 _ ho
            intro l hl
            rcases List.mem_append.1 hl with hl | hl
            · exact hb l hl
            · simp at hl; subst hl; exact ⟨h0, hr.2⟩
        · simp [litTok, h0, hr] at h
    | xvar neg v => simp [litTok] at h
    | word s => simp [litTok] at h

theorem litFold_iff (n : Nat) (toks : List Tok) (cs : List Clause) :
    toks.foldlM (litTok n) ([], []) = .ok ([], cs) ↔ toks = enc cs ∧ ∀ c ∈ cs, GoodLits n c := by
  constructor
  · intro h
    have := litFold_sound n toks [] [] [] cs h
    refine ⟨by simpa [enc_nil] using this.1, (this.2 (by intro l hl; simp at hl) (by intro c hc; simp at hc)).2⟩
  · rintro ⟨rfl, hg⟩
    simpa using litFold_enc n cs [] hg

def isLits (r : Row) : Bool := decide (r.cls = .lits)

/-- the literal tokens of a token matrix, in reading order -/
def litToks (rows : List Row) : List Tok := (rows.filter isLits).flatten

def Skip (r : Row) : Prop := r.cls = .blank ∨ r.cls = .comment

theorem rowStep_skip (st : PState) (r : Row) (h : Skip r) : rowStep st r = .ok st := by
  rcases h with h | h <;> simp [rowStep, h]

theorem rows_skip (st : PState) : ∀ (rows : List Row), (∀ r ∈ rows, Skip r) → rows.foldlM rowStep st = .ok st
  | [], _ => by simp [pure, Except.pure]
  | r :: rs, h => by
    rw [List.foldlM_cons, rowStep_skip st r (h r (by simp))]
    simpa using rows_skip st rs (fun x hx => h x (by simp [hx]))

theorem Row.cls_cases (r : Row) : Skip r ∨ r.cls = .spec ∨ r.cls = .lits := by
  unfold Skip; cases r.cls <;> simp

theorem litToks_skip {r : Row} (rs : List Row) (h : Skip r) : litToks (r :: rs) = litToks rs := by
  rcases h with h | h <;> simp [litToks, isLits, h]

theorem litToks_lits {r : Row} (rs : List Row) (h : r.cls = .lits) : litToks (r :: rs) = r ++ litToks rs := by
  simp [litToks, isLits, h]

/-- after the spec line: no further spec line, and the rows are read as one stream of literal tokens -/
theorem rows_after_spec (n m : Nat) : ∀ (post : List Row) (b : List Int) (o : List Clause) (st' : PState),
    post.foldlM rowStep ⟨some (n, m), b, o⟩ = .ok st' →
    (∀ r ∈ post, r.cls ≠ .spec) ∧
    (litToks post).foldlM (litTok n) (b, o) = .ok (st'.buf, st'.out) ∧ st'.spec = some (n, m)
  | [], b, o, st', h => by
    simp [pure, Except.pure] at h
    subst h
    simp [litToks, pure, Except.pure]
  | r :: rs, b, o, st', h => by
    rw [List.foldlM_cons] at h
    rcases r.cls_cases with hs | hc | hc
    · rw [rowStep_skip _ r hs] at h
      have ih := rows_after_spec n m rs b o st' h
      rw [litToks_skip rs hs]
      refine ⟨?_, ih.2⟩
      rintro x (_ | ⟨_, hx⟩)
      · rcases hs with hs | hs <;> simp [hs]
      · exact ih.1 x hx
    · simp [rowStep, hc] at h
    · simp only [rowStep, hc] at h
      cases hf : r.foldlM (litTok n) (b, o) with
      | error e => simp [hf] at h
      | ok bo =>
        simp [hf] at h
        have ih := rows_after_spec n m rs bo.1 bo.2 st' h
        rw [litToks_lits rs hc, List.foldlM_append, hf]
        refine ⟨?_, by simpa using ih.2.1, ih.2.2⟩
        rintro x (_ | ⟨_, hx⟩)
        · simp [hc]
        · exact ih.1 x hx

theorem rows_after_spec_complete (n m : Nat) : ∀ (post : List Row) (b : List Int) (o : List Clause) (b' : List Int) (o' : List Clause),
    (∀ r ∈ post, r.cls ≠ .spec) →
    (litToks post).foldlM (litTok n) (b, o) = .ok (b', o') →
    post.foldlM rowStep ⟨some (n, m), b, o⟩ = .ok ⟨some (n, m), b', o'⟩
  | [], b, o, b', o', _, h => by
    simp [litToks, pure, Except.pure] at h
    obtain ⟨rfl, rfl⟩ := h
    simp [pure, Except.pure]
  | r :: rs, b, o, b', o', hns, h => by
    have hns' : ∀ x ∈ rs, x.cls ≠ .spec := fun x hx => hns x (by simp [hx])
    rw [List.foldlM_cons]
    rcases r.cls_cases with hs | hc | hc
    · rw [litToks_skip rs hs] at h
      rw [rowStep_skip _ r hs]
      exact rows_after_spec_complete n m rs b o b' o' hns' h
    · exact absurd hc (hns r (by simp))
    · rw [litToks_lits rs hc, List.foldlM_append] at h
      cases hf : r.foldlM (litTok n) (b, o) with
      | error e => simp [hf] at h
      | ok bo =>
        simp [hf] at h
        simpa [rowStep, hc, hf] using rows_after_spec_complete n m rs bo.1 bo.2 b' o' hns' h

theorem parseSpec_ok {r : Row} {n m : Nat} (h : parseSpec r = .ok (n, m)) :
    ∃ a b, r = [a, b, .int (n : Int), .int (m : Int)] := by
  unfold parseSpec at h
  split at h
  · rename_i a b n' m'
    split at h
    · cases h
    · cases h
      exact ⟨a, b, by rw [Int.toNat_of_nonneg (by omega), Int.toNat_of_nonneg (by omega)]⟩
  · cases h

theorem parseSpec_nat (a b : Tok) (n m : Nat) : parseSpec [a, b, .int (n : Int), .int (m : Int)] = .ok (n, m) := by
  have : ¬ ((n : Int) < 0 ∨ (m : Int) < 0) := by omega
  simp [parseSpec, this]

theorem rows_before_spec : ∀ (rows : List Row) (st' : PState), rows.foldlM rowStep PState.init = .ok st' →
    (st' = PState.init ∧ ∀ r ∈ rows, Skip r) ∨
    (∃ pre r nm post, rows = pre ++ r :: post ∧ (∀ x ∈ pre, Skip x) ∧ r.cls = .spec ∧ parseSpec r = .ok nm ∧
      post.foldlM rowStep ⟨some nm, [], []⟩ = .ok st')
  | [], st', h => by
    simp [pure, Except.pure] at h
    exact Or.inl ⟨h.symm, by simp⟩
  | r :: rs, st', h => by
    rw [List.foldlM_cons] at h
    rcases r.cls_cases with hs | hc | hc
    · rw [rowStep_skip _ r hs] at h
      rcases rows_before_spec rs st' h with ⟨e, hs'⟩ | ⟨pre, r', nm, post, e, hp, hr, hps, hpost⟩
      · exact Or.inl ⟨e, List.forall_mem_cons.2 ⟨hs, hs'⟩⟩
      · exact Or.inr ⟨r :: pre, r', nm, post, by simp [e], List.forall_mem_cons.2 ⟨hs, hp⟩, hr, hps, hpost⟩
    · simp only [rowStep, hc, PState.init] at h
      cases hp : parseSpec r with
      | error e => simp [hp] at h
      | ok nm =>
        simp [hp] at h
        exact Or.inr ⟨[], r, nm, rs, by simp, by simp, hc, hp, h⟩
    · simp [rowStep, hc, PState.init] at h

theorem addClauses_good (n : Nat) : ∀ (cs : List Clause) (acc : List Clause), (∀ c ∈ cs, GoodLits n c) →
    cs.foldlM (fun F c => CNF.addClause F c true) (CNF.mk n acc) = .ok ⟨n, acc ++ cs⟩
  | [], acc, _ => by simp [pure, Except.pure]
  | c :: cs, acc, h => by
    rw [List.foldlM_cons, CNF.addClause_in ⟨n, acc⟩ c (h c (by simp))]
    simpa using addClauses_good n cs (acc ++ [c]) (fun x hx => h x (by simp [hx]))

theorem litTok_err (n : Nat) (st : List Int × List Clause) (t : Tok) (e : Err) :
    litTok n st t = .error e → e = .valueError := by
  unfold litTok; grind

theorem foldlM_err {α β} (f : β → α → Except Err β) (hf : ∀ b a e, f b a = .error e → e = .valueError) :
    ∀ (l : List α) (b : β) (e : Err), l.foldlM f b = .error e → e = .valueError
  | [], b, e, h => by simp [pure, Except.pure] at h
  | a :: l, b, e, h => by
    rw [List.foldlM_cons] at h
    cases hfa : f b a with
    | error e' => rw [hfa] at h; simp at h; subst h; exact hf b a e' hfa
    | ok b' => rw [hfa] at h; simp at h; exact foldlM_err f hf l b' e h

theorem parseSpec_err (r : Row) (e : Err) : parseSpec r = .error e → e = .valueError := by
  unfold parseSpec; grind

theorem rowStep_err (st : PState) (r : Row) (e : Err) : rowStep st r = .error e → e = .valueError := by
  unfold rowStep; grind [parseSpec_err, foldlM_err, litTok_err]

theorem finish_err (st : PState) (e : Err) : finish st = .error e → e = .valueError := by
  unfold finish; grind

theorem finish_ok {st st' : PState} (h : finish st = .ok st') :
    st' = st ∧ st.buf = [] ∧ ∃ n, st.spec = some (n, st.out.length) := by
  unfold finish at h; grind

theorem addClause_err (F : CNF) (c : Clause) (e : Err) : F.addClause c true = .error e → e = .valueError := by
  unfold CNF.addClause checkLits; grind

end Cnfgen.IO
