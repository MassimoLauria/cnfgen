/-
Semantics of a clause taken as a constraint.
-/
import CnfgenModel.Build.Constr
import Lemmas.Constr
namespace Cnfgen.FamC03a

theorem holds_clause (α : Assign) (c : Clause) : (Con.clause c).holds α = clauseHolds α c := rfl

end Cnfgen.FamC03a
