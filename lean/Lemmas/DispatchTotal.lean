/-
Lemmas about `Cnfgen.Cli.dispatchSpec` (CnfgenModel/Cli/Dispatch.lean): totality on the modelled fragment.

The parser (`parseRaw`, `expand`, `parseArgs`) answers `.ok _` or `.error .cliError` on the fragment for every supported
sub-command (standard, `php`, `compose_two_parsers`), and its bindings are typed: stated as how each parser function
ends (`Ends E Q`) and where its bindings come from (`Produced`).  Then the namespace, what guards and call templates
answer given the values of their parts, and totality of `dispatchSpec` on `totalClassExt` (splices of star positionals,
guarded comparisons).  Each check of `totalClass` is contained in its extended form, so there is one soundness proof per
extended check, by induction on the expression, and `totalClass` is the special case.  They are stated for any namespace
that is `NsOK`, so that they apply to the namespaces of the extended parser (Lemmas/ArgparseDispatchTotal.lean) as well.
-/
import CnfgenModel.Cli.DispatchChecks
import Lemmas.Ends
namespace Cnfgen.Cli
open Cnfgen.Gen

/-- what the action of option `o` can store -/
def producible (o : OptSpec) (v : Val) : Prop :=
  match o.arity with
  | .zero => v = o.flagVal
  | .one => ∃ t, convertOne o t = some v
  | .plus => ∃ k toks, v = .graph k toks
  | .star => ∃ l, v = .ints l
  | .opt => v = o.defaultVal ∨ ∃ t, convertOne o t = some v
  | .other => False

/-- `producible`, with the kind of a graph pinned to the action that reads it -/
def typedBy (o : OptSpec) (v : Val) : Prop :=
  match o.arity with
  | .zero => v = o.flagVal
  | .one => ∃ t, convertOne o t = some v
  | .plus => ∃ k toks, graphKind o.action = some k ∧ v = .graph k toks
  | .star => ∃ l, v = .ints l
  | .opt => v = o.defaultVal ∨ ∃ t, convertOne o t = some v
  | .other => False

theorem producible_of_typedBy {o : OptSpec} {v : Val} (h : typedBy o v) : producible o v := by
  unfold typedBy at h
  unfold producible
  split at h
  case h_3 => exact let ⟨k, toks, _, hv⟩ := h; ⟨k, toks, hv⟩
  all_goals exact h

/-- `OptSpec.arity` read backwards: what each arity says about the action and the position of the option -/
theorem arity_cases (o : OptSpec) :
    (o.arity = .zero →
      ((o.action = "store_true" ∨ o.action = "store_false") ∨ o.action = "store_const") ∧ o.positional = false) ∧
    (o.arity = .one ∨ o.arity = .opt → o.action = "" ∨ o.action = "store") ∧
    (o.arity = .plus → (graphKind o.action).isSome = true) ∧
    (o.arity = .star ∨ o.arity = .opt → o.positional = true) := by
  unfold OptSpec.arity
  repeat' split
  all_goals simp_all

theorem dtot_arity_pos (o : OptSpec) (h : o.arity = .star ∨ o.arity = .opt) : o.positional = true :=
  (arity_cases o).2.2.2 h

theorem dtot_arity_star (o : OptSpec) (h : o.arity = .star) : o.positional = true :=
  dtot_arity_pos o (Or.inl h)

theorem dtot_arity_zero_shape (o : OptSpec) (h : o.arity = .zero) :
    ((o.action = "store_true" ∨ o.action = "store_false") ∨ o.action = "store_const") ∧ o.positional = false :=
  (arity_cases o).1 h

theorem dtot_arity_zero (o : OptSpec) (h : o.arity = .zero) : o.positional = false :=
  (dtot_arity_zero_shape o h).2

theorem dtot_arity_one_action (o : OptSpec) (h : o.arity = .one ∨ o.arity = .opt) :
    o.action = "" ∨ o.action = "store" :=
  (arity_cases o).2.1 h

theorem dtot_arity_plus_action (o : OptSpec) (h : o.arity = .plus) : (graphKind o.action).isSome = true :=
  (arity_cases o).2.2.1 h

theorem dtot_arity_plain_action (o : OptSpec)
    (h : o.arity = .zero ∨ o.arity = .one ∨ o.arity = .opt ∨ o.arity = .plus) :
    o.action ≠ "PHPArgs" ∧ o.action ≠ "compose_two_parsers" := by
  rcases h with h | h | h | h
  · rcases (dtot_arity_zero_shape o h).1 with (h | h) | h <;> rw [h] <;> decide
  · rcases dtot_arity_one_action o (Or.inl h) with h | h <;> rw [h] <;> decide
  · rcases dtot_arity_one_action o (Or.inr h) with h | h <;> rw [h] <;> decide
  · have := dtot_arity_plus_action o h
    constructor <;> intro hc <;> rw [hc] at this <;> revert this <;> decide

theorem dtot_arity_nonpos (o : OptSpec) (hp : o.positional = false) (ho : o.arity ≠ .other) :
    o.arity = .zero ∨ o.arity = .one ∨ o.arity = .plus := by
  cases h : o.arity with
  | zero => exact Or.inl rfl
  | one => exact Or.inr (Or.inl rfl)
  | plus => exact Or.inr (Or.inr rfl)
  | star => have := dtot_arity_pos o (Or.inl h); rw [hp] at this; cases this
  | opt => have := dtot_arity_pos o (Or.inr h); rw [hp] at this; cases this
  | other => exact absurd h ho

theorem dtot_std (o : OptSpec) (h : o.standard = true) :
    o.nested = false ∧ o.action ≠ "PHPArgs" ∧ o.action ≠ "compose_two_parsers" ∧ o.group = "" ∧
    o.arity ≠ .other ∧ o.arity ≠ .opt := by
  unfold OptSpec.standard at h
  simp only [Bool.and_eq_true] at h
  obtain ⟨⟨⟨⟨⟨⟨⟨h1, _⟩, h3⟩, h4⟩, h5⟩, h6⟩, _⟩, _⟩ := h
  refine ⟨by simpa using h1, by simpa using h3, by simpa using h4, by simpa using h5, ?_, ?_⟩ <;>
  · intro ha; rw [ha] at h6; simp at h6

/-! ### the actions

What is said of one action: its refusals are CLIErrors (`dtot_errs`), its bindings satisfy a relation `R`
(`dtot_binds R`).  The parser lemmas say that the bindings came out of actions (`Produced`); `Produced.all` carries a
`dtot_binds R` over to all of them (`dtot_snd R`). -/

def dtot_errs (o : OptSpec) : Prop := ∀ toks e, bindOne o toks = .error e → e = .cliError

def dtot_binds (R : OptSpec → String × Val → Prop) (o : OptSpec) : Prop :=
  ∀ toks b, bindOne o toks = .ok b → ∀ p ∈ b, R o p

def dtot_snd (R : OptSpec → String × Val → Prop) (opts : List OptSpec) (b : Ns) : Prop :=
  ∀ p ∈ b, ∃ o ∈ opts, R o p

/-- the bindings of `parseRaw`: typed by the option, except that a `compose_two_parsers` action stores tokens -/
def dtot_prod (o : OptSpec) (p : String × Val) : Prop :=
  o.dest = p.1 ∧ ((o.action ≠ "compose_two_parsers" ∧ producible o p.2) ∨
    (o.action = "compose_two_parsers" ∧ ∃ l, p.2 = .toks l))

/-- the bindings of an action that stores no tokens -/
def dtot_typed (o : OptSpec) (p : String × Val) : Prop := o.dest = p.1 ∧ typedBy o p.2

def dtot_notoks (_ : OptSpec) (p : String × Val) : Prop := ∀ l, p.2 ≠ .toks l

/-- the bindings of `parseArgs`: stored under the dest of an option and typed by it -/
def dtot_sound (opts : List OptSpec) (b : Ns) : Prop :=
  dtot_snd (fun o p => o.dest = p.1 ∧ producible o p.2) opts b

/-! ### where the bindings of a run come from (both parsers: Lemmas/ArgparseTotal.lean uses `Produced` too; how a run ends:
`Ends`, Lemmas/Ends.lean) -/

section produced
variable {ε : Type} (bind : OptSpec → List String → Except ε Ns)

structure Produced (opts done : List OptSpec) (b : Ns) : Prop where
  out : ∀ q ∈ b, ∃ o ∈ opts, ∃ toks b0, bind o toks = .ok b0 ∧ q ∈ b0
  ran : ∀ o ∈ done, ∃ toks b0, bind o toks = .ok b0 ∧ ∀ q ∈ b0, q ∈ b

def ErrFrom (opts : List OptSpec) (e : ε) : Prop := ∃ o ∈ opts, ∃ toks, bind o toks = .error e

variable {bind} {opts opts' d1 d2 : List OptSpec} {b1 b2 : Ns}

theorem Produced.nil : Produced bind opts [] [] := ⟨fun _ h => (nomatch h), fun _ h => (nomatch h)⟩

theorem Produced.one {o : OptSpec} {toks : List String} (ho : o ∈ opts) (h : bind o toks = .ok b1) :
    Produced bind opts [o] b1 :=
  ⟨fun _ hq => ⟨o, ho, toks, b1, h, hq⟩, fun _ ho' => List.mem_singleton.1 ho' ▸ ⟨toks, b1, h, fun _ hq => hq⟩⟩

theorem Produced.append (h1 : Produced bind opts d1 b1) (h2 : Produced bind opts d2 b2) :
    Produced bind opts (d1 ++ d2) (b1 ++ b2) :=
  ⟨fun q hq => (List.mem_append.1 hq).elim (h1.out q) (h2.out q),
   fun o ho => (List.mem_append.1 ho).elim
    (fun ho => have ⟨t, b0, h, hs⟩ := h1.ran o ho; ⟨t, b0, h, fun q hq => List.mem_append_left _ (hs q hq)⟩)
    (fun ho => have ⟨t, b0, h, hs⟩ := h2.ran o ho; ⟨t, b0, h, fun q hq => List.mem_append_right _ (hs q hq)⟩)⟩

theorem Produced.mono (hs : ∀ o ∈ opts, o ∈ opts') (hd : ∀ o ∈ d2, o ∈ d1) (h : Produced bind opts d1 b1) :
    Produced bind opts' d2 b1 :=
  ⟨fun q hq => have ⟨o, ho, r⟩ := h.out q hq; ⟨o, hs o ho, r⟩, fun o ho => h.ran o (hd o ho)⟩

theorem Produced.all {R : OptSpec → String × Val → Prop} (h : Produced bind opts d1 b1)
    (hR : ∀ o ∈ opts, ∀ toks b0, bind o toks = .ok b0 → ∀ p ∈ b0, R o p) : ∀ p ∈ b1, ∃ o ∈ opts, R o p :=
  fun p hp => have ⟨o, ho, toks, b0, hb, hq⟩ := h.out p hp; ⟨o, ho, hR o ho toks b0 hb p hq⟩

theorem ErrFrom.mono {e : ε} (hs : ∀ o ∈ opts, o ∈ opts') (h : ErrFrom bind opts e) : ErrFrom bind opts' e :=
  have ⟨o, ho, r⟩ := h; ⟨o, hs o ho, r⟩

end produced

/-- the bindings of one call of `PHPArgs`: the graph, or the three numbers together -/
def PhpCall (bs : Ns) : Prop :=
  (∃ toks, bs = [("B", .graph "bipartite" toks)]) ∨
  (∃ d h p, bs = [("degree", .int d), ("holes", .int h), ("pigeons", .int p)])

theorem phpArgs_ends (toks : List String) : Ends (· = .cliError) PhpCall (phpArgs toks) := by
  unfold phpArgs
  repeat' split
  all_goals first
    | exact rfl
    | exact Or.inl ⟨_, rfl⟩
    | exact Or.inr ⟨_, _, _, rfl⟩

theorem dtot_bindOne_errs (o : OptSpec) (ho : o.arity ≠ .other) : dtot_errs o := by
  intro toks e h
  unfold bindOne at h
  split at h
  · exact (phpArgs_ends toks).err h
  · split at h
    · simp at h
    · cases har : o.arity <;> rw [har] at h <;> dsimp only at h
      all_goals (repeat' split at h)
      all_goals simp_all

theorem bindOne_ok (o : OptSpec) (hact : o.action ≠ "PHPArgs") (toks : List String) (b : Ns)
    (h : bindOne o toks = .ok b) :
    ∃ v, b = [(o.dest, v)] ∧ ((o.action ≠ "compose_two_parsers" ∧ typedBy o v) ∨
      (o.action = "compose_two_parsers" ∧ ∃ l, v = .toks l)) := by
  unfold bindOne at h
  have : (o.action == "PHPArgs") = false := by simpa using hact
  simp only [this, Bool.false_eq_true, if_false] at h
  by_cases hc : o.action = "compose_two_parsers"
  · simp only [hc, beq_self_eq_true, if_true] at h
    cases h
    exact ⟨_, rfl, Or.inr ⟨hc, _, rfl⟩⟩
  · have : (o.action == "compose_two_parsers") = false := by simpa using hc
    simp only [this, Bool.false_eq_true, if_false] at h
    unfold typedBy
    cases har : o.arity <;> rw [har] at h <;> dsimp only at h ⊢
    all_goals (repeat' split at h) <;> cases h <;> refine ⟨_, rfl, Or.inl ⟨hc, ?_⟩⟩
    -- zero, one, plus, star, opt without and with a token
    · rfl
    · exact ⟨_, ‹_›⟩
    · exact ⟨_, _, ‹_›, rfl⟩
    · exact ⟨_, rfl⟩
    · exact Or.inl rfl
    · exact Or.inr ⟨_, ‹_›⟩

theorem dtot_bindOne_binds (o : OptSpec) (hact : o.action ≠ "PHPArgs") : dtot_binds dtot_prod o := by
  intro toks b h p hp
  obtain ⟨v, rfl, hv⟩ := bindOne_ok o hact toks b h
  cases List.mem_singleton.1 hp
  exact ⟨rfl, hv.imp_left (And.imp_right producible_of_typedBy)⟩

theorem dtot_bindOne_typed (o : OptSpec) (hact : o.action ≠ "PHPArgs") (hc : o.action ≠ "compose_two_parsers") :
    dtot_binds dtot_typed o := by
  intro toks b h p hp
  obtain ⟨v, rfl, hv⟩ := bindOne_ok o hact toks b h
  cases List.mem_singleton.1 hp
  exact ⟨rfl, (hv.resolve_right fun hh => hc hh.1).2⟩

theorem dflag_bindOne (o : OptSpec) (h : o.arity = .zero) (toks : List String) :
    bindOne o toks = .ok [(o.dest, o.flagVal)] := by
  have ha := dtot_arity_plain_action o (Or.inl h)
  unfold bindOne
  simp [ha.1, ha.2, h]

theorem dflag_consumeOpt (o : OptSpec) (h : o.arity = .zero) (chunk : List String) :
    consumeOpt o chunk = .ok ([(o.dest, o.flagVal)], chunk) := by
  unfold consumeOpt
  simp [h, dflag_bindOne o h [], Except.map]

theorem bindOne_token (o : OptSpec) (h : o.arity = .one ∨ o.arity = .opt) (t : String) :
    bindOne o [t] = match convertOne o t with | some v => .ok [(o.dest, v)] | none => .error .cliError := by
  have ha := dtot_arity_plain_action o (h.imp_right Or.inl |> Or.inr)
  unfold bindOne
  rcases h with h | h <;> simp only [ha.1, ha.2, h, beq_iff_eq, if_false] <;> cases convertOne o t <;> rfl

theorem bindOne_absent (d : OptSpec) (har : d.arity = .opt) : bindOne d [] = .ok [(d.dest, d.defaultVal)] := by
  have ha := dtot_arity_plain_action d (Or.inr (Or.inr (Or.inl har)))
  unfold bindOne
  simp [ha.1, ha.2, har]

theorem dtot_convertOne_plain (o : OptSpec) (t : String) (v : Val) (h : convertOne o t = some v) :
    (∃ x, v = .str x) ∨ ∃ i, v = .int i := by
  unfold convertOne at h
  split at h
  · split at h
    · simp at h; subst h; exact Or.inl ⟨_, rfl⟩
    · simp at h
  · simp at h
    obtain ⟨i, _, hi⟩ := h
    subst hi; exact Or.inr ⟨_, rfl⟩

/-- what a constant of an option can be (`const=`, `default=`, what a flag stores): not a list, a graph or a parameter -/
def constLike : Val → Bool
  | .none | .bool _ | .int _ | .str _ | .opaque _ => true
  | _ => false

theorem constVal_constLike (e : Expr) : constLike (constVal e) = true := by
  cases e <;> rfl

theorem flagVal_constLike (o : OptSpec) : constLike o.flagVal = true := by
  unfold OptSpec.flagVal
  repeat' split
  all_goals first | exact constVal_constLike _ | rfl

theorem defaultVal_constLike (o : OptSpec) : constLike o.defaultVal = true := by
  unfold OptSpec.defaultVal
  repeat' split
  all_goals first | exact constVal_constLike _ | rfl

theorem constLike_notoks {v : Val} (h : constLike v = true) (l : List String) : v ≠ .toks l := by
  rintro rfl
  cases h

theorem constLike_not_graph {v : Val} (h : constLike v = true) (k : String) (t : List String) : v ≠ .graph k t := by
  rintro rfl
  cases h

theorem producible_elim {P : Val → Prop} {o : OptSpec} {v : Val} (hp : producible o v) (hf : P o.flagVal)
    (hd : P o.defaultVal) (hs : ∀ x, P (.str x)) (hi : ∀ i, P (.int i)) (hg : ∀ k t, P (.graph k t))
    (hl : ∀ l, P (.ints l)) : P v := by
  have hc : (∃ t, convertOne o t = some v) → P v := fun ⟨t, ht⟩ => by
    rcases dtot_convertOne_plain o t v ht with ⟨x, rfl⟩ | ⟨i, rfl⟩
    · exact hs x
    · exact hi i
  unfold producible at hp
  split at hp
  · exact hp ▸ hf
  · exact hc hp
  · obtain ⟨k, t, rfl⟩ := hp
    exact hg k t
  · obtain ⟨l, rfl⟩ := hp
    exact hl l
  · exact hp.elim (· ▸ hd) hc
  · exact hp.elim

theorem dtot_producible_notoks (o : OptSpec) (v : Val) (hp : producible o v) (l : List String) :
    v ≠ .toks l :=
  producible_elim (P := (· ≠ .toks l)) hp (constLike_notoks (flagVal_constLike o) l)
    (constLike_notoks (defaultVal_constLike o) l) nofun nofun nofun nofun

theorem dtot_bindOne_notoks (o : OptSpec) (hact : o.action ≠ "compose_two_parsers") :
    dtot_binds dtot_notoks o := by
  intro toks b h p hp l
  by_cases hphp : o.action = "PHPArgs"
  · unfold bindOne at h
    simp only [hphp, beq_self_eq_true, if_true] at h
    rcases (phpArgs_ends toks).ok h with ⟨tk, rfl⟩ | ⟨d, hh, pp, rfl⟩
    · cases List.mem_singleton.1 hp
      nofun
    · simp only [List.mem_cons, List.not_mem_nil, or_false] at hp
      rcases hp with rfl | rfl | rfl <;> nofun
  · rcases (dtot_bindOne_binds o hphp toks b h p hp).2 with ⟨_, h2⟩ | ⟨h1, _⟩
    · exact dtot_producible_notoks o p.2 h2 l
    · exact absurd h1 hact

/-! ### the parser of the sub-command: how each of its functions ends

One lemma per function: it refuses with a `Refusal`, or its bindings are `Produced` by the actions of the options it was
given.  Nothing is assumed of the actions. -/

/-- `consumeOpt` hands some tokens to `bindOne` and keeps some of the others; it refuses by itself only for want of a
token (when the arity of the option is one an optional can have) -/
theorem consumeOpt_inv (o : OptSpec) (chunk : List String) :
    (∃ e, consumeOpt o chunk = .error e ∧ (o.arity = .zero ∨ o.arity = .one ∨ o.arity = .plus → e = .cliError)) ∨
      ∃ toks left, (∀ t ∈ left, t ∈ chunk) ∧ consumeOpt o chunk = (bindOne o toks).map (fun b => (b, left)) := by
  unfold consumeOpt
  cases h : o.arity <;> dsimp only
  · exact Or.inr ⟨_, _, fun _ ht => ht, rfl⟩
  iterate 2
    cases chunk with
    | nil => exact Or.inl ⟨_, rfl, fun _ => rfl⟩
    | cons t r => exact Or.inr ⟨_, _, by simp +contextual, rfl⟩
  all_goals exact Or.inl ⟨_, rfl, by simp⟩

theorem applyPos_nil {ps : List OptSpec} {cs : List Nat} {toks : List String} (h : ps = [] ∨ cs = []) :
    applyPos ps cs toks = .ok [] := by
  rcases h with rfl | rfl
  · rfl
  · cases ps <;> rfl

def Refusal (opts : List OptSpec) (e : CliErr) : Prop := e = .cliError ∨ ErrFrom bindOne opts e

theorem Refusal.mono {opts opts' : List OptSpec} (hs : ∀ o ∈ opts, o ∈ opts') (e : CliErr) :
    Refusal opts e → Refusal opts' e :=
  Or.imp_right (·.mono hs)

theorem Refusal.cli {opts : List OptSpec} (hE : ∀ o ∈ opts, dtot_errs o) {e : CliErr} (h : Refusal opts e) :
    e = .cliError :=
  h.elim id fun ⟨o, ho, toks, h⟩ => hE o ho toks e h

theorem consumeOpt_ends (o : OptSpec) (har : o.arity = .zero ∨ o.arity = .one ∨ o.arity = .plus)
    (chunk : List String) :
    Ends (Refusal [o]) (fun r => Produced bindOne [o] [] r.1) (consumeOpt o chunk) := by
  rcases consumeOpt_inv o chunk with ⟨e0, h, he0⟩ | ⟨toks, left, _, h⟩ <;> rw [h]
  · exact .fail (Or.inl (he0 har))
  · cases hb : bindOne o toks with
    | error e0 => exact .fail (Or.inr ⟨o, List.mem_singleton.2 rfl, toks, hb⟩)
    | ok b0 => exact .ret ((Produced.one (List.mem_singleton.2 rfl) hb).mono (fun _ h => h) fun _ h => nomatch h)

theorem applyPos_ends : ∀ (ps : List OptSpec) (cs : List Nat) (toks : List String),
    Ends (Refusal ps) (Produced bindOne ps (ps.take cs.length)) (applyPos ps cs toks)
  | [], cs, toks => by rw [applyPos_nil (Or.inl rfl)]; exact .ret ⟨fun _ h => (nomatch h), by simp⟩
  | o :: os, [], toks => .ret .nil
  | o :: os, c :: cs, toks => by
    have hsub : ∀ o' ∈ os, o' ∈ o :: os := fun _ h => List.mem_cons_of_mem _ h
    unfold applyPos
    split
    · next e he => exact Or.inr ⟨o, List.mem_cons_self .., _, he⟩
    · next b0 h0 =>
      have ih := applyPos_ends os cs (toks.drop c)
      split
      · next e he => exact Refusal.mono hsub e (ih.err he)
      · next more h1 =>
        exact .ret (((ih.ok h1).mono hsub (fun _ h => h)).append (.one (List.mem_cons_self ..) h0) |>.mono
          (fun _ h => h) (fun o' h => by simpa [or_comm] using h))

theorem consumePos_ends (ps : List OptSpec) (chunk : List String) (final : Bool) :
    Ends (Refusal ps) (fun r => ∃ done, ps = done ++ r.1 ∧ Produced bindOne ps done r.2) (consumePos ps chunk final) := by
  unfold consumePos
  split
  · exact .ret ⟨[], rfl, .nil⟩
  · dsimp only
    split
    · exact Or.inl rfl
    · have ha := applyPos_ends ps (matchPartial (ps.map OptSpec.arity) chunk.length ps.length) chunk
      split
      · next e he => exact ha.err he
      · next b hb => exact .ret ⟨_, (List.take_append_drop ..).symm, ha.ok hb⟩

theorem parseSegs_ends (opts : List OptSpec) : ∀ (segs : List (OptSpec × List String)) (ps : List OptSpec),
    (∀ o ∈ ps, o ∈ opts) →
    (∀ sg ∈ segs, sg.1 ∈ opts ∧ (sg.1.arity = .zero ∨ sg.1.arity = .one ∨ sg.1.arity = .plus)) →
    Ends (Refusal opts) (Produced bindOne opts ps) (parseSegs ps segs)
  | [], ps, _, _ => by
    unfold parseSegs
    split
    · next h => rw [List.isEmpty_iff.1 h]; exact .ret .nil
    · exact Or.inl rfl
  | (o, chunk) :: rest, ps, hps, hsegs => by
    have ho := hsegs (o, chunk) (List.mem_cons_self ..)
    have ho1 : ∀ o' ∈ [o], o' ∈ opts := fun _ h => List.mem_singleton.1 h ▸ ho.1
    have hco := consumeOpt_ends o ho.2 chunk
    unfold parseSegs
    split
    · next e he => exact Refusal.mono ho1 e (hco.err he)
    · next b0 chunk' h0 =>
      have hcp := consumePos_ends ps chunk' rest.isEmpty
      split
      · next e he => exact Refusal.mono hps e (hcp.err he)
      · next ps' bs h1 =>
        obtain ⟨done, hd, hbs⟩ := hcp.ok h1
        have ih := parseSegs_ends opts rest ps' (fun o' ho' => hps o' (hd ▸ List.mem_append_right _ ho'))
          (fun sg hsg => hsegs sg (List.mem_cons_of_mem _ hsg))
        split
        · next e he => exact ih.err he
        · next more h2 =>
          exact .ret ((((ih.ok h2).append (hbs.mono hps (fun _ h => h))).append
            ((hco.ok h0).mono (d2 := []) ho1 (fun _ h => h))).mono
              (fun _ h => h) (fun o' h => by rw [hd] at h; simpa [or_comm] using h))

theorem optOf_mem (s : CliSpec) (t : String) (o : OptSpec) (h : optOf s t = some o) :
    o ∈ s.opts ∧ o.positional = false := by
  unfold optOf at h
  refine ⟨List.mem_of_find?_eq_some h, ?_⟩
  have := List.find?_some h
  simp at this
  exact this.1

theorem classify_opt (s : CliSpec) (t : String) (o : OptSpec) : classify s t = .opt o ↔ optOf s t = some o := by
  unfold classify
  split
  · next o' ho' => simp [ho']
  · next hn => split <;> simp [hn]

theorem dtot_classify_opt (s : CliSpec) (t : String) (o : OptSpec) (h : classify s t = .opt o) :
    o ∈ s.opts ∧ o.positional = false :=
  optOf_mem s t o ((classify_opt s t o).1 h)

theorem segments_ends (s : CliSpec) : ∀ (argv : List String),
    Ends (fun _ => inFragment s argv = false)
      (fun r => argTokens s argv = r.1 ++ r.2.flatMap (·.2) ∧ ∀ sg ∈ r.2, ∃ t ∈ argv, optOf s t = some sg.1)
      (segments s argv)
  | [] => .ret ⟨rfl, fun _ h => nomatch h⟩
  | t :: rest => by
    have ih := segments_ends s rest
    have hfr : inFragment s (t :: rest) = (classify s t != .outside && inFragment s rest) := rfl
    have harg : argTokens s (t :: rest) = if classify s t == .arg then t :: argTokens s rest else argTokens s rest :=
      List.filter_cons
    unfold segments
    split
    · next e he => exact .fail (by rw [hfr, ih.err he, Bool.and_false])
    · next c segs hr =>
      obtain ⟨h1, h2⟩ := ih.ok hr
      have h2' : ∀ sg ∈ segs, ∃ t' ∈ t :: rest, optOf s t' = some sg.1 :=
        fun sg hsg => let ⟨t', ht', h⟩ := h2 sg hsg; ⟨t', List.mem_cons_of_mem _ ht', h⟩
      cases hc : classify s t with
      | arg => exact .ret ⟨by simp [harg, hc, h1], h2'⟩
      | opt o =>
        refine .ret ⟨by simp [harg, hc, h1], fun sg hsg => ?_⟩
        rcases List.mem_cons.1 hsg with rfl | hsg
        · exact ⟨t, List.mem_cons_self .., (classify_opt s t o).1 hc⟩
        · exact h2' sg hsg
      | outside => exact .fail (by simp [hfr, hc])

theorem dtot_mem_mainOpts (s : CliSpec) (o : OptSpec) : o ∈ mainOpts s ↔ o ∈ s.opts ∧ o.nested = false := by
  unfold mainOpts
  simp [List.mem_filter]

theorem dtot_positionals_main (s : CliSpec) : ∀ o ∈ positionals s, o ∈ mainOpts s :=
  fun _ ho => (List.mem_filter.1 ho).1

/-- what the parser lemmas need of a sub-command: the options of its own parser have a modelled arity, and the
options of the sub-parsers are positionals -/
def dtot_mainOK (s : CliSpec) : Prop :=
  ∀ o ∈ s.opts, (o.nested = false ∧ o.arity ≠ .other) ∨ (o.nested = true ∧ o.positional = true)

theorem parseRaw_ends (s : CliSpec) (hm : dtot_mainOK s) (argv : List String) :
    Ends (fun e => inFragment s argv = true → Refusal (mainOpts s) e)
      (fun b => Produced bindOne (mainOpts s) (positionals s) b ∧ requiredSeen s b = true) (parseRaw s argv) := by
  have hseg := segments_ends s argv
  have hpos := dtot_positionals_main s
  unfold parseRaw
  split
  · next e he => intro hf; rw [hseg.err he] at hf; cases hf
  · next chunk0 segs hs =>
    split
    · exact fun _ => Or.inl rfl
    · have hcp := consumePos_ends (positionals s) chunk0 segs.isEmpty
      split
      · next e he => exact fun _ => Refusal.mono hpos e (hcp.err he)
      · next ps b0 h1 =>
        obtain ⟨done, hd, hb0⟩ := hcp.ok h1
        have hps := parseSegs_ends (mainOpts s) segs ps (fun o ho => hpos o (hd ▸ List.mem_append_right _ ho))
          fun sg hsg => by
            obtain ⟨t, _, ht⟩ := (hseg.ok hs).2 sg hsg
            obtain ⟨h1, h2⟩ := optOf_mem s t sg.1 ht
            rcases hm sg.1 h1 with h | h
            · exact ⟨(dtot_mem_mainOpts s sg.1).2 ⟨h1, h.1⟩, dtot_arity_nonpos sg.1 h2 h.2⟩
            · rw [h2] at h; cases h.2
        split
        · next e he => exact fun _ => hps.err he
        · next more h2 =>
          dsimp only
          split
          · next hreq =>
            exact .ret ⟨((hps.ok h2).append (hb0.mono hpos fun _ h => h)).mono (fun _ h => h)
              (fun o' h => by rw [hd] at h; simpa [or_comm] using h), hreq⟩
          · exact fun _ => Or.inl rfl

theorem dtot_mainOK_errs (s : CliSpec) (hm : dtot_mainOK s) : ∀ o ∈ mainOpts s, dtot_errs o := by
  intro o ho
  obtain ⟨h1, h2⟩ := (dtot_mem_mainOpts s o).1 ho
  rcases hm o h1 with h | h
  · exact dtot_bindOne_errs o h.2
  · rw [h2] at h; cases h.1

theorem parseRaw_cli (s : CliSpec) (hm : dtot_mainOK s) (argv : List String) (e : CliErr)
    (h : parseRaw s argv = .error e) (hf : inFragment s argv = true) : e = .cliError :=
  Refusal.cli (dtot_mainOK_errs s hm) ((parseRaw_ends s hm argv).err h hf)

theorem dtot_expand_cons_plain (s : CliSpec) (d : String) (v : Val) (rest : Ns) (hnt : ∀ l, v ≠ .toks l) :
    expand s ((d, v) :: rest) =
      (match expand s rest with | .error e => .error e | .ok more => .ok ((d, v) :: more)) := by
  cases v
  case toks l => exact absurd rfl (hnt l)
  all_goals (simp only [expand]; cases expand s rest <;> rfl)

theorem dtot_expand_notoks (s : CliSpec) : ∀ (b : Ns), (∀ p ∈ b, ∀ l, p.2 ≠ .toks l) → expand s b = .ok b
  | [], _ => by simp [expand]
  | (d, v) :: rest, h => by
    rw [dtot_expand_cons_plain s d v rest (h (d, v) (List.mem_cons_self ..)),
      dtot_expand_notoks s rest fun p hp => h p (List.mem_cons_of_mem _ hp)]

/-- the typing invariant of the final bindings of a composed sub-command -/
def dtot_csound (opts : List OptSpec) (b : Ns) : Prop :=
  dtot_snd (fun o p => o.dest = p.1 ∧ producible o p.2 ∧ o.action ≠ "compose_two_parsers") opts b

/-- what `expand` needs: a composed action names two sub-parsers, and the options of the sub-parsers are
typed positionals -/
def dtot_subOK (s : CliSpec) : Prop :=
  ∀ o ∈ s.opts,
    (o.nested = false → o.action = "compose_two_parsers" → o.compose.length = 2) ∧
    (o.nested = true → o.arity ≠ .other ∧ o.action ≠ "PHPArgs" ∧ o.action ≠ "compose_two_parsers")

theorem composeParse_ends (s : CliSpec) (hs : dtot_subOK s) (o : OptSpec) (ho : o ∈ s.opts)
    (hn : o.nested = false) (ha : o.action = "compose_two_parsers") (toks : List String) :
    Ends (· = .cliError) (dtot_csound s.opts) (composeParse s o toks) := by
  have hlen := (hs o ho).1 hn ha
  have hsub : ∀ p, ∀ o' ∈ subPositionals s p, o' ∈ s.opts ∧ o'.nested = true := by
    intro p o' ho'
    unfold subPositionals at ho'
    obtain ⟨h1, h2⟩ := List.mem_filter.1 ho'
    simp only [Bool.and_eq_true] at h2
    exact ⟨h1, h2.1.1⟩
  have hsp := fun p o' (ho' : o' ∈ subPositionals s p) => (hs o' (hsub p o' ho').1).2 (hsub p o' ho').2
  unfold composeParse
  match hco : o.compose, toks with
  | [p1, p2], t :: tl =>
    dsimp only
    have hcp := consumePos_ends (subPositionals s (if pyFloatOk t then p1 else p2)) (t :: tl) true
    split
    · next e he => exact Refusal.cli (fun o' ho' => dtot_bindOne_errs o' (hsp _ o' ho').1) (hcp.err he)
    · next rest b0 hb =>
      split
      · obtain ⟨_, _, hp⟩ := hcp.ok hb
        refine .ret fun p hp' => ?_
        obtain ⟨o', ho', hd, hpr⟩ := hp.all (fun o' ho' => dtot_bindOne_binds o' (hsp _ o' ho').2.1) p hp'
        rcases hpr with ⟨_, h2⟩ | ⟨h1, _⟩
        · exact ⟨o', (hsub _ o' ho').1, hd, h2, (hsp _ o' ho').2.2⟩
        · exact absurd h1 (hsp _ o' ho').2.2
      · exact .fail rfl
  | [_, _], [] => exact .fail rfl
  | [], _ => rw [hco] at hlen; simp at hlen
  | [_], _ => rw [hco] at hlen; simp at hlen
  | _ :: _ :: _ :: _, _ => rw [hco] at hlen; simp at hlen

theorem dtot_composeOpt (s : CliSpec) (d : String) (o : OptSpec) (ho : o ∈ s.opts) (hd : o.dest = d)
    (ha : o.action = "compose_two_parsers") (hn : o.nested = false) :
    ∃ o', composeOpt s d = some o' ∧ o' ∈ s.opts ∧ o'.dest = d ∧ o'.action = "compose_two_parsers" ∧
      o'.nested = false := by
  unfold composeOpt
  cases hf : s.opts.find? (fun o => o.dest == d && o.action == "compose_two_parsers" && !o.nested) with
  | none =>
    have := List.find?_eq_none.1 hf o ho
    simp [hd, ha, hn] at this
  | some o' =>
    have h1 := List.find?_some hf
    simp only [Bool.and_eq_true, beq_iff_eq, Bool.not_eq_true'] at h1
    exact ⟨o', rfl, List.mem_of_find?_eq_some hf, h1.1.1, h1.1.2, h1.2⟩

theorem expand_ends (s : CliSpec) (hs : dtot_subOK s) : ∀ (b : Ns), dtot_snd dtot_prod (mainOpts s) b →
    Ends (· = .cliError) (dtot_csound s.opts) (expand s b)
  | [], _ => .ret fun _ hp => nomatch hp
  | (d, v) :: rest, hb => by
    have ih := expand_ends s hs rest (fun p hp => hb p (List.mem_cons_of_mem _ hp))
    obtain ⟨o, ho, hd, hv⟩ := hb (d, v) (List.mem_cons_self ..)
    obtain ⟨ho1, ho2⟩ := (dtot_mem_mainOpts s o).1 ho
    rcases hv with ⟨h1, h2⟩ | ⟨ha, l, hl⟩
    · rw [dtot_expand_cons_plain s d v rest (dtot_producible_notoks o v h2)]
      split
      · next e he => exact ih.err he
      · next more hm =>
        refine .ret fun p hp => ?_
        rcases List.mem_cons.1 hp with rfl | hp
        · exact ⟨o, ho1, hd, h2, h1⟩
        · exact ih.ok hm p hp
    · dsimp only at hl hd
      subst hl
      obtain ⟨o', hco, ho'1, _, ho'a, ho'n⟩ := dtot_composeOpt s d o ho1 hd ha ho2
      have hcp := composeParse_ends s hs o' ho'1 ho'n ho'a l
      simp only [expand, hco]
      split
      · next e he => exact hcp.err he
      · next inner hc =>
        split
        · next e he => exact ih.err he
        · next more hm => exact .ret fun p hp => (List.mem_append.1 hp).elim (hcp.ok hc p) (ih.ok hm p)

theorem dtot_std_opts (s : CliSpec) (hstd : s.standard = true) : ∀ o ∈ s.opts, o.standard = true := by
  unfold CliSpec.standard at hstd
  simp only [Bool.and_eq_true] at hstd
  exact List.all_eq_true.1 hstd.1.1.2

theorem dtot_std_mainOK (s : CliSpec) (hstd : s.standard = true) : dtot_mainOK s := by
  intro o ho
  have := dtot_std o (dtot_std_opts s hstd o ho)
  exact Or.inl ⟨this.1, this.2.2.2.2.1⟩

theorem dtot_std_main (s : CliSpec) (hstd : s.standard = true) : mainOpts s = s.opts := by
  unfold mainOpts
  apply List.filter_eq_self.2
  intro o ho
  simp [(dtot_std o (dtot_std_opts s hstd o ho)).1]

theorem parseArgs_eq_raw (s : CliSpec) (hm : dtot_mainOK s)
    (hnc : ∀ o ∈ mainOpts s, o.action ≠ "compose_two_parsers") (argv : List String) :
    parseArgs s argv = parseRaw s argv := by
  unfold parseArgs
  cases h : parseRaw s argv with
  | error e => rfl
  | ok b =>
    refine dtot_expand_notoks s b fun p hp l => ?_
    obtain ⟨o, ho, toks, b0, hb, hq⟩ := ((parseRaw_ends s hm argv).ok h).1.out p hp
    exact dtot_bindOne_notoks o (hnc o ho) toks b0 hb p hq l

theorem dtot_parseArgs_raw (s : CliSpec) (hstd : s.standard = true) (argv : List String) :
    parseArgs s argv = parseRaw s argv :=
  parseArgs_eq_raw s (dtot_std_mainOK s hstd) (fun o ho =>
    (dtot_std o (dtot_std_opts s hstd o (dtot_std_main s hstd ▸ ho))).2.2.1) argv

theorem parseArgs_ends (s : CliSpec) (hstd : s.standard = true) (argv : List String) :
    Ends (fun e => inFragment s argv = true → e = .cliError)
      (fun b => dtot_snd dtot_typed s.opts b ∧ (∀ o ∈ positionals s, ∃ v, (o.dest, v) ∈ b) ∧ requiredSeen s b = true)
      (parseArgs s argv) := by
  have hm := dtot_std_main s hstd
  have hmOK := dtot_std_mainOK s hstd
  have hstdo := fun o (ho : o ∈ mainOpts s) => dtot_std o (dtot_std_opts s hstd o (hm ▸ ho))
  rw [dtot_parseArgs_raw s hstd argv]
  refine ((parseRaw_ends s hmOK argv).mono_err fun e he hf => Refusal.cli (dtot_mainOK_errs s hmOK) (he hf)).mono
    fun b ⟨hp, hreq⟩ => ⟨?_, fun o ho => ?_, hreq⟩
  · have := hp.all fun o ho => dtot_bindOne_typed o (hstdo o ho).2.1 (hstdo o ho).2.2.1
    rwa [hm] at this
  · obtain ⟨toks, b0, hb, hs⟩ := hp.ran o ho
    obtain ⟨v, rfl, _⟩ := bindOne_ok o (hstdo o (dtot_positionals_main s o ho)).2.1 toks b0 hb
    exact ⟨v, hs _ (List.mem_cons_self ..)⟩

theorem parseArgs_bindings_sound (s : CliSpec) (hstd : s.standard = true) (argv : List String) (b : Ns)
    (h : parseArgs s argv = .ok b) :
    ∀ p ∈ b, ∃ o ∈ s.opts, o.dest = p.1 ∧ producible o p.2 := fun p hp =>
  let ⟨o, ho, hd, ht⟩ := ((parseArgs_ends s hstd argv).ok h).1 p hp
  ⟨o, ho, hd, producible_of_typedBy ht⟩

theorem dtot_special_opts (s : CliSpec) (hsp : s.special = true) :
    ∀ o ∈ s.opts, (o.action = "PHPArgs" ∧ o.arity = .star ∧ o.nested = false) ∨ o.standard = true := by
  unfold CliSpec.special at hsp
  simp only [Bool.and_eq_true] at hsp
  intro o ho
  have := List.all_eq_true.1 hsp.1.1.2 o ho
  simpa [and_assoc] using this

theorem dtot_parseArgs_special (s : CliSpec) (hsp : s.special = true) (argv : List String) :
    ∀ e, parseArgs s argv = .error e → inFragment s argv = true → e = .cliError := by
  have hopts := dtot_special_opts s hsp
  have hm : dtot_mainOK s := by
    intro o ho
    rcases hopts o ho with ⟨_, h2, h3⟩ | h
    · exact Or.inl ⟨h3, by rw [h2]; simp⟩
    · have := dtot_std o h
      exact Or.inl ⟨this.1, this.2.2.2.2.1⟩
  rw [parseArgs_eq_raw s hm (fun o ho => ?_) argv]
  · exact parseRaw_cli s hm argv
  · rcases hopts o ((dtot_mem_mainOpts s o).1 ho).1 with ⟨h1, _⟩ | h
    · rw [h1]; decide
    · exact (dtot_std o h).2.2.1

theorem dtot_composed_opts (s : CliSpec) (hc : s.composed = true) :
    ∀ o ∈ s.opts, o.standard = true ∨ groupedFlag o = true ∨ subOption s o = true ∨ composeOption o = true := by
  unfold CliSpec.composed at hc
  simp only [Bool.and_eq_true] at hc
  intro o ho
  have := List.all_eq_true.1 hc.1.1.2 o ho
  simpa [or_assoc] using this

theorem dtot_groupedFlag (o : OptSpec) (h : groupedFlag o = true) : o.nested = false ∧ o.arity = .zero := by
  unfold groupedFlag at h
  simp only [Bool.and_eq_true] at h
  obtain ⟨⟨⟨⟨⟨⟨h1, _⟩, h3⟩, _⟩, _⟩, _⟩, _⟩ := h
  exact ⟨by simpa using h1, by simpa using h3⟩

theorem dtot_subOption (s : CliSpec) (o : OptSpec) (h : subOption s o = true) :
    o.nested = true ∧ o.positional = true ∧ (o.arity = .one ∨ o.arity = .opt ∨ o.arity = .plus) := by
  unfold subOption at h
  simp only [Bool.and_eq_true] at h
  obtain ⟨⟨⟨⟨⟨⟨h1, h2⟩, _⟩, _⟩, _⟩, _⟩, h7⟩ := h
  refine ⟨h1, h2, ?_⟩
  cases har : o.arity <;> rw [har] at h7 <;> simp at h7 ⊢

theorem dtot_composeOption (o : OptSpec) (h : composeOption o = true) :
    o.nested = false ∧ o.action = "compose_two_parsers" ∧ o.arity = .star ∧ o.compose.length = 2 := by
  unfold composeOption at h
  simp only [Bool.and_eq_true] at h
  obtain ⟨⟨⟨⟨⟨⟨h1, _⟩, _⟩, h4⟩, h5⟩, h6⟩, _⟩ := h
  exact ⟨by simpa using h1, by simpa using h4, by simpa using h5, by simpa using h6⟩

theorem dtot_composed_mainOK (s : CliSpec) (hc : s.composed = true) : dtot_mainOK s := by
  intro o ho
  rcases dtot_composed_opts s hc o ho with h | h | h | h
  · have := dtot_std o h
    exact Or.inl ⟨this.1, this.2.2.2.2.1⟩
  · have := dtot_groupedFlag o h
    exact Or.inl ⟨this.1, by rw [this.2]; simp⟩
  · have := dtot_subOption s o h
    exact Or.inr ⟨this.1, this.2.1⟩
  · have := dtot_composeOption o h
    exact Or.inl ⟨this.1, by rw [this.2.2.1]; simp⟩

theorem dtot_composed_subOK (s : CliSpec) (hc : s.composed = true) : dtot_subOK s := by
  intro o ho
  rcases dtot_composed_opts s hc o ho with h | h | h | h
  · have := dtot_std o h
    exact ⟨fun _ ha => absurd ha this.2.2.1, fun hn => by rw [this.1] at hn; cases hn⟩
  · have := dtot_groupedFlag o h
    exact ⟨fun _ ha => absurd ha (dtot_arity_plain_action o (Or.inl this.2)).2,
      fun hn => by rw [this.1] at hn; cases hn⟩
  · obtain ⟨h1, _, h3⟩ := dtot_subOption s o h
    refine ⟨fun hn => (by rw [h1] at hn; cases hn), fun _ => ?_⟩
    have ha := dtot_arity_plain_action o (Or.inr h3)
    refine ⟨?_, ha.1, ha.2⟩
    rcases h3 with h3 | h3 | h3 <;> rw [h3] <;> simp
  · have := dtot_composeOption o h
    exact ⟨fun _ _ => this.2.2.2, fun hn => by rw [this.1] at hn; cases hn⟩

theorem dtot_composed_binds (s : CliSpec) (hc : s.composed = true) :
    ∀ o ∈ mainOpts s, dtot_binds dtot_prod o := by
  intro o ho
  apply dtot_bindOne_binds
  rcases dtot_composed_opts s hc o ((dtot_mem_mainOpts s o).1 ho).1 with h | h | h | h
  · exact (dtot_std o h).2.1
  · exact (dtot_arity_plain_action o (Or.inl (dtot_groupedFlag o h).2)).1
  · exact (dtot_arity_plain_action o (Or.inr (dtot_subOption s o h).2.2)).1
  · rw [(dtot_composeOption o h).2.1]; decide

theorem dtot_parseArgs_composed (s : CliSpec) (hc : s.composed = true) (argv : List String) :
    Ends (fun e => inFragment s argv = true → e = .cliError) (dtot_csound s.opts) (parseArgs s argv) := by
  have hm := dtot_composed_mainOK s hc
  unfold parseArgs
  split
  · next e he => exact parseRaw_cli s hm argv e he
  · next b0 hr =>
    exact (expand_ends s (dtot_composed_subOK s hc) b0
      (((parseRaw_ends s hm argv).ok hr).1.all (dtot_composed_binds s hc))).mono_err fun _ h _ => h

theorem parseArgs_total_supported (s : CliSpec) (hsup : s.supported = true) (argv : List String)
    (hf : inFragment s argv = true) :
    (∃ b, parseArgs s argv = .ok b) ∨ parseArgs s argv = .error .cliError := by
  cases h : parseArgs s argv with
  | ok b => exact Or.inl ⟨b, rfl⟩
  | error e =>
    right
    unfold CliSpec.supported at hsup
    simp only [Bool.or_eq_true] at hsup
    rcases hsup with (hs | hs) | hs
    · rw [(parseArgs_ends s hs argv).err h hf]
    · rw [dtot_parseArgs_special s hs argv e h hf]
    · rw [(dtot_parseArgs_composed s hs argv).err h hf]

theorem parseArgs_bindings_sound_composed (s : CliSpec) (hc : s.composed = true) (argv : List String) (b : Ns)
    (h : parseArgs s argv = .ok b) :
    ∀ p ∈ b, ∃ o ∈ s.opts, o.dest = p.1 ∧ producible o p.2 ∧ o.action ≠ "compose_two_parsers" :=
  (dtot_parseArgs_composed s hc argv).ok h

theorem dtot_lookup_mem {α β : Type} [BEq α] [LawfulBEq α] (l : List (α × β)) (d : α) (v : β)
    (h : l.lookup d = some v) : (d, v) ∈ l := by
  obtain ⟨l₁, l₂, rfl, _⟩ := List.lookup_eq_some_iff.1 h
  exact List.mem_append_right _ (List.mem_cons_self ..)

theorem dtot_lookup_some {β : Type} (l : List (String × β)) (d : String) (v : β)
    (h : (d, v) ∈ l) : ∃ v', l.lookup d = some v' := by
  cases h0 : l.lookup d with
  | some v' => exact ⟨v', rfl⟩
  | none => simpa using List.lookup_eq_none_iff.1 h0 (d, v) h

theorem lookup_eq_of_iff {β : Type} (l1 l2 : List (String × β)) (k : String)
    (h : ∀ v, l1.lookup k = some v ↔ (k, v) ∈ l2) : l1.lookup k = l2.lookup k := by
  cases h2 : l2.lookup k with
  | some w => exact (h w).2 (dtot_lookup_mem l2 k w h2)
  | none =>
    cases h1 : l1.lookup k with
    | none => rfl
    | some v =>
      obtain ⟨w, hw⟩ := dtot_lookup_some l2 k v ((h v).1 h1)
      rw [h2] at hw
      cases hw

theorem dtot_mem_optsFor (s : CliSpec) (d : String) (o : OptSpec) (ho : o ∈ s.opts) (hd : o.dest = d) :
    o ∈ optsFor s d := by
  unfold optsFor
  exact List.mem_filter.2 ⟨ho, by simpa using hd⟩

/-- where a value of the namespace comes from: the command line, or a default -/
theorem ns_lookup {T : OptSpec → Val → Prop} (s : CliSpec) (b : Ns)
    (hb : dtot_snd (fun o p => o.dest = p.1 ∧ T o p.2) s.opts b) (d : String) (v : Val)
    (h : (namespaceOf s b).lookup d = some v) :
    ∃ o ∈ optsFor s d, T o v ∨ (v = o.defaultVal ∧ b.lookup d = none) := by
  unfold namespaceOf at h
  rw [List.lookup_append] at h
  cases hl : b.lookup d with
  | some w =>
    rw [hl] at h
    simp at h
    subst h
    obtain ⟨o, ho, hd, hp⟩ := hb _ (dtot_lookup_mem b d w hl)
    exact ⟨o, dtot_mem_optsFor s d o ho hd, Or.inl hp⟩
  | none =>
    rw [hl] at h
    simp at h
    have := dtot_lookup_mem _ d v h
    unfold defaults at this
    obtain ⟨o, ho, he⟩ := List.mem_map.1 this
    simp at he
    exact ⟨o, dtot_mem_optsFor s d o ((dtot_mem_mainOpts s o).1 ho).1 he.1, Or.inr ⟨he.2.symm, rfl⟩⟩

theorem dtot_ns_some (s : CliSpec) (hmain : mainOpts s = s.opts) (b : Ns) (d : String)
    (h : (optsFor s d).isEmpty = false) :
    ∃ v, (namespaceOf s b).lookup d = some v := by
  unfold namespaceOf
  rw [List.lookup_append]
  cases hl : b.lookup d with
  | some w => exact ⟨w, by simp⟩
  | none =>
    cases ho : optsFor s d with
    | nil => rw [ho] at h; simp at h
    | cons o rest =>
      have hm : o ∈ optsFor s d := by rw [ho]; exact List.mem_cons_self ..
      unfold optsFor at hm
      obtain ⟨hm1, hm2⟩ := List.mem_filter.1 hm
      have hd : o.dest = d := by simpa using hm2
      have : (d, o.defaultVal) ∈ defaults s := by
        unfold defaults
        exact List.mem_map.2 ⟨o, hmain ▸ hm1, by simp [hd]⟩
      obtain ⟨v', hv'⟩ := dtot_lookup_some _ d _ this
      exact ⟨v', by simp [hv']⟩

/-- what the namespace holds under `d`, when every option storing under `d` passes `test` (the form of `pureFlag`,
`dtot_intBound` …): a value with every property `P` that the values typed by such an option have, and that its default has
when the command line does not bind `d` -/
theorem ns_val {T : OptSpec → Val → Prop} (s : CliSpec) (hmain : mainOpts s = s.opts) (b : Ns)
    (hb : dtot_snd (fun o p => o.dest = p.1 ∧ T o p.2) s.opts b) (d : String) (P : Val → Prop) (test : OptSpec → Bool)
    (hd : (!(optsFor s d).isEmpty && (optsFor s d).all test) = true)
    (hall : ∀ o ∈ optsFor s d, test o = true → (∀ v, T o v → P v) ∧ (b.lookup d = none → P o.defaultVal)) :
    ∃ v, (namespaceOf s b).lookup d = some v ∧ P v := by
  rw [Bool.and_eq_true, List.all_eq_true] at hd
  obtain ⟨v, hv⟩ := dtot_ns_some s hmain b d (by simpa using hd.1)
  obtain ⟨o, ho, hor⟩ := ns_lookup s b hb d v hv
  refine ⟨v, hv, ?_⟩
  rcases hor with hp | ⟨rfl, hn⟩
  · exact (hall o ho (hd.2 o ho)).1 v hp
  · exact (hall o ho (hd.2 o ho)).2 hn

theorem dtot_producible_zero (o : OptSpec) (v : Val) (hp : producible o v) (hz : o.arity = .zero) :
    v = o.flagVal := by
  unfold producible at hp
  rw [hz] at hp
  exact hp

theorem dtot_pureFlag (s : CliSpec) (hm : mainOpts s = s.opts) (b : Ns) (hb : dtot_sound s.opts b) (d : String)
    (h : pureFlag s d = true) :
    ∃ v, (namespaceOf s b).lookup d = some v ∧ ∃ t, truthy v = some t := by
  refine ns_val s hm b hb d _ _ h fun o ho h3 => ?_
  simp only [Bool.and_eq_true] at h3
  obtain ⟨⟨hf, ht1⟩, ht2⟩ := h3
  have hz : o.arity = .zero := by unfold isFlag at hf; simpa using hf
  exact ⟨fun v hp => dtot_producible_zero o v hp hz ▸ Option.isSome_iff_exists.1 ht1,
    fun _ => Option.isSome_iff_exists.1 ht2⟩

theorem dtot_producible_plain (o : OptSpec) (v : Val) (hp : producible o v)
    (hf : plainVal o.flagVal = true) (hd : plainVal o.defaultVal = true) : plainVal v = true :=
  producible_elim (P := (plainVal · = true)) hp hf hd (fun _ => rfl) (fun _ => rfl) (fun _ _ => rfl) (fun _ => rfl)

theorem dtot_plain_isNone (v : Val) (h : plainVal v = true) : ∃ b, isNoneV v = some b := by
  cases v <;> simp [plainVal] at h <;> exact ⟨_, rfl⟩

theorem dtot_plain_lookup (s : CliSpec) (b : Ns) (hb : dtot_sound s.opts b) (d : String) (v : Val)
    (h : (optsFor s d).all (fun o => plainVal o.flagVal && plainVal o.defaultVal) = true)
    (hv : (namespaceOf s b).lookup d = some v) : plainVal v = true := by
  obtain ⟨o, ho, hor⟩ := ns_lookup s b hb d v hv
  have h3 := List.all_eq_true.1 h o ho
  simp only [Bool.and_eq_true] at h3
  rcases hor with hp | ⟨hdv, _⟩
  · exact dtot_producible_plain o v hp h3.1 h3.2
  · rw [hdv]; exact h3.2

theorem dtot_valueTotal (s : CliSpec) (hm : mainOpts s = s.opts) (b : Ns) (hb : dtot_sound s.opts b) (e : Expr)
    (h : valueTotal s e = true) :
    ∃ v, evalE (namespaceOf s b) e = some v ∧ plainVal v = true := by
  induction e with
  | arg d =>
    simp only [valueTotal, plainDest, Bool.and_eq_true] at h
    obtain ⟨v, hv⟩ := dtot_ns_some s hm b d (by simpa using h.1)
    exact ⟨v, by simp only [evalE]; exact hv, dtot_plain_lookup s b hb d v h.2 hv⟩
  | getattr d e ih =>
    simp only [valueTotal, Bool.and_eq_true] at h
    simp only [evalE]
    cases hl : (namespaceOf s b).lookup d with
    | some v => exact ⟨v, rfl, dtot_plain_lookup s b hb d v h.1 hl⟩
    | none => exact ih h.2
  | none | bool | int | str => exact ⟨_, rfl, rfl⟩
  | _ => simp [valueTotal] at h

theorem dtot_evalGuard_not (ns : Ns) (g : Expr) (t : Bool) (h : evalGuard ns g = some t) :
    evalGuard ns (.not g) = some (!t) := by
  unfold evalGuard at h ⊢
  simp only [evalE, h]
  rfl

theorem dtot_evalGuard_and (ns : Ns) (a c : Expr) :
    evalGuard ns (.and a c) =
      (match evalGuard ns a with
       | none => none
       | some false => some false
       | some true => evalGuard ns c) := by
  unfold evalGuard
  simp only [evalE]
  cases ha : evalE ns a with
  | none => rfl
  | some va =>
    cases ht : truthy va with
    | none => simp [ht]
    | some t => cases t <;> simp [ht]

theorem dtot_evalGuard_or (ns : Ns) (a c : Expr) :
    evalGuard ns (.or a c) =
      (match evalGuard ns a with
       | none => none
       | some true => some true
       | some false => evalGuard ns c) := by
  unfold evalGuard
  simp only [evalE]
  cases ha : evalE ns a with
  | none => rfl
  | some va =>
    cases ht : truthy va with
    | none => simp [ht]
    | some t => cases t <;> simp [ht]

theorem selectTemplate_ends (ns : Ns) : ∀ ts : List CallTemplate,
    Ends (fun e => ∃ w, e = .unsupported w) (fun t => t ∈ ts ∧ evalGuard ns t.guard = some true)
      (selectTemplate ns ts)
  | [] => .fail ⟨_, rfl⟩
  | t :: ts => by
    unfold selectTemplate
    split
    · exact .fail ⟨_, rfl⟩
    · next hg => exact .ret ⟨List.mem_cons_self .., hg⟩
    · exact (selectTemplate_ends ns ts).mono fun _ h => ⟨List.mem_cons_of_mem _ h.1, h.2⟩

theorem evalPos_cons (ns : Ns) (e : Expr) (rest : List Expr) (v : Val) (vs : List Val)
    (hns : ∀ e', e ≠ .star e') (hv : evalE ns e = some v) (hr : evalPos ns rest = some vs) :
    evalPos ns (e :: rest) = some (v :: vs) := by
  unfold evalPos
  rw [hv, hr]
  cases e <;> first | rfl | exact absurd rfl (hns _)

theorem evalPos_cons_star {ns : Ns} {e : Expr} {l : List Int} {es : List Expr} {vs : List Val}
    (hv : evalE ns e = some (.ints l)) (hvs : evalPos ns es = some vs) :
    evalPos ns (.star e :: es) = some (l.map .int ++ vs) := by
  simp only [evalPos, evalE, hv, hvs]

theorem evalPos_defined (ns : Ns) : ∀ (es : List Expr),
    (∀ e ∈ es, ∃ v, evalE ns e = some v ∧ ∀ e', e = .star e' → ∃ l, v = .ints l) → ∃ vs, evalPos ns es = some vs
  | [], _ => ⟨[], rfl⟩
  | e :: es, h => by
    obtain ⟨vs, hvs⟩ := evalPos_defined ns es fun e he => h e (List.mem_cons_of_mem _ he)
    obtain ⟨v, hv, hst⟩ := h e (List.mem_cons_self ..)
    by_cases hs : ∃ e', e = .star e'
    · obtain ⟨e', rfl⟩ := hs
      obtain ⟨l, rfl⟩ := hst e' rfl
      exact ⟨_, evalPos_cons_star hv hvs⟩
    · exact ⟨_, evalPos_cons _ _ _ _ _ (fun x hx => hs ⟨x, hx⟩) hv hvs⟩

theorem evalKw_defined (ns : Ns) : ∀ (kw : List (String × Expr)), (∀ p ∈ kw, ∃ v, evalE ns p.2 = some v) →
    ∃ vs, evalKw ns kw = some vs
  | [], _ => ⟨[], rfl⟩
  | (k, e) :: kw, h => by
    obtain ⟨vs, hvs⟩ := evalKw_defined ns kw fun p hp => h p (List.mem_cons_of_mem _ hp)
    obtain ⟨v, hv⟩ := h (k, e) (List.mem_cons_self ..)
    exact ⟨(k, v) :: vs, by simp only [evalKw, hv, hvs]⟩

theorem instantiate_raises {ns : Ns} {t : CallTemplate} (hrz : t.raises ≠ "") (hs : shielded t.raises = true) :
    instantiate ns t = .error .cliError := by
  simp [instantiate, hrz, hs]

theorem instantiate_call {ns : Ns} {t : CallTemplate} {p : List Val} {k : List (String × Val)} (hrz : t.raises = "")
    (hfn : t.fn ≠ "") (hp : evalPos ns t.pos = some p) (hk : evalKw ns t.kw = some k) :
    instantiate ns t = .ok ⟨t.fn, p, k⟩ := by
  simp [instantiate, hrz, hfn, hp, hk]

theorem instantiate_class (ns : Ns) (t : CallTemplate) (hr : (t.raises == "" || shielded t.raises) = true) :
    (∃ c, instantiate ns t = .ok c) ∨ instantiate ns t = .error .cliError ∨
    ∃ w, instantiate ns t = .error (.unsupported w) := by
  unfold instantiate
  by_cases h1 : t.raises = ""
  · simp only [h1, bne_self_eq_false, Bool.false_eq_true, if_false]
    split
    · exact Or.inr (Or.inr ⟨_, rfl⟩)
    · split
      · exact Or.inl ⟨_, rfl⟩
      · exact Or.inr (Or.inr ⟨_, rfl⟩)
  · have h2 : (t.raises != "") = true := by simpa using h1
    have h3 : shielded t.raises = true := by
      simp only [Bool.or_eq_true, beq_iff_eq] at hr
      rcases hr with hr | hr
      · exact absurd hr h1
      · exact hr
    simp [h2, h3]

theorem supported_of_standard (s : CliSpec) (h : s.standard = true) : s.supported = true := by
  simp [CliSpec.supported, h]

theorem dispatchTemplate_parse_err (s : CliSpec) (hsup : s.supported = true) (argv : List String) (e : CliErr)
    (h : parseArgs s argv = .error e) : dispatchTemplate s argv = .error e := by
  unfold dispatchTemplate
  rw [hsup, h]
  rfl

theorem dispatchTemplate_parse_ok (s : CliSpec) (hsup : s.supported = true) (argv : List String) (b : Ns)
    (t : CallTemplate) (h : parseArgs s argv = .ok b) (hsel : selectTemplate (namespaceOf s b) s.templates = .ok t) :
    dispatchTemplate s argv = .ok (t, namespaceOf s b) := by
  unfold dispatchTemplate
  rw [hsup, h]
  dsimp only
  rw [hsel]
  rfl

theorem dtot_dispatch_err (s : CliSpec) (hstd : s.standard = true) (argv : List String) (e : CliErr)
    (h : parseArgs s argv = .error e) : dispatchSpec s argv = .error e := by
  unfold dispatchSpec
  rw [dispatchTemplate_parse_err s (supported_of_standard s hstd) argv e h]

theorem dispatchTemplate_ok (s : CliSpec) (argv : List String) (t : CallTemplate) (ns : Ns)
    (h : dispatchTemplate s argv = .ok (t, ns)) :
    ∃ b, parseArgs s argv = .ok b ∧ ns = namespaceOf s b ∧ selectTemplate ns s.templates = .ok t := by
  unfold dispatchTemplate at h
  split at h
  · cases h
  · split at h
    · cases h
    · rename_i b hb
      split at h
      · cases h
      · rename_i t' hsel
        cases h
        exact ⟨b, hb, rfl, hsel⟩

theorem dispatchTemplate_mem (s : CliSpec) (argv : List String) (t : CallTemplate) (ns : Ns)
    (h : dispatchTemplate s argv = .ok (t, ns)) : t ∈ s.templates :=
  let ⟨_, _, _, hsel⟩ := dispatchTemplate_ok s argv t ns h
  ((selectTemplate_ends _ _).ok hsel).1

theorem dtot_convertOne_int (o : OptSpec) (t : String) (v : Val) (hty : o.ty ≠ "")
    (h : convertOne o t = some v) : ∃ i, v = .int i := by
  unfold convertOne at h
  have : (o.ty == "") = false := by simpa using hty
  simp only [this, Bool.false_eq_true, if_false] at h
  simp at h
  obtain ⟨i, _, hi⟩ := h
  exact ⟨i, hi.symm⟩

/-- `d` is set by positionals taking one integer token: always bound, to an integer -/
def dtot_intBound (s : CliSpec) (d : String) : Bool :=
  !(optsFor s d).isEmpty && (optsFor s d).all (fun o => o.arity == .one && o.ty != "" && o.positional)

/-- `d` is set by options taking one integer token, whose default is `None` or an integer -/
def dtot_intOrNone (s : CliSpec) (d : String) : Bool :=
  !(optsFor s d).isEmpty && (optsFor s d).all (fun o => o.arity == .one && o.ty != "" &&
    (match o.defaultVal with | .none => true | .int _ => true | _ => false))

/-- `d` is set by star positionals (typed `nargs='*'`): always bound, to a list of integers -/
def dtot_starDest (s : CliSpec) (d : String) : Bool :=
  !(optsFor s d).isEmpty && (optsFor s d).all (fun o => o.arity == .star)

def dtot_cmpOps : List String := ["==", "!=", "<", "<=", ">", ">="]

/-- the options that are not `None` when the guard holds -/
def dtot_facts : Expr → List String
  | .isNotNone (.arg d) => [d]
  | .and a b => dtot_facts a ++ dtot_facts b
  | _ => []

/-- the value of `d` is an integer, given that the options `known` are not `None` -/
def dtot_intIn (s : CliSpec) (known : List String) (d : String) : Bool :=
  dtot_intBound s d || (dtot_intOrNone s d && known.contains d)

/-- `guardTotal`, plus comparisons between integer options; the right operand of `and` is evaluated only when
the left one holds, so it may use the options the left one has tested against `None` -/
def dtot_guardTotalX (s : CliSpec) : Expr → List String → Bool
  | .cmp op (.arg a) (.arg b), known =>
    dtot_cmpOps.contains op && dtot_intIn s known a && dtot_intIn s known b
  | .and x y, known => dtot_guardTotalX s x known && dtot_guardTotalX s y (dtot_facts x ++ known)
  | .not e, known => dtot_guardTotalX s e known
  | e, _ => guardTotal s e

def dtot_knows (ns : Ns) (known : List String) : Prop := ∀ d ∈ known, ∀ v, ns.lookup d = some v → v ≠ .none

theorem dtot_evalCmp_int (op : String) (x y : Int) (h : dtot_cmpOps.contains op = true) :
    ∃ c, evalCmp op (.int x) (.int y) = some c := by
  simp [dtot_cmpOps] at h
  rcases h with rfl | rfl | rfl | rfl | rfl | rfl <;> simp [evalCmp, valEq]
  exact Decidable.em _

/-- `argTotal`, plus `*args.d` for a star positional `d` -/
def dtot_argTotalX (s : CliSpec) : Expr → Bool
  | .star (.arg d) => dtot_starDest s d
  | e => argTotal s e

/-- `pathsExhaustive`, plus: `if a: (if c: … else: …) else: …` -/
def dtot_pathsExhaustiveX : List CallTemplate → Bool
  | [t1, t2, t3] =>
    (match t1.guard with
     | .and a c => t2.guard == .and a (.not c) && t3.guard == .not a
     | _ => false)
  | ts => pathsExhaustive ts

/-- sub-commands with standard options for which `dispatchSpec` is proved total: `totalClass`, extended with
comparisons between integer options in the guards (`stone`), splices of star positionals in the calls (`vdw`),
and helpers with three paths (`stone`) -/
def totalClassExt (s : CliSpec) : Bool :=
  s.standard &&
  s.templates.all (fun t =>
    dtot_guardTotalX s t.guard [] && (t.raises == "" || shielded t.raises) &&
    t.pos.all (dtot_argTotalX s) && t.kw.all (fun p => dtot_argTotalX s p.2)) &&
  dtot_pathsExhaustiveX s.templates

theorem dtot_guardTotal_X (s : CliSpec) (g : Expr) (h : guardTotal s g = true) :
    ∀ known, dtot_guardTotalX s g known = true := by
  induction g with
  | and x y ihx ihy =>
    intro known
    simp only [guardTotal, Bool.and_eq_true] at h
    simp only [dtot_guardTotalX, Bool.and_eq_true]
    exact ⟨ihx h.1 _, ihy h.2 _⟩
  | not e ih =>
    intro known
    simp only [guardTotal] at h
    simp only [dtot_guardTotalX]
    exact ih h _
  | cmp op x y _ _ => simp [guardTotal] at h
  | _ => intro known; simpa [dtot_guardTotalX] using h

theorem dtot_argTotal_X (s : CliSpec) (e : Expr) (h : argTotal s e = true) : dtot_argTotalX s e = true := by
  cases e with
  | star e' => simp [argTotal] at h
  | _ => simpa [dtot_argTotalX] using h

theorem dtot_pathsExhaustive_X (ts : List CallTemplate) (h : pathsExhaustive ts = true) :
    dtot_pathsExhaustiveX ts = true := by
  match ts, h with
  | [], h | [_], h | [_, _], h => simpa [dtot_pathsExhaustiveX] using h
  | [_, _, _], h | _ :: _ :: _ :: _ :: _, h => simp [pathsExhaustive] at h

theorem dtot_selectX (ns : Ns) (ts : List CallTemplate)
    (hg : ∀ t ∈ ts, ∃ c, evalGuard ns t.guard = some c) (hp : dtot_pathsExhaustiveX ts = true) :
    ∃ t ∈ ts, selectTemplate ns ts = .ok t := by
  match ts, hg, hp with
  | [], _, hp | _ :: _ :: _ :: _ :: _, _, hp => simp [dtot_pathsExhaustiveX, pathsExhaustive] at hp
  | [t], _, hp =>
    simp only [dtot_pathsExhaustiveX, pathsExhaustive, beq_iff_eq] at hp
    refine ⟨t, List.mem_cons_self .., ?_⟩
    unfold selectTemplate
    rw [hp]
    rfl
  | [t1, t2], hg, hp =>
    simp only [dtot_pathsExhaustiveX, pathsExhaustive, beq_iff_eq] at hp
    obtain ⟨c, hc⟩ := hg t1 (List.mem_cons_self ..)
    cases c with
    | true => exact ⟨t1, by simp, by simp [selectTemplate, hc]⟩
    | false =>
      have h2 : evalGuard ns t2.guard = some true := by
        rw [hp]; exact dtot_evalGuard_not ns _ _ hc
      exact ⟨t2, by simp, by simp [selectTemplate, hc, h2]⟩
  | [t1, t2, t3], hg, hp =>
    simp only [dtot_pathsExhaustiveX] at hp
    split at hp
    · rename_i a c hg1
      simp only [Bool.and_eq_true, beq_iff_eq] at hp
      obtain ⟨hg2, hg3⟩ := hp
      obtain ⟨c1, hc1⟩ := hg t1 (List.mem_cons_self ..)
      rw [hg1, dtot_evalGuard_and] at hc1
      cases ha : evalGuard ns a with
      | none => rw [ha] at hc1; simp at hc1
      | some ta =>
        rw [ha] at hc1
        cases ta with
        | false =>
          refine ⟨t3, by simp, ?_⟩
          have e1 : evalGuard ns t1.guard = some false := by rw [hg1, dtot_evalGuard_and, ha]
          have e2 : evalGuard ns t2.guard = some false := by rw [hg2, dtot_evalGuard_and, ha]
          have e3 : evalGuard ns t3.guard = some true := by rw [hg3]; exact dtot_evalGuard_not ns a false ha
          simp [selectTemplate, e1, e2, e3]
        | true =>
          dsimp only at hc1
          cases c1 with
          | true =>
            refine ⟨t1, by simp, ?_⟩
            have e1 : evalGuard ns t1.guard = some true := by rw [hg1, dtot_evalGuard_and, ha]; exact hc1
            simp [selectTemplate, e1]
          | false =>
            refine ⟨t2, by simp, ?_⟩
            have e1 : evalGuard ns t1.guard = some false := by rw [hg1, dtot_evalGuard_and, ha]; exact hc1
            have e2 : evalGuard ns t2.guard = some true := by
              rw [hg2, dtot_evalGuard_and, ha]; exact dtot_evalGuard_not ns c false hc1
            simp [selectTemplate, e1, e2]
    · simp at hp

/-- the bindings are typed by the options, and every positional is bound -/
def NsOK (s : CliSpec) (b : Ns) : Prop :=
  dtot_sound s.opts b ∧ ∀ o ∈ positionals s, ∃ v, (o.dest, v) ∈ b

theorem nsOK_bound (s : CliSpec) (hstd : s.standard = true) (b : Ns) (h : NsOK s b) (d : String) (o : OptSpec)
    (ho : o ∈ optsFor s d) (hpos : o.positional = true) : b.lookup d ≠ none := by
  obtain ⟨ho1, ho2⟩ := List.mem_filter.1 ho
  have hp : o ∈ positionals s := by
    unfold positionals
    rw [dtot_std_main s hstd]
    exact List.mem_filter.2 ⟨ho1, hpos⟩
  obtain ⟨v0, hv0⟩ := h.2 o hp
  rw [(by simpa using ho2 : o.dest = d)] at hv0
  obtain ⟨v, hv⟩ := dtot_lookup_some b d v0 hv0
  rw [hv]
  nofun

theorem nsOK_intBound_val (s : CliSpec) (hstd : s.standard = true) (b : Ns) (h : NsOK s b) (d : String) (hd : dtot_intBound s d = true) :
    ∃ i, (namespaceOf s b).lookup d = some (.int i) := by
  obtain ⟨v, hv, i, rfl⟩ := ns_val s (dtot_std_main s hstd) b h.1 d (fun v => ∃ i, v = .int i) _ hd fun o ho h1 => by
    simp only [Bool.and_eq_true, beq_iff_eq, bne_iff_ne] at h1
    refine ⟨fun v hp => ?_, fun hn => absurd hn (nsOK_bound s hstd b h d o ho h1.2)⟩
    unfold producible at hp
    rw [h1.1.1] at hp
    obtain ⟨t, ht⟩ := hp
    exact dtot_convertOne_int o t v h1.1.2 ht
  exact ⟨i, hv⟩

theorem nsOK_starDest_val (s : CliSpec) (hstd : s.standard = true) (b : Ns) (h : NsOK s b) (d : String) (hd : dtot_starDest s d = true) :
    ∃ l, (namespaceOf s b).lookup d = some (.ints l) := by
  obtain ⟨v, hv, l, rfl⟩ := ns_val s (dtot_std_main s hstd) b h.1 d (fun v => ∃ l, v = .ints l) _ hd fun o ho h1 => by
    have h1 : o.arity = .star := by simpa using h1
    refine ⟨fun v hp => ?_, fun hn => absurd hn (nsOK_bound s hstd b h d o ho (dtot_arity_star o h1))⟩
    unfold producible at hp
    rw [h1] at hp
    exact hp
  exact ⟨l, hv⟩

theorem nsOK_intOrNone_val (s : CliSpec) (hstd : s.standard = true) (b : Ns) (h : NsOK s b) (d : String) (hd : dtot_intOrNone s d = true) :
    ∃ v, (namespaceOf s b).lookup d = some v ∧ (v = .none ∨ ∃ i, v = .int i) := by
  refine ns_val s (dtot_std_main s hstd) b h.1 d _ _ hd fun o ho h1 => ?_
  simp only [Bool.and_eq_true, beq_iff_eq, bne_iff_ne] at h1
  refine ⟨fun v hp => ?_, fun _ => ?_⟩
  · unfold producible at hp
    rw [h1.1.1] at hp
    obtain ⟨t, ht⟩ := hp
    exact Or.inr (dtot_convertOne_int o t v h1.1.2 ht)
  · have hdf := h1.2
    cases hdv : o.defaultVal <;> rw [hdv] at hdf <;> simp at hdf
    · exact Or.inl rfl
    · exact Or.inr ⟨_, rfl⟩

theorem nsOK_intIn_val (s : CliSpec) (hstd : s.standard = true) (b : Ns) (h : NsOK s b) (known : List String) (hk : dtot_knows (namespaceOf s b) known)
    (d : String) (hd : dtot_intIn s known d = true) :
    ∃ i, (namespaceOf s b).lookup d = some (.int i) := by
  unfold dtot_intIn at hd
  simp only [Bool.or_eq_true, Bool.and_eq_true] at hd
  rcases hd with hd | ⟨hd, hkn⟩
  · exact nsOK_intBound_val s hstd b h d hd
  · obtain ⟨v, hv, hor⟩ := nsOK_intOrNone_val s hstd b h d hd
    rcases hor with rfl | ⟨i, rfl⟩
    · exact absurd rfl (hk d (by simpa using hkn) _ hv)
    · exact ⟨i, hv⟩

theorem dtot_facts_sound (ns : Ns) (g : Expr) : evalGuard ns g = some true → dtot_knows ns (dtot_facts g) := by
  fun_induction dtot_facts g with
  | case1 d =>
    intro h d' hd' v hv hn
    cases List.mem_singleton.1 hd'
    subst hn
    simp [evalGuard, evalE, hv, isNoneV, truthy] at h
  | case2 a c iha ihc =>
    intro h d hd
    rw [dtot_evalGuard_and] at h
    cases ha : evalGuard ns a with
    | none => rw [ha] at h; cases h
    | some ta =>
      rw [ha] at h
      cases ta with
      | false => cases h
      | true => exact (List.mem_append.1 hd).elim (iha ha d) (ihc h d)
  | case3 => exact fun _ _ hd => nomatch hd

theorem nsOK_guardTotalX_eval (s : CliSpec) (hstd : s.standard = true) (b : Ns) (h : NsOK s b) (g : Expr) :
    ∀ known, dtot_guardTotalX s g known = true → dtot_knows (namespaceOf s b) known →
    ∃ t, evalGuard (namespaceOf s b) g = some t := by
  have hm := dtot_std_main s hstd
  induction g with
  | bool | hasattr => exact fun _ _ _ => ⟨_, rfl⟩
  | arg d =>
    intro known hg _
    simp only [dtot_guardTotalX, guardTotal] at hg
    obtain ⟨v, hv, t, ht⟩ := dtot_pureFlag s hm b h.1 d hg
    exact ⟨t, by simp [evalGuard, evalE, hv, ht]⟩
  | not e ih =>
    intro known hg hk
    simp only [dtot_guardTotalX] at hg
    obtain ⟨t, ht⟩ := ih known hg hk
    exact ⟨!t, dtot_evalGuard_not _ e t ht⟩
  | and x y ihx ihy =>
    intro known hg hk
    simp only [dtot_guardTotalX, Bool.and_eq_true] at hg
    obtain ⟨tx, htx⟩ := ihx known hg.1 hk
    rw [dtot_evalGuard_and, htx]
    cases tx with
    | false => exact ⟨false, rfl⟩
    | true => exact ihy _ hg.2 fun d hd => (List.mem_append.1 hd).elim (dtot_facts_sound _ x htx d) (hk d)
  | or x y ihx ihy =>
    -- the operands of `or` are checked by `guardTotal`
    intro known hg hk
    simp only [dtot_guardTotalX, guardTotal, Bool.and_eq_true] at hg
    obtain ⟨tx, htx⟩ := ihx known (dtot_guardTotal_X s x hg.1 known) hk
    rw [dtot_evalGuard_or, htx]
    cases tx with
    | true => exact ⟨true, rfl⟩
    | false => exact ihy known (dtot_guardTotal_X s y hg.2 known) hk
  | isNone e _ | isNotNone e _ =>
    intro known hg _
    simp only [dtot_guardTotalX, guardTotal] at hg
    obtain ⟨v, hv, hp⟩ := dtot_valueTotal s hm b h.1 e hg
    obtain ⟨c, hc⟩ := dtot_plain_isNone v hp
    exact ⟨_, by simp only [evalGuard, evalE, hv, Option.bind_some, hc, Option.map_some]; rfl⟩
  | cmp op x y _ _ =>
    intro known hg hk
    cases x with
    | arg a =>
      cases y with
      | arg c =>
        simp only [dtot_guardTotalX, Bool.and_eq_true] at hg
        obtain ⟨i, hi⟩ := nsOK_intIn_val s hstd b h known hk a hg.1.2
        obtain ⟨j, hj⟩ := nsOK_intIn_val s hstd b h known hk c hg.2
        obtain ⟨r, hr⟩ := dtot_evalCmp_int op i j hg.1.1
        exact ⟨r, by simp [evalGuard, evalE, hi, hj, hr, truthy]⟩
      | _ => simp [dtot_guardTotalX, guardTotal] at hg
    | _ => simp [dtot_guardTotalX, guardTotal] at hg
  | _ => intro known hg; simp [dtot_guardTotalX, guardTotal] at hg

theorem nsOK_argTotalX_eval (s : CliSpec) (hstd : s.standard = true) (b : Ns) (h : NsOK s b) (e : Expr)
    (he : dtot_argTotalX s e = true) :
    ∃ v, evalE (namespaceOf s b) e = some v ∧ ∀ e', e = .star e' → ∃ l, v = .ints l := by
  have hm := dtot_std_main s hstd
  induction e with
  | arg d =>
    obtain ⟨v, hv⟩ := dtot_ns_some s hm b d (by simpa [dtot_argTotalX, argTotal] using he)
    exact ⟨v, hv, nofun⟩
  | name | none | bool | int | str | «opaque» => exact ⟨_, rfl, nofun⟩
  | not e _ =>
    cases e with
    | arg d =>
      obtain ⟨v, hv, t, ht⟩ := dtot_pureFlag s hm b h.1 d he
      exact ⟨.bool (!t), by simp [evalE, hv, ht], nofun⟩
    | _ => simp [dtot_argTotalX, argTotal] at he
  | ite c x y _ ihx ihy =>
    -- the branches of a conditional are checked by `argTotal`
    cases c with
    | arg d =>
      simp only [dtot_argTotalX, argTotal, Bool.and_eq_true] at he
      obtain ⟨v, hv, t, ht⟩ := dtot_pureFlag s hm b h.1 d he.1.1
      obtain ⟨wx, hwx, _⟩ := ihx (dtot_argTotal_X s x he.1.2)
      obtain ⟨wy, hwy, _⟩ := ihy (dtot_argTotal_X s y he.2)
      exact ⟨if t then wx else wy, by cases t <;> simp [evalE, hv, ht, hwx, hwy], nofun⟩
    | _ => simp [dtot_argTotalX, argTotal] at he
  | star e _ =>
    cases e with
    | arg d =>
      obtain ⟨l, hl⟩ := nsOK_starDest_val s hstd b h d he
      exact ⟨.ints l, hl, fun _ _ => ⟨l, rfl⟩⟩
    | _ => simp [dtot_argTotalX, argTotal] at he
  | _ => simp [dtot_argTotalX, argTotal] at he

/-- the helper of a sub-command of `totalClassExt` takes a path, and the call of that path can be built, or the path
raises a ValueError -/
theorem nsOK_eval_total (s : CliSpec) (ht : totalClassExt s = true) (b : Ns) (h : NsOK s b) :
    ∃ t ∈ s.templates, selectTemplate (namespaceOf s b) s.templates = .ok t ∧
      ((∃ c, instantiate (namespaceOf s b) t = .ok c) ∨
        (instantiate (namespaceOf s b) t = .error .cliError ∧ t.raises ≠ "")) := by
  unfold totalClassExt at ht
  simp only [Bool.and_eq_true, List.all_eq_true] at ht
  obtain ⟨⟨hstd, hall⟩, hpe⟩ := ht
  obtain ⟨t, htm, hsel⟩ := dtot_selectX (namespaceOf s b) s.templates
    (fun t htm => nsOK_guardTotalX_eval s hstd b h t.guard [] (hall t htm).1.1.1 nofun) hpe
  obtain ⟨⟨⟨_, hr⟩, hpos⟩, hkw⟩ := hall t htm
  refine ⟨t, htm, hsel, ?_⟩
  by_cases hrz : t.raises = ""
  · obtain ⟨p, hp⟩ := evalPos_defined _ _ fun e he => nsOK_argTotalX_eval s hstd b h e (hpos e he)
    obtain ⟨k, hk⟩ := evalKw_defined _ _ fun p hp =>
      have ⟨v, hv, _⟩ := nsOK_argTotalX_eval s hstd b h p.2 (hkw p hp); ⟨v, hv⟩
    have hok := hstd
    unfold CliSpec.standard at hok
    simp only [Bool.and_eq_true, List.all_eq_true] at hok
    have hfn := hok.2 t htm
    unfold templateOK at hfn
    simp only [hrz, bne_self_eq_false, Bool.false_or, Bool.and_eq_true, bne_iff_ne, ne_eq] at hfn
    exact Or.inl ⟨_, instantiate_call hrz hfn.2 hp hk⟩
  · simp only [Bool.or_eq_true] at hr
    exact Or.inr ⟨instantiate_raises hrz (hr.resolve_left fun h => hrz (by simpa using h)), hrz⟩

theorem dtot_totalClassExt_std (s : CliSpec) (ht : totalClassExt s = true) : s.standard = true := by
  unfold totalClassExt at ht
  simp only [Bool.and_eq_true] at ht
  exact ht.1.1

theorem nsOK_of_parseArgs (s : CliSpec) (hstd : s.standard = true) (argv : List String) (b : Ns)
    (h : parseArgs s argv = .ok b) : NsOK s b :=
  ⟨parseArgs_bindings_sound s hstd argv b h, ((parseArgs_ends s hstd argv).ok h).2.1⟩

theorem dtot_dispatch_okX (s : CliSpec) (ht : totalClassExt s = true) (argv : List String) (b : Ns)
    (h : parseArgs s argv = .ok b) :
    (∃ c, dispatchSpec s argv = .ok c) ∨
    (dispatchSpec s argv = .error .cliError ∧ ∃ t ∈ s.templates, t.raises ≠ "") := by
  have hstd := dtot_totalClassExt_std s ht
  obtain ⟨t, htm, hsel, hins⟩ := nsOK_eval_total s ht b (nsOK_of_parseArgs s hstd argv b h)
  have hd : dispatchSpec s argv = instantiate (namespaceOf s b) t := by
    unfold dispatchSpec
    rw [dispatchTemplate_parse_ok s (supported_of_standard s hstd) argv b t h hsel]
  rw [hd]
  rcases hins with hc | ⟨he, hne⟩
  · exact Or.inl hc
  · exact Or.inr ⟨he, t, htm, hne⟩

/-- for the sub-commands of `totalClassExt` (`stone` and `vdw` included), on every command line of the fragment
`dispatch` returns a library call or a CLIError -/
theorem dispatchSpec_total_ext (s : CliSpec) (ht : totalClassExt s = true) (argv : List String)
    (hf : inFragment s argv = true) :
    (∃ c, dispatchSpec s argv = .ok c) ∨ dispatchSpec s argv = .error .cliError := by
  have hstd := dtot_totalClassExt_std s ht
  rcases parseArgs_total_supported s (supported_of_standard s hstd) argv hf with ⟨b, hb⟩ | he
  · rcases dtot_dispatch_okX s ht argv b hb with h | h
    · exact Or.inl h
    · exact Or.inr h.1
  · exact Or.inr (dtot_dispatch_err s hstd argv _ he)

theorem dispatchSpec_error_iff_parse_error_ext (s : CliSpec) (ht : totalClassExt s = true)
    (hnr : s.templates.all (fun t => t.raises == "") = true) (argv : List String) :
    dispatchSpec s argv = .error .cliError ↔ parseArgs s argv = .error .cliError := by
  have hstd := dtot_totalClassExt_std s ht
  cases hp : parseArgs s argv with
  | error e =>
    rw [dtot_dispatch_err s hstd argv e hp]
    constructor <;> intro h <;> cases h <;> rfl
  | ok b =>
    rcases dtot_dispatch_okX s ht argv b hp with ⟨c, hc⟩ | ⟨_, t, htm, hne⟩
    · rw [hc]
      constructor <;> intro h <;> cases h
    · have := List.all_eq_true.1 hnr t htm
      exact absurd (by simpa using this) hne

/-- the extended class contains `totalClass` -/
theorem totalClass_totalClassExt (s : CliSpec) (ht : totalClass s = true) : totalClassExt s = true := by
  unfold totalClass at ht
  unfold totalClassExt
  simp only [Bool.and_eq_true, List.all_eq_true] at ht ⊢
  obtain ⟨⟨hstd, hall⟩, hpe⟩ := ht
  refine ⟨⟨hstd, fun t htm => ?_⟩, dtot_pathsExhaustive_X _ hpe⟩
  obtain ⟨⟨⟨h1, h2⟩, h3⟩, h4⟩ := hall t htm
  exact ⟨⟨⟨dtot_guardTotal_X s _ h1 _, h2⟩, fun e he => dtot_argTotal_X s e (h3 e he)⟩,
    fun p hp => dtot_argTotal_X s p.2 (h4 p hp)⟩

/-- (c) totality: for the sub-commands of `totalClass`, on every command line of the fragment `dispatch`
returns a library call or a CLIError — never `unsupported`, never a crash -/
theorem dispatchSpec_total (s : CliSpec) (ht : totalClass s = true) (argv : List String)
    (hf : inFragment s argv = true) :
    (∃ c, dispatchSpec s argv = .ok c) ∨ dispatchSpec s argv = .error .cliError :=
  dispatchSpec_total_ext s (totalClass_totalClassExt s ht) argv hf

/-- and when no path of the helper raises, the CLIError can only come from the parser: a token refused by
its validator, or a wrong arity -/
theorem dispatchSpec_error_iff_parse_error (s : CliSpec) (ht : totalClass s = true)
    (hnr : s.templates.all (fun t => t.raises == "") = true) (argv : List String)
    (hf : inFragment s argv = true) :
    dispatchSpec s argv = .error .cliError ↔ parseArgs s argv = .error .cliError :=
  have _ := hf
  dispatchSpec_error_iff_parse_error_ext s (totalClass_totalClassExt s ht) hnr argv

/-- every sub-command with standard options is in the extended class: `dispatchSpec` is total on all of them -/
theorem standard_commands_totalClassExt : (cliSpecs.filter (·.standard)).all totalClassExt = true := by
  decide +kernel

end Cnfgen.Cli
