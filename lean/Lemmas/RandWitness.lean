/-
For every input there is a legal draw list on which the samplers run to completion
(so the hypotheses "legal draws, complete recording" of the C13 theorems are satisfiable
for every k, n, m and planted set — not only on an example): `Runs` (Lemmas/RandSampler.lean) for the
candidate generators.  Only the unbounded loop of `sample_variables` beyond `sys.maxsize` needs its draws
written out (the answers `1, …, k`).
-/
import Lemmas.RandKXOR
namespace Cnfgen.Rand
open Cnfgen

theorem rejectVars_done {k n : Nat} {chosen : List Int} (h : k ≤ chosen.length) (ds : List Draw) :
    rejectVars k n chosen ds = .ok (chosen, ds) := by
  cases ds with
  | nil => rw [rejectVars_nil, if_neg (by omega)]
  | cons d rest => rw [rejectVars_cons, if_neg (by omega)]

theorem rejectVars_fresh {k n : Nat} (t : List Draw) : ∀ (vs chosen : List Int), vs.Nodup →
    (∀ v ∈ vs, v ∉ chosen) → chosen.length + vs.length = k →
    rejectVars k n chosen (vs.map (.randint 1 n) ++ t) = .ok (vs.reverse ++ chosen, t)
  | [], chosen, _, _, hk => rejectVars_done (Nat.le_of_eq hk.symm) t
  | v :: vs, chosen, hnd, hc, hk => by
    obtain ⟨hv, hnd⟩ := List.nodup_cons.1 hnd
    have hnot : chosen.contains v = false := by simpa using hc v List.mem_cons_self
    rw [List.map_cons, List.cons_append, rejectVars_cons, if_pos (by rw [List.length_cons] at hk; omega)]
    simp only [and_self, if_true, hnot, Bool.false_eq_true, if_false]
    rw [rejectVars_fresh t vs (v :: chosen) hnd
      (fun w hw => List.not_mem_cons_of_ne_of_not_mem (fun e => hv (e ▸ hw)) (hc w (List.mem_cons_of_mem v hw)))
      (by rw [List.length_cons] at hk ⊢; omega), List.reverse_cons, List.append_assoc]
    rfl

theorem drawVars_runs (k n : Nat) : Runs (n ≤ sysMaxsize) (k + 1) 1 (·.length = k) (drawVars k n) := by
  by_cases hn : n ≤ sysMaxsize
  · rw [drawVars_small hn]
    exact ((sample_runs n k).map fun idx h => by
      show (isort _).length = k
      rw [isort_length, List.length_map, h]).mono (by omega) (Nat.le_refl _)
  · rw [drawVars_big hn]
    split
    · exact Runs.raise _
    · refine ⟨(vars k).map (.randint 1 n), fun d hd => ?_, by simp [vars], fun hS => absurd hS hn,
        Or.inl ⟨isort (vars k).reverse, by show (isort _).length = k; rw [isort_length]; simp [vars], fun t => by
          rw [RandM.bind_apply, rejectVars_fresh t (vars k) [] (vars_nodup k) (fun _ _ => List.not_mem_nil)
            (by simp [vars]), List.append_nil]; rfl⟩⟩
      obtain ⟨v, hv, rfl⟩ := List.mem_map.1 hd
      have := mem_vars.1 hv
      exact ⟨this.1, by omega⟩

theorem signClause_runs : ∀ vs : List Int, Runs S vs.length vs.length (fun _ => True) (signClause vs)
  | [] => Runs.pure trivial
  | v :: vs => by
    unfold signClause
    rw [List.length_cons, Nat.add_comm]
    exact ((choice_runs 2).map (R := fun _ => True) fun _ _ => trivial).bind fun s _ =>
      (signClause_runs vs).map fun _ _ => trivial

theorem drawClause_runs (k n : Nat) :
    Runs (n ≤ sysMaxsize) (2 * k + 1) (k + 1) (fun _ => True) (drawClause k n) :=
  ((drawVars_runs k n).bind fun sel h => h ▸ signClause_runs sel).mono (by omega) (by omega)

theorem drawParity_runs (k n : Nat) :
    Runs (n ≤ sysMaxsize) (k + 2) 2 (fun _ => True) (drawParity k n) :=
  (drawVars_runs k n).bind fun _ _ => (randint_runs 0 1).map fun _ _ => trivial

/-- termination of the rejection loop of `sample_variables`: on `randint(1, n)` answers it returns, or it has seen
every answer and still holds fewer than `k` values (`fin`) -/
theorem rejectVars_short {k n : Nat} : ∀ (ds : List Draw) (chosen : List Int),
    (∀ d ∈ ds, ∃ v, d = .randint 1 n v) →
    (∃ r, rejectVars k n chosen ds = .ok r) ∨
      ∃ fin : List Int, fin.length < k ∧ (∀ x ∈ chosen, x ∈ fin) ∧ ∀ v, Draw.randint 1 n v ∈ ds → v ∈ fin
  | [], chosen, _ => by
    by_cases hlt : chosen.length < k
    · exact Or.inr ⟨chosen, hlt, fun _ => id, nofun⟩
    · exact Or.inl ⟨_, rejectVars_done (by omega) _⟩
  | d :: rest, chosen, hds => by
    by_cases hlt : chosen.length < k
    · obtain ⟨v, rfl⟩ := hds _ List.mem_cons_self
      rw [rejectVars_cons, if_pos hlt]
      simp only [and_self, if_true]
      refine (rejectVars_short rest _ fun d hd => hds d (List.mem_cons_of_mem _ hd)).imp_right
        fun ⟨fin, h1, h2, h3⟩ => ⟨fin, h1, fun x hx => h2 x ?_, fun w hw => ?_⟩
      · split
        · exact hx
        · exact List.mem_cons_of_mem v hx
      · rcases List.mem_cons.1 hw with e | hw
        · cases e
          refine h2 _ ?_
          split
          · rename_i hc; simpa using hc
          · exact List.mem_cons_self
        · exact h3 w hw
    · exact Or.inl ⟨_, rejectVars_done (by omega) _⟩

end Cnfgen.Rand
