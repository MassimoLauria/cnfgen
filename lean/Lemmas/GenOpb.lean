/-
Helper lemmas for the translated `normalize_opb` (`Props/C04/Generated.lean`): the index loop
`for i in range(len(combinations)): … combinations[i] = (c, l)` maps `flipNeg` over the terms and adds the
absolute values of the negative coefficients to the degree; with the final filter this is the model's `normTerms`.
-/
import CnfgenModel.Generated.Funcs
import CnfgenModel.Build.OPB
import Lemmas.PyFold
set_option linter.unusedSimpArgs false
namespace Cnfgen.GenOpb
open Cnfgen Cnfgen.PyGen

/-- what the loop does to one term -/
def flipNeg (t : Int × Int) : Int × Int := if t.1 < 0 then (-t.1, -t.2) else t

/-- what the loop adds to the degree -/
def negSum : List (Int × Int) → Int
  | [] => 0
  | t :: ts => (if t.1 < 0 then -t.1 else 0) + negSum ts

/-- the body of the loop, as the translator emits it (after unfolding the `let`s) -/
def step (st : Int × List (Int × Int)) (i : Int) : Except Err (Int × List (Int × Int)) :=
  (Py.index st.2 i) >>= fun x12 =>
    (if x12.1 < 0 then
      (Py.listSet st.2 i (Py.abs x12.1, -x12.2)) >>= fun l13 =>
        Except.ok (Py.abs x12.1, -x12.2, st.1 + Py.abs x12.1, l13)
    else Except.ok (x12.1, x12.2, st.1, st.2)) >>= fun st16 => Except.ok (st16.2.2.1, st16.2.2.2)

theorem step_at (v : Int) (P S : List (Int × Int)) (x : Int × Int) :
    step (v, P ++ x :: S) (P.length : Int) =
      Except.ok (v + (if x.1 < 0 then -x.1 else 0), P ++ flipNeg x :: S) := by
  have hlt : P.length < (P ++ x :: S).length :=
    List.length_append ▸ Nat.lt_add_of_pos_right (Nat.succ_pos _)
  have hidx : Py.index (P ++ x :: S) (P.length : Int) = Except.ok x := by
    rw [Py.index_nat _ _ hlt, List.getElem_append_right (Nat.le_refl _)]
    simp only [Nat.sub_self, List.getElem_cons_zero]
  have hset : ∀ y, Py.listSet (P ++ x :: S) (P.length : Int) y = Except.ok (P ++ y :: S) := fun y => by
    rw [Py.listSet, if_pos (Int.natCast_nonneg _), Int.toNat_natCast, if_pos hlt,
      List.set_append_right _ _ (Nat.le_refl _), Nat.sub_self, List.set_cons_zero]
  rw [step, hidx, Py.ok_bind, flipNeg]
  split
  next hx =>
    have habs : Py.abs x.1 = -x.1 := Int.ofNat_natAbs_of_nonpos (Int.le_of_lt hx)
    rw [habs, hset, Py.ok_bind, Py.ok_bind]
  next hx => rw [Py.ok_bind, Int.add_zero]

theorem loop_eq (S : List (Int × Int)) (P : List (Int × Int)) (v : Int) :
    List.foldlM step (v, P ++ S) ((List.range S.length).map (fun i => ((P.length + i : Nat) : Int))) =
      Except.ok (v + negSum S, P ++ S.map flipNeg) := by
  induction S generalizing P v with
  | nil => simp [negSum]
  | cons x S ih =>
    rw [List.length_cons, List.range_succ_eq_map, List.map_cons, List.foldlM_cons]
    have h0 : ((P.length + 0 : Nat) : Int) = (P.length : Int) := by simp
    rw [h0, step_at, Py.ok_bind]
    have := ih (P ++ [flipNeg x]) (v + (if x.1 < 0 then -x.1 else 0))
    simp only [List.append_assoc, List.singleton_append, List.length_append, List.length_singleton] at this
    rw [List.map_map]
    have hfun : ((fun i => ((P.length + i : Nat) : Int)) ∘ Nat.succ) = fun i => ((P.length + 1 + i : Nat) : Int) := by
      funext i; simp only [Function.comp]; congr 1; omega
    rw [hfun, this]
    simp only [negSum, List.map_cons, Int.add_assoc]

theorem normTerms_eq (ts : List (Int × Int)) (v : Int) :
    PB.normTerms ts v = ((ts.map flipNeg).filter (fun t => decide (t.1 ≠ 0)), v + negSum ts) := by
  induction ts generalizing v with
  | nil => simp [PB.normTerms, negSum]
  | cons t ts ih =>
    obtain ⟨c, l⟩ := t
    simp only [PB.normTerms, negSum, flipNeg, List.map_cons]
    by_cases hc : c < 0
    · have : (-c) ≠ 0 := by omega
      simp [hc, ih, this, Int.add_assoc]
    · by_cases h0 : c = 0
      · subst h0; simp [ih]
      · simp [hc, h0, ih]

end Cnfgen.GenOpb
