/-
C19 heap lemmas — the deep snapshot of a formula depends only on the cells of its footprint.
-/
import Lemmas.HeapFrame
namespace Cnfgen
namespace Heap
local notation "Addr" => Nat

theorem readIntsAll_congr {s s' : Store} : ∀ {as : List Addr}, (∀ a ∈ as, s'[a]? = s[a]?) →
    readIntsAll s' as = readIntsAll s as
  | [], _ => rfl
  | a :: as, h => by
    have h1 : readInts s' a = readInts s a := by unfold readInts; rw [h a (by simp)]
    have h2 := readIntsAll_congr (as := as) (fun x hx => h x (by simp [hx]))
    simp only [readIntsAll, h1, h2]

theorem r_mem_footprint (s : Store) (r : Addr) : r ∈ footprint s r := by
  unfold footprint; split <;> simp

theorem snap_congr {s s' : Store} {r : Addr} (h : ∀ a ∈ footprint s r, s'[a]? = s[a]?) :
    snap s' r = snap s r ∧ footprint s' r = footprint s r := by
  have hr : s'[r]? = s[r]? := h r (r_mem_footprint s r)
  have hcnf : readCNF s' r = readCNF s r := by unfold readCNF; rw [hr]
  unfold footprint snap at *
  rw [hcnf]
  cases ho : readCNF s r with
  | none => simp
  | some o =>
    simp only [ho] at h
    have hcl : s'[o.cl]? = s[o.cl]? := h _ (by simp)
    have hhd : s'[o.hd]? = s[o.hd]? := h _ (by simp)
    have hgr : s'[o.gr]? = s[o.gr]? := h _ (by simp)
    have e1 : readRefs s' o.cl = readRefs s o.cl := by unfold readRefs; rw [hcl]
    have e2 : readDict s' o.hd = readDict s o.hd := by unfold readDict; rw [hhd]
    have e3 : readGroups s' o.gr = readGroups s o.gr := by unfold readGroups; rw [hgr]
    simp only [e1, e2, e3, and_true]
    cases has : readRefs s o.cl with
    | none => simp
    | some as =>
      have e4 : readIntsAll s' as = readIntsAll s as :=
        readIntsAll_congr (fun a ha => h a (by simp [has, ha]))
      cases readDict s o.hd <;> cases readGroups s o.gr <;> simp [e4]

theorem readIntsAll_typed {s : Store} : ∀ {as : List Addr} {cs : List (List Int)},
    readIntsAll s as = some cs → ∀ a ∈ as, ∃ xs, s[a]? = some (.ints xs)
  | [], _, _ => by simp
  | a :: as, cs, h => by
    unfold readIntsAll at h
    split at h
    · rename_i x xs h1 h2
      intro b hb
      rcases List.mem_cons.1 hb with rfl | hb
      · exact ⟨x, readInts_eq_some.1 h1⟩
      · exact readIntsAll_typed h2 b hb
    · cases h

theorem readIntsAll_inbounds {s : Store} {as : List Addr} {cs : List (List Int)}
    (h : readIntsAll s as = some cs) (a : Addr) (ha : a ∈ as) : a < s.size := by
  obtain ⟨_, hx⟩ := readIntsAll_typed h a ha
  exact lt_size_of_getElem? hx

/-- the snapshot spelled out cell by cell: the data of a well-formed formula object.  Its cells are pairwise distinct because
their types differ; the lemmas that overwrite one of them derive the disequalities they need from that -/
structure Layout (s : Store) (x : Nat) (R : Snap) (cl hd gr : Nat) (as : List Addr) : Prop where
  hx : s[x]? = some (.cnf cl hd gr R.numvar)
  hcl : s[cl]? = some (.refs as)
  hhd : s[hd]? = some (.dict R.header)
  hgr : s[gr]? = some (.groups R.groups)
  hcs : readIntsAll s as = some R.clauses

theorem snap_iff {s : Store} {x : Nat} {R : Snap} : snap s x = some R ↔ ∃ cl hd gr as, Layout s x R cl hd gr as := by
  constructor
  · intro h
    unfold snap at h
    cases ho : readCNF s x with
    | none => simp [ho] at h
    | some o =>
      simp only [ho] at h
      split at h
      · rename_i as es gs e1 e2 e3
        split at h
        · rename_i cs e4
          cases h
          exact ⟨o.cl, o.hd, o.gr, as, readCNF_eq_some.1 ho, readRefs_eq_some.1 e1, readDict_eq_some.1 e2,
            readGroups_eq_some.1 e3, e4⟩
        · cases h
      · cases h
  · rintro ⟨cl, hd, gr, as, h1, h2, h3, h4, h5⟩
    simp [snap, readCNF, readRefs, readDict, readGroups, h1, h2, h3, h4, h5]

theorem Layout.snap {s : Store} {x : Nat} {R : Snap} {cl hd gr : Nat} {as : List Addr} (L : Layout s x R cl hd gr as) :
    snap s x = some R := snap_iff.mpr ⟨cl, hd, gr, as, L⟩

theorem footprint_eq {s : Store} {x cl hd gr nv : Nat} {as : List Addr} (h1 : s[x]? = some (.cnf cl hd gr nv))
    (h2 : s[cl]? = some (.refs as)) : footprint s x = x :: cl :: hd :: gr :: as := by
  simp [footprint, readCNF, readRefs, h1, h2]

theorem footprint_inbounds {s : Store} {r : Addr} {S : Snap} (h : snap s r = some S) :
    ∀ a ∈ footprint s r, a < s.size := by
  obtain ⟨cl, hd, gr, as, h1, h2, h3, h4, h5⟩ := snap_iff.1 h
  rw [footprint_eq h1 h2]
  intro a ha
  simp only [List.mem_cons] at ha
  rcases ha with rfl | rfl | rfl | rfl | ha
  · exact lt_size_of_getElem? h1
  · exact lt_size_of_getElem? h2
  · exact lt_size_of_getElem? h3
  · exact lt_size_of_getElem? h4
  · exact readIntsAll_inbounds h5 a ha

end Heap
end Cnfgen
