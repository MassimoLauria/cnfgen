/-
Lemmas for T-C04.6 — `force_{complete,functional,surjective,injective,nondecreasing}_mapping`
mean the functional condition they are named after, for unary / sparse mappings (a bipartite
graph `G` of admissible pairs) and binary mappings.
-/
import CnfgenModel.Vars.Mapping
import Lemmas.VarsBip
import Lemmas.VarsBinary
import Lemmas.Constr
namespace Cnfgen
namespace Vars

theorem mem_pairs2_of_sorted {l : List Nat} (hl : l.Pairwise (· < ·)) {a b : Nat} :
    (a, b) ∈ pairs2 l ↔ a ∈ l ∧ b ∈ l ∧ a < b :=
  mem_pairs_of_sorted_of_eqns rfl (fun _ _ => rfl) hl

theorem pairs2_eq_combos (l : List Nat) : (pairs2 l).map (fun p => [p.1, p.2]) = combos l 2 :=
  pairs_eq_combos_of_eqns rfl (fun _ _ => rfl) l

theorem mem_pairs2_rangeN {a b lo hi : Nat} : (a, b) ∈ pairs2 (rangeN lo hi) ↔ lo ≤ a ∧ a < b ∧ b < hi := by
  rw [mem_pairs2_of_sorted (rangeN_pairwise lo hi), mem_rangeN, mem_rangeN]
  omega

/-- the atom "u is mapped to v" of a unary / sparse mapping -/
def atom (α : Assign) (G : BipG) (s : Nat) (u v : Nat) : Prop := α (bipId G s u v) = true

def allHold (α : Assign) (cons : List Con) : Prop := ∀ c ∈ cons, c.holds α = true

theorem allHold_toCNF (α : Assign) (cons : List Con) (h : ∀ c ∈ cons, ∀ l ∈ c.lits, l ≠ 0) :
    (∀ cl ∈ cons.flatMap Con.toCNF, clauseHolds α cl = true) ↔ allHold α cons :=
  List.forall_mem_flatMap.trans (forall₂_congr fun c hc => Con.toCNF_holds α c (h c hc))

theorem allHold_toOPB (α : Assign) (cons : List Con) (h : ∀ c ∈ cons, ∀ l ∈ c.lits, l ≠ 0) :
    (∀ p ∈ cons.flatMap Con.toOPB, p.holds α = true) ↔ allHold α cons :=
  List.forall_mem_flatMap.trans (forall₂_congr fun c hc => Con.toOPB_holds α c (h c hc))

theorem allHold_map (α : Assign) {β : Type} (l : List β) (g : β → Con) :
    allHold α (l.map g) ↔ ∀ x ∈ l, (g x).holds α = true :=
  List.forall_mem_map

theorem negLit_ne_zero {v : Nat} (h : 1 ≤ v) : negLit v ≠ 0 :=
  Int.neg_ne_zero.2 (Int.natCast_ne_zero.2 (Nat.ne_of_gt h))

/-- `cons` constrains to exactly `P`: in its arithmetic meaning, as the clauses the CNF class
stores, and as the pseudo-Boolean constraints the OPB class stores -/
def Means (α : Assign) (cons : List Con) (P : Prop) : Prop :=
  (allHold α cons ↔ P) ∧
  ((∀ cl ∈ cons.flatMap Con.toCNF, clauseHolds α cl = true) ↔ P) ∧
  ((∀ p ∈ cons.flatMap Con.toOPB, p.holds α = true) ↔ P)

theorem means_of {α : Assign} {cons : List Con} {P : Prop} (hnz : ∀ c ∈ cons, ∀ l ∈ c.lits, l ≠ 0)
    (h : allHold α cons ↔ P) : Means α cons P :=
  ⟨h, (allHold_toCNF α cons hnz).trans h, (allHold_toOPB α cons hnz).trans h⟩

theorem means_rows {α : Assign} {k : Nat} {C : Nat → Con} {Q : Nat → Prop}
    (h : ∀ x, (∀ l ∈ (C x).lits, l ≠ 0) ∧ ((C x).holds α = true ↔ Q x)) :
    Means α ((rangeN 1 (k + 1)).map C) (∀ x, 1 ≤ x → x ≤ k → Q x) := by
  refine means_of (List.forall_mem_map.2 fun x _ => (h x).1) ?_
  rw [allHold_map]
  refine forall_congr' fun x => ?_
  rw [mem_rangeN, Nat.lt_succ_iff, and_imp, (h x).2]

/-- the double loops of the binary mappings -/
theorem means_mapM {α : Assign} {β γ : Type} {L : List β} {L' : List γ}
    {F : β → γ → Except Err Con} {C : β → γ → Con} {Q : β → γ → Prop} {P : Prop}
    (h : ∀ a ∈ L, ∀ b ∈ L', F a b = .ok (C a b) ∧ (∀ l ∈ (C a b).lits, l ≠ 0) ∧ ((C a b).holds α = true ↔ Q a b))
    (hP : (∀ a ∈ L, ∀ b ∈ L', Q a b) ↔ P) :
    ∃ cons, (L.mapM fun a => L'.mapM (F a)).map List.flatten = .ok cons ∧ Means α cons P := by
  refine ⟨L.flatMap fun a => L'.map (C a), ?_, means_of ?_ (Iff.trans ?_ hP)⟩
  · rw [mapM_ok _ (fun a => L'.map (C a)) L fun a ha => mapM_ok _ _ _ fun b hb => (h a ha b hb).1]
    rfl
  · exact List.forall_mem_flatMap.2 fun a ha => List.forall_mem_map.2 fun b hb => (h a ha b hb).2.1
  · exact List.forall_mem_flatMap.trans (forall₂_congr fun a ha =>
      List.forall_mem_map.trans (forall₂_congr fun b hb => (h a ha b hb).2.2))

theorem bipId_row_pos {G : BipG} (h : G.WF) {s : Nat} (hs : 1 ≤ s) (u v : Nat) (hv : v ∈ G.rnbrs u) :
    1 ≤ bipId G s u v :=
  Nat.le_trans hs (bipId_range h s ((h.mem_row u v).1 hv)).1
theorem bipId_col_pos {G : BipG} (h : G.WF) {s : Nat} (hs : 1 ≤ s) (v u : Nat) (hu : u ∈ G.lnbrs v) :
    1 ≤ bipId G s u v :=
  Nat.le_trans hs (bipId_range h s ((h.mem_col u v).1 hu)).1

theorem ofNat_ne_zero {l : List Nat} {f : Nat → Nat} (hf : ∀ a ∈ l, 1 ≤ f a) :
    ∀ x ∈ (l.map f).map Int.ofNat, x ≠ 0 := by
  rw [List.map_map, List.forall_mem_map]
  exact fun a ha => Int.natCast_ne_zero.2 (Nat.ne_of_gt (hf a ha))

theorem row_clause (α : Assign) {l : List Nat} (f : Nat → Nat) (hf : ∀ a ∈ l, 1 ≤ f a) :
    (∀ x ∈ (Con.clause ((l.map f).map Int.ofNat)).lits, x ≠ 0) ∧
    (Con.holds α (.clause ((l.map f).map Int.ofNat)) = true ↔ ∃ a ∈ l, α (f a) = true) := by
  refine ⟨ofNat_ne_zero hf, ?_⟩
  rw [List.map_map]
  exact clauseHolds_map_pos α l f hf

theorem row_atMostOne (α : Assign) {l : List Nat} (hl : l.Nodup) (f : Nat → Nat) (hf : ∀ a ∈ l, 1 ≤ f a) :
    (∀ x ∈ (Con.lin ((l.map f).map Int.ofNat) .le 1).lits, x ≠ 0) ∧
    (Con.holds α (.lin ((l.map f).map Int.ofNat) .le 1) = true ↔
      ∀ a ∈ l, ∀ b ∈ l, α (f a) = true → α (f b) = true → a = b) := by
  refine ⟨ofNat_ne_zero hf, ?_⟩
  rw [List.map_map]
  exact Con.atMostOne_holds α hl f hf

theorem mem_forceNondecreasing_unary {G : BipG} {s : Nat} {cons : List Con}
    (hc : forceNondecreasing (.unary s G) = .ok cons) {c : Con} :
    c ∈ cons ↔ ∃ u₁ u₂, (1 ≤ u₁ ∧ u₁ < u₂ ∧ u₂ < G.l + 1) ∧ ∃ v₁ ∈ G.rnbrs u₁, ∃ v₂ ∈ G.rnbrs u₂,
      v₁ > v₂ ∧ Con.clause [negLit (bipId G s u₁ v₁), negLit (bipId G s u₂ v₂)] = c := by
  obtain rfl := Except.ok.inj hc
  simp only [List.mem_flatMap, List.mem_filterMap, Prod.exists, mem_pairs2_rangeN,
    Option.ite_none_right_eq_some, Option.some.injEq]

theorem lt_pow_clog2 {y m : Nat} (h : y < m) : y < 2 ^ clog2 m :=
  Nat.lt_of_lt_of_le h (clog2_spec m).1

theorem forbid_one (α : Assign) {s n m i j : Nat} (hs : 1 ≤ s) (hi : i ∈ rangeN 1 (n + 1)) (hj : j < 2 ^ clog2 m) :
    (forbidC s m i j).map Con.clause = .ok (.clause (forbidClause s (clog2 m) i j)) ∧
    (∀ l ∈ forbidClause s (clog2 m) i j, l ≠ 0) ∧
    (Con.holds α (.clause (forbidClause s (clog2 m) i j)) = true ↔ ¬ binVal α s (clog2 m) i = j) := by
  have hi := (mem_rangeN.1 hi).1
  refine ⟨?_, forbidClause_ne_zero hs hi, ?_⟩
  · rw [forbidC, forbid_ok hj]
    rfl
  · rw [← forbidClause_spec α hs hi hj, Con.holds, Bool.not_eq_false]

theorem forbid_pair (α : Assign) {s n m j j' : Nat} {p : Nat × Nat} (hs : 1 ≤ s)
    (hp : p ∈ pairs2 (rangeN 1 (n + 1))) (hj : j < m) (hj' : j' < m) :
    (do let a ← forbidC s m p.1 j
        let b ← forbidC s m p.2 j'
        pure (Con.clause (a ++ b))) =
      .ok (.clause (forbidClause s (clog2 m) p.1 j ++ forbidClause s (clog2 m) p.2 j')) ∧
    (∀ l ∈ forbidClause s (clog2 m) p.1 j ++ forbidClause s (clog2 m) p.2 j', l ≠ 0) ∧
    (Con.holds α (.clause (forbidClause s (clog2 m) p.1 j ++ forbidClause s (clog2 m) p.2 j')) = true ↔
      ¬ (binVal α s (clog2 m) p.1 = j ∧ binVal α s (clog2 m) p.2 = j')) := by
  obtain ⟨h1, h2, -⟩ := mem_pairs2_rangeN.1 hp
  have h4 := Nat.le_trans h1 (Nat.le_of_lt h2)
  have hj := lt_pow_clog2 hj
  have hj' := lt_pow_clog2 hj'
  refine ⟨?_, List.forall_mem_append.2 ⟨forbidClause_ne_zero hs h1, forbidClause_ne_zero hs h4⟩, ?_⟩
  · rw [forbidC, forbidC, forbid_ok hj, forbid_ok hj']
    rfl
  · rw [← Bool.not_eq_false, Con.holds, clauseHolds, List.any_append, Bool.or_eq_false_iff,
      ← clauseHolds, ← clauseHolds, forbidClause_spec α hs h1 hj, forbidClause_spec α hs h4 hj']

end Vars
end Cnfgen
