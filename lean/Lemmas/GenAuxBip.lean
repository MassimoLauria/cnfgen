/-
The auxiliary bipartite graph of `GraphEdgesVariables`: the insertion loop `Vars.graphAux`
and the closed form `Fam.auxBip` agree on everything the formula families read (sizes,
neighbour lists, number of edges), for every simple graph object satisfying `SimpleG.Inv`.
Also: congruence of `bipId` / `SMap.row` / `SMap.col` in the sizes and neighbour lists.
-/
import Lemmas.VarsBip
import Lemmas.GraphInv
import Lemmas.C01Graph
namespace Cnfgen.GenAuxBip
open Cnfgen

theorem graphAux_mem_edgeset {G : SimpleG} (hG : SimpleG.Inv G) {B : BipG}
    (h : Vars.graphAux G = .ok B) (a b : Nat) :
    (a, b) ∈ B.edgeset ↔ a < b ∧ b ∈ G.nbrs a := by
  rw [(Vars.graphAux_spec h).2.2.2 a b]
  constructor
  · rintro ⟨⟨u, v⟩, he, rfl, rfl⟩
    have hm := hG.mem_edges.1 he
    have huv : u < v := hm.1
    simp only
    rw [Nat.min_eq_left (Nat.le_of_lt huv), Nat.max_eq_right (Nat.le_of_lt huv)]
    exact hm
  · intro hm
    refine ⟨(a, b), hG.mem_edges.2 hm, ?_, ?_⟩
    · simp only; omega
    · simp only; omega

/-- the auxiliary graph lists every edge from its smaller to its larger end -/
theorem graphAux_edge_lt {G : SimpleG} (hG : SimpleG.Inv G) {B : BipG} (h : Vars.graphAux G = .ok B) (a b : Nat)
    (hab : (a, b) ∈ B.edgeset) : a < b :=
  ((graphAux_mem_edgeset hG h a b).1 hab).1

theorem graphAux_rnbrs {G : SimpleG} (hG : SimpleG.Inv G) {B : BipG} (h : Vars.graphAux G = .ok B)
    (u : Nat) : B.rnbrs u = (Fam.auxBip G).rnbrs u := by
  obtain ⟨hw, hl, hr, _⟩ := Vars.graphAux_spec h
  rw [Fam.auxBip_rnbrs]
  split
  · refine SortedLt.ext (hw.row_sorted u) ((hG.nbrs_sorted u).filter _) ?_
    intro v
    rw [hw.mem_row, graphAux_mem_edgeset hG h, List.mem_filter, decide_eq_true_eq]
    exact And.comm
  · rename_i hu
    apply BipG.rnbrs_out hw
    rw [hl]; omega

theorem graphAux_lnbrs {G : SimpleG} (hG : SimpleG.Inv G) {B : BipG} (h : Vars.graphAux G = .ok B)
    (v : Nat) : B.lnbrs v = (Fam.auxBip G).lnbrs v := by
  obtain ⟨hw, hl, hr, _⟩ := Vars.graphAux_spec h
  rw [Fam.auxBip_lnbrs]
  split
  · refine SortedLt.ext (hw.col_sorted v) ((hG.nbrs_sorted v).filter _) ?_
    intro u
    rw [hw.mem_col, graphAux_mem_edgeset hG h, List.mem_filter, decide_eq_true_eq,
      hG.mem_nbrs_comm]
    exact And.comm
  · rename_i hv
    rw [List.eq_nil_iff_forall_not_mem]
    intro u hu
    have := hw.edge_range u v ((hw.mem_col u v).1 hu)
    rw [hr] at this
    omega

theorem auxBip_numberOfEdges_eq_sum (G : SimpleG) :
    (Fam.auxBip G).numberOfEdges =
      ((List.range G.n).map (fun i => ((Fam.auxBip G).rnbrs (i + 1)).length)).sum := by
  show ((Fam.idx G.n).flatMap
    (fun u => ((G.nbrs u).filter (fun v => u < v)).map (fun v => (u, v)))).length = _
  rw [List.length_flatMap]
  simp only [Fam.idx, rangeN, Nat.add_sub_cancel, List.map_map]
  congr 1
  apply List.map_congr_left
  intro i hi
  have hi' : 1 ≤ i + 1 ∧ i + 1 ≤ G.n := by
    have := List.mem_range.1 hi
    omega
  rw [Fam.auxBip_rnbrs, if_pos hi']
  simp

theorem graphAux_numberOfEdges {G : SimpleG} (hG : SimpleG.Inv G) {B : BipG}
    (h : Vars.graphAux G = .ok B) : B.numberOfEdges = (Fam.auxBip G).numberOfEdges := by
  obtain ⟨hw, hl, _, _⟩ := Vars.graphAux_spec h
  rw [BipG.numberOfEdges_eq_sum hw, auxBip_numberOfEdges_eq_sum, hl]
  congr 1
  apply List.map_congr_left
  intro i _
  rw [graphAux_rnbrs hG h]

theorem bipOffsets_congr {B B' : BipG} (hl : B.l = B'.l) (hr : ∀ u, B.rnbrs u = B'.rnbrs u)
    (s : Nat) : Vars.bipOffsets B s = Vars.bipOffsets B' s := by
  have hf : B.rnbrs = B'.rnbrs := funext hr
  unfold Vars.bipOffsets
  rw [hl, hf]

theorem bipId_congr {B B' : BipG} (hl : B.l = B'.l) (hr : ∀ u, B.rnbrs u = B'.rnbrs u)
    (s u v : Nat) : Vars.bipId B s u v = Vars.bipId B' s u v := by
  unfold Vars.bipId
  rw [bipOffsets_congr hl hr, hr]

theorem smap_row_congr {B B' : BipG} (hl : B.l = B'.l) (hr : ∀ u, B.rnbrs u = B'.rnbrs u)
    (s u : Nat) : (Fam.SMap.mk B s).row u = (Fam.SMap.mk B' s).row u := by
  simp only [Fam.SMap.row, Fam.SMap.lit, Fam.SMap.var]
  rw [hr]
  apply List.map_congr_left
  intro v _
  rw [bipId_congr hl hr]

theorem smap_col_congr {B B' : BipG} (hl : B.l = B'.l) (hr : ∀ u, B.rnbrs u = B'.rnbrs u)
    (hc : ∀ v, B.lnbrs v = B'.lnbrs v) (s v : Nat) :
    (Fam.SMap.mk B s).col v = (Fam.SMap.mk B' s).col v := by
  simp only [Fam.SMap.col, Fam.SMap.lit, Fam.SMap.var]
  rw [hc]
  apply List.map_congr_left
  intro u _
  rw [bipId_congr hl hr]

theorem graphAux_l {G : SimpleG} {B : BipG} (h : Vars.graphAux G = .ok B) :
    B.l = (Fam.auxBip G).l := (Vars.graphAux_spec h).2.1
theorem graphAux_r {G : SimpleG} {B : BipG} (h : Vars.graphAux G = .ok B) :
    B.r = (Fam.auxBip G).r := (Vars.graphAux_spec h).2.2.1

theorem graphAux_bipId {G : SimpleG} (hG : SimpleG.Inv G) {B : BipG} (h : Vars.graphAux G = .ok B)
    (s u v : Nat) : Vars.bipId B s u v = Vars.bipId (Fam.auxBip G) s u v :=
  bipId_congr (graphAux_l h) (graphAux_rnbrs hG h) s u v

theorem graphAux_row {G : SimpleG} (hG : SimpleG.Inv G) {B : BipG} (h : Vars.graphAux G = .ok B)
    (s u : Nat) : (Fam.SMap.mk B s).row u = (Fam.SMap.mk (Fam.auxBip G) s).row u :=
  smap_row_congr (graphAux_l h) (graphAux_rnbrs hG h) s u

theorem graphAux_col {G : SimpleG} (hG : SimpleG.Inv G) {B : BipG} (h : Vars.graphAux G = .ok B)
    (s v : Nat) : (Fam.SMap.mk B s).col v = (Fam.SMap.mk (Fam.auxBip G) s).col v :=
  smap_col_congr (graphAux_l h) (graphAux_rnbrs hG h) (graphAux_lnbrs hG h) s v

theorem edges_congr {B B' : BipG} (hl : B.l = B'.l) (hr : ∀ u, B.rnbrs u = B'.rnbrs u) :
    B.edges = B'.edges := by
  have hf : B.rnbrs = B'.rnbrs := funext hr
  unfold BipG.edges
  rw [hl, hf]

theorem graphAux_edges {G : SimpleG} (hG : SimpleG.Inv G) {B : BipG} (h : Vars.graphAux G = .ok B) :
    B.edges = (Fam.auxBip G).edges :=
  edges_congr (graphAux_l h) (graphAux_rnbrs hG h)

theorem auxBip_mem_edgeset {G : SimpleG} (hG : SimpleG.Inv G) (a b : Nat) :
    (a, b) ∈ (Fam.auxBip G).edgeset ↔ a < b ∧ b ∈ G.nbrs a := by
  show (a, b) ∈ (Fam.idx G.n).flatMap
    (fun u => ((G.nbrs u).filter (fun v => u < v)).map (fun v => (u, v))) ↔ _
  simp only [List.mem_flatMap, List.mem_map, List.mem_filter, decide_eq_true_eq, Prod.mk.injEq,
    Fam.mem_idx]
  constructor
  · rintro ⟨u, _, v, ⟨hv, huv⟩, rfl, rfl⟩
    exact ⟨huv, hv⟩
  · rintro ⟨hab, hb⟩
    have := hG.nbrs_range hb
    exact ⟨a, ⟨this.1, this.2.1⟩, b, ⟨hb, hab⟩, rfl, rfl⟩

theorem graphAux_mem_edgeset_iff {G : SimpleG} (hG : SimpleG.Inv G) {B : BipG}
    (h : Vars.graphAux G = .ok B) (e : Nat × Nat) :
    e ∈ B.edgeset ↔ e ∈ (Fam.auxBip G).edgeset := by
  obtain ⟨a, b⟩ := e
  rw [graphAux_mem_edgeset hG h, auxBip_mem_edgeset hG]

theorem auxBip_wf {G : SimpleG} (hG : SimpleG.Inv G) : (Fam.auxBip G).WF where
  ladj_len := by simp [Fam.auxBip, Fam.idx, rangeN]
  radj_len := by simp [Fam.auxBip, Fam.idx, rangeN]
  row_sorted := by
    intro u
    rw [Fam.auxBip_rnbrs]
    split
    · exact (hG.nbrs_sorted u).filter _
    · exact List.Pairwise.nil
  col_sorted := by
    intro v
    rw [Fam.auxBip_lnbrs]
    split
    · exact (hG.nbrs_sorted v).filter _
    · exact List.Pairwise.nil
  mem_row := by
    intro u v
    rw [Fam.auxBip_rnbrs, auxBip_mem_edgeset hG]
    split
    · rw [List.mem_filter, decide_eq_true_eq]; exact And.comm
    · rename_i hu
      simp only [List.not_mem_nil, false_iff]
      rintro ⟨_, hv⟩
      have := hG.nbrs_range hv
      exact hu ⟨this.1, this.2.1⟩
  mem_col := by
    intro u v
    rw [Fam.auxBip_lnbrs, auxBip_mem_edgeset hG, hG.mem_nbrs_comm]
    split
    · rw [List.mem_filter, decide_eq_true_eq]; exact And.comm
    · rename_i hv
      simp only [List.not_mem_nil, false_iff]
      rintro ⟨_, hu⟩
      have := hG.nbrs_range hu
      exact hv ⟨this.1, this.2.1⟩
  edge_range := by
    intro u v hm
    have := hG.nbrs_range ((auxBip_mem_edgeset hG u v).1 hm).2
    exact ⟨this.1, this.2.1, this.2.2.1, this.2.2.2.1⟩
  edges_nodup := by
    show ((Fam.idx G.n).flatMap
      (fun u => ((G.nbrs u).filter (fun v => u < v)).map (fun v => (u, v)))).Nodup
    simp only [Fam.idx, rangeN, Nat.add_sub_cancel]
    rw [List.nodup_flatMap]
    constructor
    · intro u _
      refine ((hG.nbrs_nodup u).filter _).map ?_
      intro x y hxy
      exact (Prod.mk.injEq _ _ _ _ ▸ hxy : _ ∧ _).2
    · refine (sorted_oneTo G.n).imp ?_
      intro i j hij
      simp only [Function.onFun]
      intro p hp hq
      simp only [List.mem_map] at hp hq
      obtain ⟨x, _, rfl⟩ := hp
      obtain ⟨y, _, hy⟩ := hq
      rw [Prod.mk.injEq] at hy
      omega

theorem graphAux_edgeset_perm {G : SimpleG} (hG : SimpleG.Inv G) {B : BipG}
    (h : Vars.graphAux G = .ok B) : B.edgeset.Perm (Fam.auxBip G).edgeset :=
  (List.perm_ext_iff_of_nodup (Vars.graphAux_spec h).1.edges_nodup (auxBip_wf hG).edges_nodup).2
    (graphAux_mem_edgeset_iff hG h)

theorem graphAux_hasEdge {G : SimpleG} (hG : SimpleG.Inv G) {B : BipG}
    (h : Vars.graphAux G = .ok B) (u v : Int) : B.hasEdge u v = (Fam.auxBip G).hasEdge u v := by
  rw [Bool.eq_iff_iff, BipG.hasEdge_iff, BipG.hasEdge_iff, graphAux_mem_edgeset_iff hG h]

end Cnfgen.GenAuxBip
