/-
C19 heap lemmas — the constraint builders never write into an object of the caller: of the cells that
existed before the call only formula objects (their variable counter) and lists of objects (`_clauses`,
`_constraints`: an append) are ever overwritten; the in-place `!=` loop works on a cell allocated by the call.
-/
import Lemmas.HeapMut
import CnfgenModel.Heap.Linear
namespace Cnfgen
namespace Heap
local notation "Addr" => Nat

/-- a cell that the builders may overwrite: a formula object or a list of objects -/
def Cell.isContainer : Cell → Bool
  | .cnf _ _ _ _ => true
  | .opb _ _ _ _ => true
  | .refs _ => true
  | _ => false

/-- every non-container cell below `b` keeps its content -/
structure PresB (b : Nat) (s s' : Store) : Prop where
  size_le : s.size ≤ s'.size
  keep : ∀ a : Nat, a < b → ∀ c, s[a]? = some c → c.isContainer = false → s'[a]? = some c

theorem PresB.refl (b : Nat) (s : Store) : PresB b s s := ⟨Nat.le_refl _, fun _ _ _ h _ => h⟩

theorem PresB.trans {b : Nat} {s s1 s2 : Store} (h1 : PresB b s s1) (h2 : PresB b s1 s2) : PresB b s s2 :=
  ⟨Nat.le_trans h1.size_le h2.size_le, fun a ha c hc hn => h2.keep a ha c (h1.keep a ha c hc hn) hn⟩

theorem presB_alloc {b : Nat} {s : Store} (c : Cell) : PresB b s (alloc s c).1 :=
  ⟨by simp, fun a _ c' hc _ => by rw [get_alloc_lt (lt_size_of_getElem? hc)]; exact hc⟩

theorem presB_write_new {b : Nat} {s : Store} {a : Nat} (c : Cell) (h : b ≤ a) : PresB b s (write s a c) :=
  ⟨by simp, fun a' ha' c' hc _ => by rw [get_write_ne (by omega)]; exact hc⟩

theorem presB_write_container {b : Nat} {s : Store} {a : Nat} {c0 : Cell} (c : Cell) (h0 : s[a]? = some c0)
    (hc0 : c0.isContainer = true) : PresB b s (write s a c) := by
  refine ⟨by simp, fun a' _ c' hc hn => ?_⟩
  have : a ≠ a' := by rintro rfl; rw [h0] at hc; cases hc; rw [hc0] at hn; cases hn
  rw [get_write_ne this]; exact hc

theorem presB_appendRef {b : Nat} {s : Store} (l x : Nat) : PresB b s (appendRef s l x) := by
  unfold appendRef
  split
  · rename_i as heq; exact presB_write_container _ heq rfl
  · exact PresB.refl _ _

theorem presB_addClauseVals {b : Nat} (s : Store) (x : Nat) (xs : List Int) (check : Bool) :
    PresB b s (addClauseVals s x xs check).1 := by
  unfold addClauseVals readCNF
  split
  · exact PresB.refl _ _
  · rename_i o ho
    split at ho
    · rename_i cl hd gr nv hx
      cases ho
      have h1 : PresB b s (alloc s (.ints xs)).1 := presB_alloc _
      simp only []
      split
      · exact h1.trans (presB_appendRef _ _)
      · split
        · split
          · exact h1
          · refine (h1.trans (presB_write_container (c0 := .cnf cl hd gr nv) _ ?_ rfl)).trans (presB_appendRef _ _)
            rw [get_alloc_lt (lt_size_of_getElem? hx)]; exact hx
        · exact h1.trans (presB_appendRef _ _)
    · cases ho

theorem presB_addClauseFrom {b : Nat} (s : Store) (x l : Nat) (check : Bool) :
    PresB b s (addClauseFrom s x l check).1 := by
  unfold addClauseFrom; split
  · exact PresB.refl _ _
  · exact presB_addClauseVals ..

theorem presB_addAllVals {b : Nat} (x : Nat) (check : Bool) (cs : List (List Int)) (s : Store) :
    PresB b s (addAllVals s x check cs).1 :=
  addAllVals_inv (PresB b s) x check (fun s1 c h => h.trans (presB_addClauseVals s1 x c check)) cs s (PresB.refl _ _)

theorem presB_neqLoop {b : Nat} (emit : Store → Nat → Store × Except Err Unit) (w : Nat) (hw : b ≤ w)
    (hemit : ∀ s a, PresB b s (emit s a).1) :
    ∀ (sets : List (List Nat)) (s : Store), PresB b s (neqLoop emit w s sets).1
  | [], s => by simpa [neqLoop] using PresB.refl _ _
  | S :: rest, s => by
    unfold neqLoop
    split
    · exact PresB.refl _ _
    · rename_i cur _
      have h1 : PresB b s (write s w (.ints (flipAt S cur))) := presB_write_new _ hw
      have h2 := hemit (write s w (.ints (flipAt S cur))) w
      simp only []
      split
      · rename_i s2 e heq; rw [heq] at h2; exact h1.trans h2
      · rename_i s2 u heq
        rw [heq] at h2
        split
        · exact h1.trans h2
        · rename_i cur2 _
          exact (h1.trans h2).trans ((presB_write_new _ hw).trans (presB_neqLoop emit w hw hemit rest _))

/-- `F.add_linear(L, op, k, check)` — every operator, every exit -/
theorem presB_addLinearFrom (s : Store) (x l : Nat) (op : Op) (k : Int) (check : Bool) :
    PresB s.size s (addLinearFrom s x l op k check).1 := by
  unfold addLinearFrom
  split
  · rename_i o xs ho hl
    have hx0 := readCNF_eq_some.1 ho
    -- `s1`: the store the optional check leaves (it may have written the variable counter of `x`)
    have key : ∀ s1 : Store, PresB s.size s s1 →
        PresB s.size s (match op with
          | .ne =>
            if k < 0 ∨ k > xs.length then ((alloc s1 (.ints xs)).1, Except.ok ())
            else neqLoop (fun s a => addClauseFrom s x a false) (alloc s1 (.ints xs)).2 (alloc s1 (.ints xs)).1
              (combos (List.range xs.length) k.toNat)
          | o' => addAllVals s1 x false (Linear.add xs o' k)).1 := by
      intro s1 h1
      cases op with
      | ne =>
        simp only []
        split
        · exact h1.trans (presB_alloc _)
        · refine h1.trans ((presB_alloc _).trans (presB_neqLoop _ _ ?_ (fun s a => presB_addClauseFrom s x a false) _ _))
          simp; exact h1.size_le
      | _ => exact h1.trans (presB_addAllVals x false _ s1)
    by_cases hchk : check = true ∧ ¬ xs.isEmpty = true
    · simp only [hchk]
      cases hcl : checkLits o.nv xs with
      | error e => exact PresB.refl _ _
      | ok nv' =>
        simp only []
        have := key (write s x (.cnf o.cl o.hd o.gr nv')) (presB_write_container _ hx0 rfl)
        cases op <;> exact this
    · simp only [hchk, if_false]
      have := key s (PresB.refl _ _)
      cases op <;> exact this
  · exact PresB.refl _ _

theorem flipAt_involutive (S : List Nat) (l : List Int) : flipAt S (flipAt S l) = l := by
  unfold flipAt
  apply List.ext_getElem
  · simp
  · intro i h1 h2
    simp only [List.getElem_mapIdx]
    by_cases hc : S.contains i = true
    · simp only [hc, if_true]; omega
    · simp only [hc]; simp

/-- if `add_clause` leaves the working list alone, then after a normal exit of the loop the working list has its
initial content: each iteration flips the same positions twice (`flipAt_involutive`) -/
theorem neqLoop_restores (emit : Store → Nat → Store × Except Err Unit) (w : Nat)
    (hemit : ∀ s xs, readInts s w = some xs → readInts (emit s w).1 w = some xs) :
    ∀ (sets : List (List Nat)) (s : Store) (xs : List Int), readInts s w = some xs →
      (neqLoop emit w s sets).2 = .ok () → readInts (neqLoop emit w s sets).1 w = some xs
  | [], s, xs, h, _ => by simpa [neqLoop] using h
  | S :: rest, s, xs, h, hok => by
    unfold neqLoop at hok ⊢
    simp only [h] at hok ⊢
    have hw : w < s.size := lt_size_of_getElem? (readInts_eq_some.1 h)
    have h1 : readInts (write s w (.ints (flipAt S xs))) w = some (flipAt S xs) := by
      simp [readInts, get_write_eq hw]
    have h2 := hemit _ _ h1
    split at hok
    · cases hok
    · rename_i s2 u heq
      rw [heq] at h2
      simp only [h2] at hok ⊢
      have hw2 : w < s2.size := lt_size_of_getElem? (readInts_eq_some.1 h2)
      apply neqLoop_restores emit w hemit rest _ xs _ hok
      simp [readInts, get_write_eq hw2, flipAt_involutive]

/-- `add_clause(lits, check=False)` does not write into the list it copies -/
theorem addClauseFrom_keeps (x w : Nat) (s : Store) (xs : List Int) (h : readInts s w = some xs) :
    readInts (addClauseFrom s x w false).1 w = some xs := by
  have hc := readInts_eq_some.1 h
  have := (presB_addClauseFrom (b := s.size) s x w false).keep w (lt_size_of_getElem? hc) _ hc rfl
  simp [readInts, this]

/-! The same for the builders of `BaseOPB`. -/

theorem presB_opbStore {b : Nat} (s : Store) (x : Nat) (c : PBC) (check : Bool) :
    PresB b s (opbStore s x c check).1 := by
  unfold opbStore readOPB
  split
  · exact PresB.refl _ _
  · rename_i o ho
    split at ho
    · rename_i cl hd gr nv hx
      cases ho
      have h1 : PresB b s (alloc s (.pbc c)).1 := presB_alloc _
      simp only []
      split
      · split
        · exact h1
        · refine (h1.trans (presB_write_container (c0 := .opb cl hd gr nv) _ ?_ rfl)).trans (presB_appendRef _ _)
          rw [get_alloc_lt (lt_size_of_getElem? hx)]; exact hx
      · exact h1.trans (presB_appendRef _ _)
    · cases ho

theorem presB_opbAddClauseFrom {b : Nat} (s : Store) (x l : Nat) (check : Bool) :
    PresB b s (opbAddClauseFrom s x l check).1 := by
  unfold opbAddClauseFrom opbAddClauseVals; split
  · exact PresB.refl _ _
  · exact presB_opbStore ..

theorem presB_opbAddConstraintFrom (s : Store) (x c : Nat) (check : Bool) :
    PresB s.size s (opbAddConstraintFrom s x c check).1 := by
  unfold opbAddConstraintFrom; split
  · exact PresB.refl _ _
  · exact presB_opbStore ..

theorem presB_opbCardFrom (s : Store) (x l : Nat) (op : Op) (k : Int) (check : Bool) :
    PresB s.size s (opbCardFrom s x l op k check).1 := by
  unfold opbCardFrom; split
  · exact PresB.refl _ _
  · exact presB_opbStore ..

theorem presB_opbCardNeqFrom (s : Store) (x l : Nat) (k : Int) (check : Bool) :
    PresB s.size s (opbCardNeqFrom s x l k check).1 := by
  unfold opbCardNeqFrom
  split
  · rename_i o xs ho hl
    have hx : ∃ c0, s[x]? = some c0 ∧ c0.isContainer = true := by
      unfold readOPB at ho; split at ho
      · rename_i heq; exact ⟨_, heq, rfl⟩
      · cases ho
    obtain ⟨c0, hx0, hc0⟩ := hx
    have h0 : PresB s.size s (alloc s (.ints xs)).1 := presB_alloc _
    have key : ∀ s2 : Store, PresB s.size s s2 →
        PresB s.size s (if k < 0 ∨ k > xs.length then (s2, Except.ok ())
          else neqLoop (fun s a => opbAddClauseFrom s x a false) (alloc s (.ints xs)).2 s2
            (combos (List.range xs.length) k.toNat)).1 := by
      intro s2 h2
      split
      · exact h2
      · exact h2.trans (presB_neqLoop _ _ (by simp) (fun s a => presB_opbAddClauseFrom s x a false) _ _)
    simp only []
    by_cases hchk : check = true
    · simp only [hchk, if_true]
      cases hcl : PB.check o.nv ⟨PB.unit xs, .eq, 0⟩ with
      | error e => exact h0
      | ok nv' =>
        simp only []
        refine key _ (h0.trans (presB_write_container (c0 := c0) _ ?_ hc0))
        rw [get_alloc_lt (lt_size_of_getElem? hx0)]; exact hx0
    · simp only [hchk]
      exact key _ h0
  · exact PresB.refl _ _

end Heap
end Cnfgen
