/-
Totality of the extended interpreter on EVERY list of tokens, for the sub-commands whose options are standard: what the
parser binds is typed and complete (`parseX_typed`, `parseX_bound`), so the evaluation lemmas of Lemmas/DispatchTotal.lean
(part 3, stated for any such namespace: `NsOK`) apply, and `dispatchSpecX` answers something built, a CLIError or the help
exit (`dispatchX_total_std`; the helpers that build the formula themselves: `dispatchX_total_inline`).  The CLIError includes
the TypeError of a single-argument option that holds the empty list (`hasQuirk`), which `cli()` reports as one (`quirkCrash`).
-/
import Lemmas.ArgparseTotal
import Lemmas.ArgparseRefine
import Lemmas.DispatchFlag
namespace Cnfgen.Cli.AP
open Cnfgen.Gen Cnfgen.Cli

/-- what an action can store under the dest of its option: a value of the option's type, or — single-argument
options only — the empty list -/
def RB (o : OptSpec) (p : String × Val) : Prop :=
  o.dest = p.1 ∧ (producible o p.2 ∨ (o.arity = .one ∧ p.2 = .ints []))

theorem liftE_ok {α : Type} (r : Except CliErr α) (a : α) (h : liftE r = .ok a) : r = .ok a := by
  cases r with
  | ok x => simp [liftE] at h; rw [h]
  | error e => simp [liftE] at h

theorem bindBase_ok (o : OptSpec) (hf : isFileType o.ty = false) (h1 : o.action ≠ "PHPArgs")
    (h2 : o.action ≠ "compose_two_parsers") (toks : List String) (b : Ns) (h : bindBase o toks = .ok b) :
    ∃ v, b = [(o.dest, v)] ∧ (typedBy o v ∨ (o.arity = .one ∧ v = .ints [])) := by
  unfold bindBase at h
  simp only [hf, Bool.false_eq_true, if_false] at h
  split at h
  · cases h
    exact ⟨_, rfl, Or.inr ⟨‹_›, rfl⟩⟩
  · rename_i ha
    split at h <;> cases h
    exact ⟨_, rfl, Or.inl (by unfold typedBy; rw [ha]; exact ⟨_, [], ‹_›, rfl⟩)⟩
  · obtain ⟨v, rfl, hv⟩ := bindOne_ok o h1 _ _ (liftE_ok _ _ h)
    exact ⟨v, rfl, Or.inl (hv.resolve_right fun hc => h2 hc.1).2⟩

theorem bindBase_typed (o : OptSpec) (hs : o.standard = true) (toks : List String) (b : Ns)
    (h : bindBase o toks = .ok b) : (∀ p ∈ b, RB o p) ∧ ∃ v, (o.dest, v) ∈ b := by
  have hstd := dtot_std o hs
  obtain ⟨v, rfl, hv⟩ := bindBase_ok o (std_notFile o hs) hstd.2.1 hstd.2.2.1 toks b h
  exact ⟨fun p hp => by cases List.mem_singleton.1 hp; exact ⟨rfl, hv.imp_left producible_of_typedBy⟩, v,
    List.mem_cons_self ..⟩

/-- all the options of the sub-command are standard (so are those of the inline helpers `and`, `or`, `true`, …) -/
def OptsStd (s : CliSpec) : Prop := ∀ o ∈ s.opts, o.standard = true

theorem optsStd_main (s : CliSpec) (h : OptsStd s) : mainOpts s = s.opts := by
  unfold mainOpts
  apply List.filter_eq_self.2
  intro o ho
  simp [(dtot_std o (h o ho)).1]

theorem mainSpec_arity (s : CliSpec) (h : OptsStd s) :
    ∀ o ∈ (mainSpec s).opts, o.arity = .zero ∨ o.arity = .one ∨ o.arity = .plus := by
  intro o ho
  have hm := mainSpec_mem s o (by simp [ho])
  unfold mainSpec at ho
  simp only [List.mem_filter, Bool.not_eq_true'] at ho
  exact std_opt_arity o (h o hm) ho.2

theorem parseX_typed_bound (s : CliSpec) (h : OptsStd s) (argv : List String) (b : Ns) (hp : parseX s argv = .ok b) :
    (∀ q ∈ b, ∃ o ∈ s.opts, RB o q) ∧ ∀ o ∈ positionals s, ∃ v, (o.dest, v) ∈ b := by
  have hpr := engine_produced (mainBind s) (mainSpec s) (mainSpec_arity s h) argv b hp
  refine ⟨fun q hq => ?_, fun o ho => ?_⟩
  · obtain ⟨o, ho, toks, b0, hb, hq0⟩ := hpr.out q hq
    have ho := mainSpec_mem s o ho
    rw [mainBind_eq_bindBase s o (h o ho)] at hb
    exact ⟨o, ho, (bindBase_typed o (h o ho) toks b0 hb).1 q hq0⟩
  · obtain ⟨toks, b0, hb, hs⟩ := hpr.ran o ho
    have ho := mainSpec_mem s o (List.mem_append_right _ ho)
    rw [mainBind_eq_bindBase s o (h o ho)] at hb
    obtain ⟨v, hv⟩ := (bindBase_typed o (h o ho) toks b0 hb).2
    exact ⟨v, hs _ hv⟩

theorem parseX_typed (s : CliSpec) (h : OptsStd s) (argv : List String) (b : Ns) (hp : parseX s argv = .ok b) :
    ∀ q ∈ b, ∃ o ∈ s.opts, RB o q :=
  (parseX_typed_bound s h argv b hp).1

theorem parseX_bound (s : CliSpec) (h : OptsStd s) (argv : List String) (b : Ns) (hp : parseX s argv = .ok b) :
    ∀ o ∈ positionals s, ∃ v, (o.dest, v) ∈ b :=
  (parseX_typed_bound s h argv b hp).2

theorem parseX_NsOK (s : CliSpec) (h : OptsStd s) (argv : List String) (b : Ns) (hp : parseX s argv = .ok b)
    (hq : hasQuirk s b = false) : NsOK s b := by
  refine ⟨?_, parseX_bound s h argv b hp⟩
  intro q hqm
  obtain ⟨o, ho, hd, hor⟩ := parseX_typed s h argv b hp q hqm
  refine ⟨o, ho, hd, ?_⟩
  rcases hor with hpr | ⟨ha, hv⟩
  · exact hpr
  · exfalso
    unfold hasQuirk at hq
    rw [List.any_eq_false] at hq
    have := hq q hqm
    apply this
    simp only [Bool.and_eq_true, beq_iff_eq]
    refine ⟨hv, ?_⟩
    unfold quirkDest
    rw [List.any_eq_true]
    exact ⟨o, ho, by simp [hd, ha]⟩

/-- what totality allows the extended interpreter to answer: never `.unsupported` (`Tot` of Lemmas/ArgparseTotal.lean at
`Built`, under the name the theorems of Props/C17/Argparse.lean use) -/
def Answers (r : Except PErr Built) : Prop :=
  (∃ x, r = .ok x) ∨ r = .error .cliError ∨ r = .error .helpExit

/-- the extended interpreter answers as soon as the parser's options are modelled and what it builds from the bindings of
an accepted parse answers: a library call for most sub-commands, the formula itself for the inline helpers -/
theorem dispatchSpecX_answers (tool : String) (ord : List String → Nat) (s : CliSpec) (hsx : s.supportedX = true)
    (hgood : ∀ o ∈ s.opts, goodOpt o = true)
    (hbuild : ∀ argv b, parseX s argv = .ok b →
      Answers (if s.inline then inlineBuild s.cls (namespaceOf s b) else quirkCrash s b (callOf ord s b)))
    (argv : List String) : Answers (dispatchSpecX tool ord s argv) := by
  unfold dispatchSpecX
  simp only [hsx, Bool.not_true, Bool.false_eq_true, if_false]
  split
  · exact Tot.cli
  · rcases parseX_total s hgood argv with ⟨b, hb⟩ | hb | hb
    · rw [hb]; exact hbuild argv b hb
    · rw [hb]; exact Tot.cli
    · rw [hb]; exact Tot.help

/-- the library call answers when the paths that raise raise something `cli()` shields, and — the quirk apart — every
namespace the parser makes lets the helper take a path whose call can be built or that raises -/
theorem dispatchX_answers (tool : String) (ord : List String → Nat) (s : CliSpec) (hsx : s.supportedX = true)
    (hni : s.inline = false) (hgood : ∀ o ∈ s.opts, goodOpt o = true)
    (hraise : ∀ t ∈ s.templates, (t.raises == "" || shielded t.raises) = true)
    (heval : ∀ argv b, parseX s argv = .ok b → hasQuirk s b = false →
      ∃ t, selectTemplate (namespaceOf s b) (s.templates.map (fixTemplate ord (namespaceOf s b))) = .ok t ∧
        ((∃ c, instantiate (namespaceOf s b) t = .ok c) ∨ instantiate (namespaceOf s b) t = .error .cliError))
    (argv : List String) : Answers (dispatchSpecX tool ord s argv) := by
  refine dispatchSpecX_answers tool ord s hsx hgood (fun argv b hb => ?_) argv
  simp only [hni, Bool.false_eq_true, if_false]
  unfold callOf
  by_cases hq : hasQuirk s b = true
  · -- the quirk: whatever cannot be evaluated is the TypeError
    cases hsel : selectTemplate (namespaceOf s b) (s.templates.map (fixTemplate ord (namespaceOf s b))) with
    | error e =>
      obtain ⟨w, rfl⟩ := (selectTemplate_ends _ _).err hsel
      simp only [liftErr, quirkCrash, hq, if_true]
      exact Tot.cli
    | ok t =>
      dsimp only
      obtain ⟨t0, ht0, rfl⟩ := List.mem_map.1 ((selectTemplate_ends _ _).ok hsel).1
      rcases instantiate_class (namespaceOf s b) (fixTemplate ord (namespaceOf s b) t0) (hraise t0 ht0) with ⟨c, hc⟩ | hc | ⟨w, hc⟩
      · rw [hc]; exact Tot.ok _
      · rw [hc]; exact Tot.cli
      · rw [hc]
        simp only [liftE, liftErr, Except.map, quirkCrash, hq, if_true]
        exact Tot.cli
  · obtain ⟨t, hsel, hins⟩ := heval argv b hb (by simpa using hq)
    rw [hsel]
    dsimp only
    rcases hins with ⟨c, hc⟩ | hc
    · rw [hc]; exact Tot.ok _
    · rw [hc]; exact Tot.cli

theorem dispatchX_total_std (tool : String) (ord : List String → Nat) (s : CliSpec) (ht : totalClassExt s = true)
    (hof : s.templates.all templateOrderFree = true) (hni : s.inline = false) (hgood : ∀ o ∈ s.opts, goodOpt o = true)
    (argv : List String) : Answers (dispatchSpecX tool ord s argv) := by
  have hstd := dtot_totalClassExt_std s ht
  refine dispatchX_answers tool ord s (supportedX_of_supported s (supported_of_standard s hstd)) hni hgood
    (fun t htm => ?_) (fun argv b hb hq => ?_) argv
  · unfold totalClassExt at ht
    simp only [Bool.and_eq_true, List.all_eq_true] at ht
    exact (ht.1.2 t htm).1.1.2
  · rw [map_fixTemplate_id ord _ _ hof]
    obtain ⟨t, _, hsel, hins⟩ := nsOK_eval_total s ht b (parseX_NsOK s (dtot_std_opts s hstd) argv b hb hq)
    exact ⟨t, hsel, hins.imp_right (·.1)⟩

/-- what the totality of an inline helper needs of its option table: `and` / `or` have the two typed positionals `P`,
`N` and nothing else; `dimacs` has an `input` with a default -/
def inlineTableOK (s : CliSpec) : Bool :=
  (if s.cls == "AND" || s.cls == "OR" then
     s.opts.all (fun o => o.standard && o.arity == .one && o.ty != "" && o.positional) &&
     (positionals s).map (·.dest) == ["P", "N"]
   else if s.cls == "DimacsCmdHelper" then ((defaults s).lookup "input").isSome
   else s.cls == "TRUE" || s.cls == "FALSE" || s.cls == "NoSubstitutionCmd")

theorem typedPositional_lookup (s : CliSpec) (hopts : OptsStd s)
    (hall : ∀ o ∈ s.opts, o.arity = .one ∧ o.ty ≠ "") (argv : List String) (b : Ns)
    (hp : parseX s argv = .ok b) (o : OptSpec) (ho : o ∈ positionals s) :
    (∃ i, (namespaceOf s b).lookup o.dest = some (.int i)) ∨ (namespaceOf s b).lookup o.dest = some (.ints []) := by
  obtain ⟨v0, hv0⟩ := parseX_bound s hopts argv b hp o ho
  obtain ⟨v, hv⟩ := dtot_lookup_some b o.dest v0 hv0
  have hns : (namespaceOf s b).lookup o.dest = some v := by
    unfold namespaceOf
    rw [List.lookup_append, hv]; rfl
  obtain ⟨o', ho', hd, hor⟩ := parseX_typed s hopts argv b hp _ (dtot_lookup_mem b o.dest v hv)
  rw [hns]
  rcases hor with hpr | ⟨_, hq⟩
  · left
    unfold producible at hpr
    rw [(hall o' ho').1] at hpr
    obtain ⟨t, ht⟩ := hpr
    obtain ⟨i, hi⟩ := dtot_convertOne_int o' t v (hall o' ho').2 ht
    exact ⟨i, by rw [hi]⟩
  · right; simp at hq; rw [hq]

/-- class by class (the class decides the `if cls == …` chain of `inlineBuild`), what `inlineBuild` looks up is there -/
theorem dispatchX_total_inline (tool : String) (ord : List String → Nat) (s : CliSpec) (hin : s.inline = true)
    (htab : inlineTableOK s = true) (hgood : ∀ o ∈ s.opts, goodOpt o = true) (argv : List String) :
    Answers (dispatchSpecX tool ord s argv) := by
  refine dispatchSpecX_answers tool ord s (by simp [CliSpec.supportedX, hin]) hgood (fun argv b hb => ?_) argv
  rw [hin, if_pos rfl]
  unfold inlineTableOK at htab
  split at htab
  · -- `and`, `or`: two numbers, or the empty list of the quirk
    next hand =>
    simp only [Bool.and_eq_true, List.all_eq_true, beq_iff_eq, bne_iff_ne, ne_eq] at htab
    obtain ⟨hall, hpn⟩ := htab
    have hnum : ∀ d ∈ ["P", "N"], (∃ i, (namespaceOf s b).lookup d = some (.int i)) ∨
        (namespaceOf s b).lookup d = some (.ints []) := by
      intro d hd
      obtain ⟨o, ho, rfl⟩ := List.mem_map.1 (hpn ▸ hd)
      exact typedPositional_lookup s (fun o ho => (hall o ho).1.1.1) (fun o ho => ⟨(hall o ho).1.1.2, (hall o ho).1.2⟩) argv b hb o ho
    have hcls : s.cls = "AND" ∨ s.cls = "OR" := by simpa using hand
    rcases hcls with hc | hc <;> rcases hnum "P" (by simp) with ⟨p, hP⟩ | hP <;>
      rcases hnum "N" (by simp) with ⟨n, hN⟩ | hN <;> simp [inlineBuild, hc, hP, hN, Answers]
  · split at htab
    · -- `dimacs`: the input file, given or by default
      next hdm =>
      have hc : s.cls = "DimacsCmdHelper" := by simpa using hdm
      obtain ⟨v, hv⟩ : ∃ v, (namespaceOf s b).lookup "input" = some v := by
        unfold namespaceOf
        rw [List.lookup_append]
        cases b.lookup "input" with
        | some v => exact ⟨v, rfl⟩
        | none => exact Option.isSome_iff_exists.1 htab
      simp [inlineBuild, hc, hv, Answers]
    · have hcls : s.cls = "TRUE" ∨ s.cls = "FALSE" ∨ s.cls = "NoSubstitutionCmd" := by simpa [or_assoc] using htab
      rcases hcls with hc | hc | hc <;> simp [inlineBuild, hc, Answers]

end Cnfgen.Cli.AP
