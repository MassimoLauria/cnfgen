/-
C15, `gnd`: `networkx.random_regular_graph(d, n)` as modelled in `Rand/NxDraws.lean` (pairing of stubs
after a shuffle, left-over stubs re-shuffled, restart when `_suitable` says no), for EVERY list of
shuffles on which the run is not `stuck`: what comes out is `d`-regular.  The proof does not look inside
`suitable` (whose quirk is modelled as written): restarting is always harmless.
-/
import Lemmas.C15NxBase
import CnfgenModel.Rand.NxDraws
namespace Cnfgen.Nx
open Cnfgen

/-- number of edges of the list incident to `v` -/
def inc (es : List (Nat × Nat)) (v : Nat) : Nat := es.countP (fun e => e.1 == v || e.2 == v)

/-- the ends of the edges, one stub each -/
def endsOf (es : List (Nat × Nat)) : List Nat := es.flatMap fun e => [e.1, e.2]

theorem length_endsOf (es : List (Nat × Nat)) : (endsOf es).length = 2 * es.length := by
  induction es with
  | nil => rfl
  | cons e es ih => simp only [endsOf, List.flatMap_cons, List.length_append, List.length_cons, List.length_nil] at ih ⊢; omega

theorem count_endsOf {es : List (Nat × Nat)} (hO : ∀ e ∈ es, e.1 < e.2) (v : Nat) : (endsOf es).count v = inc es v := by
  induction es with
  | nil => rfl
  | cons e es ih =>
    have := hO e (by simp)
    simp only [endsOf, inc, List.flatMap_cons, List.count_append, List.count_cons, List.count_nil, List.countP_cons,
      beq_iff_eq, Bool.or_eq_true] at ih ⊢
    rw [ih fun e he => hO e (List.mem_cons_of_mem _ he)]
    -- `e.1 < e.2`: at most one end of `e` is `v`, so the two indicators add up to that of `e.1 = v ∨ e.2 = v`
    split <;> split <;> split <;> omega

theorem stubsOf_bump (pot : List (Nat × Nat)) (s : Nat) : (stubsOf (bump pot s)).Perm (s :: stubsOf pot) := by
  induction pot with
  | nil => simp [bump, stubsOf]
  | cons p rest ih =>
    obtain ⟨k, c⟩ := p
    simp only [bump]
    split
    · rename_i hk
      subst hk
      simp [stubsOf, List.replicate_succ]
    · simp only [stubsOf, List.flatMap_cons] at ih ⊢
      exact (ih.append_left _).trans List.perm_middle

theorem ite_min_max (a b v : Nat) :
    (if min a b = v then 1 else 0) + (if max a b = v then 1 else 0) =
      (if a = v then 1 else 0) + (if b = v then 1 else 0) := by
  rcases Nat.le_total a b with h | h
  · rw [Nat.min_eq_left h, Nat.max_eq_right h]
  · rw [Nat.min_eq_right h, Nat.max_eq_left h, Nat.add_comm]

theorem pairUp_spec (n : Nat) (edges pot : List (Nat × Nat)) (l : List Nat) (hl : l.length % 2 = 0)
    (hO : ∀ e ∈ edges, e.1 < e.2 ∧ e.2 < n) (hN : edges.Nodup) (hR : ∀ x ∈ l, x < n) :
    (∀ e ∈ (pairUp edges pot l).1, e.1 < e.2 ∧ e.2 < n) ∧ (pairUp edges pot l).1.Nodup ∧
    (endsOf (pairUp edges pot l).1 ++ stubsOf (pairUp edges pot l).2).Perm (endsOf edges ++ (stubsOf pot ++ l)) := by
  induction edges, pot, l using pairUp.induct with
  | case1 edges pot a b rest s1 s2 hacc ih =>
    have hnew : (s1, s2) ∉ edges := by simpa using hacc.2
    have hlt : s1 < s2 ∧ s2 < n := by
      have ha := hR a (by simp)
      have hb := hR b (by simp)
      have hne : min a b ≠ max a b := hacc.1
      show min a b < max a b ∧ max a b < n
      omega
    obtain ⟨g1, g2, g3⟩ := ih (by simp only [List.length_cons] at hl; omega)
      (by
        intro e he
        rcases List.mem_append.1 he with he | he
        · exact hO e he
        · rw [List.mem_singleton.1 he]; exact hlt)
      (List.nodup_append.2 ⟨hN, List.nodup_singleton _, by
        intro x hx y hy; rw [List.mem_singleton.1 hy]; rintro rfl; exact hnew hx⟩)
      (fun x hx => hR x (by simp [hx]))
    rw [show pairUp edges pot (a :: b :: rest) = pairUp (edges ++ [(s1, s2)]) pot rest by
      rw [pairUp]; exact if_pos hacc]
    refine ⟨g1, g2, g3.trans (List.perm_iff_count.2 fun v => ?_)⟩
    have : (if s1 = v then 1 else 0) + (if s2 = v then 1 else 0) = _ := ite_min_max a b v
    simp only [endsOf, List.flatMap_append, List.flatMap_cons, List.flatMap_nil, List.count_append, List.count_cons,
      List.count_nil, beq_iff_eq]
    omega
  | case2 edges pot a b rest s1 s2 hacc ih =>
    obtain ⟨g1, g2, g3⟩ := ih (by simp only [List.length_cons] at hl; omega) hO hN
      (fun x hx => hR x (by simp [hx]))
    rw [show pairUp edges pot (a :: b :: rest) = pairUp edges (bump (bump pot s1) s2) rest by
      rw [pairUp]; exact if_neg hacc]
    refine ⟨g1, g2, g3.trans (List.perm_iff_count.2 fun v => ?_)⟩
    have : (if s1 = v then 1 else 0) + (if s2 = v then 1 else 0) = _ := ite_min_max a b v
    simp only [List.count_append, List.count_cons, (stubsOf_bump _ _).count_eq, beq_iff_eq]
    omega
  | case3 l edges pot hnot =>
    have : l = [] := by
      rcases l with _ | ⟨a, _ | ⟨b, rest⟩⟩
      · rfl
      · cases hl
      · exact (hnot a b rest rfl).elim
    subst this
    exact ⟨hO, hN, by simp [pairUp]⟩

/-- what every state of `random_regular_graph` satisfies: edges oriented, in range, distinct; the stubs are
conserved: the ends of the edges and the remaining stubs are `list(range(n)) * d` up to order -/
structure RegInv (n d : Nat) (es : List (Nat × Nat)) (stubs : List Nat) : Prop where
  orient : ∀ e ∈ es, e.1 < e.2 ∧ e.2 < n
  nodup : es.Nodup
  stubs : (endsOf es ++ stubs).Perm (initialStubs n d)

theorem count_initialStubs (n d v : Nat) : (initialStubs n d).count v = if v < n then d else 0 := by
  unfold initialStubs
  rw [List.count_flatten, List.map_replicate, List.sum_replicate_nat, List.nodup_range.count]
  simp only [List.mem_range]
  split <;> simp

theorem length_initialStubs (n d : Nat) : (initialStubs n d).length = n * d := by
  unfold initialStubs
  rw [List.length_flatten, List.map_replicate, List.sum_replicate_nat, List.length_range, Nat.mul_comm]

theorem regInv_init (n d : Nat) : RegInv n d [] (initialStubs n d) := ⟨by simp, by simp, .refl _⟩

theorem regularLoop_ok {n d : Nat} (heven : (n * d) % 2 = 0) (es : List (Nat × Nat)) (stubs : List Nat) (ds : List NxDraw)
    {es' : List (Nat × Nat)} {rest : List NxDraw} (hI : RegInv n d es stubs)
    (h : regularLoop n d es stubs ds = .ok es' rest) : RegInv n d es' [] ∧ ∃ used, ds = used ++ rest := by
  fun_induction regularLoop n d es stubs ds with
  | case1 es stubs before after ds hemp =>
    cases h
    exact ⟨List.isEmpty_iff.1 hemp ▸ hI, [], rfl⟩
  | case2 es stubs before after ds hemp hleg r hs ih =>
    -- a legal shuffle of the stubs is paired up: the invariant passes to the new edges and the left-over stubs
    have hperm : (endsOf es ++ after).Perm (initialStubs n d) :=
      ((List.isPerm_iff.1 hleg.2).append_left _).trans hI.stubs
    have hrange : ∀ x ∈ after, x < n := by
      intro x hx
      by_contra hge
      have := List.count_pos_iff.2 (hperm.subset (List.mem_append_right _ hx))
      rw [count_initialStubs, if_neg hge] at this
      omega
    have hev : after.length % 2 = 0 := by
      have := hperm.length_eq
      rw [List.length_append, length_endsOf, length_initialStubs] at this
      omega
    obtain ⟨g1, g2, g3⟩ := pairUp_spec n es [] after hev hI.orient hI.nodup hrange
    obtain ⟨r1, used, r2⟩ := ih ⟨g1, g2, g3.trans hperm⟩ h
    exact ⟨r1, .shuffle before after :: used, by rw [r2]; rfl⟩
  | case3 es stubs before after ds hemp hleg r hs ih =>
    obtain ⟨r1, used, r2⟩ := ih (regInv_init n d) h
    exact ⟨r1, .shuffle before after :: used, by rw [r2]; rfl⟩
  | case4 => cases h
  | case5 es stubs ds hds hemp =>
    cases h
    exact ⟨List.isEmpty_iff.1 hemp ▸ hI, [], rfl⟩
  | case6 => cases h

theorem deg_eq_inc {G : NxG} (hW : G.WF) (hO : G.Oriented) (hN : G.tedges.Nodup) (v : Nat) :
    G.deg v = inc G.tedges v := by
  unfold NxG.deg inc
  rw [List.countP_eq_length_filter,
    ← List.length_map (f := fun e : Nat × Nat => if e.1 = v then e.2 else e.1)
      (as := G.tedges.filter (fun e => e.1 == v || e.2 == v))]
  apply List.Perm.length_eq
  rw [List.perm_ext_iff_of_nodup (NxG.nodup_nbrList _ _)]
  · intro s
    rw [NxG.mem_nbrList]
    simp only [List.mem_map, List.mem_filter, Bool.or_eq_true, beq_iff_eq, NxG.E]
    constructor
    · rintro ⟨_, h | h⟩
      · exact ⟨(v, s), ⟨h, Or.inl rfl⟩, by simp⟩
      · refine ⟨(s, v), ⟨h, Or.inr rfl⟩, ?_⟩
        have := hO _ h
        simp only at this ⊢
        rw [if_neg (by omega)]
    · rintro ⟨⟨a, b⟩, ⟨he, hinc⟩, rfl⟩
      have hr := hW _ he
      simp only at hinc hr ⊢
      by_cases hav : a = v
      · subst hav; rw [if_pos rfl]; exact ⟨hr.2, Or.inl he⟩
      · rw [if_neg hav]
        have hbv : b = v := by rcases hinc with h | h; exact absurd h hav; exact h
        subst hbv
        exact ⟨hr.1, Or.inr he⟩
  · apply List.Nodup.map_on _ (hN.filter _)
    rintro ⟨a, b⟩ h1 ⟨a', b'⟩ h2 heq
    simp only [List.mem_filter, Bool.or_eq_true, beq_iff_eq] at h1 h2
    have o1 := hO _ h1.1
    have o2 := hO _ h2.1
    have e1 := h1.2
    have e2 := h2.2
    by_cases ha : a = v <;> by_cases ha' : a' = v
    · rw [if_pos ha, if_pos ha'] at heq; subst ha; subst ha'
      have hb : b = b' := heq
      rw [hb]
    · rw [if_pos ha, if_neg ha'] at heq
      have : b' = v := by rcases e2 with h | h; exact absurd h ha'; exact h
      omega
    · rw [if_neg ha, if_pos ha'] at heq
      have : b = v := by rcases e1 with h | h; exact absurd h ha; exact h
      omega
    · rw [if_neg ha, if_neg ha'] at heq
      have h3 : b = v := by rcases e1 with h | h; exact absurd h ha; exact h
      have h4 : b' = v := by rcases e2 with h | h; exact absurd h ha'; exact h
      have haa : a = a' := heq
      rw [haa, h3, h4]

/-- `random_regular_graph(d, n)` with `n·d` even and `d < n`, for EVERY list of shuffles: a run that ends
returns a loop-free graph on `n` nodes in which every node has degree `d`, with `n·d/2` edges -/
theorem regularGraph_ok {n d : Nat} (heven : (n * d) % 2 = 0) (hd : d < n) {ds : List NxDraw} {r : Option NxG}
    {rest : List NxDraw} (h : regularGraph d n ds = .ok r rest) :
    ∃ G, r = some G ∧ G.n = n ∧ G.WF ∧ G.Loopless ∧ (∀ v, v < n → G.deg v = d) ∧ 2 * G.edges.length = n * d ∧
      ∃ used, ds = used ++ rest := by
  unfold regularGraph at h
  rw [if_neg (by omega)] at h
  split at h
  · rename_i h0
    cases h
    subst h0
    refine ⟨emptyGraph n, rfl, rfl, by intro e he; simp [emptyGraph] at he, by intro e he; simp [emptyGraph] at he, ?_, ?_, [], rfl⟩
    · intro v _
      unfold NxG.deg NxG.nbrList
      simp [NxG.E, emptyGraph]
    · rw [emptyGraph_edges]; simp
  · split at h
    · rename_i es rest' hloop
      cases h
      obtain ⟨hI, hused⟩ := regularLoop_ok heven [] _ ds (regInv_init n d) hloop
      have hW : NxG.WF ⟨n, es⟩ := fun e he => by
        have := hI.orient e he
        show e.1 < n ∧ e.2 < n
        omega
      have hO : NxG.Oriented ⟨n, es⟩ := fun e he => (hI.orient e he).1
      refine ⟨⟨n, es⟩, rfl, rfl, hW, hO.loopless, ?_, ?_, hused⟩
      · intro v hv
        rw [deg_eq_inc hW hO hI.nodup v, ← count_endsOf hO v, ← List.append_nil (endsOf es), hI.stubs.count_eq,
          count_initialStubs, if_pos hv]
      · rw [NxG.length_edges hW hO hI.nodup, ← length_endsOf, ← List.append_nil (endsOf es), hI.stubs.length_eq,
          length_initialStubs]
    · cases h

end Cnfgen.Nx
