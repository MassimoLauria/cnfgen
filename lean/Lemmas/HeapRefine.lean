/-
C19: refinement of the statements executed on the result formula — outcome and deep snapshot of the result are what the pure
models of C05 / C09 compute from its snapshot and that of the input. Whole transformations: Lemmas/HeapRefineTr.lean.
-/
import Lemmas.HeapResult
import Lemmas.HeapHeader
namespace Cnfgen
namespace Heap
local notation "Addr" => Nat

/-- pure effect of `newF.add_linear(lits, op, k)` (check=True) -/
def addLinearPure (R : Snap) (lits : List Int) (op : Op) (k : Int) : Except Err Snap :=
  if lits.isEmpty then .ok { R with clauses := R.clauses ++ Linear.add lits op k }
  else match checkLits R.numvar lits with
    | .error e => .error e
    | .ok nv' => .ok { R with numvar := nv', clauses := R.clauses ++ Linear.add lits op k }

def addLinearAllPure (op : Op) (k : Int) : Snap → List (List Int) → Except Err Snap
  | R, [] => .ok R
  | R, l :: ls =>
    match addLinearPure R l op k with
    | .error e => .error e
    | .ok R' => addLinearAllPure op k R' ls

/-- the literal lists of the selector constraints of `FormulaLifting`, for a result with `nv` variables -/
def selectorLists (k nv : Nat) : List (List Int) :=
  (rangeStep (k + 1) (nv + 1) (2 * k)).map (fun y => (List.range k).map (fun i => ((y + i : Nat) : Int)))

/-- pure effect of one statement on the snapshot `R` of the result, `F` being the snapshot of the input -/
def Act.pure (F : Snap) : Act → Snap → Except Err Snap
  | .copyHeader _, R => .ok { R with header := F.header }
  | .describe t, R => .ok { R with header := addDescription R.header t }
  | .reshuffled, R =>
    .ok { R with header := R.header.map (fun p => if p.1 == "description" then (p.1, p.2 ++ " (reshuffled)") else p) }
  | .updVar n, R => if n < 0 then .error .valueError else .ok { R with numvar := max R.numvar n.toNat }
  | .newGroup spec, R =>
    match Vars.newGroup ⟨R.numvar, R.groups, []⟩ spec with
    | (_, .error e) => .error e
    | (m, .ok _) => .ok { R with numvar := m.numvar, groups := m.groups }
  | .substFrom _ enc, R =>
    match Subst.run R.cnf F.numvar enc F.clauses with
    | .error e => .error e
    | .ok G => .ok { R with numvar := G.nvars, clauses := G.clauses }
  | .liftSelectors k, R => addLinearAllPure .eq 1 R (selectorLists k R.numvar)
  | .loadShuffled _ tbl mapping, R =>
    match Shuffle.foldE (Shuffle.loadStep F.cnf tbl) R.cnf mapping with
    | .error e => .error e
    | .ok G => .ok { R with numvar := G.nvars, clauses := G.clauses }

/-- the statements covered by the refinement theorem, reading from the input `f` -/
def Act.Covered (f : Nat) : Act → Prop
  | .copyHeader src => src = f
  | .substFrom src _ => src = f
  | .loadShuffled src _ _ => src = f
  | _ => True

def runActsPure (F : Snap) : List Act → Snap → Except Err Snap
  | [], R => .ok R
  | a :: as, R =>
    match a.pure F R with
    | .error e => .error e
    | .ok R' => runActsPure F as R'

theorem snap_substLoop {x : Nat} (N : Nat) (enc : Int → List Clause) :
    ∀ (cs : List Addr) (Fcl : List Clause) (s : Store) (R : Snap), snap s x = some R →
      readIntsAll s cs = some Fcl → (∀ c ∈ cs, c ∉ footprint s x) →
      SimBy x R.withCNF (substLoop x (Subst.table N enc) s cs) (Subst.run R.cnf N enc Fcl)
  | [], Fcl, s, R, h, hr, _ => by
    simp [readIntsAll] at hr; subst hr; exact ⟨rfl, h⟩
  | c :: cs, Fcl, s, R, h, hr, hd => by
    unfold readIntsAll at hr
    split at hr
    · rename_i lits rest e1 e2
      cases hr
      unfold Subst.run substLoop
      simp only [e1]
      cases hb : Subst.substClausePy (Subst.table N enc) lits with
      | error e => rfl
      | ok block =>
        refine SimBy.bind (k := fun s1 => substLoop x (Subst.table N enc) s1 cs) (K := fun G => Subst.run G N enc rest)
          (snap_addAllVals_true block s R h) (fun G h' => ?_)
        -- the remaining clause objects of the input are still what they were, and still not part of `x`
        have hst := (acts_addAllVals (r := x) true block s (.refl (s0 := s))).step (wt_iff_snap.mpr ⟨R, h⟩)
        have hin : ∀ c' ∈ cs, c' < s.size := readIntsAll_inbounds e2
        refine snap_substLoop N enc cs rest _ (R.withCNF G) h' ?_ ?_
        · rw [readIntsAll_congr (s := s)]
          · exact e2
          · intro b hb; exact hst.touch b (hin b hb) (hd b (by simp [hb]))
        · intro c' hc' hmem
          rcases hst.grow c' hmem with h' | h'
          · exact hd c' (by simp [hc']) h'
          · have := hin c' hc'; omega
    · cases hr

theorem snap_addLinear {s : Store} {x : Nat} {R : Snap} (hR : snap s x = some R) (lits : List Int) (op : Op) (k : Int) :
    Sim x (addLinear s x lits op k) (addLinearPure R lits op k) := by
  obtain ⟨cl, hd, gr, as, L⟩ := snap_iff.mp hR
  unfold Sim addLinearPure addLinear
  simp only [readCNF, L.hx]
  by_cases he : lits.isEmpty = true
  · simp only [he, if_true]
    exact snap_addAllVals_false _ s R hR
  · simp only [he]
    cases hc : checkLits R.numvar lits with
    | error e => rfl
    | ok nv' =>
      simp only []
      have := snap_addAllVals_false (Linear.add lits op k) _ _ (snap_write_numvar L nv').snap
      exact this

theorem snap_addLinearAll {x : Nat} (op : Op) (k : Int) : ∀ (ls : List (List Int)) (s : Store) (R : Snap),
    snap s x = some R → Sim x (addLinearAll s x op k ls) (addLinearAllPure op k R ls)
  | [], _, _, h => ⟨rfl, h⟩
  | l :: ls, _, _, h => Sim.bind (k := fun s1 => addLinearAll s1 x op k ls) (K := fun R' => addLinearAllPure op k R' ls)
      (snap_addLinear h l op k) (fun R' h' => snap_addLinearAll op k ls _ R' h')

theorem readIntsAll_length {s : Store} : ∀ {as : List Addr} {cs : List (List Int)},
    readIntsAll s as = some cs → as.length = cs.length
  | [], cs, h => by simp [readIntsAll] at h; subst h; rfl
  | a :: as, cs, h => by
    unfold readIntsAll at h
    split at h
    · rename_i x xs e1 e2; cases h; simp [readIntsAll_length e2]
    · cases h

theorem readIntsAll_getElem? {s : Store} : ∀ {as : List Addr} {cs : List (List Int)} (i : Nat),
    readIntsAll s as = some cs → (as[i]?).bind (readInts s) = cs[i]?
  | [], cs, i, h => by simp [readIntsAll] at h; subst h; simp
  | a :: as, cs, i, h => by
    unfold readIntsAll at h
    split at h
    · rename_i x xs e1 e2
      cases h
      cases i with
      | zero => simpa using e1
      | succ j => simpa using readIntsAll_getElem? j e2
    · cases h

/-- `F[old]`: indexing the list of clause objects and reading the object = indexing the list of clauses -/
theorem pyIdx_read {s : Store} {as : List Addr} {cs : List (List Int)} (h : readIntsAll s as = some cs) (i : Int) :
    match Shuffle.pyIndex cs i with
    | .ok c => ∃ a, pyIdx as i = .ok a ∧ readInts s a = some c
    | .error e => pyIdx as i = .error e := by
  have hl := readIntsAll_length h
  simp only [Shuffle.pyIndex, pyIdx, hl]
  generalize (if i < 0 then i + (cs.length : Int) else i) = j
  by_cases hj : j < 0
  · simp [hj]
  · simp only [hj, if_false]
    have hg := readIntsAll_getElem? j.toNat h
    cases hc : cs[j.toNat]? with
    | none =>
      cases ha : as[j.toNat]? with
      | none => simp
      | some a =>
        have : j.toNat < as.length := by
          rcases Nat.lt_or_ge j.toNat as.length with h' | h'
          · exact h'
          · simp [List.getElem?_eq_none h'] at ha
        have : j.toNat < cs.length := by omega
        simp [List.getElem?_eq_getElem this] at hc
    | some c =>
      cases ha : as[j.toNat]? with
      | none => simp [ha, hc] at hg
      | some a =>
        simp only [ha, hc, Option.bind_some] at hg
        exact ⟨a, rfl, hg⟩

theorem snap_shuffleLoop {x f : Nat} {F : Snap} (tbl : List (Option Int)) :
    ∀ (ms : List (Nat × Int)) (s : Store) (R : Snap), Sep s x f → snap s x = some R → snap s f = some F →
      SimBy x R.withCNF (shuffleLoop x f tbl s ms) (Shuffle.foldE (Shuffle.loadStep F.cnf tbl) R.cnf ms)
  | [], _, _, _, hR, _ => ⟨rfl, hR⟩
  | m :: ms, s, R, hsep, hR, hF => by
    obtain ⟨cl, hd, gr, as, L⟩ := snap_iff.mp hR
    obtain ⟨fcl, fhd, fgr, fas, LF⟩ := snap_iff.mp hF
    have hlen := readIntsAll_length L.hcs
    unfold shuffleLoop
    rw [Shuffle.foldE]
    simp only [Shuffle.loadStep, readCNF, L.hx, LF.hx, readRefs, L.hcl, LF.hcl, Snap.cnf, hlen]
    by_cases hm : m.2 ≠ (R.clauses.length : Int)
    · simp [hm, SimBy]
    · simp only [hm, if_false]
      have hidx := pyIdx_read LF.hcs (m.1 : Int)
      cases hp : Shuffle.pyIndex F.clauses (m.1 : Int) with
      | error e => simp only [hp] at hidx ⊢; simp [hidx, SimBy]
      | ok c =>
        simp only [hp] at hidx ⊢
        obtain ⟨a, ha, hc⟩ := hidx
        simp only [ha, hc]
        cases hsc : Shuffle.substClause tbl c with
        | error e => rfl
        | ok c' =>
          simp only []
          -- `Shuffle.foldE` is polymorphic, its matcher does not unify with the one of `SimBy.bind`: by hand
          have h1 := snap_addClauseVals hR c' true
          obtain ⟨ef, hsep'⟩ := sep_step hsep ((acts_addClauseVals (r := x) (s := s) c' true .refl).step hsep.wtx)
          rcases hq : addClauseVals s x c' true with ⟨s1, res⟩
          rw [hq] at h1 ef hsep'
          simp only [Snap.cnf] at h1
          cases hadd : CNF.addClause ⟨R.numvar, R.clauses⟩ c' true with
          | error e => rw [hadd] at h1; have h1 : res = .error e := h1; subst h1; rfl
          | ok G =>
            rw [hadd] at h1
            obtain ⟨e1, e2⟩ := h1
            have e1 : res = .ok () := e1
            subst e1
            exact snap_shuffleLoop tbl ms s1 _ hsep' e2 (by rw [ef]; exact hF)

theorem runAct_refines {s : Store} {r f : Nat} {R F : Snap} (a : Act) (hc : a.Covered f)
    (hsep : Sep s r f) (hR : snap s r = some R) (hF : snap s f = some F) : Sim r (runAct s r a) (a.pure F R) := by
  unfold Sim
  obtain ⟨cl, hd, gr, as, L⟩ := snap_iff.mp hR
  obtain ⟨fcl, fhd, fgr, fas, LF⟩ := snap_iff.mp hF
  cases a with
  | copyHeader src =>
    simp only [Act.Covered] at hc; subst hc
    simp only [Act.pure, runAct, copyHeader, readCNF, L.hx, LF.hx, readDict, LF.hhd, alloc]
    exact ⟨trivial, (layout_rebind (layout_alloc L (.dict F.header)) get_alloc_eq).snap⟩
  | describe t =>
    simp only [Act.pure, runAct, describe, readCNF, L.hx, readDict, L.hhd]
    exact ⟨trivial, (snap_write_header L _).snap⟩
  | reshuffled =>
    simp only [Act.pure, runAct, readCNF, L.hx, readDict, L.hhd]
    exact ⟨trivial, (snap_write_header L _).snap⟩
  | updVar n =>
    simp only [Act.pure, runAct, updVar, readCNF, L.hx]
    by_cases hn : n < 0
    · simp [hn]
    · simp only [hn, if_false]
      exact ⟨trivial, (snap_write_numvar L _).snap⟩
  | newGroup spec =>
    simp only [Act.pure, runAct, newGroup, readCNF, L.hx, readGroups, L.hgr]
    rcases hg : Vars.newGroup ⟨R.numvar, R.groups, []⟩ spec with ⟨m, res⟩
    cases res with
    | error e => simp
    | ok g =>
      simp only []
      refine ⟨trivial, ?_⟩
      have L1 := snap_write_groups L m.groups
      exact (snap_write_numvar L1 m.numvar).snap
  | liftSelectors k =>
    simp only [Act.pure, runAct, readCNF, L.hx]
    exact snap_addLinearAll .eq 1 _ s R hR
  | loadShuffled src tbl mp =>
    simp only [Act.Covered] at hc; subst hc
    simp only [Act.pure, runAct]
    have := snap_shuffleLoop (x := r) (f := src) (F := F) tbl mp s R hsep hR hF
    cases hrun : Shuffle.foldE (Shuffle.loadStep F.cnf tbl) R.cnf mp with
    | error e => simp only [hrun] at this ⊢; exact this
    | ok G => simp only [hrun] at this ⊢; exact this
  | substFrom src enc =>
    simp only [Act.Covered] at hc; subst hc
    simp only [Act.pure, runAct, readCNF, LF.hx, readRefs, LF.hcl]
    have hdisj : ∀ c ∈ fas, c ∉ footprint s r := by
      intro c hc hmem
      exact hsep.disj c hmem (by rw [footprint_eq LF.hx LF.hcl]; simp [hc])
    have := snap_substLoop (x := r) F.numvar enc fas F.clauses s R hR LF.hcs hdisj
    cases hrun : Subst.run R.cnf F.numvar enc F.clauses with
    | error e => simp only [hrun] at this ⊢; exact this
    | ok G => simp only [hrun] at this ⊢; exact this

theorem runActs_refines {r f : Nat} {F : Snap} : ∀ (acts : List Act) (s : Store) (R : Snap),
    (∀ a ∈ acts, a.Covered f) → Sep s r f → snap s r = some R → snap s f = some F →
    Sim r (runActs r s acts) (runActsPure F acts R)
  | [], _, _, _, _, hR, _ => ⟨rfl, hR⟩
  | a :: as, s, R, hc, hsep, hR, hF => by
    obtain ⟨ef, hsep'⟩ := sep_step hsep ((acts_runAct (r := r) (s := s) a .refl).step hsep.wtx)
    exact Sim.bind (k := fun s1 => runActs r s1 as) (K := fun R' => runActsPure F as R')
      (runAct_refines a (hc a (by simp)) hsep hR hF)
      (fun R' h' => runActs_refines as _ R' (fun a' ha' => hc a' (by simp [ha'])) hsep' h' (by rw [ef]; exact hF))

end Heap
end Cnfgen
