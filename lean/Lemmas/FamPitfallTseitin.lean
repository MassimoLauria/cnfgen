/-
Lemmas about the Tseitin template used by the Pitfall model
(`CnfgenModel/Fam/PitfallTseitin.lean`): graph well-formedness `GraphOK` and
`template_unsat` (odd total charge ⇒ unsatisfiable, by double counting).
-/
import CnfgenModel.Fam.PitfallTseitin
import Lemmas.Linear
import Lemmas.Subst
import Lemmas.Handshake
import Lemmas.GraphInv
import Mathlib.Algebra.BigOperators.Group.Finset.Piecewise
namespace Cnfgen.FamPitfall
open Cnfgen Cnfgen.Fam

/-- what every `cnfgen.graphs.Graph` object satisfies: adjacency lists of the vertices 1..n are
strictly increasing, contain only vertices of 1..n, no loops, and are symmetric -/
def GraphOK (g : SimpleG) : Prop :=
  ∀ v, 1 ≤ v → v ≤ g.n →
    (g.nbrs v).Pairwise (· < ·) ∧ ∀ u ∈ g.nbrs v, 1 ≤ u ∧ u ≤ g.n ∧ u ≠ v ∧ v ∈ g.nbrs u

def sortedb : List Nat → Bool
  | [] => true
  | [_] => true
  | x :: y :: r => decide (x < y) && sortedb (y :: r)

theorem sortedb_iff (l : List Nat) : sortedb l = true ↔ l.Pairwise (· < ·) := by
  induction l with
  | nil => simp [sortedb]
  | cons x xs ih =>
    cases xs with
    | nil => simp [sortedb]
    | cons y r =>
      simp only [sortedb, Bool.and_eq_true, decide_eq_true_eq, ih]
      constructor
      · rintro ⟨hxy, hp⟩
        refine List.pairwise_cons.2 ⟨?_, hp⟩
        intro a ha
        rcases List.mem_cons.1 ha with rfl | ha
        · exact hxy
        · exact Nat.lt_trans hxy ((List.pairwise_cons.1 hp).1 a ha)
      · intro hp
        have := List.pairwise_cons.1 hp
        exact ⟨this.1 y (by simp), this.2⟩

def graphOKb (g : SimpleG) : Bool :=
  (List.range g.n).all (fun i =>
    sortedb (g.nbrs (i + 1)) &&
    (g.nbrs (i + 1)).all (fun u =>
      decide (1 ≤ u) && decide (u ≤ g.n) && decide (u ≠ i + 1) && (g.nbrs u).contains (i + 1)))

theorem graphOKb_iff (g : SimpleG) : graphOKb g = true ↔ GraphOK g := by
  simp only [graphOKb, GraphOK, List.all_eq_true, List.mem_range, Bool.and_eq_true, sortedb_iff,
    decide_eq_true_eq, List.contains_iff_mem, and_assoc]
  constructor
  · intro h v h1 h2
    have := h (v - 1) (by omega)
    rw [show v - 1 + 1 = v by omega] at this
    exact this
  · intro h i hi
    exact h (i + 1) (by omega) (by omega)

instance (g : SimpleG) : Decidable (GraphOK g) := decidable_of_iff _ (graphOKb_iff g)

example : ∃ g, SimpleG.ofEdges 4 [(1,2),(2,3),(3,4),(1,4)] = .ok g ∧ GraphOK g ∧ 1 ≤ g.n :=
  ⟨_, rfl, (graphOKb_iff _).1 (by decide +kernel), by decide +kernel⟩

theorem edgeId_symm (g : SimpleG) (s u v : Nat) :
    PitfallTseitin.edgeId g s u v = PitfallTseitin.edgeId g s v u := by
  simp only [PitfallTseitin.edgeId, Nat.min_comm u v, Nat.max_comm u v]

theorem edgeId_ge (g : SimpleG) (s u v : Nat) : s ≤ PitfallTseitin.edgeId g s u v := by
  simp only [PitfallTseitin.edgeId, Nat.le_add_right]

theorem vertexLits_ne_zero (g : SimpleG) (v : Nat) : ∀ l ∈ PitfallTseitin.vertexLits g v, l ≠ 0 := by
  intro l hl
  simp only [PitfallTseitin.vertexLits, List.mem_map] at hl
  obtain ⟨u, _, rfl⟩ := hl
  have := edgeId_ge g 1 u v
  omega

theorem count_vertexLits (g : SimpleG) (β : Assign) (v : Nat) :
    count β (PitfallTseitin.vertexLits g v)
      = (g.nbrs v).countP (fun u => β (PitfallTseitin.edgeId g 1 u v)) := by
  have h : ∀ u, litHolds β ((PitfallTseitin.edgeId g 1 u v : Nat) : Int) = β (PitfallTseitin.edgeId g 1 u v) :=
    fun u => litHolds_natCast β (edgeId_ge g 1 u v)
  simp only [count, PitfallTseitin.vertexLits, List.countP_map, Function.comp_def, h]

theorem template_unsat (g : SimpleG) (hg : GraphOK g) (hn : 1 ≤ g.n) (β : Assign) :
    (PitfallTseitin.template g).holds β = false := by
  rw [Bool.eq_false_iff]
  intro hall
  simp only [CNF.holds, PitfallTseitin.template, List.all_eq_true, List.mem_flatMap,
    List.mem_range] at hall
  have hpar : ∀ v, 1 ≤ v → v ≤ g.n →
      count β (PitfallTseitin.vertexLits g v) % 2 = if v = 1 then 1 else 0 := by
    intro v h1 h2
    have := (parityClauses_holds β (PitfallTseitin.vertexLits g v)
      (PitfallTseitin.charge v == 1) (vertexLits_ne_zero g v)).1 (fun c hc => by
        apply hall c
        refine ⟨v - 1, by omega, ?_⟩
        rw [show v - 1 + 1 = v by omega]
        exact hc)
    by_cases hv : v = 1
    · simp [hv, PitfallTseitin.charge] at this ⊢; omega
    · simp [hv, PitfallTseitin.charge] at this ⊢; omega
  -- every edge variable is counted at both ends, but the charges add up to 1
  have hs : ∀ {v}, v ∈ (Finset.range (g.n + 1)).erase 0 ↔ 1 ≤ v ∧ v ≤ g.n := by
    intro v
    rw [Finset.mem_erase, Finset.mem_range]
    omega
  obtain ⟨k, heven⟩ := handshake_even ((Finset.range (g.n + 1)).erase 0) g.nbrs
    (fun u v => β (PitfallTseitin.edgeId g 1 u v)) (fun u v => by rw [edgeId_symm]) fun v hv => by
      have hok := hg v (hs.1 hv).1 (hs.1 hv).2
      exact ⟨hok.1.imp Nat.ne_of_lt, fun u hu =>
        have := hok.2 u hu
        ⟨hs.2 ⟨this.1, this.2.1⟩, this.2.2.1, this.2.2.2⟩⟩
  have hodd := congrArg (· % 2) heven
  simp only [← count_vertexLits] at hodd
  rw [Finset.sum_nat_mod, Finset.sum_congr rfl fun v hv => hpar v (hs.1 hv).1 (hs.1 hv).2,
    Finset.sum_ite_eq', if_pos (hs.2 ⟨Nat.le_refl 1, hn⟩)] at hodd
  omega

theorem edge_mem (g : SimpleG) (hg : GraphOK g) (u v : Nat) (hv1 : 1 ≤ v) (hvn : v ≤ g.n)
    (hu : u ∈ g.nbrs v) : (min u v, max u v) ∈ g.edges := by
  obtain ⟨hu1, hun, hne, hvu⟩ := (hg v hv1 hvn).2 u hu
  have key : ∀ a b, 1 ≤ a → a < b → b ≤ g.n → b ∈ g.nbrs a → (a, b) ∈ g.edges := by
    intro a b ha hab hb hmem
    simp only [SimpleG.edges, List.mem_flatMap, List.mem_range, List.mem_map]
    refine ⟨a - 1, by omega, b, ?_, ?_⟩
    · rw [show a - 1 + 1 = a by omega]
      exact (mem_drop_bisectRight (hg a ha (by omega)).1 a b).2 ⟨hmem, hab⟩
    · rw [show a - 1 + 1 = a by omega]
  rcases Nat.lt_or_gt_of_ne hne with h | h
  · rw [Nat.min_eq_left (Nat.le_of_lt h), Nat.max_eq_right (Nat.le_of_lt h)]
    exact key u v hu1 h hvn hvu
  · rw [Nat.min_eq_right (Nat.le_of_lt h), Nat.max_eq_left (Nat.le_of_lt h)]
    exact key v u hv1 h hun hu

theorem edgeId_le (g : SimpleG) (hg : GraphOK g) (u v : Nat) (hv1 : 1 ≤ v) (hvn : v ≤ g.n)
    (hu : u ∈ g.nbrs v) : PitfallTseitin.edgeId g 1 u v ≤ g.edges.length := by
  have := List.idxOf_lt_length_iff.2 (edge_mem g hg u v hv1 hvn hu)
  simp only [PitfallTseitin.edgeId]; omega

theorem template_wf (g : SimpleG) (hg : GraphOK g) : (PitfallTseitin.template g).WF := by
  intro c hc l hl
  simp only [PitfallTseitin.template, List.mem_flatMap, List.mem_range, Linear.parity] at hc
  obtain ⟨i, hi, hc⟩ := hc
  refine (Subst.parityClauses_uses _ _).bounded (fun x hx => ?_) c hc l hl
  simp only [PitfallTseitin.vertexLits, List.mem_map] at hx
  obtain ⟨u, hu, rfl⟩ := hx
  have h1 := edgeId_ge g 1 u (i + 1)
  have h2 := edgeId_le g hg u (i + 1) (by omega) (by omega) hu
  simp only [PitfallTseitin.template]
  omega

/-- invariant of `Graph.add_edge`: relates the adjacency lists and the edge set -/
structure Inv (g : SimpleG) : Prop where
  len : g.adj.length = g.n + 1
  sorted : ∀ v, (g.adj.getD v []).Pairwise (· < ·)
  adj_iff : ∀ u v, u ∈ g.adj.getD v [] ↔ (v, u) ∈ g.edgeset
  edge_ok : ∀ u v, (u, v) ∈ g.edgeset → 1 ≤ u ∧ u ≤ g.n ∧ 1 ≤ v ∧ v ≤ g.n ∧ u ≠ v ∧ (v, u) ∈ g.edgeset

/-- the representation invariant of `Graph` objects (C16) gives what the template needs -/
theorem graphOK_of_inv {g : SimpleG} (h : g.Inv) : GraphOK g := fun v _ _ =>
  ⟨h.nbrs_sorted v, fun _ hu =>
    have r := h.nbrs_range hu
    ⟨r.2.2.1, r.2.2.2.1, r.2.2.2.2.symm, h.mem_nbrs_comm.1 hu⟩⟩

theorem ofEdges_ok (n : Nat) (es : List (Nat × Nat)) (g : SimpleG)
    (h : SimpleG.ofEdges n es = .ok g) : GraphOK g ∧ g.n = n :=
  ⟨graphOK_of_inv (SimpleG.inv_ofEdges h), SimpleG.ofEdges_n h⟩

end Cnfgen.FamPitfall
