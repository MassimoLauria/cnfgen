/-
For the Ramsey-type families, which range over `combos`: sublists of a sorted list, and the number of pairs.
-/
import Lemmas.IterCount
import Mathlib.Data.List.Basic
import Mathlib.Data.List.Nodup
import Mathlib.Algebra.Ring.Parity
namespace Cnfgen.FamIter
open Cnfgen

theorem sublist_iff_of_sorted {L S : List Nat} (hL : L.Pairwise (· < ·)) :
    S.Sublist L ↔ S.Pairwise (· < ·) ∧ ∀ x ∈ S, x ∈ L :=
  ⟨fun h => ⟨hL.sublist h, fun _ hx => h.subset hx⟩, fun h => sublist_of_pairwise_subset (fun _ _ => Nat.lt_asymm) h.1 hL h.2⟩

theorem pair_sublist_iff {S : List Nat} (hS : S.Pairwise (· < ·)) (u v : Nat) :
    [u, v].Sublist S ↔ u ∈ S ∧ v ∈ S ∧ u < v := by
  rw [sublist_iff_of_sorted hS]
  simp only [List.pairwise_cons, List.mem_cons, List.not_mem_nil, or_false, forall_eq_or_imp, forall_eq,
    List.Pairwise.nil, and_true, IsEmpty.forall_iff, implies_true]
  tauto

theorem combos_two_of_sorted {S : List Nat} (hS : S.Pairwise (· < ·)) (p : List Nat) :
    p ∈ combos S 2 ↔ ∃ u v, p = [u, v] ∧ u ∈ S ∧ v ∈ S ∧ u < v := by
  rw [mem_combos]
  constructor
  · rintro ⟨hsub, hlen⟩
    obtain ⟨u, v, rfl⟩ := List.length_eq_two.1 hlen
    exact ⟨u, v, rfl, (pair_sublist_iff hS u v).1 hsub⟩
  · rintro ⟨u, v, rfl, h⟩
    exact ⟨(pair_sublist_iff hS u v).2 h, rfl⟩

theorem two_mul_length_combos_two {α : Type} (l : List α) : 2 * (combos l 2).length = l.length * (l.length - 1) := by
  rw [length_combos, Nat.choose_two_right, Nat.mul_div_cancel' (Nat.even_mul_pred_self _).two_dvd]

end Cnfgen.FamIter
