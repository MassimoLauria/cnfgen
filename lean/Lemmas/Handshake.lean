/-
Double counting over a symmetric neighbour structure, free of the model: every pair `u ∈ nbrs v` is met once from
each end, so the counts over all `v ∈ s` add up to twice the counts of the pairs with `v < u`.
The Tseitin parity argument (both generators), the even-colouring criterion and the degree sum
are instances, with `s` a vertex set closed under adjacency.
-/
import Mathlib.Algebra.BigOperators.Group.Finset.Basic
import Mathlib.Algebra.BigOperators.Group.Finset.Piecewise
import Mathlib.Algebra.Group.Even
import Mathlib.Algebra.BigOperators.Group.Finset.Sigma
namespace Cnfgen
namespace Fam

theorem countP_eq_sum (l : List Nat) (p : Nat → Bool) (s : Finset Nat) (hnd : l.Nodup)
    (hb : ∀ x ∈ l, x ∈ s) :
    l.countP p = ∑ x ∈ s, (if x ∈ l ∧ p x = true then 1 else 0) := by
  rw [List.countP_eq_length_filter, ← Finset.card_filter]
  rw [← List.toFinset_card_of_nodup (hnd.filter _)]
  congr 1
  ext x
  simp only [List.mem_toFinset, List.mem_filter, Finset.mem_filter]
  constructor
  · rintro ⟨hx, hp⟩; exact ⟨hb x hx, hx, hp⟩
  · rintro ⟨_, hx, hp⟩; exact ⟨hx, hp⟩

section
variable (s : Finset Nat) (nbrs : Nat → List Nat) (p : Nat → Nat → Bool)
  (hp : ∀ u v, p u v = p v u)
  (hs : ∀ v ∈ s, (nbrs v).Nodup ∧ ∀ u ∈ nbrs v, u ∈ s ∧ u ≠ v ∧ v ∈ nbrs u)
include hp hs

theorem handshake :
    ∑ v ∈ s, (nbrs v).countP (fun u => p u v) =
      2 * ∑ v ∈ s, (nbrs v).countP (fun u => decide (v < u) && p u v) := by
  classical
  -- `w a b = 1` iff `b` is counted at `a`; `w` is symmetric and vanishes on the diagonal
  let w : Nat → Nat → Nat := fun a b => if a ∈ s ∧ b ∈ nbrs a ∧ p b a = true then 1 else 0
  have hw : ∀ a b, w a b = w b a := by
    have himp : ∀ a b, (a ∈ s ∧ b ∈ nbrs a ∧ p b a = true) → b ∈ s ∧ a ∈ nbrs b ∧ p a b = true :=
      fun a b ⟨ha, hb, h⟩ =>
        have := (hs a ha).2 b hb
        ⟨this.1, this.2.2, hp b a ▸ h⟩
    exact fun a b => if_congr ⟨himp a b, himp b a⟩ rfl rfl
  have hd : ∀ a, w a a = 0 := fun a => if_neg fun ⟨hc, ha, _⟩ => ((hs a hc).2 a ha).2.1 rfl
  have row : ∀ (r : Nat → Nat → Bool), ∀ a ∈ s,
      (nbrs a).countP (fun u => r a u && p u a) = ∑ b ∈ s, if r a b = true then w a b else 0 := by
    intro r a ha
    rw [countP_eq_sum _ _ s (hs a ha).1 (fun u hu => ((hs a ha).2 u hu).1)]
    refine Finset.sum_congr rfl fun b _ => ?_
    cases r a b <;> simp [w, ha]
  have hl := row (fun _ _ => true)
  simp only [Bool.true_and, if_true] at hl
  rw [Finset.sum_congr rfl hl, Finset.sum_congr rfl (row (fun a u => decide (a < u)))]
  simp only [decide_eq_true_eq, Nat.two_mul]
  -- split every row at the diagonal, then mirror the lower triangle
  have split : ∀ a b, w a b = (if a < b then w a b else 0) + (if b < a then w b a else 0) := by
    intro a b
    rcases Nat.lt_trichotomy a b with h | rfl | h
    · simp [h, Nat.lt_asymm h]
    · simp [hd]
    · simp [h, Nat.lt_asymm h, hw a b]
  rw [Finset.sum_congr rfl fun a _ => Finset.sum_congr rfl fun b _ => split a b]
  simp only [Finset.sum_add_distrib]
  rw [Finset.sum_comm (f := fun a b => if b < a then w b a else 0)]

theorem handshake_even : Even (∑ v ∈ s, (nbrs v).countP (fun u => p u v)) :=
  ⟨_, (handshake s nbrs p hp hs).trans (Nat.two_mul _)⟩

end

end Fam
end Cnfgen
