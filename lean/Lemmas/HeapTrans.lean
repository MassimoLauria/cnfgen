/-
C19: every call of a transformation has one shape (`apply_shape`) and follows the region discipline (`disciplined_apply`).
-/
import Lemmas.HeapActs
namespace Cnfgen
namespace Heap
local notation "Addr" => Nat

/-- what is proved of every call: the discipline, and the returned address is a new object -/
def Disciplined (s : Store) (res : Store × Except Err Addr) : Prop :=
  Good s res.1 ∧ ∀ r : Nat, res.2 = .ok r → s.size ≤ r ∧ r < res.1.size

/-- the shape of every call that gets past its argument checks: `newF = CNF(); <statements>; return newF`; an
argument error found while the statement list was put together (`chk`, Shuffle only) is raised after the statements -/
def buildChk (cfg : Cfg) (s : Store) (acts : List Act) (chk : Except Err Unit) : Store × Except Err Addr :=
  match runActs (newCNF cfg s).2 (newCNF cfg s).1 acts with
  | (s2, .error e) => (s2, .error e)
  | (s2, .ok _) =>
    match chk with
    | .error e => (s2, .error e)
    | .ok _ => (s2, .ok (newCNF cfg s).2)

theorem build_eq (cfg : Cfg) (s : Store) (acts : List Act) : build cfg s acts = buildChk cfg s acts (.ok ()) := by
  unfold build buildChk
  generalize newCNF cfg s = q
  obtain ⟨s1, r⟩ := q
  dsimp only
  generalize runActs r s1 acts = p
  obtain ⟨s2, e | u⟩ := p <;> rfl

theorem kSubst_shape (cfg : Cfg) (s : Store) (f : Addr) (k : Int) (text : String) (enc : Nat → Int → List Clause) :
    (∃ e, kSubst cfg s f k text enc = (s, .error e)) ∨ ∃ acts chk, kSubst cfg s f k text enc = buildChk cfg s acts chk := by
  unfold kSubst
  split
  · exact .inl ⟨_, rfl⟩
  · split
    · exact .inl ⟨_, rfl⟩
    · exact .inr ⟨_, _, build_eq ..⟩

theorem apply_shape (cfg : Cfg) (t : Tr) (s : Store) (f : Addr) :
    (∃ e, t.apply cfg s f = (s, .error e)) ∨ ∃ acts chk, t.apply cfg s f = buildChk cfg s acts chk := by
  unfold Tr.apply
  split
  · exact .inl ⟨_, rfl⟩
  · cases t with
    | flip => exact .inr ⟨_, _, build_eq ..⟩
    | xor k | or k | maj k | allEqual k | notAllEqual k | exactlyOne k | linear k o C => exact kSubst_shape ..
    | ite =>
      simp only []
      split
      · exact .inl ⟨_, rfl⟩
      · exact .inr ⟨_, _, build_eq ..⟩
    | lift k =>
      simp only []
      split
      · exact .inl ⟨_, rfl⟩
      · split
        · exact .inl ⟨_, rfl⟩
        · exact .inr ⟨_, _, build_eq ..⟩
    | compress b fn =>
      simp only []
      split
      · exact .inl ⟨_, rfl⟩
      · split
        · exact .inl ⟨_, rfl⟩
        · split
          · exact .inl ⟨_, rfl⟩
          · exact .inr ⟨_, _, build_eq ..⟩
    | shuffle fl vp cp =>
      simp only []
      split
      · exact .inr ⟨_, _, rfl⟩
      · exact .inl ⟨_, rfl⟩

theorem disciplined_buildChk {s : Store} (cfg : Cfg) (acts : List Act) (chk : Except Err Unit) :
    Disciplined s (buildChk cfg s acts chk) := by
  obtain ⟨h1, hr⟩ := good_newCNF cfg none (Good.refl s)
  have ha := acts_runActs (r := (newCNF cfg s).2) acts (newCNF cfg s).1 .refl
  have h2 := ha.good h1 hr
  have hlt := Nat.lt_of_lt_of_le (newCNF_addr_lt cfg s none) ha.size_le
  unfold buildChk
  generalize runActs (newCNF cfg s).2 (newCNF cfg s).1 acts = p at h2 hlt
  obtain ⟨s2, e | u⟩ := p
  · exact ⟨h2, fun r h => by cases h⟩
  · cases chk with
    | error e => exact ⟨h2, fun r h => by cases h⟩
    | ok u => exact ⟨h2, fun r h => by cases h; exact ⟨hr, hlt⟩⟩

theorem disciplined_apply (cfg : Cfg) (t : Tr) (s : Store) (f : Addr) :
    Disciplined s (t.apply cfg s f) := by
  rcases apply_shape cfg t s f with ⟨e, h⟩ | ⟨acts, chk, h⟩ <;> rw [h]
  · exact ⟨Good.refl s, by intro r h; cases h⟩
  · exact disciplined_buildChk cfg acts chk

/-- `Reach s a y`: the object at `y` can be reached from the object at `a` by following attribute slots
and list elements -/
inductive Reach (s : Store) : Nat → Nat → Prop where
  | refl (a : Nat) : Reach s a a
  | step {a x y : Nat} {c : Cell} : s[a]? = some c → x ∈ c.refsOf → Reach s x y → Reach s a y

theorem reach_closed {b : Nat} {s : Store} (h : Closed b s) {a y : Nat} (hr : Reach s a y) (ha : b ≤ a) :
    b ≤ y := by
  induction hr with
  | refl a => exact ha
  | step hc hx _ ih => exact ih (h _ _ ha hc _ hx).1

theorem reach_inbounds {b : Nat} {s : Store} (h : Closed b s) {a y : Nat} (hr : Reach s a y) (ha : b ≤ a)
    (hlt : a < s.size) : y < s.size := by
  induction hr with
  | refl a => exact hlt
  | step hc hx _ ih => exact ih (h _ _ ha hc _ hx).1 (h _ _ ha hc _ hx).2

end Heap
end Cnfgen
