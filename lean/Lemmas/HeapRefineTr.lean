/-
C19 heap lemmas — refinement of whole transformations.
-/
import Lemmas.HeapRefine
namespace Cnfgen
namespace Heap
local notation "Addr" => Nat

/-- the snapshot of a formula just made by `CNF()` -/
def snap0 (cfg : Cfg) : Snap := ⟨0, [], ("description", "Formula in CNF") :: cfg.hdr0, []⟩

theorem snap_newCNF (cfg : Cfg) (s : Store) : snap (newCNF cfg s).1 (newCNF cfg s).2 = some (snap0 cfg) := by
  obtain ⟨h0, h1, h2, h3, h4⟩ := newCNF_cells cfg s none
  rw [h0]
  exact snap_iff.mpr ⟨s.size + 1, s.size, s.size + 2, [], h4, h2, h1, h3, rfl⟩

theorem sep_newCNF (cfg : Cfg) (s : Store) (f : Nat) (F : Snap) (hF : snap s f = some F) :
    Sep (newCNF cfg s).1 (newCNF cfg s).2 f ∧ snap (newCNF cfg s).1 f = some F := by
  obtain ⟨hg, hge⟩ := good_newCNF cfg none (Good.refl s)
  obtain ⟨hsep, e⟩ := hg.sep hge (wt_newCNF cfg s none) (wt_iff_snap.mpr ⟨F, hF⟩)
  exact ⟨hsep, e.trans hF⟩

/-- the pure outcome of `buildChk`: the statements, then the deferred argument error -/
def outcome (X : Except Err Snap) (chk : Except Err Unit) : Except Err Snap :=
  match X, chk with
  | .error e, _ => .error e
  | .ok _, .error e => .error e
  | .ok R, .ok _ => .ok R

/-- `newF = CNF(); <statements>; return newF` against the pure effect of the statements -/
theorem buildChk_refines (cfg : Cfg) (s : Store) (f : Nat) (F : Snap) (acts : List Act) (chk : Except Err Unit)
    (hF : snap s f = some F) (hc : ∀ a ∈ acts, a.Covered f) :
    match outcome (runActsPure F acts (snap0 cfg)) chk with
    | .ok R' => ∃ r, (buildChk cfg s acts chk).2 = .ok r ∧ snap (buildChk cfg s acts chk).1 r = some R'
    | .error e => (buildChk cfg s acts chk).2 = .error e := by
  obtain ⟨hsep, hf⟩ := sep_newCNF cfg s f F hF
  have h := runActs_refines acts (newCNF cfg s).1 (snap0 cfg) hc hsep (snap_newCNF cfg s) hf
  unfold buildChk
  generalize runActs (newCNF cfg s).2 (newCNF cfg s).1 acts = p at h
  obtain ⟨s2, res⟩ := p
  cases hr : runActsPure F acts (snap0 cfg) with
  | error e => rw [hr] at h; have h : res = .error e := h; subst h; rfl
  | ok R' =>
    rw [hr] at h
    obtain ⟨e1, e2⟩ := h
    have e1 : res = .ok () := e1
    subst e1
    cases chk with
    | error e => rfl
    | ok u => exact ⟨_, rfl, e2⟩

theorem build_refines (cfg : Cfg) (s : Store) (f : Nat) (F : Snap) (acts : List Act) (hF : snap s f = some F)
    (hc : ∀ a ∈ acts, a.Covered f) :
    match runActsPure F acts (snap0 cfg) with
    | .ok R' => ∃ r, (build cfg s acts).2 = .ok r ∧ snap (build cfg s acts).1 r = some R'
    | .error e => (build cfg s acts).2 = .error e := by
  have := buildChk_refines cfg s f F acts (.ok ()) hF hc
  rw [build_eq]
  generalize runActsPure F acts (snap0 cfg) = X at this ⊢
  cases X <;> exact this

theorem runActsPure_append (F : Snap) : ∀ (as bs : List Act) (R : Snap),
    runActsPure F (as ++ bs) R = match runActsPure F as R with
      | .error e => .error e
      | .ok R' => runActsPure F bs R'
  | [], bs, R => by simp [runActsPure]
  | a :: as, bs, R => by
    simp only [List.cons_append, runActsPure]
    cases a.pure F R with
    | error e => rfl
    | ok R1 => exact runActsPure_append F as bs R1

theorem newGroup_block_numvar (nv : Nat) (gs : List Vars.Group) (k : Int) (lbl : String) (hk : 1 ≤ k)
    (m : Vars.MState) (g : Option Vars.Group)
    (h : Vars.newGroup ⟨nv, gs, []⟩ (.block [k] (some lbl)) = (m, .ok g)) : m.numvar = nv + k.toNat := by
  unfold Vars.newGroup at h
  cases hm : Vars.mkGroup nv (.block [k] (some lbl)) with
  | error e => simp [hm] at h
  | ok grp =>
    simp only [hm] at h
    have hg : grp = .block (nv + 1) [k.toNat] lbl := by
      simp only [Vars.mkGroup, Option.getD_some, List.map_cons, List.map_nil, List.isEmpty_cons,
        List.any_cons, List.any_nil, Bool.or_false, decide_eq_true_eq] at hm
      have hk' : ¬ k < 0 := by omega
      simp only [bind, Except.bind, hk', if_false, pure, Except.pure] at hm
      split at hm
      · cases hm
      · cases hm; rfl
    subst hg
    have hlen : (Vars.Group.block (nv + 1) [k.toNat] lbl).len = k.toNat := by
      simp [Vars.Group.len, Vars.blockSize]
    have hpos : k.toNat ≠ 0 := by omega
    unfold Vars.addGroup at h
    simp only [hlen, hpos, if_false, Vars.Group.start] at h
    have : ¬ (nv + 1 ≤ nv) := by omega
    simp only [this, if_false] at h
    cases h
    simp only []
    omega

theorem newGroup_variable_numvar (nv : Nat) (gs : List Vars.Group) (lbl : Option String)
    (m : Vars.MState) (g : Option Vars.Group)
    (h : Vars.newGroup ⟨nv, gs, []⟩ (.variable lbl) = (m, .ok g)) : m.numvar = nv + 1 := by
  simp only [Vars.newGroup, Vars.mkGroup, Vars.addGroup, Vars.Group.len, Vars.Group.start] at h
  have : ¬ (nv + 1 ≤ nv) := by omega
  simp only [this, if_false, Nat.one_ne_zero] at h
  cases h
  simp only []
  omega

theorem runActsPure_groups (F : Snap) (step : Nat) : ∀ (acts : List Act) (R R' : Snap),
    (∀ a ∈ acts, ∃ spec, a = .newGroup spec ∧ ∀ nv gs m g,
      Vars.newGroup ⟨nv, gs, []⟩ spec = (m, .ok g) → m.numvar = nv + step) →
    runActsPure F acts R = .ok R' →
    R'.numvar = R.numvar + step * acts.length ∧ R'.header = R.header ∧ R'.clauses = R.clauses
  | [], R, R', _, h => by simp [runActsPure] at h; subst h; simp
  | a :: as, R, R', hall, h => by
    obtain ⟨spec, rfl, hs⟩ := hall a (by simp)
    simp only [runActsPure, Act.pure] at h
    rcases hg : Vars.newGroup ⟨R.numvar, R.groups, []⟩ spec with ⟨m, res⟩
    rw [hg] at h
    cases res with
    | error e => simp at h
    | ok g =>
      simp only [] at h
      have ih := runActsPure_groups F step as _ R' (fun a' ha' => hall a' (by simp [ha'])) h
      have := hs _ _ _ _ hg
      simp only [] at ih
      refine ⟨?_, ih.2.1, ih.2.2⟩
      rw [ih.1, this, List.length_cons, Nat.mul_succ]; omega

/-! The selector constraints of `FormulaLifting` do not raise the variable count. -/

theorem checkLits_bounded (nv : Nat) (ls : List Int) (h : ∀ l ∈ ls, l ≠ 0 ∧ l.natAbs ≤ nv) :
    checkLits nv ls = .ok nv := by
  unfold checkLits
  have h0 : ls.contains 0 = false := by
    cases hc : ls.contains 0 with
    | false => rfl
    | true => exact absurd rfl (h 0 (by simpa using hc)).1
  simp only [h0, Bool.false_eq_true, if_false]
  congr 1
  clear h0
  induction ls with
  | nil => rfl
  | cons a as ih =>
    simp only [List.foldl_cons]
    have ha := (h a (by simp)).2
    rw [Nat.max_eq_left ha]
    exact ih (fun l hl => h l (by simp [hl]))

theorem addLinearAllPure_bounded (op : Op) (k : Int) : ∀ (ls : List (List Int)) (R : Snap),
    (∀ l ∈ ls, l ≠ [] ∧ ∀ x ∈ l, x ≠ 0 ∧ x.natAbs ≤ R.numvar) →
    addLinearAllPure op k R ls = .ok { R with clauses := R.clauses ++ ls.flatMap (fun l => Linear.add l op k) }
  | [], R, _ => by simp [addLinearAllPure]
  | l :: ls, R, h => by
    obtain ⟨hne, hb⟩ := h l (by simp)
    have he : l.isEmpty = false := by cases l <;> simp_all
    simp only [addLinearAllPure, addLinearPure, he, Bool.false_eq_true, if_false, checkLits_bounded R.numvar l hb]
    have ih := addLinearAllPure_bounded op k ls
      { R with clauses := R.clauses ++ Linear.add l op k } (fun l' hl' => h l' (by simp [hl']))
    rw [ih]
    simp [List.append_assoc]

theorem mem_rangeStep {a b st y : Nat} (h : y ∈ rangeStep a b st) :
    ∃ j, y = a + st * j ∧ j < (b - a + st - 1) / st := by
  simp only [rangeStep, Subst.rangeStep, List.mem_map, List.mem_range] at h
  obtain ⟨j, hj, rfl⟩ := h
  exact ⟨j, rfl, hj⟩

theorem selectorLists_bounded (k N : Nat) (hk : 1 ≤ k) :
    ∀ l ∈ selectorLists k (2 * k * N), l ≠ [] ∧ ∀ x ∈ l, x ≠ 0 ∧ x.natAbs ≤ 2 * k * N := by
  intro l hl
  simp only [selectorLists, List.mem_map] at hl
  obtain ⟨y, hy, rfl⟩ := hl
  obtain ⟨j, rfl, hj⟩ := mem_rangeStep hy
  have hP : 0 < 2 * k := by omega
  -- (j+1)·2k ≤ 2kN + k - 1, hence j + 1 ≤ N
  have h1 : (j + 1) * (2 * k) ≤ 2 * k * N + 1 - (k + 1) + 2 * k - 1 :=
    Nat.le_trans (Nat.mul_le_mul_right _ hj) (Nat.div_mul_le_self _ _)
  have hjN : j + 1 ≤ N := by
    apply Decidable.byContradiction
    intro hc
    have h2 : (N + 1) * (2 * k) ≤ (j + 1) * (2 * k) := Nat.mul_le_mul_right _ (by omega)
    have h3 : (N + 1) * (2 * k) = 2 * k * N + 2 * k := by rw [Nat.add_mul, Nat.one_mul, Nat.mul_comm]
    omega
  have h4 : 2 * k * (j + 1) ≤ 2 * k * N := Nat.mul_le_mul_left _ hjN
  have h5 : 2 * k * (j + 1) = 2 * k * j + 2 * k := Nat.mul_succ _ _
  refine ⟨?_, ?_⟩
  · have : (List.range k).length ≠ 0 := by simp; omega
    intro hnil
    simp [List.map_eq_nil_iff] at hnil
    omega
  · intro x hx
    simp only [List.mem_map, List.mem_range] at hx
    obtain ⟨i, hi, rfl⟩ := hx
    refine ⟨by omega, ?_⟩
    simp only [Int.natAbs_natCast]
    omega

theorem selectors_eq (k N : Nat) :
    Subst.selectors k N = (selectorLists k (2 * k * N)).flatMap (fun l => Linear.add l .eq 1) := by
  simp [Subst.selectors, selectorLists, rangeStep, List.flatMap_map]

end Heap
end Cnfgen
