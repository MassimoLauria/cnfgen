/-
Helper lemmas for Props/C20/Run.lean: the collecting semantics `execAll` of Solver/Run.lean covers every
run of the interpreter `exec` under every fault schedule (`exec_sound`), and the faults met on the way
are the entries of the schedule, in order, `ok` once the schedule is exhausted (`Agree`).
`allEnds` is `execAll` with the check threaded through the run (`allEnds_eq`), the form in which a check
over all ends is evaluated.
-/
import CnfgenModel.Solver.Run
namespace Cnfgen.Solver
open Cnfgen.Gen (RSlot ROp RProg)

/-- `Agree path sched rest`: `path` is what a run consumes from `sched` (an exhausted schedule
delivers `ok`), `rest` is what remains -/
inductive Agree : List Fault → List Fault → List Fault → Prop
  | nil (s : List Fault) : Agree [] s s
  | cons (s p r : List Fault) : Agree p s.tail r → Agree (s.headD .ok :: p) s r

theorem Agree.trans {p1 p2 s r1 r2 : List Fault} (h1 : Agree p1 s r1) (h2 : Agree p2 r1 r2) :
    Agree (p1 ++ p2) s r2 := by
  induction h1 with
  | nil s => simpa using h2
  | cons s p r _ ih => exact Agree.cons s (p ++ p2) r2 (ih h2)

theorem Agree.getD {p s r : List Fault} (h : Agree p s r) (i : Nat) (hi : i < p.length) :
    p.getD i .ok = s.getD i .ok := by
  induction h generalizing i with
  | nil s => simp at hi
  | cons s p r _ ih =>
    cases i with
    | zero => cases s <;> simp
    | succ j =>
      have := ih j (by simpa using hi)
      cases s <;> simpa using this

theorem Agree.rest {p s r : List Fault} (h : Agree p s r) : r = s.drop p.length := by
  induction h with
  | nil s => simp
  | cons s p r _ ih =>
    cases s with
    | nil => simpa using ih
    | cons x xs => simpa using ih

theorem Agree.all {q : Fault → Bool} (hok : q .ok = true) {p s r : List Fault} (h : Agree p s r)
    (hs : s.all q = true) : p.all q = true := by
  induction h with
  | nil s => rfl
  | cons s p r _ ih =>
    cases s with
    | nil => simpa [hok] using ih rfl
    | cons x xs =>
      simp only [List.all_cons, Bool.and_eq_true] at hs
      simpa [hs.1] using ih hs.2

/-- the first `k` resource calls meet no fault -/
def cleanPrefix : Nat → List Fault → Bool
  | 0, _ => true
  | k + 1, s => s.headD .ok == .ok && cleanPrefix k s.tail

theorem cleanPrefix_of_le : ∀ {k k' : Nat} (s : List Fault), k ≤ k' → cleanPrefix k' s = true →
    cleanPrefix k s = true
  | 0, _, _, _, _ => rfl
  | k + 1, 0, _, hk, _ => absurd hk (Nat.not_succ_le_zero k)
  | k + 1, k' + 1, s, hk, h => by
    simp only [cleanPrefix, Bool.and_eq_true] at h ⊢
    exact ⟨h.1, cleanPrefix_of_le s.tail (Nat.le_of_succ_le_succ hk) h.2⟩

theorem cleanPrefix_nil : ∀ k, cleanPrefix k [] = true
  | 0 => rfl
  | k + 1 => by simp [cleanPrefix, cleanPrefix_nil k]

theorem Agree.cleanPrefix {p s r : List Fault} (h : Agree p s r) (k : Nat)
    (hk : cleanPrefix k s = true) : cleanPrefix k p = true := by
  induction h generalizing k with
  | nil s => exact cleanPrefix_nil k
  | cons s p r _ ih =>
    cases k with
    | zero => rfl
    | succ j =>
      simp only [Solver.cleanPrefix, Bool.and_eq_true] at hk ⊢
      exact ⟨by simpa using hk.1, ih j hk.2⟩

def osOnly (s : List Fault) : Bool := s.all (· != .other)

theorem Agree.osOnly {p s r : List Fault} (h : Agree p s r) (hs : osOnly s = true) :
    osOnly p = true := h.all rfl hs

theorem mem_allFaults (f : Fault) : f ∈ allFaults := by cases f <;> simp [allFaults]

/-- **soundness of the collecting semantics**: whatever the schedule, the run of a program ends
in one of the enumerated (path, state, exception) triples, and the path is what it consumed -/
theorem exec_sound (a b c : Bool) (P : RProg) : ∀ (sched : List Fault) (st : RState),
    ∃ path, (path, (exec a b c P sched st).2.1, (exec a b c P sched st).2.2) ∈ execAll a b c P st ∧
      Agree path sched (exec a b c P sched st).1 := by
  induction P with
  | done => intro sched st; exact ⟨[], by simp [exec, execAll], .nil _⟩
  | op o rest ih =>
    intro sched st
    unfold exec execAll
    split
    · exact ih sched st
    · simp only [List.mem_flatMap]
      rcases hstep : step a b c o (sched.headD .ok) st with ⟨st', _ | e⟩
      · obtain ⟨path, hm, ha⟩ := ih sched.tail st'
        exact ⟨_ :: path, ⟨sched.headD .ok, mem_allFaults _, by rw [hstep]; exact List.mem_map.mpr ⟨_, hm, rfl⟩⟩,
          .cons sched path _ ha⟩
      · exact ⟨[_], ⟨sched.headD .ok, mem_allFaults _, by rw [hstep]; exact .head _⟩, .cons sched [] _ (.nil _)⟩
  | tryStmt body catchOS fin rest ihb ihf ihr =>
    intro sched st
    obtain ⟨p1, hm1, ha1⟩ := ihb sched st
    obtain ⟨p2, hm2, ha2⟩ := ihf (exec a b c body sched st).1 (exec a b c body sched st).2.1
    simp only [exec, execAll, List.mem_flatMap]
    rcases hf : exec a b c fin (exec a b c body sched st).1 (exec a b c body sched st).2.1 with ⟨s2, st2, _ | e2⟩
    · rw [hf] at hm2 ha2
      cases hh : afterHandlers catchOS (exec a b c body sched st).2.2 with
      | some e => exact ⟨p1 ++ p2, ⟨_, hm1, _, hm2, by simp [hh]⟩, ha1.trans ha2⟩
      | none =>
        obtain ⟨p3, hm3, ha3⟩ := ihr s2 st2
        exact ⟨p1 ++ p2 ++ p3, ⟨_, hm1, _, hm2, by rw [hh]; exact List.mem_map.mpr ⟨_, hm3, rfl⟩⟩, (ha1.trans ha2).trans ha3⟩
    · rw [hf] at hm2 ha2
      exact ⟨p1 ++ p2, ⟨_, hm1, _, hm2, by simp⟩, ha1.trans ha2⟩

def allOk (s : List Fault) : Bool := s.all (· == .ok)

theorem Agree.allOk {p s r : List Fault} (h : Agree p s r) (hs : allOk s = true) : allOk p = true :=
  h.all rfl hs

/-! Finite checks over all paths, for the eight solver behaviours (three booleans) that influence control. -/

def bools : List Bool := [false, true]

/-- `q rmIn rmOut hasFile path` holds for every path of `P` -/
def forAllPaths (P : RProg) (q : Bool → Bool → Bool → Path → Bool) : Bool :=
  bools.all fun a => bools.all fun b => bools.all fun c => (execAll a b c P RState.init).all (q a b c)

theorem forAllPaths_iff {P : RProg} {q : Bool → Bool → Bool → Path → Bool} :
    forAllPaths P q = true ↔ ∀ a b c, ∀ p ∈ execAll a b c P RState.init, q a b c p = true := by
  have hb : ∀ x : Bool, x ∈ bools := by decide
  simp only [forAllPaths, List.all_eq_true]
  exact ⟨fun h a b c => h a (hb a) b (hb b) c (hb c), fun h a _ b _ c _ => h a b c⟩

theorem run_satisfies {P : RProg} {q : Bool → Bool → Bool → Path → Bool}
    (h : forAllPaths P q = true) (a b c : Bool) (sched : List Fault) :
    ∃ path, Agree path sched (exec a b c P sched RState.init).1 ∧
      q a b c (path, (exec a b c P sched RState.init).2) = true := by
  obtain ⟨path, hm, ha⟩ := exec_sound a b c P sched RState.init
  exact ⟨path, ha, forAllPaths_iff.mp h a b c _ hm⟩

/-- `allFaults.all g`, written out: the kernel unfolds `List.all` slowly, and `allEnds` asks at every resource call -/
def eachFault (g : Fault → Bool) : Bool := g .ok && g .os && g .other

theorem eachFault_eq (g : Fault → Bool) : eachFault g = allFaults.all g := by
  simp [eachFault, allFaults, Bool.and_assoc]

/-- `execAll` with the check threaded through the run: `k` is applied to every end (faults met,
state, pending exception) and no list is built; building the list of `execAll` first is slow in the kernel -/
def allEnds (a b c : Bool) :
    RProg → List Fault → RState → (List Fault → RState → Option Exn → Bool) → Bool
  | .done, path, st, k => k path st none
  | .op o rest, path, st, k =>
    if skips o st then allEnds a b c rest path st k
    else eachFault fun f =>
      match step a b c o f st with
      | (st', some e) => k (path ++ [f]) st' (some e)
      | (st', none) => allEnds a b c rest (path ++ [f]) st' k
  | .tryStmt body catchOS fin rest, path, st, k =>
    allEnds a b c body path st fun p1 st1 e1 =>
      allEnds a b c fin p1 st1 fun p2 st2 e2 =>
        match e2 with
        | some e2 => k p2 st2 (some e2)
        | none =>
          match afterHandlers catchOS e1 with
          | some e => k p2 st2 (some e)
          | none => allEnds a b c rest p2 st2 k

theorem allEnds_eq (a b c : Bool) (P : RProg) :
    ∀ (path : List Fault) (st : RState) (k : List Fault → RState → Option Exn → Bool),
      allEnds a b c P path st k = (execAll a b c P st).all fun p => k (path ++ p.1) p.2.1 p.2.2 := by
  induction P with
  | done => intro path st k; simp [allEnds, execAll]
  | op o rest ih =>
    intro path st k
    unfold allEnds execAll
    split
    · exact ih path st k
    · simp only [eachFault_eq, List.all_flatMap]
      congr 1; funext f
      rcases step a b c o f st with ⟨st', _ | e⟩ <;> simp [ih, List.all_map, Function.comp_def]
  | tryStmt body catchOS fin rest ihb ihf ihr =>
    intro path st k
    simp only [allEnds, execAll, ihb, ihf, List.all_flatMap]
    congr 1; funext p1; congr 1; funext p2
    obtain ⟨q2, s2, e2⟩ := p2
    cases e2 with
    | some e2 => simp
    | none => cases afterHandlers catchOS p1.2.2 <;> simp [ihr, List.all_map, Function.comp_def]

theorem forAllPaths_eq_allEnds (P : RProg) (q : Bool → Bool → Bool → Path → Bool) :
    forAllPaths P q = bools.all fun a => bools.all fun b => bools.all fun c =>
      allEnds a b c P [] RState.init fun path st x => q a b c (path, st, x) := by
  simp only [forAllPaths, allEnds_eq, List.nil_append]

theorem liftErr_eq_ok {α} {x : Except Err α} {a : α} : liftErr x = .ok a ↔ x = .ok a := by
  cases x <;> simp [liftErr]

theorem liftErr_eq_error {α} {x : Except Err α} {e : Exn} :
    liftErr x = .error e ↔ ∃ e', x = .error e' ∧ e = .py e' := by
  cases x <;> simp [liftErr, eq_comm]

/-- files created by the call that still exist -/
def Path.left (p : Path) : List Nat := p.2.1.created.filter p.2.1.files.contains

end Cnfgen.Solver
