/-
Lemmas for T-C11.5 — `all_variable_labels`: for every state reachable by a manager history the
i-th reported name is the name of variable i (the label of its index in the owning group, or the
default name).  The loop is brought to the closed form "`varName` mapped over `1 … numvar`"
(`loop_eq_mapM`, `allLabels_eq_names`); alignment and definedness are read off it.
-/
import Lemmas.VarsGroup
import Lemmas.VarsManager
namespace Cnfgen
namespace Vars

/-- the name of variable `v`: the owning group's label of its index — for a single variable its
name, or the default name if it was created without one —, the default name outside every group -/
def varName (gs : List Group) (dfmt : String) (v : Nat) : Except Err (Option String) :=
  match gs.find? (fun g => g.contains (v : Int)) with
  | none => (defaultName dfmt v).map some
  | some (.single _ (some name)) => .ok (some name)
  | some (.single _ none) => (defaultName dfmt v).map some
  | some g => do let idx ← g.toIndex (v : Int); let l ← g.labelOf idx; pure (some l)

def Chain : Nat → List Group → Prop
  | _, [] => True
  | lo, g :: gs => lo ≤ g.start ∧ g.WF ∧ Chain (g.start + g.len) gs

def chainEnd : Nat → List Group → Nat
  | lo, [] => lo
  | _, g :: gs => chainEnd (g.start + g.len) gs

theorem chain_append {lo : Nat} {gs : List Group} {g : Group} :
    Chain lo (gs ++ [g]) ↔ Chain lo gs ∧ chainEnd lo gs ≤ g.start ∧ g.WF := by
  induction gs generalizing lo with
  | nil => simp [Chain, chainEnd]
  | cons a gs ih => simp [Chain, chainEnd, ih, and_assoc]

theorem chainEnd_append (lo : Nat) (gs : List Group) (g : Group) :
    chainEnd lo (gs ++ [g]) = g.start + g.len := by
  induction gs generalizing lo with
  | nil => simp [chainEnd]
  | cons a gs ih => simp [chainEnd, ih]

theorem chain_mono {lo lo' : Nat} {gs : List Group} (h : Chain lo gs) (hle : lo' ≤ lo) : Chain lo' gs := by
  cases gs with
  | nil => trivial
  | cons g gs => exact ⟨by have := h.1; omega, h.2⟩

theorem chain_find_below {lo : Nat} {gs : List Group} (h : Chain lo gs) {u : Nat} (hu : u < lo) :
    gs.find? (fun g => g.contains (u : Int)) = none := by
  induction gs generalizing lo with
  | nil => rfl
  | cons g gs ih =>
    have h1 := h.1
    have : g.contains (u : Int) = false := by simp [Group.contains]; omega
    simp [this, ih h.2.2 (by omega)]

theorem contains_iff (g : Group) (u : Nat) :
    g.contains (u : Int) = true ↔ g.start ≤ u ∧ u < g.start + g.len := by
  simp [Group.contains]

theorem contains_eq_false {g : Group} {u : Nat} (h : u < g.start ∨ g.start + g.len ≤ u) :
    g.contains (u : Int) = false :=
  Bool.eq_false_iff.2 fun hc => by
    have := (contains_iff g u).1 hc
    omega

theorem allLabels_eq {g : Group} (hns : g.isSingle = false) :
    g.allLabels = (do let idxs ← g.indices []; let ls ← idxs.mapM g.labelOf; pure (ls.map some)) := by
  -- every class but the words uses `BaseVariableGroup.label`, whose result for `()` is a list
  have base : ∀ g : Group,
      (do match (← g.baseLabel []) with | Res.many l => pure l | Res.one a => pure [a]) =
      (do let idxs ← g.indices []; let ls ← idxs.mapM g.labelOf; pure (ls.map some)) := by
    intro g
    simp only [Group.baseLabel, isProjection, List.isEmpty_nil, Bool.true_or, if_true]
    simp only [bind, Except.bind, pure, Except.pure]
    cases g.indices [] with
    | error e => rfl
    | ok idxs =>
      simp only []
      cases List.mapM g.labelOf idxs <;> rfl
  cases g with
  | single s name => simp [Group.isSingle] at hns
  | word s seqs f =>
    have hf : (Group.word s seqs f).labelOf = fun w => pyFormat f [commaJoin w] := by funext w; rfl
    rw [hf]
    simp only [Group.allLabels, Group.label, Group.indices, List.isEmpty_nil, if_true]
    simp only [bind, Except.bind, pure, Except.pure]
    cases (List.mapM (fun w => pyFormat f [commaJoin w]) seqs) <;> rfl
  | _ => exact base _

theorem groupNames_nonsingle {dfmt : String} {g : Group} (hns : g.isSingle = false) (v : Nat) :
    groupNames dfmt g v = g.allLabels := by
  cases g <;> first | rfl | simp [Group.isSingle] at hns

theorem varName_owner_nonsingle {g : Group} {gs : List Group} {dfmt : String} {v : Nat}
    (hc : g.contains (v : Int) = true) (hns : g.isSingle = false) :
    varName (g :: gs) dfmt v = (do let idx ← g.toIndex (v : Int); let l ← g.labelOf idx; pure (some l)) := by
  cases g <;> first
    | (simp [Group.isSingle] at hns; done)
    | (simp only [varName, List.find?_cons, hc])

theorem varName_cons_of_not_contains {g : Group} {gs : List Group} {dfmt : String} {v : Nat}
    (hc : g.contains (v : Int) = false) : varName (g :: gs) dfmt v = varName gs dfmt v := by
  simp only [varName, List.find?_cons, hc]

theorem varName_of_find_none {gs : List Group} {dfmt : String} {v : Nat}
    (h : gs.find? (fun g => g.contains (v : Int)) = none) :
    varName gs dfmt v = (defaultName dfmt v).map some := by
  simp only [varName, h]

theorem find_cons_of_not_contains {g : Group} {gs : List Group} {u : Nat}
    (hc : g.contains (u : Int) = false) :
    (g :: gs).find? (fun g => g.contains (u : Int)) = gs.find? (fun g => g.contains (u : Int)) := by
  simp only [List.find?_cons, hc]

theorem allLabels_eq_mapM {g : Group} (h : g.WF) (hns : g.isSingle = false) :
    g.allLabels = (List.range' g.start g.len).mapM
      (fun v => g.toIndex ((v : Nat) : Int) >>= fun idx => g.labelOf idx >>= fun l => pure (some l)) := by
  obtain ⟨idxs, h1, E⟩ := Group.enumerates h
  rw [allLabels_eq hns, h1, ← E.ids, List.mapM_map]
  refine ((mapM_congr fun x hx => ?_).trans (mapM_map_pure some idxs)).symm
  -- `to_index` of the identifier of an enumerated index gives the index back
  exact congrArg (· >>= _) (E.index_both hx).1

theorem groupNames_eq_mapM {dfmt : String} {g : Group} {gs : List Group} (h : g.WF) (hne : g.len ≠ 0) :
    groupNames dfmt g g.start = (rangeN g.start (g.start + g.len)).mapM (varName (g :: gs) dfmt) := by
  rw [rangeN_eq_range', Nat.add_sub_cancel_left]
  by_cases hsg : g.isSingle = true
  · cases g with
    | single s name =>
      show _ = List.mapM _ [s]
      rw [List.mapM_cons, List.mapM_nil]
      cases name with
      | none =>
        have hv : varName (Group.single s none :: gs) dfmt s = (defaultName dfmt s).map some := by
          simp [varName, Group.contains, Group.start, Group.len]
        rw [hv]
        show (defaultName dfmt s >>= fun d => pure [some d]) = _
        cases defaultName dfmt s <;> rfl
      | some nm =>
        have hv : varName (Group.single s (some nm) :: gs) dfmt s = .ok (some nm) := by
          simp [varName, Group.contains, Group.start, Group.len]
        rw [hv]
        rfl
    | _ => simp [Group.isSingle] at hsg
  · have hns : g.isSingle = false := by simpa using hsg
    rw [groupNames_nonsingle hns, allLabels_eq_mapM h hns]
    exact mapM_congr fun v hv =>
      (varName_owner_nonsingle ((contains_iff _ _).2 (List.mem_range'_1.1 hv)) hns).symm

theorem defaultNames_eq_mapM {dfmt : String} {gs : List Group} {a b : Nat}
    (h : ∀ u, a ≤ u → u < b → gs.find? (fun g => g.contains (u : Int)) = none) :
    defaultNames dfmt a b = (rangeN a b).mapM (varName gs dfmt) :=
  mapM_congr fun u hu => (varName_of_find_none (h u (mem_rangeN.1 hu).1 (mem_rangeN.1 hu).2)).symm

theorem rangeN_append {a b c : Nat} (h1 : a ≤ b) (h2 : b ≤ c) : rangeN a b ++ rangeN b c = rangeN a c := by
  obtain ⟨m, rfl⟩ := Nat.exists_eq_add_of_le h1
  obtain ⟨n, rfl⟩ := Nat.exists_eq_add_of_le h2
  rw [rangeN_eq_range', rangeN_eq_range', rangeN_eq_range', Nat.add_sub_cancel_left, Nat.add_sub_cancel_left,
    Nat.add_assoc, Nat.add_sub_cancel_left, List.range'_append_1]

/-- the counter after the loop: past the last non-empty group -/
def loopEnd : List Group → Nat → Nat
  | [], v => v
  | g :: gs, v => if g.len = 0 then loopEnd gs v else loopEnd gs (g.start + g.len)

/-- **the loop yields the names of the variables `varid … loopEnd - 1`, in this order**; no group
contains a variable from `loopEnd` on -/
theorem loop_eq_mapM {dfmt : String} {gs : List Group} {lo varid : Nat} (hc : Chain lo gs) (hv : varid ≤ lo) :
    varid ≤ loopEnd gs varid ∧ loopEnd gs varid ≤ chainEnd lo gs ∧
    (∀ u, loopEnd gs varid ≤ u → gs.find? (fun g => g.contains (u : Int)) = none) ∧
    allLabelsLoop dfmt gs varid =
      (rangeN varid (loopEnd gs varid)).mapM (varName gs dfmt) >>= fun ls => pure (ls, loopEnd gs varid) := by
  induction gs generalizing lo varid with
  | nil =>
    refine ⟨Nat.le_refl _, hv, fun _ _ => rfl, ?_⟩
    simp [allLabelsLoop, loopEnd, rangeN]
    rfl
  | cons g gs ih =>
    obtain ⟨hlo, hwf, hrest⟩ := hc
    simp only [allLabelsLoop, loopEnd]
    by_cases hz : g.len = 0
    · -- an empty group contains nothing and is skipped
      rw [if_pos hz, if_pos hz]
      have hcf : ∀ u : Nat, g.contains (u : Int) = false := fun u => contains_eq_false (by omega)
      obtain ⟨a1, a2, a3, a4⟩ := ih (lo := g.start) (by simpa [hz] using hrest) (Nat.le_trans hv hlo)
      refine ⟨a1, by simpa [chainEnd, hz] using a2, fun u hu => ?_, ?_⟩
      · rw [find_cons_of_not_contains (hcf u)]
        exact a3 u hu
      · rw [a4, mapM_congr fun u _ => varName_cons_of_not_contains (gs := gs) (dfmt := dfmt) (hcf u)]
    · -- the gap before `g` (in no group), `g` itself, the later groups
      rw [if_neg hz, if_neg hz, show max varid g.start = g.start by omega]
      obtain ⟨a1, a2, a3, a4⟩ := ih hrest (Nat.le_refl _)
      have hchain : Chain g.start (g :: gs) := ⟨Nat.le_refl _, hwf, hrest⟩
      refine ⟨by omega, a2, fun u hu => ?_, ?_⟩
      · rw [find_cons_of_not_contains (contains_eq_false (.inr (by omega)))]
        exact a3 u hu
      · rw [defaultNames_eq_mapM (gs := g :: gs) fun u _ hu => chain_find_below hchain hu,
          groupNames_eq_mapM (gs := gs) hwf hz, a4,
          ← rangeN_append (show varid ≤ g.start by omega) (show g.start ≤ loopEnd gs (g.start + g.len) by omega),
          ← rangeN_append (Nat.le_add_right g.start g.len) a1, List.mapM_append, List.mapM_append,
          mapM_congr fun u hu => varName_cons_of_not_contains (g := g) (gs := gs) (dfmt := dfmt)
            (contains_eq_false (.inr (mem_rangeN.1 hu).1))]
        simp only [bind_assoc, pure_bind, List.append_assoc]

/-- the graph arguments of the operation are well-formed `BipartiteGraph` objects -/
def SpecWF : GroupSpec → Prop
  | .bipartite G _ => G.WF
  | .sparseMapping G _ => G.WF
  | _ => True

def OpWF : MOp → Prop
  | .newGroup spec => SpecWF spec
  | _ => True

/-- invariant of the manager: the groups form an increasing chain of well-formed groups inside
`1 … numvar` -/
def SInv (s : MState) : Prop := Chain 1 s.groups ∧ chainEnd 1 s.groups ≤ s.numvar + 1

theorem sinv_init : SInv MState.init := by simp [SInv, MState.init, Chain, chainEnd]

theorem mkGroup_wf {numvar : Nat} {spec : GroupSpec} {g : Group} (hs : SpecWF spec)
    (h : mkGroup numvar spec = .ok g) : g.WF := by
  cases spec <;> simp only [mkGroup, wordChecks, bind, Except.bind, pure, Except.pure, throw, throwThe,
      MonadExceptOf.throw] at h <;> (repeat' split at h) <;> first
    | (cases h; simp [Group.WF]; done)
    | (simp at h; done)
    | skip
  -- left over: the branch where every check passed, for the classes whose well-formedness is more than `1 ≤ start`, in
  -- the order of `GroupSpec`: the four word classes, `bipartite`, `graph`, `digraph`, `mapping`, `sparseMapping`
  · cases h; exact ⟨by omega, combosSeqs_nodup _ _⟩
  · cases h; exact ⟨by omega, combosReplSeqs_nodup _ _⟩
  · cases h; exact ⟨by omega, permsSeqs_nodup _ _⟩
  · cases h; exact ⟨by omega, wordsSeqs_nodup _ _⟩
  · cases h; exact ⟨by omega, hs⟩
  · cases h
    rename_i B hB _ _ _
    have := graphAux_spec hB
    exact ⟨by omega, this.1, by rw [this.2.1, this.2.2.1], graphAux_le hB⟩
  · cases h
    rename_i _ _ _ _ B hB
    exact ⟨by omega, (digraphAux_spec hB).1⟩
  · cases h; exact ⟨by omega, BipG.wf_complete _ _⟩
  · cases h; exact ⟨by omega, hs⟩

theorem addGroup_sinv {s : MState} {g : Group} (h : SInv s) (hg : g.WF) (hst : g.start = s.numvar + 1) :
    SInv (addGroup s g).1 := by
  obtain ⟨hc, he⟩ := h
  rw [addGroup_fresh hst]
  refine ⟨chain_append.2 ⟨hc, by omega, hg⟩, ?_⟩
  simp only [chainEnd_append]
  omega

theorem sinv_mono {s t : MState} (h : SInv s) (hg : t.groups = s.groups) (hn : s.numvar ≤ t.numvar) :
    SInv t := by
  unfold SInv
  rw [hg]
  exact ⟨h.1, Nat.le_trans h.2 (Nat.succ_le_succ hn)⟩

theorem step_sinv {s : MState} {op : MOp} (h : SInv s) (hw : OpWF op) : SInv (step s op).1 := by
  cases op with
  | addClause c check =>
    exact sinv_mono h (addClause_extends s c check).2.1 (addClause_extends s c check).2.2
  | updateVarNum n =>
    exact sinv_mono h (updateVarNum_extends s n).2.1 (updateVarNum_extends s n).2.2
  | newGroup spec =>
    show SInv (newGroup s spec).1
    unfold newGroup
    split
    · exact h
    · rename_i g hg
      exact addGroup_sinv h (mkGroup_wf hw hg) (mkGroup_start hg)

theorem run_sinv {s : MState} {ops : List MOp} (h : SInv s) (hw : ∀ op ∈ ops, OpWF op) : SInv (run s ops) := by
  induction ops generalizing s with
  | nil => exact h
  | cons op ops ih =>
    rw [run_cons]
    exact ih (step_sinv h (hw op (by simp))) (fun o ho => hw o (by simp [ho]))

/-- **`all_variable_labels` is the list of the names of the variables `1 … numvar`** (in particular
the `assert varid == end+1` at its end never fires) -/
theorem allLabels_eq_names {s : MState} (hs : SInv s) (dfmt : String) :
    allLabels s dfmt = (rangeN 1 (s.numvar + 1)).mapM (varName s.groups dfmt) := by
  obtain ⟨hc, he⟩ := hs
  obtain ⟨a1, a2, a3, a4⟩ := loop_eq_mapM (dfmt := dfmt) hc (Nat.le_refl 1)
  have hv : loopEnd s.groups 1 ≤ s.numvar + 1 := Nat.le_trans a2 he
  simp only [allLabels, a4, bind_assoc, pure_bind, Nat.max_eq_right hv, ne_eq, not_true_eq_false, if_false]
  rw [defaultNames_eq_mapM fun u h1 _ => a3 u h1, ← rangeN_append a1 hv, List.mapM_append]

/-- T-C11.5 on a state satisfying the invariant -/
theorem allLabels_aligned {s : MState} (hs : SInv s) {dfmt : String} {names : List (Option String)}
    (h : allLabels s dfmt = .ok names) :
    names.length = s.numvar ∧ ∀ i (hi : i < names.length), varName s.groups dfmt (i + 1) = .ok names[i] := by
  rw [allLabels_eq_names hs] at h
  have hf := mapM_ok_getElem h
  have hlen : (rangeN 1 (s.numvar + 1)).length = s.numvar := by rw [length_rangeN, Nat.add_sub_cancel]
  refine ⟨hf.1.trans hlen, fun i hi => ?_⟩
  have := hf.2 i (by omega) hi
  simpa [rangeN] using this

/-- `all_variable_labels` fails only if a name (a label or a default name) cannot be formatted -/
theorem allLabels_defined {s : MState} (hs : SInv s) {dfmt : String}
    (hn : ∀ v, 1 ≤ v → v ≤ s.numvar → ∃ n, varName s.groups dfmt v = .ok n) :
    ∃ names, allLabels s dfmt = .ok names := by
  rw [allLabels_eq_names hs]
  exact mapM_ok_of_forall fun u hu => hn u (mem_rangeN.1 hu).1 (Nat.le_of_lt_succ (mem_rangeN.1 hu).2)

end Vars
end Cnfgen
