/-
The auxiliary bipartite graph of `GraphEdgesVariables` (the insertion loop `Vars.graphAux`) and
the description used by the models of the Tseitin and even-colouring formulas (`Fam.upNbrs`,
`Fam.loNbrs`, `Fam.edgeOffset`, `Fam.edgeId`, `G.edges.length`) agree, for every simple graph
object satisfying the representation invariant `SimpleG.Inv`.
-/
import Lemmas.GenAuxBip
import Lemmas.FamGraphInv
namespace Cnfgen.GenEdgeId
open Cnfgen Cnfgen.GenAuxBip

theorem upNbrs_eq_filter {G : SimpleG} (hG : SimpleG.Inv G) (u : Nat) :
    Fam.upNbrs G u = if 1 ≤ u ∧ u ≤ G.n then (G.nbrs u).filter (fun v => u < v) else [] := by
  split
  · rename_i h
    exact Fam.upNbrs_eq (Fam.goodGraph_of_inv G hG) h.2
  · unfold Fam.upNbrs
    rw [if_neg]
    omega

theorem graphAux_rnbrs_upNbrs {G : SimpleG} (hG : SimpleG.Inv G) {B : BipG}
    (h : Vars.graphAux G = .ok B) (u : Nat) :
    B.rnbrs u = Fam.upNbrs G u := by
  rw [graphAux_rnbrs hG h, Fam.auxBip_rnbrs, upNbrs_eq_filter hG]

theorem graphAux_lnbrs_loNbrs {G : SimpleG} (hG : SimpleG.Inv G) {B : BipG}
    (h : Vars.graphAux G = .ok B) (w : Nat) :
    B.lnbrs w = Fam.loNbrs G w := by
  obtain ⟨hw, hl, _, _⟩ := Vars.graphAux_spec h
  rw [BipG.lnbrs_eq_filter hw, hl]
  unfold Fam.loNbrs rangeN
  rw [Nat.add_sub_cancel]
  apply List.filter_congr
  intro u _
  rw [graphAux_rnbrs_upNbrs hG h]
  simp

theorem graphAux_degSum {G : SimpleG} (hG : SimpleG.Inv G) {B : BipG}
    (h : Vars.graphAux G = .ok B) (s k : Nat) :
    s + Vars.degSum B k = Fam.edgeOffset G s (k + 1) := by
  unfold Vars.degSum Fam.edgeOffset
  rw [Nat.add_sub_cancel]
  congr 2
  apply List.map_congr_left
  intro i _
  rw [graphAux_rnbrs_upNbrs hG h]

theorem graphAux_offset {G : SimpleG} (hG : SimpleG.Inv G) {B : BipG}
    (h : Vars.graphAux G = .ok B) (s u : Nat) (h1 : 1 ≤ u) (h2 : u ≤ G.n) :
    (Vars.bipOffsets B s).getD u 0 = Fam.edgeOffset G s u := by
  have hl : B.l = G.n := (Vars.graphAux_spec h).2.1
  rw [Vars.bipOffsets_getD B s ⟨h1, by omega⟩, graphAux_degSum hG h, Nat.sub_add_cancel h1]

theorem graphAux_bipId_eq {G : SimpleG} (hG : SimpleG.Inv G) {B : BipG}
    (h : Vars.graphAux G = .ok B) (s u v : Nat) (h1 : 1 ≤ u) (h2 : u ≤ G.n) :
    Vars.bipId B s u v = Fam.edgeOffset G s u + (Fam.upNbrs G u).idxOf v := by
  unfold Vars.bipId
  rw [graphAux_offset hG h s u h1 h2, graphAux_rnbrs_upNbrs hG h]

theorem graphAux_bipId_edgeId {G : SimpleG} (hG : SimpleG.Inv G) {B : BipG}
    (h : Vars.graphAux G = .ok B)
    (s a b : Nat) (ha : 1 ≤ min a b) (hb : min a b ≤ G.n) :
    Vars.bipId B s (min a b) (max a b) = Fam.edgeId G s a b := by
  rw [graphAux_bipId_eq hG h s _ _ ha hb]
  rfl

theorem graphAux_bipId_edgeId_of_mem {G : SimpleG} (hG : SimpleG.Inv G) {B : BipG}
    (h : Vars.graphAux G = .ok B) (s : Nat) {a b : Nat} (hab : b ∈ G.nbrs a) :
    Vars.bipId B s (min a b) (max a b) = Fam.edgeId G s a b := by
  have hr := hG.nbrs_range hab
  apply graphAux_bipId_edgeId hG h
  · omega
  · omega

theorem graphAux_numberOfEdges_edges {G : SimpleG} (hG : SimpleG.Inv G) {B : BipG}
    (h : Vars.graphAux G = .ok B) :
    B.numberOfEdges = G.edges.length := by
  obtain ⟨hw, hl, _, _⟩ := Vars.graphAux_spec h
  rw [← Vars.degSum_total hw, hl, Fam.edges_length]
  have key : ∀ k, Vars.degSum B k = ((List.range k).map (Fam.rowLen G)).sum := by
    intro k
    unfold Vars.degSum
    congr 1
    apply List.map_congr_left
    intro i _
    rw [graphAux_rnbrs_upNbrs hG h]
    rfl
  rw [key]
  rcases Nat.eq_zero_or_pos G.n with h0 | hpos
  · rw [h0]
  · obtain ⟨k, hk⟩ : ∃ k, G.n = k + 1 := ⟨G.n - 1, by omega⟩
    rw [hk, Nat.add_sub_cancel, Fam.prefix_sum_succ]
    have : Fam.rowLen G k = 0 := by
      unfold Fam.rowLen
      rw [← hk]
      unfold Fam.upNbrs
      rw [if_neg (by omega)]
      rfl
    omega

end Cnfgen.GenEdgeId
