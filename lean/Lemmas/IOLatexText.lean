/-
Character level, LaTeX — tokens and row contents: what `_print_latex` writes for a literal, a clause,
a constraint (`litText`, `clauseRowText`, `constraintRowText` of `IO/Latex.lean`), split at white
space and with coefficients un-glued from their literals (`lexLatexLine`), is the token row of the
token-level writer (`latexLitTok`, `clauseCore`, `constraintCore`) — for names without white space
and numbers below CPython's digit limit.
-/
import Lemmas.IOLatex
import Lemmas.IOTextDimacs
namespace Cnfgen.IO

theorem lexL_nil : lexLatexLine [] = [] := rfl

theorem lexL_append (a b : Str) : lexLatexLine (a ++ ' ' :: b) = lexLatexLine a ++ lexLatexLine b := by
  simp [lexLatexLine, splitWS_append_blank]

theorem lexL_blank (s : Str) : lexLatexLine (' ' :: s) = lexLatexLine s := by
  simp [lexLatexLine, splitWS_space_cons ' ' s isSpace_blank]

theorem lexL_blanks (k : Nat) (s : Str) : lexLatexLine (List.replicate k ' ' ++ s) = lexLatexLine s := by
  induction k with
  | zero => rfl
  | succ k ih => rw [List.replicate_succ, List.cons_append, lexL_blank, ih]

theorem lexL_tok (t : Str) (h : IsTok t) : lexLatexLine t = splitCoef t := by
  simp [lexLatexLine, splitWS_tok t h]

theorem lexL_tok_blank (t rest : Str) (h : IsTok t) : lexLatexLine (t ++ ' ' :: rest) = splitCoef t ++ lexLatexLine rest := by
  rw [lexL_append, lexL_tok t h]

theorem classify_word (c : Char) (r : Str) (hc : c = '{' ∨ c = '\\') (hw : NoWS (c :: r)) :
    classify (c :: r) = .word (c :: r) := by
  have h1 : pyInt? (c :: r) = none := pyInt_of_head c r (by rcases hc with rfl | rfl <;> decide) hw
  have h2 : xvar? (c :: r) = none := by
    rcases hc with rfl | rfl <;> simp [xvar?]
  simp [classify, h1, h2]

theorem spanDigits_nondigit (c : Char) (r : Str) (h : (digit? c).isSome = false) : spanDigits (c :: r) = ([], c :: r) := by
  simp [spanDigits, h]

theorem spanDigits_append : ∀ (ds rest : Str), (∀ d ∈ ds, IsDigit d) → (∀ c ∈ rest.head?, (digit? c).isSome = false) →
    spanDigits (ds ++ rest) = (ds, rest)
  | [], [], _, _ => rfl
  | [], c :: r, _, h => spanDigits_nondigit c r (h c rfl)
  | d :: ds, rest, hd, h => by
    have h1 : (digit? d).isSome = true := by rw [digit?_of_isDigit (hd d (by simp))]; rfl
    simp [spanDigits, h1, spanDigits_append ds rest (fun x hx => hd x (by simp [hx])) h]

theorem head_brace_nondigit {c : Char} (hc : c = '{' ∨ c = '\\') : (digit? c).isSome = false ∧ c ≠ '-' := by
  rcases hc with rfl | rfl <;> exact ⟨by decide, by decide⟩

theorem splitCoef_word (c : Char) (r : Str) (hc : c = '{' ∨ c = '\\') (hw : NoWS (c :: r)) :
    splitCoef (c :: r) = [.word (c :: r)] := by
  have hnd := head_brace_nondigit hc
  have hneg : ((c :: r).head? = some '-') = False := by simp [hnd.2]
  unfold splitCoef
  simp only [hneg, if_false, spanDigits_nondigit c r hnd.1, classify_word c r hc hw]

/-- the prologue of `splitCoef` on a number followed by nothing or by a literal -/
theorem spanDigits_intStr (z : Int) (rest : Str) (hr : ∀ c ∈ rest.head?, (digit? c).isSome = false) :
    ((intStr z ++ rest).head? = some '-') = (z < 0) ∧
    spanDigits (if z < 0 then (intStr z ++ rest).drop 1 else intStr z ++ rest) = (natStr z.natAbs, rest) := by
  obtain ⟨d, ds, hs, hd⟩ := natStr_cons z.natAbs
  have hsp := spanDigits_append _ rest (natStr_digits z.natAbs).1 hr
  unfold intStr
  by_cases hneg : z < 0
  · simp only [hneg, if_true, List.cons_append, List.head?_cons, List.drop_succ_cons, List.drop_zero, hsp, and_self]
  · simp only [hneg, if_false, hsp, and_true]
    rw [hs]
    simpa using (isDigit_ne hd).2.2.1

theorem splitCoef_int (z : Int) (hz : z.natAbs < 10 ^ maxStrDigits) : splitCoef (intStr z) = [.int z] := by
  obtain ⟨h1, h2⟩ := spanDigits_intStr z [] (by simp)
  obtain ⟨d, ds, hs, -⟩ := natStr_cons z.natAbs
  rw [List.append_nil] at h1 h2
  unfold splitCoef
  simp only [h1, h2, classify_intStr z hz]
  rw [hs]

/-- a coefficient glued to its literal: `2{x_3}`, `-3\overline{y}` ↦ the number, the literal -/
theorem splitCoef_coef (z : Int) (hz : z.natAbs < 10 ^ maxStrDigits) (c : Char) (r : Str) (hc : c = '{' ∨ c = '\\') :
    splitCoef (intStr z ++ c :: r) = [.int z, .word (c :: r)] := by
  obtain ⟨h1, h2⟩ := spanDigits_intStr z (c :: r) (by simpa using (head_brace_nondigit hc).1)
  obtain ⟨d, ds, hs, -⟩ := natStr_cons z.natAbs
  have hcc : c = '{' ∨ c = '\\' := hc
  unfold splitCoef
  simp only [h1, h2, plainNat_natStr z.natAbs hz]
  rw [hs]
  simp only [hcc, if_true]
  congr 2
  split <;> omega

/-- names as the character-level theorems need them: no white space inside (a name with a blank is
several tokens on the page) -/
def CleanNames (names : List Str) : Prop := ∀ nm ∈ names, NoWS nm

theorem noWS_take {s : Str} (h : NoWS s) (k : Nat) : NoWS (s.take k) := fun c hc => h c (List.mem_of_mem_take hc)
theorem noWS_drop {s : Str} (h : NoWS s) (k : Nat) : NoWS (s.drop k) := fun c hc => h c (List.mem_of_mem_drop hc)

theorem litCore_tok (nm : Str) (neg : Bool) (hn : NoWS nm) :
    ∃ c r, litCore nm neg = c :: r ∧ (c = '{' ∨ c = '\\') ∧ NoWS (c :: r) := by
  have hov : NoWS overlineOpen := noWS_lit _ (by decide)
  cases neg
  · refine ⟨'{', nm ++ ['}'], by simp [litCore], Or.inl rfl, ?_⟩
    exact noWS_cons (by decide) (noWS_append hn (noWS_lit _ (by decide)))
  · simp only [litCore, if_true]
    split
    · refine ⟨'\\', _, rfl, Or.inr rfl, ?_⟩
      exact noWS_append (noWS_append hov hn) (noWS_lit _ (by decide))
    · rename_i k _
      refine ⟨'{', _, rfl, Or.inl rfl, ?_⟩
      refine noWS_cons (by decide) (noWS_append (noWS_append hov ?_) (noWS_lit _ (by decide)))
      exact noWS_append (noWS_take hn k) (noWS_cons (by decide) (noWS_drop hn k))

theorem strip_blank_cons (s : Str) : strip (' ' :: s) = strip s := by
  unfold strip
  simp [List.dropWhile, isSpace_blank]

theorem strip_blanks (k : Nat) (s : Str) (hs : NoWS s) : strip (List.replicate k ' ' ++ s) = s := by
  induction k with
  | zero => exact strip_noWS s hs
  | succ k ih => rw [List.replicate_succ, List.cons_append, strip_blank_cons, ih]

theorem litTextPos_eq (nm : Str) : litTextPos nm = List.replicate 11 ' ' ++ litCore nm false := by
  have e3 : "           {".toList = List.replicate 11 ' ' ++ ['{'] := by lit_decide
  unfold litTextPos litCore
  rw [e3]
  simp only [Bool.false_eq_true, if_false, List.append_assoc, List.cons_append, List.nil_append]

theorem litTextNeg_eq (nm : Str) : ∃ k, litTextNeg nm = List.replicate k ' ' ++ litCore nm true := by
  have e1 : "  \\overline{".toList = List.replicate 2 ' ' ++ overlineOpen := by lit_decide
  have e2 : "{\\overline{".toList = '{' :: overlineOpen := by lit_decide
  unfold litTextNeg litCore
  simp only [if_true]
  split
  · exact ⟨2, by rw [e1]; simp only [List.append_assoc]⟩
  · exact ⟨0, by rw [e2]; simp⟩

/-- `littext[l]`: alignment blanks, then the token of the token-level writer; for OPB formulas
(`strip()`) the token alone -/
theorem litText_shape (opb : Bool) (names : List Str) (hcl : CleanNames names) (l : Int) (s : Str)
    (h : litText opb names l = .ok s) :
    ∃ k core, latexLitTok names l = .ok (.word core) ∧ s = List.replicate (if opb then 0 else k) ' ' ++ core ∧
      ∃ c r, core = c :: r ∧ (c = '{' ∨ c = '\\') ∧ NoWS (c :: r) := by
  unfold litText at h
  unfold latexLitTok
  split at h
  · cases h
  · rename_i hl
    simp only [hl, if_false]
    cases hnm : names[l.natAbs - 1]? with
    | none => rw [hnm] at h; cases h
    | some nm =>
      rw [hnm] at h
      simp only at h ⊢
      have hn : NoWS nm := hcl nm (List.mem_of_getElem? hnm)
      obtain ⟨c, r, hcr, hc, hw⟩ := litCore_tok nm (decide (l < 0)) hn
      have hpad : ∃ k, (if l < 0 then litTextNeg nm else litTextPos nm) =
          List.replicate k ' ' ++ litCore nm (decide (l < 0)) := by
        by_cases hneg : l < 0
        · rw [if_pos hneg, decide_eq_true hneg]; exact litTextNeg_eq nm
        · rw [if_neg hneg, decide_eq_false hneg]; exact ⟨11, litTextPos_eq nm⟩
      obtain ⟨k, hk⟩ := hpad
      refine ⟨k, litCore nm (decide (l < 0)), rfl, ?_, c, r, hcr, hc, hw⟩
      cases opb
      · simp only [Bool.false_eq_true, if_false] at h ⊢
        cases h; exact hk
      · simp only [if_true] at h ⊢
        cases h
        rw [hk, hcr, strip_blanks k _ hw]; rfl

theorem lexL_join (sepT : Str) (tok : Tok) (hsep : IsTok sepT) (htok : splitCoef sepT = [tok]) :
    ∀ (parts : List Str), lexLatexLine (join (' ' :: (sepT ++ [' '])) parts) = sepBy tok (parts.map lexLatexLine)
  | [] => rfl
  | [x] => rfl
  | x :: y :: r => by
    have ih := lexL_join sepT tok hsep htok (y :: r)
    show lexLatexLine (x ++ (' ' :: (sepT ++ [' '])) ++ join (' ' :: (sepT ++ [' '])) (y :: r)) = _
    have e : x ++ (' ' :: (sepT ++ [' '])) ++ join (' ' :: (sepT ++ [' '])) (y :: r) =
        x ++ ' ' :: (sepT ++ ' ' :: join (' ' :: (sepT ++ [' '])) (y :: r)) := by simp
    rw [e, lexL_append, lexL_tok_blank _ _ hsep, htok, ih]
    rfl

theorem noNL_replicate_blank (k : Nat) : NoNL (List.replicate k ' ') := by
  intro c hc
  have := List.eq_of_mem_replicate hc
  subst this; decide

/-- what follows the `&` of a row: a blank, then `\land ` or `k` alignment blanks -/
def leadText (k : Nat) (land : Bool) : Str := ' ' :: (if land then "\\land ".toList else List.replicate k ' ')

/-- what `write_clause` (`k = 6`, `cf` = the compact layout) and `write_constraint` (`k = 0`, `cf = false`) put in front of the
content of a row: the line break (with the `\\` that closes the previous row), `&`, the lead (`\land` for `cf` except on
the first row of a block) -/
def rowPre (k : Nat) (cf first : Bool) : Str :=
  (if first then ['\n'] else [' ', '\\', '\\', '\n']) ++ '&' :: leadText k (cf && !first)

/-- `text` prints a part of a row (a literal, a term), `tok` is its token-level rendering, `row` the tokens that stand for it -/
theorem parts_shape {α β} (text : α → Except Err Str) (tok : α → Except Err β) (row : β → Row) {xs : List α}
    {ys : List Str} (h : xs.mapM text = .ok ys)
    (hx : ∀ x ∈ xs, ∀ y, text x = .ok y → ∃ b, tok x = .ok b ∧ lexLatexLine y = row b ∧ NoNL y) :
    ∃ bs, xs.mapM tok = .ok bs ∧ ys.map lexLatexLine = bs.map row ∧ ∀ y ∈ ys, NoNL y := by
  have hrel := allRel_of_mapM text xs ys h
  clear h
  induction hrel with
  | nil => exact ⟨[], rfl, rfl, by simp⟩
  | cons hxy _ ih =>
    obtain ⟨bs, h1, h2, h3⟩ := ih fun x hm => hx x (by simp [hm])
    obtain ⟨b, g1, g2, g3⟩ := hx _ (by simp) _ hxy
    exact ⟨b :: bs, by simp [List.mapM_cons, g1, h1, pure, Except.pure], by simp [g2, h2],
      List.forall_mem_cons.2 ⟨g3, h3⟩⟩

theorem litText_lex (names : List Str) (hcl : CleanNames names) (x : Int) (y : Str)
    (hx : litText false names x = .ok y) :
    ∃ t, latexLitTok names x = .ok t ∧ lexLatexLine y = [t] ∧ NoNL y := by
  obtain ⟨k, core, hk, hy, ch, r, hcr, hc, hw⟩ := litText_shape false names hcl x y hx
  simp only [Bool.false_eq_true, if_false] at hy
  refine ⟨.word core, hk, ?_, ?_⟩
  · rw [hy, lexL_blanks, hcr, lexL_tok _ ⟨by simp, hw⟩, splitCoef_word ch r hc hw]
  · rw [hy, hcr]
    exact (noNL_replicate_blank k).append (noNL_of_noWS hw)

theorem clauseRowText_shape (names : List Str) (hcl : CleanNames names) (first compact : Bool) (c : Clause) (t : Str)
    (h : clauseRowText names first compact c = .ok t) :
    ∃ s core, t = rowPre 6 compact first ++ s ∧ clauseCore names compact c = .ok core ∧
      lexLatexLine s = core ∧ NoNL s := by
  have hpre : (if first then "\n&".toList else " \\\\\n&".toList) ++
      (if !compact || first then "       ".toList else " \\land ".toList) = rowPre 6 compact first := by
    cases first <;> cases compact <;> lit_decide
  unfold clauseRowText at h
  unfold clauseCore
  rw [hpre] at h
  simp only at h
  by_cases he : c.isEmpty = true
  · simp only [he, if_true] at h ⊢
    cases h
    exact ⟨"\\square".toList, _, rfl, rfl, by lit_decide, noNL_lit _ (by lit_decide)⟩
  · simp only [he, if_false, Bool.false_eq_true] at h ⊢
    cases hm : c.mapM (litText false names) with
    | error e => rw [hm] at h; cases h
    | ok ls =>
      rw [hm] at h
      obtain ⟨toks, hm', h2, h3⟩ := parts_shape _ (latexLitTok names) (fun t => [t]) hm
        fun x _ y hxy => litText_lex names hcl x y hxy
      have hsep : IsTok "\\lor".toList := isTok_lit _ (by lit_decide)
      have hj : lexLatexLine (join " \\lor ".toList ls) = sepBy (W "\\lor") (toks.map (fun t => [t])) := by
        have e : " \\lor ".toList = ' ' :: ("\\lor".toList ++ [' ']) := by lit_decide
        rw [e, lexL_join _ (W "\\lor") hsep (by lit_decide), h2]
      have hjn : NoNL (join " \\lor ".toList ls) := noNL_join _ _ (noNL_lit _ (by lit_decide)) h3
      simp only [hm']
      cases compact
      · simp only [Bool.false_eq_true, if_false] at h ⊢
        cases h
        exact ⟨_, _, rfl, rfl, hj, hjn⟩
      · simp only [if_true] at h ⊢
        cases h
        refine ⟨"\\left( ".toList ++ join " \\lor ".toList ls ++ " \\right)".toList, _, ?_, rfl, ?_, ?_⟩
        · simp only [List.append_assoc]
        · have e1 : "\\left( ".toList = "\\left(".toList ++ [' '] := by lit_decide
          have e2 : " \\right)".toList = ' ' :: "\\right)".toList := by lit_decide
          have e3 : "\\left(".toList ++ [' '] ++ join " \\lor ".toList ls ++ ' ' :: "\\right)".toList =
              "\\left(".toList ++ ' ' :: (join " \\lor ".toList ls ++ ' ' :: "\\right)".toList) := by simp
          rw [e1, e2, e3, lexL_tok_blank "\\left(".toList _ (isTok_lit _ (by lit_decide)), lexL_append, hj,
            lexL_tok "\\right)".toList (isTok_lit _ (by lit_decide))]
          have c1 : splitCoef "\\left(".toList = [W "\\left("] := by lit_decide
          have c2 : splitCoef "\\right)".toList = [W "\\right)"] := by lit_decide
          rw [c1, c2]; rfl
        · exact ((noNL_lit _ (by lit_decide)).append hjn).append (noNL_lit _ (by lit_decide))

/-- the numbers of a constraint are below CPython's digit limit -/
def SmallPBC (c : PBC) : Prop := c.rhs.natAbs < 10 ^ maxStrDigits ∧ ∀ t ∈ c.terms, t.1.natAbs < 10 ^ maxStrDigits

theorem termText_shape (names : List Str) (hcl : CleanNames names) (t : Int × Int) (tt : Str)
    (hz : t.1.natAbs < 10 ^ maxStrDigits) (h : termText names t = .ok tt) :
    ∃ toks, termToks names t = .ok toks ∧ lexLatexLine tt = toks ∧ NoNL tt := by
  unfold termText at h
  unfold termToks
  cases hl : litText true names t.2 with
  | error e => rw [hl] at h; cases h
  | ok lt =>
    rw [hl] at h
    simp only at h
    cases h
    obtain ⟨k, core, hk, hy, ch, r, hcr, hc, hw⟩ := litText_shape true names hcl t.2 lt hl
    simp only [if_true, List.replicate_zero, List.nil_append] at hy
    subst hy
    simp only [hk]
    by_cases h1 : t.1 = 1
    · simp only [h1, if_true, List.nil_append]
      refine ⟨_, rfl, ?_, ?_⟩
      · rw [hcr, lexL_tok _ ⟨by simp, hw⟩, splitCoef_word ch r hc hw]
      · rw [hcr]; exact noNL_of_noWS hw
    · simp only [h1, if_false]
      refine ⟨_, rfl, ?_, ?_⟩
      · rw [hcr, lexL_tok _ ⟨by simp [(isTok_intStr t.1).1], noWS_append (isTok_intStr t.1).2 hw⟩,
          splitCoef_coef t.1 hz ch r hc]
      · rw [hcr]; exact (isTok_intStr t.1).noNL.append (noNL_of_noWS hw)

theorem latexOpText_lex (o : Op) : IsTok (latexOpText o) ∧ splitCoef (latexOpText o) = [.word (latexOpText o)] ∧
    NoNL (latexOpText o) := by
  unfold latexOpText
  split
  · exact ⟨isTok_lit _ (by lit_decide), by lit_decide, noNL_lit _ (by lit_decide)⟩
  · exact ⟨isTok_lit _ (by lit_decide), by lit_decide, noNL_lit _ (by lit_decide)⟩

theorem constraintRowText_shape (names : List Str) (hcl : CleanNames names) (first : Bool) (c : PBC) (t : Str)
    (hs : SmallPBC c) (h : constraintRowText names first c = .ok t) :
    ∃ s core, t = rowPre 0 false first ++ s ∧ constraintCore names c = .ok core ∧ lexLatexLine s = core ∧ NoNL s := by
  have hpre : (if first then "\n& ".toList else " \\\\\n& ".toList) = rowPre 0 false first := by
    cases first <;> lit_decide
  unfold constraintRowText at h
  unfold constraintCore
  rw [hpre] at h
  simp only at h
  obtain ⟨ho1, ho2, ho3⟩ := latexOpText_lex c.op
  have hrhs : splitCoef (intStr c.rhs) = [.int c.rhs] := splitCoef_int c.rhs hs.1
  have hrt : IsTok (intStr c.rhs) := isTok_intStr c.rhs
  have htail : ∀ (text : Str) (l : Row), lexLatexLine text = l → NoNL text →
      lexLatexLine (text ++ [' '] ++ latexOpText c.op ++ [' '] ++ intStr c.rhs) = l ++ [.word (latexOpText c.op), .int c.rhs] ∧
      NoNL (text ++ [' '] ++ latexOpText c.op ++ [' '] ++ intStr c.rhs) := by
    intro text l hl hn
    constructor
    · have e : text ++ [' '] ++ latexOpText c.op ++ [' '] ++ intStr c.rhs =
          text ++ ' ' :: (latexOpText c.op ++ ' ' :: intStr c.rhs) := by simp
      rw [e, lexL_append, hl, lexL_tok_blank _ _ ho1, ho2, lexL_tok _ hrt, hrhs]; rfl
    · exact ((((hn.append (noNL_lit _ (by decide))).append ho3).append (noNL_lit _ (by decide))).append (isTok_intStr _).noNL)
  by_cases he : c.terms.isEmpty = true
  · simp only [he, if_true] at h ⊢
    cases h
    obtain ⟨h1, h2⟩ := htail ['0'] [.int 0] (by decide) (noNL_lit _ (by decide))
    exact ⟨_, _, by simp only [List.append_assoc], rfl, h1, h2⟩
  · simp only [he, if_false, Bool.false_eq_true] at h ⊢
    cases hm : c.terms.mapM (termText names) with
    | error e => rw [hm] at h; cases h
    | ok tts =>
      rw [hm] at h
      simp only at h
      cases h
      obtain ⟨groups, hm', g2, g3⟩ := parts_shape _ (termToks names) id hm
        fun x hx y hxy => termText_shape names hcl x y (hs.2 x hx) hxy
      have hj : lexLatexLine (join " + ".toList tts) = sepBy (W "+") groups := by
        have e : " + ".toList = ' ' :: ("+".toList ++ [' ']) := by lit_decide
        rw [e, lexL_join _ (W "+") (isTok_lit _ (by lit_decide)) (by lit_decide), g2, List.map_id]
      have hjn : NoNL (join " + ".toList tts) := noNL_join _ _ (noNL_lit _ (by lit_decide)) g3
      obtain ⟨h1, h2⟩ := htail _ _ hj hjn
      simp only [hm']
      exact ⟨_, _, by simp only [List.append_assoc], rfl, h1, h2⟩

end Cnfgen.IO
