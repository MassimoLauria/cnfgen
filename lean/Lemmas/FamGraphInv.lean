/-
The hypothesis `Fam.GoodGraph` of the graph families of C02 holds of every `Graph` object that
satisfies the representation invariant of Lemmas/GraphInv.lean.
-/
import Lemmas.FamGraph
import Lemmas.GraphInv
namespace Cnfgen.Fam

theorem goodGraph_of_inv (G : SimpleG) (h : SimpleG.Inv G) : GoodGraph G := by
  refine ⟨h.nbrs_of_not_vertex (by omega), h.m_eq_length_edges,
    fun u _ => ⟨h.nbrs_sorted u, fun v hv => ?_⟩⟩
  have r := h.nbrs_range hv
  exact ⟨r.2.2.1, r.2.2.2.1, fun e => r.2.2.2.2 e.symm, h.mem_nbrs_comm.1 hv⟩

end Cnfgen.Fam
