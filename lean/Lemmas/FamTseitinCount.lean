/-
The model count of the Tseitin formula: a satisfiable instance has exactly `2^(|E| - |V| + c)`
models over the edge variables `1..|E|`, `c` the number of connected components.

Route (no linear-algebra library, two applications of `xorHom_card`):
* the boundary map `bdry : (edge variables → Bool) → (vertices → Bool)`, `x ↦ (parity of the true
  edges at v)_v`, is xor-linear; the models for a charge vector `χ` are the fibre `bdry⁻¹ χ`, and
  a non-empty fibre is a translate of the kernel (`x ↦ x xor x₀`): `2^|E| = |ker| · |im bdry|`;
* `im bdry` = the charge vectors with an even number of odd vertices in every component (the
  satisfiability criterion of `Lemmas/FamTseitinConv.lean`: `closed_par_even`, `par_surj`), i.e. the
  kernel of the xor-linear map `compPar : (vertices → Bool) → (representatives → Bool)`, which is
  onto: `2^|V| = |im bdry| · 2^c`;
* hence `|ker| · 2^|V| = 2^(|E| + c)`.
-/
import Lemmas.FamTseitinConv
import Lemmas.FamTseitinCountGen
import Mathlib.Algebra.BigOperators.Group.Finset.Lemmas
import Mathlib.Data.Fintype.Sets
namespace Cnfgen
namespace Fam

variable {G : SimpleG}

abbrev EdgeIdx (G : SimpleG) := {e // e ∈ Finset.Icc 1 G.m}
abbrev VertIdx (G : SimpleG) := {v // v ∈ Finset.Icc 1 G.n}
abbrev RepIdx (G : SimpleG) := {r // r ∈ reps G}
abbrev EdgeVec (G : SimpleG) := EdgeIdx G → Bool
abbrev VertVec (G : SimpleG) := VertIdx G → Bool
abbrev RepVec (G : SimpleG) := RepIdx G → Bool

def extE (G : SimpleG) (x : EdgeVec G) : Assign :=
  fun i => if h : i ∈ Finset.Icc 1 G.m then x ⟨i, h⟩ else false

def resE (G : SimpleG) (α : Assign) : EdgeVec G := fun e => α e.1

def extV (G : SimpleG) (χ : VertVec G) : Nat → Bool :=
  fun v => if h : v ∈ Finset.Icc 1 G.n then χ ⟨v, h⟩ else false

theorem card_edgeIdx (G : SimpleG) : Fintype.card (EdgeIdx G) = G.m := by
  rw [Fintype.card_coe]; simp

theorem card_vertIdx (G : SimpleG) : Fintype.card (VertIdx G) = G.n := by
  rw [Fintype.card_coe]; simp

theorem card_repIdx (G : SimpleG) : Fintype.card (RepIdx G) = components G := by
  rw [Fintype.card_coe]; rfl

theorem resE_extE (x : EdgeVec G) : resE G (extE G x) = x := by
  funext ⟨e, he⟩
  simp [resE, extE, he]

theorem extE_resE (α : Assign) {i : Nat} (hi : i ∈ Finset.Icc 1 G.m) : extE G (resE G α) i = α i := by
  simp [resE, extE, hi]

theorem extE_bxor (x y : EdgeVec G) : extE G (bxor x y) = bxor (extE G x) (extE G y) := by
  funext i
  show extE G (bxor x y) i = (extE G x i != extE G y i)
  unfold extE
  split <;> simp [bxor]

theorem extV_bxor (x y : VertVec G) (i : Nat) :
    extV G (bxor x y) i = (extV G x i != extV G y i) := by
  unfold extV
  split <;> simp [bxor]

theorem extV_of_mem (χ : VertVec G) {v : Nat} (hv : v ∈ Finset.Icc 1 G.n) :
    extV G χ v = χ ⟨v, hv⟩ :=
  dif_pos hv

theorem resV_eq_iff (f g : Nat → Bool) :
    ((fun v : VertIdx G => f v.1) = fun v => g v.1) ↔ ∀ v, 1 ≤ v → v ≤ G.n → f v = g v :=
  ⟨fun h v h1 h2 => congrFun h ⟨v, Finset.mem_Icc.2 ⟨h1, h2⟩⟩,
    fun h => funext fun v => h v.1 (Finset.mem_Icc.1 v.2).1 (Finset.mem_Icc.1 v.2).2⟩

def bdry (G : SimpleG) (x : EdgeVec G) : VertVec G := fun v => par G (extE G x) v.1

theorem bdry_hom (G : SimpleG) : XorHom (bdry G) := by
  intro x y
  funext v
  show par G (extE G (bxor x y)) v.1 = _
  rw [extE_bxor, par_hom]
  rfl

/-- the charge vector of the formula -/
def chV (G : SimpleG) (ch : Option (List Bool)) : VertVec G := fun v => chargeAt G.n ch v.1

theorem spec_iff_bdry (ch : Option (List Bool)) (x : EdgeVec G) :
    TseitinSpec G ch (extE G x) ↔ bdry G x = chV G ch :=
  (spec_iff_par ch _).trans (resV_eq_iff (par G (extE G x)) (chargeAt G.n ch)).symm

theorem vcount_resE (hG : GoodGraph G) (α : Assign) {v : Nat} (hv : v ≤ G.n) :
    vcount G (extE G (resE G α)) v = vcount G α v := by
  unfold vcount
  apply List.countP_congr
  intro u hu
  have hb := edgeId_bounds hG 1 hv hu
  rw [edgeId_comm] at hb
  have : edgeId G 1 u v ∈ Finset.Icc 1 G.m := by
    rw [Finset.mem_Icc, hG.2.1]; omega
  rw [extE_resE α this]

theorem par_resE (hG : GoodGraph G) (α : Assign) {v : Nat} (hv : v ≤ G.n) :
    par G (extE G (resE G α)) v = par G α v := by
  unfold par
  rw [vcount_resE hG α hv]

theorem spec_resE (hG : GoodGraph G) (ch : Option (List Bool)) (α : Assign) :
    TseitinSpec G ch (extE G (resE G α)) ↔ TseitinSpec G ch α := by
  rw [spec_iff_par, spec_iff_par]
  exact forall_congr' fun v => forall_congr' fun _ => forall_congr' fun h2 => by
    rw [par_resE hG α h2]

/-- number of odd-charged vertices in the component with representative `r` -/
noncomputable def compCnt (G : SimpleG) (χ : VertVec G) (r : Nat) : Nat :=
  ((Finset.Icc 1 G.n).filter (fun v => compSet G r v = true ∧ extV G χ v = true)).card

noncomputable def compPar (G : SimpleG) (χ : VertVec G) : RepVec G :=
  fun r => decide (compCnt G χ r.1 % 2 = 1)

theorem compCnt_bxor (x y : VertVec G) (r : Nat) :
    compCnt G (bxor x y) r % 2 = (compCnt G x r + compCnt G y r) % 2 := by
  unfold compCnt
  rw [← card_filter_bxor_mod2]
  congr 2
  apply Finset.filter_congr
  intro v _
  rw [extV_bxor]

theorem compPar_hom (G : SimpleG) : XorHom (compPar G) := by
  intro x y
  funext r
  show decide (compCnt G (bxor x y) r.1 % 2 = 1) =
    (decide (compCnt G x r.1 % 2 = 1) != decide (compCnt G y r.1 % 2 = 1))
  rw [compCnt_bxor, decide_add_odd]

theorem compPar_eq_bzero_iff (χ : VertVec G) : compPar G χ = bzero ↔ ∀ r ∈ reps G,
    Even ((Finset.Icc 1 G.n).filter (fun v => compSet G r v = true ∧ extV G χ v = true)).card :=
  ⟨fun h r hr => (decide_odd_eq_false_iff _).1 (congrFun h ⟨r, hr⟩),
    fun h => funext fun r => (decide_odd_eq_false_iff _).2 (h r.1 r.2)⟩

theorem mem_image_bdry (hG : GoodGraph G) (χ : VertVec G) :
    χ ∈ Finset.univ.image (bdry G) ↔ compPar G χ = bzero := by
  rw [compPar_eq_bzero_iff]
  constructor
  · intro h r _
    obtain ⟨x, _, rfl⟩ := Finset.mem_image.1 h
    rw [Finset.filter_congr (q := fun v => compSet G r v = true ∧ par G (extE G x) v = true)
      fun v hv => by rw [extV_of_mem (bdry G x) hv]; rfl]
    exact closed_par_even hG (extE G x) (compSet G r) (compSet_closed hG r)
  · intro h
    obtain ⟨α, hα⟩ := par_surj hG (extV G χ) h
    refine Finset.mem_image.2 ⟨resE G α, Finset.mem_univ _, funext fun v => ?_⟩
    have hv := Finset.mem_Icc.1 v.2
    show par G (extE G (resE G α)) v.1 = χ v
    rw [par_resE hG α hv.2, hα v.1 hv.1 hv.2, extV_of_mem χ v.2]

/-- put the bit of a component on its representative, `false` elsewhere -/
noncomputable def repLift (G : SimpleG) (τ : RepVec G) : VertVec G :=
  fun v => if h : v.1 ∈ reps G then τ ⟨v.1, h⟩ else false

theorem extV_repLift (τ : RepVec G) (v : Nat) :
    extV G (repLift G τ) v = if h : v ∈ reps G then τ ⟨v, h⟩ else false := by
  unfold extV
  by_cases hv : v ∈ Finset.Icc 1 G.n
  · simp [hv, repLift]
  · have : v ∉ reps G := fun h => hv (Finset.mem_filter.1 h).1
    simp [hv, this]

theorem compPar_repLift (τ : RepVec G) : compPar G (repLift G τ) = τ := by
  funext r
  have hr := mem_reps.1 r.2
  have hset : (Finset.Icc 1 G.n).filter
        (fun v => compSet G r.1 v = true ∧ extV G (repLift G τ) v = true) =
      if τ r = true then {r.1} else ∅ := by
    ext v
    rw [Finset.mem_filter, extV_repLift]
    constructor
    · rintro ⟨_, hrep, hχ⟩
      by_cases hv : v ∈ reps G
      · rw [dif_pos hv] at hχ
        have hvr : v = r.1 := by rw [← (of_decide_eq_true hrep).2]; exact ((mem_reps.1 hv).2).symm
        have : (⟨v, hv⟩ : RepIdx G) = r := Subtype.ext hvr
        rw [this] at hχ
        simp [hχ, hvr]
      · rw [dif_neg hv] at hχ; cases hχ
    · intro hv
      by_cases hτ : τ r = true
      · rw [if_pos hτ, Finset.mem_singleton] at hv
        subst hv
        refine ⟨Finset.mem_Icc.2 hr.1, decide_eq_true ⟨hr.1.2, hr.2⟩, ?_⟩
        rw [dif_pos r.2]; exact hτ
      · rw [if_neg hτ] at hv; simp at hv
  show decide (compCnt G (repLift G τ) r.1 % 2 = 1) = τ r
  unfold compCnt
  rw [hset]
  cases τ r <;> simp

theorem kernel_card_mul (hG : GoodGraph G) :
    (Finset.univ.filter (fun x : EdgeVec G => bdry G x = bzero)).card * 2 ^ G.n =
      2 ^ (G.m + components G) := by
  have h1 := xorHom_card (bdry G) (bdry_hom G)
  have h2 := xorHom_card (compPar G) (compPar_hom G)
  rw [card_edgeIdx] at h1
  rw [card_vertIdx] at h2
  have h3 : Finset.univ.image (bdry G) = Finset.univ.filter (fun χ => compPar G χ = bzero) := by
    ext χ
    rw [mem_image_bdry hG]
    simp
  have h4 : Finset.univ.image (compPar G) = Finset.univ := by
    ext τ
    simp only [Finset.mem_image, Finset.mem_univ, true_and, iff_true]
    exact ⟨_, compPar_repLift τ⟩
  rw [h4, Finset.card_univ, Fintype.card_fun, Fintype.card_bool, card_repIdx] at h2
  rw [h3] at h1
  rw [h2, ← Nat.mul_assoc, ← h1, Nat.pow_add]

/-- so the subtraction in `|E| + c - |V|` (the cyclomatic number) does not truncate -/
theorem vertices_le_edges_add_components (hG : GoodGraph G) : G.n ≤ G.m + components G := by
  have h := kernel_card_mul hG
  have hd : 2 ^ G.n ∣ 2 ^ (G.m + components G) := ⟨_, by rw [← h, Nat.mul_comm]⟩
  exact (Nat.pow_dvd_pow_iff_le_right (by omega)).1 hd

theorem kernel_card (hG : GoodGraph G) :
    (Finset.univ.filter (fun x : EdgeVec G => bdry G x = bzero)).card =
      2 ^ (G.m + components G - G.n) := by
  have h := kernel_card_mul hG
  have hle := vertices_le_edges_add_components hG
  have hp : 2 ^ (G.m + components G) = 2 ^ (G.m + components G - G.n) * 2 ^ G.n := by
    rw [← Nat.pow_add, Nat.sub_add_cancel hle]
  rw [hp] at h
  exact Nat.eq_of_mul_eq_mul_right (Nat.pow_pos (by omega)) h

theorem fiber_card (hG : GoodGraph G) (x₀ : EdgeVec G) :
    (Finset.univ.filter (fun x : EdgeVec G => bdry G x = bdry G x₀)).card =
      2 ^ (G.m + components G - G.n) := by
  rw [xorHom_fiber_card (bdry G) (bdry_hom G) x₀, kernel_card hG]

end Fam
end Cnfgen
