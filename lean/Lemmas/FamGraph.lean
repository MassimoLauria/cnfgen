/-
Helper lemmas for the graph families of C02: the graph invariant `GoodGraph`, `G.edges()` and the identifier
arithmetic of `GraphEdgesVariables` (`edgeId`), and the example graph `exG`.
-/
import CnfgenModel.Fam.Tseitin
import CnfgenModel.Fam.Coloring
import Mathlib.Algebra.BigOperators.Group.Finset.Basic
import Mathlib.Algebra.BigOperators.Group.Finset.Piecewise
import Mathlib.Algebra.Group.Even
import Mathlib.Data.List.Sort
import Lemmas.Handshake
namespace Cnfgen
namespace Fam

/-- What the graph families assume of a `cnfgen.graphs.Graph` value (invariants of every object
reachable through the class's methods — proved for reachable graphs in C16): slot 0 of the
adjacency table is empty, the edge counter is the number of listed edges, and for every vertex
the neighbour list is strictly increasing, within `1..n`, loop-free and symmetric.
(`Props/C02/Graphs1.lean` assumes this one.  `Fam.G2.GoodGraph` in `Lemmas/FamIso.lean` is another, weaker
hypothesis on the same objects — `has_edge` symmetric and irreflexive — assumed by `Props/C02/Graphs2.lean`.) -/
def GoodGraph (G : SimpleG) : Prop :=
  G.nbrs 0 = [] ∧ G.m = G.edges.length ∧
  ∀ u ∈ List.range (G.n + 1), (G.nbrs u).Pairwise (· < ·) ∧
    ∀ v ∈ G.nbrs u, 1 ≤ v ∧ v ≤ G.n ∧ v ≠ u ∧ u ∈ G.nbrs v

instance (G : SimpleG) : Decidable (GoodGraph G) := by unfold GoodGraph; infer_instance

namespace GoodGraph
variable {G : SimpleG}

theorem sorted (h : GoodGraph G) {u : Nat} (hu : u ≤ G.n) : (G.nbrs u).Pairwise (· < ·) :=
  (h.2.2 u (by simp; omega)).1

theorem nodup (h : GoodGraph G) {u : Nat} (hu : u ≤ G.n) : (G.nbrs u).Nodup :=
  (h.sorted hu).nodup

theorem mem (h : GoodGraph G) {u v : Nat} (hu : u ≤ G.n) (hv : v ∈ G.nbrs u) :
    1 ≤ v ∧ v ≤ G.n ∧ v ≠ u ∧ u ∈ G.nbrs v :=
  (h.2.2 u (by simp; omega)).2 v hv

theorem pos_of_mem (h : GoodGraph G) {u v : Nat} (hu : u ≤ G.n) (hv : v ∈ G.nbrs u) : 1 ≤ u := by
  rcases Nat.eq_zero_or_pos u with h0 | h0
  · subst h0; rw [h.1] at hv; simp at hv
  · exact h0

theorem symm (h : GoodGraph G) {u v : Nat} (hu : u ≤ G.n) (hv : v ∈ G.nbrs u) : u ∈ G.nbrs v :=
  (h.mem hu hv).2.2.2

end GoodGraph

theorem drop_bisectRight (l : List Nat) (u : Nat) (h : l.Pairwise (· < ·)) :
    l.drop (bisectRight l u) = l.filter (fun x => u < x) := by
  induction l with
  | nil => simp [bisectRight]
  | cons x xs ih =>
    rw [List.pairwise_cons] at h
    by_cases hx : x ≤ u
    · simp only [bisectRight, hx, if_true, List.drop_succ_cons]
      rw [ih h.2, List.filter_cons]
      simp [Nat.not_lt.2 hx]
    · simp only [bisectRight, hx, if_false, List.drop_zero]
      symm
      rw [List.filter_eq_self]
      intro a ha
      simp only [List.mem_cons] at ha
      rcases ha with rfl | ha
      · simp; omega
      · have := h.1 a ha; simp; omega

theorem upNbrs_eq (h : GoodGraph G) {u : Nat} (hu : u ≤ G.n) :
    upNbrs G u = (G.nbrs u).filter (fun x => u < x) := by
  unfold upNbrs
  split
  · exact drop_bisectRight _ _ (h.sorted hu)
  · symm
    rw [List.filter_eq_nil_iff]
    intro v hv
    have := h.mem hu hv
    have := h.pos_of_mem hu hv
    simp only [decide_eq_true_eq]
    omega

theorem mem_upNbrs (h : GoodGraph G) {u v : Nat} :
    v ∈ upNbrs G u ↔ u < v ∧ v ∈ G.nbrs u ∧ u ≤ G.n := by
  by_cases hu : u ≤ G.n
  · rw [upNbrs_eq h hu, List.mem_filter, decide_eq_true_eq]
    exact ⟨fun ⟨a, b⟩ => ⟨b, a, hu⟩, fun ⟨a, b, _⟩ => ⟨b, a⟩⟩
  · have : upNbrs G u = [] := by unfold upNbrs; rw [if_neg]; omega
    rw [this]
    simp [hu]

theorem upNbrs_sorted (h : GoodGraph G) (u : Nat) : (upNbrs G u).Pairwise (· < ·) := by
  unfold upNbrs
  split
  · rename_i hc
    exact (h.sorted (Nat.le_of_lt hc.2)).sublist (List.drop_sublist _ _)
  · exact List.Pairwise.nil

theorem upNbrs_nodup (h : GoodGraph G) (u : Nat) : (upNbrs G u).Nodup :=
  (upNbrs_sorted h u).nodup

/-- `G.edges()` is the concatenation of the rows of the auxiliary bipartite graph -/
theorem edges_eq (G : SimpleG) :
    G.edges = (List.range (G.n - 1)).flatMap (fun i => (upNbrs G (i + 1)).map (fun v => (i + 1, v))) := by
  unfold SimpleG.edges
  apply List.flatMap_congr
  intro i hi
  simp only [List.mem_range] at hi
  unfold upNbrs SimpleG.nbrs
  rw [if_pos (by omega)]

theorem mem_edges (h : GoodGraph G) {u v : Nat} :
    (u, v) ∈ G.edges ↔ u < v ∧ v ∈ G.nbrs u ∧ u ≤ G.n := by
  rw [edges_eq]
  simp only [List.mem_flatMap, List.mem_range, List.mem_map, Prod.mk.injEq]
  constructor
  · rintro ⟨i, _, w, hw, rfl, rfl⟩
    exact (mem_upNbrs h).1 hw
  · intro hh
    have hw := (mem_upNbrs h).2 hh
    have hu1 := h.pos_of_mem hh.2.2 hh.2.1
    have hvn := (h.mem hh.2.2 hh.2.1).2.1
    exact ⟨u - 1, by omega, v, by rw [Nat.sub_add_cancel hu1]; exact hw, by omega, rfl⟩

def rowLen (G : SimpleG) (i : Nat) : Nat := (upNbrs G (i + 1)).length

theorem edgeOffset_eq (G : SimpleG) (s u : Nat) :
    edgeOffset G s u = s + ((List.range (u - 1)).map (rowLen G)).sum := rfl

theorem edges_length (G : SimpleG) : G.edges.length = ((List.range (G.n - 1)).map (rowLen G)).sum := by
  rw [edges_eq, List.length_flatMap]
  congr 1
  apply List.map_congr_left
  intro i _
  simp [rowLen]

theorem prefix_sum_mono (a : Nat → Nat) {k m : Nat} (hkm : k ≤ m) :
    ((List.range k).map a).sum ≤ ((List.range m).map a).sum := by
  induction m with
  | zero => have : k = 0 := by omega
            subst this; simp
  | succ m ih =>
    rcases Nat.eq_or_lt_of_le hkm with rfl | hlt
    · exact Nat.le_refl _
    · have := ih (by omega)
      rw [List.range_succ, List.map_append, List.sum_append]
      omega

theorem prefix_sum_succ (a : Nat → Nat) (k : Nat) :
    ((List.range (k + 1)).map a).sum = ((List.range k).map a).sum + a k := by
  rw [List.range_succ, List.map_append, List.sum_append]; simp

/-- the identifiers of the edges `(u, ·)` end before those of a later vertex begin -/
theorem edgeOffset_add_le (G : SimpleG) (s : Nat) {u u' : Nat} (hu1 : 1 ≤ u) (h : u < u') :
    edgeOffset G s u + (upNbrs G u).length ≤ edgeOffset G s u' := by
  rw [edgeOffset_eq, edgeOffset_eq]
  have h1 := prefix_sum_succ (rowLen G) (u - 1)
  have h2 := prefix_sum_mono (rowLen G) (k := u - 1 + 1) (m := u' - 1) (by omega)
  have h3 : rowLen G (u - 1) = (upNbrs G u).length := by
    simp only [rowLen]; rw [Nat.sub_add_cancel hu1]
  omega

theorem edgeId_bounds (h : GoodGraph G) (s : Nat) {u v : Nat} (hu : u ≤ G.n) (hv : v ∈ G.nbrs u) :
    s ≤ edgeId G s u v ∧ edgeId G s u v < s + G.edges.length := by
  have hm := h.mem hu hv
  have hu1 := h.pos_of_mem hu hv
  -- a := min, b := max; b ∈ upNbrs a
  have key : ∀ a b, a < b → b ∈ G.nbrs a → a ≤ G.n → 1 ≤ a → b ≤ G.n →
      s ≤ edgeOffset G s a + (upNbrs G a).idxOf b ∧
      edgeOffset G s a + (upNbrs G a).idxOf b < s + G.edges.length := by
    intro a b hab hb han ha1 hbn
    have hidx := List.idxOf_lt_length_iff.2 ((mem_upNbrs h).2 ⟨hab, hb, han⟩)
    have hle := edgeOffset_add_le G s ha1 (Nat.lt_of_lt_of_le hab hbn)
    have hs : s ≤ edgeOffset G s a := by rw [edgeOffset_eq]; omega
    rw [edgeOffset_eq G s G.n, ← edges_length] at hle
    omega
  unfold edgeId
  rcases Nat.lt_or_gt_of_ne hm.2.2.1 with hlt | hgt
  · -- v < u
    rw [Nat.min_eq_right (Nat.le_of_lt hlt), Nat.max_eq_left (Nat.le_of_lt hlt)]
    exact key v u hlt hm.2.2.2 hm.2.1 hm.1 hu
  · rw [Nat.min_eq_left (Nat.le_of_lt hgt), Nat.max_eq_right (Nat.le_of_lt hgt)]
    exact key u v hgt hv hu hu1 hm.2.1

theorem edgeId_comm (G : SimpleG) (s u v : Nat) : edgeId G s u v = edgeId G s v u := by
  unfold edgeId; rw [Nat.min_comm, Nat.max_comm]

theorem edgeId_inj (h : GoodGraph G) (s : Nat) {u v u' v' : Nat}
    (huv : u < v) (hv : v ∈ G.nbrs u) (hu : u ≤ G.n)
    (huv' : u' < v') (hv' : v' ∈ G.nbrs u') (hu' : u' ≤ G.n)
    (he : edgeId G s u v = edgeId G s u' v') : u = u' ∧ v = v' := by
  have hm : v ∈ upNbrs G u := (mem_upNbrs h).2 ⟨huv, hv, hu⟩
  have hm' : v' ∈ upNbrs G u' := (mem_upNbrs h).2 ⟨huv', hv', hu'⟩
  have hi := List.idxOf_lt_length_iff.2 hm
  have hi' := List.idxOf_lt_length_iff.2 hm'
  unfold edgeId at he
  rw [Nat.min_eq_left (Nat.le_of_lt huv), Nat.max_eq_right (Nat.le_of_lt huv),
      Nat.min_eq_left (Nat.le_of_lt huv'), Nat.max_eq_right (Nat.le_of_lt huv')] at he
  have huu : u = u' := by
    rcases Nat.lt_trichotomy u u' with hlt | heq | hgt
    · have := edgeOffset_add_le G s (h.pos_of_mem hu hv) hlt; omega
    · exact heq
    · have := edgeOffset_add_le G s (h.pos_of_mem hu' hv') hgt; omega
  subst huu
  exact ⟨rfl, (List.idxOf_inj hm).1 (by omega)⟩

theorem edgeId_inj_unordered (hG : GoodGraph G) (s : Nat) {a b c d : Nat}
    (hb : b ≤ G.n) (ha : a ∈ G.nbrs b) (hd : d ≤ G.n) (hc : c ∈ G.nbrs d)
    (he : edgeId G s a b = edgeId G s c d) : (a = c ∧ b = d) ∨ (a = d ∧ b = c) := by
  have ma := hG.mem hb ha
  have mc := hG.mem hd hc
  rcases Nat.lt_or_gt_of_ne ma.2.2.1 with hab | hba
  · -- a < b
    rcases Nat.lt_or_gt_of_ne mc.2.2.1 with hcd | hdc
    · have := edgeId_inj hG s hab ma.2.2.2 ma.2.1 hcd mc.2.2.2 mc.2.1 he
      exact Or.inl this
    · rw [edgeId_comm G s c d] at he
      have := edgeId_inj hG s hab ma.2.2.2 ma.2.1 hdc hc hd he
      exact Or.inr this
  · -- b < a
    rw [edgeId_comm G s a b] at he
    rcases Nat.lt_or_gt_of_ne mc.2.2.1 with hcd | hdc
    · have := edgeId_inj hG s hba ha hb hcd mc.2.2.2 mc.2.1 he
      exact Or.inr ⟨this.2, this.1⟩
    · rw [edgeId_comm G s c d] at he
      have := edgeId_inj hG s hba ha hb hdc hc hd he
      exact Or.inl ⟨this.2, this.1⟩

/-- `Graph(6)` after `add_edge` of 1-2, 2-3, 1-3, 4-5 (a triangle, an edge and an isolated vertex): a concrete
good graph, so that the hypothesis `GoodGraph` is not vacuous -/
def exG : SimpleG :=
  ⟨6, 4, [[], [2, 3], [1, 3], [1, 2], [5], [4], []],
    [(5, 4), (4, 5), (3, 1), (1, 3), (3, 2), (2, 3), (2, 1), (1, 2)]⟩

theorem exG_reachable : SimpleG.ofEdges 6 [(1, 2), (2, 3), (1, 3), (4, 5)] = .ok exG := by decide

theorem exG_good : GoodGraph exG := by decide

theorem exG_vertices {v : Nat} (h1 : 1 ≤ v) (h2 : v ≤ exG.n) :
    v = 1 ∨ v = 2 ∨ v = 3 ∨ v = 4 ∨ v = 5 ∨ v = 6 := by
  have : v ≤ 6 := h2
  omega

/-- the triangle `{1,2,3}` of `exG` is closed under adjacency -/
theorem exG_triangle_closed :
    ∀ v u, decide (v ≤ 3) = true → u ∈ exG.nbrs v → decide (u ≤ 3) = true := by
  intro v u hv hu
  simp only [decide_eq_true_eq] at hv ⊢
  have : v = 0 ∨ v = 1 ∨ v = 2 ∨ v = 3 := by omega
  rcases this with rfl | rfl | rfl | rfl <;> simp [exG, SimpleG.nbrs] at hu <;> omega

end Fam
end Cnfgen
