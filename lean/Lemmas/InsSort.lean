/-
Insertion into a sorted list, once for every copy of it in the model (`Rand.insertSorted`, `Solver.insertByVar`,
`Fam.insertSorted`, …): `ins` is any function with the two defining equations, `t x v` the test made at the
head `x` ("`x` stays before `v`"), `r` the order the result is sorted by.
-/
namespace Cnfgen.InsSort
variable {α : Type} {t r : α → α → Prop} [DecidableRel t] {ins : List α → α → List α}
  (h0 : ∀ v, ins [] v = [v])
  (h1 : ∀ x xs v, ins (x :: xs) v = if t x v then x :: ins xs v else v :: x :: xs)
include h0 h1

theorem ins_perm (l : List α) (v : α) : (ins l v).Perm (v :: l) := by
  induction l with
  | nil => rw [h0]
  | cons x xs ih =>
    rw [h1]
    split
    · exact (List.Perm.cons x ih).trans (List.Perm.swap v x xs)
    · exact List.Perm.refl _

theorem foldr_ins_perm (l : List α) : (l.foldr (fun x acc => ins acc x) []).Perm l := by
  induction l with
  | nil => exact List.Perm.refl _
  | cons x xs ih => exact (ins_perm h0 h1 _ x).trans (List.Perm.cons x ih)

theorem foldl_ins_perm (l acc : List α) : (l.foldl ins acc).Perm (l ++ acc) := by
  induction l generalizing acc with
  | nil => exact List.Perm.refl _
  | cons x xs ih =>
    exact (ih _).trans ((List.Perm.append_left xs (ins_perm h0 h1 acc x)).trans List.perm_middle)

theorem ins_sorted (hyes : ∀ a b, t a b → r a b) (hno : ∀ a b, ¬ t a b → r b a)
    (htr : ∀ a b c, r a b → r b c → r a c) {l : List α} (v : α) (h : l.Pairwise r) :
    (ins l v).Pairwise r := by
  induction l with
  | nil => rw [h0]; exact List.pairwise_singleton _ _
  | cons x xs ih =>
    rw [List.pairwise_cons] at h
    rw [h1]
    split
    · rename_i hxv
      refine List.pairwise_cons.2 ⟨fun y hy => ?_, ih h.2⟩
      rcases List.mem_cons.1 ((ins_perm h0 h1 xs v).mem_iff.1 hy) with rfl | hy
      · exact hyes _ _ hxv
      · exact h.1 y hy
    · rename_i hxv
      refine List.pairwise_cons.2 ⟨fun y hy => ?_, List.pairwise_cons.2 h⟩
      rcases List.mem_cons.1 hy with rfl | hy
      · exact hno _ _ hxv
      · exact htr _ _ _ (hno _ _ hxv) (h.1 y hy)

theorem foldr_ins_sorted (hyes : ∀ a b, t a b → r a b) (hno : ∀ a b, ¬ t a b → r b a)
    (htr : ∀ a b c, r a b → r b c → r a c) (l : List α) :
    (l.foldr (fun x acc => ins acc x) []).Pairwise r := by
  induction l with
  | nil => exact List.Pairwise.nil
  | cons x xs ih => exact ins_sorted h0 h1 hyes hno htr x ih

end Cnfgen.InsSort
