/-
C19: `Acts r s0 s` — `s` is reached from `s0` by the eight things (staying put is one) the modelled code ever does through the
formula at `r`. Size, the region discipline (`Good`) and the footprint discipline (`Step`, hence well-typedness) are proved by
induction over the eight; an operation of the model then needs one lemma: "it is a sequence of these".
-/
import Lemmas.HeapRep
namespace Cnfgen
namespace Heap
local notation "Addr" => Nat

inductive Acts (r : Nat) (s0 : Store) : Store → Prop where
  | refl : Acts r s0 s0
  /-- a new object that holds no address -/
  | leaf {s : Store} (c : Cell) : Acts r s0 s → c.refsOf = [] → Acts r s0 (alloc s c).1
  /-- `self._numvar = n` -/
  | numvar {s : Store} {o : Obj} (n : Nat) : Acts r s0 s → readCNF s r = some o →
      Acts r s0 (write s r (.cnf o.cl o.hd o.gr n))
  /-- `self.header[k] = v` -/
  | header {s : Store} {o : Obj} {es : Hdr} (es' : Hdr) : Acts r s0 s → readCNF s r = some o →
      readDict s o.hd = some es → Acts r s0 (write s o.hd (.dict es'))
  /-- `self._groups.append(vg)` -/
  | groups {s : Store} {o : Obj} {gs : List Vars.Group} (gs' : List Vars.Group) : Acts r s0 s → readCNF s r = some o →
      readGroups s o.gr = some gs → Acts r s0 (write s o.gr (.groups gs'))
  /-- `self._clauses.append(d)` for a list `d` made since `s0` -/
  | append {s : Store} {o : Obj} {d : Nat} {xs : List Int} : Acts r s0 s → readCNF s r = some o → s0.size ≤ d →
      s[d]? = some (.ints xs) → Acts r s0 (appendRef s o.cl d)
  /-- `self.header = d` for a dictionary `d` made since `s0` -/
  | rebind {s : Store} {o : Obj} {d : Nat} {es : Hdr} : Acts r s0 s → readCNF s r = some o → s0.size ≤ d →
      s[d]? = some (.dict es) → Acts r s0 (write s r (.cnf o.cl d o.gr o.nv))
  /-- `c[j] = v` for a stored clause object `c` (what iteration hands out) -/
  | lit {s : Store} {o : Obj} {as : List Addr} {a : Nat} {xs : List Int} (ys : List Int) : Acts r s0 s →
      readCNF s r = some o → readRefs s o.cl = some as → a ∈ as → s[a]? = some (.ints xs) →
      Acts r s0 (write s a (.ints ys))

theorem Acts.size_le {r : Nat} {s0 s : Store} (h : Acts r s0 s) : s0.size ≤ s.size := by
  induction h with
  | refl => exact Nat.le_refl _
  | leaf c _ _ ih => exact Nat.le_trans ih (by simp)
  | numvar | header | groups | append | rebind | lit => simpa

theorem Acts.good {r : Nat} {s1 s0 s : Store} (h : Acts r s0 s) (h0 : Good s1 s0) (hr : s1.size ≤ r) : Good s1 s := by
  induction h with
  | refl => exact h0
  | leaf c _ hc ih => exact good_alloc ih (by rw [hc]; simp)
  | numvar n _ ho ih => exact good_write ih hr (by simpa [Cell.refsOf, InR] using good_slots ih hr ho)
  | header es' _ ho _ ih => exact good_write ih (good_slots ih hr ho).2.1.1 (by simp [Cell.refsOf])
  | groups gs' _ ho _ ih => exact good_write ih (good_slots ih hr ho).2.2.1 (by simp [Cell.refsOf])
  | append _ ho hd hx ih =>
    exact good_appendRef ih (good_slots ih hr ho).1.1 ⟨Nat.le_trans h0.size_le hd, lt_size_of_getElem? hx⟩
  | rebind _ ho hd hx ih =>
    obtain ⟨hcl, _, hgr⟩ := good_slots ih hr ho
    exact good_write ih hr (by
      simp only [Cell.refsOf, List.mem_cons, List.not_mem_nil, or_false]
      rintro x (rfl | rfl | rfl)
      · exact hcl
      · exact ⟨Nat.le_trans h0.size_le hd, lt_size_of_getElem? hx⟩
      · exact hgr)
  | lit ys _ ho hc ha _ ih =>
    have hcl := (good_slots ih hr ho).1
    exact good_write ih (ih.closed _ _ hcl.1 (readRefs_eq_some.1 hc) _ ha).1 (by simp [Cell.refsOf])

theorem Step.extend {s0 s s' : Store} {x : Nat} {R R' : Snap} {cl hd gr cl' hd' gr' : Nat} {as as' : List Addr}
    (h : Step s0 x s) (L : Layout s x R cl hd gr as) (L' : Layout s' x R' cl' hd' gr' as') (hsz : s.size ≤ s'.size)
    (hw : ∀ a : Nat, a < s.size → a ∉ x :: cl :: hd :: gr :: as → s'[a]? = s[a]?)
    (hg : ∀ a ∈ x :: cl' :: hd' :: gr' :: as', a ∈ x :: cl :: hd :: gr :: as ∨ s0.size ≤ a) : Step s0 x s' := by
  have fp := footprint_eq L.hx L.hcl
  have fp' := footprint_eq L'.hx L'.hcl
  have hs := h.size_le
  refine ⟨wt_iff_snap.mpr ⟨R', L'.snap⟩, Nat.le_trans hs hsz, ?_, ?_⟩
  · intro a ha hnot
    rw [← h.touch a ha hnot]
    apply hw a (by omega)
    rw [← fp]
    intro hmem
    rcases h.grow a hmem with h1 | h1
    · exact hnot h1
    · omega
  · intro a ha
    rw [fp'] at ha
    have hlt := footprint_inbounds L'.snap a (fp' ▸ ha)
    rcases hg a ha with h1 | h1
    · rw [← fp] at h1
      rcases h.grow a h1 with h2 | h2
      · exact Or.inl h2
      · exact Or.inr ⟨h2.1, hlt⟩
    · exact Or.inr ⟨h1, hlt⟩

theorem Step.layout {s0 s : Store} {x : Nat} {o : Obj} (h : Step s0 x s) (ho : readCNF s x = some o) :
    ∃ R cl hd gr as, Layout s x R cl hd gr as ∧ o = ⟨cl, hd, gr, R.numvar⟩ := by
  obtain ⟨R, hR⟩ := wt_iff_snap.mp h.wt
  obtain ⟨cl, hd, gr, as, L⟩ := snap_iff.mp hR
  refine ⟨R, cl, hd, gr, as, L, ?_⟩
  have := readCNF_eq_some.1 ho
  rw [L.hx] at this
  cases o; simp_all

theorem Step.write {s0 s : Store} {x a : Nat} {c : Cell} {R R' : Snap} {cl hd gr cl' hd' gr' : Nat} {as as' : List Addr}
    (h : Step s0 x s) (L : Layout s x R cl hd gr as) (ha : a ∈ x :: cl :: hd :: gr :: as)
    (L' : Layout (write s a c) x R' cl' hd' gr' as')
    (hg : ∀ b ∈ x :: cl' :: hd' :: gr' :: as', b ∈ x :: cl :: hd :: gr :: as ∨ s0.size ≤ b) : Step s0 x (write s a c) :=
  h.extend L L' (by simp) (fun b _ hn => get_write_ne (by rintro rfl; exact hn ha)) hg

theorem Acts.step {x : Nat} {s0 s : Store} (h : Acts x s0 s) (hwt : WT s0 x) : Step s0 x s := by
  induction h with
  | refl => exact Step.refl hwt
  | @leaf s c _ _ ih =>
    obtain ⟨R, hR⟩ := wt_iff_snap.mp ih.wt
    obtain ⟨cl, hd, gr, as, L⟩ := snap_iff.mp hR
    exact ih.extend L (layout_alloc L c) (by simp) (fun a ha _ => get_alloc_lt ha) (fun a ha => Or.inl ha)
  | numvar n _ ho ih =>
    obtain ⟨R, cl, hd, gr, as, L, rfl⟩ := ih.layout ho
    exact ih.write L (by simp) (snap_write_numvar L n) (fun _ hb => Or.inl hb)
  | header es' _ ho _ ih =>
    obtain ⟨R, cl, hd, gr, as, L, rfl⟩ := ih.layout ho
    exact ih.write L (by simp) (snap_write_header L es') (fun _ hb => Or.inl hb)
  | groups gs' _ ho _ ih =>
    obtain ⟨R, cl, hd, gr, as, L, rfl⟩ := ih.layout ho
    exact ih.write L (by simp) (snap_write_groups L gs') (fun _ hb => Or.inl hb)
  | @append s o d xs _ ho hd hx ih =>
    obtain ⟨R, cl, hd', gr, as, L, rfl⟩ := ih.layout ho
    have L' := layout_append L d xs hx
    rw [appendRef_eq L.hcl] at L' ⊢
    refine ih.write L (by simp) L' (fun b hb => ?_)
    -- the new footprint is the old one and `d`
    rcases List.mem_append (s := x :: cl :: hd' :: gr :: as).1 hb with hb | hb
    · exact Or.inl hb
    · rw [List.mem_singleton.1 hb]; exact Or.inr hd
  | @rebind s o d es _ ho hd hx ih =>
    obtain ⟨R, cl, hd', gr, as, L, rfl⟩ := ih.layout ho
    refine ih.write L (by simp) (layout_rebind L hx) (fun b hb => ?_)
    simp only [List.mem_cons] at hb ⊢
    rcases hb with rfl | rfl | rfl | rfl | hb <;> simp [*]
  | @lit s o as' a xs ys _ ho hc ha hx ih =>
    obtain ⟨R, cl, hd, gr, as, L, rfl⟩ := ih.layout ho
    obtain rfl : as = as' := by have := readRefs_eq_some.1 hc; rw [L.hcl] at this; cases this; rfl
    have ba := lt_size_of_getElem? hx
    obtain ⟨cs', hcs'⟩ := readIntsAll_isSome (s := write s a (.ints ys)) (as := as) (fun b hb => by
      by_cases e : a = b
      · exact ⟨ys, e ▸ get_write_eq ba⟩
      · obtain ⟨zs, hz⟩ := readIntsAll_typed L.hcs b hb
        exact ⟨zs, by rw [get_write_ne e]; exact hz⟩)
    have L' : Layout (write s a (.ints ys)) x { R with clauses := cs' } cl hd gr as :=
      ⟨get_write_other _ hx L.hx nofun, get_write_other _ hx L.hcl nofun, get_write_other _ hx L.hhd nofun,
        get_write_other _ hx L.hgr nofun, hcs'⟩
    exact ih.write L (by simp [ha]) L' (fun _ hb => Or.inl hb)

theorem acts_addClauseVals {r : Nat} {s0 s : Store} (xs : List Int) (check : Bool) (h : Acts r s0 s) :
    Acts r s0 (addClauseVals s r xs check).1 := by
  unfold addClauseVals
  split
  · exact h
  · rename_i o ho
    have hs := h.size_le
    have h1 : Acts r s0 (alloc s (.ints xs)).1 := h.leaf _ rfl
    have ho1 : readCNF (alloc s (.ints xs)).1 r = some o := by
      rw [readCNF_eq_some] at ho ⊢; rw [get_alloc_lt (lt_size_of_getElem? ho)]; exact ho
    have app : ∀ {s2 : Store} {o2 : Obj}, Acts r s0 s2 → readCNF s2 r = some o2 → o2.cl = o.cl →
        s2[s.size]? = some (.ints xs) → Acts r s0 (appendRef s2 o.cl s.size) :=
      fun h2 ho2 e hd => e ▸ h2.append ho2 hs hd
    simp only []
    split
    · exact app h1 ho1 rfl get_alloc_eq
    · split
      · split
        · exact h1
        · rename_i nv' _
          have hx := readCNF_eq_some.1 ho1
          refine app (o2 := ⟨o.cl, o.hd, o.gr, nv'⟩) (h1.numvar nv' ho1) ?_ rfl ?_
          · rw [readCNF_eq_some]; exact get_write_eq (lt_size_of_getElem? hx)
          · rw [get_write_ne (by have := lt_size_of_getElem? (readCNF_eq_some.1 ho); omega)]; exact get_alloc_eq
      · exact app h1 ho1 rfl get_alloc_eq

theorem acts_updVar {r : Nat} {s0 s : Store} (n : Int) (h : Acts r s0 s) : Acts r s0 (updVar s r n).1 := by
  unfold updVar
  split
  · exact h
  · rename_i o ho
    split
    · exact h
    · exact h.numvar _ ho

theorem acts_describe {r : Nat} {s0 s : Store} (text : String) (h : Acts r s0 s) : Acts r s0 (describe s r text).1 := by
  unfold describe
  split
  · exact h
  · rename_i o ho
    split
    · exact h
    · rename_i es he; exact h.header _ ho he

theorem acts_hdrSet {r : Nat} {s0 s : Store} (k v : String) (h : Acts r s0 s) : Acts r s0 (hdrSet s r k v).1 := by
  unfold hdrSet
  split
  · exact h
  · rename_i o ho
    split
    · exact h
    · rename_i es he; exact h.header _ ho he

theorem acts_newGroup {r : Nat} {s0 s : Store} (spec : Vars.GroupSpec) (h : Acts r s0 s) :
    Acts r s0 (newGroup s r spec).1 := by
  unfold newGroup
  split
  · exact h
  · rename_i o ho
    split
    · exact h
    · rename_i gs hg
      split
      · exact h
      · rename_i m _ _
        have hx := readCNF_eq_some.1 ho
        have ne : o.gr ≠ r := ne_of_cells (readGroups_eq_some.1 hg) hx nofun
        have ho' : readCNF (write s o.gr (.groups m.groups)) r = some o := by
          rw [readCNF_eq_some, get_write_ne ne]; exact hx
        exact (h.groups m.groups ho hg).numvar m.numvar ho'

theorem acts_copyHeader {r : Nat} {s0 s : Store} (src : Nat) (h : Acts r s0 s) : Acts r s0 (copyHeader s r src).1 := by
  unfold copyHeader
  split
  · rename_i o f ho hf
    split
    · exact h
    · rename_i es _
      have ho1 : readCNF (alloc s (.dict es)).1 r = some o := by
        rw [readCNF_eq_some] at ho ⊢; rw [get_alloc_lt (lt_size_of_getElem? ho)]; exact ho
      exact (h.leaf (.dict es) rfl).rebind ho1 h.size_le get_alloc_eq
  · exact h

theorem acts_addAllVals {r : Nat} {s0 : Store} (check : Bool) (cs : List (List Int)) (s : Store) (h : Acts r s0 s) :
    Acts r s0 (addAllVals s r check cs).1 :=
  addAllVals_inv (Acts r s0) r check (fun _ c h => acts_addClauseVals c check h) cs s h

theorem acts_addLinear {r : Nat} {s0 s : Store} (lits : List Int) (op : Op) (k : Int) (h : Acts r s0 s) :
    Acts r s0 (addLinear s r lits op k).1 := by
  unfold addLinear
  split
  · exact h
  · rename_i o ho
    split
    · exact acts_addAllVals false _ s h
    · split
      · exact h
      · exact acts_addAllVals false _ _ (h.numvar _ ho)

theorem acts_runAct {r : Nat} {s0 s : Store} (a : Act) (h : Acts r s0 s) : Acts r s0 (runAct s r a).1 := by
  cases a with
  | copyHeader src => exact acts_copyHeader src h
  | describe text => exact acts_describe text h
  | reshuffled =>
    simp only [runAct]
    split
    · exact h
    · rename_i o ho
      split
      · exact h
      · rename_i es he; exact h.header _ ho he
  | updVar n => exact acts_updVar n h
  | newGroup spec => exact acts_newGroup spec h
  | liftSelectors k =>
    simp only [runAct]
    split
    · exact h
    · exact addLinearAll_inv (Acts r s0) r _ _ (fun _ l h => acts_addLinear l _ _ h) _ s h
  | substFrom src enc =>
    simp only [runAct]
    split
    · exact h
    · split
      · exact h
      · exact substLoop_inv (Acts r s0) r _ (fun s b h => acts_addAllVals true b s h) _ s h
  | loadShuffled src tbl mapping =>
    exact shuffleLoop_inv (Acts r s0) r src tbl (fun _ c h => acts_addClauseVals c true h) mapping s h

/-- any list of statements executed on a formula, whatever they read, and also when one of them raises -/
theorem acts_runActs {r : Nat} {s0 : Store} (as : List Act) (s : Store) (h : Acts r s0 s) :
    Acts r s0 (runActs r s as).1 :=
  runActs_inv (Acts r s0) r (fun _ a h => acts_runAct a h) as s h

theorem acts_mut {x : Nat} {s0 s : Store} (m : Mut) (h : Acts x s0 s) : Acts x s0 (m.run s x).1 := by
  cases m with
  | addClause xs check => exact acts_addClauseVals xs check h
  | setLit i j v =>
    simp only [Mut.run, iterItem]
    cases ho : readCNF s x with
    | none => exact h
    | some o =>
      simp only []
      cases hc : readRefs s o.cl with
      | none => exact h
      | some as =>
        simp only []
        cases hidx : pyIdx as i with
        | error e => exact h
        | ok a =>
          simp only []
          rcases setItem_fst s a j v with e | ⟨ys, ys', hy, e⟩ <;> rw [e]
          · exact h
          · exact h.lit ys' ho hc (pyIdx_mem hidx) hy
  | hdrSet k v => exact acts_hdrSet k v h
  | updVar n => exact acts_updVar n h
  | newGroup spec => exact acts_newGroup spec h
  | describe text => exact acts_describe text h

theorem acts_runMuts {x : Nat} {s0 : Store} : ∀ (ms : List Mut) (s : Store), Acts x s0 s → Acts x s0 (runMuts x s ms)
  | [], _, h => h
  | m :: ms, _, h => acts_runMuts ms _ (acts_mut m h)

theorem step_mut {s : Store} {x : Nat} (m : Mut) (h : WT s x) : Step s x (m.run s x).1 :=
  (acts_mut m .refl).step h

theorem step_runMuts {x : Nat} (ms : List Mut) (s : Store) (h : WT s x) : Step s x (runMuts x s ms) :=
  (acts_runMuts ms s .refl).step h

theorem sep_runMuts {s : Store} {x y : Nat} (h : Sep s x y) (ms : List Mut) :
    snap (runMuts x s ms) y = snap s y ∧ Sep (runMuts x s ms) x y :=
  sep_step h (step_runMuts ms s h.wtx)

theorem good_hdrSet {s0 s : Store} {r : Addr} (k v : String) (h : Good s0 s) (hr : s0.size ≤ r) :
    Good s0 (hdrSet s r k v).1 :=
  (acts_hdrSet k v .refl).good h hr

theorem size_hdrSet (s : Store) (r : Addr) (k v : String) : s.size ≤ (hdrSet s r k v).1.size :=
  (acts_hdrSet k v .refl).size_le

end Heap
end Cnfgen
