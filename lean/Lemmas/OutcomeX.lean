/-
Lemmas for Props/C18/AllTokens.lean: the abstract check of CnfgenModel/Cli/OutcomeX.lean is sound — in every namespace
of a world, a path `callOK` accepts raises a shielded exception or makes a call `evalCallX` answers on.
-/
import CnfgenModel.Cli.OutcomeX
import Lemmas.ArgparseWorlds
namespace Cnfgen.Cli
open Cnfgen Cnfgen.Gen Cnfgen.GCli Cnfgen.GRand Cnfgen.Cli.AP

theorem arunG_sound (ord : List String → Nat) (w : World) (ns : Ns) (hw : gamW w ns)
    (ok : World → CallTemplate → Bool) (P : CallTemplate → Prop)
    (hok : ∀ w' t, gamW w' ns → ok w' t = true → P t) :
    ∀ (ts : List CallTemplate) (fs : Facts), Cons ord ns fs → arunG ok w ts fs = true →
      ∃ t ∈ ts, selectTemplate ns (ts.map (fixTemplate ord ns)) = .ok (fixTemplate ord ns t) ∧ P t :=
  run_sound ord w ns hw ok P hok (arunG ok w) (fun _ => rfl) (fun _ _ _ => rfl)

/-- a graph bound under `d` has the kind of an option that stores under `d` -/
def GKq (s : CliSpec) (q : String × Val) : Prop :=
  ∀ k t, q.2 = .graph k t → ∃ o ∈ s.opts ++ phpInner.poss, o.dest = q.1 ∧ graphKind o.action = some k

def GKns (s : CliSpec) (ns : Ns) : Prop := ∀ d v, ns.lookup d = some v → GKq s (d, v)

theorem destKind_of (s : CliSpec) (d k k' : String) (t : List String) (h : destKind s d k = true)
    (hq : GKq s (d, .graph k' t)) : k' = k := by
  obtain ⟨o, ho, hd, hk⟩ := hq k' t rfl
  unfold destKind at h
  have := (List.all_eq_true.1 h) o (List.mem_filter.2 ⟨ho, by simp [hd]⟩)
  rw [hk] at this
  simpa using this

def PSort.holds : PSort → Val → Prop
  | .graph k, v => ∃ t, v = .graph k t
  | .int, v => ∃ i, v = .int i
  | .bool, v => ∃ b, v = .bool b
  | .intNone, v => v = .none ∨ ∃ i, v = .int i
  | .anyv, _ => True
  | .opq, v => ∃ src, v = .opaque src

inductive holdsL : List PSort → List Val → Prop
  | cons {p ps v vs} : p.holds v → holdsL ps vs → holdsL (p :: ps) (v :: vs)
  | nil : holdsL [] []

theorem isBoolAV_gam (a : AV) (v : Val) (h : isBoolAV (some a) = true) (hg : gam a v) : ∃ b, v = .bool b := by
  cases a <;> simp [isBoolAV] at h
  · exact ⟨true, hg⟩
  · exact ⟨false, hg⟩
  · exact hg

theorem isGraphAV_gam (a : AV) (v : Val) (h : isGraphAV (some a) = true) (hg : gam a v) : ∃ k t, v = .graph k t := by
  cases a <;> simp [isGraphAV] at h
  · obtain ⟨k, c, r, hv, _⟩ := hg; exact ⟨k, c :: r, hv⟩
  · exact hg

theorem isStar_false (e : Expr) (h : isStar e = false) : ∀ x, e ≠ .star x := by
  intro x hx; subst hx; simp [isStar] at h

theorem aval_holds (ord : List String → Nat) (w : World) (ns : Ns) (hw : gamW w ns) (e : Expr) (P : Val → Prop)
    (q : AV → Bool) (hq : ∀ a v, q a = true → gam a v → P v)
    (h : (match aval w e with | some a => q a | Option.none => false) = true) :
    ∃ v, evalE ns (fixOrder ord ns e) = some v ∧ P v := by
  cases ha : aval w e with
  | none => rw [ha] at h; cases h
  | some a =>
    rw [ha] at h
    obtain ⟨v, hv, hg⟩ := aval_sound ord w ns hw _ a ha
    exact ⟨v, hv, hq a v h hg⟩

theorem sortOK_sound (ord : List String → Nat) (s : CliSpec) (w : World) (ns : Ns) (hw : gamW w ns)
    (hk : GKns s ns) (e : Expr) (p : PSort) (h : sortOK s w e p = true) :
    (∀ x, e ≠ .star x) ∧ ∃ v, evalE ns (fixOrder ord ns e) = some v ∧ p.holds v := by
  cases p with
  | graph k =>
    cases e <;> simp only [sortOK, Bool.false_eq_true] at h
    · rename_i d
      simp only [Bool.and_eq_true] at h
      refine ⟨fun x hx => (by cases hx), ?_⟩
      cases hl : w.lookup d with
      | none => rw [hl] at h; simp [isGraphAV] at h
      | some a =>
        rw [hl] at h
        obtain ⟨v, hv, hg⟩ := gamW_some w ns hw d a hl
        obtain ⟨k', t, rfl⟩ := isGraphAV_gam a v h.1 hg
        have := destKind_of s d k k' t h.2 (hk d _ hv)
        subst this
        exact ⟨_, by simp [fixOrder, evalE, hv], t, rfl⟩
    · rename_i k' sp
      simp only [Bool.and_eq_true, beq_iff_eq] at h
      obtain ⟨rfl, h2⟩ := h
      refine ⟨fun x hx => (by cases hx), ?_⟩
      cases ha : aval w (.mkgraph k' sp) with
      | none => rw [ha] at h2; simp [isGraphAV] at h2
      | some a =>
        rw [ha] at h2
        obtain ⟨v, hv, hg⟩ := aval_sound ord w ns hw _ a ha
        obtain ⟨k'', t, rfl⟩ := isGraphAV_gam a v h2 hg
        refine ⟨_, hv, ?_⟩
        simp only [fixOrder, evalE] at hv
        split at hv
        · simp at hv; exact ⟨_, by rw [← hv.1, ← hv.2]⟩
        · simp at hv
        · simp at hv
  | int =>
    simp only [sortOK, Bool.and_eq_true, Bool.not_eq_true'] at h
    exact ⟨isStar_false e h.1, aval_holds ord w ns hw e _ isIntLike isIntLike_val h.2⟩
  | bool =>
    simp only [sortOK, Bool.and_eq_true, Bool.not_eq_true'] at h
    refine ⟨isStar_false e h.1, aval_holds ord w ns hw e _ (fun a => isBoolAV (some a)) isBoolAV_gam ?_⟩
    generalize aval w e = o at h ⊢
    cases o <;> exact h.2
  | intNone =>
    simp only [sortOK, Bool.and_eq_true, Bool.not_eq_true'] at h
    exact ⟨isStar_false e h.1, aval_holds ord w ns hw e _ isIntNone isIntNone_val h.2⟩
  | anyv =>
    simp only [sortOK, Bool.and_eq_true, Bool.not_eq_true'] at h
    refine ⟨isStar_false e h.1, aval_holds ord w ns hw e _ (fun _ => true) (fun _ _ _ _ => trivial) ?_⟩
    generalize aval w e = o at h ⊢
    cases o <;> exact h.2
  | opq =>
    simp only [sortOK, Bool.and_eq_true, Bool.not_eq_true', beq_iff_eq] at h
    refine ⟨isStar_false e h.1, ?_⟩
    obtain ⟨v, hv, hg⟩ := aval_sound ord w ns hw _ .opq h.2
    exact ⟨v, hv, hg⟩

theorem posSorts_sound (ord : List String → Nat) (s : CliSpec) (w : World) (ns : Ns) (hw : gamW w ns)
    (hk : GKns s ns) : ∀ (es : List Expr) (ps : List PSort), posSortsOK s w es ps = true →
      ∃ vs, evalPos ns (es.map (fixOrder ord ns)) = some vs ∧ holdsL ps vs := by
  intro es
  induction es with
  | nil =>
    intro ps h
    cases ps with
    | nil => exact ⟨[], rfl, .nil⟩
    | cons p ps => simp [posSortsOK] at h
  | cons e rest ih =>
    intro ps h
    cases ps with
    | nil => simp [posSortsOK] at h
    | cons p ps =>
      simp only [posSortsOK, Bool.and_eq_true] at h
      obtain ⟨vs, hvs, hh⟩ := ih ps h.2
      obtain ⟨hns, v, hv, hp⟩ := sortOK_sound ord s w ns hw hk e p h.1
      exact ⟨v :: vs, evalPos_cons _ _ _ _ _ (fun x hx => let ⟨e', he'⟩ := fixOrder_star ord ns e x hx; hns e' he') hv hvs,
        .cons hp hh⟩

theorem evalKw_lookup (ord : List String → Nat) (w : World) (ns : Ns) (hw : gamW w ns) :
    ∀ (kw : List (String × Expr)), kw.all (fun p => (aval w p.2).isSome) = true →
      ∃ vs, evalKw ns (kw.map (fun p => (p.1, fixOrder ord ns p.2))) = some vs ∧
        ∀ k e, kw.lookup k = some e → isBoolAV (aval w e) = true → ∃ b, vs.lookup k = some (.bool b) := by
  intro kw
  induction kw with
  | nil => intro _; exact ⟨[], rfl, fun k e h => by simp at h⟩
  | cons p rest ih =>
    intro h
    obtain ⟨k0, e0⟩ := p
    simp only [List.all_cons, Bool.and_eq_true] at h
    obtain ⟨vs, hvs, hl⟩ := ih h.2
    cases ha : aval w e0 with
    | none => rw [ha] at h; simp at h
    | some a =>
      obtain ⟨v, hv, hg⟩ := aval_sound ord w ns hw e0 a ha
      refine ⟨(k0, v) :: vs, by simp only [List.map_cons, evalKw, hv, hvs], ?_⟩
      intro k e hke hb
      simp only [List.lookup] at hke ⊢
      by_cases hkk : (k == k0) = true
      · simp only [hkk] at hke ⊢
        simp at hke; subst hke
        rw [ha] at hb
        obtain ⟨b, rfl⟩ := isBoolAV_gam a v hb hg
        exact ⟨b, rfl⟩
      · have hkk' : (k == k0) = false := by simpa using hkk
        simp only [hkk'] at hke ⊢
        exact hl k e hke hb

theorem evalCallX_isSome_of_any (re : RandEnv) (env : GraphEnv) (g : SimpleG) (ns : Ns) (c : Call)
    (h : (evalCallAny env g ns c).isSome = true) : (evalCallX re env g ns c).isSome = true := by
  unfold evalCallX
  cases ha : evalCallAny env g ns c with
  | none => rw [ha] at h; simp at h
  | some b => rfl

theorem evalCallX_isSome_of_R (re : RandEnv) (env : GraphEnv) (g : SimpleG) (ns : Ns) (c : Call)
    (h : (evalCallR re env ns c).isSome = true) : (evalCallX re env g ns c).isSome = true := by
  unfold evalCallX
  cases ha : evalCallAny env g ns c with
  | none => exact h
  | some b => rfl

theorem sig_mapped (re : RandEnv) (env : GraphEnv) (g : SimpleG) (ns : Ns) (sg : Sig) (hsg : sg ∈ sigs) (c : Call)
    (hfn : c.fn = sg.fn) (hpos : holdsL sg.pos c.pos)
    (hkw : ∀ k ∈ sg.kws, ∃ b, c.kw.lookup k = some (.bool b))
    (hints : ∀ d ∈ sg.ints, ∃ i, ns.lookup d = some (.int i)) :
    (evalCallX re env g ns c).isSome = true := by
  obtain ⟨fn, pos, kw⟩ := c
  simp only [sigs, List.mem_cons, List.not_mem_nil, or_false] at hsg
  rcases hsg with rfl | rfl | rfl | rfl | rfl | rfl | rfl <;> dsimp only at hfn hpos hkw hints <;> subst hfn
  · -- GraphOrderingPrinciple
    obtain ⟨⟨t, rfl⟩, ⟨b1, rfl⟩, ⟨b2, rfl⟩, ⟨b3, rfl⟩, hk, ⟨⟩⟩ := hpos
    apply evalCallX_isSome_of_any
    rcases hk with rfl | ⟨i, rfl⟩ <;> rfl
  · -- OrderingPrinciple
    obtain ⟨⟨n, rfl⟩, ⟨b1, rfl⟩, ⟨b2, rfl⟩, ⟨b3, rfl⟩, hk, ⟨⟩⟩ := hpos
    apply evalCallX_isSome_of_any
    rcases hk with rfl | ⟨i, rfl⟩ <;> rfl
  · -- TseitinFormula
    obtain ⟨⟨t, rfl⟩, -, ⟨⟩⟩ := hpos
    exact evalCallX_isSome_of_R re env g ns _ rfl
  · -- GraphPigeonholePrinciple(B)
    obtain ⟨f, hf⟩ := hkw "functional" (by simp)
    obtain ⟨o, ho⟩ := hkw "onto" (by simp)
    obtain ⟨⟨t, rfl⟩, ⟨⟩⟩ := hpos
    apply evalCallX_isSome_of_any
    simp [evalCallAny, evalCallG, gHandlers, List.lookup, gGraphPhp, kwBool, hf, ho]
  · -- GraphPigeonholePrinciple(bipartite_random_left_regular(…))
    obtain ⟨f, hf⟩ := hkw "functional" (by simp)
    obtain ⟨o, ho⟩ := hkw "onto" (by simp)
    obtain ⟨p, hp⟩ := hints "pigeons" (by simp)
    obtain ⟨h, hh⟩ := hints "holes" (by simp)
    obtain ⟨d, hd⟩ := hints "degree" (by simp)
    obtain ⟨⟨src, rfl⟩, ⟨⟩⟩ := hpos
    apply evalCallX_isSome_of_R
    simp [evalCallR, kwBool, hf, ho, hp, hh, hd]
  · -- PigeonholePrinciple
    obtain ⟨f, hf⟩ := hkw "functional" (by simp)
    obtain ⟨o, ho⟩ := hkw "onto" (by simp)
    obtain ⟨⟨m, rfl⟩, ⟨n, rfl⟩, ⟨⟩⟩ := hpos
    apply evalCallX_isSome_of_any
    simp [evalCallAny, evalCallG, gHandlers, List.lookup, evalCallF, kwBool, hf, ho]
  · -- SubsetCardinalityFormula
    obtain ⟨⟨t, rfl⟩, ⟨b, rfl⟩, ⟨⟩⟩ := hpos
    exact evalCallX_isSome_of_R re env g ns _ rfl

/-- what a path that `callOK` accepts does: a shielded exception, or a call `evalCallX` answers on -/
def PathOK (re : RandEnv) (env : GraphEnv) (g : SimpleG) (ord : List String → Nat) (ns : Ns) (t : CallTemplate) : Prop :=
  instantiate ns (fixTemplate ord ns t) = .error .cliError ∨
  ∃ c, instantiate ns (fixTemplate ord ns t) = .ok c ∧ (evalCallX re env g ns c).isSome = true

theorem callOK_sound (re : RandEnv) (env : GraphEnv) (g : SimpleG) (ord : List String → Nat) (s : CliSpec)
    (ns : Ns) (hk : GKns s ns) (w : World) (t : CallTemplate) (hw : gamW w ns) (h : callOK s w t = true) :
    PathOK re env g ord ns t := by
  unfold callOK at h
  by_cases hr : t.raises = ""
  · simp only [hr, bne_self_eq_false, Bool.false_eq_true, if_false] at h
    obtain ⟨sg, hsg, hok⟩ := List.any_eq_true.1 h
    unfold sigOK at hok
    simp only [Bool.and_eq_true, beq_iff_eq] at hok
    obtain ⟨⟨⟨⟨hfn, hpos⟩, hkwall⟩, hkws⟩, hints⟩ := hok
    have hfne : t.fn ≠ "" := by
      rw [← hfn]
      simp only [sigs, List.mem_cons, List.not_mem_nil, or_false] at hsg
      rcases hsg with rfl | rfl | rfl | rfl | rfl | rfl | rfl <;> decide
    obtain ⟨vs, hvs, hh⟩ := posSorts_sound ord s w ns hw hk t.pos sg.pos hpos
    obtain ⟨ks, hks, hkl⟩ := evalKw_lookup ord w ns hw t.kw hkwall
    refine Or.inr ⟨_, instantiate_call (t := fixTemplate ord ns t) hr hfne hvs hks,
      sig_mapped re env g ns sg hsg _ hfn.symm hh ?_ ?_⟩
    · intro k hkm
      have := (List.all_eq_true.1 hkws) k hkm
      cases hl : t.kw.lookup k with
      | none => rw [hl] at this; simp at this
      | some e => rw [hl] at this; exact hkl k e hl this
    · intro d hd
      have := (List.all_eq_true.1 hints) d hd
      cases hl : w.lookup d with
      | none => rw [hl] at this; simp at this
      | some a =>
        rw [hl] at this
        obtain ⟨v, hv, hg⟩ := gamW_some w ns hw d a hl
        obtain ⟨i, rfl⟩ := isIntLike_val a v this hg
        exact ⟨i, hv⟩
  · have hr' : (t.raises != "") = true := by simpa using hr
    rw [hr', if_pos rfl] at h
    exact Or.inl (instantiate_raises (t := fixTemplate ord ns t) hr h)

theorem typedBy_kind (o : OptSpec) (k : String) (t : List String) (h : typedBy o (.graph k t)) :
    graphKind o.action = some k := by
  have hconv : ∀ x, convertOne o x ≠ some (.graph k t) := fun x hx => by
    rcases dtot_convertOne_plain o x _ hx with ⟨_, h⟩ | ⟨_, h⟩ <;> cases h
  unfold typedBy at h
  split at h
  · exact absurd h.symm (constLike_not_graph (flagVal_constLike o) k t)
  · exact absurd h.choose_spec (hconv _)
  · obtain ⟨_, _, hk, hv⟩ := h
    cases hv
    exact hk
  · obtain ⟨_, hl⟩ := h
    cases hl
  · exact h.elim (fun h => absurd h.symm (constLike_not_graph (defaultVal_constLike o) k t)) fun h => absurd h.choose_spec (hconv _)
  · exact h.elim

theorem bindBase_kind (s : CliSpec) (o : OptSpec) (hm : o ∈ s.opts ++ phpInner.poss) (h : subOptOK o = true)
    (toks : List String) (b : Ns) (hb : bindBase o toks = .ok b) : ∀ q ∈ b, GKq s q := by
  obtain ⟨h1, h2, h3⟩ := subOptOK_parts o h
  obtain ⟨v, rfl, hv⟩ := bindBase_ok o h3 (by simpa using h1) (by simpa using h2) toks b hb
  intro q hq k t hvk
  cases List.mem_singleton.1 hq
  dsimp only at hvk
  subst hvk
  rcases hv with hv | ⟨_, hv⟩
  · exact ⟨o, hm, rfl, typedBy_kind o k t hv⟩
  · cases hv

theorem subEngine_kind (s : CliSpec) (subps : List OptSpec) (hmem : ∀ o ∈ subps, o ∈ s.opts ++ phpInner.poss)
    (hok : ∀ o ∈ subps, subOptOK o = true) (toks : List String) (b : Ns)
    (h : engine bindBase ⟨[], subps⟩ toks = .ok b) : ∀ q ∈ b, GKq s q := by
  intro q hq
  obtain ⟨o, ho, toks', b', hb, hq'⟩ := (engine_produced bindBase ⟨[], subps⟩ (fun _ h => nomatch h) toks b h).out q hq
  exact bindBase_kind s o (hmem o ho) (hok o ho) toks' b' hb q hq'

theorem phpArgs_kind (s : CliSpec) (toks : List String) (b : Ns) (h : phpArgs toks = .ok b) : ∀ q ∈ b, GKq s q := by
  rcases (phpArgs_ends toks).ok h with ⟨tk, rfl⟩ | ⟨d, hh, pp, rfl⟩
  · intro q hq k t hv
    cases List.mem_singleton.1 hq
    cases hv
    exact ⟨phpInner.poss.head (by simp [phpInner]), List.mem_append_right _ (by simp [phpInner]), by simp [phpInner],
      by decide⟩
  · intro q hq k t hv
    simp only [List.mem_cons, List.not_mem_nil, or_false] at hq
    rcases hq with rfl | rfl | rfl <;> cases hv

theorem special_kind (s : CliSpec) (htab : worldTablesOK s = true) (sp : OptSpec) (hsp : specialOpts s = [sp])
    (toks : List String) (b : Ns) (hb : mainBind s sp toks = .ok b) : ∀ q ∈ b, GKq s q := by
  rcases special_bind s htab sp (by simp [hsp]) toks b hb with ⟨subps, _, hok, _, he⟩ | ⟨_, hb⟩
  · exact subEngine_kind s subps (fun o ho => (hok o ho).2) (fun o ho => (hok o ho).1) toks b he
  · exact phpArgs_kind s toks b hb

/-- THE KIND INVARIANT: after the extended parser of `php` / a composed sub-command, every graph of the namespace has
the kind of an option that stores under its dest -/
theorem parseX_kind (s : CliSpec) (htab : worldTablesOK s = true) (sp : OptSpec) (ht : WorldTables s sp)
    (argv : List String) (b : Ns) (hp : parseX s argv = .ok b) : GKns s (namespaceOf s b) := by
  have hb : ∀ q ∈ b, GKq s q := by
    intro q hq
    obtain ⟨o, ho, toks, b', hb', hq'⟩ := (engine_produced (mainBind s) (mainSpec s) ht.mainSpec_arity argv b hp).out q hq
    rcases List.mem_append.1 ho with ho | ho
    · have hf := flag_bind s sp ht o (ht.mainSpec_opts o ho) toks b' hb'
      subst hf
      cases List.mem_singleton.1 hq'
      intro k t hv
      exact absurd hv (constLike_not_graph (flagVal_constLike o) k t)
    · rw [ht.mainSpec_poss] at ho
      cases List.mem_singleton.1 ho
      exact special_kind s htab sp ht.hsp toks b' hb' q hq'
  intro d v hl
  unfold namespaceOf at hl
  rw [List.lookup_append] at hl
  cases hbl : b.lookup d with
  | some v' =>
    rw [hbl] at hl
    simp at hl; subst hl
    exact hb _ (dtot_lookup_mem b d v' hbl)
  | none =>
    rw [hbl] at hl
    simp only [Option.none_or] at hl
    have hm := dtot_lookup_mem _ d v hl
    unfold defaults at hm
    obtain ⟨o, _, ho⟩ := List.mem_map.1 hm
    simp at ho
    intro k t hv
    dsimp only at hv
    rw [← ho.2] at hv
    exact absurd hv (constLike_not_graph (defaultVal_constLike o) k t)

end Cnfgen.Cli
