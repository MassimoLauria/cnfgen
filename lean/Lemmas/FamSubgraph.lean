/-
Subgraph / clique formulas (unary mapping; the Ramsey witness is in `FamRamseyWitness.lean`): the meaning of each block of
constraints on the table encoded by the assignment, well-formedness.
-/
import CnfgenModel.Fam.Subgraph
import Lemmas.FamIso
namespace Cnfgen
namespace Fam
namespace G2
open Vars

theorem prefix_holds (α : Assign) {st : Nat} (k N : Nat) (hst : 1 ≤ st) :
    (∀ c ∈ forceComplete st k N ++ forceFunctional st k N ++ forceInjective st k N, Con.holds α c = true) ↔
      ∃ l, EncL st k N α l ∧ l.Nodup := by
  simp only [List.mem_append, or_imp, forall_and]
  rw [forceComplete_holds α k N hst, forceFunctional_holds α k N hst, forceInjective_holds α k N hst]
  constructor
  · rintro ⟨⟨hc, hf⟩, hi⟩
    obtain ⟨l, hl⟩ := TotFun.exists_encL (st := st) ⟨hc, hf⟩
    exact ⟨l, hl, hl.injective_iff.1 hi⟩
  · rintro ⟨l, hl, hnd⟩
    exact ⟨⟨hl.totFun.1, hl.totFun.2⟩, hl.injective_iff.2 hnd⟩

theorem prefix_in {st : Nat} (k N : Nat) (hst : 1 ≤ st) :
    ConsIn st (st + k * N - 1) (forceComplete st k N ++ forceFunctional st k N ++ forceInjective st k N) :=
  ((forceComplete_in k N hst).append (forceFunctional_in k N hst)).append (forceInjective_in k N hst)

theorem nondecreasing_iff {st k N : Nat} {α : Assign} {l : List Nat} (h : EncL st k N α l) :
    (∀ c ∈ forceNondecreasing st k N, Con.holds α c = true) ↔ l.Pairwise (· ≤ ·) := by
  rw [forceNondecreasing_holds α k N, h.pairs_iff (fun _ _ j j' => j ≤ j'), pairwise_img_iff h.len]

theorem prefix_sym_holds (α : Assign) (k N : Nat) (symbreak : Bool) :
    (∀ c ∈ forceComplete 1 k N ++ forceFunctional 1 k N ++ forceInjective 1 k N ++
        (if symbreak then forceNondecreasing 1 k N else []), Con.holds α c = true) ↔
      ∃ l, EncL 1 k N α l ∧ Shape symbreak l := by
  rw [List.forall_mem_append, prefix_holds α k N (Nat.le_refl 1)]
  cases symbreak
  · simp [Shape]
  · simp only [if_true, Shape]
    constructor
    · rintro ⟨⟨l, hl, hnd⟩, hs⟩
      exact ⟨l, hl, sorted_of_le_nodup ((nondecreasing_iff hl).1 hs) hnd⟩
    · rintro ⟨l, hl, hs⟩
      exact ⟨⟨l, hl, nodup_of_sorted hs⟩, (nondecreasing_iff hl).2 (le_of_sorted hs)⟩

theorem prefix_sym_in (k N : Nat) (symbreak : Bool) :
    ConsIn 1 (k * N) (forceComplete 1 k N ++ forceFunctional 1 k N ++ forceInjective 1 k N ++
        (if symbreak then forceNondecreasing 1 k N else [])) :=
  ((prefix_in k N (Nat.le_refl 1)).append
    (.ite (fun _ => forceNondecreasing_in k N (Nat.le_refl 1)) fun _ => .nil)).mono (Nat.le_refl 1) (by omega)

theorem mem_nonEdges {G : SimpleG} {a b : Nat} :
    (a, b) ∈ nonEdges G ↔ 1 ≤ a ∧ a < b ∧ b ≤ G.n ∧ adj G a b = false := by
  simp only [nonEdges, List.mem_filter, mem_pairs2_verts, Bool.not_eq_true']
  constructor
  · rintro ⟨⟨a1, a2, a3⟩, a4⟩; exact ⟨a1, a2, a3, a4⟩
  · rintro ⟨a1, a2, a3, a4⟩; exact ⟨⟨a1, a2, a3⟩, a4⟩

theorem mem_pairTail {symbreak : Bool} {c d e : Con} :
    c ∈ d :: (if !symbreak then [e] else []) ↔ c = d ∨ symbreak = false ∧ c = e := by
  cases symbreak <;> simp

/-- the "local consistency" loop that the unary and the binary clique formula share; `cl` is the clause of either -/
theorem mem_nonEdgeClauses {G : SimpleG} {k : Nat} {symbreak : Bool} (cl : Nat → Nat → Nat → Nat → Con) (c : Con) :
    c ∈ (pairs2 (verts k)).flatMap (fun i => (nonEdges G).flatMap (fun j =>
        cl i.1 j.1 i.2 j.2 :: (if !symbreak then [cl i.1 j.2 i.2 j.1] else []))) ↔
      ∃ i i' a b, (1 ≤ i ∧ i < i' ∧ i' ≤ k) ∧ (1 ≤ a ∧ a < b ∧ b ≤ G.n) ∧ (!adj G a b) = true ∧
        (c = cl i a i' b ∨ symbreak = false ∧ c = cl i b i' a) := by
  simp only [List.mem_flatMap, Prod.exists, mem_pairs2_verts, mem_nonEdges, mem_pairTail]
  constructor
  · rintro ⟨i, i', hi, a, b, ⟨a1, a2, a3, a4⟩, hc⟩
    exact ⟨i, i', a, b, hi, ⟨a1, a2, a3⟩, by rw [a4]; rfl, hc⟩
  · rintro ⟨i, i', a, b, hi, ⟨a1, a2, a3⟩, a4, hc⟩
    exact ⟨i, i', hi, a, b, ⟨a1, a2, a3, (Bool.not_eq_true' _).mp a4⟩, hc⟩

theorem nonEdgeClauses_table {G : SimpleG} (hG : GoodGraph G) {k : Nat} {symbreak : Bool} {α : Assign} {l : List Nat}
    {cl : Nat → Nat → Nat → Nat → Con} (hlen : l.length = k) (hr : ∀ v ∈ l, 1 ≤ v ∧ v ≤ G.n) (hs : Shape symbreak l)
    (hcl : ∀ i i' a b, 1 ≤ i → i < i' → i' ≤ k → 1 ≤ a → a ≤ G.n → 1 ≤ b → b ≤ G.n →
      (Con.holds α (cl i a i' b) = true ↔ ¬ (img l i = a ∧ img l i' = b))) :
    (∀ c ∈ (pairs2 (verts k)).flatMap (fun i => (nonEdges G).flatMap (fun j =>
        cl i.1 j.1 i.2 j.2 :: (if !symbreak then [cl i.1 j.2 i.2 j.1] else []))), Con.holds α c = true) ↔
      l.Pairwise (fun a b => adj G a b = true) :=
  (pairClauses_table (mem_nonEdgeClauses cl) hlen hr hs hcl (ok := fun _ _ a b => adj G a b = true)
    (fun _ _ a b => by simp) (fun _ _ a b e => by rw [hG.symm]; exact e)).trans
    (pairwise_img_iff hlen fun a b => adj G a b = true)

theorem cliqueEdges_iff {G : SimpleG} (hG : GoodGraph G) {k : Nat} {symbreak : Bool} {α : Assign} {l : List Nat}
    (h : EncL 1 k G.n α l) (hs : Shape symbreak l) :
    (∀ c ∈ cliqueEdgeCons G k symbreak, Con.holds α c = true) ↔ l.Pairwise (fun a b => adj G a b = true) :=
  nonEdgeClauses_table (cl := fun i a i' b => .clause [-(mlit 1 G.n i a), -(mlit 1 G.n i' b)]) hG h.len h.rng hs h.pair_clause

theorem cliqueCore_consIn (G : SimpleG) (k : Nat) (symbreak : Bool) :
    ConsIn 1 (k * G.n) (cliqueCore G k symbreak).cons :=
  (prefix_sym_in k G.n symbreak).append
    (pairClauses_in (mem_nonEdgeClauses fun i a i' b => .clause [-(mlit 1 G.n i a), -(mlit 1 G.n i' b)]))

theorem exists_sorted_mono (G : SimpleG) (hG : GoodGraph G) (C : Bool) {l : List Nat} (hn : l.Nodup)
    (hm : l.Pairwise (fun a b => adj G a b = C)) :
    ∃ l' : List Nat, l'.Perm l ∧ l'.Pairwise (· < ·) ∧ l'.Pairwise (fun a b => adj G a b = C) := by
  refine ⟨l.mergeSort (fun a b => decide (a ≤ b)), List.mergeSort_perm _ _, ?_, ?_⟩
  · have hle : (l.mergeSort (fun a b => decide (a ≤ b))).Pairwise (fun a b => decide (a ≤ b) = true) :=
      List.pairwise_mergeSort (by intro a b c; simp; omega) (by intro a b; simp; omega) l
    have hnd : (l.mergeSort (fun a b => decide (a ≤ b))).Nodup := (List.mergeSort_perm _ _).nodup_iff.2 hn
    exact sorted_of_le_nodup (hle.imp (by intro a b h; simpa using h)) hnd
  · exact ((List.mergeSort_perm l _).pairwise_iff (fun {x y} h => by rw [hG.symm]; exact h)).2 hm

theorem pairwise_mono_iff {G : SimpleG} (hG : GoodGraph G) (C : Bool) {l : List Nat} (hn : l.Nodup) :
    l.Pairwise (fun a b => adj G a b = C) ↔ ∀ u ∈ l, ∀ v ∈ l, u ≠ v → adj G u v = C := by
  induction l with
  | nil => simp
  | cons x xs ih =>
    rw [List.nodup_cons] at hn
    rw [List.pairwise_cons, ih hn.2]
    constructor
    · rintro ⟨h1, h2⟩ u hu v hv hne
      rcases List.mem_cons.1 hu with hu | hu
      · rcases List.mem_cons.1 hv with hv | hv
        · exact absurd (hu.trans hv.symm) hne
        · rw [hu]; exact h1 v hv
      · rcases List.mem_cons.1 hv with hv | hv
        · rw [hv, hG.symm]; exact h1 u hu
        · exact h2 u hu v hv hne
    · intro h
      refine ⟨fun a ha => h x List.mem_cons_self a (List.mem_cons_of_mem _ ha) ?_,
        fun u hu v hv hne => h u (List.mem_cons_of_mem _ hu) v (List.mem_cons_of_mem _ hv) hne⟩
      rintro rfl; exact hn.1 ha

theorem consistent_iff (g t ind : Bool) :
    consistent g t ind = true ↔ (t = true → g = true) ∧ (ind = true → g = true → t = true) := by
  cases g <;> cases t <;> cases ind <;> simp [consistent]

theorem mem_subgraphEdgeCons {G H : SimpleG} {induced symbreak : Bool} (c : Con) :
    c ∈ subgraphEdgeCons G H induced symbreak ↔
      ∃ i i' a b, (1 ≤ i ∧ i < i' ∧ i' ≤ H.n) ∧ (1 ≤ a ∧ a < b ∧ b ≤ G.n) ∧
        (!consistent (adj G a b) (adj H i i') induced) = true ∧
        (c = .clause [-(mlit 1 G.n i a), -(mlit 1 G.n i' b)] ∨
          symbreak = false ∧ c = .clause [-(mlit 1 G.n i b), -(mlit 1 G.n i' a)]) := by
  simp only [subgraphEdgeCons, List.mem_flatMap, Prod.exists, mem_pairs2_verts]
  constructor
  · rintro ⟨i, i', hi, a, b, ha, hc⟩
    split at hc
    · rename_i hbad; exact ⟨i, i', a, b, hi, ha, hbad, mem_pairTail.1 hc⟩
    · simp at hc
  · rintro ⟨i, i', a, b, hi, ha, hbad, hc⟩
    exact ⟨i, i', hi, a, b, ha, by rw [if_pos hbad]; exact mem_pairTail.2 hc⟩

theorem subgraphFormula_consIn (G H : SimpleG) (induced symbreak : Bool) :
    ConsIn 1 (H.n * G.n) (subgraphFormula G H induced symbreak).cons :=
  (prefix_sym_in H.n G.n symbreak).append (pairClauses_in mem_subgraphEdgeCons)

theorem subgraphEdges_iff {G H : SimpleG} (hG : GoodGraph G) {induced symbreak : Bool} {α : Assign} {l : List Nat}
    (h : EncL 1 H.n G.n α l) (hs : Shape symbreak l) :
    (∀ c ∈ subgraphEdgeCons G H induced symbreak, Con.holds α c = true) ↔
      ∀ i, 1 ≤ i → ∀ i', i < i' → i' ≤ H.n →
        consistent (adj G (img l i) (img l i')) (adj H i i') induced = true :=
  pairClauses_table mem_subgraphEdgeCons h.len h.rng hs h.pair_clause
    (ok := fun i i' a b => consistent (adj G a b) (adj H i i') induced = true)
    (fun _ _ _ _ => by simp) (fun _ _ a b e => by rw [hG.symm]; exact e)

end G2
end Fam
end Cnfgen
