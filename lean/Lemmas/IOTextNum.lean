/-
Character level, numbers: what the writers print for an integer (`natStr`, `intStr`, `intStrPlus`,
`x<n>`, `~x<n>`) is read back by the lexer (`pyInt?`, `xvar?`, `classify`) as that integer —
for every integer below CPython's limit of `maxStrDigits` decimal digits; and beyond that limit the
printed digits are NOT read as a number (so the bound in the round-trip theorems is necessary).
-/
import Lemmas.IOLex
namespace Cnfgen.IO

theorem isDigit_ne {c : Char} (h : IsDigit c) :
    isSpace c = false ∧ c ≠ '_' ∧ c ≠ '-' ∧ c ≠ '+' ∧ c ≠ 'x' ∧ c ≠ '~' ∧ c ≠ '\n' ∧ c ≠ '\r' := by
  have hs : isSpace c = false := by
    unfold isSpace wsCodes
    have h1 := h.1; have h2 := h.2
    simp only [List.contains_cons, List.contains_nil, Bool.or_false, Bool.or_eq_false_iff, beq_eq_false_iff_ne, ne_eq]
    omega
  refine ⟨hs, ?_, ?_, ?_, ?_, ?_, ?_, ?_⟩ <;> (intro e; subst e; revert h; unfold IsDigit; decide)

theorem scanDigits_digits : ∀ (s : Str) (acc nd : Nat) (prev : Bool), (∀ c ∈ s, IsDigit c) → s ≠ [] →
    scanDigits acc nd prev s = some (digitsFrom acc s, nd + s.length)
  | [], _, _, _, _, h => absurd rfl h
  | c :: cs, acc, nd, prev, hd, _ => by
    have hc : IsDigit c := hd c (by simp)
    have hne := isDigit_ne hc
    unfold scanDigits
    rw [if_neg hne.2.1, digit?_of_isDigit hc]
    simp only
    cases cs with
    | nil => simp [scanDigits, digitsFrom]
    | cons d ds =>
      rw [scanDigits_digits (d :: ds) _ _ true (fun x hx => hd x (by simp [hx])) (by simp)]
      simp [digitsFrom]; omega

theorem scanDigits_natStr (n : Nat) : scanDigits 0 0 false (natStr n) = some (n, (natStr n).length) := by
  obtain ⟨h1, h2, h3⟩ := natStr_digits n
  rw [scanDigits_digits _ 0 0 false h1 h2, h3]; simp

theorem dropWhile_noWS : ∀ (s : Str), NoWS s → s.dropWhile isSpace = s
  | [], _ => rfl
  | c :: cs, h => by simp [List.dropWhile, h c (by simp)]

theorem strip_noWS (s : Str) (h : NoWS s) : strip s = s := by
  unfold strip
  rw [dropWhile_noWS s h, dropWhile_noWS s.reverse (fun c hc => h c (by simpa using hc))]
  simp

theorem natStr_noWS (n : Nat) : NoWS (natStr n) := fun c hc => (isDigit_ne ((natStr_digits n).1 c hc)).1

theorem isTok_natStr (n : Nat) : IsTok (natStr n) := ⟨(natStr_digits n).2.1, natStr_noWS n⟩

theorem natStr_cons (n : Nat) : ∃ c cs, natStr n = c :: cs ∧ IsDigit c := by
  obtain ⟨h1, h2, _⟩ := natStr_digits n
  cases hs : natStr n with
  | nil => exact absurd hs h2
  | cons c cs => exact ⟨c, cs, rfl, h1 c (by rw [hs]; simp)⟩

theorem pyInt_natStr_eq (n : Nat) : pyInt? (natStr n) = if n < 10 ^ maxStrDigits then some (n : Int) else none := by
  obtain ⟨c, cs, hs, hc⟩ := natStr_cons n
  have hne := isDigit_ne hc
  have hlen : (natStr n).length > maxStrDigits ↔ ¬ n < 10 ^ maxStrDigits := by
    rw [← natStr_length_le n maxStrDigits (by decide)]; exact Nat.not_le.symm
  unfold pyInt?
  rw [strip_noWS _ (natStr_noWS n)]
  have hsc := scanDigits_natStr n
  rw [hs] at hsc hlen ⊢
  simp only [hne.2.2.1, hne.2.2.2.1, if_false, hsc, hlen, ite_not]
  rfl

theorem pyInt_natStr (n : Nat) (h : n < 10 ^ maxStrDigits) : pyInt? (natStr n) = some (n : Int) := by
  rw [pyInt_natStr_eq, if_pos h]

theorem natStr_length_limit {n : Nat} (h : n < 10 ^ maxStrDigits) : ¬ (natStr n).length > maxStrDigits :=
  Nat.not_lt.2 ((natStr_length_le n maxStrDigits (by decide)).2 h)

theorem pyInt_sign_natStr (c : Char) (hc : c = '-' ∨ c = '+') (n : Nat) (h : n < 10 ^ maxStrDigits) :
    pyInt? (c :: natStr n) = some (if c = '-' then -(n : Int) else n) := by
  have hw : NoWS (c :: natStr n) := noWS_cons (by rcases hc with rfl | rfl <;> decide) (natStr_noWS n)
  unfold pyInt?
  rw [strip_noWS _ hw]
  rcases hc with rfl | rfl <;> simp [scanDigits_natStr n, natStr_length_limit h]

theorem pyInt_intStr (z : Int) (h : z.natAbs < 10 ^ maxStrDigits) : pyInt? (intStr z) = some z := by
  unfold intStr
  split
  · rw [pyInt_sign_natStr _ (.inl rfl) _ h, if_pos rfl]; congr 1; omega
  · rw [pyInt_natStr _ h]; congr 1; omega

theorem pyInt_intStrPlus (z : Int) (h : z.natAbs < 10 ^ maxStrDigits) : pyInt? (intStrPlus z) = some z := by
  unfold intStrPlus
  split
  · rw [pyInt_sign_natStr _ (.inl rfl) _ h, if_pos rfl]; congr 1; omega
  · rw [pyInt_sign_natStr _ (.inr rfl) _ h, if_neg (by decide)]; congr 1; omega

theorem classify_natStr (n : Nat) (h : n < 10 ^ maxStrDigits) : classify (natStr n) = .int (n : Int) := by
  simp [classify, pyInt_natStr n h]

theorem classify_intStr (z : Int) (h : z.natAbs < 10 ^ maxStrDigits) : classify (intStr z) = .int z := by
  simp [classify, pyInt_intStr z h]

theorem classify_intStrPlus (z : Int) (h : z.natAbs < 10 ^ maxStrDigits) : classify (intStrPlus z) = .int z := by
  simp [classify, pyInt_intStrPlus z h]

theorem isTok_intStr (z : Int) : IsTok (intStr z) := by
  unfold intStr
  split
  · exact isTok_cons (by decide) (natStr_noWS _)
  · exact isTok_natStr _

theorem isTok_intStrPlus (z : Int) : IsTok (intStrPlus z) := by
  unfold intStrPlus
  split <;> exact isTok_cons (by decide) (natStr_noWS _)

theorem plainNat_natStr (n : Nat) (h : n < 10 ^ maxStrDigits) : plainNat? (natStr n) = some n := by
  have hlen := natStr_length_limit h
  have hc : ¬ '_' ∈ natStr n := by
    intro hm
    exact (isDigit_ne ((natStr_digits n).1 _ hm)).2.1 rfl
  simp [plainNat?, hc, scanDigits_natStr n, hlen]

/-- a token that begins with neither a digit, a sign nor `_` is no integer -/
theorem pyInt_of_head (c : Char) (r : Str) (hc : digit? c = none ∧ c ≠ '-' ∧ c ≠ '+' ∧ c ≠ '_') (hw : NoWS (c :: r)) :
    pyInt? (c :: r) = none := by
  unfold pyInt?
  rw [strip_noWS _ hw]
  simp [scanDigits, hc]

theorem classify_x (n : Nat) (h : n < 10 ^ maxStrDigits) : classify ('x' :: natStr n) = .xvar false n := by
  simp [classify, pyInt_of_head 'x' _ (by decide) (noWS_cons (by decide) (natStr_noWS n)), xvar?, plainNat_natStr n h]

theorem classify_negx (n : Nat) (h : n < 10 ^ maxStrDigits) : classify ('~' :: 'x' :: natStr n) = .xvar true n := by
  have hw : NoWS ('x' :: natStr n) := noWS_cons (by decide) (natStr_noWS n)
  simp [classify, pyInt_of_head '~' _ (by decide) (noWS_cons (by decide) hw), xvar?, plainNat_natStr n h]

theorem opbLitText_eq (l : Int) :
    opbLitText l = if l < 0 then '~' :: 'x' :: natStr l.natAbs else 'x' :: natStr l.natAbs := by
  unfold opbLitText intStr
  by_cases h : l < 0
  · have h1 : ¬ l ≥ 0 := by omega
    have h2 : ¬ (-l < 0) := by omega
    simp only [h1, h2, h, if_true, if_false]
    congr 3; omega
  · have h1 : l ≥ 0 := by omega
    simp only [h1, h, if_true, if_false]

theorem classify_opbLit (l : Int) (h : l.natAbs < 10 ^ maxStrDigits) : classify (opbLitText l) = opbLitTok l := by
  rw [opbLitText_eq]
  unfold opbLitTok
  split
  · rename_i hl; rw [classify_negx _ h]; simp [hl]
  · rename_i hl; rw [classify_x _ h]; simp [hl]

theorem isTok_opbLit (l : Int) : IsTok (opbLitText l) := by
  rw [opbLitText_eq]
  split
  · exact isTok_cons (by decide) (noWS_cons (by decide) (natStr_noWS _))
  · exact isTok_cons (by decide) (natStr_noWS _)

/-- CPython's `str()` would not even print such a number -/
theorem classify_natStr_big (n : Nat) (h : 10 ^ maxStrDigits ≤ n) : classify (natStr n) = .word (natStr n) := by
  obtain ⟨c, cs, hs, hc⟩ := natStr_cons n
  have hne := isDigit_ne hc
  have h2 : xvar? (natStr n) = none := by
    rw [hs]; simp [xvar?, hne.2.2.2.2.1, hne.2.2.2.2.2.1]
  simp [classify, pyInt_natStr_eq, Nat.not_lt.2 h, h2]

theorem lt_limit_of_le {n : Nat} (h : n ≤ maxStrDigits) : n < 10 ^ maxStrDigits :=
  Nat.lt_of_le_of_lt h (Nat.lt_pow_self (by decide))

theorem lt_limit_of_lt_pow {n : Nat} (k : Nat) (hk : k ≤ maxStrDigits) (h : n < 10 ^ k) : n < 10 ^ maxStrDigits :=
  Nat.lt_of_lt_of_le h (Nat.pow_le_pow_right (by decide) hk)

end Cnfgen.IO
