/-
Vertex sets as `Finset`s: the list-based statement of the Ramsey-number specification
(strictly increasing lists) is the same as the statement over finite sets of vertices.
-/
import Lemmas.FamRamsey
import Mathlib.Data.Finset.Sort
namespace Cnfgen.FamRamsey
open Cnfgen Cnfgen.Fam

theorem sorted_lists_iff_finsets (N n : Nat) (R : Nat → Nat → Prop) (hsym : ∀ u v, R u v → R v u) :
    (∀ S : List Nat, (S.Pairwise (· < ·) ∧ ∀ x ∈ S, 1 ≤ x ∧ x ≤ N) → S.length = n →
        ∃ u ∈ S, ∃ v ∈ S, u < v ∧ R u v) ↔
    (∀ S : Finset Nat, (∀ x ∈ S, 1 ≤ x ∧ x ≤ N) → S.card = n → ∃ u ∈ S, ∃ v ∈ S, u ≠ v ∧ R u v) := by
  constructor
  · intro h S hS hcard
    have hp : (S.sort).Pairwise (· < ·) := (Finset.sortedLT_sort S).pairwise
    obtain ⟨u, hu, v, hv, huv, hR⟩ := h S.sort ⟨hp, fun x hx => hS x ((Finset.mem_sort _).1 hx)⟩
      (by rw [Finset.length_sort]; exact hcard)
    exact ⟨u, (Finset.mem_sort _).1 hu, v, (Finset.mem_sort _).1 hv, by omega, hR⟩
  · intro h S hS hlen
    have hnd : S.Nodup := hS.1.imp (by intro a b hab; omega)
    obtain ⟨u, hu, v, hv, huv, hR⟩ := h S.toFinset (fun x hx => hS.2 x (List.mem_toFinset.1 hx))
      (by rw [List.toFinset_card_of_nodup hnd]; exact hlen)
    rw [List.mem_toFinset] at hu hv
    rcases Nat.lt_or_gt_of_ne huv with hlt | hgt
    · exact ⟨u, hu, v, hv, hlt, hR⟩
    · exact ⟨v, hv, u, hu, hgt, hsym u v hR⟩

end Cnfgen.FamRamsey
