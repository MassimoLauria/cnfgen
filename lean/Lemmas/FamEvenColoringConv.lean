/-
Even colouring, converse direction (`Props/C02/EvenColoringSat.lean`): colour the Euler circuit of every component
alternately.  Every vertex sees as many `true` as `false` edges of a closed trail, except that for a trail of odd
length the base vertex sees two more `true` ones; then the handshake lemma (`closed_vcount_even`) would make the sum
of the half-degrees over the component odd.  So under the parity hypothesis every circuit has even length and every
vertex is balanced.
-/
import Lemmas.FamEulerCircuit
import Lemmas.FamColoring
import Mathlib.Data.Sym.Sym2.Order
namespace Cnfgen
namespace Fam

def altCol (L : List (Sym2 ℕ)) (e : Sym2 ℕ) : Bool := L.idxOf e % 2 == 0

def altSign (k : ℕ) : ℤ := if k % 2 = 0 then 1 else -1

theorem altSign_succ (k : ℕ) : altSign (k + 1) = -altSign k := by
  unfold altSign
  split <;> split <;> omega

def altSum {α : Type} (q : α → Bool) : List α → ℕ → ℤ
  | [], _ => 0
  | e :: es, k => (if q e then altSign k else 0) + altSum q es (k + 1)

theorem countP_idxOf_cons {α : Type} [DecidableEq α] (g : α → ℕ → Bool) {e : α} {es : List α}
    (hnd : (e :: es).Nodup) (k : ℕ) :
    (e :: es).countP (fun x => g x ((e :: es).idxOf x + k)) =
      es.countP (fun x => g x (es.idxOf x + (k + 1))) + if g e k then 1 else 0 := by
  rw [List.countP_cons, List.idxOf_cons_self, Nat.zero_add]
  congr 1
  apply List.countP_congr
  intro x hx
  have hne : e ≠ x := fun h => (List.nodup_cons.mp hnd).1 (h ▸ hx)
  rw [List.idxOf_cons_ne _ hne, Nat.succ_add, Nat.add_succ]

theorem countP_even_sub_odd {α : Type} [DecidableEq α] (q : α → Bool) :
    ∀ (L : List α) (k : ℕ), L.Nodup →
      (L.countP (fun e => q e && (L.idxOf e + k) % 2 == 0) : ℤ) -
        L.countP (fun e => q e && !((L.idxOf e + k) % 2 == 0)) = altSum q L k
  | [], _, _ => rfl
  | e :: es, k, hnd => by
    rw [countP_idxOf_cons (fun x n => q x && n % 2 == 0) hnd,
      countP_idxOf_cons (fun x n => q x && !(n % 2 == 0)) hnd, altSum,
      ← countP_even_sub_odd q es (k + 1) (List.nodup_cons.mp hnd).2, altSign]
    cases q e <;> by_cases hk : k % 2 = 0 <;> simp [hk] <;> omega

theorem walk_altSum {H : SimpleGraph ℕ} (x : ℕ) :
    ∀ {a b : ℕ} (q : H.Walk a b) (k : ℕ),
      altSum (fun e => decide (x ∈ e)) q.edges k =
        (if x = a then altSign k else 0) - (if x = b then altSign (k + q.length) else 0)
  | _, _, .nil, k => by simp [altSum]
  | a, b, .cons (v := w) h q', k => by
    rw [SimpleGraph.Walk.edges_cons, altSum, walk_altSum x q' (k + 1), SimpleGraph.Walk.length_cons,
      Nat.add_right_comm k, ← Nat.add_assoc, altSign_succ k]
    have hne : a ≠ w := h.ne
    by_cases ha : x = a <;> by_cases hw : x = w <;> simp [ha, hw, hne] <;> omega

theorem alt_balance {H : SimpleGraph ℕ} {u : ℕ} (p : H.Walk u u) (ht : p.IsTrail) (x : ℕ) :
    p.edges.countP (fun e => decide (x ∈ e) && altCol p.edges e) =
      p.edges.countP (fun e => decide (x ∈ e) && !altCol p.edges e) +
        (if x = u ∧ p.length % 2 = 1 then 2 else 0) := by
  have h := countP_even_sub_odd (fun e => decide (x ∈ e)) p.edges 0 ht.edges_nodup
  simp only [walk_altSum x p 0, Nat.zero_add, Nat.add_zero, altSign] at h
  unfold altCol
  split_ifs at h ⊢ <;> omega

variable {G : SimpleG}

theorem trail_edges_at (hG : GoodGraph G) {u v : ℕ} (p : (toSG G).Walk u v) (ht : p.IsTrail)
    {x : ℕ} (hx : x ≤ G.n) (hcov : ∀ w ∈ G.nbrs x, s(x, w) ∈ p.edges) (P : Sym2 ℕ → Bool) :
    p.edges.countP (fun e => decide (x ∈ e) && P e) = (G.nbrs x).countP (fun w => P s(x, w)) := by
  have h1 : p.edges.countP (fun e => decide (x ∈ e) && P e) =
      (p.edges.filter (fun e => decide (x ∈ e))).countP P := by
    rw [List.countP_filter]
    apply List.countP_congr
    intro e _
    simp [Bool.and_comm]
  rw [h1, (trail_edges_perm hG p ht hx hcov).countP_eq, List.countP_map]
  rfl

open Classical in
/-- the assignment of the edge variables that gives the edge `{a,b}` the value `c s(a,b)` -/
noncomputable def assignOf (G : SimpleG) (c : Sym2 ℕ → Bool) : Assign :=
  fun i => decide (∃ a b, a ≤ G.n ∧ b ∈ G.nbrs a ∧ edgeId G 1 b a = i ∧ c s(a, b) = true)

open Classical in
theorem assignOf_edge (hG : GoodGraph G) (c : Sym2 ℕ → Bool) {x w : ℕ} (hx : x ≤ G.n)
    (hw : w ∈ G.nbrs x) : assignOf G c (edgeId G 1 w x) = c s(x, w) := by
  unfold assignOf
  by_cases hc : c s(x, w) = true
  · rw [hc, decide_eq_true_eq]
    exact ⟨x, w, hx, hw, rfl, hc⟩
  · rw [Bool.not_eq_true] at hc
    rw [hc, decide_eq_false_iff_not]
    rintro ⟨a, b, ha, hb, he, hcab⟩
    rcases edgeId_inj_unordered hG 1 ha hb hx hw he with ⟨rfl, rfl⟩ | ⟨rfl, rfl⟩
    · rw [hc] at hcab; cases hcab
    · rw [Sym2.eq_swap, hc] at hcab; cases hcab

theorem vcount_assignOf (hG : GoodGraph G) (c : Sym2 ℕ → Bool) {x : ℕ} (hx : x ≤ G.n) :
    vcount G (assignOf G c) x = (G.nbrs x).countP (fun w => c s(x, w)) := by
  unfold vcount
  apply List.countP_congr
  intro w hw
  rw [assignOf_edge hG c hx hw]

theorem comp_colouring (hG : GoodGraph G)
    (hdeg : ∀ v, 1 ≤ v → v ≤ G.n → (G.nbrs v).length % 2 = 0) {r : ℕ} (hr : r ∈ reps G)
    (hpar : Even (∑ v ∈ (Finset.Icc 1 G.n).filter (fun v => compSet G r v = true),
      (G.nbrs v).length / 2)) :
    ∃ c : Sym2 ℕ → Bool, ∀ x, Reach G r x →
      (G.nbrs x).countP (fun w => c s(x, w)) = (G.nbrs x).length / 2 := by
  have hr' := (mem_reps.1 hr).1
  obtain ⟨u, p, hru, ht, hcov⟩ := exists_euler_circuit hG hdeg hr'
  refine ⟨altCol p.edges, ?_⟩
  have hbal : ∀ x, Reach G r x →
      2 * (G.nbrs x).countP (fun w => altCol p.edges s(x, w)) =
        (G.nbrs x).length + (if x = u ∧ p.length % 2 = 1 then 2 else 0) := by
    intro x hx
    have hxr := reach_range hG hr' hx
    have hc : ∀ w ∈ G.nbrs x, s(x, w) ∈ p.edges := fun w hw => hcov x w hx hw
    have h1 := alt_balance p ht x
    rw [trail_edges_at hG p ht hxr.2 hc, trail_edges_at hG p ht hxr.2 hc (fun e => !altCol p.edges e)]
      at h1
    have h2 := List.length_eq_countP_add_countP (fun w => altCol p.edges s(x, w)) (l := G.nbrs x)
    have h3 : (G.nbrs x).countP (fun w => !altCol p.edges s(x, w)) =
        (G.nbrs x).countP (fun a => decide ¬(fun w => altCol p.edges s(x, w)) a = true) := by
      apply List.countP_congr
      intro w _
      simp
    rw [← h3] at h2
    omega
  by_cases hodd : p.length % 2 = 1
  · -- impossible: the handshake lemma contradicts the parity hypothesis
    exfalso
    have hur := reach_range hG hr' hru
    have hev : Even (∑ v ∈ (Finset.Icc 1 G.n).filter (fun v => compSet G r v = true),
        vcount G (assignOf G (altCol p.edges)) v) :=
      closed_vcount_even hG _ (compSet G r) (compSet_closed hG r)
    have hsum : ∑ v ∈ (Finset.Icc 1 G.n).filter (fun v => compSet G r v = true),
          vcount G (assignOf G (altCol p.edges)) v =
        ∑ v ∈ (Finset.Icc 1 G.n).filter (fun v => compSet G r v = true),
          ((G.nbrs v).length / 2 + (if v = u then 1 else 0)) := by
      apply Finset.sum_congr rfl
      intro v hv
      rw [Finset.mem_filter, Finset.mem_Icc] at hv
      have hv' := (compSet_iff_reach hG hr v).1 hv.2
      rw [vcount_assignOf hG _ hv.1.2]
      have hb := hbal v hv'
      have hd := hdeg v hv.1.1 hv.1.2
      by_cases hvu : v = u
      · rw [if_pos ⟨hvu, hodd⟩] at hb; rw [if_pos hvu]; omega
      · rw [if_neg (fun h => hvu h.1)] at hb; rw [if_neg hvu]; omega
    rw [hsum, Finset.sum_add_distrib, Finset.sum_ite_eq'] at hev
    have hu : u ∈ (Finset.Icc 1 G.n).filter (fun v => compSet G r v = true) := by
      rw [Finset.mem_filter, Finset.mem_Icc]
      exact ⟨hur, (compSet_iff_reach hG hr u).2 hru⟩
    rw [if_pos hu] at hev
    rw [Nat.even_iff] at hev hpar
    omega
  · intro x hx
    have hb := hbal x hx
    rw [if_neg (fun h => hodd h.2)] at hb
    omega

theorem evenColoring_converse (hG : GoodGraph G)
    (hdeg : ∀ v, 1 ≤ v → v ≤ G.n → (G.nbrs v).length % 2 = 0)
    (hpar : ∀ r ∈ reps G,
      Even (∑ v ∈ (Finset.Icc 1 G.n).filter (fun v => compSet G r v = true), (G.nbrs v).length / 2)) :
    ∃ α, EvenColoringSpec G α := by
  have h : ∀ r, ∃ c : Sym2 ℕ → Bool, r ∈ reps G → ∀ x, Reach G r x →
      (G.nbrs x).countP (fun w => c s(x, w)) = (G.nbrs x).length / 2 := by
    intro r
    by_cases hr : r ∈ reps G
    · obtain ⟨c, hc⟩ := comp_colouring hG hdeg hr (hpar r hr)
      exact ⟨c, fun _ => hc⟩
    · exact ⟨fun _ => false, fun h => absurd h hr⟩
  choose cf hcf using h
  refine ⟨assignOf G (fun e => cf (rep G (Sym2.inf e)) e), ?_⟩
  intro x h1 h2
  change vcount G _ x = _
  rw [vcount_assignOf hG _ h2]
  have hrx := rep_mem_reps hG ⟨h1, h2⟩
  rw [← hcf (rep G x) hrx x (reach_symm hG (rep_reach x))]
  apply List.countP_congr
  intro w hw
  have : rep G (Sym2.inf s(x, w)) = rep G x := by
    rw [Sym2.inf_mk]
    rcases Nat.le_total x w with h | h
    · rw [inf_of_le_left h]
    · rw [inf_of_le_right h]
      exact rep_congr hG (reach_symm hG (reach_adj h2 hw))
  simp only [this]

end Fam
end Cnfgen
