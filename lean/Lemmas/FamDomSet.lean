/-
Helper lemmas for `Fam.uniqueNeighborhoods`, `Fam.domsetF` (both encodings) and `Fam.tiling`.
-/
import Lemmas.FamColoring
import CnfgenModel.Fam.DomSet
import Lemmas.InsSort
namespace Cnfgen
namespace Fam
open Vars

open InsSort (foldr_ins_perm foldr_ins_sorted)

theorem sortNat_perm (l : List Nat) : (sortNat l).Perm l :=
  foldr_ins_perm (ins := insertSorted) (fun _ => rfl) (fun _ _ _ => rfl) l

theorem mem_sortNat {l : List Nat} {a : Nat} : a ∈ sortNat l ↔ a ∈ l := (sortNat_perm l).mem_iff

theorem sortLex_perm (l : List (List Nat)) : (sortLex l).Perm l :=
  foldr_ins_perm (ins := insertLex) (fun _ => rfl) (fun _ _ _ => rfl) l

theorem mem_dedupAdj {l : List (List Nat)} {a : List Nat} : a ∈ dedupAdj l ↔ a ∈ l := by
  induction l using dedupAdj.induct with
  | case1 => simp [dedupAdj]
  | case2 x => simp [dedupAdj]
  | case3 x y r h ih =>
    rw [dedupAdj, if_pos h, ih]
    have : x = y := by simpa using h
    subst this
    simp
  | case4 x y r h ih =>
    rw [dedupAdj, if_neg h, List.mem_cons, ih, List.mem_cons (a := a) (b := x)]

theorem mem_uniqueNeighborhoods {G : SimpleG} {N : List Nat} :
    N ∈ uniqueNeighborhoods G ↔ ∃ v, 1 ≤ v ∧ v ≤ G.n ∧ N = closedNbr G v := by
  unfold uniqueNeighborhoods
  split
  · rename_i h0
    simp only [List.not_mem_nil, false_iff]
    rintro ⟨v, h1, h2, _⟩; omega
  · rw [mem_dedupAdj, (sortLex_perm _).mem_iff, List.mem_map]
    constructor
    · rintro ⟨v, hv, rfl⟩
      rw [mem_rangeN_one] at hv
      exact ⟨v, hv.1, hv.2, rfl⟩
    · rintro ⟨v, h1, h2, rfl⟩
      exact ⟨v, mem_rangeN_one.2 ⟨h1, h2⟩, rfl⟩

theorem mem_closedNbr {G : SimpleG} {v u : Nat} : u ∈ closedNbr G v ↔ u = v ∨ u ∈ G.nbrs v := by
  unfold closedNbr
  rw [mem_sortNat, List.mem_cons]

theorem closedNbr_range {G : SimpleG} (hG : GoodGraph G) {v u : Nat} (h1 : 1 ≤ v) (h2 : v ≤ G.n)
    (hu : u ∈ closedNbr G v) : 1 ≤ u ∧ u ≤ G.n := by
  rcases mem_closedNbr.1 hu with rfl | hu
  · exact ⟨h1, h2⟩
  · have := hG.mem h2 hu; exact ⟨this.1, this.2.1⟩

/-- `lexLe` decides the order `List.le` of core, whose order laws are used below -/
theorem lexLe_iff : ∀ a b : List Nat, lexLe a b = true ↔ List.le a b
  | [], b => iff_of_true rfl (List.nil_le b)
  | x :: xs, [] => iff_of_false Bool.false_ne_true (List.not_le.2 (List.nil_lt_cons x xs))
  | x :: xs, y :: ys => by
    rw [lexLe, Bool.or_eq_true, Bool.and_eq_true, decide_eq_true_eq, beq_iff_eq, lexLe_iff xs ys]
    exact List.cons_le_cons_iff.symm

theorem lexLe_refl (a : List Nat) : lexLe a a = true := (lexLe_iff a a).2 (List.le_refl a)

theorem sortLex_sorted (l : List (List Nat)) : (sortLex l).Pairwise (fun a b => lexLe a b = true) :=
  foldr_ins_sorted (ins := insertLex) (fun _ => rfl) (fun _ _ _ => rfl)
    (fun _ _ h => h) (fun a b h => ((List.le_total a b).imp (lexLe_iff a b).2 (lexLe_iff b a).2).resolve_left h)
    (fun a b c h1 h2 => (lexLe_iff a c).2 (List.le_trans ((lexLe_iff a b).1 h1) ((lexLe_iff b c).1 h2))) l

theorem dedupAdj_strict {l : List (List Nat)} (h : l.Pairwise (fun a b => lexLe a b = true)) :
    (dedupAdj l).Pairwise (fun a b => lexLe a b = true ∧ a ≠ b) := by
  induction l using dedupAdj.induct with
  | case1 => simp [dedupAdj]
  | case2 x => simp [dedupAdj]
  | case3 x y r hxy ih =>
    rw [dedupAdj, if_pos hxy]
    exact ih (List.pairwise_cons.1 h).2
  | case4 x y r hxy ih =>
    rw [dedupAdj, if_neg hxy]
    have hp := List.pairwise_cons.1 h
    have hp2 := List.pairwise_cons.1 hp.2
    rw [List.pairwise_cons]
    refine ⟨fun z hz => ?_, ih hp.2⟩
    rw [mem_dedupAdj] at hz
    refine ⟨hp.1 z hz, ?_⟩
    have hne : x ≠ y := by simpa using hxy
    rcases List.mem_cons.1 hz with rfl | hz'
    · exact hne
    · rintro rfl
      exact hne (List.le_antisymm ((lexLe_iff _ _).1 (hp.1 y List.mem_cons_self)) ((lexLe_iff _ _).1 (hp2.1 x hz')))

/-- "Each neighborhood is listed just once … enumerated in a sorted fashion" -/
theorem uniqueNeighborhoods_sorted (G : SimpleG) :
    (uniqueNeighborhoods G).Pairwise (fun a b => lexLe a b = true ∧ a ≠ b) := by
  unfold uniqueNeighborhoods
  split
  · exact List.Pairwise.nil
  · exact dedupAdj_strict (sortLex_sorted _)

theorem uniqueNeighborhoods_nodup (G : SimpleG) : (uniqueNeighborhoods G).Nodup :=
  (uniqueNeighborhoods_sorted G).imp (fun h => h.2)

/-- "Each one is sorted" -/
theorem closedNbr_sorted (G : SimpleG) (v : Nat) : (closedNbr G v).Pairwise (· ≤ ·) :=
  foldr_ins_sorted (ins := insertSorted) (fun _ => rfl) (fun _ _ _ => rfl)
    (fun _ _ h => h) (fun a b h => (Nat.le_total a b).resolve_left h) (fun _ _ _ => Nat.le_trans) _

theorem dId_eq (V v : Nat) (hv : 1 ≤ v) : dId V v = (v : Int) := by
  unfold dId blockId weights
  simp [weights]
  omega

theorem litHolds_dId (α : Assign) (V v : Nat) (hv : 1 ≤ v) : litHolds α (dId V v) = α v := by
  rw [dId_eq V v hv, litHolds_natCast α hv]

theorem clauseHolds_dId (α : Assign) {V v : Nat} (hv : 1 ≤ v) (ls : List Int) :
    clauseHolds α (dId V v :: ls) = true ↔ (α v = true ∨ clauseHolds α ls = true) := by
  rw [clauseHolds, List.any_cons, litHolds_dId α V v hv, Bool.or_eq_true, clauseHolds]

theorem clauseHolds_neg_dId (α : Assign) {V v : Nat} (hv : 1 ≤ v) (ls : List Int) :
    clauseHolds α (-(dId V v) :: ls) = true ↔ (α v = true → clauseHolds α ls = true) := by
  rw [dId_eq V v hv, clauseHolds_neg_cons]

theorem clauseHolds_neg_mId (α : Assign) (V d v i : Nat) (ls : List Int) :
    clauseHolds α (-(mId V d v i) :: ls) = true ↔
      (α (mapId (V + 1) d v i) = true → clauseHolds α ls = true) :=
  clauseHolds_neg_cons α _ ls

theorem pairs2_eq {α : Type} : ∀ l : List α, pairs2 l = G2.pairs2 l
  | [] => rfl
  | x :: xs => by rw [pairs2, G2.pairs2, pairs2_eq xs]

theorem mem_pairs2_rangeN {n a b : Nat} :
    (a, b) ∈ pairs2 (rangeN 1 (n + 1)) ↔ 1 ≤ a ∧ a < b ∧ b ≤ n := by
  rw [pairs2_eq]
  exact G2.mem_pairs2_verts

theorem all_pairs2_rangeN {n : Nat} {f : Nat × Nat → Bool} :
    (pairs2 (rangeN 1 (n + 1))).all f = true ↔ ∀ a b, 1 ≤ a → a < b → b ≤ n → f (a, b) = true := by
  simp only [List.all_eq_true, Prod.forall, mem_pairs2_rangeN, and_imp]

/-- the variable `M(v,i)` -/
abbrev mVar (G : SimpleG) (d v i : Nat) : Nat := mapId (G.n + 1) d v i

/-- every closed neighbourhood contains a vertex whose `D` variable is on -/
def DomPart (G : SimpleG) (α : Assign) : Prop :=
  ∀ v, 1 ≤ v → v ≤ G.n → ∃ u, (u = v ∨ u ∈ G.nbrs v) ∧ α u = true

/-- what the variables of the default encoding say: `M` is an injective, order-preserving
relation between vertices and `1..d` whose domain is the set `D`, and `D` dominates -/
def DomSpecStd (G : SimpleG) (d : Nat) (α : Assign) : Prop :=
  (∀ i, 1 ≤ i → i ≤ d → ∀ u v, 1 ≤ u → u ≤ G.n → 1 ≤ v → v ≤ G.n →
      α (mVar G d u i) = true → α (mVar G d v i) = true → u = v) ∧
  (∀ u1 u2, 1 ≤ u1 → u1 < u2 → u2 ≤ G.n → ∀ i1 i2, 1 ≤ i2 → i2 < i1 → i1 ≤ d →
      ¬ (α (mVar G d u1 i1) = true ∧ α (mVar G d u2 i2) = true)) ∧
  (∀ v, 1 ≤ v → v ≤ G.n → (α v = true ↔ ∃ i, 1 ≤ i ∧ i ≤ d ∧ α (mVar G d v i) = true)) ∧
  DomPart G α

theorem domsetF_zero {G : SimpleG} (hV : G.n = 0) (d : Nat) (alt : Bool) :
    domsetF G d alt = ⟨0, []⟩ := by
  rw [domsetF, if_pos hV]

theorem nbhd_part_iff (G : SimpleG) (hG : GoodGraph G) (α : Assign) :
    ((uniqueNeighborhoods G).map (fun N => Con.clause (N.map (dId G.n)))).all (Con.holds α) = true ↔
      DomPart G α := by
  simp only [List.all_map, List.all_eq_true, Function.comp, Con.holds, clauseHolds, List.any_map,
    List.any_eq_true]
  constructor
  · intro h v h1 h2
    obtain ⟨u, hu, hα⟩ := h (closedNbr G v) (mem_uniqueNeighborhoods.2 ⟨v, h1, h2, rfl⟩)
    have hr := closedNbr_range hG h1 h2 hu
    rw [litHolds_dId α _ _ hr.1] at hα
    exact ⟨u, mem_closedNbr.1 hu, hα⟩
  · intro h N hN
    obtain ⟨v, h1, h2, rfl⟩ := mem_uniqueNeighborhoods.1 hN
    obtain ⟨u, hu, hα⟩ := h v h1 h2
    have hu' := mem_closedNbr.2 hu
    have hr := closedNbr_range hG h1 h2 hu'
    exact ⟨u, hu', by rw [litHolds_dId α _ _ hr.1]; exact hα⟩

/-- `D(v) → M(v,1) ∨ … ∨ M(v,d)` -/
theorem indexed_part_iff (α : Assign) (V d : Nat) :
    ((rangeN 1 (V + 1)).map (fun v => Con.clause (-(dId V v) :: mapRow (V + 1) d v))).all
        (Con.holds α) = true ↔
      ∀ v, 1 ≤ v → v ≤ V → α v = true → ∃ i, 1 ≤ i ∧ i ≤ d ∧ α (mapId (V + 1) d v i) = true := by
  simp only [List.all_map, all_rangeN_one, Function.comp, Con.holds]
  refine forall_congr' fun v => forall₂_congr fun hv _ => ?_
  rw [clauseHolds_neg_dId α hv, clauseHolds_mapRow α (Nat.le_add_left 1 V)]

/-- the second group of the default encoding is `force_nondecreasing_mapping(M)` as `Lemmas/FamMapping.lean` reads it -/
theorem nondecreasing_part_eq (V d : Nat) :
    (pairs2 (rangeN 1 (V + 1))).flatMap (fun p =>
      (prod2 (rangeN 1 (d + 1)) (rangeN 1 (d + 1))).flatMap (fun q =>
        if q.1 > q.2 then [Con.clause [-(mId V d p.1 q.1), -(mId V d p.2 q.2)]] else [])) =
      G2.forceNondecreasing (V + 1) V d := by
  rw [pairs2_eq, G2.forceNondecreasing]
  simp only [prod2, List.flatMap_assoc, List.flatMap_map, List.filterMap_eq_flatMap_toList, apply_ite Option.toList,
    Option.toList_some, Option.toList_none]
  rfl

/-- `M(v,i) → D(v)` -/
theorem active_part_iff (α : Assign) (V d : Nat) :
    ((rangeN 1 (d + 1)).flatMap (fun i => (rangeN 1 (V + 1)).map (fun v =>
      Con.clause [-(mId V d v i), dId V v]))).all (Con.holds α) = true ↔
      ∀ i, 1 ≤ i → i ≤ d → ∀ v, 1 ≤ v → v ≤ V → α (mapId (V + 1) d v i) = true → α v = true := by
  simp only [List.all_flatMap, List.all_map, all_rangeN_one, Function.comp, Con.holds]
  refine forall₃_congr fun i _ _ => forall_congr' fun v => forall₂_congr fun hv _ => ?_
  rw [clauseHolds_neg_mId, clauseHolds_dId α hv, clauseHolds_nil, Bool.false_eq_true, or_false]

theorem domsetF_std_holds_iff (G : SimpleG) (hG : GoodGraph G) (d : Nat) (α : Assign) :
    (domsetF G d false).holds α = true ↔ DomSpecStd G d α := by
  by_cases hV : G.n = 0
  · rw [domsetF_zero hV]
    exact iff_of_true rfl ⟨fun i _ _ u v h1 h2 => by omega, fun u1 u2 h1 h2 h3 => by omega,
      fun v h1 h2 => by omega, fun v h1 h2 => by omega⟩
  · rw [Formula.holds, domsetF, if_neg hV]
    simp only [Bool.false_eq_true, if_false, List.all_append, Bool.and_eq_true]
    rw [nondecreasing_part_eq]
    -- the first two groups are `force_injective_mapping(M)`, `force_nondecreasing_mapping(M)`
    refine (and_congr (and_congr (and_congr (and_congr
      (List.all_eq_true.trans (G2.forceInjective_holds α G.n d (Nat.le_add_left 1 _)))
      (List.all_eq_true.trans (G2.forceNondecreasing_holds α G.n d)))
      (active_part_iff α G.n d)) (indexed_part_iff α G.n d)) (nbhd_part_iff G hG α)).trans ?_
    exact ⟨fun ⟨⟨⟨⟨h1, h2⟩, h3⟩, h4⟩, h5⟩ => ⟨fun i hi hd u v hu hun hv hvn => h1 i hi hd u hu hun v hv hvn,
        fun u1 u2 hu hlt hun i1 i2 hi2 hilt hi1 ⟨a, b⟩ =>
          absurd (h2 u1 hu u2 hlt hun i1 (by omega) hi1 i2 hi2 (by omega) a b) (by omega),
        fun v hv hn => ⟨h4 v hv hn, fun ⟨i, hi, hd, hm⟩ => h3 i hi hd v hv hn hm⟩, h5⟩,
      fun ⟨h1, h2, h34, h5⟩ => ⟨⟨⟨⟨fun i hi hd u hu hun v hv hvn => h1 i hi hd u v hu hun hv hvn,
        fun u1 hu u2 hlt hun i1 hi1 hi1d i2 hi2 hi2d a b => Nat.le_of_not_lt fun hilt =>
          h2 u1 u2 hu hlt hun i1 i2 hi2 hilt hi1d ⟨a, b⟩⟩,
        fun i hi hd v hv hn hm => (h34 v hv hn).2 ⟨i, hi, hd, hm⟩⟩,
        fun v hv hn => (h34 v hv hn).1⟩, h5⟩⟩

/-- what the variables of the alternative encoding say: active vertices (those in `D`) carry at
least one index, at most one index, pairwise different indices; and `D` dominates -/
def DomSpecAlt (G : SimpleG) (d : Nat) (α : Assign) : Prop :=
  (∀ u v, 1 ≤ u → u < v → v ≤ G.n → ∀ i, 1 ≤ i → i ≤ d →
      ¬ (α u = true ∧ α v = true ∧ α (mVar G d u i) = true ∧ α (mVar G d v i) = true)) ∧
  (∀ v, 1 ≤ v → v ≤ G.n → ∀ i j, 1 ≤ i → i < j → j ≤ d →
      ¬ (α v = true ∧ α (mVar G d v i) = true ∧ α (mVar G d v j) = true)) ∧
  (∀ v, 1 ≤ v → v ≤ G.n → α v = true → ∃ i, 1 ≤ i ∧ i ≤ d ∧ α (mVar G d v i) = true) ∧
  DomPart G α

theorem distinct_part_iff (α : Assign) (V d : Nat) :
    ((pairs2 (rangeN 1 (V + 1))).flatMap (fun p => (rangeN 1 (d + 1)).map (fun i =>
      Con.clause [-(dId V p.1), -(dId V p.2), -(mId V d p.1 i), -(mId V d p.2 i)]))).all
        (Con.holds α) = true ↔
      ∀ u v, 1 ≤ u → u < v → v ≤ V → ∀ i, 1 ≤ i → i ≤ d →
        ¬ (α u = true ∧ α v = true ∧ α (mapId (V + 1) d u i) = true ∧
          α (mapId (V + 1) d v i) = true) := by
  simp only [List.all_flatMap, List.all_map, all_pairs2_rangeN, all_rangeN_one, Function.comp]
  refine forall₂_congr fun u v => forall₃_congr fun hu huv _ => ?_
  simp only [Con.holds, clauseHolds_neg_dId α hu,
    clauseHolds_neg_dId α (Nat.le_of_lt (Nat.lt_of_le_of_lt hu huv)), clauseHolds_neg_mId,
    clauseHolds_nil, Bool.false_eq_true, not_and]

theorem single_part_iff (α : Assign) (V d : Nat) :
    ((rangeN 1 (V + 1)).flatMap (fun v => (pairs2 (rangeN 1 (d + 1))).map (fun p =>
      Con.clause [-(dId V v), -(mId V d v p.1), -(mId V d v p.2)]))).all (Con.holds α) = true ↔
      ∀ v, 1 ≤ v → v ≤ V → ∀ i j, 1 ≤ i → i < j → j ≤ d →
        ¬ (α v = true ∧ α (mapId (V + 1) d v i) = true ∧ α (mapId (V + 1) d v j) = true) := by
  simp only [List.all_flatMap, List.all_map, all_pairs2_rangeN, all_rangeN_one, Function.comp]
  refine forall_congr' fun v => forall₂_congr fun hv _ => ?_
  simp only [Con.holds, clauseHolds_neg_dId α hv, clauseHolds_neg_mId, clauseHolds_nil, Bool.false_eq_true, not_and]

theorem domsetF_alt_holds_iff (G : SimpleG) (hG : GoodGraph G) (d : Nat) (α : Assign) :
    (domsetF G d true).holds α = true ↔ DomSpecAlt G d α := by
  by_cases hV : G.n = 0
  · rw [domsetF_zero hV]
    exact iff_of_true rfl ⟨fun u v h1 h2 h3 => by omega, fun v h1 h2 => by omega,
      fun v h1 h2 => by omega, fun v h1 h2 => by omega⟩
  · rw [Formula.holds, domsetF, if_neg hV]
    simp only [if_true, List.all_append, Bool.and_eq_true, List.all_nil, and_true]
    rw [distinct_part_iff, single_part_iff, indexed_part_iff, nbhd_part_iff G hG]
    simp only [and_assoc, DomSpecAlt]

/-- `S` is a set (duplicate-free list) of vertices of `G` that dominates `G` -/
def Dominating (G : SimpleG) (S : List Nat) : Prop :=
  S.Nodup ∧ (∀ s ∈ S, 1 ≤ s ∧ s ≤ G.n) ∧
  ∀ v, 1 ≤ v → v ≤ G.n → ∃ u ∈ S, u = v ∨ u ∈ G.nbrs v

/-- the `D` part of an assignment as a vertex list -/
def domOf (G : SimpleG) (α : Assign) : List Nat := (rangeN 1 (G.n + 1)).filter (fun v => α v)

theorem mem_domOf {G : SimpleG} {α : Assign} {v : Nat} :
    v ∈ domOf G α ↔ 1 ≤ v ∧ v ≤ G.n ∧ α v = true := by
  unfold domOf; rw [List.mem_filter, mem_rangeN_one]; tauto

theorem domOf_dominating (G : SimpleG) (hG : GoodGraph G) (α : Assign) (h : DomPart G α) :
    Dominating G (domOf G α) := by
  refine ⟨(rangeN_nodup 1 (G.n + 1)).filter _, fun s hs => ?_, fun v h1 h2 => ?_⟩
  · have := mem_domOf.1 hs; exact ⟨this.1, this.2.1⟩
  · obtain ⟨u, hu, hα⟩ := h v h1 h2
    have hr := closedNbr_range hG h1 h2 (mem_closedNbr.2 hu)
    exact ⟨u, mem_domOf.2 ⟨hr.1, hr.2, hα⟩, hu⟩

theorem domOf_length_le (G : SimpleG) (d : Nat) (α : Assign)
    (hex : ∀ v, 1 ≤ v → v ≤ G.n → α v = true → ∃ i, 1 ≤ i ∧ i ≤ d ∧ α (mVar G d v i) = true)
    (hdiff : ∀ u v, 1 ≤ u → u < v → v ≤ G.n → α u = true → α v = true → ∀ i, 1 ≤ i → i ≤ d →
      ¬ (α (mVar G d u i) = true ∧ α (mVar G d v i) = true)) :
    (domOf G α).length ≤ d := by
  -- `pickIdx` maps the chosen vertices injectively into `1..d`
  rw [← List.length_map (f := pickIdx (G.n + 1) d α)]
  refine G2.length_le_of_nodup (List.Nodup.map_on ?_ ((rangeN_nodup 1 (G.n + 1)).filter _)) (List.forall_mem_map.2 ?_)
  · intro u hu v hv heq
    have hu' := mem_domOf.1 hu
    have hv' := mem_domOf.1 hv
    have su := pickIdx_spec (hex u hu'.1 hu'.2.1 hu'.2.2)
    have sv := pickIdx_spec (hex v hv'.1 hv'.2.1 hv'.2.2)
    rw [heq] at su
    rcases Nat.lt_trichotomy u v with hlt | heq' | hgt
    · exact absurd ⟨su.2.2, sv.2.2⟩ (hdiff u v hu'.1 hlt hv'.2.1 hu'.2.2 hv'.2.2 _ sv.1 sv.2.1)
    · exact heq'
    · exact absurd ⟨sv.2.2, su.2.2⟩ (hdiff v u hv'.1 hgt hu'.2.1 hv'.2.2 hu'.2.2 _ sv.1 sv.2.1)
  · intro v hv
    have hv' := mem_domOf.1 hv
    have := pickIdx_spec (hex v hv'.1 hv'.2.1 hv'.2.2)
    exact ⟨this.1, this.2.1⟩

theorem domset_std_sound (G : SimpleG) (hG : GoodGraph G) (d : Nat) (α : Assign)
    (h : DomSpecStd G d α) : Dominating G (domOf G α) ∧ (domOf G α).length ≤ d := by
  obtain ⟨hinj, _, hiff, hdom⟩ := h
  refine ⟨domOf_dominating G hG α hdom, domOf_length_le G d α (fun v h1 h2 => (hiff v h1 h2).1) ?_⟩
  rintro u v hu hlt hv _ _ i hi hid ⟨a, b⟩
  have := hinj i hi hid u v hu (by omega) (by omega) hv a b
  omega

theorem domset_alt_sound (G : SimpleG) (hG : GoodGraph G) (d : Nat) (α : Assign)
    (h : DomSpecAlt G d α) : Dominating G (domOf G α) ∧ (domOf G α).length ≤ d := by
  obtain ⟨hdiff, _, hex, hdom⟩ := h
  exact ⟨domOf_dominating G hG α hdom, domOf_length_le G d α hex
    fun u v hu hlt hv au av i hi hid ⟨a, b⟩ => hdiff u v hu hlt hv i hi hid ⟨au, av, a, b⟩⟩

/-- position of `v` in the increasing enumeration of `S` -/
def rank (S : List Nat) (v : Nat) : Nat := S.countP (fun x => decide (x ≤ v))

theorem countP_lt_of_imp {l : List Nat} {p q : Nat → Bool} (himp : ∀ x, p x = true → q x = true)
    {a : Nat} (ha : a ∈ l) (hq : q a = true) (hp : p a = false) : l.countP p < l.countP q := by
  induction l with
  | nil => simp at ha
  | cons x xs ih =>
    have hmono : xs.countP p ≤ xs.countP q := List.countP_mono_left (fun x _ => himp x)
    rw [List.countP_cons, List.countP_cons]
    rcases List.mem_cons.1 ha with rfl | ha'
    · simp only [hp, hq, if_true]
      simp; omega
    · have := ih ha'
      cases hpx : p x
      · simp only [Bool.false_eq_true, if_false]; split <;> omega
      · simp only [himp x hpx, if_true]; omega

theorem rank_lt {S : List Nat} {u v : Nat} (hlt : u < v) (hv : v ∈ S) : rank S u < rank S v :=
  countP_lt_of_imp (fun x hx => by simp only [decide_eq_true_eq] at hx ⊢; omega) hv
    (by simp) (by simp; omega)

theorem rank_pos {S : List Nat} {v : Nat} (hv : v ∈ S) : 1 ≤ rank S v :=
  List.countP_pos_iff.2 ⟨v, hv, by simp⟩

theorem rank_le (S : List Nat) (v : Nat) : rank S v ≤ S.length := List.countP_le_length

theorem rank_inj {S : List Nat} {u v : Nat} (hu : u ∈ S) (hv : v ∈ S) (h : rank S u = rank S v) :
    u = v := by
  rcases Nat.lt_trichotomy u v with hlt | heq | hgt
  · have := rank_lt hlt hv; omega
  · exact heq
  · have := rank_lt hgt hu; omega

/-- the assignment describing the dominating set `S`: `D(v)` iff `v ∈ S`, `M(v,i)` iff `v` is the
`i`-th element of `S` in increasing order -/
def domAssign (V d : Nat) (S : List Nat) : Assign := fun x =>
  if x ≤ V then decide (x ∈ S)
  else decide (((x - (V + 1)) / d + 1) ∈ S ∧ rank S ((x - (V + 1)) / d + 1) = (x - (V + 1)) % d + 1)

theorem domAssign_D {V d : Nat} {S : List Nat} {v : Nat} (hv : v ≤ V) :
    domAssign V d S v = decide (v ∈ S) := by
  unfold domAssign; rw [if_pos hv]

theorem domAssign_M {V d : Nat} {S : List Nat} {v i : Nat} (hv : 1 ≤ v) (hi1 : 1 ≤ i) (hid : i ≤ d) :
    domAssign V d S (mapId (V + 1) d v i) = true ↔ v ∈ S ∧ rank S v = i := by
  unfold domAssign
  have hge := mapId_ge (V + 1) d v i
  have dec := mapId_decode (s := V + 1) hv hi1 hid
  rw [if_neg (by omega), dec.1, dec.2, decide_eq_true_eq]

theorem domAssign_dompart (G : SimpleG) (d : Nat) (S : List Nat)
    (hS : Dominating G S) : DomPart G (domAssign G.n d S) := by
  intro v h1 h2
  obtain ⟨u, hu, huv⟩ := hS.2.2 v h1 h2
  refine ⟨u, huv, ?_⟩
  rw [domAssign_D (hS.2.1 u hu).2]
  simpa using hu

theorem domAssign_indexed {G : SimpleG} {d : Nat} {S : List Nat} (hd : S.length ≤ d) {v : Nat}
    (h1 : 1 ≤ v) (hv : v ∈ S) : ∃ i, 1 ≤ i ∧ i ≤ d ∧ domAssign G.n d S (mVar G d v i) = true :=
  have r1 := rank_pos hv
  have r2 := Nat.le_trans (rank_le S v) hd
  ⟨rank S v, r1, r2, (domAssign_M h1 r1 r2).2 ⟨hv, rfl⟩⟩

theorem domset_std_complete (G : SimpleG) (d : Nat) (S : List Nat)
    (hS : Dominating G S) (hd : S.length ≤ d) : DomSpecStd G d (domAssign G.n d S) := by
  refine ⟨?_, ?_, ?_, domAssign_dompart G d S hS⟩
  · intro i hi1 hid u v hu1 _ hv1 _ ha hb
    have a := (domAssign_M hu1 hi1 hid).1 ha
    have b := (domAssign_M hv1 hi1 hid).1 hb
    exact rank_inj a.1 b.1 (by omega)
  · rintro u1 u2 hu1 hlt _ i1 i2 hi2 hilt hi1 ⟨ha, hb⟩
    have a := (domAssign_M hu1 (by omega) hi1).1 ha
    have b := (domAssign_M (by omega) hi2 (by omega)).1 hb
    have := rank_lt hlt b.1
    omega
  · intro v h1 h2
    rw [domAssign_D h2, decide_eq_true_eq]
    exact ⟨domAssign_indexed hd h1, fun ⟨i, hi1, hid, hm⟩ => ((domAssign_M h1 hi1 hid).1 hm).1⟩

theorem domset_alt_complete (G : SimpleG) (d : Nat) (S : List Nat)
    (hS : Dominating G S) (hd : S.length ≤ d) : DomSpecAlt G d (domAssign G.n d S) := by
  refine ⟨?_, ?_, ?_, domAssign_dompart G d S hS⟩
  · rintro u v hu1 hlt _ i hi1 hid ⟨_, _, ha, hb⟩
    have a := (domAssign_M hu1 hi1 hid).1 ha
    have b := (domAssign_M (by omega) hi1 hid).1 hb
    have := rank_lt hlt b.1
    omega
  · rintro v hv1 _ i j hi1 hlt hjd ⟨_, ha, hb⟩
    have a := (domAssign_M hv1 hi1 (by omega)).1 ha
    have b := (domAssign_M hv1 (by omega) hjd).1 hb
    omega
  · intro v h1 h2 hα
    rw [domAssign_D h2, decide_eq_true_eq] at hα
    exact domAssign_indexed hd h1 hα

theorem domsetF_sound (G : SimpleG) (hG : GoodGraph G) (d : Nat) (alt : Bool) (α : Assign)
    (h : (domsetF G d alt).holds α = true) : Dominating G (domOf G α) ∧ (domOf G α).length ≤ d := by
  cases alt
  · exact domset_std_sound G hG d α ((domsetF_std_holds_iff G hG d α).1 h)
  · exact domset_alt_sound G hG d α ((domsetF_alt_holds_iff G hG d α).1 h)

theorem domsetF_complete (G : SimpleG) (hG : GoodGraph G) (d : Nat) (alt : Bool) (S : List Nat)
    (hS : Dominating G S) (hd : S.length ≤ d) : (domsetF G d alt).holds (domAssign G.n d S) = true := by
  cases alt
  · exact (domsetF_std_holds_iff G hG d _).2 (domset_std_complete G d S hS hd)
  · exact (domsetF_alt_holds_iff G hG d _).2 (domset_alt_complete G d S hS hd)

theorem _root_.Cnfgen.LitsIn.dPos {V N v : Nat} {c : Clause} (h1 : 1 ≤ v) (h2 : v ≤ N) (hc : LitsIn 0 N c) :
    LitsIn 0 N (dId V v :: c) :=
  dId_eq V v h1 ▸ .pos h1 ⟨Nat.zero_le _, h2⟩ hc

theorem _root_.Cnfgen.LitsIn.dNeg {V N v : Nat} {c : Clause} (h1 : 1 ≤ v) (h2 : v ≤ N) (hc : LitsIn 0 N c) :
    LitsIn 0 N (-(dId V v) :: c) :=
  dId_eq V v h1 ▸ .neg h1 ⟨Nat.zero_le _, h2⟩ hc

theorem _root_.Cnfgen.LitsIn.mNeg {V d v i : Nat} {c : Clause} (h1 : 1 ≤ v) (h2 : v ≤ V) (hi1 : 1 ≤ i) (hid : i ≤ d)
    (hc : LitsIn 0 (V + V * d) c) : LitsIn 0 (V + V * d) (-(mId V d v i) :: c) :=
  have m := G2.mapId_in (st := V + 1) (k := V) (Nat.le_add_left 1 V) h1 h2 hi1 hid
  .neg m.1 ⟨Nat.zero_le _, by omega⟩ hc

theorem domsetF_nvars (G : SimpleG) (d : Nat) (alt : Bool) :
    (domsetF G d alt).nvars = G.n + G.n * d := by
  by_cases hV : G.n = 0
  · rw [domsetF_zero hV, hV]; simp
  · rw [domsetF, if_neg hV]

theorem domsetF_wf (G : SimpleG) (hG : GoodGraph G) (d : Nat) (alt : Bool) : (domsetF G d alt).WF := by
  refine G2.wf_of_consIn (lo := 0) ?_
  rw [domsetF_nvars]
  by_cases hV : G.n = 0
  · rw [domsetF_zero hV]; exact .nil
  · rw [domsetF, if_neg hV]
    -- the five groups in the order of `domsetF`; their literals are `±D(v)`, `±M(v,i)` with indices in range
    refine ((((G2.ConsIn.ite (fun _ => ?_) fun _ => ?_).append (.ite (fun _ => ?_) fun _ => ?_)).append
      (.ite (fun _ => .nil) fun _ => ?_)).append (.map fun v hv => ?_)).append (.map fun N hN => ?_)
    · refine .flatMap fun p hp => .map fun i hi => ?_
      have hp := mem_pairs2_rangeN.1 hp
      have hi := mem_rangeN_one.1 hi
      exact .dNeg hp.1 (by omega) (.dNeg (by omega) (by omega)
        (.mNeg hp.1 (by omega) hi.1 hi.2 (.mNeg (by omega) hp.2.2 hi.1 hi.2 .nil)))
    · exact (G2.forceInjective_in G.n d (Nat.le_add_left 1 _)).mono (Nat.zero_le _) (by omega)
    · refine .flatMap fun v hv => .map fun p hp => ?_
      have hp := mem_pairs2_rangeN.1 hp
      have hv := mem_rangeN_one.1 hv
      exact .dNeg hv.1 (by omega) (.mNeg hv.1 hv.2 hp.1 (by omega) (.mNeg hv.1 hv.2 (by omega) hp.2.2 .nil))
    · exact nondecreasing_part_eq G.n d ▸
        (G2.forceNondecreasing_in G.n d (Nat.le_add_left 1 _)).mono (Nat.zero_le _) (by omega)
    · refine .flatMap fun i hi => .map fun v hv => ?_
      have hi := mem_rangeN_one.1 hi
      have hv := mem_rangeN_one.1 hv
      exact .mNeg hv.1 hv.2 hi.1 hi.2 (.dPos hv.1 (by omega) .nil)
    · have hv := mem_rangeN_one.1 hv
      exact .dNeg hv.1 (by omega)
        ((G2.mRow_in (k := G.n) (Nat.le_add_left 1 _) hv.1 hv.2).mono (Nat.zero_le _) (by omega))
    · obtain ⟨v, h1, h2, rfl⟩ := mem_uniqueNeighborhoods.1 hN
      exact .map fun u hu =>
        have hr := closedNbr_range hG h1 h2 hu
        .dPos hr.1 (by omega) .nil

/-- every closed neighbourhood contains exactly one chosen vertex -/
def TilingSpec (G : SimpleG) (α : Assign) : Prop :=
  ∀ v, 1 ≤ v → v ≤ G.n → (v :: G.nbrs v).countP (fun u => α u) = 1

theorem count_nbhd (G : SimpleG) (hG : GoodGraph G) (α : Assign) {v : Nat} (h1 : 1 ≤ v) (h2 : v ≤ G.n) :
    count α ((closedNbr G v).map (dId G.n)) = (v :: G.nbrs v).countP (fun u => α u) := by
  unfold count
  rw [List.countP_map]
  have hperm : (closedNbr G v).Perm (v :: G.nbrs v) := sortNat_perm _
  rw [← hperm.countP_eq]
  apply List.countP_congr
  intro u hu
  have hr := closedNbr_range hG h1 h2 hu
  simp only [Function.comp, litHolds_dId α _ _ hr.1]

theorem tiling_holds_iff (G : SimpleG) (hG : GoodGraph G) (α : Assign) :
    (tiling G).holds α = true ↔ TilingSpec G α := by
  unfold Formula.holds tiling TilingSpec
  simp only [List.all_map, List.all_eq_true, Function.comp, Con.holds, Op.denote, decide_eq_true_eq]
  constructor
  · intro h v h1 h2
    have := h (closedNbr G v) (mem_uniqueNeighborhoods.2 ⟨v, h1, h2, rfl⟩)
    rw [count_nbhd G hG α h1 h2] at this
    omega
  · intro h N hN
    obtain ⟨v, h1, h2, rfl⟩ := mem_uniqueNeighborhoods.1 hN
    rw [count_nbhd G hG α h1 h2, h v h1 h2]
    rfl

theorem tiling_wf (G : SimpleG) (hG : GoodGraph G) : (tiling G).WF :=
  G2.wf_of_consIn (lo := 0) (.map fun N hN => by
    obtain ⟨v, h1, h2, rfl⟩ := mem_uniqueNeighborhoods.1 hN
    exact .map fun u hu =>
      have hr := closedNbr_range hG h1 h2 hu
      .dPos hr.1 hr.2 .nil)

/-- `S` is a set of vertices meeting every closed neighbourhood exactly once -/
def IsTiling (G : SimpleG) (S : List Nat) : Prop :=
  S.Nodup ∧ (∀ s ∈ S, 1 ≤ s ∧ s ≤ G.n) ∧
  ∀ v, 1 ≤ v → v ≤ G.n → (v :: G.nbrs v).countP (fun u => decide (u ∈ S)) = 1

theorem tiling_sound (G : SimpleG) (hG : GoodGraph G) (α : Assign) (h : TilingSpec G α) :
    IsTiling G (domOf G α) := by
  refine ⟨(rangeN_nodup 1 (G.n + 1)).filter _, fun s hs => ?_, fun v h1 h2 => ?_⟩
  · have := mem_domOf.1 hs; exact ⟨this.1, this.2.1⟩
  · rw [← h v h1 h2]
    apply List.countP_congr
    intro u hu
    have hr := closedNbr_range hG h1 h2 (mem_closedNbr.2 (List.mem_cons.1 hu))
    simp only [decide_eq_true_eq, mem_domOf]
    constructor
    · intro h; exact h.2.2
    · intro h; exact ⟨hr.1, hr.2, h⟩

theorem tiling_complete (G : SimpleG) (S : List Nat) (h : IsTiling G S) :
    TilingSpec G (fun u => decide (u ∈ S)) := h.2.2

theorem exG_dominating : Dominating exG [1, 4, 6] := by
  refine ⟨by decide +kernel, by decide +kernel, fun v h1 h2 => ?_⟩
  rcases exG_vertices h1 h2 with rfl | rfl | rfl | rfl | rfl | rfl <;> decide +kernel

theorem exG_tiling : IsTiling exG [1, 4, 6] := by
  refine ⟨by decide +kernel, by decide +kernel, fun v h1 h2 => ?_⟩
  rcases exG_vertices h1 h2 with rfl | rfl | rfl | rfl | rfl | rfl <;> decide +kernel

end Fam
end Cnfgen
