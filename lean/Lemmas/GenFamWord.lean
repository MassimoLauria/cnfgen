/-
Lemmas for the translated family generators that use word groups (`new_combinations` …): creation on the formula
object, `group(u, v, …)` on a word of the enumeration, `group()` (all identifiers).
-/
import Lemmas.GenFamBlock
import Props.C11.GeneratedWords
set_option linter.unusedSimpArgs false
namespace Cnfgen.GenFam
open Cnfgen Cnfgen.Vars Cnfgen.PyGen Cnfgen.GenVars Cnfgen.PyF Cnfgen.C11

theorem word_ids (nv : Nat) (n k : Int) (wt : String) (seqs : List (List Nat)) :
    (wordSelf nv n k wt seqs).ids = ⟨(nv : Int) + 1, (nv : Int) + ((seqs.length : Nat) : Int) + 1⟩ := rfl

theorem add_variable_group_word_eq (s : FState) (nv : Nat) (n k : Int) (wt : String) (seqs : List (List Nat))
    (hs : s.numvar = nv) :
    VariablesManager.add_variable_group_word s (wordSelf nv n k wt seqs) =
      Except.ok { s with numvar := ((nv + seqs.length : Nat) : Int) } :=
  add_variable_group_eq s nv _ hs _ (word_ids nv n k wt seqs)

theorem wordEnum_combinations (n k : Nat) : wordEnum "combinations" n k = some (combosSeqs n k) := by
  simp only [wordEnum, if_true]

/-- `new_combinations(n, k, label=…)` with a label that formats -/
theorem new_combinations_eq (s : FState) (nv : Nat) (hs : s.numvar = nv) (n k : Nat) :
    VariablesManager.new_combinations s (n : Int) (k : Int) (Except.ok ()) =
      Except.ok (wordSelf nv n k "combinations" (combosSeqs n k),
        { s with numvar := ((nv + (combosSeqs n k).length : Nat) : Int) }) := by
  unfold VariablesManager.new_combinations
  rw [hs, gen_word_init_eq]
  have hneg : ¬ ((n : Int) < 0 ∨ (k : Int) < 0) := by omega
  simp only [Py.tryExcept, hneg, if_false, wordEnum_combinations, Int.toNat_natCast, Py.ok_bind]
  rw [add_variable_group_word_eq s nv _ _ _ _ hs, Py.ok_bind]

theorem word_call_word (nv : Nat) (n k : Int) (wt : String) {seqs : List (List Nat)} (hnd : seqs.Nodup)
    (w : List Nat) (hne : w ≠ []) (hw : w ∈ seqs) :
    WordOfIndicesVariables.call (wordSelf nv n k wt seqs) (natPat w) =
      Except.ok (Sum.inl ((nv + 1 + seqs.idxOf w : Nat) : Int)) := by
  rw [gen_word_call_eq_model, (word_call_full "" hnd w hne).1 hw]
  rfl

theorem word_call_all (nv : Nat) (n k : Int) (wt : String) {seqs : List (List Nat)} (hnd : seqs.Nodup)
    (hne : [] ∉ seqs) :
    WordOfIndicesVariables.call (wordSelf nv n k wt seqs) [] =
      Except.ok (Sum.inr ((List.range seqs.length).map (fun j => ((nv + 1 + j : Nat) : Int)))) := by
  rw [gen_word_call_eq_model]
  have hnone : seq2vid (nv + 1) seqs [] = none := by
    cases hh : seq2vid (nv + 1) seqs [] with
    | none => rfl
    | some v => exact absurd ((seq2vid_isSome_iff (nv + 1) seqs []).1 (by simp [hh])) hne
  have hp : patternNats ([] : Pattern) = some [] := rfl
  simp only [Group.call, hp, Option.bind_some, hnone, Group.indices, List.isEmpty_nil, if_true, Py.map_ok, bind,
    Except.bind, pure, Except.pure, resSum, Except.map]
  congr 2
  simp only [ints, List.map_map]
  apply List.ext_getElem
  · simp
  · intro i h1 h2
    simp only [List.length_map] at h1
    simp only [List.getElem_map, List.getElem_range, Function.comp]
    rw [seq2vid_eq_wordId hnd]
    have hidx : seqs.idxOf seqs[i] = i := hnd.idxOf_getElem i h1
    simp [wordId, hidx, h1]

end Cnfgen.GenFam
