/-
CliqueColoring: the pair enumeration `combinations(range(1, n+1), 2)` and its identifiers,
meaning of the two clause shapes with three literals.
-/
import Lemmas.C01Pigeon
import Lemmas.C01Combos
import CnfgenModel.Fam.CliqueColoring
namespace Cnfgen.Fam
open Cnfgen

theorem nodup_pairs {β : Type} (l : List β) (h : l.Nodup) : (pairs l).Nodup :=
  .of_map _ (pairs_eq_combos l ▸ combos_nodup h 2)

theorem length_pairs {β : Type} : ∀ (l : List β), (pairs l).length = Nat.choose l.length 2
  | [] => by simp [pairs]
  | x :: xs => by
    simp only [pairs, List.length_append, List.length_map, length_pairs xs, List.length_cons,
      Nat.choose_succ_succ, Nat.choose_one_right]

/-- the variable `e_{u,v}` (`u < v`) of `new_combinations(n, 2)` -/
def ccEVar (n u v : Nat) : Nat := 1 + (pairs (idx n)).idxOf (u, v)

theorem ccEdges_eq (n : Nat) :
    ccEdges n = (pairs (idx n)).map (fun e => (e, (pairs (idx n)).idxOf e)) := by
  simp only [ccEdges]
  rw [zipIdx_eq_map_idxOf _ 0 (nodup_pairs _ (idx_nodup n))]
  simp

theorem ccEVar_le (n u v : Nat) (h : (u, v) ∈ pairs (idx n)) :
    1 ≤ ccEVar n u v ∧ ccEVar n u v ≤ (pairs (idx n)).length := by
  have := List.idxOf_lt_length_iff.2 h
  simp only [ccEVar]; omega

theorem ccEVar_inj (n : Nat) {u v u' v' : Nat} (h : (u, v) ∈ pairs (idx n))
    (he : ccEVar n u v = ccEVar n u' v') : u = u' ∧ v = v' := by
  have : (pairs (idx n)).idxOf (u, v) = (pairs (idx n)).idxOf (u', v') := by
    simp only [ccEVar] at he; omega
  have := (List.idxOf_inj h).1 this
  exact ⟨congrArg Prod.fst this, congrArg Prod.snd this⟩

theorem cc_clique_holds (α : Assign) (q : UMap) (e : Nat) (i u j v : Nat) :
    clauseHolds α [((1 + e : Nat) : Int), -(q.lit i u), -(q.lit j v)] = true ↔
      (α (q.var i u) = true → α (q.var j v) = true → α (1 + e) = true) := by
  simp only [clauseHolds_cons, clauseHolds_nil, UMap.lit, litHolds_neg_natCast, litHolds_natCast α (show 0 < 1 + e by omega)]
  cases α (q.var i u) <;> cases α (q.var j v) <;> cases α (1 + e) <;> simp

theorem cc_proper_holds (α : Assign) (r : UMap) (e : Nat) (u v l : Nat) :
    clauseHolds α [-((e : Nat) : Int), -(r.lit u l), -(r.lit v l)] = true ↔
      (α e = true → ¬ (α (r.var u l) = true ∧ α (r.var v l) = true)) := by
  simp only [clauseHolds_cons, clauseHolds_nil, UMap.lit, litHolds_neg_natCast]
  cases α (r.var u l) <;> cases α (r.var v l) <;> cases α e <;> simp

end Cnfgen.Fam
