/-
The auxiliary bipartite graph of `GraphEdgesVariables` (edges of a simple graph oriented
from the smaller to the larger endpoint) and the incident-edge lists of a vertex.
-/
import Lemmas.C01Bip
import CnfgenModel.Fam.Counting
namespace Cnfgen.Fam
open Cnfgen

/-- consistency of a simple graph object (an invariant of `Graph.add_edge`) -/
structure GoodSimple (G : SimpleG) : Prop where
  nodup : ∀ u, (G.nbrs u).Nodup
  noloop : ∀ u, u ∉ G.nbrs u
  /-- adjacency is symmetric and stays within the vertex range -/
  sym : ∀ u v, (1 ≤ u ∧ u ≤ G.n ∧ v ∈ G.nbrs u) → (1 ≤ v ∧ v ≤ G.n ∧ u ∈ G.nbrs v)

theorem getD_cons_map_idx {β : Type} (n : Nat) (f : Nat → β) (d : β) (u : Nat) :
    (d :: (idx n).map f).getD u d = if 1 ≤ u ∧ u ≤ n then f u else d := by
  cases u with
  | zero => simp
  | succ k =>
    simp only [List.getD_cons_succ, idx, rangeN, List.map_map, Nat.add_sub_cancel]
    rw [List.getD_eq_getElem?_getD, List.getElem?_map]
    by_cases h : k < n
    · rw [List.getElem?_range h]
      have : k + 1 ≤ n := by omega
      simp [this]
    · rw [List.getElem?_eq_none (by simp; omega)]
      have : ¬ (k + 1 ≤ n) := by omega
      simp [this]

theorem auxBip_rnbrs (G : SimpleG) (u : Nat) :
    (auxBip G).rnbrs u = if 1 ≤ u ∧ u ≤ G.n then (G.nbrs u).filter (fun v => u < v) else [] := by
  simp only [auxBip, BipG.rnbrs]
  exact getD_cons_map_idx G.n (fun u => (G.nbrs u).filter (fun v => u < v)) [] u

theorem auxBip_lnbrs (G : SimpleG) (v : Nat) :
    (auxBip G).lnbrs v = if 1 ≤ v ∧ v ≤ G.n then (G.nbrs v).filter (fun u => u < v) else [] := by
  simp only [auxBip, BipG.lnbrs]
  exact getD_cons_map_idx G.n (fun v => (G.nbrs v).filter (fun u => u < v)) [] v

theorem auxBip_l (G : SimpleG) : (auxBip G).l = G.n := rfl
theorem auxBip_r (G : SimpleG) : (auxBip G).r = G.n := rfl

theorem length_flatMap_idx (n : Nat) (f : Nat → List (Nat × Nat)) (g : Nat → Nat)
    (h : ∀ u, 1 ≤ u → u ≤ n → (f u).length = g u) :
    ((idx n).flatMap f).length = (List.range n).foldl (fun acc i => acc + g (i + 1)) 0 := by
  induction n with
  | zero => simp [idx, rangeN]
  | succ n ih =>
    have hidx : idx (n + 1) = idx n ++ [n + 1] := by
      simp [idx, rangeN, List.range_succ]
    rw [hidx, List.flatMap_append, List.length_append, ih (fun u a b => h u a (by omega)),
      List.range_succ, List.foldl_append]
    simp [h (n + 1) (by omega) (by omega)]

theorem degSum_eq_foldl (B : BipG) (n : Nat) :
    degSum B n = (List.range n).foldl (fun acc i => acc + (B.rnbrs (i + 1)).length) 0 := by
  induction n with
  | zero => simp [degSum]
  | succ n ih => rw [List.range_succ, List.foldl_append, ← ih]; simp [degSum]

theorem goodBip_auxBip (G : SimpleG) (hg : GoodSimple G) : GoodBip (auxBip G) where
  rnodup u := by
    rw [auxBip_rnbrs]; split
    · exact (hg.nodup u).filter _
    · exact List.nodup_nil
  lnodup v := by
    rw [auxBip_lnbrs]; split
    · exact (hg.nodup v).filter _
    · exact List.nodup_nil
  adj u v := by
    rw [auxBip_rnbrs, auxBip_lnbrs, auxBip_l, auxBip_r]
    constructor
    · rintro ⟨h1, h2, h3⟩
      rw [if_pos ⟨h1, h2⟩, List.mem_filter] at h3
      have := hg.sym u v ⟨h1, h2, h3.1⟩
      have huv : u < v := by simpa using h3.2
      rw [if_pos ⟨this.1, this.2.1⟩, List.mem_filter]
      exact ⟨this.1, this.2.1, this.2.2, by simpa using huv⟩
    · rintro ⟨h1, h2, h3⟩
      rw [if_pos ⟨h1, h2⟩, List.mem_filter] at h3
      have := hg.sym v u ⟨h1, h2, h3.1⟩
      have huv : u < v := by simpa using h3.2
      rw [if_pos ⟨this.1, this.2.1⟩, List.mem_filter]
      exact ⟨this.1, this.2.1, this.2.2, by simpa using huv⟩
  card := by
    rw [degSum_eq_foldl]
    simp only [BipG.numberOfEdges, auxBip]
    rw [length_flatMap_idx G.n _ (fun u => ((auxBip G).rnbrs u).length)]
    · rfl
    · intro u h1 h2
      rw [auxBip_rnbrs, if_pos ⟨h1, h2⟩, List.length_map]

theorem countP_split (l : List Nat) (w : Nat) (p q : Nat → Bool) (hw : w ∉ l) :
    (l.filter (fun x => x < w)).countP p + (l.filter (fun x => w < x)).countP q
      = l.countP (fun x => if x < w then p x else q x) := by
  induction l with
  | nil => simp
  | cons x xs ih =>
    have hx : x ≠ w := fun h => hw (by simp [h])
    have ih := ih (fun h => hw (by simp [h]))
    rcases Nat.lt_or_gt_of_ne hx with hlt | hgt
    · have h2 : ¬ (w < x) := by omega
      simp only [List.filter_cons, hlt, h2, decide_true, decide_false, if_true, List.countP_cons]
      simp only [Bool.false_eq_true, if_false]
      omega
    · have h2 : ¬ (x < w) := by omega
      simp only [List.filter_cons, hgt, h2, decide_true, decide_false, if_true, List.countP_cons]
      simp only [Bool.false_eq_true, if_false]
      omega

/-- the variable of the edge `{a, b}` of `G` (`e(a, b)` of `new_graph_edges`) -/
def pmVar (G : SimpleG) (a b : Nat) : Nat := Vars.bipId (auxBip G) 1 (min a b) (max a b)

theorem count_pmStar (G : SimpleG) (hg : GoodSimple G) (α : Assign) {w : Nat} (h1 : 1 ≤ w) (h2 : w ≤ G.n) :
    count α (pmStar G w) = (G.nbrs w).countP (fun x => α (pmVar G w x)) := by
  have hB := goodBip_auxBip G hg
  have hs : 0 < (SMap.mk (auxBip G) 1).start := by simp
  have hcols := SMap.GoodBip.cols hB w h1 (by rw [auxBip_r]; exact h2)
  simp only [pmStar, count, List.countP_append]
  have e1 := SMap.count_col (SMap.mk (auxBip G) 1) hs α hcols
  have e2 := SMap.count_row (SMap.mk (auxBip G) 1) hs α h1 (by rw [auxBip_l]; exact h2)
  simp only [count] at e1 e2
  rw [e1, e2]
  simp only [auxBip_rnbrs, auxBip_lnbrs, if_pos (And.intro h1 h2)]
  rw [countP_split _ w _ _ (hg.noloop w)]
  apply List.countP_congr
  intro x hx
  have hxw : x ≠ w := fun h => hg.noloop w (h ▸ hx)
  simp only [pmVar, SMap.var]
  rcases Nat.lt_or_gt_of_ne hxw with hlt | hgt
  · have e1 : min w x = x := by omega
    have e2 : max w x = w := by omega
    simp [hlt, e1, e2]
  · have : ¬ x < w := by omega
    have e1 : min w x = w := by omega
    have e2 : max w x = x := by omega
    simp [this, e1, e2]

theorem pmStar_in (G : SimpleG) (hg : GoodSimple G) {w : Nat} (hw : w ∈ idx G.n) :
    LitsIn 1 (auxBip G).numberOfEdges (pmStar G w) :=
  have hB := goodBip_auxBip G hg
  have hN : 1 + (auxBip G).numberOfEdges ≤ (auxBip G).numberOfEdges + 1 := Nat.le_of_eq (Nat.add_comm 1 _)
  (SMap.col_in ⟨auxBip G, 1⟩ (Nat.le_refl 1) hB hN (by simpa [auxBip_r] using hw)).append
    (SMap.row_in ⟨auxBip G, 1⟩ (Nat.le_refl 1) hB hN (by simpa [auxBip_l] using hw))

end Cnfgen.Fam
