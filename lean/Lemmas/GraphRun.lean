/-
The specification layer of the graph samplers and of the graph command line: what is asked of one outcome of the
draw monad `GRand.RM` (`Out.Sat`), of a computation for all draws (`Run`), the rules that follow the shape of a
computation, and the four primitives.  Imports the draw monad only, so that both the in-house samplers
(Lemmas/GraphBuild*.lean) and the networkx-backed constructions (Props/C15/NetworkxCli.lean) state their results with it.
-/
import CnfgenModel.Rand.GraphDraws
namespace Cnfgen
namespace GRand

theorem bind_exc {α β} (x : RM α) (f : α → RM β) (ds : List Draw) (e : Err) :
    (x >>= f) ds = .exc e ↔ x ds = .exc e ∨ ∃ a mid, x ds = .ok a mid ∧ f a mid = .exc e := by
  show RM.bind x f ds = _ ↔ _
  unfold RM.bind
  cases h : x ds <;> simp
  constructor
  · intro h'; exact ⟨_, _, ⟨rfl, rfl⟩, h'⟩
  · rintro ⟨a, mid, ⟨rfl, rfl⟩, h'⟩; exact h'

@[simp] theorem raise_exc {α} (e e' : Err) (ds : List Draw) :
    (RM.raise e : RM α) ds = .exc e' ↔ e = e' := by simp [RM.raise]

theorem distinctNat_nodup : ∀ l : List Nat, distinctNat l = true → l.Nodup
  | [], _ => List.nodup_nil
  | x :: xs, h => by
    simp [distinctNat] at h
    exact List.nodup_cons.2 ⟨h.1, distinctNat_nodup xs h.2⟩

theorem distinctPairs_nodup : ∀ l : List (Nat × Nat), distinctPairs l = true → l.Nodup
  | [], _ => List.nodup_nil
  | x :: xs, h => by
    simp [distinctPairs] at h
    exact List.nodup_cons.2 ⟨h.1, distinctPairs_nodup xs h.2⟩

/-- the computation never lets a third-party exception escape -/
def NoForeign {α} (x : RM α) : Prop := ∀ ds, x ds ≠ .foreign

def Only {α} (P : Err → Prop) (x : RM α) : Prop := ∀ ds e, x ds = .exc e → P e

theorem Only.mono {α} {P Q : Err → Prop} {x : RM α} (h : Only P x) (hpq : ∀ e, P e → Q e) : Only Q x :=
  fun ds e he => hpq e (h ds e he)

abbrev VE : Err → Prop := fun e => e = .valueError

/-- what is asked of ONE outcome: a value, with the draws that remain, satisfies `Q`; an exception satisfies `P`; no
third-party exception escapes; an outcome `stuck` is not a run -/
def Out.Sat {α} (Q : α → List Draw → Prop) (P : Err → Prop) : Out α → Prop
  | .ok a rest => Q a rest
  | .exc e => P e
  | .foreign => False
  | .stuck => True

/-- the three questions as the C15 statements spell them -/
theorem Out.Sat.iff {α} {Q : α → List Draw → Prop} {P : Err → Prop} (r : Out α) : r.Sat Q P ↔
    (∀ a rest, r = .ok a rest → Q a rest) ∧ (∀ e, r = .exc e → P e) ∧ r ≠ .foreign := by
  cases r <;> simp [Out.Sat]

theorem Out.Sat.mono {α} {Q Q' : α → List Draw → Prop} {P P' : Err → Prop} {r : Out α} (h : r.Sat Q P)
    (hq : ∀ a rest, Q a rest → Q' a rest) (hp : ∀ e, P e → P' e) : r.Sat Q' P' := by
  cases r
  · exact hq _ _ h
  · exact hp _ h
  · exact h
  · exact h

/-- the same of a computation, for all draws: every value it returns satisfies `Q`, every exception it raises
satisfies `P`, no third-party exception escapes.  The rules below follow the shape of the computation, so each
function is gone through once, with its whole specification as `Q` and `P`. -/
def Run {α} (Q : α → Prop) (P : Err → Prop) (x : RM α) : Prop := ∀ ds, (x ds).Sat (fun a _ => Q a) P

namespace Run
variable {α β : Type} {Q : α → Prop} {P : Err → Prop}

theorem returns {x : RM α} (h : Run Q P x) (ds a rest) (hx : x ds = .ok a rest) : Q a :=
  ((Out.Sat.iff _).1 (h ds)).1 a rest hx

theorem only {x : RM α} (h : Run Q P x) : Only P x := fun ds => ((Out.Sat.iff _).1 (h ds)).2.1

theorem noForeign {x : RM α} (h : Run Q P x) : NoForeign x := fun ds => ((Out.Sat.iff _).1 (h ds)).2.2

theorem pure {a : α} (h : Q a) : Run Q P (pure a : RM α) := fun _ => h

theorem raise {e : Err} (h : P e) : Run Q P (RM.raise e : RM α) := fun _ => h

theorem stuck : Run Q P (fun _ => (.stuck : Out α)) := fun _ => trivial

theorem bind {R : β → Prop} {x : RM β} {f : β → RM α} (hx : Run R P x) (hf : ∀ b, R b → Run Q P (f b)) :
    Run Q P (x >>= f) := fun ds => by
  have := hx ds
  show (RM.bind x f ds).Sat _ _
  unfold RM.bind
  cases h : x ds <;> rw [h] at this
  · exact hf _ this _
  · exact this
  · exact this
  · trivial

theorem ite_of {c : Prop} [Decidable c] {x y : RM α} (hx : c → Run Q P x) (hy : ¬ c → Run Q P y) :
    Run Q P (if c then x else y) := by
  split
  · exact hx ‹_›
  · exact hy ‹_›

theorem ite {c : Prop} [Decidable c] {x y : RM α} (hx : Run Q P x) (hy : Run Q P y) :
    Run Q P (if c then x else y) := ite_of (fun _ => hx) fun _ => hy

theorem lift (x : Except Err α) (hok : ∀ a, x = .ok a → Q a) (herr : ∀ e, x = .error e → P e) :
    Run Q P (RM.lift x) := fun _ => by
  cases x
  · exact herr _ rfl
  · exact hok _ rfl

theorem lift_ok {x : Except Err α} {a : α} (h : x = .ok a) (hq : Q a) : Run Q P (RM.lift x) := by
  rw [h]; exact fun _ => hq

theorem mono {Q' : α → Prop} {P' : Err → Prop} {x : RM α} (h : Run Q P x) (hq : ∀ a, Q a → Q' a)
    (hp : ∀ e, P e → P' e) : Run Q' P' x := fun ds => (h ds).mono (fun a _ => hq a) hp

theorem ve {x : RM α} {P' : Err → Prop} (h : Run Q VE x) (hp : P' .valueError) : Run Q P' x :=
  h.mono (fun _ hq => hq) (fun _ he => he ▸ hp)

/-- a loop whose budget is the number of draws that are left -/
theorem fuel {f : Nat → RM α} (h : ∀ n, Run Q P (f n)) : Run Q P (fun ds => f ds.length ds) :=
  fun ds => h ds.length ds

end Run

theorem NoForeign.raise {α} (e : Err) : NoForeign (RM.raise e : RM α) := (Run.raise (P := fun _ => True) (Q := fun _ => True) trivial).noForeign

theorem NoForeign.bind {α β} {x : RM α} {f : α → RM β} (hx : NoForeign x) (hf : ∀ a, NoForeign (f a)) :
    NoForeign (x >>= f) := by
  intro ds
  show RM.bind x f ds ≠ _
  unfold RM.bind
  cases h : x ds
  · exact hf _ _
  · simp
  · exact absurd h (hx ds)
  · simp

theorem sample_spec (pop : List Nat) (k : Int) :
    Run (fun l => (l.length : Int) = k ∧ l.Nodup ∧ ∀ x ∈ l, x ∈ pop)
      (fun e => e = .valueError ∧ (k < 0 ∨ (pop.length : Int) < k)) (sample pop k) := fun ds => by
  unfold sample
  split
  · exact ⟨rfl, ‹_›⟩
  · split
    · split
      · rename_i hh
        exact ⟨hh.1, distinctNat_nodup _ hh.2.1, fun x hx => by simpa using List.all_eq_true.1 hh.2.2 x hx⟩
      · trivial
    · trivial

theorem samplePairs_spec (pop : List (Nat × Nat)) (k : Int) :
    Run (fun l => (l.length : Int) = k ∧ l.Nodup ∧ ∀ x ∈ l, x ∈ pop)
      (fun e => e = .valueError ∧ (k < 0 ∨ (pop.length : Int) < k)) (samplePairs pop k) := fun ds => by
  unfold samplePairs
  split
  · exact ⟨rfl, ‹_›⟩
  · split
    · split
      · rename_i hh
        exact ⟨hh.1, distinctPairs_nodup _ hh.2.1, fun x hx => by simpa using List.all_eq_true.1 hh.2.2 x hx⟩
      · trivial
    · trivial

theorem randint_spec (a b : Int) :
    Run (fun v => a ≤ v ∧ v ≤ b) (fun e => e = .valueError ∧ b < a) (randint a b) := fun ds => by
  unfold randint
  split
  · exact ⟨rfl, ‹_›⟩
  · split
    · split
      · assumption
      · trivial
    · trivial

theorem random_spec : Run (fun x => x < unitDen) (fun _ => False) GRand.random := fun ds => by
  unfold GRand.random
  split
  · split
    · assumption
    · trivial
  · trivial

theorem NoForeign.sample (pop : List Nat) (k : Int) : NoForeign (sample pop k) := (sample_spec pop k).noForeign
theorem NoForeign.randint (a b : Int) : NoForeign (randint a b) := (randint_spec a b).noForeign
theorem NoForeign.random : NoForeign GRand.random := random_spec.noForeign

end GRand
end Cnfgen
