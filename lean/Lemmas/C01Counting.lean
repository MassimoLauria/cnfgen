/-
CountingPrinciple: the constraint of an element counts the chosen subsets containing it;
double counting; the block partition witness.
-/
import Lemmas.C01Combos
import CnfgenModel.Fam.Counting
namespace Cnfgen.Fam
open Cnfgen

/-- the variable `X(S)` of the subset `S` (`new_combinations(M, p)`) -/
def countVar (M p : Nat) (S : List Nat) : Nat := 1 + (Vars.combosSeqs M p).idxOf S

theorem countingStar_eq (M p x : Nat) :
    countingStar M p x =
      ((Vars.combosSeqs M p).filter (fun S => S.contains x)).map (fun S => ((countVar M p S : Nat) : Int)) := by
  unfold countingStar
  rw [zipIdx_eq_map_idxOf _ 0 (nodup_combosSeqs M p), List.filterMap_map]
  rw [← filterMap_ite]
  apply List.filterMap_congr
  intro S _
  by_cases h : x ∈ S
  · simp [countVar, h]
  · simp [h]

theorem count_countingStar (α : Assign) (M p x : Nat) :
    count α (countingStar M p x) =
      (Vars.combosSeqs M p).countP (fun S => α (countVar M p S) && S.contains x) := by
  rw [countingStar_eq, count_map_pos α _ _ (fun S _ => by simp only [countVar]; omega), List.countP_filter]

theorem countingStar_in (M p x : Nat) : LitsIn 1 (Vars.combosSeqs M p).length (countingStar M p x) :=
  countingStar_eq M p x ▸ .map fun S hS =>
    have := List.idxOf_lt_length_iff.2 (List.mem_filter.1 hS).1
    .pos (Nat.le_add_right ..) ⟨Nat.le_add_right .., by simp only [countVar]; omega⟩ .nil

theorem sum_map_add {β : Type} (l : List β) (f g : β → Nat) :
    (l.map (fun b => f b + g b)).sum = (l.map f).sum + (l.map g).sum := by
  induction l with
  | nil => simp
  | cons x xs ih => simp only [List.map_cons, List.sum_cons, ih]; omega

theorem sum_map_ite_eq_countP {β : Type} (l : List β) (r : β → Bool) :
    (l.map (fun b => if r b then 1 else 0)).sum = l.countP r := by
  induction l with
  | nil => simp
  | cons x xs ih => simp only [List.map_cons, List.sum_cons, ih, List.countP_cons]; omega

theorem sum_map_eq_mul_length {β : Type} (l : List β) (f : β → Nat) (c : Nat) (h : ∀ b ∈ l, f b = c) :
    (l.map f).sum = c * l.length := by
  rw [List.map_congr_left h, List.map_const', List.sum_replicate_nat, Nat.mul_comm]

theorem sum_countP_comm {β γ : Type} (l₁ : List β) (l₂ : List γ) (r : β → γ → Bool) :
    (l₁.map (fun a => l₂.countP (fun b => r a b))).sum
      = (l₂.map (fun b => l₁.countP (fun a => r a b))).sum := by
  induction l₁ with
  | nil => simp
  | cons a as ih =>
    simp only [List.map_cons, List.sum_cons, List.countP_cons, ih]
    rw [sum_map_add, sum_map_ite_eq_countP]
    have : List.countP (r a) l₂ = List.countP (fun b => r a b) l₂ := rfl
    omega

theorem countP_mem_of_sublist {β : Type} [DecidableEq β] {S l : List β} (h : S.Sublist l) (hl : l.Nodup) :
    l.countP (fun x => decide (x ∈ S)) = S.length := by
  induction h with
  | slnil => simp
  | @cons S l a h ih =>
    have ha : a ∉ l := (List.nodup_cons.1 hl).1
    have : a ∉ S := fun hs => ha (h.subset hs)
    rw [List.countP_cons, ih (List.nodup_cons.1 hl).2]; simp [this]
  | @cons_cons S l a h ih =>
    have ha : a ∉ l := (List.nodup_cons.1 hl).1
    rw [List.countP_cons]
    have : l.countP (fun x => decide (x ∈ a :: S)) = l.countP (fun x => decide (x ∈ S)) := by
      apply List.countP_congr
      intro b hb
      have : b ≠ a := fun e => ha (e ▸ hb)
      simp [this]
    rw [this, ih (List.nodup_cons.1 hl).2]; simp

theorem counting_double_count (M p : Nat) (α : Assign)
    (h : ∀ x, 1 ≤ x → x ≤ M → count α (countingStar M p x) = 1) :
    M = p * ((Vars.combosSeqs M p).filter (fun S => α (countVar M p S))).length := by
  have h1 : ((idx M).map (fun x => ((Vars.combosSeqs M p).filter (fun S => α (countVar M p S))).countP
      (fun S => decide (x ∈ S)))).sum = 1 * (idx M).length := by
    apply sum_map_eq_mul_length
    intro x hx
    rw [mem_idx] at hx
    have := h x hx.1 hx.2
    rw [count_countingStar] at this
    rw [List.countP_filter, ← this]
    apply List.countP_congr
    intro S _
    simp [Bool.and_comm]
  have h2 : (((Vars.combosSeqs M p).filter (fun S => α (countVar M p S))).map
      (fun S => (idx M).countP (fun x => decide (x ∈ S)))).sum
      = p * ((Vars.combosSeqs M p).filter (fun S => α (countVar M p S))).length := by
    apply sum_map_eq_mul_length
    intro S hS
    have hS' := (List.mem_filter.1 hS).1
    have : Vars.combosSeqs M p = combos (idx M) p := rfl
    rw [this, mem_combos] at hS'
    rw [countP_mem_of_sublist hS'.1 (idx_nodup M), hS'.2]
  rw [sum_countP_comm, h2, length_idx] at h1
  omega

/-- the `b`-th block `{bp+1, …, bp+p}` -/
def block (p b : Nat) : List Nat := rangeN (b * p + 1) (b * p + p + 1)

/-- "S is one of the first `M / p` blocks" -/
def isBlock (M p : Nat) (S : List Nat) : Bool := (List.range (M / p)).any (fun b => S == block p b)

theorem isBlock_iff (M p : Nat) (S : List Nat) : isBlock M p S = true ↔ ∃ b, b < M / p ∧ S = block p b := by
  simp [isBlock]

theorem mem_block {p b x : Nat} : x ∈ block p b ↔ b * p + 1 ≤ x ∧ x ≤ b * p + p := by
  simp only [block, mem_rangeN]; omega

theorem block_isSubset (M p b : Nat) (hb : b < M / p) : IsSubset M p (block p b) := by
  have hp : 0 < p := by
    rcases Nat.eq_zero_or_pos p with h | h
    · subst h; simp at hb
    · exact h
  have hle : (b + 1) * p ≤ M := by
    have : b + 1 ≤ M / p := hb
    calc (b + 1) * p ≤ (M / p) * p := Nat.mul_le_mul_right _ this
      _ ≤ M := Nat.div_mul_le_self M p
  refine ⟨rangeN_pairwise _ _, by simp [block, rangeN], ?_⟩
  intro x hx
  rw [mem_block] at hx
  rw [Nat.add_mul] at hle
  omega

end Cnfgen.Fam
