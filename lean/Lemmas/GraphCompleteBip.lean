/-
`BipG.complete l r`, the value of `CompleteBipartiteGraph(L, R)` that the formula families
consume: its rows are `[1, …, r]` / `[1, …, l]` and it satisfies the bipartite invariant.
-/
import Lemmas.GraphInv
namespace Cnfgen

theorem row_cons_replicate (k : Nat) (R : List Nat) (u : Nat) :
    row ([] :: List.replicate k R) u = if 1 ≤ u ∧ u ≤ k then R else [] := by
  cases u with
  | zero => simp [row]
  | succ u =>
    simp only [row, List.getD_eq_getElem?_getD, List.getElem?_cons_succ, List.getElem?_replicate]
    by_cases h : u < k
    · rw [if_pos h, if_pos (by omega)]; rfl
    · rw [if_neg h, if_neg (by omega)]; rfl

theorem Rep.complete (k j : Nat) :
    Rep ([] :: List.replicate k (oneTo j)) k (fun u v => 1 ≤ u ∧ u ≤ k ∧ 1 ≤ v ∧ v ≤ j) := by
  refine ⟨by simp, fun u => ?_, fun u v => ?_⟩ <;> rw [row_cons_replicate] <;> split
  · exact sorted_oneTo j
  · exact List.Pairwise.nil
  · rw [mem_oneTo]; omega
  · simp only [List.not_mem_nil, false_iff]; omega

namespace BipG

theorem complete_edgeset (l r : Nat) : (complete l r).edgeset = tableEdges (fun _ => oneTo r) l := by
  simp only [complete, tableEdges, oneTo, List.map_map]
  rfl

theorem mem_complete_edgeset {l r : Nat} {e : Nat × Nat} :
    e ∈ (complete l r).edgeset ↔ 1 ≤ e.1 ∧ e.1 ≤ l ∧ 1 ≤ e.2 ∧ e.2 ≤ r := by
  rw [complete_edgeset, mem_tableEdges, mem_oneTo]

theorem inv_complete (l r : Nat) : Inv (complete l r) := by
  refine ⟨(Rep.complete l r).congr fun u v => ?_, (Rep.complete r l).congr fun v u => ?_,
    fun u v => mem_complete_edgeset.1, ?_⟩
  · rw [mem_complete_edgeset]
  · rw [mem_complete_edgeset]; simp only; omega
  · rw [complete_edgeset]
    exact (sorted_tableEdges (fun _ => sorted_oneTo r) l).nodup

theorem complete_rnbrs {l r u : Nat} (hu : 1 ≤ u ∧ u ≤ l) : (complete l r).rnbrs u = oneTo r := by
  show row ([] :: List.replicate l (oneTo r)) u = _
  rw [row_cons_replicate, if_pos hu]

theorem complete_lnbrs {l r v : Nat} (hv : 1 ≤ v ∧ v ≤ r) : (complete l r).lnbrs v = oneTo l := by
  show row ([] :: List.replicate r (oneTo l)) v = _
  rw [row_cons_replicate, if_pos hv]

theorem numberOfEdges_complete (m n : Nat) : (complete m n).numberOfEdges = m * n := by
  simp only [numberOfEdges, complete, List.length_flatMap, List.length_map, List.length_range,
    List.map_const']
  induction m with
  | zero => simp
  | succ m ih => simp [List.replicate_succ, ih, Nat.succ_mul, Nat.add_comm]

end BipG

end Cnfgen
