/-
Lemmas about the Pitfall model (`CnfgenModel/Fam/Pitfall.lean`): the hard part is a renamed
copy of the Tseitin template, what the gadgets force, and unsatisfiability of the whole
formula for `ny ≥ 2`.  The gadgets are taken apart once, in `FamPitfallAxioms`; here they are
used through those descriptions.
-/
import Lemmas.FamPitfallAxioms
import Lemmas.Linear
import Lemmas.Constr
import Lemmas.FamPitfallTseitin
import Lemmas.VarsBlock
namespace Cnfgen.FamPitfall
open Cnfgen Cnfgen.Fam
open ShapeFacts

theorem block_in {N start k r j i : Nat} (hs : 1 ≤ start ∧ start + k * r ≤ N + 1) (hj : 1 ≤ j ∧ j ≤ k)
    (hi : 1 ≤ i ∧ i ≤ r) : 1 ≤ Vars.blockId start [k, r] [j, i] ∧ Vars.blockId start [k, r] [j, i] ≤ N := by
  have := Vars.blockId_range (ranges := [k, r]) (idx := [j, i]) start (.cons hj (.cons hi .nil))
  simp only [Vars.blockSize, List.foldl_cons, List.foldl_nil, Nat.one_mul] at this
  omega

section ranges
open Pitfall
variable (s : Shape) (j : Nat) (hj : j ∈ copies s)
include hj

theorem yId_in {i : Nat} (hi : 1 ≤ i ∧ i ≤ s.ny) : 1 ≤ s.yId j i ∧ s.yId j i ≤ s.nvars :=
  block_in (by simp only [Shape.yStart, Shape.nvars]; omega) ((mem_copies s j).1 hj) hi

theorem zId_in {i : Nat} (hi : 1 ≤ i ∧ i ≤ s.nz) : 1 ≤ s.zId j i ∧ s.zId j i ≤ s.nvars :=
  block_in (by simp only [Shape.zStart, Shape.yStart, Shape.nvars]; omega) ((mem_copies s j).1 hj) hi

theorem pId_in {i : Nat} (hi : 1 ≤ i ∧ i ≤ s.m + s.nz) : 1 ≤ s.pId j i ∧ s.pId j i ≤ s.nvars :=
  block_in (by simp only [Shape.pStart, Shape.zStart, Shape.yStart, Shape.nvars]; omega) ((mem_copies s j).1 hj) hi

theorem aId_in {i : Nat} (hi : 1 ≤ i ∧ i ≤ 3) : 1 ≤ s.aId j i ∧ s.aId j i ≤ s.nvars :=
  block_in (by simp only [Shape.aStart, Shape.pStart, Shape.zStart, Shape.yStart, Shape.nvars]; omega)
    ((mem_copies s j).1 hj) hi

theorem xBlock_le : s.xStart j + s.m ≤ s.k * s.m + 1 := by
  have := Nat.mul_le_mul_right s.m (show j - 1 + 1 ≤ s.k by have := (mem_copies s j).1 hj; omega)
  rw [Nat.add_mul, Nat.one_mul] at this
  simp only [Shape.xStart]
  omega

theorem xs_in : LitsIn 1 s.nvars (s.xs j) :=
  .map fun t ht => by
    have := xBlock_le s j hj
    have := List.mem_range.1 ht
    have r : 1 ≤ s.xStart j + t ∧ s.xStart j + t ≤ s.nvars := by simp only [Shape.xStart, Shape.nvars] at *; omega
    exact .pos r.1 r .nil

theorem zs_in : LitsIn 1 s.nvars (s.zs j) :=
  .map fun _ hi => have r := zId_in s j hj (mem_rangeN_one.1 hi); .pos r.1 r .nil

theorem ps_in : LitsIn 1 s.nvars (s.ps j) :=
  .map fun _ hi => have r := pId_in s j hj (mem_rangeN_one.1 hi); .pos r.1 r .nil

end ranges

theorem pitfall_hard_part_is_copy (s : Pitfall.Shape) (T : List Clause) (j : Nat) (con : Con) :
    con ∈ Pitfall.hardCopy s T j ↔
      ∃ cl ∈ T, con = Con.clause (cl.map (Pitfall.shiftLit ((s.xStart j : Int) - 1)) ++ s.zs j) := by
  simp only [Pitfall.hardCopy, List.mem_map]
  constructor
  · rintro ⟨cl, h, rfl⟩; exact ⟨cl, h, rfl⟩
  · rintro ⟨cl, h, rfl⟩; exact ⟨cl, h, rfl⟩

theorem shiftLit_spec (off : Nat) (l : Int) :
    (Pitfall.shiftLit off l).natAbs = l.natAbs + off ∧ (0 < Pitfall.shiftLit off l ↔ 0 < l) := by
  unfold Pitfall.shiftLit
  split <;> omega

/-- a shifted template clause means the template clause under the shifted assignment
(no hypothesis on the literals is needed: the equation even holds for the non-literal `0`) -/
theorem shift_holds (α : Assign) (off : Nat) (cl : Clause) :
    clauseHolds α (cl.map (Pitfall.shiftLit off)) = clauseHolds (fun a => α (a + off)) cl := by
  unfold clauseHolds
  rw [List.any_map]
  congr 1
  funext l
  simp only [Function.comp, litHolds, shiftLit_spec]

theorem xStart_off (s : Pitfall.Shape) (j : Nat) :
    ((s.xStart j : Int) - 1) = (((j - 1) * s.m : Nat) : Int) := by
  simp only [Pitfall.Shape.xStart]; omega

theorem shift_vars_in_block (s : Pitfall.Shape) (j : Nat) (cl : Clause)
    (h : ∀ l ∈ cl, l ≠ 0 ∧ l.natAbs ≤ s.m) :
    LitsIn (s.xStart j) (s.xStart j + s.m - 1) (cl.map (Pitfall.shiftLit ((s.xStart j : Int) - 1))) := by
  rw [xStart_off]
  refine List.forall_mem_map.2 fun a ha => ?_
  have := h a ha
  have := (shiftLit_spec ((j - 1) * s.m) a).1
  simp only [Pitfall.Shape.xStart]
  omega

section wf
open Pitfall
variable (s : Shape) (j : Nat) (hj : j ∈ copies s)
include hj

theorem hardCopy_in (T : List Clause) (hT : ∀ cl ∈ T, ∀ l ∈ cl, l ≠ 0 ∧ l.natAbs ≤ s.m) :
    G2.ConsIn 1 s.nvars (hardCopy s T j) :=
  .map fun cl hcl => .append
    ((shift_vars_in_block s j cl (hT cl hcl)).mono (by simp only [Shape.xStart]; omega)
      (by have := xBlock_le s j hj; simp only [Shape.nvars]; omega))
    (zs_in s j hj)

theorem pitfallGadget_in : G2.ConsIn 1 s.nvars (pitfallGadget s j) := by
  intro c hc
  obtain ⟨i1, i2, t, hi, ht, rfl⟩ := (mem_pitfallGadget s j c).1 hc
  have y1 := yId_in s j hj (i := i1) (by omega)
  have y2 := yId_in s j hj (i := i2) (by omega)
  have p := pId_in s j hj ht
  exact LitsIn.pos y1.1 y1 (.pos y2.1 y2 (.neg p.1 p .nil))

theorem tailGadget_in : G2.ConsIn 1 s.nvars (tailGadget s j) := by
  intro c hc
  obtain ⟨i, r, hi, hr, hc⟩ := (mem_tailGadget s j c).1 hc
  have y := yId_in s j hj hi
  have z := zId_in s j hj hr
  have a1 := aId_in s j hj (i := 1) (by omega)
  have a2 := aId_in s j hj (i := 2) (by omega)
  have a3 := aId_in s j hj (i := 3) (by omega)
  rcases hc with rfl | rfl | rfl | rfl
  · exact LitsIn.neg a1.1 a1 (.pos a3.1 a3 (.neg z.1 z .nil))
  · exact LitsIn.neg a2.1 a2 (.neg a3.1 a3 (.neg z.1 z .nil))
  · exact LitsIn.pos a1.1 a1 (.neg z.1 z (.neg y.1 y .nil))
  · exact LitsIn.pos a2.1 a2 (.neg z.1 z (.neg y.1 y .nil))

theorem pipeGadget_in : G2.ConsIn 1 s.nvars (pipeGadget s j) := by
  intro c hc
  obtain ⟨i, t, hi, ht, rfl⟩ := (mem_pipeGadget s j c).1 hc
  have y := yId_in s j hj hi
  have hS : LitsIn 1 s.nvars (s.xs j ++ s.zs j) := (xs_in s j hj).append (zs_in s j hj)
  have hSt : (s.xs j ++ s.zs j).getD t 0 ∈ s.xs j ++ s.zs j := by
    rw [List.getD_eq_getElem?_getD, List.getElem?_eq_getElem (by simpa [xs_length, zs_length] using ht)]
    exact List.getElem_mem _
  refine (((LitsIn.pos y.1 y .nil).append ((ps_in s j hj).subset (List.eraseIdx_sublist ..).subset)).append
    (hS.subset ?_)).append (.negLit (hS _ hSt) .nil)
  split
  · exact ((List.eraseIdx_sublist ..).trans (List.take_sublist ..)).subset
  · exact (List.take_sublist ..).subset

end wf

theorem gamma_in (s : Pitfall.Shape) : G2.ConsIn 1 s.nvars (Pitfall.gamma s) := by
  intro c hc
  obtain ⟨i, hi, rfl⟩ := (mem_gamma s c).1 hc
  intro l hl
  obtain ⟨j, hj, hl⟩ := List.mem_flatMap.1 hl
  have y := yId_in s j hj (i := i) (by omega)
  have y' := yId_in s j hj (i := i + 1) (by omega)
  exact LitsIn.neg y.1 y (.neg y'.1 y' .nil) l hl

theorem consOf_in (s : Pitfall.Shape) (T : List Clause) (hT : ∀ cl ∈ T, ∀ l ∈ cl, l ≠ 0 ∧ l.natAbs ≤ s.m) :
    G2.ConsIn 1 s.nvars (Pitfall.consOf s T) :=
  ((((G2.ConsIn.flatMap fun j hj => hardCopy_in s j hj T hT).append (.flatMap fun j hj => pitfallGadget_in s j hj)).append
    (.flatMap fun j hj => pipeGadget_in s j hj)).append (.flatMap fun j hj => tailGadget_in s j hj)).append (gamma_in s)

theorem build_wf (ny nz k : Nat) (g : SimpleG) (hg : GraphOK g) : (Pitfall.build ny nz k g).WF :=
  G2.wf_of_consIn (consOf_in ⟨_, ny, nz, k⟩ _ (template_wf g hg))

section forces
open Pitfall
variable (s : Shape) (j : Nat) (hj : j ∈ copies s) (α : Assign)
include hj

/-- tail gadget: a true safety variable falsifies every easy variable of the same copy -/
theorem tail_forces (h : ∀ c ∈ tailGadget s j, c.holds α = true) {i r : Nat} (hi : 1 ≤ i ∧ i ≤ s.ny)
    (hr : 1 ≤ r ∧ r ≤ s.nz) (hz : α (s.zId j r) = true) : α (s.yId j i) = false := by
  have c := fun con hcon => h con ((mem_tailGadget s j con).2 ⟨i, r, hi, hr, hcon⟩)
  have c1 := c _ (.inl rfl)
  have c2 := c _ (.inr (.inl rfl))
  have c3 := c _ (.inr (.inr (.inl rfl)))
  have c4 := c _ (.inr (.inr (.inr rfl)))
  have a1 := (aId_in s j hj (i := 1) (by omega)).1
  have a2 := (aId_in s j hj (i := 2) (by omega)).1
  have a3 := (aId_in s j hj (i := 3) (by omega)).1
  simp only [Con.holds, clauseHolds_cons, clauseHolds_nil, litHolds_natCast α a1, litHolds_natCast α a2,
    litHolds_natCast α a3, litHolds_neg_natCast, hz] at c1 c2 c3 c4
  cases hy : α (s.yId j i)
  · rfl
  · -- `y` true: the last two clauses force `a₁` and `a₂`, the first then forces `a₃`, which the second forbids
    simp [hy] at c3 c4
    simp [c3, c4] at c1 c2
    simp [c1] at c2

/-- pitfall gadget: two false easy variables falsify every `p` -/
theorem pitfall_forces (h : ∀ c ∈ pitfallGadget s j, c.holds α = true) {i1 i2 t : Nat}
    (hi : 1 ≤ i1 ∧ i1 < i2 ∧ i2 ≤ s.ny) (ht : 1 ≤ t ∧ t ≤ s.m + s.nz)
    (h1 : α (s.yId j i1) = false) (h2 : α (s.yId j i2) = false) : α (s.pId j t) = false := by
  have hc := h _ ((mem_pitfallGadget s j _).2 ⟨i1, i2, t, hi, ht, rfl⟩)
  simpa [Con.holds, clauseHolds_cons, clauseHolds_nil, litHolds_natCast α (yId_in s j hj (i := i1) (by omega)).1,
    litHolds_natCast α (yId_in s j hj (i := i2) (by omega)).1, litHolds_neg_natCast, h1, h2] using hc

/-- pipe gadget: a false `y` and all-false `P_j` falsify `X_j ++ Z_j`, one position after the other -/
theorem pipe_forces (h : ∀ c ∈ pipeGadget s j, c.holds α = true) {i : Nat} (hi : 1 ≤ i ∧ i ≤ s.ny)
    (hy : α (s.yId j i) = false) (hP : ∀ p ∈ s.ps j, litHolds α p = false) :
    ∀ l ∈ s.xs j ++ s.zs j, litHolds α l = false := by
  have hlen : (s.xs j ++ s.zs j).length = s.m + s.nz := by simp [xs_length, zs_length]
  have key : ∀ t (ht : t < (s.xs j ++ s.zs j).length), litHolds α (s.xs j ++ s.zs j)[t] = false := by
    intro t
    induction t using Nat.strongRecOn with
    | _ t ih =>
      intro ht
      have hc := h _ ((mem_pipeGadget s j _).2 ⟨i, t, hi, hlen ▸ ht, rfl⟩)
      simp only [Con.holds, clauseHolds_append, clauseHolds_cons, clauseHolds_nil, Bool.or_false,
        litHolds_natCast α (yId_in s j hj hi).1, hy, Bool.false_or, Bool.or_eq_true] at hc
      rcases hc with (hc | hc) | hc
      · obtain ⟨l, hl, hlt⟩ := List.any_eq_true.1 hc
        rw [hP l ((List.eraseIdx_sublist ..).subset hl)] at hlt
        cases hlt
      · obtain ⟨l, hl, hlt⟩ := List.any_eq_true.1 hc
        have hin : l ∈ (s.xs j ++ s.zs j).take t := by
          split at hl
          · exact (List.eraseIdx_sublist ..).subset hl
          · exact hl
        obtain ⟨i', hi', rfl⟩ := List.mem_iff_getElem.1 hin
        have hit := Nat.lt_of_lt_of_le hi' (List.length_take_le ..)
        rw [List.getElem_take, ih i' hit (by omega)] at hlt
        cases hlt
      · rw [List.getD_eq_getElem?_getD, List.getElem?_eq_getElem ht, Option.getD_some,
          litHolds_neg α _ ((xs_in s j hj).append (zs_in s j hj) _ (List.getElem_mem ht)).1] at hc
        simpa using hc
  intro l hl
  obtain ⟨t, ht, rfl⟩ := List.mem_iff_getElem.1 hl
  exact key t ht

/-- The constraints of one copy `j` (hard part over an unsatisfiable template, pitfall, pipe and
tail gadgets) are already contradictory when there are at least two easy variables. -/
theorem copy_unsat (T : List Clause) (hny : 2 ≤ s.ny)
    (hT : ∀ β : Assign, ¬ (∀ cl ∈ T, clauseHolds β cl = true))
    (hh : ∀ c ∈ hardCopy s T j, c.holds α = true)
    (hpf : ∀ c ∈ pitfallGadget s j, c.holds α = true)
    (hpi : ∀ c ∈ pipeGadget s j, c.holds α = true)
    (hta : ∀ c ∈ tailGadget s j, c.holds α = true) : False := by
  -- (1) some safety variable is true
  have hz : ∃ r ∈ rangeN 1 (s.nz + 1), α (s.zId j r) = true := by
    refine Classical.byContradiction fun hno => hT (fun a => α (a + (j - 1) * s.m)) fun cl hcl => ?_
    have := hh _ (List.mem_map_of_mem hcl)
    rw [Con.holds, xStart_off, clauseHolds_append, shift_holds, Bool.or_eq_true] at this
    exact this.resolve_right fun hzs =>
      hno ((clauseHolds_map_pos α _ (s.zId j) fun r hr => (zId_in s j hj (mem_rangeN_one.1 hr)).1).1 hzs)
  obtain ⟨r, hr, hz⟩ := hz
  have hr := mem_rangeN_one.1 hr
  -- (2) every easy variable is false, (3) so is every pitfall variable
  have hy := fun i hi => tail_forces s j hj α hta (i := i) hi hr hz
  have hp : ∀ p ∈ s.ps j, litHolds α p = false := List.forall_mem_map.2 fun t ht => by
    have ht := mem_rangeN_one.1 ht
    rw [litHolds_natCast α (pId_in s j hj ht).1]
    exact pitfall_forces s j hj α hpf (i1 := 1) (i2 := 2) (by omega) ht (hy 1 (by omega)) (hy 2 (by omega))
  -- (4) the pipe of the first easy variable falsifies every safety variable
  have := pipe_forces s j hj α hpi (i := 1) (by omega) (hy 1 (by omega)) hp _
    (List.mem_append_right _ (List.mem_map_of_mem (mem_rangeN_one.2 hr)))
  rw [litHolds_natCast α (zId_in s j hj hr).1, hz] at this
  cases this

end forces

/-- **Pitfall formulas with at least two easy variables per copy are unsatisfiable**
(any number `nz` of safety variables, any `k ≥ 1`, any well-formed non-empty graph). -/
theorem build_unsat (ny nz k : Nat) (g : SimpleG) (hg : GraphOK g) (hn : 1 ≤ g.n) (hny : 2 ≤ ny)
    (hk : 1 ≤ k) (α : Assign) : (Pitfall.build ny nz k g).holds α = false := by
  rw [Bool.eq_false_iff]
  intro hall
  simp only [Pitfall.build, Formula.holds, List.all_eq_true, Pitfall.consOf, List.forall_mem_append,
    List.forall_mem_flatMap] at hall
  obtain ⟨⟨⟨⟨hh, hpf⟩, hpi⟩, hta⟩, -⟩ := hall
  have hj : 1 ∈ Pitfall.copies ⟨(PitfallTseitin.template g).nvars, ny, nz, k⟩ := (mem_copies _ 1).2 ⟨Nat.le_refl 1, hk⟩
  refine copy_unsat _ 1 hj α _ hny (fun β hβ => ?_) (hh 1 hj) (hpf 1 hj) (hpi 1 hj) (hta 1 hj)
  have := template_unsat g hg hn β
  rw [CNF.holds, List.all_eq_true.2 hβ] at this
  cases this

/-- the checked entry point: whatever graph `g` (well-formed, non-empty) was drawn, the formula
returned for `ny ≥ 2` is unsatisfiable -/
theorem pitfall_unsat (v d ny nz k : Int) (g : SimpleG) (hg : GraphOK g) (hn : 1 ≤ g.n)
    (hny : 2 ≤ ny) (F : Formula) (h : Pitfall.pitfall v d ny nz k g = .ok F) :
    ∀ α, F.holds α = false := by
  obtain ⟨hc, rfl⟩ := pitfall_ok h
  have hc := (check_iff ..).1 hc
  exact build_unsat _ _ _ g hg hn (by omega) (by omega)

/-! ### the hypotheses are satisfiable -/

example : Pitfall.check 4 3 2 2 2 = .ok () := by decide +kernel

/-- `K₄` (the only 3-regular graph on 4 vertices) is well formed, so `pitfall 4 3 2 2 2` on it is
unsatisfiable -/
example : ∃ g F, SimpleG.ofEdges 4 [(1,2),(1,3),(1,4),(2,3),(2,4),(3,4)] = .ok g ∧
    Pitfall.pitfall 4 3 2 2 2 g = .ok F ∧ ∀ α, F.holds α = false :=
  ⟨_, _, rfl, rfl, pitfall_unsat 4 3 2 2 2 _ ((graphOKb_iff _).1 (by decide +kernel)) (by decide +kernel)
    (by decide) _ rfl⟩

theorem build_nvars (ny nz k : Nat) (g : SimpleG) :
    (Pitfall.build ny nz k g).nvars
      = k * g.edges.length + k * ny + k * nz + k * (g.edges.length + nz) + k * 3 := rfl

/-- unsatisfiability transfers to the clauses written by the `CNF` class … -/
theorem build_toCNF_unsat (ny nz k : Nat) (g : SimpleG) (hg : GraphOK g) (hn : 1 ≤ g.n)
    (hny : 2 ≤ ny) (hk : 1 ≤ k) (α : Assign) : (Pitfall.build ny nz k g).toCNF.holds α = false := by
  rw [Formula.toCNF_holds α _ (build_wf ny nz k g hg)]
  exact build_unsat ny nz k g hg hn hny hk α

/-- … and to the constraints written by the `OPB` class -/
theorem build_toOPB_unsat (ny nz k : Nat) (g : SimpleG) (hg : GraphOK g) (hn : 1 ≤ g.n)
    (hny : 2 ≤ ny) (hk : 1 ≤ k) (α : Assign) : (Pitfall.build ny nz k g).toOPB.holds α = false := by
  rw [Formula.toOPB_holds α _ (build_wf ny nz k g hg)]
  exact build_unsat ny nz k g hg hn hny hk α

/-- for graphs produced by the model's own constructor no well-formedness hypothesis is left -/
theorem build_unsat_ofEdges (n : Nat) (es : List (Nat × Nat)) (g : SimpleG)
    (h : SimpleG.ofEdges n es = .ok g) (hn : 1 ≤ n) (ny nz k : Nat) (hny : 2 ≤ ny) (hk : 1 ≤ k)
    (α : Assign) : (Pitfall.build ny nz k g).holds α = false := by
  obtain ⟨hg, hgn⟩ := ofEdges_ok n es g h
  exact build_unsat ny nz k g hg (by omega) hny hk α

/-- `ny ≥ 2` cannot be dropped (and the model has no trivially false constraint): on the 4-cycle
with one easy variable per copy, setting exactly the `z` and `p` variables (identifiers
`11..26`) satisfies every constraint. -/
theorem ny1_sat_example : ∃ g, SimpleG.ofEdges 4 [(1,2),(2,3),(3,4),(1,4)] = .ok g ∧ GraphOK g ∧
    (Pitfall.build 1 2 2 g).holds (fun n => decide (11 ≤ n ∧ n < 27)) = true :=
  ⟨_, rfl, (graphOKb_iff _).1 (by decide +kernel), by decide +kernel⟩

end Cnfgen.FamPitfall
