/-
A linear search with fuel, as the `while` loop of `add_description` is modelled twice (`Header.freeFrom` on typed keys,
`Shuffle.firstFreeFrom` on string keys): what the search returns, whatever the fuel; that the fuel suffices is each model's own argument.
-/
namespace Cnfgen

theorem fuelSearch_spec (p : Nat → Bool) (s : Nat → Nat → Nat) (h0 : ∀ i, s 0 i = i)
    (hs : ∀ f i, s (f + 1) i = if p i then s f (i + 1) else i) : ∀ fuel i,
    i ≤ s fuel i ∧ (∀ j, i ≤ j → j < s fuel i → p j = true) ∧
      (p (s fuel i) = false ∨ s fuel i = i + fuel) := by
  intro fuel
  induction fuel with
  | zero => intro i; rw [h0]; exact ⟨Nat.le_refl _, fun j _ _ => by omega, .inr rfl⟩
  | succ f ih =>
    intro i
    rw [hs]
    cases hk : p i <;> simp only [Bool.false_eq_true, if_false, if_true]
    · exact ⟨Nat.le_refl _, fun j _ _ => by omega, .inl hk⟩
    · obtain ⟨a, c, d⟩ := ih (i + 1)
      refine ⟨by omega, fun j h1 h2 => ?_, d.imp_right (by omega)⟩
      by_cases hj : j = i
      · exact hj ▸ hk
      · exact c j (by omega) h2

end Cnfgen
