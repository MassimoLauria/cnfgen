/-
`Except` as the translator and the models use it: how `>>=`, `map`, `mapM` and the `for … append` loop compute.
Generic in the error type and import-free, so that every lemma file can use it.
-/
namespace Cnfgen
universe u v

theorem bind_ok {ε : Type u} {α β : Type v} {x : Except ε α} {f : α → Except ε β} {b : β} :
    (x >>= f) = .ok b ↔ ∃ a, x = .ok a ∧ f a = .ok b := by
  cases x <;> simp [bind, Except.bind]

theorem bind_error {ε : Type u} {α β : Type v} {x : Except ε α} {f : α → Except ε β} {e : ε} :
    (x >>= f) = .error e ↔ x = .error e ∨ ∃ a, x = .ok a ∧ f a = .error e := by
  cases x <;> simp [bind, Except.bind]

theorem ite_bind {ε : Type u} {α β : Type v} (c : Prop) [Decidable c] (x y : Except ε α) (f : α → Except ε β) :
    (if c then x else y) >>= f = if c then x >>= f else y >>= f :=
  apply_ite (· >>= f) c x y

theorem exceptMap_bind {ε α β γ : Type} (f : β → γ) (x : Except ε α) (g : α → Except ε β) :
    Except.map f (x >>= g) = x >>= fun a => Except.map f (g a) := by
  cases x <;> rfl

theorem exceptMap_map {ε α β γ : Type} (f : α → β) (g : β → γ) (x : Except ε α) :
    Except.map g (Except.map f x) = Except.map (fun a => g (f a)) x := by
  cases x <;> rfl

theorem exceptMap_id {ε α : Type} (x : Except ε α) : Except.map (fun a => a) x = x := by
  cases x <;> rfl

theorem bind_ok_eq {ε α : Type} (x : Except ε α) : (x >>= fun a => Except.ok a) = x := by
  cases x <;> rfl

theorem mapM_ok {ε α β : Type} (f : α → Except ε β) (g : α → β) (l : List α)
    (h : ∀ a ∈ l, f a = .ok (g a)) : l.mapM f = .ok (l.map g) := by
  induction l with
  | nil => rfl
  | cons x xs ih =>
    rw [List.mapM_cons, h x List.mem_cons_self, ih fun a ha => h a (List.mem_cons_of_mem _ ha)]
    rfl

theorem mapM_map_ok {ε α β γ : Type} (g : β → α) (f : α → Except ε γ) (c : β → γ) (l : List β)
    (h : ∀ x ∈ l, f (g x) = .ok (c x)) : (l.map g).mapM f = .ok (l.map c) :=
  (List.mapM_map ..).trans (mapM_ok (f ∘ g) c l h)

/-- `for a in l: acc.append(f(a))` with a body that may raise is `mapM` -/
theorem foldlM_append_eq_mapM {ε α β : Type} (f : α → Except ε β) (l : List α) (acc : List β) :
    List.foldlM (fun (acc : List β) (a : α) => (f a) >>= fun b => Except.ok (acc ++ [b])) acc l =
      (l.mapM f).map (acc ++ ·) := by
  induction l generalizing acc with
  | nil => simp [Except.map, pure, Except.pure]
  | cons a l ih =>
    rw [List.foldlM_cons, List.mapM_cons]
    cases f a with
    | error e => rfl
    | ok b =>
      show List.foldlM _ (acc ++ [b]) l = _
      rw [ih]
      cases List.mapM f l with
      | error e => rfl
      | ok bs => exact congrArg Except.ok (List.append_assoc acc [b] bs)

theorem mapM_congr {ε α β : Type} {f g : α → Except ε β} {l : List α} (h : ∀ a ∈ l, f a = g a) :
    l.mapM f = l.mapM g := by
  induction l with
  | nil => rfl
  | cons a l ih =>
    rw [List.mapM_cons, List.mapM_cons, h a (List.mem_cons_self ..), ih fun x hx => h x (List.mem_cons_of_mem _ hx)]

theorem mapM_map_pure {ε β γ δ : Type} {g : β → Except ε γ} (h : γ → δ) (m : List β) :
    m.mapM (fun x => g x >>= fun c => pure (h c)) = m.mapM g >>= fun cs => pure (cs.map h) := by
  induction m with
  | nil => rfl
  | cons x m ih =>
    rw [List.mapM_cons, List.mapM_cons, ih]
    cases g x with
    | error e => rfl
    | ok c => cases m.mapM g <;> rfl

theorem mapM_ok_of_forall {ε α β : Type} {f : α → Except ε β} {l : List α}
    (h : ∀ a ∈ l, ∃ b, f a = .ok b) : ∃ r, l.mapM f = .ok r := by
  induction l with
  | nil => exact ⟨[], by simp [List.mapM_nil, pure, Except.pure]⟩
  | cons a l ih =>
    obtain ⟨b, hb⟩ := h a (by simp)
    obtain ⟨r, hr⟩ := ih (fun x hx => h x (by simp [hx]))
    exact ⟨b :: r, by rw [List.mapM_cons]; simp only [hb, hr, bind, Except.bind, pure, Except.pure]⟩

theorem mapM_ok_getElem {ε α β : Type} {f : α → Except ε β} {l : List α} {r : List β} (h : l.mapM f = .ok r) :
    r.length = l.length ∧ ∀ i (h1 : i < l.length) (h2 : i < r.length), f l[i] = .ok r[i] := by
  induction l generalizing r with
  | nil =>
    cases h
    exact ⟨rfl, fun i h1 => absurd h1 (Nat.not_lt_zero _)⟩
  | cons a l ih =>
    rw [List.mapM_cons] at h
    obtain ⟨b, hb, h⟩ := bind_ok.1 h
    obtain ⟨bs, hbs, h⟩ := bind_ok.1 h
    cases h
    refine ⟨congrArg Nat.succ (ih hbs).1, fun i h1 h2 => ?_⟩
    cases i with
    | zero => exact hb
    | succ i => exact (ih hbs).2 i (Nat.lt_of_succ_lt_succ h1) (Nat.lt_of_succ_lt_succ h2)

theorem guard_bind_map {ε α β : Type} {c : Prop} [Decidable c] {e : ε} {A : Unit → Except ε α}
    {B : Unit → Except ε β} {f : β → α} (h : ¬ c → A () = (B ()).map f) :
    ((if c then Except.error e else Except.ok ()) >>= A) =
      ((if c then Except.error e else Except.ok ()) >>= B).map f := by
  by_cases hc : c
  · simp only [if_pos hc]; rfl
  · simp only [if_neg hc]; exact h hc

end Cnfgen
