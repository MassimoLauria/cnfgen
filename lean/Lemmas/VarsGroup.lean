/-
Group-level form of T-C11.1 … T-C11.4: for every class of variable group, the legal indices are
enumerated in identifier order on a contiguous range, and index ↔ identifier conversions are
mutually inverse for both polarities.
-/
import Lemmas.VarsBlock
import Lemmas.VarsWords
import Lemmas.VarsBip
import Lemmas.VarsBinary
namespace Cnfgen
namespace Vars

/-- what every group handed out by the manager satisfies: identifiers start at 1 or later, word
enumerations are duplicate-free, graphs are well-formed `BipartiteGraph` objects; for a simple
graph the auxiliary graph lives on `V × V` and stores each edge as `(min, max)` -/
def Group.WF : Group → Prop
  | .single s _ => 1 ≤ s
  | .block s _ _ => 1 ≤ s
  | .word s seqs _ => 1 ≤ s ∧ seqs.Nodup
  | .bip s G _ _ => 1 ≤ s ∧ G.WF
  | .graph s B _ => 1 ≤ s ∧ B.WF ∧ B.l = B.r ∧ ∀ a b, (a, b) ∈ B.edgeset → a ≤ b
  | .digraph s B _ _ => 1 ≤ s ∧ B.WF
  | .binary s _ _ _ => 1 ≤ s

theorem Group.WF.start_pos {g : Group} (h : g.WF) : 1 ≤ g.start := by
  cases g <;> simp only [Group.WF, Group.start] at * <;> omega

theorem Group.enumerates {g : Group} (h : g.WF) :
    ∃ idxs, g.indices [] = .ok idxs ∧ Enumerates idxs g.unsafeId g.toIndex g.start g.len := by
  cases g with
  | single s name =>
    refine ⟨[[]], rfl, rfl, fun x hx lit hl => ?_, fun lit hr => ?_⟩
    · cases List.mem_singleton.1 hx
      exact if_neg (not_not.2 hl)
    · exact if_pos fun hl => hr ⟨hl.ge, by rw [hl]; exact Nat.lt_succ_self s⟩
  | block s ranges f =>
    exact ⟨blockAll ranges, blockIndices_nil ranges, block_enumerates s ranges⟩
  | word s seqs f =>
    refine ⟨seqs, rfl, .of_both (word_ids h.2 s) (fun w hw => ?_) fun _ hr => if_neg hr⟩
    obtain ⟨v, hv⟩ := Option.isSome_iff_exists.1 ((seq2vid_isSome_iff s seqs w).2 hw)
    simp only [Group.unsafeId, hv, Option.getD_some]
    exact (wordIndex_seq2vid h.2 s hv).2.2
  | bip s G f un =>
    exact ⟨_, rfl, (bip_enumerates h.2 s).map (fun p => [p.1, p.2]) fun _ _ => rfl⟩
  | graph s B f =>
    refine ⟨_, rfl, (bip_enumerates h.2.1 s).map (fun p => [p.1, p.2]) fun e he => ?_⟩
    -- the edges of the auxiliary graph are stored as `(min, max)`
    have hle := h.2.2.2 e.1 e.2 ((BipG.mem_edges h.2.1 e.1 e.2).1 he)
    simp [Group.unsafeId, Nat.min_eq_left hle, Nat.max_eq_right hle]
  | digraph s B succ f =>
    cases succ with
    | false => exact ⟨_, rfl, (bip_enumerates h.2 s).map (fun p => [p.1, p.2]) fun _ _ => rfl⟩
    | true =>
      refine ⟨B.edges.map (fun p => [p.2, p.1]), ?_, (bip_enumerates h.2 s).map _ fun _ _ => rfl⟩
      simp [Group.indices, digraphIndices, (bipIndices_all B).1, Except.map, pairList, Function.comp_def]
  | binary s n m f =>
    refine ⟨pairList (binAll n (clog2 m)), ?_,
      (binary_enumerates h n (clog2 m)).map (fun p => [p.1, p.2]) fun _ _ => rfl⟩
    have := (binIndices_pattern n (clog2 m) []).1 (Or.inl rfl)
    rw [show (binAll n (clog2 m)).filter (pairMatches []) = _ from List.filter_eq_self.2 fun _ _ => rfl] at this
    simp only [Group.indices, this, Except.map]

theorem Group.indices_nil {g : Group} (h : g.WF) :
    ∃ idxs, g.indices [] = .ok idxs ∧ idxs.map g.unsafeId = List.range' g.start g.len :=
  have ⟨idxs, h1, E⟩ := Group.enumerates h
  ⟨idxs, h1, E.ids⟩

theorem Group.enumerates_of {g : Group} (h : g.WF) {idxs : List (List Nat)} (hi : g.indices [] = .ok idxs) :
    Enumerates idxs g.unsafeId g.toIndex g.start g.len := by
  obtain ⟨idxs', h1, E⟩ := Group.enumerates h
  cases hi.symm.trans h1
  exact E

theorem Group.length_indices {g : Group} (h : g.WF) {idxs : List (List Nat)}
    (hi : g.indices [] = .ok idxs) : idxs.length = g.len :=
  (Group.enumerates_of h hi).length_eq

theorem Group.toIndex_unsafeId {g : Group} (h : g.WF) {idxs : List (List Nat)}
    (hi : g.indices [] = .ok idxs) {idx : List Nat} (hm : idx ∈ idxs) :
    g.toIndex (g.unsafeId idx : Int) = .ok idx ∧ g.toIndex (-(g.unsafeId idx : Int)) = .ok idx :=
  (Group.enumerates_of h hi).index_both hm

theorem Group.unsafeId_nth {g : Group} (h : g.WF) {idxs : List (List Nat)}
    (hi : g.indices [] = .ok idxs) {i : Nat} (hlt : i < idxs.length) :
    g.unsafeId idxs[i] = g.start + i :=
  ids_getElem (Group.enumerates_of h hi).ids hlt

theorem Group.toIndex_nth {g : Group} (h : g.WF) {idxs : List (List Nat)}
    (hi : g.indices [] = .ok idxs) {i : Nat} (hlt : i < idxs.length) :
    g.toIndex ((g.start + i : Nat) : Int) = .ok idxs[i] ∧ g.toIndex (-((g.start + i : Nat) : Int)) = .ok idxs[i] := by
  have := Group.toIndex_unsafeId h hi (List.getElem_mem hlt)
  rwa [Group.unsafeId_nth h hi hlt] at this

theorem Group.toIndex_ok {g : Group} (h : g.WF) {lit : Int}
    (hr : g.start ≤ lit.natAbs ∧ lit.natAbs < g.start + g.len) :
    ∃ idxs idx, g.indices [] = .ok idxs ∧ idx ∈ idxs ∧ g.toIndex lit = .ok idx ∧ g.unsafeId idx = lit.natAbs :=
  have ⟨idxs, h1, E⟩ := Group.enumerates h
  have ⟨idx, hm, hid⟩ := E.exists_of_range hr
  ⟨idxs, idx, h1, hm, E.index_id idx hm lit hid.symm, hid⟩

theorem Group.toIndex_reject {g : Group} (h : g.WF) {lit : Int}
    (hr : ¬ (g.start ≤ lit.natAbs ∧ lit.natAbs < g.start + g.len)) :
    g.toIndex lit = .error .valueError :=
  have ⟨_, _, E⟩ := Group.enumerates h
  E.reject lit hr

end Vars
end Cnfgen
