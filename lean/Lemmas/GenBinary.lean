/-
Helper lemmas for the translated `BinaryMappingVariables` (`Props/C11/GeneratedBinary.lean`): the object as the model
describes it, `product([1,-1], repeat=bits)[j]` is the arithmetic sign pattern of the model, the loops.
-/
import Lemmas.GenBlock
import Lemmas.VarsBinary
namespace Cnfgen.GenVars
open Cnfgen Cnfgen.Vars Cnfgen.PyGen

/-- `BinaryMappingVariables(F, n, m)` on a formula with `nv` variables, as the model describes it -/
def binSelf (nv n m : Nat) : BinaryMappingVariables :=
  { domain_size := n, range_size := m, id_offset := nv, bitlength := (clog2 m : Nat), formula := ⟨nv⟩,
    ids := ⟨(nv : Int) + 1, (nv : Int) + (n : Int) * (clog2 m : Nat) + 1⟩,
    flips := productRep [1, -1] (clog2 m) }

theorem length_signs (k : Nat) : (productRep [(1 : Int), -1] k).length = 2 ^ k := by
  induction k with
  | zero => rfl
  | succ k ih =>
    simp only [productRep, List.flatMap_cons, List.flatMap_nil, List.length_append, List.length_map, List.length_nil, ih]
    omega

theorem flipPattern_succ (k j : Nat) :
    flipPattern (k + 1) j = (if (j / 2 ^ k) % 2 = 1 then (-1 : Int) else 1) :: flipPattern k j := by
  unfold flipPattern
  rw [List.range_succ_eq_map, List.map_cons, List.map_map]
  congr 1
  apply List.map_congr_left
  intro t _
  simp only [Function.comp, Nat.add_sub_cancel, Nat.succ_eq_add_one, Nat.sub_add_eq, Nat.sub_right_comm k t 1]

theorem flipPattern_add (k j : Nat) : flipPattern k (2 ^ k + j) = flipPattern k j := by
  unfold flipPattern
  apply List.map_congr_left
  intro t ht
  have h2 : 2 ^ k = 2 ^ (k - 1 - t) * (2 * 2 ^ t) := by
    rw [← Nat.pow_succ', ← Nat.pow_add]
    congr 1
    have := List.mem_range.1 ht
    omega
  rw [h2, Nat.mul_add_div (Nat.pow_pos Nat.two_pos), Nat.mul_add_mod]

/-- `flips[j]`: the `j`-th tuple of `product([1,-1], repeat=bits)` is the sign pattern of the bits of `j` -/
theorem signs_get (k j : Nat) (hj : j < 2 ^ k) : (productRep [(1 : Int), -1] k)[j]? = some (flipPattern k j) := by
  induction k generalizing j with
  | zero =>
    cases Nat.lt_one_iff.1 hj
    rfl
  | succ k ih =>
    have hprod : productRep [(1 : Int), -1] (k + 1) =
        (productRep [(1 : Int), -1] k).map (1 :: ·) ++ (productRep [(1 : Int), -1] k).map (-1 :: ·) := by
      simp only [productRep, List.flatMap_cons, List.flatMap_nil, List.append_nil]
    have hlen : ∀ c : Int, ((productRep [(1 : Int), -1] k).map (c :: ·)).length = 2 ^ k :=
      fun c => (List.length_map (c :: ·)).trans (length_signs k)
    rw [hprod, flipPattern_succ]
    by_cases hlt : j < 2 ^ k
    · rw [List.getElem?_append_left (hlen 1 ▸ hlt), List.getElem?_map, ih j hlt, Nat.div_eq_of_lt hlt]
      rfl
    · obtain ⟨i, rfl⟩ := Nat.exists_eq_add_of_le (Nat.le_of_not_lt hlt)
      have hi : i < 2 ^ k := by
        rw [Nat.pow_succ] at hj
        omega
      rw [List.getElem?_append_right (hlen 1 ▸ Nat.le_add_right ..), hlen, Nat.add_sub_cancel_left, List.getElem?_map,
        ih i hi, flipPattern_add, Nat.add_div_left _ (Nat.pow_pos Nat.two_pos), Nat.div_eq_of_lt hi]
      rfl

theorem py_clog2_eq (m : Nat) : Py.clog2 m = clog2 m := rfl

/-- the number of bits the constructor computes -/
theorem bitlength_eq (m : Int) :
    ((if m > 1 then (Py.ceilLog2 m) >>= fun b => Except.ok b else Except.ok 0) : Except Err Int) =
      Except.ok ((clog2 m.toNat : Nat) : Int) := by
  by_cases h : m > 1
  · rw [if_pos h, Py.ceilLog2, if_neg (Int.not_le.2 (Int.lt_trans Int.zero_lt_one h))]
    rfl
  · rw [if_neg h, clog2, if_pos (Int.toNat_le.2 (Int.not_lt.1 h))]
    rfl

abbrev intPairs (l : List (Nat × Nat)) : List (Int × Int) := l.map (fun p => ((p.1 : Int), (p.2 : Int)))

theorem flatMap_pairs_ints (I B : List Nat) :
    (ints I).flatMap (fun i => (ints B).map (fun b => (i, b))) =
      intPairs (I.flatMap (fun i => B.map (fun b => (i, b)))) := by
  simp only [ints, intPairs, List.flatMap_map, List.map_flatMap, List.map_map]
  rfl

/-- a model function that is two coordinates of a pattern (`patCol`) and their product, against the translated
code for it (`pyCol`) -/
theorem pairCols {x : Except Err (List (Nat × Nat))} {a b : Option Int} {L M : List Nat} {P Q : Int → Prop}
    [DecidablePred P] [DecidablePred Q]
    (hx : x = patCol a L P >>= fun I => patCol b M Q >>= fun B => pure (I.flatMap fun i => B.map fun b => (i, b)))
    (hP : ∀ x, P x → 0 ≤ x) (hQ : ∀ x, Q x → 0 ≤ x) :
    (pyCol a (ints L) P >>= fun I => pyCol b (ints M) Q >>= fun B =>
      Except.ok (I.flatMap fun i => B.map fun b => (i, b))) = x.map intPairs := by
  rw [hx, pyCol_ints hP, pyCol_ints hQ]
  cases patCol a L P with
  | error e => rfl
  | ok I =>
    cases patCol b M Q with
    | error e => rfl
    | ok B => exact congrArg Except.ok (flatMap_pairs_ints I B)

theorem reverse_range_eq_map (k : Nat) : (List.range k).reverse = (List.range k).map (fun t => k - 1 - t) := by
  rw [List.range_eq_range', List.reverse_range', Nat.zero_add, List.range_eq_range']

theorem rangeStep_down (bits : Nat) :
    Py.rangeStep ((bits : Int) - 1) (-1) (-1) = ints (List.range bits).reverse := by
  have hcount : (((bits : Int) - 1 - -1 + - -1 - 1) / - -1).toNat = bits := by
    rw [Int.neg_neg, Int.ediv_one]
    omega
  rw [Py.rangeStep, if_neg (by decide), if_pos (by decide), hcount, reverse_range_eq_map, ints, List.map_map]
  apply List.map_congr_left
  intro i hi
  have := List.mem_range.1 hi
  simp only [Function.comp, Int.ofNat_eq_natCast]
  omega

theorem zip_map_mul {β : Type} (a : List Int) (l : List β) (g : β → Int) :
    (a.zip (l.map g)).map (fun z => z.1 * z.2) = List.zipWith (fun s t => s * g t) a l := by
  induction a generalizing l with
  | nil => simp
  | cons x xs ih =>
    cases l with
    | nil => simp
    | cons y ys => simp [ih]

theorem flips_index (bits : Nat) (j : Int) :
    Py.index (productRep [(1 : Int), -1] bits) j = flipsGet bits j := by
  have hget : ∀ i, (productRep [(1 : Int), -1] bits)[i]? = if i < 2 ^ bits then some (flipPattern bits i) else none := by
    intro i
    split
    next h => exact signs_get bits i h
    next h => exact List.getElem?_eq_none (length_signs bits ▸ Nat.le_of_not_lt h)
  unfold Py.index flipsGet
  simp only [hget, length_signs, ← Int.toNat_le]
  by_cases h0 : 0 ≤ j
  · rw [if_pos h0, if_pos h0]
    by_cases hlt : j.toNat < 2 ^ bits
    · rw [if_pos hlt, if_pos hlt]
    · rw [if_neg hlt, if_neg hlt]
  · rw [if_neg h0, if_neg h0]
    by_cases hle : (-j).toNat ≤ 2 ^ bits
    · have hpos : 0 < (-j).toNat := Int.pos_iff_toNat_pos.1 (Int.neg_pos_of_neg (Int.not_le.1 h0))
      rw [if_pos hle, if_pos hle, if_pos (Nat.sub_lt (Nat.pow_pos Nat.two_pos) hpos)]
    · rw [if_neg hle, if_neg hle]

end Cnfgen.GenVars
