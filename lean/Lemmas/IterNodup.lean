/-
Duplicate-freeness and membership characterisations of the Python-order
iterators of `CnfgenModel.Core.Iter`.
-/
import Lemmas.Basic
import Mathlib.Data.List.Nodup
import Mathlib.Data.List.Forall2
import Mathlib.Data.List.Perm.Basic

namespace Cnfgen

open List

theorem nodup_map_cons_append {α : Type} {x : α} {A B : List (List α)} (hA : A.Nodup)
    (hB : B.Nodup) (hx : ∀ w ∈ B, x ∉ w) : (A.map (x :: ·) ++ B).Nodup := by
  rw [List.nodup_append]
  refine ⟨hA.map List.cons_injective, hB, ?_⟩
  intro a ha b hb hab
  rw [List.mem_map] at ha
  obtain ⟨a', _, rfl⟩ := ha
  exact hx _ hb (hab ▸ List.mem_cons_self)

theorem mem_combos {α : Type} {l : List α} {k : Nat} {c : List α} :
    c ∈ combos l k ↔ c.Sublist l ∧ c.length = k := by
  induction l generalizing k c with
  | nil =>
    cases k with
    | zero => simp [combos]
    | succ k =>
      simp only [combos, List.not_mem_nil, List.sublist_nil, false_iff, not_and]
      rintro rfl
      simp
  | cons x xs ih =>
    cases k with
    | zero =>
      simp only [combos, List.mem_singleton, List.length_eq_zero_iff]
      constructor
      · rintro rfl; simp
      · exact fun h => h.2
    | succ k =>
      simp only [combos, List.mem_append, List.mem_map, ih, List.sublist_cons_iff]
      constructor
      · rintro (⟨c', ⟨hs, hlen⟩, rfl⟩ | ⟨hs, hlen⟩)
        · exact ⟨Or.inr ⟨c', rfl, hs⟩, by simp [hlen]⟩
        · exact ⟨Or.inl hs, hlen⟩
      · rintro ⟨hs | ⟨r, rfl, hs⟩, hlen⟩
        · exact Or.inr ⟨hs, hlen⟩
        · exact Or.inl ⟨r, ⟨hs, by simpa using hlen⟩, rfl⟩

theorem length_of_mem_combos {α : Type} {l : List α} {k : Nat} {c : List α}
    (h : c ∈ combos l k) : c.length = k := (mem_combos.1 h).2

theorem combos_nodup {α : Type} {l : List α} (hl : l.Nodup) (k : Nat) : (combos l k).Nodup := by
  induction l generalizing k with
  | nil => cases k <;> simp [combos]
  | cons x xs ih =>
    cases k with
    | zero => simp [combos]
    | succ k =>
      rw [List.nodup_cons] at hl
      rw [combos]
      exact nodup_map_cons_append (ih hl.2 k) (ih hl.2 (k + 1))
        (fun w hw hx => hl.1 ((mem_combos.1 hw).1.subset hx))

theorem mem_productRep {α : Type} {l : List α} {k : Nat} {w : List α} :
    w ∈ productRep l k ↔ w.length = k ∧ ∀ x ∈ w, x ∈ l := by
  induction k generalizing w with
  | zero =>
    rw [productRep, List.mem_singleton, List.length_eq_zero_iff]
    exact ⟨fun h => ⟨h, h ▸ fun _ hx => nomatch hx⟩, fun h => h.1⟩
  | succ k ih =>
    cases w with
    | nil => simp [productRep]
    | cons y w' =>
      simp only [productRep, List.mem_flatMap, List.mem_map, ih, List.cons.injEq, List.length_cons,
        Nat.add_right_cancel_iff, List.forall_mem_cons]
      exact ⟨fun ⟨_, hy, _, ⟨h1, h2⟩, e1, e2⟩ => e1 ▸ e2 ▸ ⟨h1, hy, h2⟩,
        fun ⟨h1, hy, h2⟩ => ⟨y, hy, w', ⟨h1, h2⟩, rfl, rfl⟩⟩

theorem length_of_mem_productRep {α : Type} {l : List α} {k : Nat} {w : List α}
    (h : w ∈ productRep l k) : w.length = k := (mem_productRep.1 h).1

theorem productRep_nodup {α : Type} {l : List α} (hl : l.Nodup) (k : Nat) :
    (productRep l k).Nodup := by
  induction k with
  | zero => simp [productRep]
  | succ k ih =>
    simp only [productRep]
    exact nodup_flatMap_map hl (fun _ _ => ih) fun _ _ _ _ _ _ _ _ h => List.cons.inj h

theorem mem_product {α : Type} {ls : List (List α)} {w : List α} :
    w ∈ product ls ↔ List.Forall₂ (fun x l => x ∈ l) w ls := by
  induction ls generalizing w with
  | nil => simp [product]
  | cons l ls ih =>
    simp only [product, List.mem_flatMap, List.mem_map, ih, List.forall₂_cons_right_iff]
    constructor
    · rintro ⟨x, hx, w', hw', rfl⟩
      exact ⟨x, w', hx, hw', rfl⟩
    · rintro ⟨x, w', hx, hw', rfl⟩
      exact ⟨x, hx, w', hw', rfl⟩

theorem length_product {α : Type} (ls : List (List α)) : (product ls).length = (ls.map List.length).prod := by
  induction ls with
  | nil => rfl
  | cons l ls ih =>
    simp only [product, List.length_flatMap, List.length_map, List.map_const', List.sum_replicate_nat, ih, List.map_cons,
      List.prod_cons]

theorem length_of_mem_product {α : Type} {ls : List (List α)} {w : List α}
    (h : w ∈ product ls) : w.length = ls.length := (mem_product.1 h).length_eq

theorem product_nodup {α : Type} {ls : List (List α)} (h : ∀ l ∈ ls, l.Nodup) :
    (product ls).Nodup := by
  induction ls with
  | nil => simp [product]
  | cons l ls ih =>
    simp only [product]
    have hl : l.Nodup := h l List.mem_cons_self
    have hls : (product ls).Nodup := ih (fun l' hl' => h l' (List.mem_cons_of_mem _ hl'))
    exact nodup_flatMap_map hl (fun _ _ => hls) fun _ _ _ _ _ _ _ _ h => List.cons.inj h

theorem picks_map_fst {α : Type} (l : List α) : (picks l).map Prod.fst = l := by
  induction l with
  | nil => simp [picks]
  | cons x xs ih =>
    simp only [picks, List.map_cons, List.map_map]
    congr 1

theorem picks_perm {α : Type} {l : List α} {p : α × List α} (h : p ∈ picks l) :
    (p.1 :: p.2).Perm l := by
  induction l generalizing p with
  | nil => simp [picks] at h
  | cons x xs ih =>
    simp only [picks, List.mem_cons, List.mem_map] at h
    rcases h with rfl | ⟨q, hq, rfl⟩
    · exact List.Perm.refl _
    · exact (List.Perm.swap x q.1 q.2).trans ((ih hq).cons x)

theorem length_picks {α : Type} (l : List α) : (picks l).length = l.length := by
  rw [← List.length_map (f := Prod.fst), picks_map_fst]

theorem fst_mem_of_mem_picks {α : Type} {l : List α} {p : α × List α} (h : p ∈ picks l) :
    p.1 ∈ l := (picks_perm h).subset List.mem_cons_self

theorem nodup_of_mem_picks {α : Type} {l : List α} (hl : l.Nodup) {p : α × List α}
    (h : p ∈ picks l) : p.1 ∉ p.2 ∧ p.2.Nodup := by
  have := (picks_perm h).nodup_iff.2 hl
  exact List.nodup_cons.1 this

theorem exists_mem_picks_of_mem {α : Type} {l : List α} {x : α} (hx : x ∈ l) :
    ∃ p ∈ picks l, p.1 = x := by
  rw [← picks_map_fst l, List.mem_map] at hx
  exact hx

theorem permsK_zero {α : Type} (l : List α) : permsK 0 l = [[]] := by
  simp [permsK]

theorem permsK_succ {α : Type} (k : Nat) (l : List α) :
    permsK (k + 1) l = (picks l).flatMap (fun p => (permsK k p.2).map (p.1 :: ·)) := by
  rw [permsK]
  rw [List.flatMap_subtype (g := fun p => (permsK k p.2).map (p.1 :: ·)) (fun _ _ => rfl)]
  simp

theorem mem_permsK {α : Type} {l : List α} {k : Nat} {w : List α} :
    w ∈ permsK k l ↔ w.length = k ∧ w.Subperm l := by
  induction k generalizing l w with
  | zero =>
    rw [permsK_zero, List.mem_singleton, List.length_eq_zero_iff]
    exact ⟨fun h => ⟨h, h ▸ List.nil_subperm⟩, fun h => h.1⟩
  | succ k ih =>
    simp only [permsK_succ, List.mem_flatMap, List.mem_map, ih]
    constructor
    · rintro ⟨p, hp, w', ⟨hlen, hsub⟩, rfl⟩
      exact ⟨congrArg (· + 1) hlen, ((List.subperm_cons p.1).2 hsub).trans (picks_perm hp).subperm⟩
    · rintro ⟨hlen, hsub⟩
      cases w with
      | nil => cases hlen
      | cons y w' =>
        obtain ⟨p, hp, rfl⟩ := exists_mem_picks_of_mem (hsub.subset List.mem_cons_self)
        exact ⟨p, hp, w', ⟨Nat.succ.inj hlen,
          (List.subperm_cons p.1).1 (hsub.trans (picks_perm hp).symm.subperm)⟩, rfl⟩

theorem length_of_mem_permsK {α : Type} {l : List α} {k : Nat} {w : List α}
    (h : w ∈ permsK k l) : w.length = k := (mem_permsK.1 h).1

theorem subperm_iff_of_nodup {α : Type} {l w : List α} (hl : l.Nodup) :
    w.Subperm l ↔ w.Nodup ∧ ∀ x ∈ w, x ∈ l := by
  refine ⟨fun h => ⟨?_, h.subset⟩, fun h => List.subperm_of_subset h.1 h.2⟩
  obtain ⟨u, hu, hs⟩ := h
  exact hu.nodup_iff.1 (hl.sublist hs)

theorem sublist_of_pairwise_subset {α : Type} {r : α → α → Prop} (hr : ∀ a b, r a b → ¬ r b a) {c l : List α}
    (hc : c.Pairwise r) (hl : l.Pairwise r) (hsub : ∀ x ∈ c, x ∈ l) : c.Sublist l := by
  -- `c` is a sublist `c'` of `l` up to order; both are chains, so the order is the same
  obtain ⟨c', hp, hs⟩ := List.subperm_of_subset (hc.imp fun h e => by subst e; exact hr _ _ h h) hsub
  rwa [← List.Perm.eq_of_pairwise (fun _ _ _ _ h h' => absurd h' (hr _ _ h)) (hl.sublist hs) hc hp]

theorem permsK_nodup {α : Type} {l : List α} (hl : l.Nodup) (k : Nat) : (permsK k l).Nodup := by
  induction k generalizing l with
  | zero => simp [permsK_zero]
  | succ k ih =>
    rw [permsK_succ]
    have hfst : ((picks l).map Prod.fst).Nodup := (picks_map_fst l).symm ▸ hl
    exact nodup_flatMap_map (.of_map _ hfst) (fun p hp => ih (nodup_of_mem_picks hl hp).2)
      fun p hp _ _ p' hp' _ _ h => ⟨List.inj_on_of_nodup_map hfst hp hp' (List.cons.inj h).1, (List.cons.inj h).2⟩

theorem of_mem_combosRepl {α : Type} {l : List α} {k : Nat} {w : List α}
    (h : w ∈ combosRepl l k) : w.length = k ∧ ∀ x ∈ w, x ∈ l := by
  induction l, k using combosRepl.induct generalizing w with
  | case1 l =>
    simp only [combosRepl, List.mem_singleton] at h
    simp [h]
  | case2 k => simp [combosRepl] at h
  | case3 x xs k ih1 ih2 =>
    simp only [combosRepl, List.mem_append, List.mem_map] at h
    rcases h with ⟨w', hw', rfl⟩ | h
    · obtain ⟨h1, h2⟩ := ih1 hw'
      exact ⟨congrArg (· + 1) h1, List.forall_mem_cons.2 ⟨List.mem_cons_self, h2⟩⟩
    · obtain ⟨h1, h2⟩ := ih2 h
      exact ⟨h1, fun y hy => List.mem_cons_of_mem _ (h2 y hy)⟩

theorem length_of_mem_combosRepl {α : Type} {l : List α} {k : Nat} {w : List α}
    (h : w ∈ combosRepl l k) : w.length = k := (of_mem_combosRepl h).1

theorem combosRepl_nodup {α : Type} {l : List α} (hl : l.Nodup) (k : Nat) :
    (combosRepl l k).Nodup := by
  induction l, k using combosRepl.induct with
  | case1 l => simp [combosRepl]
  | case2 k => simp [combosRepl]
  | case3 x xs k ih1 ih2 =>
    have hl' := List.nodup_cons.1 hl
    rw [combosRepl]
    exact nodup_map_cons_append (ih1 hl) (ih2 hl'.2)
      (fun w hw hx => hl'.1 ((of_mem_combosRepl hw).2 x hx))

theorem mem_combosRepl_sorted {l : List Nat} (hl : l.Pairwise (· < ·)) {k : Nat}
    {w : List Nat} :
    w ∈ combosRepl l k ↔ w.length = k ∧ w.Pairwise (· ≤ ·) ∧ ∀ x ∈ w, x ∈ l := by
  induction l, k using combosRepl.induct generalizing w with
  | case1 l =>
    rw [combosRepl, List.mem_singleton, List.length_eq_zero_iff]
    exact ⟨fun h => ⟨h, h ▸ List.Pairwise.nil, h ▸ fun _ hx => nomatch hx⟩, fun h => h.1⟩
  | case2 k =>
    simp only [combosRepl, List.not_mem_nil, false_iff, not_and]
    intro hlen _ hall
    cases w with
    | nil => cases hlen
    | cons y w' => exact hall y List.mem_cons_self
  | case3 x xs k ih1 ih2 =>
    have hl' := List.pairwise_cons.1 hl
    simp only [combosRepl, List.mem_append, List.mem_map, ih1 hl, ih2 hl'.2]
    cases w with
    | nil => simp
    | cons y w' =>
      simp only [List.cons.injEq, List.length_cons, Nat.succ_eq_add_one, Nat.add_right_cancel_iff, List.pairwise_cons,
        List.forall_mem_cons]
      simp only [List.mem_cons]
      constructor
      · rintro (⟨_, ⟨hlen, hs, hall⟩, rfl, rfl⟩ | ⟨hlen, hs, hy, hall⟩)
        · refine ⟨hlen, ⟨fun z hz => ?_, hs⟩, Or.inl rfl, hall⟩
          rcases hall z hz with rfl | h
          · exact Nat.le_refl _
          · exact Nat.le_of_lt (hl'.1 z h)
        · exact ⟨hlen, hs, Or.inr hy, fun z hz => Or.inr (hall z hz)⟩
      · rintro ⟨hlen, hs, rfl | hy, hall⟩
        · exact Or.inl ⟨w', ⟨hlen, hs.2, hall⟩, rfl, rfl⟩
        · refine Or.inr ⟨hlen, hs, hy, fun z hz => (hall z hz).resolve_left ?_⟩
          rintro rfl
          exact Nat.lt_irrefl _ (Nat.lt_of_lt_of_le (hl'.1 y hy) (hs.1 z hz))

/-! ### the enumerations commute with `map` (the translated code enumerates integers, the model naturals) -/

theorem combos_map {α β : Type} (f : α → β) (l : List α) (k : Nat) :
    combos (l.map f) k = (combos l k).map (List.map f) := by
  induction l generalizing k with
  | nil => cases k <;> simp [combos]
  | cons x xs ih =>
    cases k with
    | zero => simp [combos]
    | succ k => simp [combos, ih, List.map_map, Function.comp_def]

theorem combosRepl_map {α β : Type} (f : α → β) (l : List α) (k : Nat) :
    combosRepl (l.map f) k = (combosRepl l k).map (List.map f) := by
  induction k generalizing l with
  | zero => cases l <;> simp [combosRepl]
  | succ k ihk =>
    induction l with
    | nil => simp [combosRepl]
    | cons x xs ihl =>
      have h1 := ihk (x :: xs)
      simp only [List.map_cons] at h1 ihl ⊢
      simp only [combosRepl, h1, ihl, List.map_append, List.map_map, Function.comp_def, List.map_cons]

theorem productRep_map {α β : Type} (f : α → β) (l : List α) (k : Nat) :
    productRep (l.map f) k = (productRep l k).map (List.map f) := by
  induction k with
  | zero => simp [productRep]
  | succ k ih =>
    simp only [productRep, ih, List.flatMap_map, List.map_flatMap, List.map_map, Function.comp_def, List.map_cons]

theorem picks_map {α β : Type} (f : α → β) (l : List α) :
    picks (l.map f) = (picks l).map (fun p => (f p.1, p.2.map f)) := by
  induction l with
  | nil => simp [picks]
  | cons x xs ih => simp [picks, ih, List.map_map, Function.comp_def]

theorem permsK_map {α β : Type} (f : α → β) (k : Nat) (l : List α) :
    permsK k (l.map f) = (permsK k l).map (List.map f) := by
  induction k generalizing l with
  | zero => simp [permsK_zero]
  | succ k ih =>
    rw [permsK_succ, permsK_succ, picks_map]
    simp only [List.flatMap_map, List.map_flatMap, List.map_map, Function.comp_def, ih, List.map_cons]

end Cnfgen
