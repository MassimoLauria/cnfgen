/-
Lemmas for T-C11.3 — edge groups: `BipartiteEdgesVariables` (also unary / sparse mappings),
`GraphEdgesVariables`, `DiGraphEdgesVariables` (through their auxiliary bipartite graph).
Offsets are prefix sums of the right degrees (`Lemmas/VarsOffsets.lean`), `bisect_right` inverts them.
-/
import CnfgenModel.Vars.Patterns
import Lemmas.BipWF
import Lemmas.IterNodup
import Lemmas.VarsEnum
import Lemmas.VarsOffsets
namespace Cnfgen
namespace Vars

theorem degSum_total {G : BipG} (h : G.WF) : degSum G G.l = G.numberOfEdges :=
  (BipG.numberOfEdges_eq_sum h).symm

/-- the identifier of the `k`-th neighbour of `u` -/
theorem bipId_getElem {G : BipG} (h : G.WF) (start : Nat) {u k : Nat} (hu : 1 ≤ u ∧ u ≤ G.l)
    (hk : k < (G.rnbrs u).length) :
    bipId G start u ((G.rnbrs u)[k]) = start + degSum G (u - 1) + k := by
  rw [bipId_eq G start hu, List.Nodup.idxOf_getElem (SortedLt.nodup (h.row_sorted u))]

theorem bipId_edge {G : BipG} (h : G.WF) (start : Nat) {u v : Nat} (he : (u, v) ∈ G.edgeset) :
    bipId G start u v = start + degSum G (u - 1) + (G.rnbrs u).idxOf v ∧
    (G.rnbrs u).idxOf v < (G.rnbrs u).length ∧ 1 ≤ u ∧ u ≤ G.l := by
  have hr := h.edge_range u v he
  exact ⟨bipId_eq G start ⟨hr.1, hr.2.1⟩ v, List.idxOf_lt_length_iff.2 ((h.mem_row u v).2 he), hr.1, hr.2.1⟩

theorem bip_ids {G : BipG} (h : G.WF) (start : Nat) :
    G.edges.map (fun e => bipId G start e.1 e.2) = List.range' start G.numberOfEdges :=
  degSum_total h ▸ bip_ids_of_nodup (fun u => SortedLt.nodup (h.row_sorted u)) start

theorem bipId_range {G : BipG} (h : G.WF) (start : Nat) {u v : Nat} (he : (u, v) ∈ G.edgeset) :
    start ≤ bipId G start u v ∧ bipId G start u v < start + G.numberOfEdges :=
  ids_range (bip_ids h start) ((BipG.mem_edges h u v).2 he)

theorem bipId_inj {G : BipG} (h : G.WF) (start : Nat) {u v u' v' : Nat}
    (he : (u, v) ∈ G.edgeset) (he' : (u', v') ∈ G.edgeset)
    (hid : bipId G start u v = bipId G start u' v') : u = u' ∧ v = v' :=
  Prod.mk.inj (ids_inj (bip_ids h start) ((BipG.mem_edges h u v).2 he) ((BipG.mem_edges h u' v').2 he') hid)

/-- `bisect_right` as modelled: the length of the longest prefix of entries `≤ x` -/
theorem bisectRight_eq {l : List Nat} {x k : Nat} (hk : k ≤ l.length)
    (h1 : ∀ i, i < k → l.getD i 0 ≤ x) (h2 : k < l.length → x < l.getD k 0) :
    bisectRight l x = k := by
  induction l generalizing k with
  | nil => simp at hk; subst hk; rfl
  | cons y ys ih =>
    unfold bisectRight
    cases k with
    | zero =>
      have := h2 (by simp)
      simp at this
      rw [if_neg (by omega)]
    | succ k =>
      have h0 := h1 0 (by omega)
      simp at h0
      rw [if_pos h0]
      congr 1
      apply ih
      · simpa using hk
      · intro i hi
        have := h1 (i + 1) (by omega)
        simpa using this
      · intro hlt
        have := h2 (by simpa using hlt)
        simpa using this

/-- `bisect_right` on the offsets finds the row -/
theorem bisectRight_offsets (G : BipG) (start : Nat) {u x : Nat} (hu : 1 ≤ u ∧ u ≤ G.l)
    (h1 : start + degSum G (u - 1) ≤ x) (h2 : x < start + degSum G u) :
    bisectRight ((bipOffsets G start).drop 1) x = u ∧
    ((bipOffsets G start).drop 1).getD (u - 1) 0 = start + degSum G (u - 1) := by
  have hoffs : (bipOffsets G start).drop 1 = (List.range G.l).map (fun i => start + degSum G i) := by
    rw [bipOffsets_eq]
    rfl
  have hget : ∀ i, i < G.l →
      ((List.range G.l).map (fun i => start + degSum G i)).getD i 0 = start + degSum G i := by
    intro i hi
    simp [List.getD_eq_getElem?_getD, hi]
  rw [hoffs, hget _ (by omega)]
  refine ⟨bisectRight_eq (by simpa using hu.2) (fun i hi => ?_) (fun hlt => ?_), rfl⟩
  · rw [hget i (by omega)]
    have := degSum_mono G (show i ≤ u - 1 by omega)
    omega
  · rw [hget u (by simpa using hlt)]
    omega

theorem bipIndex_of_natAbs {G : BipG} (h : G.WF) (start : Nat) {u v : Nat} (he : (u, v) ∈ G.edgeset)
    {lit : Int} (hl : lit.natAbs = bipId G start u v) : bipIndex G start lit = .ok (u, v) := by
  obtain ⟨hid, hk, hu1, hu2⟩ := bipId_edge h start he
  have hsucc := degSum_pred G hu1
  obtain ⟨hbis, hoff⟩ := bisectRight_offsets G start ⟨hu1, hu2⟩ (x := bipId G start u v)
    (by omega) (by omega)
  have hvidx : bipId G start u v - (start + degSum G (u - 1)) = (G.rnbrs u).idxOf v := by omega
  have hv : (G.rnbrs u)[(G.rnbrs u).idxOf v]? = some v := by
    rw [List.getElem?_eq_getElem hk, List.getElem_idxOf]
  have hedge : G.hasEdge (u : Int) (v : Int) = true :=
    (BipG.hasEdge_iff G u v).2 ⟨by omega, by omega, by simpa using he⟩
  unfold bipIndex
  simp only [hl]
  rw [if_pos (bipId_range h start he)]
  simp only [hbis, hoff, hvidx, hv, hedge]
  simp

/-- `to_index` enumerates the edges, in the order of `indices()`, from `start` (in particular it
raises neither IndexError nor AssertionError) -/
theorem bip_enumerates {G : BipG} (h : G.WF) (start : Nat) :
    Enumerates G.edges (fun e => bipId G start e.1 e.2) (bipIndex G start) start G.numberOfEdges where
  ids := bip_ids h start
  index_id := fun e he _ hl => bipIndex_of_natAbs h start ((BipG.mem_edges h e.1 e.2).1 he) hl
  reject := fun _ hr => if_neg hr

theorem bipIndex_bipId {G : BipG} (h : G.WF) (start : Nat) {u v : Nat} (he : (u, v) ∈ G.edgeset) :
    bipIndex G start (bipId G start u v : Int) = .ok (u, v) ∧
    bipIndex G start (-(bipId G start u v : Int)) = .ok (u, v) :=
  (bip_enumerates h start).index_both (x := (u, v)) ((BipG.mem_edges h u v).2 he)

theorem bipId_bipIndex {G : BipG} (h : G.WF) {start : Nat} {lit : Int} {u v : Nat}
    (hi : bipIndex G start lit = .ok (u, v)) :
    (u, v) ∈ G.edgeset ∧ bipId G start u v = lit.natAbs :=
  have hm := (bip_enumerates h start).id_index hi
  ⟨(BipG.mem_edges h u v).1 hm.1, hm.2⟩

theorem bipIndex_error {G : BipG} (h : G.WF) {start : Nat} {lit : Int} {e : Err}
    (he : bipIndex G start lit = .error e) : e = .valueError :=
  (bip_enumerates h start).error_eq he

/-- pattern matching on pairs (ordered) -/
def edgeMatches (pat : Pattern) (p : Nat × Nat) : Bool :=
  match pat with
  | [] => true
  | [a, b] => (match a with | none => true | some x => decide (x = (p.1 : Int))) &&
              (match b with | none => true | some y => decide (y = (p.2 : Int)))
  | _ => false

theorem edges_pairwise_lexLt {G : BipG} (h : G.WF) : G.edges.Pairwise lexLt :=
  sorted_tableEdges h.row_sorted G.l

theorem edges_filter_eq {G : BipG} (h : G.WF) (p : Nat × Nat → Bool) {l : List (Nat × Nat)}
    (hl : l.Pairwise lexLt) (hm : ∀ a b, (a, b) ∈ l ↔ (a, b) ∈ G.edgeset ∧ p (a, b) = true) :
    G.edges.filter p = l := by
  refine SortedLex.ext ((edges_pairwise_lexLt h).filter _) hl ?_
  rintro ⟨a, b⟩
  rw [List.mem_filter, BipG.mem_edges h, hm]

theorem bipIndices_all (G : BipG) : bipIndices G [] = .ok G.edges ∧ bipIndices G [none, none] = .ok G.edges :=
  ⟨rfl, rfl⟩

theorem row_pairwise_lexLt {G : BipG} (h : G.WF) (a : Nat) :
    ((G.rnbrs a).map (fun v => (a, v))).Pairwise lexLt := by
  rw [List.pairwise_map]
  exact (h.row_sorted a).imp (fun hab => Or.inr ⟨rfl, hab⟩)

theorem col_pairwise_lexLt {G : BipG} (h : G.WF) (b : Nat) :
    ((G.lnbrs b).map (fun u => (u, b))).Pairwise lexLt := by
  rw [List.pairwise_map]
  exact (h.col_sorted b).imp (fun hab => Or.inl hab)

/-- `indices(u, None)`: the edges of `u`, in identifier order; ValueError iff `u` is not a left vertex -/
theorem bipIndices_row {G : BipG} (h : G.WF) (u : Int) :
    bipIndices G [some u, none] =
      if 1 ≤ u ∧ u ≤ G.l then .ok (G.edges.filter (edgeMatches [some u, none])) else .error .valueError := by
  unfold bipIndices
  by_cases hu : 1 ≤ u ∧ u ≤ G.l
  · simp only [hu, and_self, not_true_eq_false, if_false, if_true]
    congr 1
    symm
    apply edges_filter_eq h _ (row_pairwise_lexLt h _)
    intro a b
    simp only [List.mem_map, Prod.mk.injEq, edgeMatches, Bool.and_true, decide_eq_true_eq]
    constructor
    · rintro ⟨v, hv, rfl, rfl⟩
      exact ⟨(h.mem_row _ _).1 hv, by omega⟩
    · rintro ⟨he, hua⟩
      have : u.toNat = a := by omega
      exact ⟨b, (h.mem_row _ _).2 (this ▸ he), this, rfl⟩
  · simp only [hu, not_false_eq_true, if_true, if_false]

theorem bipIndices_col {G : BipG} (h : G.WF) (v : Int) :
    bipIndices G [none, some v] =
      if 1 ≤ v ∧ v ≤ G.r then .ok (G.edges.filter (edgeMatches [none, some v])) else .error .valueError := by
  unfold bipIndices
  by_cases hv : 1 ≤ v ∧ v ≤ G.r
  · simp only [hv, and_self, not_true_eq_false, if_false, if_true]
    congr 1
    symm
    apply edges_filter_eq h _ (col_pairwise_lexLt h _)
    intro a b
    simp only [List.mem_map, Prod.mk.injEq, edgeMatches, Bool.true_and, decide_eq_true_eq]
    constructor
    · rintro ⟨w, hw, rfl, rfl⟩
      exact ⟨(h.mem_col _ _).1 hw, by omega⟩
    · rintro ⟨he, hvb⟩
      have : v.toNat = b := by omega
      exact ⟨a, (h.mem_col _ _).2 (this ▸ he), rfl, this⟩
  · simp only [hv, not_false_eq_true, if_true, if_false]

/-- `indices(u, v)`: the edge itself iff it is an edge, else ValueError (whatever the graph value) -/
theorem bipIndices_edge (G : BipG) (u v : Int) :
    bipIndices G [some u, some v] =
      if 0 ≤ u ∧ 0 ≤ v ∧ (u.toNat, v.toNat) ∈ G.edgeset then .ok [(u.toNat, v.toNat)] else .error .valueError := by
  unfold bipIndices
  simp only [Bool.not_eq_true]
  by_cases hh : G.hasEdge u v = true
  · rw [if_pos ((BipG.hasEdge_iff G u v).1 hh)]
    simp [hh]
  · rw [if_neg (fun hc => hh ((BipG.hasEdge_iff G u v).2 hc))]
    simp [hh]

/-- on an edge pattern the result is again the filter of the enumeration -/
theorem bipIndices_edge_filter {G : BipG} (h : G.WF) {u v : Nat} (he : (u, v) ∈ G.edgeset) :
    G.edges.filter (edgeMatches [some (u : Int), some (v : Int)]) = [(u, v)] := by
  apply edges_filter_eq h _ (List.pairwise_singleton _ _)
  intro a b
  simp only [List.mem_singleton, Prod.mk.injEq, edgeMatches, Bool.and_eq_true, decide_eq_true_eq]
  constructor
  · rintro ⟨rfl, rfl⟩
    exact ⟨he, rfl, rfl⟩
  · rintro ⟨_, h1, h2⟩
    omega

theorem bipIndices_arity (G : BipG) {pat : Pattern} (h : pat.length ≠ 0 ∧ pat.length ≠ 2) :
    bipIndices G pat = .error .valueError := by
  match pat, h with
  | [], h => simp at h
  | [a], _ => cases a <;> rfl
  | [a, b], h => simp at h
  | a :: b :: c :: rest, _ => cases a <;> cases b <;> rfl

theorem bipIndices_error {G : BipG} {pat : Pattern} {e : Err} (h : bipIndices G pat = .error e) :
    e = .valueError := by
  unfold bipIndices at h
  split at h
  · cases h
  · cases h
  · split at h
    · injection h with h; exact h.symm
    · cases h
  · split at h
    · injection h with h; exact h.symm
    · cases h
  · split at h
    · injection h with h; exact h.symm
    · cases h
  · injection h with h; exact h.symm

/-- the step of `graphAux` -/
def graphStep (B : BipG) (e : Nat × Nat) : Except Err BipG :=
  let u : Int := min (e.1 : Int) (e.2 : Int); let v : Int := max (e.1 : Int) (e.2 : Int)
  if B.hasEdge u v then pure B else B.addEdge u v

theorem graphStep_spec {B B' : BipG} {e : Nat × Nat} (h : graphStep B e = .ok B') :
    (B.WF → B'.WF) ∧ B'.l = B.l ∧ B'.r = B.r ∧
    ∀ p, p ∈ B'.edgeset ↔ p ∈ B.edgeset ∨ p = (min e.1 e.2, max e.1 e.2) := by
  have key : ∀ p : Nat × Nat, ((p.1 : Int) = min (e.1 : Int) e.2 ∧ (p.2 : Int) = max (e.1 : Int) e.2) ↔
      p = (min e.1 e.2, max e.1 e.2) := by
    intro p
    rw [Prod.ext_iff]
    omega
  unfold graphStep at h
  simp only at h
  split at h
  · rename_i hh
    cases h
    refine ⟨id, rfl, rfl, fun p => ⟨Or.inl, fun hp => hp.elim id fun hp => ?_⟩⟩
    -- the pair is already there
    have := ((BipG.hasEdge_iff B _ _).1 hh).2.2
    have e1 : (min (e.1 : Int) (e.2 : Int)).toNat = min e.1 e.2 := by omega
    have e2 : (max (e.1 : Int) (e.2 : Int)).toNat = max e.1 e.2 := by omega
    rwa [e1, e2, ← hp] at this
  · obtain ⟨w, hl, hr, hm⟩ := BipG.addEdge_step h
    exact ⟨w, hl, hr, fun p => by rw [hm, key]⟩

/-- `GraphEdgesVariables`: `B` is well formed on `V × V` and its edges are the `(min, max)` of the
edges of `G`, whatever the representation `G` -/
theorem graphAux_spec {G : SimpleG} {B : BipG} (h : graphAux G = .ok B) :
    B.WF ∧ B.l = G.n ∧ B.r = G.n ∧
    ∀ a b, (a, b) ∈ B.edgeset ↔ ∃ e ∈ G.edges, a = min e.1 e.2 ∧ b = max e.1 e.2 := by
  have h' : G.edges.foldlM graphStep (BipG.init G.n G.n) = .ok B := h
  obtain ⟨w, hl, hr, hm⟩ := BipG.foldlM_insert (step := graphStep)
    (R := fun e p => p = (min e.1 e.2, max e.1 e.2)) (fun _ _ _ => graphStep_spec) h'
  refine ⟨w (BipG.wf_init G.n G.n), hl, hr, fun a b => ?_⟩
  rw [hm]
  simp [BipG.init]

/-- on a consistent `Graph` the auxiliary bipartite graph is built without exception: every
listed edge is inside the graph, so no `add_edge` of the loop can fail -/
theorem graphAux_ok (G : SimpleG) (h : SimpleG.Inv G) : ∃ B, graphAux G = .ok B :=
  have ⟨B, e, _⟩ := foldlM_returns (f := graphStep) (I := fun B => B.l = G.n ∧ B.r = G.n)
    (V := fun e => 1 ≤ e.1 ∧ e.1 ≤ G.n ∧ 1 ≤ e.2 ∧ e.2 ≤ G.n)
    (fun {B e} hB he => by
      unfold graphStep
      simp only
      split
      · exact ⟨B, rfl, hB⟩
      · obtain ⟨B', h1, hl, hr⟩ := BipG.addEdge_returns (G := B) (u := min (e.1 : Int) e.2) (v := max (e.1 : Int) e.2)
          (by simp only [BipG.Valid, hB.1, hB.2]; omega)
        exact ⟨B', h1, hl.trans hB.1, hr.trans hB.2⟩)
    ⟨rfl, rfl⟩ (fun e he => by have := h.edges_range (u := e.1) (v := e.2) he; omega)
  ⟨B, e⟩

theorem graphAux_le {G : SimpleG} {B : BipG} (h : graphAux G = .ok B) :
    ∀ a b, (a, b) ∈ B.edgeset → a ≤ b := by
  intro a b hm
  obtain ⟨e, _, rfl, rfl⟩ := ((graphAux_spec h).2.2.2 a b).1 hm
  omega

/-- the step of `digraphAux` -/
def digraphStep (succ : Bool) (B : BipG) (e : Nat × Nat) : Except Err BipG :=
  if succ then B.addEdge e.2 e.1 else B.addEdge e.1 e.2

theorem digraphStep_spec {succ : Bool} {B B' : BipG} {e : Nat × Nat} (h : digraphStep succ B e = .ok B') :
    (B.WF → B'.WF) ∧ B'.l = B.l ∧ B'.r = B.r ∧
    ∀ p, p ∈ B'.edgeset ↔ p ∈ B.edgeset ∨ (if succ then (p.2, p.1) else p) = e := by
  cases succ
  · obtain ⟨w, hl, hr, hm⟩ := BipG.addEdge_step (u := e.1) (v := e.2) h
    refine ⟨w, hl, hr, fun p => ?_⟩
    rw [hm]
    simp only [Int.natCast_inj, Bool.false_eq_true, if_false, Prod.ext_iff]
  · obtain ⟨w, hl, hr, hm⟩ := BipG.addEdge_step (u := e.2) (v := e.1) h
    refine ⟨w, hl, hr, fun p => ?_⟩
    rw [hm]
    simp only [Int.natCast_inj, if_true, Prod.ext_iff, and_comm]

/-- `DiGraphEdgesVariables`: `B` has the edge `(u,v)` (sortby pred) resp. `(v,u)` (sortby succ)
for every edge `(u,v)` of `D` -/
theorem digraphAux_spec {D : DiG} {succ : Bool} {B : BipG} (h : digraphAux D succ = .ok B) :
    B.WF ∧ B.l = D.n ∧ B.r = D.n ∧
    ∀ a b, (a, b) ∈ B.edgeset ↔ (if succ then (b, a) else (a, b)) ∈ D.edges := by
  have h' : D.edges.foldlM (digraphStep succ) (BipG.init D.n D.n) = .ok B := h
  obtain ⟨w, hl, hr, hm⟩ := BipG.foldlM_insert (step := digraphStep succ)
    (R := fun e p => (if succ then (p.2, p.1) else p) = e) (fun _ _ _ => digraphStep_spec) h'
  refine ⟨w (BipG.wf_init D.n D.n), hl, hr, fun a b => ?_⟩
  rw [hm]
  simp [BipG.init]

/-- on a consistent `DirectedGraph` no `add_edge` of the loop can fail either -/
theorem digraphAux_ok (D : DiG) (h : DiG.Inv D) (succ : Bool) : ∃ B, digraphAux D succ = .ok B :=
  have ⟨B, e, _⟩ := foldlM_returns (f := digraphStep succ) (I := fun B => B.l = D.n ∧ B.r = D.n)
    (V := fun e => 1 ≤ e.1 ∧ e.1 ≤ D.n ∧ 1 ≤ e.2 ∧ e.2 ≤ D.n)
    (fun {B e} hB he => by
      have key : ∀ u v : Nat, 1 ≤ u ∧ u ≤ D.n ∧ 1 ≤ v ∧ v ≤ D.n →
          ∃ B', B.addEdge u v = .ok B' ∧ B'.l = D.n ∧ B'.r = D.n := fun u v huv =>
        have ⟨B', h1, hl, hr⟩ := BipG.addEdge_returns (G := B) (u := u) (v := v)
          (by simp only [BipG.Valid, hB.1, hB.2]; omega)
        ⟨B', h1, hl.trans hB.1, hr.trans hB.2⟩
      unfold digraphStep
      split
      · exact key e.2 e.1 ⟨he.2.2.1, he.2.2.2, he.1, he.2.1⟩
      · exact key e.1 e.2 he)
    ⟨rfl, rfl⟩ (fun e he => h.range e.1 e.2 (h.mem_edges.1 he))
  ⟨B, e⟩

/-- unordered matching for simple graphs: with one vertex given, the edges containing it; with
two, the edge between them -/
def graphMatches (pat : Pattern) (p : Nat × Nat) : Bool :=
  match pat with
  | [] => true
  | [none, none] => true
  | [some w, none] => decide ((p.1 : Int) = w) || decide ((p.2 : Int) = w)
  | [none, some w] => decide ((p.1 : Int) = w) || decide ((p.2 : Int) = w)
  | [some u, some v] => decide ((p.1 : Int) = min u v) && decide ((p.2 : Int) = max u v)
  | _ => false

theorem graphIndices_one_eq (B : BipG) (w : Int) :
    graphIndices B [some w, none] = (do
      let a ← bipIndices B [none, some w]
      let b ← bipIndices B [some w, none]
      pure (a ++ b.filter (fun e => (e.2 : Int) ≠ w))) := rfl

/-- `GraphEdgesVariables.indices(w, None)` = `indices(None, w)`: the edges containing `w` in
identifier order (first those `(x, w)` with `x < w`, then `(w, y)`); needs `a ≤ b` on the edges of `B` -/
theorem graphIndices_one {B : BipG} (h : B.WF) (hlr : B.l = B.r) (hle : ∀ a b, (a, b) ∈ B.edgeset → a ≤ b) (w : Int) :
    graphIndices B [some w, none] =
      (if 1 ≤ w ∧ w ≤ B.l then .ok (B.edges.filter (graphMatches [some w, none])) else .error .valueError) ∧
    graphIndices B [none, some w] = graphIndices B [some w, none] := by
  refine ⟨?_, rfl⟩
  rw [graphIndices_one_eq]
  unfold bipIndices
  by_cases hw : 1 ≤ w ∧ w ≤ B.l
  · have hw' : 1 ≤ w ∧ w ≤ B.r := by omega
    simp only [hw, hw', and_self, not_true_eq_false, if_false, if_true]
    show Except.ok _ = Except.ok _
    congr 1
    symm
    generalize hc : w.toNat = c
    have hcw : (c : Int) = w := by omega
    apply edges_filter_eq h
    · rw [List.pairwise_append]
      refine ⟨col_pairwise_lexLt h c, (row_pairwise_lexLt h c).filter _, ?_⟩
      intro x hx y hy
      rw [List.mem_filter] at hy
      simp only [List.mem_map, ne_eq, decide_not, Bool.not_eq_eq_eq_not, Bool.not_true,
        decide_eq_false_iff_not] at hx hy
      obtain ⟨a, ha, rfl⟩ := hx
      obtain ⟨⟨b, hb, rfl⟩, hne⟩ := hy
      have h1 := hle a c ((h.mem_col a c).1 ha)
      have h2 := hle c b ((h.mem_row c b).1 hb)
      simp only at hne
      unfold lexLt
      simp only
      omega
    · intro a b
      simp only [List.mem_append, List.mem_map, List.mem_filter, Prod.mk.injEq, graphMatches,
        Bool.or_eq_true, decide_eq_true_eq, ne_eq, decide_not, Bool.not_eq_eq_eq_not, Bool.not_true,
        decide_eq_false_iff_not]
      constructor
      · rintro (⟨x, hx, rfl, rfl⟩ | ⟨⟨y, hy, rfl, rfl⟩, hne⟩)
        · exact ⟨(h.mem_col _ _).1 hx, Or.inr hcw⟩
        · exact ⟨(h.mem_row _ _).1 hy, Or.inl hcw⟩
      · rintro ⟨he, hab⟩
        by_cases hb : b = c
        · subst hb
          exact Or.inl ⟨a, (h.mem_col _ _).2 he, rfl, rfl⟩
        · have hac : a = c := by omega
          subst hac
          exact Or.inr ⟨⟨b, (h.mem_row _ _).2 he, rfl, rfl⟩, by omega⟩
  · have hw' : ¬ (1 ≤ w ∧ w ≤ B.r) := by omega
    simp only [hw, hw', not_false_eq_true, if_true, if_false]
    rfl

theorem graphIndices_two (B : BipG) (u v : Int) :
    graphIndices B [some u, some v] = bipIndices B [some (min u v), some (max u v)] := rfl

theorem graphIndices_all (B : BipG) : graphIndices B [] = .ok B.edges ∧ graphIndices B [none, none] = .ok B.edges :=
  ⟨rfl, rfl⟩

theorem graphIndices_error {B : BipG} {pat : Pattern} {e : Err} (h : graphIndices B pat = .error e) :
    e = .valueError := by
  unfold graphIndices at h
  split at h
  · exact bipIndices_error h
  · exact bipIndices_error h
  · exact bipIndices_error h
  · rcases bind_error.1 h with h1 | ⟨a, _, h2⟩
    · exact bipIndices_error h1
    · rcases bind_error.1 h2 with h3 | ⟨b, _, h4⟩
      · exact bipIndices_error h3
      · cases h4
  · rcases bind_error.1 h with h1 | ⟨a, _, h2⟩
    · exact bipIndices_error h1
    · rcases bind_error.1 h2 with h3 | ⟨b, _, h4⟩
      · exact bipIndices_error h3
      · cases h4
  · injection h with h; exact h.symm

theorem digraphIndices_pred (B : BipG) (pat : Pattern) : digraphIndices B false pat = bipIndices B pat := by
  simp [digraphIndices]

/-- `DiGraphEdgesVariables.indices` for `sortby='succ'`: the pattern is read in reverse and the pairs are swapped -/
theorem digraphIndices_succ (B : BipG) (pat : Pattern) :
    digraphIndices B true pat = (bipIndices B pat.reverse).map (fun l => l.map (fun e => (e.2, e.1))) := by
  simp [digraphIndices]

end Vars
end Cnfgen
