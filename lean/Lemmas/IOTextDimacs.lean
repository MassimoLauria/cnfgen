/-
Character level, DIMACS: lexing the text `to_dimacs_file` writes gives exactly the token rows
`renderDimacs` the token-level theorems of C06 speak about.
-/
import Lemmas.IOTextSplit
namespace Cnfgen.IO

/-- every number the DIMACS writer has to print for `F` has at most `maxStrDigits` digits
(beyond that CPython's `str()` raises instead of printing).  The property files ask for the two counts only
(`C06.Printable`, `C12.PrintableCNF`); for a well-formed formula that is enough: `dimacsPrintable_of_wf`. -/
def DimacsPrintable (F : CNF) : Prop :=
  F.nvars < 10 ^ maxStrDigits ∧ F.clauses.length < 10 ^ maxStrDigits ∧
  ∀ c ∈ F.clauses, ∀ l ∈ c, l.natAbs < 10 ^ maxStrDigits

theorem pcnf_lit : "p cnf ".toList = ['p', ' ', 'c', 'n', 'f', ' '] := by lit_decide
theorem cnf_lit : "cnf".toList = ['c', 'n', 'f'] := by lit_decide

def dimacsSpecLine (n m : Nat) : Str := join [' '] [['p'], ['c', 'n', 'f'], natStr n, natStr m]

theorem isTok_dimacsSpec (n m : Nat) : ∀ t ∈ [['p'], ['c', 'n', 'f'], natStr n, natStr m], IsTok t := by
  simp [isTok_natStr, isTok_lit ['p'] (by decide), isTok_lit ['c', 'n', 'f'] (by decide)]

theorem lexLine_dimacsSpecLine (n m : Nat) :
    lexLine (dimacsSpecLine n m) = [.word ['p'], .word ['c', 'n', 'f'], classify (natStr n), classify (natStr m)] := by
  have c1 : classify ['p'] = .word ['p'] := by decide
  have c2 : classify ['c', 'n', 'f'] = .word ['c', 'n', 'f'] := by decide
  rw [dimacsSpecLine, lexLine_join _ (isTok_dimacsSpec n m)]
  simp only [List.map_cons, List.map_nil, c1, c2]

theorem dimacsSpecLine_noNL (n m : Nat) : NoNL (dimacsSpecLine n m) := noNL_join_toks _ (isTok_dimacsSpec n m)

theorem lexLine_dimacsSpec (n m : Nat) (hn : n < 10 ^ maxStrDigits) (hm : m < 10 ^ maxStrDigits) :
    lexLine (dimacsSpecLine n m) = specRow n m := by
  rw [lexLine_dimacsSpecLine, classify_natStr n hn, classify_natStr m hm, specRow, cnf_lit]

def dimacsClauseLine (c : Clause) : Str := join [' '] (c.map intStr ++ [['0']])

theorem clauseText_eq : clauseText = fun c => dimacsClauseLine c ++ ['\n'] := by
  funext c
  have e : "0\n".toList = ['0'] ++ ['\n'] := by lit_decide
  rw [clauseText, dimacsClauseLine, ← join_blank_snoc, e, List.flatMap_map, List.append_assoc]

theorem isTok_dimacsClause (c : Clause) : ∀ t ∈ c.map intStr ++ [['0']], IsTok t := by
  simp only [List.mem_append, List.mem_map, List.mem_singleton]
  rintro t (⟨l, _, rfl⟩ | rfl)
  · exact isTok_intStr l
  · exact isTok_lit _ (by decide)

theorem lexLine_dimacsClause (c : Clause) (h : ∀ l ∈ c, l.natAbs < 10 ^ maxStrDigits) :
    lexLine (dimacsClauseLine c) = clauseRow c := by
  have hm : (c.map intStr).map classify = c.map Tok.int := by
    -- `comp_def` first: unifying `classify (intStr l)` with `(classify ∘ intStr) l` unfolds `classify`
    rw [List.map_map, Function.comp_def]
    exact List.map_congr_left fun l hl => classify_intStr l (h l hl)
  have c0 : classify ['0'] = .int 0 := by decide
  rw [dimacsClauseLine, lexLine_join _ (isTok_dimacsClause c), List.map_append, hm, List.map_singleton, c0]
  rfl

theorem lex_dimacsClauses (u : Bool) (cs : List Clause)
    (h : ∀ c ∈ cs, ∀ l ∈ c, l.natAbs < 10 ^ maxStrDigits) :
    lex u (cs.flatMap clauseText) = cs.map clauseRow := by
  rw [clauseText_eq]
  exact lex_lines u _ _ cs fun c hc =>
    ⟨noNL_join_toks _ (isTok_dimacsClause c), lexLine_dimacsClause c (h c hc)⟩

theorem lex_renderDimacsText_lines (u : Bool) (F : CNF) (hdr : Option Header) (names : Option (List Str)) :
    lex u (renderDimacsText F hdr names) =
      dimacsCommentRows u hdr names ++
        lexLine (dimacsSpecLine F.nvars F.clauses.length) :: lex u (F.clauses.flatMap clauseText) := by
  have e : renderDimacsText F hdr names = (dimacsCommentChunks hdr names).flatten ++
      (dimacsSpecLine F.nvars F.clauses.length ++ '\n' :: F.clauses.flatMap clauseText) := by
    unfold renderDimacsText dimacsSpecLine
    rw [pcnf_lit]
    simp only [join, List.append_assoc, List.cons_append, List.nil_append]
  rw [e, lex_commentChunks (by decide) (by decide) u _ (dimacs_chunks hdr names),
    lex_cons_line u _ _ (dimacsSpecLine_noNL _ _)]
  rfl

theorem lex_renderDimacsText (u : Bool) (F : CNF) (hdr : Option Header) (names : Option (List Str))
    (hp : DimacsPrintable F) : lex u (renderDimacsText F hdr names) = renderDimacs u F hdr names := by
  rw [lex_renderDimacsText_lines, lexLine_dimacsSpec _ _ hp.1 hp.2.1, lex_dimacsClauses u _ hp.2.2]
  rfl

/-- a test vector of the writer: a header value whose second line starts with `p`, a label with a line break -/
theorem renderDimacsText_sample :
    renderDimacsText ⟨2, [[1, -2], []]⟩ (some [("d".toList, "g\np cnf 9 9".toList)]) (some ["x\ny".toList, "b".toList]) =
      "c d: g\nc p cnf 9 9\nc\nc varname 1 x y\nc varname 2 b\nc\np cnf 2 2\n1 -2 0\n0\n".toList := by
  lit_decide

theorem dimacsPrintable_of_wf (F : CNF) (hF : F.WF) (hn : F.nvars < 10 ^ maxStrDigits)
    (hm : F.clauses.length < 10 ^ maxStrDigits) : DimacsPrintable F :=
  ⟨hn, hm, fun c hc l hl => Nat.lt_of_le_of_lt (hF c hc l hl).2 hn⟩

end Cnfgen.IO
