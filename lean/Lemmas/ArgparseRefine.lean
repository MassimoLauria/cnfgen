/-
The extended parser agrees with the parser of the fragment (CnfgenModel/Cli/Dispatch.lean) on the fragment:
`parseX s argv = liftE (parseArgs s argv)` for every command line `inFragment s argv` of a sub-command with standard
options (`parseX_refines`).  Hence every theorem about `parseArgs` / `dispatch` on the fragment is a theorem about the
extended interpreter.
-/
import CnfgenModel.Cli.ArgparseAbs
import CnfgenModel.Cli.DispatchChecks
import Lemmas.DispatchTotal
import Lemmas.DispatchNumeric
import Lemmas.ArgparseTotal
import Lemmas.ArgparseTokens
namespace Cnfgen.Cli.AP
open Cnfgen.Gen Cnfgen.Cli

theorem isNegNumber_chars (t : String) (h : isNegNumber t = true) :
    ∃ rest, t.toList = '-' :: rest ∧ rest ≠ [] ∧ ∀ c ∈ rest, c.isDigit = true ∨ c = '.' := by
  unfold isNegNumber at h
  split at h
  · rename_i rest heq
    refine ⟨rest, heq, ?_, ?_⟩
    · intro hr
      subst hr
      simp at h
    · intro c hc
      have hsplit := List.takeWhile_append_dropWhile (p := Char.isDigit) (l := rest)
      rw [← hsplit] at hc
      rcases List.mem_append.1 hc with hc | hc
      · exact Or.inl (List.all_eq_true.1 List.all_takeWhile c hc)
      · dsimp only at h
        split at h
        · rename_i hd; rw [hd] at hc; simp at hc
        · rename_i frac hd
          rw [hd] at hc
          rcases List.mem_cons.1 hc with rfl | hc
          · exact Or.inr rfl
          · simp only [Bool.and_eq_true, List.all_eq_true] at h
            exact Or.inl (h.2 c hc)
        · simp at h
  · simp at h

/-- every option string starts with `-` followed by a character that is neither a digit nor a dot -/
def noDigitStrings (strs : List (String × Target)) : Bool :=
  strs.all (fun x => match x.1.toList with | '-' :: c :: _ => !(c.isDigit || c == '.') | _ => false)

theorem optionTuples_neg (strs : List (String × Target)) (hnd : noDigitStrings strs = true) (c : Char)
    (rest : List Char) (hc : c.isDigit = true ∨ c = '.') : optionTuples strs ('-' :: c :: rest) = [] := by
  have hcd : (c == '-') = false := by
    rcases hc with h | h
    · simp only [beq_eq_false_iff_ne, ne_eq]; intro e; subst e; simp at h
    · subst h; decide
  simp only [optionTuples, hcd, Bool.false_eq_true, if_false, List.filterMap_eq_nil_iff]
  intro x hx
  have hx' := (List.all_eq_true.1 hnd) x hx
  split at hx'
  · rename_i c' r' hxl
    have hne : c' ≠ c := by
      intro e; subst e
      rcases hc with h | h
      · simp [h] at hx'
      · subst h; simp at hx'
    rw [hxl]
    have h1 : (('-' :: c' :: r') == List.take 2 ('-' :: c :: rest)) = false := by
      simp only [List.take_succ_cons, List.take_zero, beq_eq_false_iff_ne, ne_eq, List.cons.injEq, true_and,
        not_and]
      intro e; exact absurd e hne
    have h2 : List.isPrefixOf ('-' :: c :: rest) ('-' :: c' :: r') = false := by
      simp only [List.isPrefixOf, beq_self_eq_true, Bool.true_and, Bool.and_eq_false_imp, beq_iff_eq]
      intro e; exact absurd e.symm hne
    simp [h2]
    intro e; exact absurd e hne
  · simp at hx'

theorem classifyTok_arg (strs : List (String × Target)) (hnd : noDigitStrings strs = true)
    (hneg : hasNegOpts strs = false) (t : String) (hl : lookupOS strs t = none) (hd : dashLike t = false) :
    classifyTok strs t = .arg t := by
  unfold classifyTok
  split
  · rfl
  · rename_i c rest heq
    split
    · rfl
    · rename_i hc
      have hc' : c = '-' := by simpa using hc
      subst hc'
      rw [hl]
      dsimp only
      split
      · rfl
      · rename_i hre
        -- the token looks like a negative number
        have hnn : isNegNumber t = true := by
          unfold dashLike at hd
          rw [heq] at hd
          cases rest with
          | nil => simp at hre
          | cons r rs => simpa using hd
        obtain ⟨rest', h1, h2, h3⟩ := isNegNumber_chars t hnn
        rw [heq] at h1
        simp at h1
        subst h1
        have hnoeq : '=' ∉ ('-' :: rest) := by
          intro hm
          rcases List.mem_cons.1 hm with hm | hm
          · exact absurd hm (by decide)
          · rcases h3 _ hm with h | h
            · simp at h
            · exact absurd h (by decide)
        rw [splitEq_none _ hnoeq]
        dsimp only
        cases rest with
        | nil => exact absurd rfl h2
        | cons c2 rs =>
          rw [optionTuples_neg strs hnd c2 rs (h3 c2 (by simp))]
          simp [hnn, hneg]

theorem find?_flags_some (o : OptSpec) (t : String) : ∀ (fs : List String), t ∈ fs →
    ((fs.map (fun f => (f, Target.opt o))).find? (fun x => x.1 == t)) = some (t, Target.opt o) := by
  intro fs
  induction fs with
  | nil => intro h; simp at h
  | cons f fs ih =>
    intro hm
    by_cases hf : f = t
    · subst hf; simp
    · have : t ∈ fs := by
        rcases List.mem_cons.1 hm with h | h
        · exact absurd h.symm hf
        · exact h
      have hb : (f == t) = false := by simpa using hf
      simp only [List.map_cons, List.find?_cons, hb]
      exact ih this

theorem find?_flags_none (o : OptSpec) (t : String) (fs : List String) (h : t ∉ fs) :
    ((fs.map (fun f => (f, Target.opt o))).find? (fun x => x.1 == t)) = none := by
  simp only [List.find?_eq_none, List.mem_map]
  intro x ⟨f, hf, hx⟩
  subst hx
  simp only [beq_iff_eq]
  intro e; subst e
  exact h hf

theorem lookupOS_optStrings (opts : List OptSpec) (t : String) (h1 : t ≠ "-h") (h2 : t ≠ "--help") :
    lookupOS (optStrings opts) t = (opts.find? (fun o => o.flags.contains t)).map Target.opt := by
  unfold lookupOS optStrings
  have h1' : ("-h" == t) = false := by simpa using fun e => h1 e.symm
  have h2' : ("--help" == t) = false := by simpa using fun e => h2 e.symm
  simp only [List.cons_append, List.nil_append, List.find?_cons, h1', h2']
  induction opts with
  | nil => simp
  | cons o os ih =>
    simp only [List.flatMap_cons, List.find?_append, List.find?_cons]
    by_cases hc : t ∈ o.flags
    · have hcb : o.flags.contains t = true := by simpa using hc
      rw [find?_flags_some o t o.flags hc, hcb]
      simp
    · have hcb : o.flags.contains t = false := by simpa using hc
      rw [find?_flags_none o t o.flags hc, hcb]
      simp only [Option.none_or]
      exact ih

/-- what the comparison needs of the option table of a sub-command: no option string looks like a number or is
`-h` / `--help` / `--`, none is negative-number-like -/
def fragOK (s : CliSpec) : Bool :=
  noDigitStrings (mainSpec s).strings && !hasNegOpts (mainSpec s).strings &&
  s.opts.all (fun o => !o.flags.contains "-h" && !o.flags.contains "--help" && !o.flags.contains "--")

theorem fragOK_parts (s : CliSpec) (h : fragOK s = true) :
    noDigitStrings (mainSpec s).strings = true ∧ hasNegOpts (mainSpec s).strings = false ∧
    ∀ o ∈ s.opts, ∀ t ∈ o.flags, t ≠ "-h" ∧ t ≠ "--help" ∧ t ≠ "--" := by
  unfold fragOK at h
  simp only [Bool.and_eq_true, Bool.not_eq_true', List.all_eq_true] at h
  refine ⟨h.1.1, h.1.2, ?_⟩
  intro o ho t ht
  have := h.2 o ho
  simp only [List.contains_eq_mem, decide_eq_false_iff_not] at this
  refine ⟨?_, ?_, ?_⟩ <;> (intro e; subst e)
  · exact this.1.1 ht
  · exact this.1.2 ht
  · exact this.2 ht

theorem mainSpec_opts_std (s : CliSpec) (hstd : s.standard = true) :
    (mainSpec s).opts = s.opts.filter (fun o => !o.positional) := by
  unfold mainSpec
  rw [dtot_std_main s hstd]

theorem lookupOS_main (s : CliSpec) (hstd : s.standard = true) (t : String) (h1 : t ≠ "-h") (h2 : t ≠ "--help") :
    lookupOS (mainSpec s).strings t = (optOf s t).map Target.opt := by
  unfold PSpec.strings
  rw [lookupOS_optStrings _ t h1 h2, mainSpec_opts_std s hstd, List.find?_filter]
  unfold optOf
  congr 2
  funext a
  simp

theorem dashLike_reserved : dashLike "-h" = true ∧ dashLike "--help" = true ∧ dashLike "--" = true := by decide +kernel

theorem classify_arg (s : CliSpec) (t : String) :
    classify s t = .arg ↔ optOf s t = none ∧ dashLike t = false := by
  unfold classify
  split
  · next o' ho' => simp [ho']
  · next hn => split <;> simp_all

theorem classifyTok_of_opt (s : CliSpec) (hstd : s.standard = true) (hok : fragOK s = true) (t : String)
    (o : OptSpec) (h : classify s t = .opt o) :
    classifyTok (mainSpec s).strings t = .opt (.opt o) t none ∧ t ≠ "--" := by
  obtain ⟨hnd, _, hfl⟩ := fragOK_parts s hok
  have hopt := (classify_opt s t o).1 h
  have htf : t ∈ o.flags := by
    have := List.find?_some hopt
    simp at this
    exact this.2
  obtain ⟨n1, n2, n3⟩ := hfl o (optOf_mem s t o hopt).1 t htf
  have hl : lookupOS (mainSpec s).strings t = some (.opt o) := by rw [lookupOS_main s hstd t n1 n2, hopt]; rfl
  -- the string starts with `-`
  have hx := (List.all_eq_true.1 hnd) _ (lookupOS_mem _ t _ hl)
  refine ⟨?_, n3⟩
  unfold classifyTok
  split at hx
  · rename_i c r htl
    simp only at htl
    rw [htl]
    simp [hl]
  · simp at hx

theorem classifyTok_of_arg (s : CliSpec) (hstd : s.standard = true) (hok : fragOK s = true) (t : String)
    (h : classify s t = .arg) : classifyTok (mainSpec s).strings t = .arg t ∧ t ≠ "--" := by
  obtain ⟨hnd, hneg, _⟩ := fragOK_parts s hok
  have hopt := (classify_arg s t).1 h
  have n1 : t ≠ "-h" := by intro e; subst e; simp [dashLike_reserved.1] at hopt
  have n2 : t ≠ "--help" := by intro e; subst e; simp [dashLike_reserved.2.1] at hopt
  have n3 : t ≠ "--" := by intro e; subst e; simp [dashLike_reserved.2.2] at hopt
  have hl : lookupOS (mainSpec s).strings t = none := by rw [lookupOS_main s hstd t n1 n2, hopt.1]; rfl
  exact ⟨classifyTok_arg _ hnd hneg t hl hopt.2, n3⟩

/-- the segments of the two parsers correspond -/
def SegRel : List (OptItem × Run) → List (OptSpec × List String) → Prop
  | [], [] => True
  | (oi, run) :: ss, (o, c) :: sgs => (∃ os, oi = .known (.opt o) os none) ∧ run = ⟨c, none⟩ ∧ SegRel ss sgs
  | _, _ => False

theorem segs_fragment (s : CliSpec) (hstd : s.standard = true) (hok : fragOK s = true) :
    ∀ (argv : List String), inFragment s argv = true →
      ∃ c0 sgs, segments s argv = .ok (c0, sgs) ∧
        (segs (itemize (mainSpec s).strings argv)).1 = ⟨c0, none⟩ ∧
        SegRel (segs (itemize (mainSpec s).strings argv)).2 sgs ∧
        (itemize (mainSpec s).strings argv).any Item.isAmbiguous = false ∧
        "--" ∉ c0 ∧ (∀ x ∈ sgs, "--" ∉ x.2 ∧ x.1 ∈ s.opts ∧ x.1.positional = false)
  | [], _ => ⟨[], [], rfl, rfl, by simp [itemize, segs, SegRel], by simp [itemize], by simp, by simp⟩
  | t :: rest, hf => by
    unfold inFragment at hf
    rw [List.all_cons, Bool.and_eq_true] at hf
    obtain ⟨c0, sgs, h1, h2, h3, h4, h5, h6⟩ := segs_fragment s hstd hok rest hf.2
    cases hc : classify s t with
    | arg =>
      obtain ⟨ha, hdd⟩ := classifyTok_of_arg s hstd hok t hc
      rw [itemize_cons_ne _ _ _ hdd, ha, segs_cons]
      exact ⟨t :: c0, sgs, by simp [segments, h1, hc], by simp [stepItem, h2], h3, by simp [Item.isAmbiguous, h4],
        by simp [h5, Ne.symm hdd], h6⟩
    | opt o =>
      obtain ⟨ho, hdd⟩ := classifyTok_of_opt s hstd hok t o hc
      rw [itemize_cons_ne _ _ _ hdd, ho, segs_cons]
      refine ⟨[], (o, c0) :: sgs, by simp [segments, h1, hc], rfl, ⟨⟨t, rfl⟩, h2, h3⟩,
        by simp [Item.isAmbiguous, h4], by simp, fun x hx => ?_⟩
      rcases List.mem_cons.1 hx with rfl | hx
      · exact ⟨h5, dtot_classify_opt s t o hc⟩
      · exact h6 x hx
    | outside => rw [hc] at hf; simp at hf

/-- every count is at least `minArgs` of its arity (there may be fewer counts than arities) -/
def CountsMin : List Arity → List Nat → Prop
  | _, [] => True
  | a :: as, c :: cs => minArgs a ≤ c ∧ CountsMin as cs
  | [], _ :: _ => False

theorem counts_ok : ∀ (ars : List Arity) (L : Nat) (cs : List Nat), counts ars L = some cs →
    cs.sum ≤ L ∧ CountsMin ars cs
  | [], L, cs, h => by simp [counts] at h; subst h; simp [CountsMin]
  | a :: rest, L, cs, h => by
    -- every branch of `counts` is `(counts rest L').map (k :: ·)` with `minArgs a ≤ k` and `k + L' ≤ L`
    have step : ∀ k L', (counts rest L').map (k :: ·) = some cs → minArgs a ≤ k → k + L' ≤ L →
        cs.sum ≤ L ∧ CountsMin (a :: rest) cs := by
      intro k L' h hk hL
      obtain ⟨cs', hc, rfl⟩ := Option.map_eq_some_iff.1 h
      obtain ⟨h1, h2⟩ := counts_ok rest L' cs' hc
      exact ⟨by simp; omega, hk, h2⟩
    unfold counts at h
    cases a with
    | one =>
      dsimp only at h
      split at h
      · exact step _ _ h (Nat.le_refl _) (by omega)
      · cases h
    | plus =>
      dsimp only at h
      split at h
      · exact step _ _ h (by simp only [minArgs]; omega) (by omega)
      · cases h
    | star =>
      dsimp only at h
      split at h
      · exact step _ _ h (Nat.zero_le _) (by omega)
      · cases h
    | opt =>
      dsimp only at h
      split at h
      · exact step _ _ h (Nat.zero_le _) (by omega)
      · split at h
        · exact step _ _ h (Nat.zero_le _) (by omega)
        · cases h
    | zero => cases h
    | other => cases h

theorem CountsMin_take : ∀ (ars : List Arity) (k : Nat) (cs : List Nat), CountsMin (ars.take k) cs →
    CountsMin ars cs
  | _, _, [], _ => by simp [CountsMin]
  | [], _, _ :: _, h => by simpa using h
  | _ :: _, 0, _ :: _, h => by simp [CountsMin] at h
  | a :: rest, k + 1, c :: cs, h => ⟨h.1, CountsMin_take rest k cs h.2⟩

theorem matchPartial_ok (ars : List Arity) (L : Nat) : ∀ (n : Nat),
    (matchPartial ars L n).sum ≤ L ∧ CountsMin ars (matchPartial ars L n) := by
  intro n
  induction n with
  | zero => simp [matchPartial, CountsMin]
  | succ i ih =>
    unfold matchPartial
    cases hc : counts (ars.take (i + 1)) L with
    | none => simpa using ih
    | some cs =>
      obtain ⟨h1, h2⟩ := counts_ok _ L cs hc
      exact ⟨h1, CountsMin_take ars (i + 1) cs h2⟩

theorem typesOK_notFile : typesOK.all (fun ty => !isFileType ty) = true := by decide +kernel

theorem std_notFile (o : OptSpec) (h : o.standard = true) : isFileType o.ty = false := by
  have hmem : typesOK.contains o.ty = true := by
    unfold OptSpec.standard at h
    simp only [Bool.and_eq_true] at h
    obtain ⟨⟨⟨_, h6⟩, _⟩, _⟩ := h
    unfold typesOK
    cases har : o.arity <;> rw [har] at h6 <;> simp at h6
    · simp [h6.1]
    · have := h6.1; unfold typesOK at this; simpa using this
    · simp [h6.1]
    · have := h6.1.1
      simp only [List.contains_eq_mem, decide_eq_true_eq] at this ⊢
      exact List.mem_append_right _ this
  have := (List.all_eq_true.1 typesOK_notFile) o.ty (by simpa using hmem)
  simpa using this

theorem mainBind_eq_bindBase (s : CliSpec) (o : OptSpec) (h : o.standard = true) (toks : List String) :
    mainBind s o toks = bindBase o toks := by
  have hb := dnum_std_basic o h
  unfold mainBind
  simp only [hb.2.1, hb.2.2.1, Bool.false_eq_true, if_false]

theorem mainBind_eq_bindOne (s : CliSpec) (o : OptSpec) (h : o.standard = true) (toks : List String)
    (hne : minArgs o.arity ≤ toks.length) : mainBind s o toks = liftE (bindOne o toks) := by
  rw [mainBind_eq_bindBase s o h]
  unfold bindBase
  simp only [std_notFile o h, Bool.false_eq_true, if_false]
  split
  · rename_i ha
    simp [ha, minArgs] at hne
  · rename_i ha
    simp [ha, minArgs] at hne
  · rfl

theorem takeAction_std (s : CliSpec) (o : OptSpec) (h : o.standard = true) (toks : List String)
    (hne : minArgs o.arity ≤ toks.length) (st : PState) :
    takeAction (mainBind s) o toks st =
      match bindOne o toks with
      | .ok b => .ok { st with ns := b ++ st.ns }
      | .error e => .error (liftErr e) := by
  have hg : o.group = "" := (dnum_std_basic o h).2.2.2
  unfold takeAction
  rw [mainBind_eq_bindOne s o h toks hne]
  simp only [hg, bne_self_eq_false, Bool.false_and, Bool.false_eq_true, if_false]
  cases bindOne o toks with
  | ok b => simp [liftE]
  | error e => simp [liftE]

theorem PState_eta (st : PState) : { st with ns := st.ns } = st := by cases st; rfl

/-- `consume_positionals` of the two parsers: the same actions on the same strings -/
theorem applyPos_sim (s : CliSpec) : ∀ (ps : List OptSpec) (cs : List Nat) (toks : List String) (i : Nat)
    (st : PState), (∀ o ∈ ps, o.standard = true) → "--" ∉ toks → cs.sum ≤ toks.length →
    CountsMin (ps.map OptSpec.arity) cs →
    applyPosX (mainBind s) ps (slices cs toks) i none st =
      match applyPos ps cs toks with
      | .ok b => .ok { st with ns := b ++ st.ns }
      | .error e => .error (liftErr e) := by
  intro ps
  induction ps with
  | nil =>
    intro cs toks i st _ _ _ _
    cases cs <;> simp [applyPosX, applyPos]
  | cons o os ih =>
    intro cs toks i st hstd hdd hsum hok
    cases cs with
    | nil => simp [applyPosX, applyPos, slices]
    | cons c cs =>
      simp only [slices, applyPosX, applyPos]
      have hno : (none == some i) = false := by simp
      simp only [hno, Bool.false_eq_true, if_false]
      have hdd1 : "--" ∉ toks.take c := fun hm => hdd (List.mem_of_mem_take hm)
      have hdd2 : "--" ∉ toks.drop c := fun hm => hdd (List.mem_of_mem_drop hm)
      rw [List.erase_of_not_mem hdd1]
      rw [List.map_cons] at hok
      simp only [List.sum_cons] at hsum
      have hne : minArgs o.arity ≤ (toks.take c).length := by
        have := hok.1
        rw [List.length_take]
        omega
      rw [takeAction_std s o (hstd o (by simp)) _ hne st]
      cases hb : bindOne o (toks.take c) with
      | error e => rfl
      | ok b =>
        dsimp only
        have hlen : cs.sum ≤ (toks.drop c).length := by simp; omega
        rw [ih cs (toks.drop c) (i + 1) _ (fun o' ho' => hstd o' (by simp [ho'])) hdd2 hlen hok.2]
        cases applyPos os cs (toks.drop c) with
        | error e => rfl
        | ok more => simp [List.append_assoc]

theorem lastAction_std (s : CliSpec) (o : OptSpec) (h : o.standard = true) (toks : List String) (hdd : "--" ∉ toks)
    (hne : minArgs o.arity ≤ toks.length) (st : PState) :
    lastAction (mainBind s) (.opt o) toks st =
      match bindOne o toks with
      | .ok b => .ok { st with ns := b ++ st.ns }
      | .error e => .error (liftErr e) := by
  have hno : (toks == ["--"]) = false := beq_eq_false_iff_ne.2 fun e => hdd (e ▸ List.mem_singleton_self _)
  simp only [lastAction, hno, Bool.false_eq_true, if_false, List.erase_of_not_mem hdd]
  exact takeAction_std s o h toks hne st

/-- `consume_optional` of the two parsers -/
theorem stepOpt_sim (s : CliSpec) (strs : List (String × Target)) (o : OptSpec) (hstd : o.standard = true)
    (os : String) (chunk : List String) (hdd : "--" ∉ chunk) (st : PState) :
    stepOpt (mainBind s) strs (.known (.opt o) os none) ⟨chunk, none⟩ st =
      match consumeOpt o chunk with
      | .ok (b, chunk') => .ok ({ st with ns := b ++ st.ns }, ⟨chunk', none⟩)
      | .error e => .error (liftErr e) := by
  simp only [stepOpt, consumeOptX, chainOf, runFlags]
  unfold takeArgs consumeOpt
  simp only [arityT]
  cases har : o.arity <;> dsimp only
  · -- zero
    rw [lastAction_std s o hstd [] (by simp) (by simp [har, minArgs]) st]
    cases bindOne o [] <;> simp [Except.map]
  · -- one
    cases chunk with
    | nil => simp [Run.avail, liftErr]
    | cons t rest =>
      simp only [Run.avail, Run.dropFront]
      rw [lastAction_std s o hstd [t] (fun hm => hdd (by simp_all)) (by simp [har, minArgs]) st]
      cases bindOne o [t] <;> simp [Except.map]
  · -- plus
    cases chunk with
    | nil => simp [Run.avail, liftErr]
    | cons t rest =>
      simp only [Run.avail, Run.dropFront]
      rw [lastAction_std s o hstd (t :: rest) hdd (by simp [har, minArgs]) st]
      cases bindOne o (t :: rest) <;> simp [Except.map]
  · simp [liftErr]
  · simp [liftErr]
  · simp [liftErr]

/-- what `finish` makes of the answer of the fragment parser, on top of the bindings `ns` made before -/
def finishFrag (p : PSpec) (r : Except CliErr Ns) (ns : Ns) : Except PErr Ns :=
  match r with
  | .error e => .error (liftErr e)
  | .ok more => if requiredOK p (more ++ ns) then .ok (more ++ ns) else .error .cliError

def SegsStd (sgs : List (OptSpec × List String)) : Prop :=
  ∀ x ∈ sgs, "--" ∉ x.2 ∧ x.1.standard = true ∧ x.1.positional = false

theorem std_errs (o : OptSpec) (h : o.standard = true) : dtot_errs o :=
  dtot_bindOne_errs o (dtot_std o h).2.2.2.2.1

theorem std_opt_arity (o : OptSpec) (h : o.standard = true) (hp : o.positional = false) :
    o.arity = .zero ∨ o.arity = .one ∨ o.arity = .plus :=
  dtot_arity_nonpos o hp (dtot_std o h).2.2.2.2.1

theorem consumeOpt_err (o : OptSpec) (h : o.standard = true) (hp : o.positional = false) (chunk : List String)
    (e : CliErr) (he : consumeOpt o chunk = .error e) : e = .cliError :=
  Refusal.cli (fun _ ho' => List.mem_singleton.1 ho' ▸ std_errs o h)
    ((consumeOpt_ends o (std_opt_arity o h hp) chunk).err he)

theorem consumeOpt_sub (o : OptSpec) (chunk : List String) (b : Ns) (c' : List String)
    (h : consumeOpt o chunk = .ok (b, c')) : ∀ t ∈ c', t ∈ chunk := by
  rcases consumeOpt_inv o chunk with ⟨e, he, _⟩ | ⟨toks, left, hsub, he⟩ <;> rw [he] at h
  · cases h
  · cases hb : bindOne o toks <;> rw [hb] at h <;> cases h
    exact hsub

theorem applyPos_err (ps : List OptSpec) (hps : ∀ o ∈ ps, o.standard = true) (cs : List Nat) (toks : List String)
    (e : CliErr) (he : applyPos ps cs toks = .error e) : e = .cliError :=
  Refusal.cli (fun o ho => std_errs o (hps o ho)) ((applyPos_ends ps cs toks).err he)

theorem SegRel_isEmpty : ∀ (ss : List (OptItem × Run)) (sgs : List (OptSpec × List String)), SegRel ss sgs →
    ss.isEmpty = sgs.isEmpty := by
  intro ss sgs h
  cases ss <;> cases sgs <;> simp [SegRel] at h ⊢

/-- the step both loops repeat: the positionals on a run of arguments, then the segments that follow, then the end -/
def posSegsX (bind : Bind) (p : PSpec) (run : Run) (ss : List (OptItem × Run)) (st : PState) : Except PErr Ns :=
  match consumePosX bind run ss.isEmpty st with
  | .error x => .error x
  | .ok st1 => finish p (runSegs bind p.strings ss st1)

theorem engineItems_eq (bind : Bind) (p : PSpec) (items : List Item) :
    engineItems bind p items =
      if items.any Item.isAmbiguous then .error .cliError
      else posSegsX bind p (segs items).1 (segs items).2 ⟨p.poss, [], false, []⟩ :=
  rfl

theorem finish_runSegs_cons (bind : Bind) (p : PSpec) (oi : OptItem) (run : Run) (rest : List (OptItem × Run))
    (st : PState) :
    finish p (runSegs bind p.strings ((oi, run) :: rest) st) =
      match stepOpt bind p.strings oi run st with
      | .error x => .error x
      | .ok (st1, run1) => posSegsX bind p run1 rest st1 := by
  unfold runSegs posSegsX
  cases stepOpt bind p.strings oi run st with
  | error x => rfl
  | ok r =>
    obtain ⟨st1, run1⟩ := r
    dsimp only
    cases consumePosX bind run1 rest.isEmpty st1 <;> rfl

/-- the one place where the two `consume_positionals` are compared: arguments
left over stop the fragment parser at once, the extended one remembers them (`extras`) and fails at the end, whence
the `if`.  `hR`: the same comparison for the segments that follow. -/
theorem pos_sim (s : CliSpec) (p : PSpec) (ss : List (OptItem × Run)) (sgs : List (OptSpec × List String))
    (hemp : ss.isEmpty = sgs.isEmpty)
    (hR : ∀ st : PState, (∀ o ∈ st.ps, o.standard = true) →
      finish p (runSegs (mainBind s) p.strings ss st) =
        if st.extras then .error .cliError else finishFrag p (parseSegs st.ps sgs) st.ns)
    (chunk : List String) (hdd : "--" ∉ chunk) (st : PState) (hps : ∀ o ∈ st.ps, o.standard = true) :
    posSegsX (mainBind s) p ⟨chunk, none⟩ ss st =
      if st.extras then .error .cliError
      else finishFrag p
        (match consumePos st.ps chunk sgs.isEmpty with
         | .error e => .error e
         | .ok (ps', bs) =>
           match parseSegs ps' sgs with
           | .error e => .error e
           | .ok more => .ok (more ++ bs)) st.ns := by
  unfold posSegsX consumePosX consumePos
  obtain ⟨h1, h2⟩ := matchPartial_ok (st.ps.map OptSpec.arity) chunk.length st.ps.length
  simp only [Option.isNone_none, Bool.and_true, hemp]
  generalize matchPartial (st.ps.map OptSpec.arity) chunk.length st.ps.length = cs at h1 h2 ⊢
  by_cases hskip : (chunk.isEmpty && !sgs.isEmpty) = true
  · simp only [hskip, if_true]
    rw [hR st hps]
    cases parseSegs st.ps sgs <;> simp [finishFrag]
  · simp only [hskip, Bool.false_eq_true, if_false]
    rw [show ddgOf cs ⟨chunk, none⟩ = none from rfl, applyPos_sim s st.ps cs chunk 0 st hps hdd h1 h2]
    cases hap : applyPos st.ps cs chunk with
    | error e =>
      rw [applyPos_err st.ps hps _ _ e hap]
      by_cases hlt : cs.sum < chunk.length <;> cases st.extras <;> simp [hlt, finishFrag, liftErr]
    | ok b2 =>
      dsimp only
      rw [hR _ fun o ho => hps o (List.mem_of_mem_drop ho)]
      by_cases hlt : cs.sum < chunk.length
      · simp [hlt, finishFrag, liftErr, leftOver]
      · simp only [hlt, leftOver, ddTaken, if_false, decide_false, Option.isSome_none, Bool.false_and, Bool.or_false]
        cases parseSegs (st.ps.drop cs.length) sgs <;> simp [finishFrag, List.append_assoc]

theorem runSegs_sim (s : CliSpec) (p : PSpec) :
    ∀ (sgs : List (OptSpec × List String)) (ss : List (OptItem × Run)), SegRel ss sgs → SegsStd sgs →
    ∀ (st : PState), (∀ o ∈ st.ps, o.standard = true) →
      finish p (runSegs (mainBind s) p.strings ss st) =
        if st.extras then .error .cliError else finishFrag p (parseSegs st.ps sgs) st.ns
  | [], [], _, _, st, _ => by
    simp only [runSegs, parseSegs, finish]
    cases st.extras <;> cases st.ps.isEmpty <;> simp [finishFrag, liftErr] <;> cases requiredOK p st.ns <;> rfl
  | [], _ :: _, h, _, _, _ => h.elim
  | _ :: _, [], h, _, _, _ => h.elim
  | (o, chunk) :: sgs, (oi, run) :: xs, hrel, hstd, st, hps => by
    obtain ⟨⟨os, rfl⟩, rfl, hrel'⟩ := hrel
    obtain ⟨hdd, hso, hnp⟩ := hstd (o, chunk) (by simp)
    rw [finish_runSegs_cons, stepOpt_sim s _ o hso os chunk hdd st]
    unfold parseSegs
    cases hco : consumeOpt o chunk with
    | error e =>
      rw [consumeOpt_err o hso hnp chunk e hco]
      cases st.extras <;> rfl
    | ok r =>
      obtain ⟨b, chunk'⟩ := r
      dsimp only
      rw [pos_sim s p xs sgs (SegRel_isEmpty xs sgs hrel')
        (runSegs_sim s p sgs xs hrel' fun y hy => hstd y (by simp [hy])) chunk'
        (fun hm => hdd (consumeOpt_sub o chunk b chunk' hco _ hm)) { st with ns := b ++ st.ns } hps]
      dsimp only
      cases st.extras
      · cases consumePos st.ps chunk' sgs.isEmpty with
        | error e => rfl
        | ok r =>
          obtain ⟨ps', bs⟩ := r
          dsimp only
          cases parseSegs ps' sgs <;> simp [finishFrag, List.append_assoc]
      · rfl

theorem requiredOK_std (s : CliSpec) (hstd : s.standard = true) (b : Ns) :
    requiredOK (mainSpec s) b = requiredSeen s b := by
  unfold requiredOK requiredSeen
  rw [mainSpec_opts_std s hstd, List.all_filter]
  congr 1
  funext o
  cases o.positional <;> simp

theorem positionals_std (s : CliSpec) (hstd : s.standard = true) : ∀ o ∈ positionals s, o.standard = true := by
  intro o ho
  have := dtot_positionals_main s o ho
  rw [dtot_std_main s hstd] at this
  exact dtot_std_opts s hstd o this

/-- The extended parser refines the parser of the fragment: for a sub-command with standard options and EVERY command
line of the fragment, it makes the same bindings, or fails with the same CLIError. -/
theorem parseX_refines (s : CliSpec) (hstd : s.standard = true) (hok : fragOK s = true) (argv : List String)
    (hf : inFragment s argv = true) : parseX s argv = liftE (parseArgs s argv) := by
  rw [dtot_parseArgs_raw s hstd]
  obtain ⟨c0, sgs, h1, h2, h3, h4, h5, h6⟩ := segs_fragment s hstd hok argv hf
  have hsegstd : SegsStd sgs := fun x hx => ⟨(h6 x hx).1, dtot_std_opts s hstd _ (h6 x hx).2.1, (h6 x hx).2.2⟩
  have hmx : mutexOK sgs = true :=
    dnum_mutexOK sgs (fun x hx => (dnum_std_basic _ (dtot_std_opts s hstd _ (h6 x hx).2.1)).2.2.2)
  unfold parseRaw parseX engine
  rw [engineItems_eq, h1, h4, h2, show (mainSpec s).poss = positionals s from rfl]
  simp only [hmx, Bool.not_true, Bool.false_eq_true, if_false]
  rw [pos_sim s (mainSpec s) _ sgs (SegRel_isEmpty _ _ h3) (runSegs_sim s _ sgs _ h3 hsegstd) c0 h5 _
    (positionals_std s hstd)]
  simp only [Bool.false_eq_true, if_false]
  cases consumePos (positionals s) c0 sgs.isEmpty with
  | error e => rfl
  | ok r =>
    obtain ⟨ps, b0⟩ := r
    dsimp only
    cases parseSegs ps sgs with
    | error e => rfl
    | ok more =>
      simp only [finishFrag, List.append_nil, requiredOK_std s hstd]
      cases requiredSeen s (more ++ b0) <;> rfl

theorem fixOrder_id (ord : List String → Nat) (ns : Ns) (e : Expr) (h : noOrder e = true) : fixOrder ord ns e = e := by
  induction e <;> simp only [noOrder, Bool.and_eq_true, Bool.false_eq_true] at h <;> simp [fixOrder, *]

def templateOrderFree (t : CallTemplate) : Bool :=
  noOrder t.guard && t.pos.all noOrder && t.kw.all (fun p => noOrder p.2)

theorem fixTemplate_id (ord : List String → Nat) (ns : Ns) (t : CallTemplate) (h : templateOrderFree t = true) :
    fixTemplate ord ns t = t := by
  unfold templateOrderFree at h
  simp only [Bool.and_eq_true, List.all_eq_true] at h
  unfold fixTemplate
  have h1 := fixOrder_id ord ns t.guard h.1.1
  have h2 : t.pos.map (fixOrder ord ns) = t.pos :=
    (List.map_congr_left fun e he => fixOrder_id ord ns e (h.1.2 e he)).trans (List.map_id _)
  have h3 : t.kw.map (fun p => (p.1, fixOrder ord ns p.2)) = t.kw :=
    (List.map_congr_left fun p hp => by simp [fixOrder_id ord ns p.2 (h.2 p hp)]).trans (List.map_id _)
  rw [h1, h2, h3]

theorem map_fixTemplate_id (ord : List String → Nat) (ns : Ns) (ts : List CallTemplate)
    (h : ts.all templateOrderFree = true) : ts.map (fixTemplate ord ns) = ts :=
  (List.map_congr_left fun t ht => fixTemplate_id ord ns t (List.all_eq_true.1 h t ht)).trans (List.map_id _)

/-- The extended interpreter refines the interpreter of the fragment: on a command line of the fragment (that the tool's
own parser does not refuse), whatever `dispatchSpec` answers — a library call, a CLIError — `dispatchSpecX` answers -/
theorem dispatchX_refines (tool : String) (ord : List String → Nat) (s : CliSpec) (hstd : s.standard = true)
    (hok : fragOK s = true) (hof : s.templates.all templateOrderFree = true) (hni : s.inline = false)
    (argv : List String) (hf : inFragment s argv = true) (htop : topAmbiguous tool s.kind argv = false) :
    (∀ c, dispatchSpec s argv = .ok c → dispatchSpecX tool ord s argv = .ok (.call c)) ∧
    (dispatchSpec s argv = .error .cliError → dispatchSpecX tool ord s argv = .error .cliError) := by
  have hsup := supported_of_standard s hstd
  have hsx := supportedX_of_supported s hsup
  unfold dispatchSpecX callOf dispatchSpec dispatchTemplate
  simp only [hsx, hsup, htop, hni, Bool.not_true, Bool.false_eq_true, if_false]
  rw [parseX_refines s hstd hok argv hf]
  cases hp : parseArgs s argv with
  | error e =>
    simp only [liftE]
    refine ⟨fun c h => by simp at h, fun h => ?_⟩
    simp at h; subst h; rfl
  | ok b =>
    simp only [liftE, map_fixTemplate_id ord _ _ hof]
    cases hsel : selectTemplate (namespaceOf s b) s.templates with
    | error e =>
      dsimp only
      obtain ⟨w, rfl⟩ := (selectTemplate_ends _ _).err hsel
      exact ⟨fun c h => by simp at h, fun h => by simp at h⟩
    | ok t =>
      dsimp only
      cases hi : instantiate (namespaceOf s b) t with
      | error e =>
        refine ⟨fun c h => by simp at h, fun h => ?_⟩
        simp at h; subst h; simp [liftErr, Except.map, quirkCrash]
      | ok c =>
        refine ⟨fun c' h => ?_, fun h => by simp at h⟩
        simp at h; subst h; simp [Except.map, quirkCrash]

end Cnfgen.Cli.AP
