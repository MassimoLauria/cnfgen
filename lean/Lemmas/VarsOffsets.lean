/-
The offsets of an edge group are the prefix sums of the right degrees (`degSum`), and the identifiers are contiguous as
soon as no row lists a vertex twice; none of this needs the graph to be well formed.  Used by `Lemmas/VarsBip.lean` and by the families over sparse mappings.
-/
import CnfgenModel.Vars.Groups
import Lemmas.VarsEnum
namespace Cnfgen
namespace Vars

/-- number of edges of the left vertices `1 … i` -/
def degSum (G : BipG) (i : Nat) : Nat := ((List.range i).map (fun j => (G.rnbrs (j + 1)).length)).sum

theorem degSum_succ (G : BipG) (i : Nat) : degSum G (i + 1) = degSum G i + (G.rnbrs (i + 1)).length := by
  simp [degSum, List.range_succ]
theorem degSum_pred (G : BipG) {u : Nat} (hu : 1 ≤ u) :
    degSum G u = degSum G (u - 1) + (G.rnbrs u).length := by
  have := degSum_succ G (u - 1)
  rwa [Nat.sub_add_cancel hu] at this
theorem degSum_mono (G : BipG) {i j : Nat} (h : i ≤ j) : degSum G i ≤ degSum G j := by
  induction j with
  | zero =>
    have : i = 0 := by omega
    subst this; exact Nat.le_refl _
  | succ j ih =>
    by_cases hij : i = j + 1
    · subst hij; exact Nat.le_refl _
    · have := ih (by omega)
      rw [degSum_succ]; omega

theorem bipOffsets_eq (G : BipG) (start : Nat) :
    bipOffsets G start = 0 :: (List.range G.l).map (fun i => start + degSum G i) := by
  have h : ∀ n, (List.range n).foldl (fun (acc : List Nat × Nat) i =>
        (acc.1 ++ [acc.2], acc.2 + (G.rnbrs (i + 1)).length)) ([], start) =
      ((List.range n).map (fun i => start + degSum G i), start + degSum G n) := by
    intro n
    induction n with
    | zero => simp [degSum]
    | succ n ih =>
      rw [List.range_succ, List.foldl_append, ih]
      simp [degSum_succ, Nat.add_assoc]
  unfold bipOffsets
  rw [h]
theorem bipOffsets_getD (G : BipG) (start : Nat) {u : Nat} (hu : 1 ≤ u ∧ u ≤ G.l) :
    (bipOffsets G start).getD u 0 = start + degSum G (u - 1) := by
  rw [bipOffsets_eq]
  obtain ⟨k, rfl⟩ : ∃ k, u = k + 1 := ⟨u - 1, by omega⟩
  have hk : k < G.l := by omega
  simp [List.getD_eq_getElem?_getD, hk]

theorem bipId_eq (G : BipG) (start : Nat) {u : Nat} (hu : 1 ≤ u ∧ u ≤ G.l) (v : Nat) :
    bipId G start u v = start + degSum G (u - 1) + (G.rnbrs u).idxOf v :=
  congrArg (· + _) (bipOffsets_getD G start hu)

theorem map_idxOf_eq_range' {l : List Nat} (hl : l.Nodup) (c : Nat) :
    l.map (fun v => c + l.idxOf v) = List.range' c l.length := by
  apply List.ext_getElem
  · simp
  · intro i h1 h2
    simp only [List.getElem_map, List.getElem_range']
    rw [List.Nodup.idxOf_getElem hl]
    omega

theorem bip_ids_of_nodup {G : BipG} (hnd : ∀ u, (G.rnbrs u).Nodup) (start : Nat) :
    G.edges.map (fun e => bipId G start e.1 e.2) = List.range' start (degSum G G.l) := by
  refine ids_flatMap (tot := degSum G) rfl (degSum_succ G) G.l fun i hi => ?_
  rw [List.map_map, ← map_idxOf_eq_range' (hnd (i + 1))]
  exact List.map_congr_left fun v _ => bipId_eq G start ⟨Nat.succ_pos i, hi⟩ v

end Vars
end Cnfgen
