/-
Lemmas for T-C11.2 — `WordOfIndicesVariables` (combinations, combinations with replacement,
permutations, words): the enumeration is duplicate-free, hence `seq2vid` / `vid2seq` are inverse
and the identifiers are contiguous in enumeration order.
-/
import CnfgenModel.Vars.Patterns
import Lemmas.IterNodup
namespace Cnfgen
namespace Vars

theorem lastIdxOf_isSome_iff (seqs : List (List Nat)) (w : List Nat) :
    (lastIdxOf seqs w).isSome ↔ w ∈ seqs := by
  induction seqs with
  | nil => simp [lastIdxOf]
  | cons x xs ih =>
    rw [lastIdxOf, List.mem_cons, ← ih]
    cases lastIdxOf xs w with
    | some i => simp
    | none => simp [eq_comm (a := x)]

theorem lastIdxOf_of_nodup {seqs : List (List Nat)} (h : seqs.Nodup) (w : List Nat) :
    lastIdxOf seqs w = if w ∈ seqs then some (seqs.idxOf w) else none := by
  induction seqs with
  | nil => simp [lastIdxOf]
  | cons x xs ih =>
    rw [List.nodup_cons] at h
    simp only [lastIdxOf, ih h.2, List.mem_cons]
    by_cases hw : w ∈ xs
    · have hx : x ≠ w := fun e => h.1 (e ▸ hw)
      simp [hw, List.idxOf_cons_ne _ hx]
    · by_cases hx : x = w
      · simp [hw, hx]
      · simp [hw, hx, Ne.symm hx]

theorem seq2vid_eq_wordId {seqs : List (List Nat)} (h : seqs.Nodup) (start : Nat) (w : List Nat) :
    seq2vid start seqs w = wordId start seqs w := by
  unfold seq2vid wordId
  rw [lastIdxOf_of_nodup h]
  by_cases hw : w ∈ seqs
  · simp [hw, List.idxOf_lt_length_iff]
  · simp [hw]

theorem seq2vid_isSome_iff (start : Nat) (seqs : List (List Nat)) (w : List Nat) :
    (seq2vid start seqs w).isSome ↔ w ∈ seqs := by
  unfold seq2vid
  rw [Option.isSome_map, lastIdxOf_isSome_iff]

theorem seq2vid_getElem {seqs : List (List Nat)} (h : seqs.Nodup) (start i : Nat) (hi : i < seqs.length) :
    seq2vid start seqs seqs[i] = some (start + i) := by
  unfold seq2vid
  rw [lastIdxOf_of_nodup h]
  simp [List.getElem_mem, h.idxOf_getElem]

theorem word_ids {seqs : List (List Nat)} (h : seqs.Nodup) (start : Nat) :
    seqs.map (fun w => (seq2vid start seqs w).getD 0) = List.range' start seqs.length := by
  apply List.ext_getElem
  · simp
  · intro i h1 h2
    simp only [List.getElem_map, List.getElem_range']
    rw [seq2vid_getElem h start i (by simpa using h1)]
    simp

theorem wordIndex_of_natAbs {start : Nat} {seqs : List (List Nat)} {lit : Int} {i : Nat}
    (hi : i < seqs.length) (hl : lit.natAbs = start + i) : wordIndex start seqs lit = .ok seqs[i] := by
  unfold wordIndex
  simp only
  rw [hl, if_pos ⟨Nat.le_add_right _ _, Nat.add_lt_add_left hi _⟩, Nat.add_sub_cancel_left,
    List.getElem?_eq_getElem hi]

theorem wordIndex_seq2vid {seqs : List (List Nat)} (h : seqs.Nodup) (start : Nat) {w : List Nat} {v : Nat}
    (hv : seq2vid start seqs w = some v) :
    start ≤ v ∧ v < start + seqs.length ∧
    wordIndex start seqs (v : Int) = .ok w ∧ wordIndex start seqs (-(v : Int)) = .ok w := by
  have hw : w ∈ seqs := (seq2vid_isSome_iff start seqs w).1 (hv ▸ rfl)
  have hlt := List.idxOf_lt_length_iff.2 hw
  rw [seq2vid_eq_wordId h, wordId, if_pos hlt] at hv
  cases hv
  refine ⟨Nat.le_add_right _ _, Nat.add_lt_add_left hlt _, ?_, ?_⟩
  · rw [wordIndex_of_natAbs hlt (Int.natAbs_natCast _), List.getElem_idxOf]
  · rw [wordIndex_of_natAbs hlt ((Int.natAbs_neg _).trans (Int.natAbs_natCast _)), List.getElem_idxOf]

theorem wordIndex_isOk_iff (start : Nat) (seqs : List (List Nat)) (lit : Int) :
    (∃ w, wordIndex start seqs lit = .ok w) ↔ (start ≤ lit.natAbs ∧ lit.natAbs < start + seqs.length) := by
  refine ⟨fun ⟨w, hw⟩ => Classical.not_not.1 fun hr => ?_, fun hr =>
    ⟨_, wordIndex_of_natAbs (Nat.sub_lt_left_of_lt_add hr.1 hr.2) (Nat.add_sub_of_le hr.1).symm⟩⟩
  rw [wordIndex, if_neg hr] at hw
  cases hw

theorem wordIndex_error {start : Nat} {seqs : List (List Nat)} {lit : Int} {e : Err}
    (h : wordIndex start seqs lit = .error e) : e = .valueError := by
  by_cases hr : start ≤ lit.natAbs ∧ lit.natAbs < start + seqs.length
  · obtain ⟨w, hw⟩ := (wordIndex_isOk_iff start seqs lit).2 hr
    rw [hw] at h
    cases h
  · rw [wordIndex, if_neg hr] at h
    cases h
    rfl

theorem seq2vid_wordIndex {seqs : List (List Nat)} (h : seqs.Nodup) {start : Nat} {lit : Int} {w : List Nat}
    (hw : wordIndex start seqs lit = .ok w) :
    w ∈ seqs ∧ seq2vid start seqs w = some lit.natAbs := by
  have hr := (wordIndex_isOk_iff start seqs lit).1 ⟨w, hw⟩
  rw [wordIndex_of_natAbs (Nat.sub_lt_left_of_lt_add hr.1 hr.2) (Nat.add_sub_of_le hr.1).symm] at hw
  cases hw
  rw [seq2vid_getElem h, Nat.add_sub_of_le hr.1]
  exact ⟨List.getElem_mem _, rfl⟩

theorem combosSeqs_nodup (n k : Nat) : (combosSeqs n k).Nodup := combos_nodup (rangeN_nodup _ _) k
theorem combosReplSeqs_nodup (n k : Nat) : (combosReplSeqs n k).Nodup := combosRepl_nodup (rangeN_nodup _ _) k
theorem permsSeqs_nodup (n k : Nat) : (permsSeqs n k).Nodup := permsK_nodup (rangeN_nodup _ _) k
theorem wordsSeqs_nodup (n k : Nat) : (wordsSeqs n k).Nodup := productRep_nodup (rangeN_nodup _ _) k

theorem sublist_range'_of_sorted {w : List Nat} {a m : Nat} (hs : w.Pairwise (· < ·))
    (hr : ∀ x ∈ w, a ≤ x ∧ x < a + m) : w.Sublist (List.range' a m) :=
  sublist_of_pairwise_subset (fun _ _ => Nat.lt_asymm) hs (List.pairwise_lt_range' 1) fun x hx =>
    List.mem_range'_1.2 (hr x hx)
theorem mem_combosSeqs {n k : Nat} {w : List Nat} :
    w ∈ combosSeqs n k ↔ w.length = k ∧ w.Pairwise (· < ·) ∧ ∀ x ∈ w, 1 ≤ x ∧ x ≤ n := by
  unfold combosSeqs
  rw [mem_combos]
  constructor
  · rintro ⟨hs, hl⟩
    refine ⟨hl, (rangeN_pairwise _ _).sublist hs, fun x hx => mem_rangeN_one.mp (hs.subset hx)⟩
  · rintro ⟨hl, hs, hr⟩
    refine ⟨?_, hl⟩
    rw [rangeN_eq_range']
    apply sublist_range'_of_sorted hs
    intro x hx
    have := hr x hx
    omega

theorem mem_combosReplSeqs {n k : Nat} {w : List Nat} :
    w ∈ combosReplSeqs n k ↔ w.length = k ∧ w.Pairwise (· ≤ ·) ∧ ∀ x ∈ w, 1 ≤ x ∧ x ≤ n := by
  unfold combosReplSeqs
  rw [mem_combosRepl_sorted (rangeN_pairwise _ _)]
  simp only [mem_rangeN_one]

theorem mem_permsSeqs {n k : Nat} {w : List Nat} :
    w ∈ permsSeqs n k ↔ w.length = k ∧ w.Nodup ∧ ∀ x ∈ w, 1 ≤ x ∧ x ≤ n := by
  unfold permsSeqs
  rw [mem_permsK, subperm_iff_of_nodup (rangeN_nodup _ _)]
  simp only [mem_rangeN_one]

theorem mem_wordsSeqs {n k : Nat} {w : List Nat} :
    w ∈ wordsSeqs n k ↔ w.length = k ∧ ∀ x ∈ w, 1 ≤ x ∧ x ≤ n := by
  unfold wordsSeqs
  rw [mem_productRep]
  simp only [mem_rangeN_one]

/-- `patternNats` of a tuple of naturals (explicit binder type; see the remark below) -/
theorem patternNats_map_some' (w : List Nat) :
    patternNats (w.map (fun (i : Nat) => some (i : Int))) = some w := by
  induction w with
  | nil => rfl
  | cons x xs ih =>
    simp only [List.map_cons, patternNats, ih]
    simp

theorem patternNats_eq_some' {pat : Pattern} {w : List Nat} (h : patternNats pat = some w) :
    pat = w.map (fun (i : Nat) => some (i : Int)) := by
  induction pat generalizing w with
  | nil =>
    cases h
    rfl
  | cons p ps ih =>
    cases p with
    | none => cases h
    | some i =>
      rw [patternNats] at h
      by_cases hi : i < 0
      · rw [if_pos hi] at h
        cases h
      · rw [if_neg hi, Option.map_eq_some_iff] at h
        obtain ⟨u, hu, rfl⟩ := h
        rw [ih hu, List.map_cons, Int.toNat_of_nonneg (Int.not_lt.1 hi)]

/- Remark: with Mathlib in scope, `w.map (fun i => some (i : Int))` (no binder type) elaborates to
`List.map (fun i : Int => some i) (↑w)` where `↑w = do let a ← w; pure (a : Int)` is the monadic
coercion `List Nat → List Int`; it is equal to the primed form by `simp`. -/
theorem map_some_coe (w : List Nat) :
    (w.map (fun i => some (i : Int)) : Pattern) = w.map (fun (i : Nat) => some (i : Int)) := by
  induction w with
  | nil => rfl
  | cons x xs ih => simpa using ih

theorem patternNats_map_some (w : List Nat) : patternNats (w.map (fun i => some (i : Int))) = some w := by
  rw [map_some_coe]; exact patternNats_map_some' w

/-- only a tuple of naturals is a key: a pattern with `None` or a negative entry has `patternNats = none` -/
theorem patternNats_eq_some {pat : Pattern} {w : List Nat} (h : patternNats pat = some w) :
    pat = w.map (fun i => some (i : Int)) := by
  rw [map_some_coe]; exact patternNats_eq_some' h

end Vars
end Cnfgen
