/-
Character level, graph formats — general part: what the graph lexer (`IO/GraphLex.lean`) does with the characters of
newline-closed lines.  It shares `isSpace`, `strip`, `splitWS`, `scanDigits`, `natStr` with the formula lexer, so this
builds on `Lemmas/IOText*.lean`.
-/
import Lemmas.IOTextSplit
import CnfgenModel.IO.GraphFmt
namespace Cnfgen.GraphFmt
open Cnfgen Cnfgen.GraphLex

/-- the number is below CPython's limit for `str()` / `int()` (`maxStrDigits` = 4300 digits) -/
def Small (n : Nat) : Prop := n < 10 ^ maxStrDigits

theorem Small.mono {a b : Nat} (hb : Small b) (h : a ≤ b) : Small a := Nat.lt_of_le_of_lt h hb

/-- lines, each closed by "\n" — what a sequence of `print(…, file=f)` calls writes -/
def unlines (ls : List Str) : Str := ls.flatMap (fun l => l ++ ['\n'])

theorem unlines_nil : unlines [] = [] := rfl

theorem readlinesAux_line : ∀ (s rest cur : Str), (∀ c ∈ s, c ≠ '\n') →
    readlinesAux (s ++ '\n' :: rest) cur = (cur.reverse ++ s ++ ['\n']) :: readlinesAux rest []
  | [], rest, cur, _ => by simp [readlinesAux]
  | c :: cs, rest, cur, h => by
    have hc : c ≠ '\n' := h c (by simp)
    have ih := readlinesAux_line cs rest (c :: cur) (fun d hd => h d (by simp [hd]))
    simp only [List.cons_append, readlinesAux, hc, if_false]
    rw [ih]; simp

theorem readlines_cons_line (s rest : Str) (h : ∀ c ∈ s, c ≠ '\n') :
    readlines (s ++ '\n' :: rest) = (s ++ ['\n']) :: readlines rest := by
  unfold readlines
  rw [readlinesAux_line s rest [] h]; simp

theorem readlines_nil : readlines [] = [] := rfl

/-- the physical lines a graph reader sees, terminators kept: of a text-mode file (`u = true`, universal newlines) or of a `StringIO` -/
def glines (u : Bool) (s : Str) : List Str := readlines (if u then universalNL s else s)

theorem glines_nil (u : Bool) : glines u [] = [] := by cases u <;> rfl

theorem glines_cons_line (u : Bool) (s rest : Str) (h : IO.NoNL s) :
    glines u (s ++ '\n' :: rest) = (s ++ ['\n']) :: glines u rest := by
  unfold glines
  rw [IO.medium_cons_line u s rest h]
  exact readlines_cons_line s _ fun c hc => (h c hc).1

theorem map_glines_lines {α ρ} (f : Str → ρ) (u : Bool) (line : α → Str) (row : α → ρ) (xs : List α) (rest : Str)
    (h : ∀ x ∈ xs, IO.NoNL (line x) ∧ f (line x ++ ['\n']) = row x) :
    (glines u (xs.flatMap (fun x => line x ++ ['\n']) ++ rest)).map f = xs.map row ++ (glines u rest).map f := by
  induction xs with
  | nil => rfl
  | cons x xs ih =>
    have hx := h x (by simp)
    rw [List.flatMap_cons, List.append_assoc, List.append_assoc, List.singleton_append, glines_cons_line u _ _ hx.1,
      List.map_cons, hx.2, ih fun y hy => h y (by simp [hy])]
    rfl

theorem map_glines_end {α ρ} (f : Str → ρ) (u : Bool) (line : α → Str) (row : α → ρ) (xs : List α)
    (h : ∀ x ∈ xs, IO.NoNL (line x) ∧ f (line x ++ ['\n']) = row x) :
    (glines u (xs.flatMap (fun x => line x ++ ['\n']))).map f = xs.map row := by
  have := map_glines_lines f u line row xs [] h
  rwa [List.append_nil, glines_nil, List.map_nil, List.append_nil] at this

theorem strip_append_ws (s : Str) (w : Char) (hw : isSpace w = true) : strip (s ++ [w]) = strip s := by
  unfold strip
  rw [List.dropWhile_append]
  split
  · rename_i he
    have : s.dropWhile isSpace = [] := by simpa using he
    simp [this, List.dropWhile, hw]
  · simp [hw]

theorem strip_cons (c : Char) (y : Str) (hc : isSpace c = false) : ∃ z, strip (c :: y) = c :: z := by
  unfold strip
  have h1 : (c :: y).dropWhile isSpace = c :: y := by simp [List.dropWhile, hc]
  rw [h1, List.reverse_cons, List.dropWhile_append]
  split
  · refine ⟨[], ?_⟩; simp [List.dropWhile, hc]
  · refine ⟨((y.reverse).dropWhile isSpace).reverse, ?_⟩; simp

/-- the DIMACS graph reader `strip()`s a line, looks at its first character, then `split()`s it -/
theorem strip_join_line (c : Char) (t : Str) (ts : List Str) (h : ∀ x ∈ (c :: t) :: ts, IO.IsTok x) :
    ∃ z, strip (join [' '] ((c :: t) :: ts) ++ ['\n']) = c :: z ∧ splitWS (c :: z) = (c :: t) :: ts := by
  have hs := IO.splitWS_join_nl _ h
  rw [IO.join_blank_cons, List.cons_append, List.cons_append] at hs ⊢
  obtain ⟨z, hz⟩ := strip_cons c (t ++ ts.flatMap (fun t => ' ' :: t) ++ ['\n']) ((h (c :: t) (by simp)).2 c (by simp))
  exact ⟨z, hz, by rw [← hz, IO.splitWS_strip, hs]⟩

theorem mem_of_mem_strip {s : Str} {c : Char} (h : c ∈ strip s) : c ∈ s := by
  unfold strip at h
  have h1 := List.mem_reverse.1 h
  have h2 := (List.dropWhile_sublist _).subset h1
  have h3 := List.mem_reverse.1 h2
  exact (List.dropWhile_sublist _).subset h3

theorem splitWS_blank_toks : ∀ (toks : List Str), (∀ t ∈ toks, IO.IsTok t) →
    splitWS (toks.flatMap (fun t => ' ' :: t) ++ ['\n']) = toks
  | [], _ => by decide
  | t :: ts, h => by
    rw [List.flatMap_cons, List.cons_append, List.cons_append, IO.splitWS_space_cons ' ' _ IO.isSpace_blank,
      ← IO.join_blank_cons, IO.splitWS_join_nl _ h]

theorem splitOn_none (sep : Char) : ∀ (s : Str), sep ∉ s → splitOn sep s = [s]
  | [], _ => rfl
  | c :: cs, h => by
    have hc : c ≠ sep := fun e => h (e ▸ List.mem_cons_self ..)
    simp [splitOn, hc, splitOn_none sep cs fun hm => h (List.mem_cons_of_mem _ hm)]

theorem splitOn_first (sep : Char) : ∀ (a b : Str), sep ∉ a → splitOn sep (a ++ sep :: b) = a :: splitOn sep b
  | [], b, _ => by simp [splitOn]
  | c :: cs, b, h => by
    have hc : c ≠ sep := fun e => h (e ▸ List.mem_cons_self ..)
    simp [splitOn, hc, splitOn_first sep cs b fun hm => h (List.mem_cons_of_mem _ hm)]

theorem isSpace_of_isIntSpace {c : Char} (h : isIntSpace c = true) : isSpace c = true :=
  (by decide : ∀ n ∈ [9, 10, 11, 12, 13, 32], wsCodes.contains n = true) c.toNat (List.contains_iff_mem.1 h)

theorem dropWhile_intSpace_noWS : ∀ (s : Str), IO.NoWS s → s.dropWhile isIntSpace = s
  | [], _ => rfl
  | c :: cs, h => by
    have hc : isSpace c = false := h c (by simp)
    have : isIntSpace c = false := by
      cases hh : isIntSpace c with
      | false => rfl
      | true => rw [isSpace_of_isIntSpace hh] at hc; cases hc
    simp [List.dropWhile, this]

theorem pyInt_eq_io (s : Str) (h : IO.NoWS s) : pyInt? s = IO.pyInt? s := by
  unfold pyInt? IO.pyInt?
  rw [IO.strip_noWS s h, dropWhile_intSpace_noWS s h,
    dropWhile_intSpace_noWS s.reverse (fun c hc => h c (by simpa using hc))]
  simp only [List.reverse_reverse]
  rfl

theorem isTok_natStrs (l : List Nat) : ∀ t ∈ l.map natStr, IO.IsTok t := by
  simp [IO.isTok_natStr]

theorem pyInt_natStr (n : Nat) (h : Small n) : pyInt? (natStr n) = some (n : Int) := by
  rw [pyInt_eq_io _ (IO.natStr_noWS n)]; exact IO.pyInt_natStr n h

theorem pyInt_natStr_big (n : Nat) (h : 10 ^ maxStrDigits ≤ n) : pyInt? (natStr n) = none := by
  rw [pyInt_eq_io _ (IO.natStr_noWS n), IO.pyInt_natStr_eq, if_neg (Nat.not_lt.2 h)]

theorem mapM_pyInt_natStr (l : List Nat) (h : ∀ i ∈ l, Small i) :
    (l.map natStr).mapM pyInt? = some (l.map Int.ofNat) := by
  induction l with
  | nil => rfl
  | cons i is ih =>
    simp only [List.map_cons, List.mapM_cons, pyInt_natStr i (h i (by simp)),
      ih (fun x hx => h x (by simp [hx]))]
    rfl

theorem not_mem_natStr {x : Char} (hx : ¬ IO.IsDigit x) (n : Nat) : x ∉ natStr n :=
  fun h => hx ((IO.natStr_digits n).1 x h)

theorem natStr_head_ne {x : Char} (hx : ¬ IO.IsDigit x) (n : Nat) (rest : Str) : (natStr n ++ rest).head? ≠ some x := by
  obtain ⟨c, cs, hs, hc⟩ := IO.natStr_cons n
  rw [hs]
  exact fun h => hx (Option.some.inj h ▸ hc)

theorem splitlinesAux_noBreak : ∀ (s : Str) (b : Bool) (cur : Str), (∀ c ∈ cur, isLineBreak c = false) →
    ∀ p ∈ splitlinesAux b s cur, ∀ c ∈ p, isLineBreak c = false
  | [], b, cur, hcur, p, hp, c, hc => by
    unfold splitlinesAux at hp
    split at hp
    · simp at hp
    · simp at hp; subst hp; exact hcur c (by simpa using hc)
  | x :: xs, b, cur, hcur, p, hp, c, hc => by
    unfold splitlinesAux at hp
    split at hp
    · exact splitlinesAux_noBreak xs false cur hcur p hp c hc
    · split at hp
      · rcases List.mem_cons.1 hp with h | h
        · subst h; exact hcur c (by simpa using hc)
        · exact splitlinesAux_noBreak xs _ [] (by simp) p h c hc
      · rename_i hx
        refine splitlinesAux_noBreak xs false (x :: cur) ?_ p hp c hc
        intro d hd
        rcases List.mem_cons.1 hd with e | e
        · subst e; simpa using hx
        · exact hcur d e

theorem nameLines_noNL (name : Str) : ∀ l ∈ nameLines name, IO.NoNL l := by
  intro l hl
  unfold nameLines at hl
  split at hl
  · simp at hl; subst hl; intro c hc; simp at hc
  · rename_i h _
    exact IO.noNL_of_noBreak (splitlinesAux_noBreak name false [] (by simp) l hl)

/-- a reader's outcome on a concrete text is decided by running it: test vectors of the form `r = .error e` are
`by decide +kernel` -/
instance decEqError {ε α} [DecidableEq ε] (r : Except ε α) (e : ε) : Decidable (r = .error e) :=
  match r with
  | .error e' => if h : e' = e then isTrue (by rw [h]) else isFalse (fun h' => h (by cases h'; rfl))
  | .ok _ => isFalse (fun h => by cases h)

end Cnfgen.GraphFmt
