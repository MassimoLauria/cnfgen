/-
C14 — the branches of `readGraph`: a reader's contract carried through the wrapping of its object.
-/
import Lemmas.GraphIOBip
import Lemmas.GraphIODimacs
namespace Cnfgen
open GraphFmt

theorem Reads.map {α} {x : Except Err α} {P : α → Prop} (h : Reads x P) (f : α → AnyG) :
    Reads (x.map f) (fun G => ∃ g, G = f g ∧ P g) := by
  cases x with
  | error e => exact h
  | ok g => exact ⟨g, rfl, h⟩

/-- the `'dag'` branches: the reader's object, then the acyclicity test -/
theorem Reads.dag {x : Except Err DiG} {P : DiG → Prop} (h : Reads x P) :
    Reads (match (generalizing := false) x with
      | .error e => .error e
      | .ok g => if g.stillDag then .ok (.di g) else .error .valueError : Except Err AnyG)
      (fun G => ∃ g, G = .di g ∧ P g ∧ g.stillDag = true) := by
  cases x with
  | error e => exact h
  | ok g =>
    simp only
    split
    · rename_i hd; exact ⟨g, rfl, h, hd⟩
    · rfl

end Cnfgen
