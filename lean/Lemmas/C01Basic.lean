/-
Shared by the C01 family proofs: index ranges, "exactly one" on duplicate-free lists, `pairs`,
groups of constraints over the rows of a table of variables.
-/
import CnfgenModel.Fam.Mapping
import Lemmas.Constr
namespace Cnfgen.Fam
open Cnfgen

theorem mem_idx {n x : Nat} : x ∈ idx n ↔ 1 ≤ x ∧ x ≤ n := mem_rangeN_one

theorem idx_pairwise_lt (n : Nat) : (idx n).Pairwise (· < ·) := rangeN_pairwise _ _

theorem idx_nodup (n : Nat) : (idx n).Nodup := rangeN_nodup _ _

theorem length_idx (n : Nat) : (idx n).length = n := by simp [idx, rangeN]

theorem countP_eq_one_iff {β : Type} (l : List β) (p : β → Bool) (hl : l.Nodup) :
    l.countP p = 1 ↔ (∃ a ∈ l, p a = true) ∧ ∀ a ∈ l, ∀ b ∈ l, p a = true → p b = true → a = b := by
  rw [← countP_le_one_iff_nodup l p hl, ← List.countP_pos_iff]; omega

/-- "exactly one" in the form the specifications use -/
theorem countP_eq_one_iff_unique {β : Type} (l : List β) (p : β → Bool) (hl : l.Nodup) :
    l.countP p = 1 ↔ ∃ a, a ∈ l ∧ p a = true ∧ ∀ b, b ∈ l → p b = true → b = a := by
  rw [countP_eq_one_iff l p hl]
  exact ⟨fun ⟨⟨a, ha, pa⟩, h⟩ => ⟨a, ha, pa, fun b hb pb => h b hb a ha pb pa⟩,
    fun ⟨a, ha, pa, h⟩ => ⟨⟨a, ha, pa⟩, fun b hb c hc pb pc => (h b hb pb).trans (h c hc pc).symm⟩⟩

theorem mem_pairs_of_pairwise {β : Type} {R : β → β → Prop} (l : List β) (hl : l.Pairwise R) (a b : β) :
    (a, b) ∈ pairs l → a ∈ l ∧ b ∈ l ∧ R a b := by
  induction l with
  | nil => simp [pairs]
  | cons x xs ih =>
    simp only [pairs, List.mem_append, List.mem_map, Prod.mk.injEq]
    rintro (⟨y, hy, rfl, rfl⟩ | h)
    · exact ⟨by simp, by simp [hy], (List.pairwise_cons.1 hl).1 y hy⟩
    · have := ih (List.pairwise_cons.1 hl).2 h
      exact ⟨by simp [this.1], by simp [this.2.1], this.2.2⟩

theorem mem_pairs_mem {β : Type} (l : List β) (a b : β) (h : (a, b) ∈ pairs l) : a ∈ l ∧ b ∈ l := by
  have := mem_pairs_of_pairwise (R := fun _ _ => True) l (by simp [List.pairwise_iff_forall_sublist]) a b h
  exact ⟨this.1, this.2.1⟩

theorem mem_pairs_of_sorted {l : List Nat} (h : l.Pairwise (· < ·)) {a b : Nat} :
    (a, b) ∈ pairs l ↔ a ∈ l ∧ b ∈ l ∧ a < b :=
  mem_pairs_of_sorted_of_eqns rfl (fun _ _ => rfl) h

theorem mem_pairs_idx {n a b : Nat} : (a, b) ∈ pairs (idx n) ↔ 1 ≤ a ∧ a < b ∧ b ≤ n := by
  rw [mem_pairs_of_sorted (idx_pairwise_lt n), mem_idx, mem_idx]; omega

/-! ### groups of constraints over the rows of a table of variables

The four `force_*_mapping` generators, on every kind of mapping, are of this shape: one clause, or one "at most one",
per index `u ∈ K` over the variables `g u v`, `v ∈ L u`. -/

section rows
variable {κ β : Type} (α : Assign) (K : List κ) (L : κ → List β) (g : κ → β → Nat)

theorem rows_clause_holds (hg : ∀ u ∈ K, ∀ v ∈ L u, 0 < g u v) :
    (K.map fun u => Con.clause ((L u).map fun v => ((g u v : Nat) : Int))).all (Con.holds α) = true ↔
      ∀ u ∈ K, ∃ v ∈ L u, α (g u v) = true := by
  simp only [List.all_map, List.all_eq_true, Function.comp, Con.holds]
  refine forall₂_congr fun u hu => ?_
  exact clauseHolds_map_pos α _ _ (hg u hu)

theorem rows_atMostOne_holds (hg : ∀ u ∈ K, ∀ v ∈ L u, 0 < g u v) (hnd : ∀ u ∈ K, (L u).Nodup) :
    (K.map fun u => Con.lin ((L u).map fun v => ((g u v : Nat) : Int)) .le 1).all (Con.holds α) = true ↔
      ∀ u ∈ K, ∀ v ∈ L u, ∀ v' ∈ L u, α (g u v) = true → α (g u v') = true → v = v' := by
  simp only [List.all_map, List.all_eq_true, Function.comp]
  exact forall₂_congr fun u hu => Con.atMostOne_holds α (hnd u hu) _ (hg u hu)

end rows

theorem Formula.holds_mk (α : Assign) (n : Nat) (cs : List Con) :
    Formula.holds α ⟨n, cs⟩ = cs.all (Con.holds α) := rfl

end Cnfgen.Fam
