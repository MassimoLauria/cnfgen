/-
`Vars.combosSeqs` (the `p`-subsets of `1..M` in the order of itertools.combinations): membership,
duplicate-freeness, length; sorted sublists of an index range; indexed enumerations (`zipIdx`).
-/
import Lemmas.C01Basic
import Lemmas.IterCount
import Mathlib.Data.List.Basic
import Mathlib.Data.List.Nodup
import Mathlib.Data.Nat.Choose.Basic
namespace Cnfgen.Fam
open Cnfgen

theorem sublist_idx_iff (M : Nat) (c : List Nat) :
    c.Sublist (idx M) ↔ c.Pairwise (· < ·) ∧ ∀ x ∈ c, 1 ≤ x ∧ x ≤ M := by
  constructor
  · intro h
    exact ⟨(idx_pairwise_lt M).sublist h, fun x hx => mem_idx.1 (h.subset hx)⟩
  · rintro ⟨hp, hr⟩
    have key : ∀ (l c : List Nat), l.Pairwise (· < ·) → c.Pairwise (· < ·) → (∀ x ∈ c, x ∈ l) → c.Sublist l := by
      intro l
      induction l with
      | nil =>
        intro c _ _ hc
        cases c with
        | nil => exact List.Sublist.refl _
        | cons a as => exact absurd (hc a (by simp)) (by simp)
      | cons y ys ih =>
        intro c hl hc hsub
        have hl' := List.pairwise_cons.1 hl
        cases c with
        | nil => exact List.nil_sublist _
        | cons a as =>
          have hc' := List.pairwise_cons.1 hc
          by_cases hay : a = y
          · subst hay
            refine List.Sublist.cons_cons a (ih as hl'.2 hc'.2 ?_)
            intro x hx
            have h1 := hc'.1 x hx
            rcases List.mem_cons.1 (hsub x (by simp [hx])) with h2 | h2
            · omega
            · exact h2
          · refine List.Sublist.cons y (ih (a :: as) hl'.2 hc ?_)
            intro x hx
            rcases List.mem_cons.1 (hsub x hx) with h2 | h2
            · -- x = y, but a ∈ ys is larger than y and a ≤ x
              subst h2
              have ha : a ∈ ys := by
                rcases List.mem_cons.1 (hsub a (by simp)) with h3 | h3
                · exact absurd h3 hay
                · exact h3
              have h4 := hl'.1 a ha
              rcases List.mem_cons.1 hx with h5 | h5
              · omega
              · have := hc'.1 x h5; omega
            · exact h2
    exact key (idx M) c (idx_pairwise_lt M) hp (fun x hx => mem_idx.2 (hr x hx))

/-- `S` is (the sorted list of) a `p`-subset of `[1..M]` -/
def IsSubset (M p : Nat) (S : List Nat) : Prop :=
  S.Pairwise (· < ·) ∧ S.length = p ∧ ∀ x ∈ S, 1 ≤ x ∧ x ≤ M

theorem mem_combosSeqs (M p : Nat) (S : List Nat) : S ∈ Vars.combosSeqs M p ↔ IsSubset M p S := by
  have : Vars.combosSeqs M p = combos (idx M) p := rfl
  rw [this, mem_combos, sublist_idx_iff]
  simp only [IsSubset]; constructor
  · rintro ⟨⟨a, b⟩, c⟩; exact ⟨a, c, b⟩
  · rintro ⟨a, c, b⟩; exact ⟨⟨a, b⟩, c⟩

theorem nodup_combosSeqs (M p : Nat) : (Vars.combosSeqs M p).Nodup := combos_nodup (idx_nodup M) _

theorem length_combosSeqs (M p : Nat) : (Vars.combosSeqs M p).length = Nat.choose M p := by
  have : Vars.combosSeqs M p = combos (idx M) p := rfl
  rw [this, length_combos, length_idx]

theorem zipIdx_eq_map_idxOf {β : Type} [BEq β] [LawfulBEq β] : ∀ (l : List β) (k : Nat), l.Nodup →
    l.zipIdx k = l.map (fun a => (a, k + l.idxOf a))
  | [], _, _ => by simp
  | x :: xs, k, h => by
    have hx : x ∉ xs := (List.nodup_cons.1 h).1
    rw [List.zipIdx_cons, zipIdx_eq_map_idxOf xs (k + 1) (List.nodup_cons.1 h).2]
    simp only [List.map_cons, List.idxOf_cons_self, Nat.add_zero, List.cons.injEq, true_and]
    apply List.map_congr_left
    intro a ha
    have : x ≠ a := fun h' => hx (h' ▸ ha)
    rw [List.idxOf_cons_ne _ this]
    simp; omega

theorem filterMap_ite {β γ : Type} (l : List β) (c : β → Bool) (g : β → γ) :
    l.filterMap (fun a => if c a then some (g a) else none) = (l.filter c).map g := by
  induction l with
  | nil => simp
  | cons x xs ih =>
    by_cases h : c x <;> simp [h, ih]

/-- `pairs` is `itertools.combinations(·, 2)` (as modelled by `combos`) -/
theorem pairs_eq_combos {β : Type} : ∀ (l : List β), (pairs l).map (fun p => [p.1, p.2]) = combos l 2 :=
  pairs_eq_combos_of_eqns rfl fun _ _ => rfl

end Cnfgen.Fam
