/-
RelativizedPigeonholePrinciple: meaning of the clause shapes (3.1c)–(3.1e) of the source's comments.
-/
import Lemmas.C01Pigeon
import CnfgenModel.Fam.Php
namespace Cnfgen.Fam
open Cnfgen

/-- the variable `r_v` -/
def rphpRVar (m r n v : Nat) : Nat := 1 + m * r + r * n + (v - 1)

theorem rphpR_eq (m r n v : Nat) : rphpR m r n v = ((rphpRVar m r n v : Nat) : Int) := by
  simp [rphpR, rphpRVar, Vars.blockId, Vars.weights]

theorem rphpRVar_pos (m r n v : Nat) : 0 < rphpRVar m r n v := by simp only [rphpRVar]; omega

/-- 3.1c -/
theorem rphp_c_holds (α : Assign) (p : UMap) (m r n u v : Nat) :
    clauseHolds α [-(p.lit u v), rphpR m r n v] = true ↔
      (α (p.var u v) = true → α (rphpRVar m r n v) = true) := by
  rw [rphpR_eq]
  simp only [clauseHolds_cons, clauseHolds_nil, UMap.lit, litHolds_neg_natCast, litHolds_natCast α (rphpRVar_pos m r n v)]
  cases α (p.var u v) <;> simp

/-- 3.1d -/
theorem rphp_d_holds (α : Assign) (q : UMap) (hq : 0 < q.start) (m r n v : Nat) :
    clauseHolds α (-(rphpR m r n v) :: q.row v) = true ↔
      (α (rphpRVar m r n v) = true → ∃ w, 1 ≤ w ∧ w ≤ q.rng ∧ α (q.var v w) = true) := by
  rw [clauseHolds_cons, rphpR_eq, litHolds_neg_natCast, Bool.or_eq_true, q.clause_row hq]
  cases α (rphpRVar m r n v) <;> simp

/-- 3.1e -/
theorem rphp_e_holds (α : Assign) (q : UMap) (m r n v₁ v₂ w : Nat) :
    clauseHolds α [-(rphpR m r n v₁), -(rphpR m r n v₂), -(q.lit v₁ w), -(q.lit v₂ w)] = true ↔
      ¬ (α (rphpRVar m r n v₁) = true ∧ α (rphpRVar m r n v₂) = true ∧
         α (q.var v₁ w) = true ∧ α (q.var v₂ w) = true) := by
  rw [rphpR_eq, rphpR_eq]
  simp only [clauseHolds_cons, clauseHolds_nil, UMap.lit, litHolds_neg_natCast]
  cases α (rphpRVar m r n v₁) <;> cases α (rphpRVar m r n v₂) <;>
    cases α (q.var v₁ w) <;> cases α (q.var v₂ w) <;> simp

theorem rphpR_in (m r n : Nat) {v : Nat} (hv : v ∈ idx r) :
    rphpR m r n v ≠ 0 ∧ 1 ≤ (rphpR m r n v).natAbs ∧ (rphpR m r n v).natAbs ≤ m * r + r * n + r := by
  rw [mem_idx] at hv
  rw [rphpR_eq]; simp only [rphpRVar]; omega

end Cnfgen.Fam
