/-
List-level facts behind the graph objects (C16): `list.remove`, the `bisect_right` cut used by the
edge iterator of simple graphs, folds of a partial step over a list of calls, adjacency tables
(`List (List Nat)` indexed by vertex) and the edge listing of a table.
-/
import Lemmas.InsertSorted
namespace Cnfgen

theorem nodup_map_inj {α β} (f : α → β) (hf : ∀ a b, f a = f b → a = b) {l : List α} (h : l.Nodup) :
    (l.map f).Nodup :=
  List.Pairwise.map f (fun a b hab heq => hab (hf a b heq)) h

abbrev SortedLt (l : List Nat) : Prop := l.Pairwise (· < ·)

theorem SortedLt.nodup {l : List Nat} (h : SortedLt l) : l.Nodup :=
  List.nodup_iff_pairwise_ne.2 (h.imp (fun hab => Nat.ne_of_lt hab))

theorem SortedLt.ext {l₁ l₂ : List Nat} (h₁ : SortedLt l₁) (h₂ : SortedLt l₂)
    (h : ∀ x, x ∈ l₁ ↔ x ∈ l₂) : l₁ = l₂ := by
  apply List.Perm.eq_of_pairwise (le := (· < ·)) _ h₁ h₂
  · exact (List.perm_ext_iff_of_nodup h₁.nodup h₂.nodup).2 h
  · intro a b _ _ hab hba; omega

theorem removeFirst_eq_erase (l : List Nat) (v : Nat) : removeFirst l v = l.erase v := by
  induction l with
  | nil => simp [removeFirst]
  | cons y ys ih => simp only [removeFirst, List.erase_cons, ih]

theorem mem_removeFirst {l : List Nat} (h : SortedLt l) {v x : Nat} :
    x ∈ removeFirst l v ↔ x ∈ l ∧ x ≠ v := by
  rw [removeFirst_eq_erase, h.nodup.mem_erase_iff]; exact And.comm

theorem sorted_removeFirst {l : List Nat} (h : SortedLt l) (v : Nat) : SortedLt (removeFirst l v) := by
  rw [removeFirst_eq_erase]; exact h.sublist List.erase_sublist

theorem length_removeFirst {l : List Nat} {v : Nat} (h : v ∈ l) :
    (removeFirst l v).length = l.length - 1 := by
  rw [removeFirst_eq_erase]; exact List.length_erase_of_mem h

theorem mem_drop_bisectRight {l : List Nat} (h : SortedLt l) (u v : Nat) :
    v ∈ l.drop (bisectRight l u) ↔ v ∈ l ∧ u < v := by
  induction l with
  | nil => simp [bisectRight]
  | cons y ys ih =>
    have hy := List.pairwise_cons.1 h
    simp only [bisectRight]
    split
    · rename_i hle
      simp only [List.drop_succ_cons, ih hy.2, List.mem_cons]
      constructor
      · rintro ⟨h1, h2⟩; exact ⟨Or.inr h1, h2⟩
      · rintro ⟨h1 | h1, h2⟩
        · omega
        · exact ⟨h1, h2⟩
    · rename_i hle
      simp only [List.drop_zero, List.mem_cons]
      constructor
      · rintro (rfl | h1)
        · exact ⟨Or.inl rfl, by omega⟩
        · exact ⟨Or.inr h1, by have := hy.1 v h1; omega⟩
      · exact fun h1 => h1.1

theorem sorted_drop {l : List Nat} (h : SortedLt l) (k : Nat) : SortedLt (l.drop k) :=
  h.sublist (List.drop_sublist k l)

def oneTo (k : Nat) : List Nat := (List.range k).map (· + 1)

theorem mem_oneTo {k v : Nat} : v ∈ oneTo k ↔ 1 ≤ v ∧ v ≤ k := by
  simp only [oneTo, List.mem_map, List.mem_range]
  constructor
  · rintro ⟨i, hi, rfl⟩; omega
  · intro h; exact ⟨v - 1, by omega, by omega⟩

theorem sorted_oneTo (k : Nat) : SortedLt (oneTo k) :=
  List.pairwise_lt_range.map _ (fun a b h => by omega)

theorem length_oneTo (k : Nat) : (oneTo k).length = k := by simp [oneTo]

theorem idxOf_map_range {α} [BEq α] [LawfulBEq α] (f : Nat → α) {n i : Nat} (hf : ∀ a b, a < b → b < n → f a ≠ f b)
    (hi : i < n) : ((List.range n).map f).idxOf (f i) = i := by
  have hnd : ((List.range n).map f).Nodup := by
    apply List.nodup_iff_pairwise_ne.2
    rw [List.pairwise_map]
    exact (List.pairwise_lt_range (n := n)).imp_of_mem (fun _ hb hab => hf _ _ hab (List.mem_range.1 hb))
  have hget : ((List.range n).map f)[i]'(by simpa using hi) = f i := by simp
  rw [← hget]
  exact hnd.idxOf_getElem i _

/-! Folds of a partial step over a list of calls (`add_edges_from`, `ofEdges`, the readers), for any state type. -/
section fold
variable {σ α κ : Type} {f : σ → α → Except Err σ}

theorem foldlM_keeps {I : σ → Prop} (hf : ∀ {G G' a}, I G → f G a = .ok G' → I G')
    {G G' : σ} (h : I G) {as : List α} (e : as.foldlM f G = .ok G') : I G' := by
  induction as generalizing G with
  | nil => cases e; exact h
  | cons a as ih =>
    rw [List.foldlM_cons] at e
    cases ha : f G a with
    | error x => rw [ha] at e; cases e
    | ok G₁ => rw [ha] at e; exact ih (hf h ha) e

theorem foldlM_error {P : Err → Prop} (hf : ∀ {G a x}, f G a = .error x → P x) {G : σ} {as : List α} {x : Err}
    (e : as.foldlM f G = .error x) : P x := by
  induction as generalizing G with
  | nil => cases e
  | cons a as ih =>
    rw [List.foldlM_cons] at e
    cases ha : f G a with
    | error y => rw [ha] at e; cases e; exact hf ha
    | ok G₁ => rw [ha] at e; exact ih e

theorem foldlM_returns {I : σ → Prop} {V : α → Prop}
    (hok : ∀ {G a}, I G → V a → ∃ G', f G a = .ok G' ∧ I G')
    {G : σ} (h : I G) {as : List α} (hv : ∀ a ∈ as, V a) : ∃ G', as.foldlM f G = .ok G' ∧ I G' := by
  induction as generalizing G with
  | nil => exact ⟨G, rfl, h⟩
  | cons a as ih =>
    obtain ⟨G₁, e₁, h₁⟩ := hok h (hv a (List.mem_cons_self ..))
    obtain ⟨G', e', h'⟩ := ih h₁ (fun x hx => hv x (List.mem_cons_of_mem _ hx))
    exact ⟨G', by rw [List.foldlM_cons, e₁]; exact e', h'⟩

theorem foldlM_adds {I : σ → Prop} {E : σ → List κ} {R : α → κ → Prop}
    (hf : ∀ {G G' a}, I G → f G a = .ok G' → I G' ∧ ∀ p, p ∈ E G' ↔ p ∈ E G ∨ R a p)
    {G G' : σ} (h : I G) {as : List α} (e : as.foldlM f G = .ok G') :
    I G' ∧ ∀ p, p ∈ E G' ↔ p ∈ E G ∨ ∃ a ∈ as, R a p := by
  induction as generalizing G with
  | nil => cases e; exact ⟨h, by simp⟩
  | cons a as ih =>
    rw [List.foldlM_cons] at e
    cases ha : f G a with
    | error x => rw [ha] at e; cases e
    | ok G₁ =>
      rw [ha] at e
      obtain ⟨h₁, m₁⟩ := hf h ha
      obtain ⟨h', m'⟩ := ih h₁ e
      refine ⟨h', fun p => ?_⟩
      rw [m', m₁, or_assoc]
      simp only [List.mem_cons, exists_eq_or_imp]

theorem foldlM_inserts {I : σ → Prop} {E : σ → List κ} {V : α → Prop} {k : α → κ}
    (hf : ∀ {G a}, I G → V a → ∃ G', f G a = .ok G' ∧ I G' ∧ ∀ p, p ∈ E G' ↔ p = k a ∨ p ∈ E G)
    {G : σ} (h : I G) {as : List α} (hv : ∀ a ∈ as, V a) :
    ∃ G', as.foldlM f G = .ok G' ∧ I G' ∧ ∀ p, p ∈ E G' ↔ p ∈ E G ∨ ∃ a ∈ as, p = k a := by
  induction as generalizing G with
  | nil => exact ⟨G, rfl, h, by simp⟩
  | cons a as ih =>
    obtain ⟨G₁, e₁, h₁, m₁⟩ := hf h (hv a (List.mem_cons_self ..))
    obtain ⟨G', e', h', m'⟩ := ih h₁ (fun x hx => hv x (List.mem_cons_of_mem _ hx))
    refine ⟨G', by rw [List.foldlM_cons, e₁]; exact e', h', fun p => ?_⟩
    rw [m', m₁, or_comm (a := p = k a), or_assoc]
    simp only [List.mem_cons, exists_eq_or_imp]

theorem foldlM_rejects {I : σ → Prop} {V : α → Prop} {x : Err}
    (hok : ∀ {G a}, I G → V a → ∃ G', f G a = .ok G' ∧ I G') (hno : ∀ {G a}, I G → ¬ V a → f G a = .error x)
    {G : σ} (h : I G) {as : List α} (hv : ¬ ∀ a ∈ as, V a) : as.foldlM f G = .error x := by
  induction as generalizing G with
  | nil => exact absurd (fun _ h => nomatch h) hv
  | cons a as ih =>
    rw [List.foldlM_cons]
    by_cases ha : V a
    · obtain ⟨G₁, e₁, h₁⟩ := hok h ha
      rw [e₁]
      exact ih h₁ (fun hall => hv (fun b hb => by
        rcases List.mem_cons.1 hb with rfl | hb
        · exact ha
        · exact hall b hb))
    · rw [hno h ha]; rfl

/-- `P` is the loop `for a in as: G = f(G, a)` run in place: it returns the state reached and
the exception that stopped it, if any (the shape of every `addEdgesFromP`) -/
structure InPlace (f : σ → α → Except Err σ) (P : σ → List α → σ × Option Err) : Prop where
  nil : ∀ G, P G [] = (G, none)
  ok : ∀ {G G' a} as, f G a = .ok G' → P G (a :: as) = P G' as
  error : ∀ {G x a} as, f G a = .error x → P G (a :: as) = (G, some x)

variable {P : σ → List α → σ × Option Err}

theorem InPlace.keeps (hP : InPlace f P) {I : σ → Prop} (hf : ∀ {G G' a}, I G → f G a = .ok G' → I G')
    {G : σ} (h : I G) (as : List α) : I (P G as).1 := by
  induction as generalizing G with
  | nil => rw [hP.nil]; exact h
  | cons a as ih =>
    cases ha : f G a with
    | error x => rw [hP.error as ha]; exact h
    | ok G₁ => rw [hP.ok as ha]; exact ih (hf h ha)

theorem InPlace.foldlM_eq (hP : InPlace f P) (G : σ) (as : List α) :
    as.foldlM f G = (P G as).2.elim (.ok (P G as).1) .error := by
  induction as generalizing G with
  | nil => rw [hP.nil]; rfl
  | cons a as ih =>
    rw [List.foldlM_cons]
    cases ha : f G a with
    | error x => rw [hP.error as ha]; rfl
    | ok G₁ => rw [hP.ok as ha]; exact ih G₁

/-- the law of one `add_edge`, with the class of graph as the parameters: among the states that satisfy `I`
(the invariant, at fixed sizes), a call that `V` accepts returns, keeps `I` and adds its key `k a` to the set `E`; any
other call raises `ValueError`.  Each class proves it once (`SimpleG.law`, `DiG.law`, `BipG.law`); what a run of
calls does is read off here. -/
structure AddLaw (f : σ → α → Except Err σ) (I : σ → Prop) (V : α → Prop) (E : σ → List κ) (k : α → κ) : Prop where
  ok : ∀ {G a}, I G → V a → ∃ G', f G a = .ok G' ∧ I G' ∧ ∀ p, p ∈ E G' ↔ p = k a ∨ p ∈ E G
  error : ∀ {G a}, I G → ¬ V a → f G a = .error .valueError

namespace AddLaw
variable {I : σ → Prop} {V : α → Prop} {E : σ → List κ} {k : α → κ}

theorem fold_ok (L : AddLaw f I V E k) {G : σ} (h : I G) {as : List α} (hv : ∀ a ∈ as, V a) :
    ∃ G', as.foldlM f G = .ok G' ∧ I G' ∧ ∀ p, p ∈ E G' ↔ p ∈ E G ∨ ∃ a ∈ as, p = k a :=
  foldlM_inserts L.ok h hv

theorem fold_error (L : AddLaw f I V E k) {G : σ} (h : I G) {as : List α} (hv : ¬ ∀ a ∈ as, V a) :
    as.foldlM f G = .error .valueError :=
  foldlM_rejects (f := f) (I := I) (fun h hv => (L.ok h hv).imp fun _ h => ⟨h.1, h.2.1⟩) L.error h hv

/-- the calls come through a map (`ofEdges`: natural pairs as integer pairs, `List.foldlM_map`) -/
theorem comap {β : Type} (L : AddLaw f I V E k) (c : β → α) :
    AddLaw (fun g b => f g (c b)) I (fun b => V (c b)) E (fun b => k (c b)) :=
  ⟨L.ok, L.error⟩

end AddLaw

end fold

def row (t : List (List Nat)) (u : Nat) : List Nat := t.getD u []

theorem row_of_ge {t : List (List Nat)} {u : Nat} (h : t.length ≤ u) : row t u = [] := by
  simp [row, List.getD_eq_getElem?_getD, List.getElem?_eq_none h]

theorem row_modify (t : List (List Nat)) (i : Nat) (f : List Nat → List Nat) (j : Nat) :
    row (t.modify i f) j = if i = j ∧ j < t.length then f (row t j) else row t j := by
  simp only [row, List.getD_eq_getElem?_getD, List.getElem?_modify]
  by_cases hj : j < t.length
  · simp [hj]
  · simp [hj]

theorem row_append_replicate (t : List (List Nat)) (k j : Nat) :
    row (t ++ List.replicate k []) j = row t j := by
  simp only [row, List.getD_eq_getElem?_getD, List.getElem?_append]
  split
  · rfl
  · rename_i h
    rw [List.getElem?_eq_none (Nat.le_of_not_lt h), List.getElem?_replicate]
    split <;> rfl

theorem row_replicate (k j : Nat) : row (List.replicate k []) j = [] := by
  simp only [row, List.getD_eq_getElem?_getD, List.getElem?_replicate]
  split <;> rfl

/-- the table `t` (rows `0..k`) stores the relation `P` -/
structure Rep (t : List (List Nat)) (k : Nat) (P : Nat → Nat → Prop) : Prop where
  len : t.length = k + 1
  sorted : ∀ u, SortedLt (row t u)
  mem : ∀ u v, v ∈ row t u ↔ P u v

namespace Rep
variable {t : List (List Nat)} {k : Nat} {P Q : Nat → Nat → Prop}

theorem init (k : Nat) : Rep (List.replicate (k + 1) []) k (fun _ _ => False) :=
  ⟨by simp, fun u => by simp [row_replicate], fun u v => by simp [row_replicate]⟩

theorem congr (h : Rep t k P) (hpq : ∀ u v, P u v ↔ Q u v) : Rep t k Q :=
  ⟨h.len, h.sorted, fun u v => (h.mem u v).trans (hpq u v)⟩

theorem le_of (h : Rep t k P) {u v : Nat} (hp : P u v) : u ≤ k := by
  apply Nat.le_of_not_lt; intro hlt
  have : row t u = [] := row_of_ge (by rw [h.len]; omega)
  have := (h.mem u v).2 hp
  simp_all

theorem insert (h : Rep t k P) {u v : Nat} (hu : u ≤ k) (hn : ¬ P u v) :
    Rep (t.modify u (insertSorted · v)) k (fun a b => (a = u ∧ b = v) ∨ P a b) := by
  have hlen : u < t.length := by rw [h.len]; omega
  refine ⟨by rw [List.length_modify, h.len], fun a => ?_, fun a b => ?_⟩
  · rw [row_modify]
    split
    · exact sorted_insertSorted (h.sorted a) (fun hm => hn (by rename_i hh; rw [hh.1]; exact (h.mem a v).1 hm))
    · exact h.sorted a
  · rw [row_modify]
    split
    · rename_i hh
      rw [mem_insertSorted, h.mem]
      constructor
      · rintro (rfl | hp)
        · exact Or.inl ⟨hh.1.symm, rfl⟩
        · exact Or.inr hp
      · rintro (⟨_, rfl⟩ | hp)
        · exact Or.inl rfl
        · exact Or.inr hp
    · rename_i hh
      rw [h.mem]
      constructor
      · exact Or.inr
      · rintro (⟨rfl, _⟩ | hp)
        · exact absurd ⟨rfl, hlen⟩ hh
        · exact hp

theorem erase (h : Rep t k P) (u v : Nat) :
    Rep (t.modify u (removeFirst · v)) k (fun a b => P a b ∧ ¬ (a = u ∧ b = v)) := by
  refine ⟨by rw [List.length_modify, h.len], fun a => ?_, fun a b => ?_⟩
  · rw [row_modify]
    split
    · exact sorted_removeFirst (h.sorted a) v
    · exact h.sorted a
  · rw [row_modify]
    split
    · rename_i hh
      rw [mem_removeFirst (h.sorted a), h.mem]
      constructor
      · rintro ⟨hp, hne⟩; exact ⟨hp, fun hx => hne hx.2⟩
      · rintro ⟨hp, hne⟩; exact ⟨hp, fun hx => hne ⟨hh.1.symm, hx⟩⟩
    · rename_i hh
      rw [h.mem]
      constructor
      · intro hp
        refine ⟨hp, fun hx => hh ⟨hx.1.symm, ?_⟩⟩
        have := h.le_of hp; rw [h.len]; omega
      · exact fun hp => hp.1

theorem extend (h : Rep t k P) (j : Nat) : Rep (t ++ List.replicate j []) (k + j) P :=
  ⟨by simp [h.len]; omega, fun u => by rw [row_append_replicate]; exact h.sorted u,
   fun u v => by rw [row_append_replicate]; exact h.mem u v⟩

theorem unique {t' : List (List Nat)} (h : Rep t k P) (h' : Rep t' k P) : t = t' := by
  apply List.ext_getElem (by rw [h.len, h'.len])
  intro i h₁ h₂
  have e1 : row t i = t[i] := by simp [row, List.getD_eq_getElem?_getD, List.getElem?_eq_getElem h₁]
  have e2 : row t' i = t'[i] := by simp [row, List.getD_eq_getElem?_getD, List.getElem?_eq_getElem h₂]
  rw [← e1, ← e2]
  exact SortedLt.ext (h.sorted i) (h'.sorted i) (fun x => (h.mem i x).trans (h'.mem i x).symm)

end Rep

/-- lexicographic strict order on pairs: the order of every `edges()` iterator -/
def lexLt (a b : Nat × Nat) : Prop := a.1 < b.1 ∨ (a.1 = b.1 ∧ a.2 < b.2)

instance : DecidableRel lexLt := fun a b => by unfold lexLt; exact inferInstance

/-- `a ≤ b` lexicographically, as a Boolean (for `List.mergeSort`) -/
def lexLe (a b : Nat × Nat) : Bool := decide (a.1 < b.1 ∨ (a.1 = b.1 ∧ a.2 ≤ b.2))

abbrev SortedLex (l : List (Nat × Nat)) : Prop := l.Pairwise lexLt

theorem SortedLex.nodup {l : List (Nat × Nat)} (h : SortedLex l) : l.Nodup :=
  List.nodup_iff_pairwise_ne.2 (h.imp (fun {a b} hab heq => by subst heq; unfold lexLt at hab; omega))

theorem SortedLex.ext {l₁ l₂ : List (Nat × Nat)} (h₁ : SortedLex l₁) (h₂ : SortedLex l₂)
    (h : ∀ x, x ∈ l₁ ↔ x ∈ l₂) : l₁ = l₂ := by
  apply List.Perm.eq_of_pairwise (le := lexLt) _ h₁ h₂
  · exact (List.perm_ext_iff_of_nodup h₁.nodup h₂.nodup).2 h
  · intro a b _ _ hab hba; unfold lexLt at hab hba; omega

theorem SortedLex.eq_mergeSort {l E : List (Nat × Nat)} (hl : SortedLex l) (hE : E.Nodup)
    (h : ∀ x, x ∈ l ↔ x ∈ E) : l = E.mergeSort lexLe := by
  have hperm : l.Perm (E.mergeSort lexLe) :=
    ((List.perm_ext_iff_of_nodup hl.nodup hE).2 h).trans (List.mergeSort_perm E lexLe).symm
  have hs : (E.mergeSort lexLe).Pairwise (fun a b => lexLe a b = true) :=
    List.pairwise_mergeSort
      (by intro a b c; simp only [lexLe, decide_eq_true_eq]; omega)
      (by intro a b; simp only [lexLe, Bool.or_eq_true, decide_eq_true_eq]; omega) E
  have hl' : l.Pairwise (fun a b => lexLe a b = true) :=
    hl.imp (fun {a b} hab => by simp only [lexLe, decide_eq_true_eq]; unfold lexLt at hab; omega)
  apply List.Perm.eq_of_pairwise (le := fun a b => lexLe a b = true) _ hl' hs hperm
  intro a b _ _ hab hba
  simp only [lexLe, decide_eq_true_eq] at hab hba
  exact Prod.ext (by omega) (by omega)

/-- `for u in 1..k: for v in f u: yield (u, v)` -/
def tableEdges (f : Nat → List Nat) (k : Nat) : List (Nat × Nat) :=
  (List.range k).flatMap (fun i => (f (i + 1)).map (fun v => (i + 1, v)))

theorem mem_tableEdges {f : Nat → List Nat} {k : Nat} {e : Nat × Nat} :
    e ∈ tableEdges f k ↔ 1 ≤ e.1 ∧ e.1 ≤ k ∧ e.2 ∈ f e.1 := by
  obtain ⟨u, v⟩ := e
  simp only [tableEdges, List.mem_flatMap, List.mem_range, List.mem_map, Prod.mk.injEq]
  constructor
  · rintro ⟨i, hi, w, hw, rfl, rfl⟩; exact ⟨by omega, by omega, hw⟩
  · rintro ⟨h1, h2, h3⟩
    exact ⟨u - 1, by omega, v, by rw [show u - 1 + 1 = u by omega]; exact h3, by omega, rfl⟩

theorem sorted_tableEdges {f : Nat → List Nat} (h : ∀ u, SortedLt (f u)) (k : Nat) :
    SortedLex (tableEdges f k) := by
  unfold tableEdges SortedLex
  rw [List.pairwise_flatMap]
  constructor
  · intro i _
    rw [List.pairwise_map]
    exact (h (i + 1)).imp (fun hab => Or.inr ⟨rfl, hab⟩)
  · apply List.pairwise_lt_range.imp
    intro i j hij x hx y hy
    simp only [List.mem_map] at hx hy
    obtain ⟨_, _, rfl⟩ := hx
    obtain ⟨_, _, rfl⟩ := hy
    exact Or.inl (by simp only; omega)

/-- listing by second component (`edges_ordered_by_successors`) -/
def tableEdgesT (f : Nat → List Nat) (k : Nat) : List (Nat × Nat) :=
  (List.range k).flatMap (fun i => (f (i + 1)).map (fun s => (s, i + 1)))

theorem tableEdgesT_eq (f : Nat → List Nat) (k : Nat) :
    tableEdgesT f k = (tableEdges f k).map Prod.swap := by
  simp [tableEdgesT, tableEdges, List.map_flatMap, Function.comp_def]

end Cnfgen
