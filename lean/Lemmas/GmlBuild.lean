/-
C14 (GML) — from the dictionary of the written text back to the networkx object:
`buildGraph [("graph", dict (graphItems X))]` is the object `X` that was written.
-/
import Lemmas.GmlWrite
import Lemmas.GraphList
namespace Cnfgen.Gml
open Cnfgen GraphLex GraphFmt

def vals (k : Str) (items : List (Str × Val)) : List Val := (items.filter (fun p => p.1 == k)).map (·.2)

/-- `clean_dict_value` -/
def fieldOfVals : List Val → Field
  | [] => .absent
  | [v] => .one v
  | v :: vs => if isListStart v then .many vs else .many (v :: vs)

theorem lookup_eq (items : List (Str × Val)) (k : Str) : lookup items k = fieldOfVals (vals k items) := by
  unfold lookup vals
  generalize List.map (fun x : Str × Val => x.2) (List.filter (fun p => p.1 == k) items) = vs
  match vs with
  | [] => rfl
  | [_] => rfl
  | _ :: _ :: _ => rfl

theorem vals_append (k : Str) (a b : List (Str × Val)) : vals k (a ++ b) = vals k a ++ vals k b := by
  simp only [vals, List.filter_append, List.map_append]

theorem vals_cons (k k' : Str) (v : Val) (items : List (Str × Val)) :
    vals k ((k', v) :: items) = if k' = k then v :: vals k items else vals k items := by
  unfold vals
  by_cases h : k' = k
  · rw [if_pos h, List.filter_cons_of_pos (by simpa using h)]; rfl
  · rw [if_neg h, List.filter_cons_of_neg (by simpa using h)]

theorem vals_of_key {k' : Str} {items : List (Str × Val)} (h : ∀ p ∈ items, p.1 = k') (k : Str) :
    vals k items = if k' = k then items.map (·.2) else [] := by
  induction items with
  | nil => split <;> rfl
  | cons p items ih =>
    obtain ⟨k₁, v⟩ := p
    obtain rfl : k₁ = k' := h _ (List.mem_cons_self ..)
    rw [vals_cons, ih (fun q hq => h q (List.mem_cons_of_mem _ hq))]
    split <;> rfl

theorem toList_of_dicts (vs : List Val) (h : ∀ v ∈ vs, ∃ items, v = .dict items) : (fieldOfVals vs).toList = vs := by
  match vs, h with
  | [], _ => rfl
  | [v], h => obtain ⟨_, rfl⟩ := h v (List.mem_cons_self ..); rfl
  | v :: _ :: _, h => obtain ⟨_, rfl⟩ := h v (List.mem_cons_self ..); rfl

theorem nodeItems_key (ps : List (Nat × Option Bool)) : ∀ i, ∀ q ∈ nodeItems i ps, q.1 = "node".toList := by
  induction ps with
  | nil => intro i q hq; cases hq
  | cons p ps ih =>
    intro i q hq
    rcases List.mem_cons.1 hq with rfl | hq
    · rfl
    · exact ih (i + 1) q hq

theorem nodeItems_dicts (ps : List (Nat × Option Bool)) : ∀ i, ∀ v ∈ (nodeItems i ps).map (·.2), ∃ items, v = .dict items := by
  induction ps with
  | nil => intro i v hv; cases hv
  | cons p ps ih =>
    intro i v hv
    rcases List.mem_cons.1 hv with rfl | hv
    · exact ⟨_, rfl⟩
    · exact ih (i + 1) v hv

def labelsFrom (i n : Nat) : List Label := (List.range' i n).map (fun j : Nat => Label.int (j : Int))

def colourOfAttr : Option Bool → Colour
  | none => .invalid
  | some false => .left
  | some true => .right

theorem labelsFrom_succ (a n : Nat) : labelsFrom a (n + 1) = Label.int (a : Int) :: labelsFrom (a + 1) n := by
  simp only [labelsFrom, List.range'_succ, List.map_cons]

/-- one round of the node loop on a written node: `id` is there and is an integer, no keyword clashes, and the
`bipartite` attribute is read back -/
theorem addNodes_nodeVal (i : Nat) (p : Nat × Option Bool) (vs : List Val) (ls : List Label) (cs : List Colour) :
    addNodes (nodeVal i p :: vs) ls cs =
      if ls.contains (.int (i : Int)) then .err .networkx
      else addNodes vs (ls ++ [.int (i : Int)]) (cs ++ [colourOfAttr p.2]) := by
  rcases p with ⟨v, _ | _ | _⟩ <;> rfl

theorem addNodes_nodeItems (ps : List (Nat × Option Bool)) : ∀ (i : Nat) (ls : List Label) (cs : List Colour),
    (∀ l ∈ ls, ∃ j : Nat, j < i ∧ l = Label.int (j : Int)) →
    addNodes ((nodeItems i ps).map (·.2)) ls cs =
      .ok (ls ++ labelsFrom i ps.length, cs ++ ps.map (fun p => colourOfAttr p.2)) := by
  induction ps with
  | nil => intro i ls cs _; simp [nodeItems, addNodes, labelsFrom]
  | cons p ps ih =>
    intro i ls cs hls
    have hnm : ¬ ls.contains (Label.int (i : Int)) = true := by
      intro hc
      obtain ⟨j, hj, e⟩ := hls _ (List.contains_iff_mem.1 hc)
      injection e with e
      omega
    have hls' : ∀ l ∈ ls ++ [Label.int (i : Int)], ∃ j : Nat, j < i + 1 ∧ l = Label.int (j : Int) := by
      intro l hl
      rcases List.mem_append.1 hl with h | h
      · obtain ⟨j, hj, e⟩ := hls l h; exact ⟨j, by omega, e⟩
      · exact ⟨i, by omega, List.mem_singleton.1 h⟩
    rw [nodeItems, List.map_cons, addNodes_nodeVal, if_neg hnm, ih (i + 1) _ _ hls', List.length_cons, labelsFrom_succ]
    simp only [List.append_assoc, List.cons_append, List.nil_append, List.map_cons]

theorem labelsFrom_eq_map (n : Nat) : labelsFrom 0 n = (List.range n).map (fun j : Nat => Label.int (j : Int)) := by
  simp [labelsFrom, List.range_eq_range']

theorem idxOf_labelsFrom (n k : Nat) (hk : k < n) :
    (labelsFrom 0 n).idxOf (Label.int (k : Int)) = k ∧ Label.int (k : Int) ∈ labelsFrom 0 n := by
  rw [labelsFrom_eq_map]
  exact ⟨idxOf_map_range (fun j : Nat => Label.int (j : Int)) (fun x y hxy _ h => by injection h with h; omega) hk,
    List.mem_map.2 ⟨k, List.mem_range.2 hk, rfl⟩⟩

theorem findNode_labelsFrom (n i : Nat) (h : i < n) :
    findNode (labelsFrom 0 n) (.label (.int (i : Int))) = .ok i := by
  obtain ⟨h1, h2⟩ := idxOf_labelsFrom n i h
  simp only [findNode, List.contains_iff_mem, h2, if_true, h1]

/-- no edge is listed twice (for an undirected graph: in neither orientation) -/
def EdgesDistinct (directed : Bool) (es : List (Nat × Nat)) : Prop :=
  es.Pairwise (fun a b => a ≠ b ∧ (directed = false → a ≠ (b.2, b.1)))

theorem hasEdge_eq_false {d : Bool} {es : List (Nat × Nat)} {s t : Nat} :
    hasEdge d es s t = false ↔ ∀ a ∈ es, a ≠ (s, t) ∧ (d = false → a ≠ (t, s)) := by
  have key : ∀ p : Nat × Nat, es.contains p = false ↔ ∀ a ∈ es, a ≠ p := fun p => by
    rw [Bool.eq_false_iff, Ne, List.contains_iff_mem]
    exact ⟨fun h a ha e => h (e ▸ ha), fun h hp => h p hp rfl⟩
  rw [hasEdge, Bool.or_eq_false_iff, Bool.and_eq_false_iff, key, key]
  cases d
  · exact ⟨fun h a ha => ⟨h.1 a ha, fun _ => h.2.resolve_left (by decide) a ha⟩,
      fun h => ⟨fun a ha => (h a ha).1, .inr fun a ha => (h a ha).2 rfl⟩⟩
  · exact ⟨fun h a ha => ⟨h.1 a ha, fun e => by cases e⟩, fun h => ⟨fun a ha => (h a ha).1, .inl rfl⟩⟩

theorem addEdges_edgeVals (directed : Bool) (n : Nat) (es : List (Nat × Nat)) : ∀ acc : List (Nat × Nat),
    (∀ e ∈ es, e.1 < n ∧ e.2 < n) → EdgesDistinct directed (acc ++ es) →
    addEdges directed (labelsFrom 0 n) (es.map edgeVal) acc = .ok (acc ++ es) := by
  induction es with
  | nil => intro acc _ _; simp [addEdges]
  | cons e es ih =>
    intro acc hr hd
    have he := hr e (List.mem_cons_self ..)
    have hrec := ih (acc ++ [e]) (fun x hx => hr x (List.mem_cons_of_mem _ hx)) (by simpa [EdgesDistinct] using hd)
    have hno : hasEdge directed acc e.1 e.2 = false := by
      unfold EdgesDistinct at hd
      exact hasEdge_eq_false.2 fun a ha => (List.pairwise_append.1 hd).2.2 a ha e (List.mem_cons_self ..)
    simp only [List.map_cons, edgeVal, addEdges]
    have l1 : lookup [("source".toList, Val.int (e.1 : Int)), ("target".toList, Val.int (e.2 : Int))] "source".toList =
        .one (.int (e.1 : Int)) := by rfl
    have l2 : lookup [("source".toList, Val.int (e.1 : Int)), ("target".toList, Val.int (e.2 : Int))] "target".toList =
        .one (.int (e.2 : Int)) := by rfl
    have l3 : edgeKwClash.any (hasKey [("source".toList, Val.int (e.1 : Int)), ("target".toList, Val.int (e.2 : Int))]) = false := by
      rfl
    rw [l1, l2]
    simp only [nodeRef, findNode_labelsFrom n e.1 he.1, findNode_labelsFrom n e.2 he.2, hno, l3, Bool.false_eq_true, if_false]
    simpa [edgeVal] using hrec

def nameField (X : NxOut) : Field :=
  match X.name with
  | none => .absent
  | some nm => .one (nameVal nm)

/-- what `parse_gml_lines` returns for the text written from `X` -/
def parsedOf (X : NxOut) : Parsed :=
  ⟨X.directed, labelsFrom 0 X.nodes.length, X.nodes.map (fun p => colourOfAttr p.2),
   nxEdges X.directed X.nodes.length X.tedges, nameField X⟩

theorem vals_graphItems (X : NxOut) (k : Str) :
    vals k (graphItems X) = vals k (headItems X) ++
      ((if "node".toList = k then (nodeItems 0 X.nodes).map (·.2) else []) ++
       (if "edge".toList = k then (nxEdges X.directed X.nodes.length X.tedges).map edgeVal else [])) := by
  have he : ∀ es : List (Nat × Nat), (edgeItems es).map (·.2) = es.map edgeVal := fun es => by
    simp only [edgeItems, List.map_map, Function.comp_def]
  have hk : ∀ q ∈ edgeItems (nxEdges X.directed X.nodes.length X.tedges), q.1 = "edge".toList := fun q hq => by
    obtain ⟨_, _, rfl⟩ := List.mem_map.1 hq; rfl
  rw [graphItems, vals_append, vals_append, vals_of_key (nodeItems_key _ 0) k, vals_of_key hk k, he, List.append_assoc]

theorem vals_headItems_other (X : NxOut) {k : Str} (h1 : "directed".toList ≠ k) (h2 : "name".toList ≠ k) :
    vals k (headItems X) = [] := by
  have e1 : vals k (if X.directed = true then [("directed".toList, Val.int 1)] else []) = [] := by
    split
    · rw [vals_cons, if_neg h1]; rfl
    · rfl
  rw [headItems, vals_append, e1, List.nil_append]
  cases X.name
  · rfl
  · exact (vals_cons ..).trans (if_neg h2)

theorem lookup_graphItems_head (X : NxOut) {k : Str} (h1 : "node".toList ≠ k) (h2 : "edge".toList ≠ k) :
    lookup (graphItems X) k = lookup (headItems X) k := by
  rw [lookup_eq, lookup_eq, vals_graphItems, if_neg h1, if_neg h2, List.append_nil, List.append_nil]

theorem buildGraph_graphItems (X : NxOut) (hp : Printable X)
    (hd : EdgesDistinct X.directed (nxEdges X.directed X.nodes.length X.tedges)) :
    buildGraph [("graph".toList, .dict (graphItems X))] = .ok (parsedOf X) := by
  have hg : lookup [("graph".toList, Val.dict (graphItems X))] "graph".toList = .one (.dict (graphItems X)) := by rfl
  have hdir : truthy (lookup (graphItems X) "directed".toList) = some X.directed := by
    rw [lookup_graphItems_head X (by decide) (by decide)]
    unfold headItems
    cases X.directed <;> cases X.name <;> rfl
  have hmul : truthy (lookup (graphItems X) "multigraph".toList) = some false := by
    rw [lookup_graphItems_head X (by decide) (by decide), lookup_eq, vals_headItems_other X (by decide) (by decide)]
    rfl
  have hname : lookup (graphItems X) "name".toList = nameField X := by
    rw [lookup_graphItems_head X (by decide) (by decide)]
    unfold headItems nameField
    cases X.directed <;> cases X.name <;> rfl
  have hnode : (lookup (graphItems X) "node".toList).toList = (nodeItems 0 X.nodes).map (·.2) := by
    rw [lookup_eq, vals_graphItems, vals_headItems_other X (by decide) (by decide), if_pos rfl,
      if_neg (by decide), List.nil_append, List.append_nil]
    exact toList_of_dicts _ (nodeItems_dicts _ _)
  have hedge : (lookup (graphItems X) "edge".toList).toList = (nxEdges X.directed X.nodes.length X.tedges).map edgeVal := by
    rw [lookup_eq, vals_graphItems, vals_headItems_other X (by decide) (by decide), if_neg (by decide), if_pos rfl,
      List.nil_append, List.nil_append]
    exact toList_of_dicts _ (fun v hv => by obtain ⟨_, _, rfl⟩ := List.mem_map.1 hv; exact ⟨_, rfl⟩)
  have hnodes := addNodes_nodeItems X.nodes 0 [] [] (by intro l hl; cases hl)
  have hedges := addEdges_edgeVals X.directed X.nodes.length _ [] hp.ends (by simpa using hd)
  simp only [List.nil_append] at hnodes hedges
  simp only [buildGraph, hg, hdir, hmul, hnode, hnodes, hedge, hedges, hname, parsedOf]

/-- the text written from `X`, read by the model of `networkx.read_gml(..., label='id')`, is `X` -/
theorem parseGml_gmlText (u : Bool) (X : NxOut) (hp : Printable X)
    (hd : EdgesDistinct X.directed (nxEdges X.directed X.nodes.length X.tedges)) :
    parseGml u (gmlText X) = .ok (parsedOf X) := by
  simp only [parseGml, tokenize_gmlText u X hp, parseToks_gmlToks, buildGraph_graphItems X hp hd]

end Cnfgen.Gml
