/-
Character level, graph formats — the three in-house writers: the text `_write_graph_kthlist_*`,
`_write_graph_dimacs_format`, `_write_graph_matrix_format` produce (`kthText`, `dimacsText`,
`matrixText` of `IO/GraphFmt.lean`) is a sequence of newline-closed lines, and the graph lexer maps
it — read from a `StringIO` or from a text-mode file — to exactly the rows of the row-level writers
(`kthRows`, `dimacsRows`, `writeMatrix`), for every graph name and all numbers below CPython's
digit limit.
-/
import Lemmas.IOGraphText
import Lemmas.IOTextDimacs
import Lemmas.GraphIOKth
namespace Cnfgen.GraphFmt
open Cnfgen Cnfgen.GraphLex

theorem natStr_zero : natStr 0 = ['0'] := by decide

/-- `str(v) + " :" + "".join(' ' + str(i) for i in nbors) + " 0"` -/
def kthListLine (p : Nat × List Nat) : Str :=
  natStr p.1 ++ ' ' :: ':' :: ((p.2 ++ [0]).flatMap (fun i => ' ' :: natStr i))

theorem kthListText_eq : kthListText = fun p => kthListLine p ++ ['\n'] := by
  funext p
  have h1 : " :".toList = [' ', ':'] := String.toList_ofList
  have h2 : " 0\n".toList = [' ', '0', '\n'] := String.toList_ofList
  simp [-String.reduceToList, kthListText, kthListLine, h1, h2, List.flatMap_append, natStr_zero]

theorem kthListLine_noNL (p : Nat × List Nat) : IO.NoNL (kthListLine p) := by
  unfold kthListLine
  refine (IO.natStr_noNL _).append (IO.NoNL.cons (by decide) (IO.NoNL.cons (by decide) ?_))
  exact IO.noNL_flatMap _ _ (fun i _ => IO.NoNL.cons (by decide) (IO.natStr_noNL i))

theorem lexKthLine_comment (l : Str) : lexKthLine ('c' :: l) = .comment := by
  simp [lexKthLine]

theorem lexKthLine_size (n : Nat) : lexKthLine (natStr n ++ ['\n']) = .spec (pyInt? (natStr n)) := by
  have hstrip : strip (natStr n ++ ['\n']) = natStr n := by
    rw [strip_append_ws _ _ IO.isSpace_nl, IO.strip_noWS _ (IO.natStr_noWS n)]
  have hcolon : (natStr n ++ ['\n']).contains ':' = false := by
    simpa using not_mem_natStr (x := ':') (by decide) n
  unfold lexKthLine
  rw [if_neg (natStr_head_ne (by decide) n _), hstrip, hcolon]
  simp [(IO.natStr_digits n).2.1]

/-- `left : right` on a line whose first character is neither `c` nor white space: `int(left.strip())` and
`[int(s) for s in right.split()]` -/
theorem lexKthLine_colon (c : Char) (a b : Str) (x : Int) (r : List Int) (hc : c ≠ 'c') (hs : isSpace c = false)
    (ha : ':' ∉ c :: a) (hb : ':' ∉ b) (hx : pyInt? (strip (c :: a)) = some x) (hr : (splitWS b).mapM pyInt? = some r) :
    lexKthLine (c :: a ++ ':' :: b) = .adj (some (x, r)) := by
  obtain ⟨z, hz⟩ := strip_cons c (a ++ ':' :: b) hs
  have hcolon : (c :: a ++ ':' :: b).contains ':' = true := by simp
  unfold lexKthLine
  rw [if_neg (by simpa using hc), List.cons_append, hz, ← List.cons_append, hcolon, splitOn_first ':' _ b ha, splitOn_none ':' b hb]
  simp [hx, hr]

theorem lexKthLine_adj (p : Nat × List Nat) (h1 : Small p.1) (h2 : ∀ i ∈ p.2, Small i) :
    lexKthLine (kthListLine p ++ ['\n']) = kthAdjRow p.1 p.2 := by
  have hd : ∀ i, ':' ∉ natStr i := not_mem_natStr (by decide)
  obtain ⟨c, cs, hs, hc⟩ := IO.natStr_cons p.1
  have hline : kthListLine p ++ ['\n'] =
      c :: (cs ++ [' ']) ++ ':' :: (((p.2 ++ [0]).map natStr).flatMap (fun t => ' ' :: t) ++ ['\n']) := by
    simp [kthListLine, hs, List.flatMap_map]
  rw [hline]
  refine lexKthLine_colon c _ _ _ _ (fun e => (by decide : ¬ IO.IsDigit 'c') (e ▸ hc)) (IO.isDigit_ne hc).1 ?_ (by simp [hd]) ?_ ?_
  · rw [← List.cons_append, ← hs]; simp [hd]
  · rw [← List.cons_append, ← hs, strip_append_ws _ _ IO.isSpace_blank, IO.strip_noWS _ (IO.natStr_noWS _)]
    exact pyInt_natStr _ h1
  · rw [splitWS_blank_toks _ (isTok_natStrs _),
      mapM_pyInt_natStr _ fun i hi => (List.mem_append.1 hi).elim (h2 i) fun e =>
        List.mem_singleton.1 e ▸ IO.lt_limit_of_le (by decide)]
    simp

/-- a kthlist file up to its size line: one `c ` line per line of the name, then the order; `body` is whatever follows -/
theorem lexKth_head (u : Bool) (name : Str) (n : Nat) (body : Str) :
    (glines u ((nameLines name).flatMap (fun l => "c ".toList ++ l ++ ['\n']) ++ (natStr n ++ '\n' :: body))).map lexKthLine =
      List.replicate (nameLines name).length .comment ++ .spec (pyInt? (natStr n)) :: (glines u body).map lexKthLine := by
  rw [show "c ".toList = ['c', ' '] from String.toList_ofList,
    map_glines_lines _ u (fun l => ['c', ' '] ++ l) (fun _ => KRow.comment) _ _ fun l hl =>
      ⟨((nameLines_noNL name l hl).cons (by decide)).cons (by decide), lexKthLine_comment _⟩,
    glines_cons_line u _ _ (IO.natStr_noNL n), List.map_cons, lexKthLine_size, List.map_const']

theorem lexKth_kthText (u : Bool) (name : Str) (n : Nat) (lists : List (Nat × List Nat)) (hn : Small n)
    (hl : ∀ p ∈ lists, Small p.1 ∧ ∀ i ∈ p.2, Small i) :
    lexKth (if u then universalNL (kthText name n lists) else kthText name n lists) =
      kthRows (nameLines name).length n lists := by
  have hblank : (glines u ['\n']).map lexKthLine = [.blank] := by cases u <;> decide
  show (glines u (kthText name n lists)).map lexKthLine = _
  unfold kthText kthRows
  rw [kthListText_eq, List.append_assoc, List.append_assoc, List.append_assoc, List.singleton_append, lexKth_head,
    pyInt_natStr n hn,
    map_glines_lines _ u kthListLine (fun p => kthAdjRow p.1 p.2) _ _ fun p hp =>
      ⟨kthListLine_noNL p, lexKthLine_adj p (hl p hp).1 (hl p hp).2⟩,
    hblank]

theorem kthHeader_kthText_big (u : Bool) (name : Str) (n : Nat) (lists : List (Nat × List Nat))
    (h : 10 ^ maxStrDigits ≤ n) :
    kthHeader (lexKth (if u then universalNL (kthText name n lists) else kthText name n lists)) =
      .error .valueError := by
  show kthHeader ((glines u (kthText name n lists)).map lexKthLine) = _
  unfold kthText
  rw [List.append_assoc, List.append_assoc, List.append_assoc, List.singleton_append, lexKth_head,
    pyInt_natStr_big n h, kthHeader_comments]
  rfl

def probLine (n m : Nat) : Str := join [' '] [['p'], ['e', 'd', 'g', 'e'], natStr n, natStr m]

def edgeLine (e : Nat × Nat) : Str := join [' '] [['e'], natStr e.1, natStr e.2]

theorem isTok_probLine (n m : Nat) : ∀ t ∈ [['p'], ['e', 'd', 'g', 'e'], natStr n, natStr m], IO.IsTok t := by
  simp [IO.isTok_natStr, IO.isTok_lit ['p'] (by decide), IO.isTok_lit ['e', 'd', 'g', 'e'] (by decide)]

theorem isTok_edgeLine (e : Nat × Nat) : ∀ t ∈ [['e'], natStr e.1, natStr e.2], IO.IsTok t := by
  simp [IO.isTok_natStr, IO.isTok_lit ['e'] (by decide)]

/-- a DIMACS graph file line by line: `"c {}".format(line).strip()` per line of the name, the problem line, one line per edge -/
theorem dimacsText_eq (name : Str) (n m : Nat) (edges : List (Nat × Nat)) :
    dimacsText name n m edges = (nameLines name).flatMap (fun l => strip ('c' :: ' ' :: l) ++ ['\n']) ++
      (probLine n m ++ '\n' :: edges.flatMap (fun e => edgeLine e ++ ['\n'])) := by
  have h1 : "c ".toList = ['c', ' '] := String.toList_ofList
  have h2 : "p edge ".toList = ['p', ' ', 'e', 'd', 'g', 'e', ' '] := String.toList_ofList
  have h3 : "e ".toList = ['e', ' '] := String.toList_ofList
  simp [-String.reduceToList, dimacsText, h1, h2, h3, probLine, edgeLine, join]

theorem lexDimacsLine_comment (l : Str) : lexDimacsLine (strip ('c' :: l) ++ ['\n']) = .comment := by
  obtain ⟨z, hz⟩ := strip_cons 'c' l (by decide)
  obtain ⟨z', hz'⟩ := strip_cons 'c' z (by decide)
  unfold lexDimacsLine
  simp only [strip_append_ws _ _ IO.isSpace_nl, hz, hz']
  simp

theorem lexDimacsLine_prob (n m : Nat) (hn : Small n) (hm : Small m) :
    lexDimacsLine (probLine n m ++ ['\n']) = .prob (some ((n : Int), (m : Int))) := by
  obtain ⟨z, hz, hs⟩ := strip_join_line 'p' [] _ (isTok_probLine n m)
  unfold lexDimacsLine probLine
  rw [hz]
  simp only [hs, pyInt_natStr n hn, pyInt_natStr m hm]
  simp

theorem lexDimacsLine_edge (e : Nat × Nat) (h1 : Small e.1) (h2 : Small e.2) :
    lexDimacsLine (edgeLine e ++ ['\n']) = .edge (some ((e.1 : Int), (e.2 : Int))) := by
  obtain ⟨z, hz, hs⟩ := strip_join_line 'e' [] _ (isTok_edgeLine e)
  unfold lexDimacsLine edgeLine
  rw [hz]
  simp only [hs, pyInt_natStr _ h1, pyInt_natStr _ h2]
  simp

theorem lexDimacs_dimacsText (u : Bool) (name : Str) (n m : Nat) (edges : List (Nat × Nat)) (hn : Small n)
    (hm : Small m) (he : ∀ e ∈ edges, Small e.1 ∧ Small e.2) :
    lexDimacs (if u then universalNL (dimacsText name n m edges) else dimacsText name n m edges) =
      dimacsRows (nameLines name).length n m edges := by
  show (glines u (dimacsText name n m edges)).map lexDimacsLine = _
  rw [dimacsText_eq,
    map_glines_lines _ u (fun l => strip ('c' :: ' ' :: l)) (fun _ => DRow.comment) _ _ fun l hl =>
      ⟨fun c hc => ((nameLines_noNL name l hl).cons (by decide)).cons (by decide) c (mem_of_mem_strip hc),
        lexDimacsLine_comment _⟩,
    glines_cons_line u (probLine n m) _ (IO.noNL_join_toks _ (isTok_probLine n m)), List.map_cons, lexDimacsLine_prob n m hn hm,
    map_glines_end _ u edgeLine (fun e => DRow.edge (some ((e.1 : Int), (e.2 : Int)))) _ fun e hin =>
      ⟨IO.noNL_join_toks _ (isTok_edgeLine e), lexDimacsLine_edge e (he e hin).1 (he e hin).2⟩,
    List.map_const']
  rfl

/-- row `i + 1` of the adjacency matrix, as numbers -/
def matrixBits (G : BipG) (i : Nat) : List Nat :=
  (List.range G.r).map (fun j => if G.hasEdge ((i + 1 : Nat) : Int) ((j + 1 : Nat) : Int) then 1 else 0)

theorem matrixText_eq (G : BipG) : matrixText G = join [' '] ([G.l, G.r].map natStr) ++
    '\n' :: (List.range G.l).flatMap (fun i => join [' '] ((matrixBits G i).map natStr) ++ ['\n']) := by
  have h1 : natStr 1 = ['1'] := by decide
  simp [matrixText, matrixBits, join, Function.comp_def, apply_ite natStr, h1, natStr_zero]

/-- a line of numbers, as `scan_integer` sees it: skipped when empty -/
theorem lexMatrixLine_nats (l : List Nat) (h : ∀ i ∈ l, Small i) :
    lexMatrixLine (join [' '] (l.map natStr) ++ ['\n']) = if l = [] then .skip else .nums (some (l.map Int.ofNat)) := by
  unfold lexMatrixLine
  rw [IO.splitWS_join_nl _ (isTok_natStrs _)]
  cases l with
  | nil => rfl
  | cons i is =>
    have hhash : (natStr i).head? ≠ some '#' := by simpa using natStr_head_ne (by decide) i []
    rw [List.map_cons]
    simp only [if_neg hhash]
    rw [← List.map_cons, mapM_pyInt_natStr _ h]
    simp

theorem lexMatrix_matrixText (u : Bool) (G : BipG) (hl : Small G.l) (hr : Small G.r) :
    lexMatrix (if u then universalNL (matrixText G) else matrixText G) = writeMatrix G := by
  show (glines u (matrixText G)).map lexMatrixLine = _
  rw [matrixText_eq, glines_cons_line u _ _ (IO.noNL_join_toks _ (isTok_natStrs _)),
    List.map_cons, lexMatrixLine_nats _ (by simp [hl, hr]),
    map_glines_end _ u (fun i => join [' '] ((matrixBits G i).map natStr)) (fun i => matrixRow G (i + 1)) _ fun i _ => ⟨?_, ?_⟩]
  · rfl
  · exact IO.noNL_join_toks _ (isTok_natStrs _)
  · rw [lexMatrixLine_nats _ fun b hb => by
      obtain ⟨j, _, rfl⟩ := List.mem_map.1 hb; split <;> exact IO.lt_limit_of_le (by decide)]
    simp [matrixRow, matrixBits, Function.comp_def, apply_ite (Nat.cast (R := Int))]

end Cnfgen.GraphFmt
