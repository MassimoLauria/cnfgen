/-
Helper lemmas for C20: the `s`/`v` loop (`runLines`) read line by line, rendered well-formed
solver answers, and `splitlines` of newline-terminated lines.
-/
import Lemmas.SolverTokens
namespace Cnfgen.Solver

/-- the exception the loop raises at this line, if any (a value line with a non-integer word:
the `ValueError` of `int()` re-raised as `RuntimeError`; status lines never raise) -/
def lineErr (l : Str) : Option Err :=
  match l with
  | [] => none
  | c :: _ =>
    if c = 'v' then
      match catchValueError (vInts l) with
      | .error e => some e
      | .ok _ => none
    else none

/-- `some r`: the line is a status line and sets `result := r` -/
def lineVerdict (l : Str) : Option (Option Bool) :=
  match l with
  | [] => none
  | c :: _ => if c = 's' then some (verdictOfWords (pySplit l)) else none

/-- the integers a value line contributes to `witness` -/
def lineLits (l : Str) : List Int :=
  match l with
  | [] => []
  | c :: _ =>
    if c = 'v' then
      match vInts l with
      | .ok ws => ws
      | .error _ => []
    else []

def applyVerdict (r : Option Bool) (l : Str) : Option Bool :=
  match lineVerdict l with
  | some v => v
  | none => r

/-- `result` after the loop when it started as `init` -/
def lastVerdict (init : Option Bool) (lines : List Str) : Option Bool :=
  lines.foldl applyVerdict init

theorem s_ne_v : ('s' : Char) ≠ 'v' := by decide

theorem stepLine_eq (st : PState) (l : Str) :
    stepLine st l = match lineErr l with
      | some e => .error e
      | none => .ok ⟨applyVerdict st.result l, st.witness ++ lineLits l⟩ := by
  cases l with
  | nil => simp [stepLine, lineErr, applyVerdict, lineVerdict, lineLits]
  | cons c cs =>
    by_cases hv : c = 'v'
    · subst hv
      simp only [stepLine, lineErr, applyVerdict, lineVerdict, lineLits, s_ne_v.symm, if_true, if_false]
      cases hx : vInts ('v' :: cs) with
      | ok ws => rfl
      | error e => cases e <;> rfl
    · by_cases hs : c = 's' <;> simp [stepLine, lineErr, applyVerdict, lineVerdict, lineLits, hs, hv]

theorem runLines_eq (st : PState) (lines : List Str) :
    runLines st lines = match lines.findSome? lineErr with
      | some e => .error e
      | none => .ok ⟨lastVerdict st.result lines, st.witness ++ lines.flatMap lineLits⟩ := by
  induction lines generalizing st with
  | nil => simp [runLines, lastVerdict]
  | cons l ls ih =>
    rw [runLines, stepLine_eq, List.findSome?_cons]
    cases lineErr l with
    | some e => rfl
    | none => simp [ih, lastVerdict, List.flatMap_cons, List.append_assoc]

theorem lastVerdict_eq (init : Option Bool) (lines : List Str) :
    lastVerdict init lines = (lines.filterMap lineVerdict).getLast?.getD init := by
  induction lines generalizing init with
  | nil => rfl
  | cons l ls ih =>
    rw [lastVerdict, List.foldl_cons, ← lastVerdict, ih, applyVerdict, List.filterMap_cons]
    cases lineVerdict l with
    | none => rfl
    | some v => rw [List.getLast?_cons]; rfl

theorem lastVerdict_no_status (init : Option Bool) (lines : List Str)
    (h : ∀ l ∈ lines, lineVerdict l = none) : lastVerdict init lines = init := by
  rw [lastVerdict_eq, List.filterMap_eq_nil_iff.2 h]
  rfl

theorem lastVerdict_last (init : Option Bool) (pre post : List Str) (sl : Str) (v : Option Bool)
    (hs : lineVerdict sl = some v) (hpost : ∀ l ∈ post, lineVerdict l = none) :
    lastVerdict init (pre ++ sl :: post) = v := by
  rw [lastVerdict_eq, List.filterMap_append, List.filterMap_cons, hs, List.filterMap_eq_nil_iff.2 hpost,
    List.getLast?_concat]
  rfl

theorem lastVerdict_const (init : Option Bool) (lines : List Str) (v : Option Bool)
    (hall : ∀ l ∈ lines, lineVerdict l = none ∨ lineVerdict l = some v)
    (hex : ∃ l ∈ lines, lineVerdict l = some v) : lastVerdict init lines = v := by
  rw [lastVerdict_eq]
  cases hw : (lines.filterMap lineVerdict).getLast? with
  | none =>
    obtain ⟨l, hl, hv⟩ := hex
    rw [List.getLast?_eq_none_iff, List.filterMap_eq_nil_iff] at hw
    cases (hw l hl).symm.trans hv
  | some w =>
    obtain ⟨l, hl, hlw⟩ := List.mem_filterMap.1 (List.mem_of_getLast? hw)
    rcases hall l hl with h | h
    · cases h.symm.trans hlw
    · cases h.symm.trans hlw; rfl

theorem parseStdout_of_ok (lines : List Str) (h : ∀ l ∈ lines, lineErr l = none) :
    parseStdout lines = finish ⟨lastVerdict none lines, lines.flatMap lineLits⟩ := by
  simp [parseStdout, runLines_eq, List.findSome?_eq_none_iff.2 h]

theorem parseStdout_ok_inv (lines : List Str) (r : Bool × Option (List Int))
    (h : parseStdout lines = .ok r) :
    (∀ l ∈ lines, lineErr l = none) ∧
      finish ⟨lastVerdict none lines, lines.flatMap lineLits⟩ = .ok r := by
  rw [parseStdout, runLines_eq] at h
  cases he : lines.findSome? lineErr with
  | some e => rw [he] at h; cases h
  | none =>
    rw [he] at h
    exact ⟨List.findSome?_eq_none_iff.1 he, by simpa using h⟩

/-- the separators and the integer tokens of a value line / result file -/
def litSegs (lits : List (Str × Int)) : List (Str × Str) := lits.map (fun p => (p.1, showInt p.2))

/-- optional terminating `0` (with its separator) -/
def zeroSeg : Option Str → List (Str × Str)
  | none => []
  | some s => [(s, tok0)]

/-- what is required of the literals of a rendered answer: proper separators, non-zero, below the
digit limit of `int()` -/
def GoodLits (lits : List (Str × Int)) : Prop :=
  ∀ p ∈ lits, AllSpace p.1 ∧ p.1 ≠ [] ∧ p.2 ≠ 0 ∧ p.2.natAbs < 10 ^ maxStrDigits

def GoodZero : Option Str → Prop
  | none => True
  | some s => AllSpace s ∧ s ≠ []

theorem noSpace_tok0 : NoSpace tok0 := by intro c hc; simp [tok0] at hc; subst hc; decide

theorem goodSegs_lits (lits : List (Str × Int)) (z : Option Str) (h : GoodLits lits) (hz : GoodZero z) :
    GoodSegs (litSegs lits ++ zeroSeg z) := by
  intro p hp
  simp only [List.mem_append, litSegs, List.mem_map] at hp
  rcases hp with ⟨q, hq, rfl⟩ | hp
  · obtain ⟨h1, h2, _, _⟩ := h q hq
    exact ⟨h1, h2, noSpace_showInt _, showInt_ne_nil _⟩
  · cases z with
    | none => simp [zeroSeg] at hp
    | some s =>
      simp only [zeroSeg, List.mem_singleton] at hp
      subst hp
      exact ⟨hz.1, hz.2, noSpace_tok0, by simp [tok0]⟩

theorem filter_lits (q : Str → Bool) (hq0 : q tok0 = false) (hq : ∀ i : Int, i ≠ 0 → q (showInt i) = true)
    (lits : List (Str × Int)) (z : Option Str) (h : GoodLits lits) :
    ((litSegs lits ++ zeroSeg z).map (·.2)).filter q = lits.map (fun p => showInt p.2) := by
  have hz : ((zeroSeg z).map (·.2)).filter q = [] := by
    cases z <;> simp [zeroSeg, hq0]
  rw [List.map_append, List.filter_append, hz, List.append_nil]
  simp only [litSegs, List.map_map]
  rw [List.filter_eq_self.mpr]
  · rfl
  · intro t ht
    simp only [List.mem_map, Function.comp] at ht
    obtain ⟨p, hp, rfl⟩ := ht
    exact hq _ (h p hp).2.2.1

theorem mapE_showInt (lits : List (Str × Int)) (h : GoodLits lits) :
    mapE pyIntE (lits.map (fun p => showInt p.2)) = .ok (lits.map (·.2)) := by
  induction lits with
  | nil => rfl
  | cons p r ih =>
    obtain ⟨_, _, _, h4⟩ := h p (by simp)
    have hr : GoodLits r := fun q hq => h q (by simp [hq])
    simp [mapE, pyIntE, pyInt_showInt p.2 h4, ih hr]

/-- a value line: `v`, literals each preceded by whitespace, optional `0`, trailing blanks -/
def renderValues (lits : List (Str × Int)) (z : Option Str) (trail : Str) : Str :=
  tokV ++ (glue (litSegs lits ++ zeroSeg z) ++ trail)

theorem noSpace_tokV : NoSpace tokV := by intro c hc; simp [tokV] at hc; subst hc; decide

theorem vInts_renderValues (lits : List (Str × Int)) (z : Option Str) (trail : Str)
    (h : GoodLits lits) (hz : GoodZero z) (ht : AllSpace trail) :
    vInts (renderValues lits z trail) = .ok (lits.map (·.2)) := by
  unfold vInts renderValues
  rw [pySplit_word_glue tokV noSpace_tokV (by simp [tokV]) _ (goodSegs_lits lits z h hz) trail ht]
  have : (tokV :: (litSegs lits ++ zeroSeg z).map (·.2)).filter (fun el => el != tokV && el != tok0)
      = lits.map (fun p => showInt p.2) := by
    rw [List.filter_cons]
    simp only [bne_self_eq_false, Bool.false_and]
    exact filter_lits _ (by simp) (fun i hi => by simp [showInt_ne_tokV, showInt_ne_tok0 i hi]) lits z h
  rw [this]
  exact mapE_showInt lits h

theorem line_renderValues (lits : List (Str × Int)) (z : Option Str) (trail : Str)
    (h : GoodLits lits) (hz : GoodZero z) (ht : AllSpace trail) :
    lineErr (renderValues lits z trail) = none ∧
      lineLits (renderValues lits z trail) = lits.map (·.2) ∧
      lineVerdict (renderValues lits z trail) = none := by
  have hv := vInts_renderValues lits z trail h hz ht
  have hcs : renderValues lits z trail = 'v' :: (glue (litSegs lits ++ zeroSeg z) ++ trail) := rfl
  rw [hcs] at hv ⊢
  simp [lineErr, lineLits, lineVerdict, hv, catchValueError]

theorem lineVerdict_of_head (l : Str) (h : l.head? ≠ some 's') : lineVerdict l = none := by
  cases l with
  | nil => rfl
  | cons c r =>
    have hc : c ≠ 's' := by rintro rfl; exact h rfl
    simp [lineVerdict, hc]

theorem lineVerdict_status (cs : Str) :
    lineVerdict ('s' :: cs) = some (verdictOfWords (pySplit ('s' :: cs))) := by
  simp [lineVerdict]

theorem lineErr_status (cs : Str) : lineErr ('s' :: cs) = none := by
  simp [lineErr, s_ne_v]

theorem lineLits_status (cs : Str) : lineLits ('s' :: cs) = [] := by
  simp [lineLits, s_ne_v]

/-- neither a status nor a value line -/
def IsOther (l : Str) : Prop := l = [] ∨ ∃ c cs, l = c :: cs ∧ c ≠ 's' ∧ c ≠ 'v'

theorem line_other (l : Str) (h : IsOther l) :
    lineErr l = none ∧ lineLits l = [] ∧ lineVerdict l = none := by
  rcases h with rfl | ⟨c, cs, rfl, h1, h2⟩ <;> simp [lineErr, lineLits, lineVerdict, *]

def NoBreak (l : Str) : Prop := ∀ c ∈ l, isBreak c = false

def joinLines (lines : List Str) : Str := lines.flatMap (· ++ ['\n'])

theorem splitLinesAux_line (l rest cur : Str) (h : NoBreak l) :
    splitLinesAux (l ++ '\n' :: rest) cur false = (cur ++ l) :: splitLinesAux rest [] false := by
  induction l generalizing cur with
  | nil =>
    have : isBreak '\n' = true := by decide
    simp [splitLinesAux, this]
  | cons c cs ih =>
    have hc : isBreak c = false := h c (by simp)
    have hcs : NoBreak cs := fun d hd => h d (by simp [hd])
    simp only [List.cons_append, splitLinesAux, hc, Bool.false_and, Bool.false_eq_true, if_false]
    rw [ih (cur ++ [c]) hcs]
    simp

theorem splitLines_joinLines (lines : List Str) (h : ∀ l ∈ lines, NoBreak l) :
    splitLines (joinLines lines) = lines := by
  unfold splitLines
  induction lines with
  | nil => simp [joinLines, splitLinesAux]
  | cons l ls ih =>
    have hl := h l (by simp)
    have hls : ∀ x ∈ ls, NoBreak x := fun x hx => h x (by simp [hx])
    have e : joinLines (l :: ls) = l ++ '\n' :: joinLines ls := by simp [joinLines]
    rw [e, splitLinesAux_line l _ [] hl, ih hls]
    simp

end Cnfgen.Solver
