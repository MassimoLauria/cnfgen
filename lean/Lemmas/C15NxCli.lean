/-
C15: evaluation lemmas for the `obtain_*` models of Cli/GraphArgs.lean on the constructions whose
third-party part is computed by the model of networkx (`GCli.nxExt`, Cli/GraphArgsNx.lean).
-/
import Lemmas.C15NxGrid
import Lemmas.C15NxMulti
import Lemmas.C15NxRand
import CnfgenModel.Cli.GraphArgsNx
namespace Cnfgen.GCli
open Cnfgen Cnfgen.GRand Cnfgen.Nx

theorem bind_apply {α β} (x : RM α) (f : α → RM β) (ds : List Draw) :
    (x >>= f) ds = match x ds with
      | .ok a rest => f a rest
      | .exc e => .exc e
      | .foreign => .foreign
      | .stuck => .stuck := rfl

theorem pure_apply {α} (a : α) (ds : List Draw) : (pure a : RM α) ds = .ok a ds := rfl

theorem valueError_apply {α} (ds : List Draw) : (valueError : RM α) ds = .exc .valueError := rfl

theorem guard_apply (b : Bool) (ds : List Draw) :
    guard b ds = if b then .ok () ds else .exc .valueError := by
  unfold guard; split <;> rfl

theorem argInt_apply (a : Arg) (ds : List Draw) :
    argInt a ds = match a.int? with | some i => .ok i ds | none => .exc .valueError := by
  unfold argInt; cases a.int? <;> rfl

theorem argInts_apply (args : List Arg) (ds : List Draw) :
    argInts args ds = match intsOf args with | some is => .ok is ds | none => .exc .valueError := by
  induction args with
  | nil => rfl
  | cons a as ih =>
    simp only [argInts, bind_apply, argInt_apply, intsOf]
    cases ha : a.int? with
    | none => rfl
    | some i =>
      simp only [ih]
      cases intsOf as with
      | none => rfl
      | some is => rfl

/-- the common beginning of the two-number constructions -/
theorem twoInts_apply {α} (a b : Arg) (g : Int → Int → Bool) (k : Int → Int → RM α) (ds : List Draw) :
    (do let n ← argInt a; let m ← argInt b; guard (g n m); k n m) ds =
      match a.int?, b.int? with
      | some n, some m => if g n m then k n m ds else .exc .valueError
      | _, _ => .exc .valueError := by
  simp only [bind_apply, argInt_apply, guard_apply]
  cases a.int? with
  | none => rfl
  | some n =>
    cases b.int? with
    | none => rfl
    | some m => dsimp only; cases g n m <;> rfl

theorem ext_apply (e : Option CG) (ds : List Draw) :
    ext e ds = match e with | some g => .ok g ds | none => .stuck := by
  unfold ext; cases e <;> rfl

theorem obtainGridOrTorus_apply (args : List Arg) (p : Bool) (e : Option CG) (ds : List Draw) :
    obtainGridOrTorus args p e ds =
      match intsOf args with
      | none => .exc .valueError
      | some dims =>
        if gridDimsGiven dims = true ∧ gridGuard dims = true ∧ ¬ (p = true ∧ torusPre dims = false) then ext e ds
        else .exc .valueError := by
  simp only [obtainGridOrTorus, bind_apply, argInts_apply]
  cases intsOf args with
  | none => rfl
  | some dims =>
    simp only [guard_apply]
    by_cases h1 : gridDimsGiven dims = true
    · by_cases h2 : gridGuard dims = true
      · simp only [h1, h2, ↓reduceIte, true_and]
        by_cases h3 : p = true ∧ torusPre dims = false
        · simp [h3, valueError_apply]
        · have : (p && !torusPre dims) = false := by
            cases p <;> cases h : torusPre dims <;> simp_all
          simp [this, h3]
      · simp [h1, h2]
    · simp [h1]

theorem mem_map_toNat_one {dims : List Int} (hpos : ∀ d ∈ dims, 0 < d) : 1 ∈ dims.map Int.toNat ↔ (1 : Int) ∈ dims := by
  simp only [List.mem_map]
  constructor
  · rintro ⟨d, hd, h⟩
    have := hpos d hd
    have : d = 1 := by omega
    exact this ▸ hd
  · intro h; exact ⟨1, h, rfl⟩

end Cnfgen.GCli
