/-
`CompleteBipartiteGraph(L, R)` (C16): the value `BipG.complete l r` satisfies the bipartite
invariant, and the closed-form views of the class (`CBipG`) are the views of that value.
Updates never change it; illegal insertions are refused.
-/
import Lemmas.GraphNx
import Lemmas.GraphCompleteBip
namespace Cnfgen

namespace CBipG

theorem step_state (G : CBipG) (op : GOp) : (G.step op).1 = G := by cases op <;> rfl

theorem run_state (G : CBipG) (ops : List GOp) : G.run ops = G :=
  run_keeps (step := CBipG.step) (I := (· = G)) (fun h op => (step_state _ op).trans h) rfl ops

theorem legal_iff (G : CBipG) (u v : Int) : G.legal u v = true ↔ BipG.Valid G.l G.r u v := by
  simp [legal, BipG.Valid]

/-- a legal insertion is a no-op (every legal pair is an edge already) -/
theorem step_addEdge_valid (G : CBipG) {u v : Int} (h : BipG.Valid G.l G.r u v) :
    G.step (.addEdge u v) = (G, .ok) := by
  simp only [step, (legal_iff G u v).2 h, if_true]

theorem step_addEdge_invalid (G : CBipG) {u v : Int} (h : ¬ BipG.Valid G.l G.r u v) :
    G.step (.addEdge u v) = (G, .raised .valueError) := by
  have : G.legal u v = false := by
    cases hh : G.legal u v with
    | false => rfl
    | true => exact absurd ((legal_iff G u v).1 hh) h
  simp only [step, this]
  rfl

theorem step_addEdgesFrom (G : CBipG) (es : List (Int × Int)) :
    (G.step (.addEdgesFrom es)).1 = G ∧
    ((G.step (.addEdgesFrom es)).2 = .ok ↔ ∀ e ∈ es, BipG.Valid G.l G.r e.1 e.2) ∧
    ((G.step (.addEdgesFrom es)).2 = .ok ∨ (G.step (.addEdgesFrom es)).2 = .raised .valueError) := by
  refine ⟨rfl, ?_, ?_⟩
  · simp only [step]
    by_cases hall : es.all (fun e => G.legal e.1 e.2) = true
    · rw [if_pos hall]
      rw [List.all_eq_true] at hall
      exact ⟨fun _ e he => (legal_iff G e.1 e.2).1 (hall e he), fun _ => rfl⟩
    · rw [if_neg hall]
      constructor
      · intro hh; cases hh
      · intro hv; exact absurd (List.all_eq_true.2 (fun e he => (legal_iff G e.1 e.2).2 (hv e he))) hall
  · simp only [step]; split
    · exact Or.inl rfl
    · exact Or.inr rfl

theorem edges_eq (G : CBipG) : G.edges = G.toBipG.edges := by
  have h := BipG.inv_complete G.l G.r
  apply SortedLex.ext
  · exact sorted_tableEdges (f := fun _ => oneTo G.r) (fun _ => sorted_oneTo G.r) G.l
  · exact h.edges_sorted
  · intro e
    rw [toBipG, h.mem_edges, BipG.mem_complete_edgeset]
    exact (mem_tableEdges (f := fun _ => oneTo G.r)).trans (by rw [mem_oneTo])

theorem mem_edges (G : CBipG) (e : Nat × Nat) :
    e ∈ G.edges ↔ 1 ≤ e.1 ∧ e.1 ≤ G.l ∧ 1 ≤ e.2 ∧ e.2 ≤ G.r := by
  rw [edges_eq, toBipG, (BipG.inv_complete G.l G.r).mem_edges, BipG.mem_complete_edgeset]

theorem hasEdge_eq (G : CBipG) (u v : Int) : G.hasEdge u v = G.toBipG.hasEdge u v := by
  rw [Bool.eq_iff_iff, BipG.hasEdge_iff, toBipG, BipG.mem_complete_edgeset]
  simp only [hasEdge, decide_eq_true_eq]
  omega

theorem numberOfEdges_eq (G : CBipG) : G.numberOfEdges = G.toBipG.numberOfEdges := by
  have h := BipG.inv_complete G.l G.r
  rw [toBipG, h.numberOfEdges_eq, ← toBipG, ← edges_eq]
  simp [numberOfEdges, edges, rightNeighbors, List.length_flatMap, List.map_const', List.sum_replicate_nat]

theorem rightNeighbors_eq (G : CBipG) {u : Int} (hu : 1 ≤ u ∧ u ≤ G.l) :
    G.toBipG.rightNeighbors u = .ok (G.rightNeighbors u) := by
  unfold BipG.rightNeighbors
  rw [if_neg (fun hn => hn hu)]
  exact congrArg _ (BipG.complete_rnbrs (by omega))

theorem leftNeighbors_eq (G : CBipG) {v : Int} (hv : 1 ≤ v ∧ v ≤ G.r) :
    G.toBipG.leftNeighbors v = .ok (G.leftNeighbors v) := by
  unfold BipG.leftNeighbors
  rw [if_neg (fun hn => hn hv)]
  exact congrArg _ (BipG.complete_lnbrs (by omega))

end CBipG
end Cnfgen
