/-
Lemmas for the model of `cnfgen/families/randomformulas.py` (Rand/KCNF.lean).
-/
import Lemmas.RandSampler
namespace Cnfgen.Rand
open Cnfgen

/-- a clause over `k` distinct variables of `1..n`, literals in increasing order of variable -/
def IsKClause (k n : Nat) (c : Clause) : Prop :=
  c.length = k ∧ (c.map Int.natAbs).Pairwise (· < ·) ∧ ∀ l ∈ c, 1 ≤ l.natAbs ∧ l.natAbs ≤ n

theorem isKClause_iff {k n : Nat} {c : Clause} :
    IsKClause k n c ↔ c.map (fun l => (l.natAbs : Int)) ∈ combos (vars n) k := by
  rw [mem_combos_vars, List.length_map, List.pairwise_map, List.forall_mem_map, IsKClause, List.pairwise_map]
  refine and_congr Iff.rfl (and_congr ?_ (forall₂_congr fun l _ => by omega))
  exact ⟨fun h => h.imp (by omega), fun h => h.imp (by omega)⟩

theorem map_abs_signed (pol dom : List Int) (h : pol.length = dom.length)
    (hp : ∀ p ∈ pol, p = -1 ∨ p = 1) :
    (signed pol dom).map (fun l => (l.natAbs : Int)) = dom.map (fun l => (l.natAbs : Int)) := by
  induction pol generalizing dom with
  | nil => cases dom with
    | nil => rfl
    | cons _ _ => simp at h
  | cons p ps ih =>
    cases dom with
    | nil => simp at h
    | cons v vs =>
      simp only [signed, List.zipWith_cons_cons, List.map_cons, List.cons.injEq]
      refine ⟨?_, ih vs (by simpa using h) (fun q hq => hp q (by simp [hq]))⟩
      rcases hp p (by simp) with rfl | rfl <;> simp

theorem map_abs_of_pos (dom : List Int) (h : ∀ v ∈ dom, 0 < v) :
    dom.map (fun l => (l.natAbs : Int)) = dom :=
  (List.map_congr_left fun v hv => by have := h v hv; omega).trans (List.map_id' dom)

theorem signed_inj (p q dom : List Int) (hp : p.length = dom.length) (hq : q.length = dom.length)
    (hd : ∀ v ∈ dom, v ≠ 0) (h : signed p dom = signed q dom) : p = q := by
  induction dom generalizing p q with
  | nil =>
    rw [List.length_nil, List.length_eq_zero_iff] at hp hq
    rw [hp, hq]
  | cons v vs ih =>
    cases p with
    | nil => simp at hp
    | cons a as =>
      cases q with
      | nil => simp at hq
      | cons b bs =>
        simp only [signed, List.zipWith_cons_cons, List.cons.injEq] at h
        have hv := hd v (by simp)
        have hab : a = b := Int.eq_of_mul_eq_mul_right hv h.1
        rw [hab, ih as bs (by simpa using hp) (by simpa using hq) (fun w hw => hd w (by simp [hw])) h.2]

theorem signed_map_self (c : List Int) :
    signed (c.map (fun l => if 0 < l then (1 : Int) else -1)) (c.map (fun l => (l.natAbs : Int))) = c := by
  induction c with
  | nil => rfl
  | cons l ls ih =>
    simp only [signed, List.map_cons, List.zipWith_cons_cons, List.cons.injEq]
    refine ⟨?_, ih⟩
    split <;> omega

theorem map_abs_signed_of_mem {k n : Nat} {dom pol : List Int} (hdom : dom ∈ combos (vars n) k)
    (hpol : pol ∈ productRep [-1, 1] k) : (signed pol dom).map (fun l => (l.natAbs : Int)) = dom := by
  obtain ⟨hl, _, hm⟩ := mem_combos_vars.1 hdom
  obtain ⟨hpl, hpm⟩ := mem_productRep.1 hpol
  rw [map_abs_signed pol dom (hpl.trans hl.symm) (fun p hp => by simpa using hpm p hp)]
  exact map_abs_of_pos dom fun v hv => by have := hm v hv; omega

theorem mem_allClauses {k n : Nat} {planted : List (List Int)} {c : Clause} :
    c ∈ allClauses k n planted ↔ IsKClause k n c ∧ clauseSatisfied c planted = true := by
  unfold allClauses
  simp only [List.mem_flatMap, List.mem_filter, List.mem_map, isKClause_iff]
  constructor
  · rintro ⟨dom, hdom, ⟨pol, hpol, rfl⟩, hsat⟩
    exact ⟨by rwa [map_abs_signed_of_mem hdom hpol], hsat⟩
  · rintro ⟨hc, hsat⟩
    refine ⟨_, hc, ⟨c.map (fun l => if 0 < l then (1 : Int) else -1), ?_, signed_map_self c⟩, hsat⟩
    rw [mem_productRep, List.length_map, ← (mem_combos_vars.1 hc).1, List.length_map]
    refine ⟨rfl, fun x hx => ?_⟩
    obtain ⟨l, _, rfl⟩ := List.mem_map.1 hx
    split <;> simp

theorem nodup_allClauses (k n : Nat) (planted : List (List Int)) : (allClauses k n planted).Nodup := by
  refine nodup_flatMap_of_key (key := fun c => c.map fun l => (l.natAbs : Int)) (combos_nodup (vars_nodup n) k)
    (fun dom hdom => ?_) fun dom hdom c hc => ?_
  · obtain ⟨hl, _, hm⟩ := mem_combos_vars.1 hdom
    refine ((productRep_nodup (by decide) k).map_on fun p hp q hq hpq => ?_).filter _
    exact signed_inj p q dom ((mem_productRep.1 hp).1.trans hl.symm)
      ((mem_productRep.1 hq).1.trans hl.symm) (fun v hv => by have := hm v hv; omega) hpq
  · obtain ⟨pol, hpol, rfl⟩ := List.mem_map.1 (List.mem_filter.1 hc).1
    exact map_abs_signed_of_mem hdom hpol

theorem rejectVars_nil (k n : Nat) (chosen : List Int) :
    rejectVars k n chosen [] = if chosen.length < k then .error .outOfDraws else .ok (chosen, []) := rfl

theorem rejectVars_cons (k n : Nat) (chosen : List Int) (d : Draw) (rest : List Draw) :
    rejectVars k n chosen (d :: rest) =
      if chosen.length < k then
        match d with
        | .randint a b v =>
          if a = 1 ∧ b = (n : Int) then rejectVars k n (if chosen.contains v then chosen else v :: chosen) rest
          else .error .mismatch
        | _ => .error .mismatch
      else .ok (chosen, d :: rest) := rfl

/-- invariant of the `chosen` set of `sample_variables` -/
def ChosenInv (k n : Nat) (chosen : List Int) : Prop :=
  chosen.Nodup ∧ (∀ x ∈ chosen, 1 ≤ x ∧ x ≤ (n : Int)) ∧ chosen.length ≤ k

theorem ChosenInv.step {k n : Nat} {chosen : List Int} {v : Int} (h : ChosenInv k n chosen)
    (hlt : chosen.length < k) (hv : 1 ≤ v ∧ v ≤ (n : Int)) :
    ChosenInv k n (if chosen.contains v then chosen else v :: chosen) := by
  obtain ⟨hnd, hm, _⟩ := h
  split
  · exact ⟨hnd, hm, by omega⟩
  · rename_i hc
    refine ⟨List.nodup_cons.2 ⟨by simpa using hc, hnd⟩, ?_, by simp; omega⟩
    intro x hx
    rcases List.mem_cons.1 hx with rfl | hx
    · exact hv
    · exact hm x hx

/-- one induction for both outcomes of the loop -/
theorem rejectVars_spec {k n : Nat} (ds : List Draw) : ∀ {chosen : List Int}, Legal ds → ChosenInv k n chosen →
    match rejectVars k n chosen ds with
    | .ok (sel, ds') => ChosenInv k n sel ∧ sel.length = k ∧ Legal ds'
    | .error e => e = .outOfDraws ∨ e = .mismatch := by
  induction ds with
  | nil =>
    intro chosen hL hI
    rw [rejectVars_nil]
    by_cases hlt : chosen.length < k
    · rw [if_pos hlt]; exact Or.inl rfl
    · rw [if_neg hlt]; exact ⟨hI, by have := hI.2.2; omega, hL⟩
  | cons d rest ih =>
    intro chosen hL hI
    obtain ⟨hd, hL'⟩ := Legal.cons.1 hL
    rw [rejectVars_cons]
    by_cases hlt : chosen.length < k
    · rw [if_pos hlt]
      cases d with
      | randint a b v =>
        dsimp only
        by_cases hab : a = 1 ∧ b = (n : Int)
        · rw [if_pos hab]
          obtain ⟨rfl, rfl⟩ := hab
          exact ih hL' (hI.step hlt hd)
        · rw [if_neg hab]
          exact Or.inr rfl
      | _ => exact Or.inr rfl
    · rw [if_neg hlt]; exact ⟨hI, by have := hI.2.2; omega, hL⟩

/-- beyond `sys.maxsize` nothing is said about the number of draws -/
theorem rejectVars_ran {A : Err → Prop} {w k n : Nat} (hn : ¬ n ≤ sysMaxsize) {chosen : List Int}
    (hI : ChosenInv k n chosen) :
    Ran A (n ≤ sysMaxsize) w (fun sel => ChosenInv k n sel ∧ sel.length = k) (rejectVars k n chosen) where
  ok hL h := by
    have := rejectVars_spec _ hL hI
    rw [h] at this
    exact ⟨⟨this.1, this.2.1⟩, this.2.2, fun h' => absurd h' hn⟩
  error hL h := by
    have := rejectVars_spec _ hL hI
    rw [h] at this
    exact this.elim (fun e => Or.inr (Or.inl ⟨e, fun h' => absurd h' hn⟩)) (fun e => Or.inr (Or.inr e))

theorem drawVars_small {k n : Nat} (h : n ≤ sysMaxsize) :
    drawVars k n = (sample n k >>= fun idx => pure (isort (idx.map (fun (i : Nat) => (i : Int) + 1)))) := by
  unfold drawVars; rw [if_pos h]

theorem drawVars_big {k n : Nat} (h : ¬ n ≤ sysMaxsize) :
    drawVars k n = if n < k then RandM.raise .valueError
      else (rejectVars k n [] >>= fun chosen => pure (isort chosen)) := by
  unfold drawVars; rw [if_neg h]

theorem drawVars_cand (k n : Nat) : Cand (drawVars k n) k n 1 (· ∈ combos (vars n) k) := by
  by_cases hn : n ≤ sysMaxsize
  · rw [drawVars_small hn]
    refine (sample_ran n k (fun h => ⟨rfl, h⟩)).map fun idx ⟨hlen, hnd, hlt⟩ =>
      mem_combos_vars.2 ⟨by rw [isort_length]; simpa using hlen, ?_, fun x hx => ?_⟩
    · exact isort_strict _ (hnd.map (fun a b hab => by simp at hab; omega))
    · obtain ⟨i, hi, rfl⟩ := List.mem_map.1 ((isort_perm _).subset hx)
      have := hlt i hi; omega
  · rw [drawVars_big hn]
    split
    · rename_i hk
      exact Ran.raise ⟨rfl, hk⟩
    · exact (rejectVars_ran hn ⟨List.nodup_nil, nofun, Nat.zero_le _⟩).map fun sel ⟨⟨hnd, hm, _⟩, hlen⟩ =>
        mem_combos_vars.2 ⟨by rw [isort_length]; exact hlen, isort_strict _ hnd,
          fun x hx => hm x ((isort_perm _).subset hx)⟩

theorem signClause_ran {A : Err → Prop} {S : Prop} (vs : List Int) :
    Ran A S vs.length (fun c => c.map (fun l => (l.natAbs : Int)) = vs.map (fun l => (l.natAbs : Int)))
      (signClause vs) := by
  induction vs with
  | nil => exact Ran.pure rfl
  | cons v vs ih =>
    unfold signClause
    refine (choiceFrom_ran (by simp) 1).bind fun s hs => ih.map fun rest h => ?_
    have hs' : s = 1 ∨ s = -1 := by simpa using hs
    rcases hs' with rfl | rfl <;> simp [h]

theorem drawClause_cand (k n : Nat) : Cand (drawClause k n) k n (k + 1) (IsKClause k n) :=
  (drawVars_cand k n).bind fun sel hsel =>
    (signClause_ran sel).mono (fun _ => id) (Nat.le_of_eq (mem_combos_vars.1 hsel).1) fun c hc =>
      isKClause_iff.2 <| by
        rwa [hc, map_abs_of_pos sel fun v hv => by have := (mem_combos_vars.1 hsel).2.2 v hv; omega]

theorem sparseLoop_eq (k n m : Nat) (planted : List (List Int)) (fuel : Nat) (acc : List Clause) :
    sparseLoop k n m planted fuel acc =
      rejLoop (drawClause k n) (fun acc c => acc.contains c) (fun c => .ok (clauseSatisfied c planted))
        m fuel acc := by
  induction fuel generalizing acc with
  | zero => rfl
  | succ fuel ih =>
    unfold sparseLoop rejLoop
    split
    · congr 1; funext cls
      simp only [addCand, ih]
      cases acc.contains cls <;> cases clauseSatisfied cls planted <;> rfl
    · rfl

theorem denseClauses_eq (k n m : Nat) (planted : List (List Int)) :
    denseClauses k n m planted = denseFrom n m (.ok (allClauses k n planted)) [] := rfl

theorem sampleClauses_eq (k n m : Nat) (planted : List (List Int)) :
    sampleClauses k n m planted =
      sampleVia (drawClause k n) (fun acc c => acc.contains c) (fun c => .ok (clauseSatisfied c planted))
        n m (fun acc => acc.length = m) (.ok (allClauses k n planted)) [] := by
  unfold sampleClauses sampleVia
  rw [funext (sparseLoop_eq k n m planted (retryBudget m)), denseClauses_eq]

/-- the number of draws a complete run can consume: `10*m` candidates of `k+1` draws each,
plus the single draw of the dense path -/
def drawBudget (k m : Nat) : Nat := retryBudget m * (k + 1) + 1

theorem sampleClauses_spec (k n m : Nat) (planted : List (List Int)) :
    SamplerSpec (sampleClauses k n m planted) k n m (allClauses k n planted) (drawBudget k m) := by
  rw [sampleClauses_eq]
  exact sampleVia_spec (drawClause_cand k n) (fun acc c h => by simpa using h) (fun c _ => ⟨_, rfl⟩)
    (fun _ _ => Iff.rfl) (nodup_allClauses k n planted)
    (fun c hc hg => mem_allClauses.2 ⟨hc, Except.ok.inj hg⟩) []

theorem randomKCNF_eq (σ : Int → List Draw) (k n m : Nat) (seed : Option Int) (planted : List (List Int)) :
    randomKCNF σ k n m seed planted =
      seededRun σ seed k n (sampleClauses k n m planted) >>= fun cls =>
        pure { nvars := n, cons := cls.map Con.clause } :=
  (seededRun_bind σ seed k n _ _).symm

theorem randomKCNF_ok {σ : Int → List Draw} {k n m : Nat} {seed : Option Int} {planted : List (List Int)}
    {rng rest : List Draw} {F : Formula} (h : randomKCNF σ k n m seed planted rng = .ok (F, rest)) :
    ∃ cls, sampleClauses k n m planted (usedStream σ seed rng) = .ok (cls, rest) ∧
      F = { nvars := n, cons := cls.map Con.clause } := by
  rw [randomKCNF_eq] at h
  obtain ⟨cls, h, hF⟩ := RandM.bind_pure_eq_ok.1 h
  exact ⟨cls, (seededRun_eq_ok h).2, hF⟩

theorem randomKCNF_error_iff {σ : Int → List Draw} {k n m : Nat} {seed : Option Int}
    {planted : List (List Int)} {rng : List Draw} {e : RErr} :
    randomKCNF σ k n m seed planted rng = .error e ↔
      seededRun σ seed k n (sampleClauses k n m planted) rng = .error e := by
  rw [randomKCNF_eq]; exact RandM.bind_pure_eq_error

theorem randomKCNF_completed {σ : Int → List Draw} {k n m : Nat} {seed : Option Int}
    {planted : List (List Int)} {rng : List Draw} :
    Completed (randomKCNF σ k n m seed planted rng) ↔
      Completed (seededRun σ seed k n (sampleClauses k n m planted) rng) := by
  unfold Completed
  rw [Ne, Ne, randomKCNF_error_iff, randomKCNF_error_iff]

theorem toCNF_clauses (n : Nat) (cls : List Clause) :
    (Formula.toCNF { nvars := n, cons := cls.map Con.clause }).clauses = cls := by
  simp only [Formula.toCNF, List.flatMap_map]
  induction cls with
  | nil => rfl
  | cons c cs _ => simp [List.flatMap_cons, Con.toCNF]

/-- the Boolean assignment a list of literals stands for -/
def asg (a : List Int) : Assign := fun v => a.contains (v : Int)

def Consistent (a : List Int) : Prop := ∀ l ∈ a, -l ∉ a

theorem litHolds_asg {a : List Int} (hc : Consistent a) {l : Int} (h : l ∈ a) :
    litHolds (asg a) l = true := by
  unfold litHolds asg
  by_cases hp : 0 < l
  · simp only [hp, if_true]
    have : ((l.natAbs : Nat) : Int) = l := by omega
    rw [this]; simpa using h
  · simp only [hp, if_false]
    have e : ((l.natAbs : Nat) : Int) = -l := by omega
    rw [e]
    have := hc l h
    simpa using this

theorem clauseSatisfied_iff {c : Clause} {planted : List (List Int)} :
    clauseSatisfied c planted = true ↔ ∀ a ∈ planted, ∃ l ∈ c, l ∈ a := by
  simp [clauseSatisfied]

theorem clauseHolds_of_satisfied {c : Clause} {a : List Int} (hc : Consistent a)
    (h : ∃ l ∈ c, l ∈ a) : clauseHolds (asg a) c = true := by
  obtain ⟨l, hl, hla⟩ := h
  simp only [clauseHolds, List.any_eq_true]
  exact ⟨l, hl, litHolds_asg hc hla⟩

theorem eq_of_same_literals {c c' : Clause} (h : (c.map Int.natAbs).Pairwise (· < ·))
    (h' : (c'.map Int.natAbs).Pairwise (· < ·)) (hm : ∀ l, l ∈ c ↔ l ∈ c') : c = c' := by
  rw [List.pairwise_map] at h h'
  have hn : ∀ {d : Clause}, d.Pairwise (fun a b => a.natAbs < b.natAbs) → d.Nodup := fun hd =>
    hd.imp fun {a b} hab (e : a = b) => Nat.lt_irrefl _ (e ▸ hab)
  -- without repeats, the same members means a permutation; two increasing permutations are equal
  exact List.Perm.eq_of_pairwise (fun _ _ _ _ h1 h2 => absurd h2 (Nat.lt_asymm h1)) h h'
    ((List.perm_ext_iff_of_nodup (hn h) (hn h')).2 hm)

end Cnfgen.Rand
