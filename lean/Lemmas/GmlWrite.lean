/-
C14 (GML) — the text `generate_gml` / `write_gml` / cnfgen's `print` produce is split, tokenized and
parsed by the model of `parse_gml_lines` into the expected token stream and dictionary.
-/
import Lemmas.GmlLex
namespace Cnfgen.Gml
open Cnfgen GraphLex GraphFmt

def keyT (s : String) : Tok := .key s.toList

def nodeLinesT (i : Nat) (p : Nat × Option Bool) : List (Str × List Tok) :=
  [("  node [".toList, [keyT "node", .lb]),
   ("    id ".toList ++ natStr i, [keyT "id", .int (i : Int)]),
   ("    label \"".toList ++ natStr p.1 ++ ['"'], [keyT "label", .str (natStr p.1)])] ++
  (match p.2 with
   | none => []
   | some b => [("    bipartite ".toList ++ (if b then ['1'] else ['0']), [keyT "bipartite", .int (if b then 1 else 0)])]) ++
  [("  ]".toList, [.rb])]

def edgeLinesT (e : Nat × Nat) : List (Str × List Tok) :=
  [("  edge [".toList, [keyT "edge", .lb]),
   ("    source ".toList ++ natStr e.1, [keyT "source", .int (e.1 : Int)]),
   ("    target ".toList ++ natStr e.2, [keyT "target", .int (e.2 : Int)]),
   ("  ]".toList, [.rb])]

def nodesLinesT : Nat → List (Nat × Option Bool) → List (Str × List Tok)
  | _, [] => []
  | i, p :: ps => nodeLinesT i p ++ nodesLinesT (i + 1) ps

def gmlLinesT (X : NxOut) : List (Str × List Tok) :=
  [("graph [".toList, [keyT "graph", .lb])] ++
  (if X.directed then [("  directed 1".toList, [keyT "directed", .int 1])] else []) ++
  (match X.name with
   | none => []
   | some nm => [("  name \"".toList ++ escape nm ++ ['"'], [keyT "name", .str (escape nm)])]) ++
  nodesLinesT 0 X.nodes ++
  (nxEdges X.directed X.nodes.length X.tedges).flatMap edgeLinesT ++
  [("]".toList, [.rb])]

theorem nodeLinesT_fst (i : Nat) (p : Nat × Option Bool) : (nodeLinesT i p).map (·.1) = nodeLines i p := by
  obtain ⟨v, b⟩ := p
  cases b <;> rfl

theorem nodesLinesT_fst (i : Nat) (ps : List (Nat × Option Bool)) : (nodesLinesT i ps).map (·.1) = nodesLines i ps := by
  induction ps generalizing i with
  | nil => rfl
  | cons p ps ih => simp only [nodesLinesT, nodesLines, List.map_append, nodeLinesT_fst, ih]

theorem edgeLinesT_fst (es : List (Nat × Nat)) : (es.flatMap edgeLinesT).map (·.1) = es.flatMap edgeLines := by
  induction es with
  | nil => rfl
  | cons e es ih => simp only [List.flatMap_cons, List.map_append, ih]; rfl

theorem gmlLinesT_fst (X : NxOut) : (gmlLinesT X).map (·.1) = generateGml X := by
  unfold gmlLinesT generateGml
  simp only [List.map_append, nodesLinesT_fst, edgeLinesT_fst]
  have h1 : List.map (fun x : Str × List Tok => x.1)
      (if X.directed then [("  directed 1".toList, [keyT "directed", .int 1])] else []) =
      (if X.directed then ["  directed 1".toList] else []) := by split <;> rfl
  have h2 : List.map (fun x : Str × List Tok => x.1)
      (match X.name with
       | none => []
       | some nm => [("  name \"".toList ++ escape nm ++ ['"'], [keyT "name", .str (escape nm)])]) =
      (match X.name with
       | none => []
       | some nm => ["  name \"".toList ++ escape nm ++ ['"']]) := by cases X.name <;> rfl
  rw [h1, h2]
  rfl

theorem lineOK_fixed_graph : LineOK "graph [".toList [keyT "graph", .lb] := by
  rw [keyT]
  lit_decide
theorem lineOK_fixed_directed : LineOK "  directed 1".toList [keyT "directed", .int 1] := by
  rw [keyT]
  lit_decide
theorem lineOK_fixed_node : LineOK "  node [".toList [keyT "node", .lb] := by
  rw [keyT]
  lit_decide
theorem lineOK_fixed_edge : LineOK "  edge [".toList [keyT "edge", .lb] := by
  rw [keyT]
  lit_decide
theorem lineOK_fixed_close2 : LineOK "  ]".toList [.rb] := by
  lit_decide
theorem lineOK_fixed_close : LineOK "]".toList [.rb] := by
  lit_decide
theorem lineOK_fixed_bip0 : LineOK ("    bipartite ".toList ++ ['0']) [keyT "bipartite", .int 0] := by
  rw [keyT]
  lit_decide
theorem lineOK_fixed_bip1 : LineOK ("    bipartite ".toList ++ ['1']) [keyT "bipartite", .int 1] := by
  rw [keyT]
  lit_decide

theorem lineOK_id (i : Nat) (h : (natStr i).length ≤ maxStrDigits) :
    LineOK ("    id ".toList ++ natStr i) [keyT "id", .int (i : Int)] :=
  lineOK_keyNat _ _ (by lit_decide) (by lit_decide) (by lit_decide) (by lit_decide) i h

theorem lineOK_source (i : Nat) (h : (natStr i).length ≤ maxStrDigits) :
    LineOK ("    source ".toList ++ natStr i) [keyT "source", .int (i : Int)] :=
  lineOK_keyNat _ _ (by lit_decide) (by lit_decide) (by lit_decide) (by lit_decide) i h

theorem lineOK_target (i : Nat) (h : (natStr i).length ≤ maxStrDigits) :
    LineOK ("    target ".toList ++ natStr i) [keyT "target", .int (i : Int)] :=
  lineOK_keyNat _ _ (by lit_decide) (by lit_decide) (by lit_decide) (by lit_decide) i h

theorem lineOK_label (v : Nat) :
    LineOK ("    label \"".toList ++ natStr v ++ ['"']) [keyT "label", .str (natStr v)] :=
  lineOK_keyStr _ "    ".toList _ (by lit_decide) (by lit_decide) (by lit_decide) (by lit_decide)
    (by lit_decide) (natStr v) (quote_not_mem_digits (natStr_isDigit v)) (isAscii_of_digits (natStr_isDigit v))
    (IO.natStr_noNL v)

theorem lineOK_name (nm : Str) :
    LineOK ("  name \"".toList ++ escape nm ++ ['"']) [keyT "name", .str (escape nm)] :=
  have hp := escape_plain nm
  lineOK_keyStr _ "  ".toList _ (by lit_decide) (by lit_decide) (by lit_decide) (by lit_decide)
    (by lit_decide) (escape nm) (not_mem_of_plain hp (fun h => h.2.2 rfl)) (isAscii_of_plain hp) (noNL_of_plain hp)

/-- every identifier written can be printed (`str(int)` of more than 4300 digits raises in CPython)
and read back (`int(str)` likewise), and the edges the networkx object reports join its nodes -/
structure Printable (X : NxOut) : Prop where
  digits : (natStr X.nodes.length).length ≤ maxStrDigits
  ends : ∀ e ∈ nxEdges X.directed X.nodes.length X.tedges, e.1 < X.nodes.length ∧ e.2 < X.nodes.length

theorem nodeLinesT_ok (i : Nat) (p : Nat × Option Bool) (h : (natStr i).length ≤ maxStrDigits) :
    ∀ q ∈ nodeLinesT i p, LineOK q.1 q.2 := by
  obtain ⟨v, b⟩ := p
  intro q hq
  cases b with
  | none =>
    simp only [nodeLinesT, List.append_nil, List.cons_append, List.nil_append, List.mem_cons, List.not_mem_nil, or_false] at hq
    rcases hq with rfl | rfl | rfl | rfl
    · exact lineOK_fixed_node
    · exact lineOK_id i h
    · exact lineOK_label v
    · exact lineOK_fixed_close2
  | some b =>
    simp only [nodeLinesT, List.cons_append, List.nil_append, List.mem_cons, List.not_mem_nil, or_false] at hq
    rcases hq with rfl | rfl | rfl | rfl | rfl
    · exact lineOK_fixed_node
    · exact lineOK_id i h
    · exact lineOK_label v
    · cases b
      · exact lineOK_fixed_bip0
      · exact lineOK_fixed_bip1
    · exact lineOK_fixed_close2

theorem nodesLinesT_ok (n : Nat) (hn : (natStr n).length ≤ maxStrDigits) :
    ∀ (ps : List (Nat × Option Bool)) (i : Nat), i + ps.length ≤ n → ∀ q ∈ nodesLinesT i ps, LineOK q.1 q.2 := by
  intro ps
  induction ps with
  | nil => intro i _ q hq; cases hq
  | cons p ps ih =>
    intro i hi q hq
    simp only [List.length_cons] at hi
    simp only [nodesLinesT, List.mem_append] at hq
    rcases hq with hq | hq
    · exact nodeLinesT_ok i p (Nat.le_trans (IO.natStr_length_mono n i (by omega)) hn) q hq
    · exact ih (i + 1) (by omega) q hq

theorem edgeLinesT_ok (n : Nat) (hn : (natStr n).length ≤ maxStrDigits) (es : List (Nat × Nat))
    (he : ∀ e ∈ es, e.1 < n ∧ e.2 < n) : ∀ q ∈ es.flatMap edgeLinesT, LineOK q.1 q.2 := by
  intro q hq
  simp only [List.mem_flatMap] at hq
  obtain ⟨e, hem, hq⟩ := hq
  have h1 := Nat.le_trans (IO.natStr_length_mono n e.1 (by have := (he e hem).1; omega)) hn
  have h2 := Nat.le_trans (IO.natStr_length_mono n e.2 (by have := (he e hem).2; omega)) hn
  simp only [edgeLinesT, List.mem_cons, List.not_mem_nil, or_false] at hq
  rcases hq with rfl | rfl | rfl | rfl
  · exact lineOK_fixed_edge
  · exact lineOK_source e.1 h1
  · exact lineOK_target e.2 h2
  · exact lineOK_fixed_close2

theorem gmlLinesT_ok (X : NxOut) (hp : Printable X) : ∀ q ∈ gmlLinesT X, LineOK q.1 q.2 := by
  intro q hq
  simp only [gmlLinesT, List.mem_append, List.mem_cons, List.not_mem_nil, or_false] at hq
  rcases hq with ((((rfl | hq) | hq) | hq) | hq) | rfl
  · exact lineOK_fixed_graph
  · split at hq
    · simp only [List.mem_cons, List.not_mem_nil, or_false] at hq; subst hq; exact lineOK_fixed_directed
    · cases hq
  · cases hnm : X.name with
    | none => rw [hnm] at hq; cases hq
    | some nm =>
      rw [hnm] at hq
      simp only [List.mem_cons, List.not_mem_nil, or_false] at hq
      subst hq; exact lineOK_name nm
  · exact nodesLinesT_ok X.nodes.length hp.digits X.nodes 0 (by omega) q hq
  · exact edgeLinesT_ok X.nodes.length hp.digits _ hp.ends q hq
  · exact lineOK_fixed_close

def gmlToks (X : NxOut) : List Tok := (gmlLinesT X).flatMap (·.2) ++ [.eof]

theorem tokenize_gmlText (u : Bool) (X : NxOut) (hp : Printable X) : tokenize u (gmlText X) = gmlToks X := by
  have hok := gmlLinesT_ok X hp
  have hnl : ∀ l ∈ generateGml X, '\n' ∉ l := by
    intro l hl
    rw [← gmlLinesT_fst] at hl
    obtain ⟨q, hq, rfl⟩ := List.mem_map.1 hl
    exact fun hm => ((hok q hq).nonl _ hm).1 rfl
  have hcr : '\r' ∉ gmlText X := by
    intro hm
    simp only [gmlText, List.mem_append, List.mem_flatMap, List.mem_cons, List.not_mem_nil, or_false] at hm
    rcases hm with ⟨l, hl, hm | hm⟩ | hm
    · rw [← gmlLinesT_fst] at hl
      obtain ⟨q, hq, rfl⟩ := List.mem_map.1 hl
      exact ((hok q hq).nonl _ hm).2 rfl
    · revert hm; decide
    · revert hm; decide
  have htext : (if u then universalNL (gmlText X) else gmlText X) = gmlText X := by
    cases u
    · rfl
    · exact IO.universalNL_id _ hcr
  unfold tokenize
  rw [htext]
  unfold gmlText
  rw [splitNL_lines _ _ hnl]
  have : splitNL ['\n'] = [[]] := by decide
  rw [this, ← gmlLinesT_fst, lexLines_ok _ _ hok, lexLines_last]
  rfl

def nodeVal (i : Nat) (p : Nat × Option Bool) : Val :=
  .dict ([("id".toList, .int (i : Int)), ("label".toList, .str (natStr p.1))] ++
         (match p.2 with
          | none => []
          | some b => [("bipartite".toList, .int (if b then 1 else 0))]))

def edgeVal (e : Nat × Nat) : Val := .dict [("source".toList, .int (e.1 : Int)), ("target".toList, .int (e.2 : Int))]

/-- what networkx makes of the graph name when it reads it back -/
def nameVal (nm : Str) : Val :=
  if nm = "()".toList then .tuple0 else if nm = "[]".toList then .list0 else .str nm

def nodeItems : Nat → List (Nat × Option Bool) → List (Str × Val)
  | _, [] => []
  | i, p :: ps => ("node".toList, nodeVal i p) :: nodeItems (i + 1) ps

def edgeItems (es : List (Nat × Nat)) : List (Str × Val) := es.map (fun e => ("edge".toList, edgeVal e))

def headItems (X : NxOut) : List (Str × Val) :=
  (if X.directed then [("directed".toList, .int 1)] else []) ++
  (match X.name with
   | none => []
   | some nm => [("name".toList, nameVal nm)])

def graphItems (X : NxOut) : List (Str × Val) :=
  headItems X ++ nodeItems 0 X.nodes ++ edgeItems (nxEdges X.directed X.nodes.length X.tedges)

theorem valOfString_natStr (v : Nat) : valOfString (natStr v) = .ok (.str (natStr v)) := by
  unfold valOfString
  rw [unescape_natStr]
  have hd := natStr_isDigit v
  have h1 : natStr v ≠ "()".toList := by
    intro e; have := hd '(' (by rw [e]; decide); revert this; decide
  have h2 : natStr v ≠ "[]".toList := by
    intro e; have := hd '[' (by rw [e]; decide); revert this; decide
  simp only [h1, h2, if_false]

theorem valOfString_escape (nm : Str) : valOfString (escape nm) = .ok (nameVal nm) := by
  simp only [valOfString, unescape_escape, nameVal]
  split
  · rfl
  · split <;> rfl

def inGraph (cur : List (Str × Val)) : PState := ⟨[⟨"graph".toList, []⟩], cur, .wantKey, false⟩

theorem runP_node (i : Nat) (p : Nat × Option Bool) (cur : List (Str × Val)) (rest : List Tok) :
    runP (inGraph cur) ((nodeLinesT i p).flatMap (·.2) ++ rest) =
      runP (inGraph (("node".toList, nodeVal i p) :: cur)) rest := by
  have hd : ¬ (maxDepth ≤ 1) := by decide
  -- `simp only`: the default simp set would decode the string literals of the keys (`String.reduceToList`), for nothing
  rcases p with ⟨v, _ | _ | _⟩ <;>
  simp only [inGraph, nodeLinesT, keyT, List.cons_append, List.nil_append, List.append_nil, List.flatMap_cons,
    List.flatMap_nil, runP, step, List.length_cons, List.length_nil, Nat.zero_add, hd, ↓reduceIte, PState.push,
    valOfString_natStr, List.reverse_cons, List.reverse_nil, nodeVal]

theorem runP_nodes (ps : List (Nat × Option Bool)) : ∀ (i : Nat) (cur : List (Str × Val)) (rest : List Tok),
    runP (inGraph cur) ((nodesLinesT i ps).flatMap (·.2) ++ rest) =
      runP (inGraph ((nodeItems i ps).reverse ++ cur)) rest := by
  induction ps with
  | nil => intro i cur rest; rfl
  | cons p ps ih =>
    intro i cur rest
    simp only [nodesLinesT, List.flatMap_append, List.append_assoc, runP_node, ih, nodeItems, List.reverse_cons,
      List.append_assoc, List.singleton_append]

theorem runP_edge (e : Nat × Nat) (cur : List (Str × Val)) (rest : List Tok) :
    runP (inGraph cur) ((edgeLinesT e).flatMap (·.2) ++ rest) =
      runP (inGraph (("edge".toList, edgeVal e) :: cur)) rest := by
  have hd : ¬ (maxDepth ≤ 1) := by decide
  simp only [inGraph, edgeLinesT, keyT, List.cons_append, List.nil_append, List.flatMap_cons, List.flatMap_nil, runP,
    step, List.length_cons, List.length_nil, Nat.zero_add, hd, ↓reduceIte, PState.push, List.reverse_cons,
    List.reverse_nil, edgeVal]

theorem runP_edges (es : List (Nat × Nat)) : ∀ (cur : List (Str × Val)) (rest : List Tok),
    runP (inGraph cur) ((es.flatMap edgeLinesT).flatMap (·.2) ++ rest) =
      runP (inGraph ((edgeItems es).reverse ++ cur)) rest := by
  induction es with
  | nil => intro cur rest; rfl
  | cons e es ih =>
    intro cur rest
    simp only [List.flatMap_cons, List.flatMap_append, List.append_assoc, runP_edge, ih, edgeItems, List.map_cons,
      List.reverse_cons, List.append_assoc, List.singleton_append]

def headToks (X : NxOut) : List Tok :=
  (if X.directed then [keyT "directed", .int 1] else []) ++
  (match X.name with
   | none => []
   | some nm => [keyT "name", .str (escape nm)])

theorem gmlLinesT_toks (X : NxOut) : (gmlLinesT X).flatMap (·.2) =
    [keyT "graph", .lb] ++ (headToks X ++ ((nodesLinesT 0 X.nodes).flatMap (·.2) ++
      (((nxEdges X.directed X.nodes.length X.tedges).flatMap edgeLinesT).flatMap (·.2) ++ [.rb]))) := by
  unfold gmlLinesT headToks
  cases X.directed <;> cases X.name <;> simp [-String.reduceToList, List.flatMap_append]

theorem runP_head (X : NxOut) (rest : List Tok) :
    runP (inGraph []) (headToks X ++ rest) = runP (inGraph (headItems X).reverse) rest := by
  unfold headToks headItems
  cases X.directed <;> cases X.name <;>
    simp [-String.reduceToList, runP, step, inGraph, keyT, PState.push, valOfString_escape]

theorem parseToks_gmlToks (X : NxOut) : parseToks (gmlToks X) = .ok [("graph".toList, .dict (graphItems X))] := by
  unfold parseToks gmlToks
  rw [gmlLinesT_toks]
  simp only [List.append_assoc]
  have hd : ¬ (maxDepth ≤ 0) := by decide
  have h0 : ∀ rest, runP initP ([keyT "graph", .lb] ++ rest) = runP (inGraph []) rest := by
    intro rest
    simp [-String.reduceToList, runP, step, initP, inGraph, keyT, hd]
  rw [h0, runP_head, runP_nodes, runP_edges]
  simp [-String.reduceToList, runP, step, inGraph, graphItems, List.reverse_append]

end Cnfgen.Gml
