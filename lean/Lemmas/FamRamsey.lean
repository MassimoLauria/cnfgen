/-
Lemmas for the models of cnfgen/families/ramsey.py (`Fam/Ramsey.lean`):
Pythagorean triples, Ramsey number, the progression generator and van der Waerden.
-/
import CnfgenModel.Fam.Ramsey
import Lemmas.FamIter
import Lemmas.C01Basic
import Lemmas.VarsBlock
import Lemmas.Constr
import Mathlib.Data.Nat.Sqrt
namespace Cnfgen.FamRamsey
open Cnfgen Cnfgen.Fam Cnfgen.FamIter

theorem holds_iff (α : Assign) (F : Formula) : F.holds α = true ↔ ∀ c ∈ F.cons, c.holds α = true := by
  simp [Formula.holds, List.all_eq_true]

/-! Ramsey numbers, van der Waerden numbers and Pythagorean triples are encoded in the same way: a family of finite sets
of variables, a positive clause for each set that must not be entirely of colour `false` and a negative clause for
each set that must not be entirely of colour `true`. -/

/-- the constraints of `F` are the positive clauses over the variables `f a` for the indices `a` with `P a` and the
negative clauses over `f a` for those with `Q a`; all these variables are variables of `F` -/
structure ColouringFormula (F : Formula) {ι : Type} (P Q : ι → Prop) (f : ι → List Nat) : Prop where
  mem : ∀ c, c ∈ F.cons ↔ (∃ a, P a ∧ Con.clause ((f a).map fun (i : Nat) => (i : Int)) = c) ∨
    (∃ a, Q a ∧ Con.clause ((f a).map fun (i : Nat) => -(i : Int)) = c)
  range : ∀ a, P a ∨ Q a → ∀ i ∈ f a, 1 ≤ i ∧ i ≤ F.nvars

namespace ColouringFormula
variable {F : Formula} {ι : Type} {P Q : ι → Prop} {f : ι → List Nat}

theorem holds_iff (h : ColouringFormula F P Q f) (α : Assign) :
    F.holds α = true ↔ (∀ a, P a → ∃ i ∈ f a, α i = true) ∧ (∀ a, Q a → ∃ i ∈ f a, α i = false) := by
  have hp : ∀ a, P a ∨ Q a → ∀ i ∈ f a, 1 ≤ i := fun a ha i hi => (h.range a ha i hi).1
  rw [FamRamsey.holds_iff]
  constructor
  · intro hc
    exact ⟨fun a ha => (clauseHolds_map_pos α _ id (hp a (Or.inl ha))).1 (hc _ ((h.mem _).2 (Or.inl ⟨a, ha, rfl⟩))),
      fun a ha => (clauseHolds_map_neg α _ id).1 (hc _ ((h.mem _).2 (Or.inr ⟨a, ha, rfl⟩)))⟩
  · rintro ⟨h1, h2⟩ c hc
    rcases (h.mem c).1 hc with ⟨a, ha, rfl⟩ | ⟨a, ha, rfl⟩
    · exact (clauseHolds_map_pos α _ id (hp a (Or.inl ha))).2 (h1 a ha)
    · exact (clauseHolds_map_neg α _ id).2 (h2 a ha)

theorem wf (h : ColouringFormula F P Q f) : F.WF := by
  intro c hc l hl
  rcases (h.mem c).1 hc with ⟨a, ha, rfl⟩ | ⟨a, ha, rfl⟩ <;>
    obtain ⟨i, hi, rfl⟩ := List.mem_map.1 hl
  · have := h.range a (Or.inl ha) i hi
    omega
  · have := h.range a (Or.inr ha) i hi
    omega

end ColouringFormula

theorem ptn_eq (N : Nat) : Ramsey.ptn (N : Int) = .ok ⟨N, Ramsey.ptnCons N⟩ := by
  have : ¬ ((N : Int) < 0) := by omega
  simp [Ramsey.ptn, Ramsey.nonNegInt, this, bind, Except.bind, pure, Except.pure]

theorem ptn_neg (N : Int) (h : N < 0) : Ramsey.ptn N = .error .valueError := by
  simp [Ramsey.ptn, Ramsey.nonNegInt, h, bind, Except.bind]

theorem lt_of_sq_add_sq {x y z : Nat} (hx : 1 ≤ x) (h : x ^ 2 + y ^ 2 = z ^ 2) : y < z := by
  by_contra hc
  have h1 : z ^ 2 ≤ y ^ 2 := Nat.pow_le_pow_left (by omega) 2
  have h2 : 0 < x ^ 2 := Nat.pow_pos (by omega)
  omega

theorem mem_ptnCons (N : Nat) (con : Con) :
    con ∈ Ramsey.ptnCons N ↔ ∃ x y z : Nat, (1 ≤ x ∧ x < y ∧ y < z ∧ z ≤ N ∧ x ^ 2 + y ^ 2 = z ^ 2) ∧
      (con = Con.clause [(x : Int), (y : Int), (z : Int)] ∨
       con = Con.clause [-(x : Int), -(y : Int), -(z : Int)]) := by
  simp only [Ramsey.ptnCons, List.mem_flatMap]
  constructor
  · rintro ⟨p, hp, hcon⟩
    rw [mem_combos] at hp
    obtain ⟨hsub, hlen⟩ := hp
    obtain ⟨x, y, rfl⟩ := List.length_eq_two.1 hlen
    rw [pair_sublist_iff (rangeN_pairwise _ _)] at hsub
    simp only [mem_rangeN] at hsub
    simp only [Ramsey.ptnPair] at hcon
    split at hcon
    · rename_i hc
      have hyz := lt_of_sq_add_sq hsub.1.1 hc.2.symm
      refine ⟨x, y, Nat.sqrt (x ^ 2 + y ^ 2), ⟨hsub.1.1, hsub.2.2, hyz, hc.1, hc.2.symm⟩, ?_⟩
      simpa using hcon
    · simp at hcon
  · rintro ⟨x, y, z, ⟨hx, hxy, hyz, hz, hsq⟩, hcon⟩
    refine ⟨[x, y], ?_, ?_⟩
    · rw [mem_combos, pair_sublist_iff (rangeN_pairwise _ _)]
      simp only [mem_rangeN]
      exact ⟨⟨⟨hx, by omega⟩, ⟨by omega, by omega⟩, hxy⟩, rfl⟩
    · have hs : Nat.sqrt (x ^ 2 + y ^ 2) = z := by rw [hsq, Nat.sqrt_eq']
      simp only [Ramsey.ptnPair, hs]
      rw [if_pos ⟨hz, hsq.symm⟩]
      simpa using hcon

theorem ptn_colouring (N : Nat) :
    ColouringFormula ⟨N, Ramsey.ptnCons N⟩
      (fun t : Nat × Nat × Nat => 1 ≤ t.1 ∧ t.1 < t.2.1 ∧ t.2.1 < t.2.2 ∧ t.2.2 ≤ N ∧ t.1 ^ 2 + t.2.1 ^ 2 = t.2.2 ^ 2)
      (fun t => 1 ≤ t.1 ∧ t.1 < t.2.1 ∧ t.2.1 < t.2.2 ∧ t.2.2 ≤ N ∧ t.1 ^ 2 + t.2.1 ^ 2 = t.2.2 ^ 2)
      (fun t => [t.1, t.2.1, t.2.2]) := by
  refine ⟨fun c => ?_, ?_⟩
  · rw [mem_ptnCons]
    constructor
    · rintro ⟨x, y, z, h, rfl | rfl⟩
      · exact Or.inl ⟨(x, y, z), h, rfl⟩
      · exact Or.inr ⟨(x, y, z), h, rfl⟩
    · rintro (⟨⟨x, y, z⟩, h, rfl⟩ | ⟨⟨x, y, z⟩, h, rfl⟩)
      · exact ⟨x, y, z, h, Or.inl rfl⟩
      · exact ⟨x, y, z, h, Or.inr rfl⟩
  · rintro ⟨x, y, z⟩ h i hi
    have h : 1 ≤ x ∧ x < y ∧ y < z ∧ z ≤ N ∧ _ := h.elim id id
    simp only [List.mem_cons, List.not_mem_nil, or_false] at hi
    show 1 ≤ i ∧ i ≤ N
    omega

theorem ptn_wf (N : Nat) : (⟨N, Ramsey.ptnCons N⟩ : Formula).WF := (ptn_colouring N).wf

theorem ramsey_eq (s k N : Nat) (hs : 1 ≤ s) (hk : 1 ≤ k) :
    Ramsey.ramseyNumber (s : Int) (k : Int) (N : Int) =
      .ok ⟨(Vars.combosSeqs N 2).length, Ramsey.ramseyCons s k N⟩ := by
  have h1 : ¬ ((N : Int) < 0) := by omega
  have h2 : ¬ ((s : Int) < 1) := by omega
  have h3 : ¬ ((k : Int) < 1) := by omega
  simp [Ramsey.ramseyNumber, Ramsey.nonNegInt, Ramsey.positiveInt, h1, h2, h3, bind, Except.bind, pure,
    Except.pure]

theorem ramsey_err (s k N : Int) (h : N < 0 ∨ s < 1 ∨ k < 1) :
    Ramsey.ramseyNumber s k N = .error .valueError := by
  simp only [Ramsey.ramseyNumber, Ramsey.nonNegInt, Ramsey.positiveInt, bind, Except.bind]
  by_cases h1 : N < 0
  · simp [h1]
  · by_cases h2 : s < 1
    · simp [h1, h2]
    · have h3 : k < 1 := by omega
      simp [h1, h2, h3]

theorem mem_pairs {N u v : Nat} : [u, v] ∈ Vars.combosSeqs N 2 ↔ 1 ≤ u ∧ u < v ∧ v ≤ N := by
  rw [Vars.combosSeqs, mem_combos, pair_sublist_iff (rangeN_pairwise _ _)]
  simp only [mem_rangeN]
  constructor
  · rintro ⟨⟨⟨h1, h2⟩, ⟨h3, h4⟩, h5⟩, _⟩; omega
  · intro h; exact ⟨⟨⟨by omega, by omega⟩, ⟨by omega, by omega⟩, by omega⟩, rfl⟩

theorem pairs_nodup (N : Nat) : (Vars.combosSeqs N 2).Nodup := combos_nodup (rangeN_nodup _ _) 2

/-- documented number of variables: one per pair, `N(N-1)/2` -/
theorem two_mul_length_pairs (N : Nat) : 2 * (Vars.combosSeqs N 2).length = N * (N - 1) := by
  rw [Vars.combosSeqs, two_mul_length_combos_two, length_rangeN]; simp

theorem eId_range {N u v : Nat} (h : 1 ≤ u ∧ u < v ∧ v ≤ N) :
    1 ≤ Ramsey.eId N u v ∧ Ramsey.eId N u v ≤ (Vars.combosSeqs N 2).length := by
  have := List.idxOf_lt_length_of_mem (mem_pairs.2 h)
  simp only [Ramsey.eId]; omega

theorem eId_inj {N u v u' v' : Nat} (h : 1 ≤ u ∧ u < v ∧ v ≤ N)
    (he : Ramsey.eId N u v = Ramsey.eId N u' v') : u = u' ∧ v = v' := by
  simp only [Ramsey.eId, Nat.add_left_cancel_iff] at he
  have := (List.idxOf_inj (mem_pairs.2 h)).1 he
  simpa using this

theorem eId_surj {N i : Nat} (h1 : 1 ≤ i) (h2 : i ≤ (Vars.combosSeqs N 2).length) :
    ∃ u v, (1 ≤ u ∧ u < v ∧ v ≤ N) ∧ Ramsey.eId N u v = i := by
  have hlt : i - 1 < (Vars.combosSeqs N 2).length := by omega
  have hm : (Vars.combosSeqs N 2)[i - 1] ∈ Vars.combosSeqs N 2 := List.getElem_mem hlt
  have hlen : ((Vars.combosSeqs N 2)[i - 1]).length = 2 :=
    ((mem_combos (l := rangeN 1 (N + 1)) (k := 2)).1 hm).2
  obtain ⟨u, v, huv⟩ := List.length_eq_two.1 hlen
  refine ⟨u, v, mem_pairs.1 (huv ▸ hm), ?_⟩
  have := (pairs_nodup N).idxOf_getElem (i - 1) hlt
  rw [huv] at this
  simp only [Ramsey.eId, this]; omega

theorem mem_pairLits {N : Nat} {S : List Nat} (hS : S.Pairwise (· < ·)) (e : Nat) :
    e ∈ Ramsey.pairLits N S ↔ ∃ u v, u ∈ S ∧ v ∈ S ∧ u < v ∧ e = Ramsey.eId N u v := by
  simp only [Ramsey.pairLits, List.mem_map, combos_two_of_sorted hS]
  constructor
  · rintro ⟨p, ⟨u, v, rfl, h⟩, rfl⟩; exact ⟨u, v, h.1, h.2.1, h.2.2, rfl⟩
  · rintro ⟨u, v, h1, h2, h3, rfl⟩; exact ⟨[u, v], ⟨u, v, rfl, h1, h2, h3⟩, rfl⟩

theorem mem_vertexSets {N n : Nat} {S : List Nat} :
    S ∈ combos (rangeN 1 (N + 1)) n ↔ (S.Pairwise (· < ·) ∧ ∀ x ∈ S, 1 ≤ x ∧ x ≤ N) ∧ S.length = n := by
  rw [mem_combos, sublist_iff_of_sorted (rangeN_pairwise _ _)]
  simp only [mem_rangeN]
  constructor
  · rintro ⟨⟨h1, h2⟩, h3⟩; exact ⟨⟨h1, fun x hx => by have := h2 x hx; omega⟩, h3⟩
  · rintro ⟨⟨h1, h2⟩, h3⟩; exact ⟨⟨h1, fun x hx => by have := h2 x hx; omega⟩, h3⟩

/-- `RamseyNumber(s,k,N)`: the sets are the pairs inside an `s`-set of vertices (not all non-edges) and inside a
`k`-set (not all edges) -/
theorem ramsey_colouring (s k N : Nat) :
    ColouringFormula ⟨(Vars.combosSeqs N 2).length, Ramsey.ramseyCons s k N⟩
      (· ∈ combos (rangeN 1 (N + 1)) s) (· ∈ combos (rangeN 1 (N + 1)) k) (Ramsey.pairLits N) := by
  refine ⟨fun c => by simp only [Ramsey.ramseyCons, List.mem_append, List.mem_map], ?_⟩
  intro S hS e he
  have hS : S.Pairwise (· < ·) ∧ ∀ x ∈ S, 1 ≤ x ∧ x ≤ N :=
    hS.elim (fun h => (mem_vertexSets.1 h).1) (fun h => (mem_vertexSets.1 h).1)
  obtain ⟨u, v, hu, hv, huv, rfl⟩ := (mem_pairLits hS.1 e).1 he
  exact eId_range ⟨(hS.2 u hu).1, huv, (hS.2 v hv).2⟩

theorem ramsey_wf (s k N : Nat) :
    (⟨(Vars.combosSeqs N 2).length, Ramsey.ramseyCons s k N⟩ : Formula).WF := (ramsey_colouring s k N).wf

theorem mem_apGenerator {N k : Nat} (hk : 1 ≤ k) (ap : List Nat) :
    ap ∈ Ramsey.apGenerator N k ↔
      ∃ i d, 1 ≤ i ∧ 1 ≤ d ∧ i + (k - 1) * d ≤ N ∧ ap = (List.range k).map (fun t => i + d * t) := by
  unfold Ramsey.apGenerator
  by_cases h1 : k = 1
  · subst h1
    simp only [if_true, List.mem_map, mem_rangeN]
    constructor
    · rintro ⟨i, hi, rfl⟩; exact ⟨i, 1, hi.1, le_refl _, by omega, by simp⟩
    · rintro ⟨i, d, hi, _, hN, rfl⟩; exact ⟨i, ⟨hi, by omega⟩, by simp⟩
  · simp only [h1, if_false, List.mem_flatMap, List.mem_map, mem_rangeN]
    obtain ⟨k', rfl⟩ : ∃ k', k = k' + 2 := ⟨k - 2, by omega⟩
    have hk' : k' + 2 - 1 = k' + 1 := by omega
    simp only [hk']
    constructor
    · rintro ⟨d, ⟨hd1, hd2⟩, i, ⟨hi1, hi2⟩, rfl⟩
      have hd3 : d ≤ (N - 1) / (k' + 1) := by omega
      rw [Nat.le_div_iff_mul_le (by omega)] at hd3
      refine ⟨i, d, hi1, hd1, ?_, rfl⟩
      have e1 : d * (k' + 2) = d * (k' + 1) + d := Nat.mul_succ d (k' + 1)
      have e2 : (k' + 1) * d = d * (k' + 1) := Nat.mul_comm _ _
      rw [e1] at hi2; rw [e2]; omega
    · rintro ⟨i, d, hi, hd, hN, rfl⟩
      have e1 : d * (k' + 2) = d * (k' + 1) + d := Nat.mul_succ d (k' + 1)
      have e2 : (k' + 1) * d = d * (k' + 1) := Nat.mul_comm _ _
      rw [e2] at hN
      refine ⟨d, ⟨hd, ?_⟩, i, ⟨hi, ?_⟩, rfl⟩
      · have : d ≤ (N - 1) / (k' + 1) := by
          rw [Nat.le_div_iff_mul_le (by omega)]; omega
        omega
      · rw [e1]; omega

theorem ap_map_inj {k : Nat} (hk : 1 ≤ k) {i d i' d' : Nat}
    (h : (List.range k).map (fun t => i + d * t) = (List.range k).map (fun t => i' + d' * t)) :
    i = i' ∧ (2 ≤ k → d = d') := by
  rw [List.map_inj_left] at h
  have h0 := h 0 (List.mem_range.2 (by omega))
  simp only [Nat.mul_zero, Nat.add_zero] at h0
  refine ⟨h0, fun h2 => ?_⟩
  have h1 := h 1 (List.mem_range.2 (by omega))
  simp only [Nat.mul_one] at h1
  omega

theorem apGenerator_nodup {N k : Nat} (hk : 1 ≤ k) : (Ramsey.apGenerator N k).Nodup := by
  unfold Ramsey.apGenerator
  by_cases h1 : k = 1
  · simp only [h1, if_true]
    exact (rangeN_nodup _ _).map (fun a b hab => by simpa using hab)
  · simp only [h1, if_false]
    exact nodup_flatMap_map (rangeN_nodup _ _) (fun _ _ => rangeN_nodup _ _) fun _ _ _ _ _ _ _ _ h =>
      ⟨(ap_map_inj hk h).2 (by omega), (ap_map_inj hk h).1⟩

theorem vdw2_eq (N k1 k2 : Nat) (h1 : 1 ≤ k1) (h2 : 1 ≤ k2) :
    Ramsey.vdw (N : Int) (k1 : Int) (k2 : Int) [] = .ok ⟨N, Ramsey.vdw2Cons N k1 k2⟩ := by
  have a1 : ¬ ((N : Int) < 0) := by omega
  have a2 : ¬ ((k1 : Int) < 1) := by omega
  have a3 : ¬ ((k2 : Int) < 1) := by omega
  simp [Ramsey.vdw, Ramsey.nonNegInt, Ramsey.positiveInt, Ramsey.positiveIntSeq, a1, a2, a3, bind,
    Except.bind, pure, Except.pure]

theorem vdw_err (N k1 k2 : Int) (ks : List Int) (h : N < 0 ∨ k1 < 1 ∨ k2 < 1 ∨ ∃ x ∈ ks, x < 1) :
    Ramsey.vdw N k1 k2 ks = .error .valueError := by
  simp only [Ramsey.vdw, Ramsey.nonNegInt, Ramsey.positiveInt, Ramsey.positiveIntSeq, bind, Except.bind]
  by_cases a1 : N < 0
  · simp [a1]
  by_cases a2 : k1 < 1
  · simp [a1, a2]
  by_cases a3 : k2 < 1
  · simp [a1, a2, a3]
  have a4 : ∃ x ∈ ks, x < 1 := ((h.resolve_left a1).resolve_left a2).resolve_left a3
  have : ks.any (fun x => decide (x < 1)) = true := by
    simpa [List.any_eq_true] using a4
  simp [a1, a2, a3, this]

theorem apGenerator_range {N k : Nat} (hk : 1 ≤ k) : ∀ ap ∈ Ramsey.apGenerator N k, ∀ x ∈ ap, 1 ≤ x ∧ x ≤ N := by
  intro ap hap x hx
  obtain ⟨i, d, hi, _, hN, rfl⟩ := (mem_apGenerator hk ap).1 hap
  simp only [List.mem_map, List.mem_range] at hx
  obtain ⟨t, ht, rfl⟩ := hx
  have : d * t ≤ (k - 1) * d := by
    rw [Nat.mul_comm]; exact Nat.mul_le_mul_right d (by omega)
  omega

theorem vdw2_colouring (N k1 k2 : Nat) (h1 : 1 ≤ k1) (h2 : 1 ≤ k2) :
    ColouringFormula ⟨N, Ramsey.vdw2Cons N k1 k2⟩ (· ∈ Ramsey.apGenerator N k1) (· ∈ Ramsey.apGenerator N k2)
      (fun ap => ap) :=
  ⟨fun c => by simp only [Ramsey.vdw2Cons, List.mem_append, List.mem_map],
    fun ap hap => hap.elim (apGenerator_range h1 ap) (apGenerator_range h2 ap)⟩

theorem vdw2_wf (N k1 k2 : Nat) (h1 : 1 ≤ k1) (h2 : 1 ≤ k2) :
    (⟨N, Ramsey.vdw2Cons N k1 k2⟩ : Formula).WF := (vdw2_colouring N k1 k2 h1 h2).wf

theorem xId_legal {N C i c : Nat} (hi : 1 ≤ i ∧ i ≤ N) (hc : 1 ≤ c ∧ c ≤ C) : Vars.LegalIdx [N, C] [i, c] :=
  .cons hi (.cons hc .nil)

theorem blockSize_two (N C : Nat) : Vars.blockSize [N, C] = N * C := by
  simp only [Vars.blockSize, List.foldl_cons, List.foldl_nil, Nat.one_mul]

theorem xId_range {N C i c : Nat} (hi : 1 ≤ i ∧ i ≤ N) (hc : 1 ≤ c ∧ c ≤ C) :
    1 ≤ Ramsey.xId N C i c ∧ Ramsey.xId N C i c ≤ N * C := by
  have := Vars.blockId_range 1 (xId_legal hi hc)
  rw [blockSize_two] at this
  unfold Ramsey.xId; omega

theorem xId_inj {N C i c i' c' : Nat} (hc : 1 ≤ c ∧ c ≤ C) (hc' : 1 ≤ c' ∧ c' ≤ C) (hi : 1 ≤ i ∧ i ≤ N)
    (hi' : 1 ≤ i' ∧ i' ≤ N) (h : Ramsey.xId N C i c = Ramsey.xId N C i' c') : i = i' ∧ c = c' := by
  have := Vars.blockId_inj 1 (xId_legal hi hc) (xId_legal hi' hc') h
  simpa using this

theorem xId_surj {N C v : Nat} (h1 : 1 ≤ v) (h2 : v ≤ N * C) :
    ∃ i c, (1 ≤ i ∧ i ≤ N) ∧ (1 ≤ c ∧ c ≤ C) ∧ Ramsey.xId N C i c = v := by
  obtain ⟨idx, hl, e⟩ := Vars.blockId_surj (start := 1) (ranges := [N, C]) h1 (by rw [blockSize_two]; omega)
  obtain _ | ⟨hi, _ | ⟨hc, _ | _⟩⟩ := hl
  exact ⟨_, _, hi, hc, e⟩

theorem vdwMulti_eq (N k1 k2 : Nat) (ks : List Nat) (hne : ks ≠ []) (h1 : 1 ≤ k1) (h2 : 1 ≤ k2)
    (hks : ∀ x ∈ ks, 1 ≤ x) :
    Ramsey.vdw (N : Int) (k1 : Int) (k2 : Int) (ks.map (fun (x : Nat) => (x : Int))) =
      .ok ⟨N * (ks.length + 2), Ramsey.vdwMultiCons N (k1 :: k2 :: ks)⟩ := by
  have a1 : ¬ ((N : Int) < 0) := by omega
  have a2 : ¬ ((k1 : Int) < 1) := by omega
  have a3 : ¬ ((k2 : Int) < 1) := by omega
  have a4 : (ks.map (fun (x : Nat) => (x : Int))).any (fun x => decide (x < 1)) = false := by
    rw [List.any_eq_false]
    intro x hx
    simp only [List.mem_map] at hx
    obtain ⟨y, hy, rfl⟩ := hx
    have := hks y hy
    simp; omega
  have a5 : (ks.map (fun (x : Nat) => (x : Int))).isEmpty = false := by
    cases ks with
    | nil => exact absurd rfl hne
    | cons a l => rfl
  have a6 : (ks.map (fun (x : Nat) => (x : Int))).map Int.toNat = ks := by
    rw [List.map_map]; conv => rhs; rw [← List.map_id ks]
    apply List.map_congr_left; intro x _; simp
  simp [Ramsey.vdw, Ramsey.nonNegInt, Ramsey.positiveInt, Ramsey.positiveIntSeq, a1, a2, a3, a4, a5, a6, bind,
    Except.bind, pure, Except.pure]

theorem vdwMulti_holds_iff (N : Nat) (K : List Nat) (α : Assign) :
    (⟨N * K.length, Ramsey.vdwMultiCons N K⟩ : Formula).holds α = true ↔
      (∀ i, 1 ≤ i ∧ i ≤ N → ∃ c, ((1 ≤ c ∧ c ≤ K.length) ∧ α (Ramsey.xId N K.length i c) = true) ∧
          ∀ c', (1 ≤ c' ∧ c' ≤ K.length) → α (Ramsey.xId N K.length i c') = true → c' = c) ∧
      (∀ c, 1 ≤ c ∧ c ≤ K.length → ∀ ap ∈ Ramsey.apGenerator N (K.getD (c - 1) 0),
          ∃ i ∈ ap, α (Ramsey.xId N K.length i c) = false) := by
  rw [holds_iff]
  simp only [Ramsey.vdwMultiCons, List.mem_append, List.mem_map, List.mem_flatMap, mem_rangeN]
  have hcard : ∀ i, 1 ≤ i ∧ i ≤ N →
      ((Con.lin ((rangeN 1 (K.length + 1)).map (fun c => (Ramsey.xId N K.length i c : Int))) Op.eq 1).holds α = true ↔
        ∃ c, ((1 ≤ c ∧ c ≤ K.length) ∧ α (Ramsey.xId N K.length i c) = true) ∧
          ∀ c', (1 ≤ c' ∧ c' ≤ K.length) → α (Ramsey.xId N K.length i c') = true → c' = c) := by
    intro i hi
    simp only [Con.holds, Op.denote, decide_eq_true_eq]
    rw [count_map_pos α _ _ (fun c hc => by
      have := (mem_rangeN.1 hc); exact (xId_range hi ⟨this.1, by omega⟩).1)]
    have := countP_eq_one_iff_unique _ (fun c => α (Ramsey.xId N K.length i c)) (rangeN_nodup 1 (K.length + 1))
    simp only [mem_rangeN, Nat.lt_succ_iff] at this
    simp only [and_assoc] at this ⊢
    exact_mod_cast this
  have hclause : ∀ c (ap : List Nat),
      ((Con.clause (ap.map fun i => -(Ramsey.xId N K.length i c : Int))).holds α = true ↔
        ∃ i ∈ ap, α (Ramsey.xId N K.length i c) = false) := fun c ap => clauseHolds_map_neg α ap _
  constructor
  · intro h
    exact ⟨fun i hi => (hcard i hi).1 (h _ (Or.inl ⟨i, ⟨hi.1, by omega⟩, rfl⟩)),
      fun c hc ap hap => (hclause c ap).1 (h _ (Or.inr ⟨c, ⟨hc.1, by omega⟩, ap, hap, rfl⟩))⟩
  · rintro ⟨ha, hb⟩ con (⟨i, hi, rfl⟩ | ⟨c, hc, ap, hap, rfl⟩)
    · exact (hcard i ⟨hi.1, by omega⟩).2 (ha i ⟨hi.1, by omega⟩)
    · exact (hclause c ap).2 (hb c ⟨hc.1, by omega⟩ ap hap)

theorem vdwMulti_wf (N : Nat) (K : List Nat) (hK : ∀ x ∈ K, 1 ≤ x) :
    (⟨N * K.length, Ramsey.vdwMultiCons N K⟩ : Formula).WF :=
  G2.wf_of_consIn (lo := 1) (.append
    (.map fun _ hi => .map fun _ hc =>
      have r := xId_range (mem_rangeN_one.1 hi) (mem_rangeN_one.1 hc)
      .pos r.1 r .nil)
    (.flatMap fun c hc => .map fun ap hap => .map fun i hi =>
      have hc := mem_rangeN_one.1 hc
      have r := xId_range (apGenerator_range (hK _ (getD_mem (by omega))) ap hap i hi) hc
      .neg r.1 r .nil))

end Cnfgen.FamRamsey
