/-
`vg(*index)` (`Group.call`): a legal full index gives its identifier, anything else is rejected;
a projection pattern gives the identifiers of `indices(*pattern)`.
-/
import Lemmas.VarsGroup
namespace Cnfgen
namespace Vars

theorem isProjection_natPat {idx : List Nat} (hne : idx ≠ []) : isProjection (natPat idx) = false := by
  simp [isProjection, natPat, hne]

theorem patternNats_natPat (w : List Nat) : patternNats (natPat w) = some w := patternNats_map_some' w

theorem baseCall_of_projection {g : Group} {pat : Pattern} (hp : isProjection pat = true) :
    g.baseCall pat = (g.indices pat).map (fun L => Res.many (L.map g.unsafeId)) := by
  simp only [Group.baseCall, hp, if_true, bind, Except.bind, pure, Except.pure, Except.map]

/-- `vg()` on a well-formed group that answers through `BaseVariableGroup.__call__` (`hb`: every class but the singleton
and the word group, which override it): all identifiers, in order -/
theorem call_nil_base {g : Group} (h : g.WF) (hb : g.call [] = g.baseCall []) :
    g.call [] = .ok (.many (List.range' g.start g.len)) := by
  obtain ⟨idxs, h1, h2⟩ := Group.indices_nil h
  rw [hb, baseCall_of_projection (by rfl), h1]
  simp [Except.map, h2]

theorem block_call_full (s : Nat) (ranges : List Nat) (f : String) {idx : List Nat} (hne : idx ≠ []) :
    (LegalIdx ranges idx → (Group.block s ranges f).call (natPat idx) = .ok (.one (blockId s ranges idx))) ∧
    (¬ LegalIdx ranges idx → (Group.block s ranges f).call (natPat idx) = .error .valueError) := by
  have hp := isProjection_natPat hne
  have hf := blockIndices_full (ranges := ranges) hne
  constructor <;> intro hl
  · simp [Group.call, Group.baseCall, Group.indices, hf.1 hl, hp, Group.unsafeId, bind, Except.bind, pure,
      Except.pure]
  · simp [Group.call, Group.baseCall, Group.indices, hf.2 hl, bind, Except.bind]

theorem word_call_full {s : Nat} {seqs : List (List Nat)} (f : String) (hnd : seqs.Nodup) (w : List Nat) (hne : w ≠ []) :
    (w ∈ seqs → (Group.word s seqs f).call (natPat w) = .ok (.one (s + seqs.idxOf w))) ∧
    (w ∉ seqs → (Group.word s seqs f).call (natPat w) = .error .valueError) := by
  have hpn := patternNats_natPat w
  constructor
  · intro hm
    have : seq2vid s seqs w = some (s + seqs.idxOf w) := by
      rw [seq2vid_eq_wordId hnd, wordId, if_pos (List.idxOf_lt_length_iff.2 hm)]
    simp [Group.call, hpn, this]
  · intro hm
    have := Option.not_isSome_iff_eq_none.1 (mt (seq2vid_isSome_iff s seqs w).1 hm)
    have hne' : (natPat w).isEmpty = false := by simp [natPat, hne]
    simp [Group.call, hpn, this, hne']

/-- a pattern with `None` or a negative entry is never an index of a word group -/
theorem word_call_wildcard (s : Nat) (seqs : List (List Nat)) (f : String) {pat : Pattern}
    (hne : pat ≠ []) (hp : patternNats pat = none) :
    (Group.word s seqs f).call pat = .error .valueError ∧ (Group.word s seqs f).indices pat = .error .valueError := by
  have hne' : pat.isEmpty = false := by cases pat <;> simp_all
  simp [Group.call, Group.indices, hp, hne']

theorem bip_call_full {G : BipG} (h : G.WF) (s : Nat) (f : String) (un : Bool) (u v : Int) :
    (Group.bip s G f un).call [some u, some v] =
      if 0 ≤ u ∧ 0 ≤ v ∧ (u.toNat, v.toNat) ∈ G.edgeset then .ok (.one (bipId G s u.toNat v.toNat))
      else .error .valueError := by
  have := bipIndices_edge G u v
  simp only [Group.call, Group.baseCall, Group.indices, this, bind, Except.bind, pure, Except.pure]
  by_cases hc : 0 ≤ u ∧ 0 ≤ v ∧ (u.toNat, v.toNat) ∈ G.edgeset
  · simp [hc, Except.map, pairList, isProjection, Group.unsafeId]
  · simp [hc, Except.map]

theorem graph_call_sym (s : Nat) (B : BipG) (f : String) (u v : Int) :
    (Group.graph s B f).call [some u, some v] = (Group.graph s B f).call [some v, some u] ∧
    (Group.graph s B f).indices [some u, some v] = (Group.graph s B f).indices [some v, some u] := by
  have h1 : isProjection [some u, some v] = isProjection [some v, some u] := by simp [isProjection]
  simp only [Group.call, Group.baseCall, Group.indices, graphIndices_two, Int.min_comm u v, Int.max_comm u v, h1]
  exact ⟨trivial, trivial⟩

end Vars
end Cnfgen
