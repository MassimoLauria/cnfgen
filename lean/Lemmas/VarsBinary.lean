/-
Lemmas for T-C11.4 and the binary part of T-C04.6 — `BinaryMappingVariables`:
`(i, b) ↔ start - 1 + i·bits − b`, `clog2`, and `forbid`.
-/
import CnfgenModel.Vars.Patterns
import CnfgenModel.Vars.Mapping
import Lemmas.IterNodup
import Lemmas.Linear
import Lemmas.VarsEnum
import Lemmas.VarsBlock
namespace Cnfgen
namespace Vars

/-- `clog2 m` is the least `b` with `m ≤ 2^b` -/
theorem clog2_spec (m : Nat) : m ≤ 2 ^ clog2 m ∧ ∀ b, m ≤ 2 ^ b → clog2 m ≤ b := by
  unfold clog2
  by_cases h : m ≤ 1
  · simp [h]
  · rw [if_neg h]
    constructor
    · have := Nat.lt_log2_self (n := m - 1)
      omega
    · intro b hb
      have h1 : m - 1 < 2 ^ b := by
        have : 0 < 2 ^ b := Nat.two_pow_pos b
        omega
      have := (Nat.log2_lt (n := m - 1) (k := b) (by omega)).mpr h1
      omega

/-- all `(i, b)` in the order of `indices()`: `i` ascending, `b` from `bits-1` down to `0` -/
def binAll (n bits : Nat) : List (Nat × Nat) :=
  (rangeN 1 (n + 1)).flatMap (fun i => (List.range bits).reverse.map (fun b => (i, b)))

theorem mem_binAll {n bits i b : Nat} : (i, b) ∈ binAll n bits ↔ (1 ≤ i ∧ i ≤ n) ∧ b < bits := by
  simp only [binAll, List.mem_flatMap, mem_rangeN, List.mem_map, List.mem_reverse, List.mem_range,
    Prod.mk.injEq]
  constructor
  · rintro ⟨a, ha, c, hc, rfl, rfl⟩
    exact ⟨⟨ha.1, by omega⟩, hc⟩
  · rintro ⟨hi, hb⟩
    exact ⟨i, ⟨hi.1, by omega⟩, b, hb, rfl, rfl⟩

theorem binId_eq {start bits i b : Nat} (hs : 1 ≤ start) (hi : 1 ≤ i) (hb : b < bits) :
    binId start bits i b = start + (i - 1) * bits + (bits - 1 - b) := by
  unfold binId
  obtain ⟨k, rfl⟩ : ∃ k, i = k + 1 := ⟨i - 1, by omega⟩
  simp only [Nat.add_sub_cancel, Nat.add_mul, Nat.one_mul]
  omega

/-- the position `(i - 1)·bits + (bits - 1 - b)` of `(i, b)` in the enumeration is below `n·bits` -/
theorem binPos_lt {n bits i b : Nat} (hi : 1 ≤ i ∧ i ≤ n) (hb : b < bits) :
    (i - 1) * bits + (bits - 1 - b) < n * bits :=
  calc (i - 1) * bits + (bits - 1 - b) < (i - 1) * bits + bits := by omega
    _ = (i - 1 + 1) * bits := (Nat.succ_mul _ _).symm
    _ ≤ n * bits := Nat.mul_le_mul_right _ (by omega)

theorem binRow_ids {start : Nat} (hs : 1 ≤ start) (bits i : Nat) :
    ((List.range bits).reverse.map (fun b => (i + 1, b))).map (fun p => binId start bits p.1 p.2)
      = List.range' (start + i * bits) bits := by
  apply List.ext_getElem
  · simp
  · intro t h1 h2
    have ht : t < bits := by simpa using h2
    simp only [List.map_map, List.getElem_map, List.getElem_reverse, List.getElem_range,
      List.length_range, Function.comp, List.getElem_range']
    rw [binId_eq hs (Nat.succ_pos i) (by omega), Nat.succ_sub_one]
    omega

theorem binAll_ids {start : Nat} (hs : 1 ≤ start) (n bits : Nat) :
    (binAll n bits).map (fun p => binId start bits p.1 p.2) = List.range' start (n * bits) := by
  rw [binAll, rangeN, List.flatMap_map]
  exact ids_flatMap (tot := (· * bits)) (Nat.zero_mul _) (fun i => Nat.succ_mul i bits) n fun i _ =>
    binRow_ids hs bits i

theorem binId_range {start n bits i b : Nat} (hs : 1 ≤ start) (hi : 1 ≤ i ∧ i ≤ n) (hb : b < bits) :
    start ≤ binId start bits i b ∧ binId start bits i b < start + n * bits :=
  ids_range (binAll_ids hs n bits) (mem_binAll.2 ⟨hi, hb⟩)

theorem binAll_nodup (n bits : Nat) : (binAll n bits).Nodup :=
  ids_nodup (binAll_ids (Nat.le_refl 1) n bits)

theorem binIndex_add {start n bits r : Nat} (hs : 1 ≤ start) (hr : r < n * bits) {lit : Int}
    (hl : lit.natAbs = start + r) :
    binIndex start n bits lit = .ok (r / bits + 1, bits - 1 - r % bits) := by
  unfold binIndex
  simp only [hl]
  rw [if_pos ⟨Nat.le_add_right _ _, Nat.add_lt_add_left hr _⟩,
    show start + r - (start - 1) - 1 = r by omega]

/-- `to_index` enumerates `binAll` from `start` -/
theorem binary_enumerates {start : Nat} (hs : 1 ≤ start) (n bits : Nat) :
    Enumerates (binAll n bits) (fun p => binId start bits p.1 p.2) (binIndex start n bits) start (n * bits) where
  ids := binAll_ids hs n bits
  index_id := fun p hp lit hl => by
    obtain ⟨i, b⟩ := p
    obtain ⟨hi, hb⟩ := mem_binAll.1 hp
    rw [binIndex_add hs (binPos_lt hi hb) (by rw [hl, binId_eq hs hi.1 hb, Nat.add_assoc]),
      Nat.add_comm ((i - 1) * bits), Nat.add_mul_div_right _ _ (by omega), Nat.add_mul_mod_self_right,
      Nat.div_eq_of_lt (by omega), Nat.mod_eq_of_lt (by omega)]
    congr 2 <;> omega
  reject := fun _ hr => if_neg hr

theorem binIndex_binId {start n bits i b : Nat} (hs : 1 ≤ start) (hi : 1 ≤ i ∧ i ≤ n) (hb : b < bits) :
    binIndex start n bits (binId start bits i b : Int) = .ok (i, b) ∧
    binIndex start n bits (-(binId start bits i b : Int)) = .ok (i, b) :=
  (binary_enumerates hs n bits).index_both (x := (i, b)) (mem_binAll.2 ⟨hi, hb⟩)

theorem binId_binIndex {start n bits : Nat} {lit : Int} {i b : Nat} (hs : 1 ≤ start)
    (h : binIndex start n bits lit = .ok (i, b)) :
    (1 ≤ i ∧ i ≤ n) ∧ b < bits ∧ binId start bits i b = lit.natAbs :=
  have hm := (binary_enumerates hs n bits).id_index h
  ⟨(mem_binAll.1 hm.1).1, (mem_binAll.1 hm.1).2, hm.2⟩

theorem binIndex_isOk_iff (start n bits : Nat) (lit : Int) :
    (∃ p, binIndex start n bits lit = .ok p) ↔ (start ≤ lit.natAbs ∧ lit.natAbs < start + n * bits) := by
  -- read off the definition, not `(binary_enumerates hs n bits).isOk_iff`: this holds for `start = 0` too
  unfold binIndex
  simp only
  constructor
  · rintro ⟨p, hp⟩
    split at hp
    · assumption
    · cases hp
  · intro hr
    rw [if_pos hr]
    exact ⟨_, rfl⟩

theorem binIndex_error {start n bits : Nat} {lit : Int} {e : Err}
    (h : binIndex start n bits lit = .error e) : e = .valueError := by
  unfold binIndex at h
  simp only at h
  split at h
  · cases h
  · cases h; rfl

/-- pattern matching on pairs (the same reading of a pattern as `edgeMatches` of `Lemmas/VarsBip.lean`; each is the
vocabulary of its own class's statement, `binary_pattern` resp. `bip_patterns`) -/
def pairMatches (pat : Pattern) (p : Nat × Nat) : Bool :=
  match pat with
  | [] => true
  | [a, b] => (match a with | none => true | some x => decide (x = (p.1 : Int))) &&
              (match b with | none => true | some y => decide (y = (p.2 : Int)))
  | _ => false

/-- the pattern is acceptable: no argument or two, `1 ≤ i ≤ n`, `0 ≤ b < bits` where given -/
def BinLegalPat (n bits : Nat) (pat : Pattern) : Prop :=
  pat = [] ∨ ∃ a b, pat = [a, b] ∧ (∀ x, a = some x → 1 ≤ x ∧ x ≤ (n : Int)) ∧ (∀ y, b = some y → 0 ≤ y ∧ y < (bits : Int))

theorem binIndices_two (n bits : Nat) (a b : Option Int) :
    binIndices n bits [a, b] =
      patCol a (rangeN 1 (n + 1)) (fun x => 1 ≤ x ∧ x ≤ n) >>= fun I =>
      patCol b (List.range bits).reverse (fun y => 0 ≤ y ∧ y < bits) >>= fun Bs =>
      pure (I.flatMap fun i => Bs.map fun b => (i, b)) := by
  rw [binIndices, if_neg fun h => h.2 rfl]
  cases a <;> cases b <;> simp only [patCol, ite_bind, ite_not] <;> rfl

theorem pairMatches_two (a b : Option Int) :
    pairMatches [a, b] = fun p => colMatch a p.1 && colMatch b p.2 := by
  funext p; cases a <;> cases b <;> rfl

/-- `indices(*pattern)`: exactly the matching pairs in identifier order; ValueError otherwise -/
theorem binIndices_pattern (n bits : Nat) (pat : Pattern) :
    (BinLegalPat n bits pat → binIndices n bits pat = .ok ((binAll n bits).filter (pairMatches pat))) ∧
    (¬ BinLegalPat n bits pat → binIndices n bits pat = .error .valueError) := by
  have hI : ∀ x : Int, 1 ≤ x ∧ x ≤ (n : Int) → 0 ≤ x ∧ x.toNat ∈ rangeN 1 (n + 1) := fun x hx =>
    ⟨Int.le_trans (by decide) hx.1, mem_rangeN.2 (by omega)⟩
  have hB : ∀ y : Int, 0 ≤ y ∧ y < (bits : Int) → 0 ≤ y ∧ y.toNat ∈ (List.range bits).reverse := fun y hy =>
    ⟨hy.1, List.mem_reverse.2 (List.mem_range.2 (by omega))⟩
  constructor
  · rintro (rfl | ⟨a, b, rfl, ha, hb⟩)
    · exact congrArg Except.ok (List.filter_eq_self.2 fun _ _ => rfl).symm
    · rw [binIndices_two, patCol_ok (rangeN_nodup _ _) ha hI,
        patCol_ok (List.nodup_reverse.2 List.nodup_range) hb hB, pairMatches_two, binAll,
        filter_flatMap_map _ _ Prod.mk (colMatch a) (colMatch b) _ fun _ _ => rfl]
      rfl
  · intro hnl
    match pat with
    | [] => exact absurd (Or.inl rfl) hnl
    | [_] => rfl
    | _ :: _ :: _ :: _ => rfl
    | [a, b] =>
      rw [binIndices_two]
      by_cases ha : ∀ x, a = some x → 1 ≤ x ∧ x ≤ (n : Int)
      · rw [patCol_ok (rangeN_nodup _ _) ha hI, patCol_error fun hb => hnl (Or.inr ⟨a, b, rfl, ha, hb⟩)]
        rfl
      · rw [patCol_error ha]
        rfl

/-- the clause of `forbid`, as a `map` -/
def forbidClause (start bits i j : Nat) : Clause :=
  (List.range bits).map (fun t =>
    (if (j / 2 ^ (bits - 1 - t)) % 2 = 1 then (-1 : Int) else 1) * (binId start bits i (bits - 1 - t) : Int))

theorem forbid_zipWith (start bits i j : Nat) :
    (flipPattern bits j).zipWith (fun s t => s * (binId start bits i (bits - 1 - t) : Int)) (List.range bits)
      = forbidClause start bits i j := by
  unfold flipPattern forbidClause
  rw [List.zipWith_map_left, List.zipWith_self]

theorem forbid_eq (start bits i j : Nat) :
    forbid start bits i j = if j ≥ 2 ^ bits then .error .valueError else .ok (forbidClause start bits i j) := by
  unfold forbid
  rw [forbid_zipWith]

theorem natAbs_of_mem_forbidClause {start bits i j : Nat} {l : Int} (hl : l ∈ forbidClause start bits i j) :
    ∃ b < bits, l.natAbs = binId start bits i b := by
  unfold forbidClause at hl
  obtain ⟨t, ht, rfl⟩ := List.mem_map.1 hl
  have := List.mem_range.1 ht
  refine ⟨bits - 1 - t, by omega, ?_⟩
  split
  · rw [Int.neg_one_mul, Int.natAbs_neg, Int.natAbs_natCast]
  · rw [Int.one_mul, Int.natAbs_natCast]

/-- the value encoded by the bits of `i`: `Σ_b 2^b · ⟦v(i,b)⟧` -/
def binVal (α : Assign) (start bits i : Nat) : Nat :=
  ((List.range bits).map (fun b => if α (binId start bits i b) then 2 ^ b else 0)).sum

def bitSum (f : Nat → Bool) (n : Nat) : Nat :=
  ((List.range n).map (fun b => if f b then 2 ^ b else 0)).sum

theorem binVal_eq_bitSum (α : Assign) (start bits i : Nat) :
    binVal α start bits i = bitSum (fun b => α (binId start bits i b)) bits := rfl

theorem sum_map_two_mul (l : List Nat) (g : Nat → Nat) :
    (l.map (fun b => 2 * g b)).sum = 2 * (l.map g).sum := by
  induction l with
  | nil => rfl
  | cons x xs ih => simp only [List.map_cons, List.sum_cons, ih]; omega

theorem bitSum_succ_low (f : Nat → Bool) (n : Nat) :
    bitSum f (n + 1) = (if f 0 then 1 else 0) + 2 * bitSum (fun b => f (b + 1)) n := by
  unfold bitSum
  rw [List.range_succ_eq_map, List.map_cons, List.sum_cons, List.map_map, ← sum_map_two_mul]
  congr 2
  apply List.map_congr_left
  intro b _
  simp only [Function.comp, Nat.succ_eq_add_one]
  split
  · rw [Nat.pow_succ]; omega
  · rfl

theorem bitSum_eq_ofBits (f : Nat → Bool) (n : Nat) : bitSum f n = Nat.ofBits fun b : Fin n => f b := by
  induction n generalizing f with
  | zero => rfl
  | succ n ih =>
    rw [bitSum_succ_low, Nat.ofBits_succ, ih, Nat.add_comm]
    show _ = 2 * Nat.ofBits (fun b : Fin n => f (b + 1)) + (f 0).toNat
    cases f 0 <;> rfl

theorem bitSum_lt (f : Nat → Bool) (n : Nat) : bitSum f n < 2 ^ n :=
  bitSum_eq_ofBits f n ▸ Nat.ofBits_lt_two_pow _

theorem bitSum_eq_iff_testBit (n : Nat) (f : Nat → Bool) (j : Nat) (hj : j < 2 ^ n) :
    bitSum f n = j ↔ ∀ b < n, f b = j.testBit b := by
  rw [bitSum_eq_ofBits]
  constructor
  · rintro rfl b hb
    exact (Nat.testBit_ofBits_lt (fun b : Fin n => f b) b hb).symm
  · intro h
    refine Nat.eq_of_testBit_eq fun i => ?_
    rw [Nat.testBit_ofBits]
    split
    next hi => exact h i hi
    next hi =>
      -- bits from `n` on are zero on both sides
      exact (Nat.testBit_lt_two_pow (Nat.lt_of_lt_of_le hj
        (Nat.pow_le_pow_right Nat.two_pos (Nat.le_of_not_lt hi)))).symm

/-- `bitSum_eq_iff_testBit` with bit `b` of `j` written as `forbid` computes it -/
theorem bitSum_eq_iff (n : Nat) (f : Nat → Bool) (j : Nat) (hj : j < 2 ^ n) :
    (bitSum f n = j ↔ ∀ b < n, (f b = true ↔ (j / 2 ^ b) % 2 = 1)) := by
  rw [bitSum_eq_iff_testBit n f j hj]
  refine forall₂_congr fun b _ => ?_
  rw [Nat.testBit_eq_decide_div_mod_eq]
  cases f b <;> simp

theorem binVal_lt (α : Assign) (start bits i : Nat) : binVal α start bits i < 2 ^ bits :=
  bitSum_lt _ _

theorem litHolds_sign_false (α : Assign) {v : Nat} (hv : v ≠ 0) (c : Prop) [Decidable c] :
    litHolds α ((if c then (-1 : Int) else 1) * (v : Int)) = false ↔ (α v = true ↔ c) := by
  split <;> rename_i hc
  · rw [Int.neg_one_mul, litHolds_neg_natCast, Bool.not_eq_false', iff_true_right hc]
  · rw [Int.one_mul, litHolds_natCast α (Nat.pos_of_ne_zero hv), iff_false_right hc, Bool.not_eq_true]

theorem forbidClause_false_iff (α : Assign) {start bits i j : Nat} (hs : 1 ≤ start) (hi : 1 ≤ i) :
    clauseHolds α (forbidClause start bits i j) = false ↔
      ∀ b < bits, (α (binId start bits i b) = true ↔ (j / 2 ^ b) % 2 = 1) := by
  have hne : ∀ b < bits, binId start bits i b ≠ 0 := fun b hb =>
    Nat.ne_of_gt (Nat.lt_of_lt_of_le hs (binId_range hs ⟨hi, Nat.le_refl i⟩ hb).1)
  unfold clauseHolds forbidClause
  rw [List.any_eq_false]
  simp only [List.mem_map, List.mem_range, forall_exists_index, and_imp, forall_apply_eq_imp_iff₂,
    Bool.not_eq_true]
  -- position `t` of the clause carries bit `bits - 1 - t`
  constructor
  · intro h b hb
    have := h (bits - 1 - b) (by omega)
    rw [show bits - 1 - (bits - 1 - b) = b by omega] at this
    exact (litHolds_sign_false α (hne b hb) _).1 this
  · intro h t ht
    exact (litHolds_sign_false α (hne _ (by omega)) _).2 (h _ (by omega))

theorem forbidClause_in {start bits i j n : Nat} (hs : 1 ≤ start) (hi : 1 ≤ i ∧ i ≤ n) :
    ∀ l ∈ forbidClause start bits i j, l ≠ 0 ∧ start ≤ l.natAbs ∧ l.natAbs ≤ start + n * bits - 1 := by
  intro l hl
  obtain ⟨b, hb, e⟩ := natAbs_of_mem_forbidClause hl
  have := binId_range hs hi hb
  omega

theorem forbidClause_ne_zero {start bits i j : Nat} (hs : 1 ≤ start) (hi : 1 ≤ i) :
    ∀ l ∈ forbidClause start bits i j, l ≠ 0 := fun l hl =>
  (forbidClause_in hs ⟨hi, Nat.le_refl i⟩ l hl).1

theorem forbid_ok {s bits i j : Nat} (hj : j < 2 ^ bits) :
    forbid s bits i j = .ok (forbidClause s bits i j) := by
  rw [forbid_eq, if_neg (Nat.not_le_of_lt hj)]

theorem forbidClause_spec (α : Assign) {s bits i j : Nat} (hs : 1 ≤ s) (hi : 1 ≤ i) (hj : j < 2 ^ bits) :
    clauseHolds α (forbidClause s bits i j) = false ↔ binVal α s bits i = j := by
  rw [forbidClause_false_iff α hs hi, binVal_eq_bitSum, bitSum_eq_iff bits _ j hj]

/-- `forbid(i, j)` is defined for `j < 2^bits` and is false exactly when the bits of `i` encode `j` -/
theorem forbid_spec (α : Assign) {start bits i j : Nat} (hs : 1 ≤ start) (hi : 1 ≤ i) (hj : j < 2 ^ bits) :
    ∃ c, forbid start bits i j = .ok c ∧ (∀ l ∈ c, l ≠ 0) ∧
      (clauseHolds α c = false ↔ binVal α start bits i = j) :=
  ⟨_, forbid_ok hj, forbidClause_ne_zero hs hi, forbidClause_spec α hs hi hj⟩

theorem forbid_error {start bits i j : Nat} (hj : 2 ^ bits ≤ j) : forbid start bits i j = .error .valueError := by
  rw [forbid_eq, if_pos hj]

/-- `forbidFull` (all the checks of the code) agrees with `forbid` on its documented domain -/
theorem forbidFull_eq_forbid {start n bits : Nat} {i j : Nat} (hi : 1 ≤ i ∧ i ≤ n) :
    forbidFull start n bits (i : Int) (j : Int) = forbid start bits i j := by
  unfold forbidFull forbid
  have hc : ((j : Int) ≥ 2 ^ bits) ↔ j ≥ 2 ^ bits := by
    constructor <;> intro h <;> exact_mod_cast h
  by_cases hj : j ≥ 2 ^ bits
  · rw [if_pos (hc.mpr hj), if_pos hj]
  · rw [if_neg (fun h => hj (hc.mp h)), if_neg hj]
    have hf : flipsGet bits (j : Int) = .ok (flipPattern bits j) := by
      unfold flipsGet
      rw [if_pos (by omega)]
      simp only [Int.toNat_natCast]
      rw [if_pos (by omega)]
    rw [hf]
    have hi' : (1 : Int) ≤ (i : Int) ∧ (i : Int) ≤ (n : Int) := by omega
    simp [hi', bind, Except.bind]

end Vars
end Cnfgen
