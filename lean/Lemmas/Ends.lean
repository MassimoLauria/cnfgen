/-
How a run that may fail ends (`Ends E Q`): the one post-condition of the three parser developments
(Lemmas/DispatchTotal.lean, Lemmas/ArgparseTotal.lean, Lemmas/Tools.lean).  Import-free.
-/
namespace Cnfgen.Cli

def Ends {ε α : Type} (E : ε → Prop) (Q : α → Prop) : Except ε α → Prop
  | .error e => E e
  | .ok a => Q a

section ends
variable {ε α : Type} {E : ε → Prop} {Q Q' : α → Prop} {r : Except ε α}

theorem Ends.mono (h : Ends E Q r) (hq : ∀ a, Q a → Q' a) : Ends E Q' r := by
  cases r with
  | error e => exact h
  | ok a => exact hq a h

theorem Ends.mono_err {E' : ε → Prop} (h : Ends E Q r) (he : ∀ e, E e → E' e) : Ends E' Q r := by
  cases r with
  | error e => exact he e h
  | ok a => exact h

theorem Ends.of_ok (h : ∀ a, r = .ok a → Q a) : Ends (fun _ => True) Q r := by
  cases r with
  | error e => trivial
  | ok a => exact h a rfl

theorem Ends.ok (h : Ends E Q r) {a : α} (hr : r = .ok a) : Q a := by subst hr; exact h

theorem Ends.err (h : Ends E Q r) {e : ε} (hr : r = .error e) : E e := by subst hr; exact h

theorem Ends.ret {a : α} (h : Q a) : Ends E Q (.ok a) := h

theorem Ends.fail {e : ε} (h : E e) : Ends E Q (.error e) := h

end ends

end Cnfgen.Cli
