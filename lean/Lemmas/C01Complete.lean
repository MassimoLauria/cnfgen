/-
`new_mapping(m, n)` is `new_sparse_mapping(CompleteBipartiteGraph(m, n))`: on the complete
bipartite graph the edge identifiers are `Vars.mapId`, rows and columns are full index ranges.
-/
import Lemmas.C01Bip
import Lemmas.GraphComplete
import CnfgenModel.Fam.Php
namespace Cnfgen.Fam
open Cnfgen

theorem oneTo_eq_idx (k : Nat) : oneTo k = idx k := by
  simp [oneTo, idx, rangeN]

theorem degSum_complete (m n k : Nat) (hk : k ≤ m) : degSum (BipG.complete m n) k = k * n := by
  induction k with
  | zero => simp [degSum]
  | succ k ih =>
    simp only [degSum, ih (by omega), BipG.complete_rnbrs (l := m) (r := n) (u := k + 1) ⟨by omega, hk⟩,
      length_oneTo, Nat.add_mul, Nat.one_mul]

theorem idxOf_idx {n v : Nat} (h1 : 1 ≤ v) (h2 : v ≤ n) : (idx n).idxOf v = v - 1 := by
  have hlt : v - 1 < (idx n).length := by rw [length_idx]; omega
  have hget : (idx n)[v - 1]'hlt = v := by
    simp only [idx, rangeN, List.getElem_map, List.getElem_range]; omega
  have := (idx_nodup n).idxOf_getElem (v - 1) hlt
  rw [hget] at this; exact this

theorem bipId_complete (s m n u v : Nat) (hu : 1 ≤ u ∧ u ≤ m) (hv : 1 ≤ v ∧ v ≤ n) :
    Vars.bipId (BipG.complete m n) s u v = Vars.mapId s n u v := by
  rw [bipId_eq _ _ _ _ hu.1 hu.2, degSum_complete m n (u - 1) (by omega), BipG.complete_rnbrs hu, oneTo_eq_idx,
    idxOf_idx hv.1 hv.2]
  rfl

theorem smap_row_complete (s m n u : Nat) (hu : 1 ≤ u ∧ u ≤ m) :
    (SMap.mk (BipG.complete m n) s).row u = (UMap.mk s m n).row u := by
  simp only [SMap.row, UMap.row, BipG.complete_rnbrs hu, oneTo_eq_idx]
  apply List.map_congr_left
  intro v hv
  simp only [SMap.lit, SMap.var, UMap.lit, UMap.var, bipId_complete s m n u v hu (mem_idx.1 hv)]

theorem smap_col_complete (s m n v : Nat) (hv : 1 ≤ v ∧ v ≤ n) :
    (SMap.mk (BipG.complete m n) s).col v = (UMap.mk s m n).col v := by
  simp only [SMap.col, UMap.col, BipG.complete_lnbrs hv, oneTo_eq_idx]
  apply List.map_congr_left
  intro u hu
  simp only [SMap.lit, SMap.var, UMap.lit, UMap.var, bipId_complete s m n u v (mem_idx.1 hu) hv]

theorem SMap.forceComplete_complete (s m n : Nat) :
    (SMap.mk (BipG.complete m n) s).forceComplete = (UMap.mk s m n).forceComplete :=
  List.map_congr_left fun u hu => congrArg Con.clause (smap_row_complete s m n u (mem_idx.1 hu))

theorem SMap.forceFunctional_complete (s m n : Nat) :
    (SMap.mk (BipG.complete m n) s).forceFunctional = (UMap.mk s m n).forceFunctional :=
  List.map_congr_left fun u hu => congrArg (Con.lin · .le 1) (smap_row_complete s m n u (mem_idx.1 hu))

theorem SMap.forceSurjective_complete (s m n : Nat) :
    (SMap.mk (BipG.complete m n) s).forceSurjective = (UMap.mk s m n).forceSurjective :=
  List.map_congr_left fun v hv => congrArg Con.clause (smap_col_complete s m n v (mem_idx.1 hv))

theorem SMap.forceInjective_complete (s m n : Nat) :
    (SMap.mk (BipG.complete m n) s).forceInjective = (UMap.mk s m n).forceInjective :=
  List.map_congr_left fun v hv => congrArg (Con.lin · .le 1) (smap_col_complete s m n v (mem_idx.1 hv))

theorem phpF_eq_gphp_complete (m n : Nat) (f o : Bool) :
    phpF m n f o = gphp (BipG.complete m n) f o := by
  simp only [phpF, gphp, SMap.forceComplete_complete, SMap.forceFunctional_complete, SMap.forceSurjective_complete,
    SMap.forceInjective_complete, BipG.numberOfEdges_complete]

end Cnfgen.Fam
