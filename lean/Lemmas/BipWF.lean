/-
Representation invariant of `BipartiteGraph` (model `BipG`) and the basic facts
about `add_edge`, `add_edges_from`, the edge iterator, `number_of_edges`, the neighbour views
and `CompleteBipartiteGraph`.
-/
import Lemmas.GraphCompleteBip
namespace Cnfgen

/-- the representation invariant of `BipartiteGraph` -/
structure BipG.WF (G : BipG) : Prop where
  ladj_len : G.ladj.length = G.l + 1
  radj_len : G.radj.length = G.r + 1
  row_sorted : ∀ u, (G.rnbrs u).Pairwise (· < ·)
  col_sorted : ∀ v, (G.lnbrs v).Pairwise (· < ·)
  mem_row : ∀ u v, v ∈ G.rnbrs u ↔ (u, v) ∈ G.edgeset
  mem_col : ∀ u v, u ∈ G.lnbrs v ↔ (u, v) ∈ G.edgeset
  edge_range : ∀ u v, (u, v) ∈ G.edgeset → 1 ≤ u ∧ u ≤ G.l ∧ 1 ≤ v ∧ v ≤ G.r
  edges_nodup : G.edgeset.Nodup

namespace BipG

/-- the same invariant as `BipG.Inv` of Lemmas/GraphInv.lean, with the two tables written out -/
theorem wf_iff_inv {G : BipG} : G.WF ↔ G.Inv :=
  ⟨fun h => ⟨⟨h.ladj_len, h.row_sorted, h.mem_row⟩, ⟨h.radj_len, h.col_sorted, fun v u => h.mem_col u v⟩,
      h.edge_range, h.edges_nodup⟩,
   fun h => ⟨h.lRep.len, h.rRep.len, h.lRep.sorted, h.rRep.sorted, h.lRep.mem, fun u v => h.rRep.mem v u,
      h.range, h.nodup⟩⟩

theorem wf_init (l r : Nat) : (BipG.init l r).WF := wf_iff_inv.2 (inv_init l r)

theorem wf_addEdge {G G' : BipG} {u v : Int} (h : G.WF) (he : G.addEdge u v = .ok G') :
    G'.WF := wf_iff_inv.2 (inv_addEdge (wf_iff_inv.1 h) he)

/-- `add_edges_from` and the auxiliary graphs of the graph and digraph edge groups are folds of this shape -/
theorem foldlM_insert {α : Type} {step : BipG → α → Except Err BipG} {R : α → Nat × Nat → Prop}
    (hstep : ∀ (B B' : BipG) (e : α), step B e = .ok B' →
      (B.WF → B'.WF) ∧ B'.l = B.l ∧ B'.r = B.r ∧ ∀ p, p ∈ B'.edgeset ↔ p ∈ B.edgeset ∨ R e p)
    {es : List α} {B B' : BipG} (h : es.foldlM step B = .ok B') :
    (B.WF → B'.WF) ∧ B'.l = B.l ∧ B'.r = B.r ∧
      ∀ p, p ∈ B'.edgeset ↔ p ∈ B.edgeset ∨ ∃ e ∈ es, R e p :=
  have ⟨⟨w, l, r⟩, m⟩ := foldlM_adds (I := fun B₁ => (B.WF → B₁.WF) ∧ B₁.l = B.l ∧ B₁.r = B.r)
    (E := BipG.edgeset) (R := R)
    (fun ⟨w, l, r⟩ e => have ⟨w', l', r', m⟩ := hstep _ _ _ e; ⟨⟨w' ∘ w, l'.trans l, r'.trans r⟩, m⟩)
    ⟨id, rfl, rfl⟩ h
  ⟨w, l, r, m⟩

theorem addEdge_step {G G' : BipG} {u v : Int} (he : G.addEdge u v = .ok G') :
    (G.WF → G'.WF) ∧ G'.l = G.l ∧ G'.r = G.r ∧
      ∀ p, p ∈ G'.edgeset ↔ p ∈ G.edgeset ∨ ((p.1 : Int) = u ∧ (p.2 : Int) = v) := by
  obtain ⟨⟨h1, h2, h3, h4⟩, hm⟩ := mem_edgeset_addEdge he
  refine ⟨fun h => wf_addEdge h he, (addEdge_lr he).1, (addEdge_lr he).2, fun p => ?_⟩
  have key : p = (u.toNat, v.toNat) ↔ ((p.1 : Int) = u ∧ (p.2 : Int) = v) := by
    rw [Prod.ext_iff]; simp only; omega
  rw [hm, key, or_comm]

theorem addEdgesFrom_nil (G : BipG) : G.addEdgesFrom [] = .ok G := rfl

theorem addEdgesFrom_insert {G G' : BipG} {es : List (Int × Int)} (he : G.addEdgesFrom es = .ok G') :
    (G.WF → G'.WF) ∧ G'.l = G.l ∧ G'.r = G.r ∧
      ∀ p, p ∈ G'.edgeset ↔ p ∈ G.edgeset ∨ ∃ e ∈ es, (p.1 : Int) = e.1 ∧ (p.2 : Int) = e.2 :=
  foldlM_insert (step := fun g (e : Int × Int) => g.addEdge e.1 e.2)
    (R := fun e p => (p.1 : Int) = e.1 ∧ (p.2 : Int) = e.2) (fun _ _ _ => addEdge_step) he

theorem wf_addEdgesFrom {G G' : BipG} {es : List (Int × Int)} (h : G.WF)
    (he : G.addEdgesFrom es = .ok G') : G'.WF ∧ G'.l = G.l ∧ G'.r = G.r :=
  have hs := addEdgesFrom_insert he
  ⟨hs.1 h, hs.2.1, hs.2.2.1⟩

theorem mem_addEdgesFrom {G G' : BipG} {es : List (Int × Int)}
    (he : G.addEdgesFrom es = .ok G') (a b : Nat) :
    (a, b) ∈ G'.edgeset ↔ ((a, b) ∈ G.edgeset ∨ ((a : Int), (b : Int)) ∈ es) := by
  rw [(addEdgesFrom_insert he).2.2.2]
  refine or_congr Iff.rfl ⟨?_, fun hm => ⟨_, hm, rfl, rfl⟩⟩
  rintro ⟨e, hm, h1, h2⟩
  rwa [show ((a : Int), (b : Int)) = e from Prod.ext h1 h2]

theorem wf_ofEdges {l r : Nat} {es : List (Nat × Nat)} {G : BipG}
    (he : BipG.ofEdges l r es = .ok G) : G.WF ∧ G.l = l ∧ G.r = r :=
  wf_addEdgesFrom (wf_init l r) he

theorem mem_edges {G : BipG} (h : G.WF) (u v : Nat) : (u, v) ∈ G.edges ↔ (u, v) ∈ G.edgeset :=
  (wf_iff_inv.1 h).mem_edges

theorem edges_nodup {G : BipG} (h : G.WF) : G.edges.Nodup := (wf_iff_inv.1 h).edges_nodup

theorem numberOfEdges_eq_length_edges {G : BipG} (h : G.WF) :
    G.numberOfEdges = G.edges.length := (wf_iff_inv.1 h).numberOfEdges_eq

theorem numberOfEdges_eq_sum {G : BipG} (h : G.WF) :
    G.numberOfEdges = ((List.range G.l).map (fun i => (G.rnbrs (i + 1)).length)).sum := by
  rw [numberOfEdges_eq_length_edges h]
  unfold edges
  rw [List.length_flatMap]
  simp only [List.length_map]

theorem rnbrs_out {G : BipG} (h : G.WF) {u : Nat} (hu : u = 0 ∨ G.l < u) : G.rnbrs u = [] := by
  rw [List.eq_nil_iff_forall_not_mem]
  intro v hv
  have := h.edge_range u v ((h.mem_row u v).1 hv)
  omega

theorem lnbrs_eq_filter {G : BipG} (h : G.WF) (v : Nat) :
    G.lnbrs v = ((List.range G.l).map (· + 1)).filter (fun u => decide (v ∈ G.rnbrs u)) := by
  refine SortedLt.ext (h.col_sorted v) ((sorted_oneTo G.l).filter _) ?_
  intro u
  rw [List.mem_filter, show u ∈ (List.range G.l).map (· + 1) ↔ _ from mem_oneTo, decide_eq_true_eq, h.mem_col, h.mem_row]
  constructor
  · intro hm
    have := h.edge_range u v hm
    exact ⟨⟨this.1, this.2.1⟩, hm⟩
  · exact fun hm => hm.2

theorem completeB_rnbrs (l r u : Nat) (hu : 1 ≤ u ∧ u ≤ l) :
    (BipG.complete l r).rnbrs u = (List.range r).map (· + 1) := complete_rnbrs hu

theorem completeB_lnbrs (l r v : Nat) (hv : 1 ≤ v ∧ v ≤ r) :
    (BipG.complete l r).lnbrs v = (List.range l).map (· + 1) := complete_lnbrs hv

theorem mem_completeB_edgeset (l r u v : Nat) :
    (u, v) ∈ (BipG.complete l r).edgeset ↔ 1 ≤ u ∧ u ≤ l ∧ 1 ≤ v ∧ v ≤ r := mem_complete_edgeset

theorem wf_complete (l r : Nat) : (BipG.complete l r).WF := wf_iff_inv.2 (inv_complete l r)

end BipG

end Cnfgen
