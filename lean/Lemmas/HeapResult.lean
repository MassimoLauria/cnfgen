/-
C19 heap lemmas — the result of a transformation is a well-typed formula, separate from its input.
-/
import Lemmas.HeapTrans
namespace Cnfgen
namespace Heap
local notation "Addr" => Nat

theorem newCNF_cells (cfg : Cfg) (s : Store) (d : Option String) :
    (newCNF cfg s d).2 = s.size + 3 ∧
    (newCNF cfg s d).1[s.size]? = some (.dict (("description", d.getD "Formula in CNF") :: cfg.hdr0)) ∧
    (newCNF cfg s d).1[s.size + 1]? = some (.refs []) ∧
    (newCNF cfg s d).1[s.size + 2]? = some (.groups []) ∧
    (newCNF cfg s d).1[s.size + 3]? = some (.cnf (s.size + 1) s.size (s.size + 2) 0) := by
  -- four pushes: a cell below the old size is read through, the cell at the old size is the one pushed
  have e : ∀ (t : Store) (c : Cell) (i : Nat), i < t.size → (t.push c)[i]? = t[i]? := fun t c i h => get_alloc_lt h
  have f : ∀ (t : Store) (c : Cell) (n : Nat), t.size = n → (t.push c)[n]? = some c := fun t c n h => h ▸ get_alloc_eq
  simp only [newCNF, alloc, Array.size_push]
  refine ⟨trivial, ?_, ?_, ?_, f _ _ _ (by simp only [Array.size_push])⟩
  · rw [e _ _ _ (by simp only [Array.size_push]; omega), e _ _ _ (by simp only [Array.size_push]; omega),
      e _ _ _ (by simp only [Array.size_push]; omega)]
    exact f _ _ _ rfl
  · rw [e _ _ _ (by simp only [Array.size_push]; omega), e _ _ _ (by simp only [Array.size_push]; omega)]
    exact f _ _ _ (by simp only [Array.size_push])
  · rw [e _ _ _ (by simp only [Array.size_push]; omega)]
    exact f _ _ _ (by simp only [Array.size_push])

theorem wt_newCNF (cfg : Cfg) (s : Store) (d : Option String) : WT (newCNF cfg s d).1 (newCNF cfg s d).2 := by
  obtain ⟨h0, h1, h2, h3, h4⟩ := newCNF_cells cfg s d
  rw [h0]
  exact ⟨s.size + 1, s.size, s.size + 2, 0, [], _, [], h4, h2, h1, h3, by simp⟩

theorem wt_buildChk (cfg : Cfg) (s : Store) (acts : List Act) (chk : Except Err Unit) (r : Nat)
    (h : (buildChk cfg s acts chk).2 = .ok r) : WT (buildChk cfg s acts chk).1 r := by
  have h1 := ((acts_runActs acts (newCNF cfg s).1 .refl).step (wt_newCNF cfg s none)).wt
  unfold buildChk at h ⊢
  generalize runActs (newCNF cfg s).2 (newCNF cfg s).1 acts = p at h h1
  obtain ⟨s2, e | u⟩ := p
  · cases h
  · cases chk with
    | error e => cases h
    | ok u => cases h; exact h1

theorem wt_apply (cfg : Cfg) (t : Tr) (s : Store) (f : Nat) (r : Nat) (h : (t.apply cfg s f).2 = .ok r) :
    WT (t.apply cfg s f).1 r := by
  rcases apply_shape cfg t s f with ⟨e, he⟩ | ⟨acts, chk, he⟩ <;> rw [he] at h ⊢
  · cases h
  · exact wt_buildChk cfg s acts chk r h

theorem mem_footprint_reach {s : Store} {x a : Nat} (h : a ∈ footprint s x) : Reach s x a := by
  unfold footprint at h
  cases ho : readCNF s x with
  | none => simp [ho] at h; subst h; exact Reach.refl _
  | some o =>
    simp only [ho] at h
    have hx := readCNF_eq_some.1 ho
    simp at h
    rcases h with h | h | h | h | h
    · subst h; exact Reach.refl _
    · subst h; exact Reach.step hx (by simp [Cell.refsOf]) (Reach.refl _)
    · subst h; exact Reach.step hx (by simp [Cell.refsOf]) (Reach.refl _)
    · subst h; exact Reach.step hx (by simp [Cell.refsOf]) (Reach.refl _)
    · cases hr : readRefs s o.cl with
      | none => simp [hr] at h
      | some as =>
        simp [hr] at h
        exact Reach.step hx (x := o.cl) (by simp [Cell.refsOf])
          (Reach.step (readRefs_eq_some.1 hr) (by simpa [Cell.refsOf] using h) (Reach.refl _))

/-- what `r` consists of is reachable from `r`, hence in the new region (`reach_closed`); what `y` consists of is in the old one -/
theorem Good.sep {s s' : Store} {r y : Nat} (h : Good s s') (hr : s.size ≤ r) (hw : WT s' r) (hy : WT s y) :
    Sep s' r y ∧ snap s' y = snap s y := by
  obtain ⟨e1, e2⟩ := h.keeps hy
  obtain ⟨Y, hY⟩ := wt_iff_snap.mp hy
  refine ⟨⟨hw, wt_iff_snap.mpr ⟨Y, e1.trans hY⟩, ?_⟩, e1⟩
  intro a har haf
  have h1 := wt_inbounds hy a (e2 ▸ haf)
  have h2 := reach_closed h.closed (mem_footprint_reach har) hr
  omega

theorem sep_apply_any (cfg : Cfg) (t : Tr) (s : Store) (f r y : Nat) (h : (t.apply cfg s f).2 = .ok r)
    (hy : WT s y) : Sep (t.apply cfg s f).1 r y ∧ snap (t.apply cfg s f).1 y = snap s y :=
  (disciplined_apply cfg t s f).1.sep ((disciplined_apply cfg t s f).2 r h).1 (wt_apply cfg t s f r h) hy

theorem apply_of_snap_none (cfg : Cfg) (t : Tr) {s : Store} {f : Addr} (h : snap s f = none) :
    t.apply cfg s f = (s, .error modelErr) := by
  unfold Tr.apply; rw [h]

theorem snap_apply (cfg : Cfg) (t : Tr) (s : Store) (f : Addr) :
    snap (t.apply cfg s f).1 f = snap s f ∧ footprint (t.apply cfg s f).1 f = footprint s f := by
  cases h : snap s f with
  | none => rw [apply_of_snap_none cfg t h]; simp [h]
  | some S =>
    have := (disciplined_apply cfg t s f).1.keeps (wt_iff_snap.mpr ⟨S, h⟩)
    rw [h] at this; exact this

theorem wt_input_of_ok (cfg : Cfg) (t : Tr) (s : Store) (f r : Nat) (h : (t.apply cfg s f).2 = .ok r) :
    WT s f := by
  cases hS : snap s f with
  | none => rw [apply_of_snap_none cfg t hS] at h; cases h
  | some F => exact wt_iff_snap.mpr ⟨F, hS⟩

end Heap
end Cnfgen
