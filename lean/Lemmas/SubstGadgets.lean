/-
Helper lemmas for C05: what each gadget encoder of substitutions.py means, on the positive and on
the negative literal of an original variable, in terms of the number of true variables of its block.
-/
import Lemmas.Subst
import Props.C04
import Lemmas.GraphInv
namespace Cnfgen
namespace Subst
open Linear

theorem blockLits_length (k v : Nat) : (blockLits k v).length = k := by simp [blockLits]

theorem mem_blockLits (k v : Nat) (x : Int) :
    x ∈ blockLits k v ↔ ∃ i, i < k ∧ x = (((v - 1) * k + (i + 1) : Nat) : Int) := by
  simp only [blockLits, List.mem_map, List.mem_range]
  exact exists_congr fun i => and_congr_right fun _ => eq_comm

theorem blockLits_nonzero (k v : Nat) : ∀ l ∈ blockLits k v, l ≠ 0 := by
  intro l hl
  obtain ⟨i, _, rfl⟩ := (mem_blockLits k v l).1 hl
  omega

theorem pred_mul_add {v : Nat} (hv : 1 ≤ v) (k : Nat) : (v - 1) * k + k = v * k := by
  rw [← Nat.succ_mul, Nat.succ_eq_add_one, Nat.sub_add_cancel hv]

theorem blockLits_bounded (k v N : Nat) (hv : 1 ≤ v) (hN : v ≤ N) :
    ∀ y ∈ blockLits k v, y ≠ 0 ∧ y.natAbs ≤ k * N := by
  intro y hy
  obtain ⟨i, hi, rfl⟩ := (mem_blockLits k v y).1 hy
  have h1 := pred_mul_add hv k
  have h2 : v * k ≤ N * k := Nat.mul_le_mul_right k hN
  have h3 : N * k = k * N := Nat.mul_comm _ _
  constructor
  · omega
  · simp only [Int.natAbs_natCast]; omega

theorem count_blockLits (β : Assign) (k v : Nat) :
    count β (blockLits k v) = (List.range k).countP (fun i => β ((v - 1) * k + (i + 1))) :=
  count_map_pos β (List.range k) (fun i => (v - 1) * k + (i + 1)) (fun i _ => by omega)

theorem count_eq_zero_iff (β : Assign) (ls : List Int) :
    count β ls = 0 ↔ ∀ x ∈ ls, litHolds β x = false := by
  simp [count, List.countP_eq_zero]

theorem count_eq_length_iff (β : Assign) (ls : List Int) :
    count β ls = ls.length ↔ ∀ x ∈ ls, litHolds β x = true := by
  simp [count, List.countP_eq_length]

theorem pos_lit (v : Nat) (hv : 1 ≤ v) : ((v : Int) > 0) ∧ ((v : Int)).natAbs = v := by
  constructor
  · omega
  · simp

theorem neg_lit (v : Nat) (hv : 1 ≤ v) : ¬ (-(v : Int) > 0) ∧ (-(v : Int)).natAbs = v := by
  constructor
  · omega
  · simp

theorem negop_table : negop .eq = .ne ∧ negop .ne = .eq ∧ negop .lt = .ge ∧ negop .ge = .lt ∧
    negop .gt = .le ∧ negop .le = .gt := by decide

theorem pair_holds (β : Assign) (a b : Int) :
    clauseHolds β [a, b] = (litHolds β a || litHolds β b) := by simp [clauseHolds]

theorem forall_mem_iff_getD {b : List Int} {p : Int → Prop} :
    (∀ y ∈ b, p y) ↔ ∀ j, j < b.length → p (b.getD j 0) :=
  ⟨fun h j hj => h _ (getD_mem hj), fun h y hy => by
    obtain ⟨j, hj, rfl⟩ := List.getElem_of_mem hy
    have := h j hj
    rwa [List.getD_eq_getElem?_getD, List.getElem?_eq_getElem hj] at this⟩

/-- the cycle `x_0 → x_1 → … → x_{k-1} → x_0` of implications (`aesubst`) holds iff all literals agree -/
theorem cycle_holds (β : Assign) (b : List Int) (hnz : ∀ y ∈ b, y ≠ 0) (hk : 1 ≤ b.length) :
    (∀ c ∈ ([b.getD 0 0, -(b.getD (b.length - 1) 0)] ::
        (List.range (b.length - 1)).map (fun j => [-(b.getD j 0), b.getD (j + 1) 0])), clauseHolds β c = true) ↔
      (count β b = 0 ∨ count β b = b.length) := by
  have hneg : ∀ j, j < b.length → litHolds β (-(b.getD j 0)) = !litHolds β (b.getD j 0) :=
    fun j hj => litHolds_neg β _ (hnz _ (getD_mem hj))
  rw [count_eq_zero_iff, count_eq_length_iff, forall_mem_iff_getD, forall_mem_iff_getD]
  simp only [List.mem_cons, List.mem_map, List.mem_range, forall_eq_or_imp, forall_exists_index, and_imp,
    forall_apply_eq_imp_iff₂, pair_holds]
  constructor
  · rintro ⟨h0, hstep⟩
    -- the implications compose along the list
    have mono : ∀ i j, i ≤ j → j < b.length → litHolds β (b.getD i 0) = true → litHolds β (b.getD j 0) = true := by
      intro i j hij
      induction hij with
      | refl => exact fun _ h => h
      | @step m _ ih =>
        intro hm h
        have := hstep m (by omega)
        rw [hneg m (by omega), ih (by omega) h] at this
        simpa using this
    rw [hneg _ (by omega)] at h0
    cases hx : litHolds β (b.getD 0 0)
    · left; intro j hj
      cases hj' : litHolds β (b.getD j 0)
      · rfl
      · rw [hx, mono j (b.length - 1) (by omega) (by omega) hj'] at h0; cases h0
    · right; exact fun j hj => mono 0 j (by omega) hj hx
  · intro h
    refine ⟨?_, fun j hj => ?_⟩
    · rw [hneg _ (by omega)]
      rcases h with h | h
      · rw [h (b.length - 1) (by omega), Bool.not_false, Bool.or_true]
      · rw [h 0 (by omega), Bool.true_or]
    · rw [hneg j (by omega)]
      rcases h with h | h
      · rw [h j (by omega), Bool.not_false, Bool.true_or]
      · rw [h (j + 1) (by omega), Bool.or_true]

theorem notAllEq_holds (β : Assign) (l : List Int) (hnz : ∀ y ∈ l, y ≠ 0) :
    (∀ c ∈ [l, l.map (fun v => -v)], clauseHolds β c = true) ↔
      ¬ (count β l = 0 ∨ count β l = l.length) := by
  simp only [List.mem_cons, List.not_mem_nil, or_false, forall_eq_or_imp, forall_eq,
    clauseHolds_iff_count_pos, count_map_neg β l hnz]
  have := count_add_falses β l
  omega

/-! ### the count gadgets: one builder for the positive literal, one for the negative, on the same literals -/

/-- the clauses `cs` mention only the literals `ls` (up to sign), and hold exactly when `q` -/
def Says (ls : List Int) (cs : List Clause) (q : Assign → Prop) : Prop :=
  Uses ls cs ∧ ∀ β, (∀ c ∈ cs, clauseHolds β c = true) ↔ q β

theorem Says.congr {ls cs q q'} (h : Says ls cs q) (e : ∀ β, q β ↔ q' β) : Says ls cs q' :=
  ⟨h.1, fun β => (h.2 β).trans (e β)⟩

/-- The gadget theorem.  An encoder that applies to the literals `ls v` of the original variable `v` a builder `P`
saying `q` on the literal `v` and a builder `Q` saying `¬ q` on `-v` gives `v` the value `q`, within the
variables of the `ls v`. -/
theorem gadget (enc : Int → List Clause) (ls : Nat → List Int) (P Q : List Int → List Clause)
    (q : Assign → Nat → Prop) [∀ β v, Decidable (q β v)] (N M : Nat)
    (henc : ∀ l : Int, l ≠ 0 → enc l = if l > 0 then P (ls l.natAbs) else Q (ls l.natAbs))
    (hls : ∀ v, 1 ≤ v → v ≤ N → ∀ y ∈ ls v, y ≠ 0 ∧ y.natAbs ≤ M)
    (hP : ∀ v, 1 ≤ v → v ≤ N → Says (ls v) (P (ls v)) (q · v))
    (hQ : ∀ v, 1 ≤ v → v ≤ N → Says (ls v) (Q (ls v)) (¬ q · v)) :
    EncB N M enc ∧ ∀ β v, 1 ≤ v → v ≤ N → Means β enc v (decide (q β v)) := by
  refine ⟨fun l h0 hN => ?_, fun β v hv hN => ⟨?_, ?_⟩⟩
  · have hv : 1 ≤ l.natAbs := by omega
    rw [henc l h0]
    split
    · exact (hP _ hv hN).1.bounded (hls _ hv hN)
    · exact (hQ _ hv hN).1.bounded (hls _ hv hN)
  · rw [henc _ (by omega), if_pos (by omega), Int.natAbs_natCast, (hP v hv hN).2, decide_eq_true_iff]
  · rw [henc _ (by omega), if_neg (by omega), Int.natAbs_neg, Int.natAbs_natCast, (hQ v hv hN).2,
      decide_eq_false_iff_not]

/-! what the builders say (C04 and `*_uses`, paired) -/

theorem says_add (ls : List Int) (o : Op) (C : Int) (h : ∀ l ∈ ls, l ≠ 0) :
    Says ls (Linear.add ls o C) (fun β => o.denote (count β ls) C = true) :=
  ⟨add_uses ls o C, fun β => C04.linear_holds β ls o C h⟩

/-- "exactly one": the `oneify` gadget on a positive literal, and the selector constraint of lifting -/
theorem says_exactlyOne (ls : List Int) (h : ∀ l ∈ ls, l ≠ 0) :
    Says ls (Linear.add ls .eq 1) (fun β => count β ls = 1) :=
  (says_add ls .eq 1 h).congr fun β => by simp [Op.denote]; omega

theorem says_parity (ls : List Int) (b : Bool) (h : ∀ l ∈ ls, l ≠ 0) :
    Says ls (parity ls (if b then 1 else 0)) (fun β => count β ls % 2 = if b then 1 else 0) :=
  ⟨parity_uses _ _, fun β => C04.parity_holds β ls b h⟩

theorem says_clause (ls : List Int) : Says ls [ls] (fun β => 1 ≤ count β ls) :=
  ⟨.self, fun β => by rw [List.forall_mem_singleton, clauseHolds_iff_count_pos]; exact Iff.rfl⟩

theorem says_units (ls : List Int) (h : ∀ l ∈ ls, l ≠ 0) :
    Says ls (ls.map fun x => [-x]) (fun β => ¬ 1 ≤ count β ls) := by
  refine ⟨fun c hc x hx => ?_, fun β => ?_⟩
  · obtain ⟨y, hy, rfl⟩ := List.mem_map.1 hc
    rw [List.mem_singleton.1 hx, Int.neg_neg]; exact .inr hy
  · show _ ↔ ¬ 1 ≤ count β ls
    rw [Nat.not_le, Nat.lt_one_iff, count_eq_zero_iff, List.forall_mem_map]
    refine forall₂_congr fun x hx => ?_
    rw [clauseHolds, List.any_cons, List.any_nil, Bool.or_false, litHolds_neg β x (h x hx), Bool.not_eq_true']

theorem says_cycle (b : List Int) (h : ∀ y ∈ b, y ≠ 0) (hk : 1 ≤ b.length) :
    Says b ([b.getD 0 0, -(b.getD (b.length - 1) 0)] ::
        (List.range (b.length - 1)).map (fun j => [-(b.getD j 0), b.getD (j + 1) 0]))
      (fun β => count β b = 0 ∨ count β b = b.length) := by
  refine ⟨fun c hc y hy => ?_, fun β => cycle_holds β b h hk⟩
  have hm : ∀ j, j < b.length → b.getD j 0 ∈ b := fun j hj => getD_mem hj
  simp only [List.mem_cons, List.mem_map, List.mem_range] at hc
  rcases hc with rfl | ⟨j, hj, rfl⟩ <;> simp only [List.mem_cons, List.not_mem_nil, or_false] at hy <;>
    rcases hy with rfl | rfl
  · exact .inl (hm 0 (by omega))
  · exact .inr (by rw [Int.neg_neg]; exact hm _ (by omega))
  · exact .inr (by rw [Int.neg_neg]; exact hm _ (by omega))
  · exact .inl (hm _ (by omega))

theorem says_notAllEq (l : List Int) (h : ∀ y ∈ l, y ≠ 0) :
    Says l [l, l.map (fun v => -v)] (fun β => ¬ (count β l = 0 ∨ count β l = l.length)) :=
  ⟨Uses.self.append Uses.self.neg, fun β => notAllEq_holds β l h⟩

theorem ite_means (β : Assign) (N v : Nat) (hv : 1 ≤ v) :
    Means β (ite N) v (if β v then β (N + v) else β (2 * N + v)) := by
  have e1 : ∀ s : Int, s * ((N : Int) + ((v : Nat) : Int)) = s * ((N + v : Nat) : Int) := fun s => by
    rw [Int.natCast_add]
  have e2 : ∀ s : Int, s * (2 * (N : Int) + ((v : Nat) : Int)) = s * ((2 * N + v : Nat) : Int) := fun s => by
    rw [Int.natCast_add, Int.natCast_mul]; rfl
  constructor
  · simp only [ite, (pos_lit v hv).1, (pos_lit v hv).2, if_true, e1, e2, Int.one_mul, List.mem_cons,
      List.not_mem_nil, or_false, forall_eq_or_imp, forall_eq, pair_holds,
      litHolds_natCast β hv, litHolds_neg_natCast β v, litHolds_natCast β (n := N + v) (by omega),
      litHolds_natCast β (n := 2 * N + v) (by omega)]
    cases β v <;> simp
  · simp only [ite, (neg_lit v hv).1, (neg_lit v hv).2, if_false, e1, e2, Int.neg_mul, Int.one_mul, List.mem_cons,
      List.not_mem_nil, or_false, forall_eq_or_imp, forall_eq, pair_holds,
      litHolds_natCast β hv, litHolds_neg_natCast β v, litHolds_neg_natCast β (N + v),
      litHolds_neg_natCast β (2 * N + v)]
    cases β v <;> simp

theorem ite_bounded (N : Nat) : EncB N (3 * N) (ite N) := by
  intro l h0 hN c hc x hx
  -- the magnitudes are `|l|`, `N + |l|`, `2N + |l|` whatever the sign
  have hs : ∀ y : Nat, ((if l > 0 then (1 : Int) else -1) * (y : Int)).natAbs = y := by
    intro y; split <;> simp
  have e1 : (N : Int) + ((l.natAbs : Nat) : Int) = ((N + l.natAbs : Nat) : Int) := by push_cast; rfl
  have e2 : 2 * (N : Int) + ((l.natAbs : Nat) : Int) = ((2 * N + l.natAbs : Nat) : Int) := by push_cast; rfl
  have hv : 1 ≤ l.natAbs := by omega
  have key : 1 ≤ x.natAbs ∧ x.natAbs ≤ 3 * N := by
    simp only [ite, e1, e2, List.mem_cons, List.not_mem_nil, or_false] at hc
    rcases hc with rfl | rfl <;> simp only [List.mem_cons, List.not_mem_nil, or_false] at hx <;>
      rcases hx with rfl | rfl <;> simp only [hs, Int.natAbs_neg, Int.natAbs_natCast] <;> omega
  exact ⟨by omega, key.2⟩

theorem flip_means (β : Assign) (v : Nat) (hv : 1 ≤ v) : Means β flipLit v (!β v) :=
  ⟨by simp [flipLit, clauseHolds, litHolds_neg_natCast β v], by simp [flipLit, clauseHolds, litHolds_natCast β hv]⟩

theorem flip_bounded (N : Nat) : EncB N N flipLit := by
  intro l h0 hN c hc x hx
  simp only [flipLit, List.mem_singleton] at hc
  subst hc
  simp only [List.mem_singleton] at hx
  subst hx
  constructor <;> omega

theorem flatten_map_singleton (f : Int → Int) (c : Clause) :
    (c.map (fun l => [f l])).flatten = c.map f := by
  induction c with
  | nil => rfl
  | cons x xs ih => simp [ih]

theorem distribute_singletons (f : Int → Int) (c : Clause) :
    distribute (c.map (fun l => [[f l]])) = [c.map f] := by
  have h : product (c.map (fun l => [[f l]])) = [c.map (fun l => [f l])] := by
    induction c with
    | nil => simp [product]
    | cons x xs ih => simp [product, ih]
  simp [distribute, h, flatten_map_singleton]

theorem substClauses_flip (cs : List Clause) :
    substClauses flipLit cs = cs.map (fun c => c.map (fun l => -l)) := by
  induction cs with
  | nil => simp [substClauses]
  | cons c cs ih =>
    have := distribute_singletons (fun l => -l) c
    simp only [substClauses, List.flatMap_cons, List.map_cons] at ih ⊢
    rw [ih]
    show distribute (c.map (fun l => [[-l]])) ++ _ = _
    rw [this]; rfl

theorem clauseMax_map_neg (c : Clause) : clauseMax (c.map (fun l => -l)) = clauseMax c := by
  induction c with
  | nil => rfl
  | cons x xs ih => rw [List.map_cons, clauseMax_cons, clauseMax_cons, ih, Int.natAbs_neg]

theorem maxVar_flip (cs : List Clause) : maxVar (substClauses flipLit cs) = maxVar cs := by
  rw [substClauses_flip]
  induction cs with
  | nil => rfl
  | cons c cs ih => rw [List.map_cons, maxVar_cons, maxVar_cons, ih, clauseMax_map_neg]

/-- the right neighbours recorded by the graph object are right vertices -/
def BipWF (B : BipG) : Prop := ∀ u, ∀ x ∈ B.rnbrs u, 1 ≤ x ∧ x ≤ B.r

theorem nbLits_bounded (B : BipG) (hB : BipWF B) (v : Nat) :
    ∀ y ∈ nbLits B v, y ≠ 0 ∧ y.natAbs ≤ B.r := by
  intro l hl
  obtain ⟨x, hx, rfl⟩ := List.mem_map.1 hl
  have := hB v x hx
  constructor
  · omega
  · simp only [Int.natAbs_natCast]; omega

theorem nbLits_nonzero (B : BipG) (hB : BipWF B) (v : Nat) : ∀ l ∈ nbLits B v, l ≠ 0 :=
  fun l hl => (nbLits_bounded B hB v l hl).1

theorem nbLits_length (B : BipG) (v : Nat) : (nbLits B v).length = (B.rnbrs v).length := by
  simp [nbLits]

theorem liftVar_bounds (k v i N : Nat) (hv : 1 ≤ v) (hN : v ≤ N) (hi : i < k) :
    1 ≤ xVar k v i ∧ xVar k v i ≤ 2 * k * N ∧ 1 ≤ yVar k v i ∧ yVar k v i ≤ 2 * k * N := by
  have h1 : (v - 1) * 2 * k + 2 * k = v * (2 * k) := by rw [Nat.mul_assoc, pred_mul_add hv]
  have h2 : v * (2 * k) ≤ N * (2 * k) := Nat.mul_le_mul_right _ hN
  have h3 : N * (2 * k) = 2 * k * N := Nat.mul_comm _ _
  unfold xVar yVar
  omega

theorem lift_bounded (N k : Nat) : EncB N (2 * k * N) (lift k) := by
  intro l h0 hN c hc x hx
  simp only [lift, List.mem_map, List.mem_range] at hc
  obtain ⟨i, hi, rfl⟩ := hc
  have hb := liftVar_bounds k l.natAbs i N (by omega) hN hi
  simp only [List.mem_cons, List.not_mem_nil, or_false] at hx
  rcases hx with rfl | rfl
  · constructor <;> omega
  · split <;> constructor <;> omega

/-- the clauses of `lift` for the literal of `v` with polarity `b`: every selected copy has the value `b` -/
theorem lift_raw (β : Assign) (k v : Nat) (hv : 1 ≤ v) (b : Bool) :
    (∀ c ∈ lift k (if b then (v : Int) else -(v : Int)), clauseHolds β c = true) ↔
      ∀ i, i < k → β (yVar k v i) = true → β (xVar k v i) = b := by
  have hx : ∀ i, 1 ≤ xVar k v i := fun i => by unfold xVar; omega
  have e : ∀ z : Int, (-1 : Int) * z = -z := fun z => by omega
  have hl : ∀ i, litHolds β ((if (if b then (v : Int) else -(v : Int)) > 0 then (1 : Int) else -1) *
      ((xVar k v i : Nat) : Int)) = (β (xVar k v i) == b) := fun i => by
    cases b
    · simp only [Bool.false_eq_true, if_false, (neg_lit v hv).1, e, litHolds_neg_natCast]
      cases β (xVar k v i) <;> rfl
    · simp only [if_true, (pos_lit v hv).1, Int.one_mul, litHolds_natCast β (hx i)]
      cases β (xVar k v i) <;> rfl
  have hn : (if b then (v : Int) else -(v : Int)).natAbs = v := by cases b <;> simp
  simp only [lift, hn, List.mem_map, List.mem_range, forall_exists_index, and_imp, forall_apply_eq_imp_iff₂, pair_holds, hl,
    litHolds_neg_natCast]
  refine forall₂_congr fun i _ => ?_
  cases β (yVar k v i) <;> simp

/-- the selector literals of the original variable `v` -/
def yLits (k v : Nat) : List Int := (List.range k).map (fun i => ((yVar k v i : Nat) : Int))

theorem count_yLits (β : Assign) (k v : Nat) :
    count β (yLits k v) = (List.range k).countP (fun i => β (yVar k v i)) :=
  count_map_pos β (List.range k) (fun i => yVar k v i) (fun i _ => by unfold yVar; omega)

theorem countP_eq_one {α : Type} (p : α → Bool) {l : List α} (hl : l.Nodup) (h : l.countP p = 1) :
    ∃ s ∈ l, p s = true ∧ ∀ t ∈ l, p t = true → t = s := by
  obtain ⟨s, hs, hp⟩ := List.countP_pos_iff.1 (by omega : 0 < l.countP p)
  exact ⟨s, hs, hp, fun t ht hpt => (countP_le_one_iff_nodup l p hl).1 (by omega) t ht s hs hpt hp⟩

/-- under exactly one true selector, "every selected copy is true" = "some selected copy is true" -/
theorem lift_pos (β : Assign) (k v : Nat) (hv : 1 ≤ v) (hsel : count β (yLits k v) = 1) :
    (∀ c ∈ lift k (v : Int), clauseHolds β c = true) ↔
      (List.range k).any (fun i => β (yVar k v i) && β (xVar k v i)) = true := by
  refine (lift_raw β k v hv true).trans ?_
  rw [count_yLits] at hsel
  obtain ⟨s, hs, hys, hu⟩ := countP_eq_one _ List.nodup_range hsel
  simp only [List.mem_range] at hs hu
  simp only [List.any_eq_true, List.mem_range, Bool.and_eq_true]
  constructor
  · intro h; exact ⟨s, hs, hys, h s hs hys⟩
  · rintro ⟨i, hi, hyi, hxi⟩ j hj hyj
    have e1 := hu i hi hyi
    have e2 := hu j hj hyj
    subst e1; subst e2; exact hxi

theorem lift_neg (β : Assign) (k v : Nat) (hv : 1 ≤ v) :
    (∀ c ∈ lift k (-(v : Int)), clauseHolds β c = true) ↔
      (List.range k).any (fun i => β (yVar k v i) && β (xVar k v i)) = false := by
  refine (lift_raw β k v hv false).trans ?_
  simp only [List.any_eq_false, List.mem_range, Bool.and_eq_true, not_and, Bool.not_eq_true]

theorem rangeStep_lifting (k N : Nat) (hk : 1 ≤ k) :
    rangeStep (k + 1) (2 * k * N + 1) (2 * k) = (List.range N).map (fun j => k + 1 + 2 * k * j) := by
  unfold rangeStep
  have : (2 * k * N + 1 - (k + 1) + 2 * k - 1) / (2 * k) = N := by
    cases N with
    | zero =>
      simp only [Nat.mul_zero, Nat.zero_add]
      apply Nat.div_eq_of_lt
      omega
    | succ n =>
      have e : 2 * k * (n + 1) = 2 * k * n + 2 * k := Nat.mul_succ _ _
      apply Nat.div_eq_of_lt_le
      · rw [Nat.mul_comm]; omega
      · rw [Nat.add_mul, Nat.one_mul, Nat.mul_comm]; omega
  rw [this]

theorem selLits_eq (k j : Nat) :
    (List.range k).map (fun i => ((k + 1 + 2 * k * j + i : Nat) : Int)) = yLits k (j + 1) := by
  unfold yLits yVar
  apply List.map_congr_left
  intro i _
  have : (j + 1 - 1) * 2 * k = 2 * k * j := by
    rw [Nat.add_sub_cancel, Nat.mul_assoc, Nat.mul_comm]
  rw [this]
  congr 1
  omega

theorem yLits_nonzero (k v : Nat) : ∀ l ∈ yLits k v, l ≠ 0 := by
  intro l hl
  obtain ⟨i, _, rfl⟩ := List.mem_map.1 hl
  unfold yVar; omega

theorem yLits_bounded (k v N : Nat) (hv : 1 ≤ v) (hN : v ≤ N) :
    ∀ y ∈ yLits k v, y ≠ 0 ∧ y.natAbs ≤ 2 * k * N := by
  intro l hl
  obtain ⟨i, hi, rfl⟩ := List.mem_map.1 hl
  have := liftVar_bounds k v i N hv hN (List.mem_range.1 hi)
  constructor
  · omega
  · simp only [Int.natAbs_natCast]; omega

theorem selectors_eq (k N : Nat) (hk : 1 ≤ k) :
    selectors k N = (List.range N).flatMap (fun j => Linear.add (yLits k (j + 1)) .eq 1) := by
  unfold selectors
  rw [rangeStep_lifting k N hk, List.flatMap_map]
  congr 1
  funext j
  rw [selLits_eq]

theorem selectors_holds (β : Assign) (k N : Nat) (hk : 1 ≤ k) :
    (∀ c ∈ selectors k N, clauseHolds β c = true) ↔
      ∀ v, 1 ≤ v → v ≤ N → count β (yLits k v) = 1 := by
  rw [selectors_eq k N hk, List.forall_mem_flatMap]
  simp only [fun j => (says_exactlyOne _ (yLits_nonzero k (j + 1))).2 β, List.mem_range]
  constructor
  · intro h v hv hN
    obtain ⟨j, rfl⟩ : ∃ j, v = j + 1 := ⟨v - 1, by omega⟩
    exact h j (by omega)
  · exact fun h j hj => h (j + 1) (by omega) (by omega)

theorem selectors_bounded (k N : Nat) (hk : 1 ≤ k) : Bounded (2 * k * N) (selectors k N) := by
  rw [selectors_eq k N hk]
  intro c hc
  simp only [List.mem_flatMap, List.mem_range] at hc
  obtain ⟨j, hj, hc⟩ := hc
  exact (add_uses _ _ _).bounded (yLits_bounded k (j + 1) N (by omega) (by omega)) c hc

/-! ### every bipartite graph built through the API satisfies `BipWF` -/

theorem BipWF.of_inv {B : BipG} (h : BipG.Inv B) : BipWF B := fun _ _ hx => (h.rnbrs_range hx).2.2

theorem BipWF.addEdge {G G' : BipG} (hG : BipWF G) (u v : Int) (h : G.addEdge u v = .ok G') :
    BipWF G' ∧ G'.r = G.r := by
  rcases BipG.addEdge_cases G u v with ⟨_, h1⟩ | ⟨_, _, h1⟩ | ⟨⟨_, _, hv1, hv2⟩, _, h1⟩
  · rw [h1] at h; cases h
  · rw [h1] at h; cases h; exact ⟨hG, rfl⟩
  · rw [h1] at h; cases h
    refine ⟨fun w x hx => ?_, rfl⟩
    -- only row `u` of the left table changes, by the new entry `v`
    have hx : x ∈ row (G.ladj.modify u.toNat (insertSorted · v.toNat)) w := hx
    rw [row_modify] at hx
    split at hx
    · rcases (mem_insertSorted _ _ _).1 hx with rfl | hx
      · exact ⟨by omega, by show v.toNat ≤ G.r; omega⟩
      · exact hG w x hx
    · exact hG w x hx

/-- the graph literals of the driver, and every graph built by `add_edge` calls, are well formed -/
theorem BipWF.ofEdges (l r : Nat) (es : List (Nat × Nat)) (B : BipG)
    (h : BipG.ofEdges l r es = .ok B) : BipWF B :=
  BipWF.of_inv (BipG.inv_ofEdges h)

end Subst
end Cnfgen
