/-
`Cnfgen.insertSorted` (Graph/Basic: `l.insert(bisect_right(l, v), v)`), once for all the graph objects:
an instance of `Lemmas/InsSort.lean`.
-/
import CnfgenModel.Graph.Basic
import Lemmas.InsSort
namespace Cnfgen

theorem perm_insertSorted (l : List Nat) (v : Nat) : (insertSorted l v).Perm (v :: l) :=
  InsSort.ins_perm (t := (· ≤ ·)) (fun _ => rfl) (fun _ _ _ => rfl) l v

theorem mem_insertSorted (l : List Nat) (v x : Nat) : x ∈ insertSorted l v ↔ x = v ∨ x ∈ l :=
  (perm_insertSorted l v).mem_iff.trans List.mem_cons

theorem length_insertSorted (l : List Nat) (v : Nat) : (insertSorted l v).length = l.length + 1 :=
  (perm_insertSorted l v).length_eq

theorem nodup_insertSorted {l : List Nat} {v : Nat} (hl : l.Nodup) (hv : v ∉ l) : (insertSorted l v).Nodup :=
  (perm_insertSorted l v).nodup_iff.2 (List.nodup_cons.2 ⟨hv, hl⟩)

/-- sorted by `≤` and duplicate-free, hence strictly sorted -/
theorem sorted_insertSorted {l : List Nat} {v : Nat} (hs : l.Pairwise (· < ·)) (hv : v ∉ l) :
    (insertSorted l v).Pairwise (· < ·) := by
  have h1 : (insertSorted l v).Pairwise (· ≤ ·) :=
    InsSort.ins_sorted (t := (· ≤ ·)) (fun _ => rfl) (fun _ _ _ => rfl) (fun _ _ h => h)
      (fun a b h => Nat.le_of_not_le h) (fun _ _ _ => Nat.le_trans) v (hs.imp Nat.le_of_lt)
  have h2 : (insertSorted l v).Pairwise (· ≠ ·) := nodup_insertSorted (hs.imp Nat.ne_of_lt) hv
  exact (h1.and h2).imp fun h => Nat.lt_of_le_of_ne h.1 h.2

end Cnfgen
