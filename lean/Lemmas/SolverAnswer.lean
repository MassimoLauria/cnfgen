/-
Vocabulary and helper lemmas for the statements of Props/C20.lean: the pieces of a
well-formed solver answer, the minisat result file, and what "a list of literals satisfies a
formula" means.
-/
import Lemmas.SolverParse
import Lemmas.IOLex
namespace Cnfgen.Solver

/-- the pieces a well-behaved solver prints: comment / blank / other lines, the status line, and
value lines each carrying some literals (with arbitrary blank separators, an optional `0`) -/
inductive Piece where
  | other (text : Str)
  | status
  | values (lits : List (Str × Int)) (zero : Option Str) (trail : Str)

def statusLine (sat : Bool) : Str :=
  if sat then "s SATISFIABLE".toList else "s UNSATISFIABLE".toList

def Piece.render (sat : Bool) : Piece → Str
  | .other t => t
  | .status => statusLine sat
  | .values lits z trail => renderValues lits z trail

def Piece.Good : Piece → Prop
  | .other t => IsOther t
  | .status => True
  | .values lits z trail => GoodLits lits ∧ GoodZero z ∧ AllSpace trail

def Piece.lits : Piece → List Int
  | .values lits _ _ => lits.map (·.2)
  | _ => []

def allLits (ps : List Piece) : List Int := ps.flatMap Piece.lits

theorem line_statusLine (sat : Bool) :
    lineErr (statusLine sat) = none ∧ lineLits (statusLine sat) = [] ∧
      lineVerdict (statusLine sat) = some (some sat) := by
  unfold statusLine
  cases sat <;> lit_decide

theorem render_line (sat : Bool) (p : Piece) (h : p.Good) :
    lineErr (p.render sat) = none ∧ lineLits (p.render sat) = p.lits ∧
      (lineVerdict (p.render sat) = none ∨ lineVerdict (p.render sat) = some (some sat)) := by
  cases p with
  | other t =>
    have ⟨h1, h2, h3⟩ := line_other t h
    exact ⟨h1, h2, .inl h3⟩
  | status =>
    have ⟨h1, h2, h3⟩ := line_statusLine sat
    exact ⟨h1, h2, .inr h3⟩
  | values lits z trail =>
    have ⟨h1, h2, h3⟩ := line_renderValues lits z trail h.1 h.2.1 h.2.2
    exact ⟨h1, h2, .inl h3⟩

theorem flatMap_render_lits (sat : Bool) (ps : List Piece) (h : ∀ p ∈ ps, p.Good) :
    (ps.map (Piece.render sat)).flatMap lineLits = allLits ps := by
  induction ps with
  | nil => rfl
  | cons p r ih =>
    have hp := h p (by simp)
    have hr := ih (fun q hq => h q (by simp [hq]))
    simp only [List.map_cons, List.flatMap_cons, allLits] at hr ⊢
    rw [(render_line sat p hp).2.1, hr]

/-- the result file of a minisat-like solver: `SAT`, then the literals separated by any blanks
(newlines included), optional `0` -/
def renderSatFile (lead : Str) (lits : List (Str × Int)) (zero : Option Str) (trail : Str) : Str :=
  lead ++ (tokSat ++ (glue (litSegs lits ++ zeroSeg zero) ++ trail))

/-- the list of literals `A`, read as "these literals are true", satisfies `F` -/
def SatisfiedBy (A : List Int) (F : CNF) : Prop := ∀ c ∈ F.clauses, ∃ l ∈ c, l ∈ A

/-- the assignment induced by a list of literals: variable `v` is true iff `+v` is listed -/
def assignOf (A : List Int) : Assign := fun v => A.contains (v : Int)

def Consistent (A : List Int) : Prop := (0 : Int) ∉ A ∧ ∀ l ∈ A, -l ∉ A

theorem satisfiedBy_sortByVar (W : List Int) (F : CNF) (h : SatisfiedBy W F) :
    SatisfiedBy (sortByVar W) F := fun c hc =>
  have ⟨l, hl, hlW⟩ := h c hc
  ⟨l, hl, (mem_sortByVar W l).mpr hlW⟩

theorem assignOf_sortByVar (W : List Int) : assignOf (sortByVar W) = assignOf W := by
  funext v
  simp [assignOf, mem_sortByVar]

theorem consistent_sortByVar (W : List Int) (h : Consistent W) : Consistent (sortByVar W) :=
  ⟨fun h0 => h.1 ((mem_sortByVar W 0).mp h0),
   fun l hl hn => h.2 l ((mem_sortByVar W l).mp hl) ((mem_sortByVar W (-l)).mp hn)⟩

end Cnfgen.Solver
