/-
C19, the region discipline. `Good s0 s`: `s` was reached from `s0` by allocating new cells and writing only into cells that did not
exist in `s0`, and no new cell holds the address of an old one. Every primitive write of `Acts` (Lemmas/HeapActs.lean) preserves it
for a formula of the new region; hence so does every transformation (`Lemmas/HeapTrans.lean: disciplined_apply`).
-/
import CnfgenModel.Heap.Trans
namespace Cnfgen
namespace Heap
local notation "Addr" => Nat

/-- the new region is closed under "holds the address of", and holds no dangling address -/
def Closed (b : Nat) (s : Store) : Prop :=
  ∀ a c, b ≤ a → s[a]? = some c → ∀ x : Nat, x ∈ c.refsOf → b ≤ x ∧ x < s.size

structure Good (s0 s : Store) : Prop where
  size_le : s0.size ≤ s.size
  frame : ∀ a, a < s0.size → s[a]? = s0[a]?
  closed : Closed s0.size s

theorem lt_size_of_getElem? {s : Store} {a : Nat} {c : Cell} (h : s[a]? = some c) : a < s.size := by
  rcases Nat.lt_or_ge a s.size with h' | h'
  · exact h'
  · simp [Array.getElem?_eq_none h'] at h

theorem ne_of_cells {s : Store} {a b : Nat} {c d : Cell} (ha : s[a]? = some c) (hb : s[b]? = some d) (h : c ≠ d) :
    a ≠ b := by
  rintro rfl; rw [ha] at hb; exact h (Option.some.inj hb)

theorem readInts_eq_some {s : Store} {a : Addr} {xs : List Int} :
    readInts s a = some xs ↔ s[a]? = some (.ints xs) := by
  unfold readInts
  split
  · next ys h => rw [h, Option.some.injEq, Option.some.injEq, Cell.ints.injEq]
  · next h => exact ⟨nofun, fun h' => absurd h' (h xs)⟩

theorem readRefs_eq_some {s : Store} {a : Addr} {as : List Addr} :
    readRefs s a = some as ↔ s[a]? = some (.refs as) := by
  unfold readRefs
  split
  · next ys h => rw [h, Option.some.injEq, Option.some.injEq, Cell.refs.injEq]
  · next h => exact ⟨nofun, fun h' => absurd h' (h as)⟩

theorem readDict_eq_some {s : Store} {a : Addr} {es : Hdr} : readDict s a = some es ↔ s[a]? = some (.dict es) := by
  unfold readDict
  split
  · next ys h => rw [h, Option.some.injEq, Option.some.injEq, Cell.dict.injEq]
  · next h => exact ⟨nofun, fun h' => absurd h' (h es)⟩

theorem readGroups_eq_some {s : Store} {a : Addr} {gs : List Vars.Group} :
    readGroups s a = some gs ↔ s[a]? = some (.groups gs) := by
  unfold readGroups
  split
  · next ys h => rw [h, Option.some.injEq, Option.some.injEq, Cell.groups.injEq]
  · next h => exact ⟨nofun, fun h' => absurd h' (h gs)⟩

theorem readCNF_eq_some {s : Store} {r : Addr} {o : Obj} :
    readCNF s r = some o ↔ s[r]? = some (.cnf o.cl o.hd o.gr o.nv) := by
  unfold readCNF
  split
  · next cl hd gr nv h =>
    rw [h, Option.some.injEq, Option.some.injEq, Cell.cnf.injEq]
    exact ⟨fun e => e ▸ ⟨rfl, rfl, rfl, rfl⟩, fun ⟨a, b, c, d⟩ => by cases o; simp_all⟩
  · next h => exact ⟨nofun, fun h' => absurd h' (h _ _ _ _)⟩

theorem Good.refl (s : Store) : Good s s := by
  refine ⟨Nat.le_refl _, fun _ _ => rfl, ?_⟩
  intro a c ha hc
  have := lt_size_of_getElem? hc
  exact absurd this (by omega)

@[simp] theorem size_alloc (s : Store) (c : Cell) : (alloc s c).1.size = s.size + 1 := by simp [alloc]
@[simp] theorem addr_alloc (s : Store) (c : Cell) : (alloc s c).2 = s.size := rfl
@[simp] theorem size_write (s : Store) (a : Addr) (c : Cell) : (write s a c).size = s.size := by simp [write]
@[simp] theorem size_appendRef (s : Store) (l x : Addr) : (appendRef s l x).size = s.size := by
  unfold appendRef; split <;> simp

theorem good_alloc {s0 s : Store} {c : Cell} (h : Good s0 s)
    (hc : ∀ x : Nat, x ∈ c.refsOf → s0.size ≤ x ∧ x < s.size) : Good s0 (alloc s c).1 := by
  have hs := h.size_le
  refine ⟨by simp; omega, ?_, ?_⟩
  · intro a ha
    simp only [alloc]
    rw [Array.getElem?_push]
    split
    · omega
    · exact h.frame a ha
  · intro a c' ha hc' x hx
    simp only [alloc] at hc'
    rw [Array.getElem?_push] at hc'
    simp only [size_alloc]
    split at hc'
    · cases hc'; have := hc x hx; omega
    · have := h.closed a c' ha hc' x hx; omega

theorem good_write {s0 s : Store} {a : Addr} {c : Cell} (h : Good s0 s) (ha : s0.size ≤ a)
    (hc : ∀ x : Nat, x ∈ c.refsOf → s0.size ≤ x ∧ x < s.size) : Good s0 (write s a c) := by
  refine ⟨by simp; exact h.size_le, ?_, ?_⟩
  · intro a' ha'
    simp only [write]
    rw [Array.getElem?_setIfInBounds_ne (by omega)]
    exact h.frame a' ha'
  · intro a' c' ha' hc' x hx
    simp only [write] at hc'
    rw [Array.getElem?_setIfInBounds] at hc'
    simp only [size_write]
    split at hc'
    · split at hc'
      · cases hc'; exact hc x hx
      · cases hc'
    · exact h.closed a' c' ha' hc' x hx

/-- an address of the new region that is in use -/
def InR (s0 s : Store) (x : Nat) : Prop := s0.size ≤ x ∧ x < s.size

theorem good_slots {s0 s : Store} {r : Addr} {o : Obj} (h : Good s0 s) (hr : s0.size ≤ r)
    (ho : readCNF s r = some o) : InR s0 s o.cl ∧ InR s0 s o.hd ∧ InR s0 s o.gr := by
  have := h.closed r _ hr (readCNF_eq_some.1 ho)
  simp [Cell.refsOf] at this
  exact this

theorem good_appendRef {s0 s : Store} {l x : Addr} (h : Good s0 s) (hl : s0.size ≤ l) (hx : InR s0 s x) :
    Good s0 (appendRef s l x) := by
  unfold appendRef
  split
  · rename_i as heq
    apply good_write h hl
    intro y hy
    simp [Cell.refsOf] at hy
    rcases hy with hy | hy
    · exact h.closed l _ hl heq y hy
    · subst hy; exact hx
  · exact h

/-! The loops of the model: what every iteration preserves holds of the store the loop ends in, normally or not. -/

theorem addAllVals_inv (P : Store → Prop) (r : Addr) (check : Bool)
    (hb : ∀ s c, P s → P (addClauseVals s r c check).1) :
    ∀ (cs : List (List Int)) (s : Store), P s → P (addAllVals s r check cs).1
  | [], _, h => h
  | c :: cs, s, h => by
    unfold addAllVals
    have h1 := hb s c h
    split
    · rename_i s1 e heq; rw [heq] at h1; exact h1
    · rename_i s1 u heq; rw [heq] at h1; exact addAllVals_inv P r check hb cs s1 h1

theorem addLinearAll_inv (P : Store → Prop) (r : Addr) (op : Op) (k : Int)
    (hb : ∀ s l, P s → P (addLinear s r l op k).1) :
    ∀ (ls : List (List Int)) (s : Store), P s → P (addLinearAll s r op k ls).1
  | [], _, h => h
  | l :: ls, s, h => by
    unfold addLinearAll
    have h1 := hb s l h
    split
    · rename_i s1 e heq; rw [heq] at h1; exact h1
    · rename_i s1 u heq; rw [heq] at h1; exact addLinearAll_inv P r op k hb ls s1 h1

theorem substLoop_inv (P : Store → Prop) (r : Addr) (tbl : List (Option (List Clause)))
    (hb : ∀ s block, P s → P (addAllVals s r true block).1) :
    ∀ (cs : List Addr) (s : Store), P s → P (substLoop r tbl s cs).1
  | [], _, h => h
  | c :: cs, s, h => by
    unfold substLoop
    split
    · exact h
    · split
      · exact h
      · rename_i block _
        have h1 := hb s block h
        split
        · rename_i s1 e heq; rw [heq] at h1; exact h1
        · rename_i s1 u heq; rw [heq] at h1; exact substLoop_inv P r tbl hb cs s1 h1

theorem shuffleLoop_inv (P : Store → Prop) (r src : Addr) (tbl : List (Option Int))
    (hb : ∀ s c, P s → P (addClauseVals s r c true).1) :
    ∀ (ms : List (Nat × Int)) (s : Store), P s → P (shuffleLoop r src tbl s ms).1
  | [], _, h => h
  | m :: ms, s, h => by
    unfold shuffleLoop
    split
    · split
      · split
        · exact h
        · split
          · exact h
          · split
            · exact h
            · split
              · exact h
              · rename_i c' _
                have h1 := hb s c' h
                split
                · rename_i s1 e heq; rw [heq] at h1; exact h1
                · rename_i s1 u heq; rw [heq] at h1; exact shuffleLoop_inv P r src tbl hb ms s1 h1
      · exact h
    · exact h

theorem runActs_inv (P : Store → Prop) (r : Addr) (hb : ∀ s a, P s → P (runAct s r a).1) :
    ∀ (as : List Act) (s : Store), P s → P (runActs r s as).1
  | [], _, h => h
  | a :: as, s, h => by
    unfold runActs
    have h1 := hb s a h
    split
    · rename_i s1 e heq; rw [heq] at h1; exact h1
    · rename_i s1 u heq; rw [heq] at h1; exact runActs_inv P r hb as s1 h1

theorem good_newCNF {s0 s : Store} (cfg : Cfg) (d : Option String) (h : Good s0 s) :
    Good s0 (newCNF cfg s d).1 ∧ s0.size ≤ (newCNF cfg s d).2 := by
  unfold newCNF
  simp only []
  have hs := h.size_le
  have h1 := good_alloc (c := .dict (("description", d.getD "Formula in CNF") :: cfg.hdr0)) h (by simp [Cell.refsOf])
  have h2 := good_alloc (c := .refs []) h1 (by simp [Cell.refsOf])
  have h3 := good_alloc (c := .groups []) h2 (by simp [Cell.refsOf])
  refine ⟨good_alloc h3 ?_, by simp; omega⟩
  simp [Cell.refsOf]
  omega

theorem newCNF_addr_lt (cfg : Cfg) (s : Store) (d : Option String) :
    ((newCNF cfg s d).2 : Nat) < (newCNF cfg s d).1.size := by
  simp [newCNF]

end Heap
end Cnfgen
