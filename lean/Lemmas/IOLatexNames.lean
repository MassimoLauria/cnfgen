/-
A syntactic sufficient condition for `TableOK` (pairwise distinct literal texts): the names are
pairwise distinct, none starts with `\overline{`, and no `}` occurs before the point where the
name is split for `\overline` (the first `_` / `^` at a positive index).
-/
import Lemmas.IOLatex
namespace Cnfgen.IO

abbrev OV : Str := overlineOpen

def NameOK (nm : Str) : Prop :=
  ¬ (OV <+: nm) ∧ ∀ k, splitPoint nm = some k → '}' ∉ nm.take k

theorem split_unique {α} (x : α) : ∀ (a a' b b' : List α), x ∉ a → x ∉ a' →
    a ++ x :: b = a' ++ x :: b' → a = a' ∧ b = b'
  | [], [], b, b', _, _, h => by simp at h; exact ⟨rfl, h⟩
  | [], y :: a', b, b', _, h', h => by
    simp at h; exact absurd (by simp [h.1]) h'
  | y :: a, [], b, b', h', _, h => by
    simp at h; exact absurd (by simp [h.1]) h'
  | y :: a, y' :: a', b, b', h1, h2, h => by
    simp at h
    have := split_unique x a a' b b' (fun hh => h1 (by simp [hh])) (fun hh => h2 (by simp [hh])) h.2
    exact ⟨by rw [h.1, this.1], this.2⟩

theorem litCore_pos (n : Str) : litCore n false = '{' :: (n ++ ['}']) := by simp [litCore]
theorem litCore_neg_nosplit (n : Str) (h : splitPoint n = none) : litCore n true = '\\' :: (OV.drop 1 ++ n ++ ['}']) := by
  simp [litCore, h, overlineOpen]
theorem litCore_neg_split (n : Str) (k : Nat) (h : splitPoint n = some k) :
    litCore n true = '{' :: ((OV ++ (n.take k ++ '}' :: n.drop k)) ++ ['}']) := by
  simp [litCore, h]

/-- a positive literal text is no negative one: its name would start with `\overline{` -/
theorem litCore_pos_ne_neg (n n' : Str) (hn : NameOK n) : litCore n false ≠ litCore n' true := by
  intro h
  rw [litCore_pos] at h
  cases hs : splitPoint n' with
  | none => rw [litCore_neg_nosplit n' hs] at h; simp at h
  | some k =>
    rw [litCore_neg_split n' k hs] at h
    simp only [List.cons.injEq, true_and] at h
    exact hn.1 ⟨_, (List.append_cancel_right h).symm⟩

theorem litCore_inj (n n' : Str) (b b' : Bool) (hn : NameOK n) (hn' : NameOK n')
    (h : litCore n b = litCore n' b') : n = n' ∧ b = b' := by
  cases b <;> cases b'
  · rw [litCore_pos, litCore_pos] at h
    simp only [List.cons.injEq, true_and] at h
    exact ⟨List.append_cancel_right h, rfl⟩
  · exact absurd h (litCore_pos_ne_neg n n' hn)
  · exact absurd h.symm (litCore_pos_ne_neg n' n hn')
  · cases hs : splitPoint n with
    | none =>
      cases hs' : splitPoint n' with
      | none =>
        rw [litCore_neg_nosplit n hs, litCore_neg_nosplit n' hs'] at h
        simp only [List.cons.injEq, true_and] at h
        have := List.append_cancel_right h
        exact ⟨List.append_cancel_left this, rfl⟩
      | some k' => rw [litCore_neg_nosplit n hs, litCore_neg_split n' k' hs'] at h; simp at h
    | some k =>
      cases hs' : splitPoint n' with
      | none => rw [litCore_neg_split n k hs, litCore_neg_nosplit n' hs'] at h; simp at h
      | some k' =>
        rw [litCore_neg_split n k hs, litCore_neg_split n' k' hs'] at h
        simp only [List.cons.injEq, true_and] at h
        have h1 := List.append_cancel_left (List.append_cancel_right h)
        obtain ⟨e1, e2⟩ := split_unique '}' _ _ _ _ (hn.2 k hs) (hn'.2 k' hs') h1
        refine ⟨?_, rfl⟩
        rw [← List.take_append_drop k n, ← List.take_append_drop k' n', e1, e2]

theorem keys_enumFrom : ∀ (names : List Str) (i : Nat),
    ((enumFrom i names).flatMap (fun p => [(litCore p.2 false, (p.1 : Int)), (litCore p.2 true, -(p.1 : Int))])).map Prod.fst =
      names.flatMap (fun nm => [litCore nm false, litCore nm true])
  | [], _ => rfl
  | nm :: names, i => by
    simp only [enumFrom, List.flatMap_cons, List.map_append]
    rw [keys_enumFrom names (i + 1)]
    rfl

theorem tableOK_of_names : ∀ (names : List Str), names.Nodup → (∀ nm ∈ names, NameOK nm) → TableOK names := by
  intro names hd hok
  unfold TableOK litTable enum1
  rw [keys_enumFrom]
  induction names with
  | nil => simp
  | cons nm names ih =>
    simp only [List.nodup_cons] at hd
    have hnm := hok nm (by simp)
    simp only [List.flatMap_cons]
    rw [List.nodup_append]
    refine ⟨?_, ih hd.2 (fun x hx => hok x (by simp [hx])), ?_⟩
    · simp [litCore_pos_ne_neg nm nm hnm]
    · intro a ha b hb e
      subst e
      simp only [List.mem_flatMap] at hb
      obtain ⟨nm', hnm', hb⟩ := hb
      have hok' := hok nm' (by simp [hnm'])
      simp only [List.mem_cons, List.not_mem_nil, or_false] at ha hb
      have : nm = nm' := by
        rcases ha with ha | ha <;> rcases hb with hb | hb
        · exact (litCore_inj nm nm' false false hnm hok' (ha.symm.trans hb)).1
        · exact (litCore_inj nm nm' false true hnm hok' (ha.symm.trans hb)).1
        · exact (litCore_inj nm nm' true false hnm hok' (ha.symm.trans hb)).1
        · exact (litCore_inj nm nm' true true hnm hok' (ha.symm.trans hb)).1
      exact hd.1 (this ▸ hnm')

end Cnfgen.IO
