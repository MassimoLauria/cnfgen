/-
Specification predicates (`Valid`, `sigma`, `pull`, `Resolves`) and lemmas for C09 (model: `CnfgenModel/Trans/Shuffle.lean`).
-/
import CnfgenModel.Trans.Shuffle
import Lemmas.Linear
import Lemmas.FuelSearch
import Lemmas.Subst
import Std.Data.String.ToNat
namespace Cnfgen.Shuffle
open Cnfgen

/-- "a list of `-1` and `+1` of length equal to the number of variables" -/
def ValidFlips (N : Nat) (fl : List Int) : Prop := fl.length = N ∧ ∀ x ∈ fl, x = 1 ∨ x = -1

/-- the integers `base, base+1, …, base+n-1` -/
def iota (base : Int) (n : Nat) : List Int := (List.range n).map (fun (i : Nat) => (i : Int) + base)

/-- "a permutation of `[base, …, base+n-1]`" -/
def ValidPerm (base : Int) (n : Nat) (p : List Int) : Prop := List.Perm p (iota base n)

/-- all three explicit arguments are what the docstring of `Shuffle` asks for -/
def Valid (F : CNF) (fl vp cp : List Int) : Prop :=
  ValidFlips F.nvars fl ∧ ValidPerm 1 F.nvars vp ∧ ValidPerm 0 F.clauses.length cp

/-- the literal map: `σ(l) = sign(l) · flips[|l|-1] · vperm[|l|-1]` -/
def sigma (fl vp : List Int) (l : Int) : Int :=
  l.sign * (fl.getD (l.natAbs - 1) 0 * vp.getD (l.natAbs - 1) 0)

theorem any_range_getD {α : Type} (l : List α) (d : α) (p : α → Bool) :
    (List.range l.length).any (fun i => p (l.getD i d)) = l.any p := by
  rw [Bool.eq_iff_iff]
  simp only [List.any_eq_true, List.mem_range]
  constructor
  · rintro ⟨i, hi, h⟩
    refine ⟨l[i], List.getElem_mem hi, ?_⟩
    simpa [List.getD_eq_getElem?_getD, hi] using h
  · rintro ⟨x, hx, h⟩
    obtain ⟨i, hi, rfl⟩ := List.getElem_of_mem hx
    exact ⟨i, hi, by simpa [List.getD_eq_getElem?_getD, hi] using h⟩

theorem iota_length (base : Int) (n : Nat) : (iota base n).length = n := by simp [iota]

theorem mem_iota {base : Int} {n : Nat} {x : Int} : x ∈ iota base n ↔ base ≤ x ∧ x < base + n := by
  simp only [iota, List.mem_map, List.mem_range]
  constructor
  · rintro ⟨i, hi, rfl⟩; omega
  · rintro ⟨h1, h2⟩; exact ⟨(x - base).toNat, by omega, by omega⟩

theorem iota_pairwise_lt (base : Int) (n : Nat) : (iota base n).Pairwise (· < ·) := by
  unfold iota
  rw [List.pairwise_map]
  exact (List.pairwise_lt_range (n := n)).imp (by intro a b h; omega)

theorem iota_nodup (base : Int) (n : Nat) : (iota base n).Nodup :=
  (iota_pairwise_lt base n).imp (by intro a b h; omega)

theorem iota_getD (base : Int) (n i : Nat) (h : i < n) : (iota base n).getD i 0 = (i : Int) + base := by
  simp [iota, List.getD_eq_getElem?_getD, h]

theorem ValidPerm.length_eq {base : Int} {n : Nat} {p : List Int} (h : ValidPerm base n p) :
    p.length = n := by rw [List.Perm.length_eq h, iota_length]

theorem ValidPerm.mem_iff {base : Int} {n : Nat} {p : List Int} (h : ValidPerm base n p) {x : Int} :
    x ∈ p ↔ base ≤ x ∧ x < base + n := by rw [List.Perm.mem_iff h, mem_iota]

theorem ValidPerm.nodup {base : Int} {n : Nat} {p : List Int} (h : ValidPerm base n p) : p.Nodup :=
  (List.Perm.nodup_iff h).2 (iota_nodup base n)

theorem checkFlips_cases (N : Nat) (fl : List Int) :
    checkFlips N fl = .ok () ∨ checkFlips N fl = .error .valueError := by
  unfold checkFlips; split <;> (try split) <;> simp

theorem checkFlips_ok_iff (N : Nat) (fl : List Int) :
    checkFlips N fl = .ok () ↔ ValidFlips N fl := by
  unfold checkFlips ValidFlips
  by_cases hl : fl.length = N
  · subst hl
    rw [any_range_getD fl 0 (fun x => x.natAbs != 1)]
    simp only [ne_eq, not_true_eq_false, ↓reduceIte, true_and]
    by_cases ha : fl.any (fun x => x.natAbs != 1) = true
    · simp only [ha, ↓reduceIte, reduceCtorEq, false_iff]
      simp only [List.any_eq_true, bne_iff_ne] at ha
      obtain ⟨x, hx, h⟩ := ha
      intro hall; have := hall x hx; omega
    · simp only [ha, Bool.false_eq_true, ↓reduceIte, true_iff]
      intro x hx
      simp only [List.any_eq_true, bne_iff_ne, not_exists, not_and, Decidable.not_not] at ha
      have := ha x hx; omega
  · simp [hl]

theorem sortInt_perm (p : List Int) : (sortInt p).Perm p := List.mergeSort_perm p _

theorem sortInt_length (p : List Int) : (sortInt p).length = p.length := by simp [sortInt]

theorem sortInt_pairwise (p : List Int) : (sortInt p).Pairwise (· ≤ ·) := by
  have := List.pairwise_mergeSort (le := fun (a b : Int) => decide (a ≤ b))
    (by intro a b c; simp only [decide_eq_true_eq]; omega)
    (by intro a b; simp only [Bool.or_eq_true, decide_eq_true_eq]; omega) p
  exact this.imp (by intro a b h; simpa using h)

theorem eq_iota_of_perm_sorted {base : Int} {n : Nat} {l : List Int} (hp : l.Perm (iota base n))
    (hs : l.Pairwise (· ≤ ·)) : l = iota base n :=
  List.Perm.eq_of_pairwise (le := (· ≤ ·)) (by intro a b _ _ h1 h2; omega) hs
    ((iota_pairwise_lt base n).imp (by intro a b h; omega)) hp

theorem sortInt_eq_iota_iff (base : Int) (n : Nat) (p : List Int) :
    sortInt p = iota base n ↔ ValidPerm base n p :=
  ⟨fun h => (sortInt_perm p).symm.trans (h ▸ List.Perm.refl _),
   fun h => eq_iota_of_perm_sorted ((sortInt_perm p).trans h) (sortInt_pairwise p)⟩

theorem checkPerm_cases (base : Int) (n : Nat) (p : List Int) :
    checkPerm base n p = .ok () ∨ checkPerm base n p = .error .valueError := by
  unfold checkPerm; split
  · simp
  · dsimp only; split <;> simp

theorem checkPerm_ok_iff (base : Int) (n : Nat) (p : List Int) :
    checkPerm base n p = .ok () ↔ ValidPerm base n p := by
  rw [← sortInt_eq_iota_iff]
  unfold checkPerm
  by_cases hl : p.length = n
  · simp only [hl, ne_eq, not_true_eq_false, ↓reduceIte]
    by_cases ha : (List.range n).any (fun i => (i : Int) + base != (sortInt p).getD i 0) = true
    · simp only [ha, ↓reduceIte, reduceCtorEq, false_iff]
      simp only [List.any_eq_true, List.mem_range, bne_iff_ne] at ha
      obtain ⟨i, hi, h⟩ := ha
      intro heq; rw [heq, iota_getD base n i hi] at h; exact h rfl
    · simp only [ha, Bool.false_eq_true, ↓reduceIte, true_iff]
      simp only [List.any_eq_true, List.mem_range, bne_iff_ne, not_exists, not_and,
        Decidable.not_not] at ha
      apply List.ext_getElem
      · rw [sortInt_length, iota_length, hl]
      · intro i h1 h2
        rw [iota_length] at h2
        have e1 := ha i h2
        have e2 := iota_getD base n i h2
        simp only [List.getD_eq_getElem?_getD, List.getElem?_eq_getElem h1, Option.getD_some] at e1
        have h2' : i < (iota base n).length := by rw [iota_length]; exact h2
        simp only [List.getD_eq_getElem?_getD, List.getElem?_eq_getElem h2', Option.getD_some] at e2
        omega
  · simp only [hl, ne_eq, not_false_eq_true, ↓reduceIte, reduceCtorEq, false_iff]
    intro heq
    have := sortInt_length p
    rw [heq, iota_length] at this
    exact hl this.symm

theorem sigma_neg (fl vp : List Int) (l : Int) : sigma fl vp (-l) = -sigma fl vp l := by
  simp [sigma, Int.sign_neg, Int.natAbs_neg, Int.neg_mul]

theorem sigma_succ (fl vp : List Int) (m : Nat) :
    sigma fl vp ((m + 1 : Nat) : Int) = fl.getD m 0 * vp.getD m 0 := by
  rw [sigma, Int.natAbs_natCast, Nat.add_sub_cancel, Int.sign_eq_one_of_pos (by omega), Int.one_mul]

/-- Python's `table[lit]` for `table = [None, x_1, …, x_N, -x_N, …, -x_1]`: `x_v` at `v`, `-x_v` at `-v` -/
theorem pyIndex_signed (vals : List Int) (m : Nat) (hm : m < vals.length) :
    pyIndex (none :: (vals.map some ++ vals.reverse.map (fun x => some (-x)))) ((m + 1 : Nat) : Int) =
      .ok (some vals[m]) ∧
    pyIndex (none :: (vals.map some ++ vals.reverse.map (fun x => some (-x)))) (-((m + 1 : Nat) : Int)) =
      .ok (some (-vals[m])) := by
  constructor
  · have h1 : ¬ (((m + 1 : Nat) : Int) < 0) := by omega
    simp only [pyIndex, h1, if_false, Int.toNat_natCast, List.getElem?_cons_succ,
      List.getElem?_append_left (show m < (vals.map some).length by simpa using hm), List.getElem?_map,
      List.getElem?_eq_getElem hm, Option.map_some]
  · have h1 : -((m + 1 : Nat) : Int) < 0 := by omega
    have e : -((m + 1 : Nat) : Int) +
        (((none :: (vals.map some ++ vals.reverse.map (fun x => some (-x)))).length : Nat) : Int) =
          ((vals.length + (vals.length - 1 - m) + 1 : Nat) : Int) := by
      simp only [List.length_cons, List.length_append, List.length_map, List.length_reverse]; omega
    have h2 : ¬ (((vals.length + (vals.length - 1 - m) + 1 : Nat) : Int) < 0) := by omega
    have h3 : vals.length - 1 - (vals.length - 1 - m) = m := by omega
    simp only [pyIndex, h1, if_true, e, h2, if_false, Int.toNat_natCast, List.getElem?_cons_succ]
    rw [List.getElem?_append_right (by simp), List.length_map, Nat.add_sub_cancel_left, List.getElem?_map,
      List.getElem?_reverse (by omega), h3, List.getElem?_eq_getElem hm]
    rfl

/-- the finished substitution table, looked up the Python way, is `σ` on every literal of a
variable in `1..N` -/
theorem pyIndex_table (fl vp : List Int) (N : Nat) (hf : fl.length = N) (hv : vp.length = N)
    (l : Int) (h0 : l ≠ 0) (hN : l.natAbs ≤ N) :
    pyIndex (none :: ((List.zipWith (· * ·) fl vp).map some ++
      (List.zipWith (· * ·) fl vp).reverse.map (fun x => some (-x)))) l = .ok (some (sigma fl vp l)) := by
  obtain ⟨m, e⟩ : ∃ m : Nat, l.natAbs = m + 1 := ⟨l.natAbs - 1, by omega⟩
  have h1 : m < fl.length := by omega
  have h2 : m < vp.length := by omega
  have hm : m < (List.zipWith (· * ·) fl vp).length := by
    rw [List.length_zipWith]
    omega
  have hget : (List.zipWith (· * ·) fl vp)[m] = fl.getD m 0 * vp.getD m 0 := by
    simp only [List.getElem_zipWith, List.getD_eq_getElem?_getD, List.getElem?_eq_getElem h1,
      List.getElem?_eq_getElem h2, Option.getD_some]
  rcases (by omega : l = ((m + 1 : Nat) : Int) ∨ l = -((m + 1 : Nat) : Int)) with rfl | rfl
  · rw [(pyIndex_signed _ m hm).1, sigma_succ, hget]
  · rw [(pyIndex_signed _ m hm).2, sigma_neg, sigma_succ, hget]

theorem pyIndex_nat {α : Type} (l : List α) (i : Nat) (h : i < l.length) :
    pyIndex l (i : Int) = .ok l[i] := by
  unfold pyIndex
  have h1 : ¬ ((i : Int) < 0) := by omega
  simp [h1, List.getElem?_eq_getElem h]

theorem mapE_ok_map {α β : Type} (f : α → Except Err β) (g : α → β) (l : List α)
    (h : ∀ x ∈ l, f x = .ok (g x)) : mapE f l = .ok (l.map g) := by
  induction l with
  | nil => rfl
  | cons x xs ih =>
    have hx := h x (by simp)
    have hxs := ih (fun y hy => h y (by simp [hy]))
    simp [mapE, hx, hxs]

theorem substClause_ok (tbl : List (Option Int)) (σ : Int → Int) (c : Clause)
    (h : ∀ l ∈ c, pyIndex tbl l = .ok (some (σ l))) : substClause tbl c = .ok (c.map σ) := by
  unfold substClause
  rw [mapE_ok_map (pyIndex tbl) (fun l => some (σ l)) c h]
  simp [List.filterMap_map]

theorem foldE_load (F : CNF) (tbl : List (Option Int)) (σ : Int → Int) (N : Nat)
    (hσ : ∀ c ∈ F.clauses, ∀ l ∈ c,
      pyIndex tbl l = .ok (some (σ l)) ∧ σ l ≠ 0 ∧ (σ l).natAbs ≤ N) :
    ∀ (S : List (Nat × Int)) (out : CNF), out.nvars = N →
      (∀ j (h : j < S.length), S[j].2 = (out.clauses.length : Int) + j) →
      (∀ m ∈ S, m.1 < F.clauses.length) →
      foldE (loadStep F tbl) out S =
        .ok ⟨N, out.clauses ++ S.map (fun m => (F.clauses.getD m.1 []).map σ)⟩ := by
  intro S
  induction S with
  | nil => intro out hN _ _; cases out; simp_all [foldE]
  | cons m S ih =>
    intro out hN hidx hlt
    have hm := hlt m (by simp)
    have h0 := hidx 0 (by simp)
    simp only [List.getElem_cons_zero, Int.natCast_zero, Int.add_zero] at h0
    have hc : F.clauses[m.1] ∈ F.clauses := List.getElem_mem hm
    have hs : substClause tbl F.clauses[m.1] = .ok (F.clauses[m.1].map σ) :=
      substClause_ok tbl σ _ (fun l hl => (hσ _ hc l hl).1)
    have ha : out.addClause (F.clauses[m.1].map σ) = .ok ⟨N, out.clauses ++ [F.clauses[m.1].map σ]⟩ := by
      rw [← hN]
      apply CNF.addClause_in
      intro l hl
      simp only [List.mem_map] at hl
      obtain ⟨l', hl', rfl⟩ := hl
      have := hσ _ hc l' hl'
      exact ⟨this.2.1, by rw [hN]; exact this.2.2⟩
    have hstep : loadStep F tbl out m = .ok ⟨N, out.clauses ++ [F.clauses[m.1].map σ]⟩ := by
      unfold loadStep
      simp [h0, pyIndex_nat F.clauses m.1 hm, hs, ha]
    simp only [foldE, hstep]
    rw [ih ⟨N, out.clauses ++ [F.clauses[m.1].map σ]⟩ rfl]
    · simp [List.getD_eq_getElem?_getD, List.getElem?_eq_getElem hm]
    · intro j hj
      have := hidx (j + 1) (by simp; omega)
      simp only [List.getElem_cons_succ] at this
      simp only [List.length_append, List.length_cons, List.length_nil]
      rw [this]; push_cast; omega
    · intro m' hm'; exact hlt m' (by simp [hm'])

theorem enumerate_map_snd (l : List Int) : (enumerate l).map Prod.snd = l := by
  simp [enumerate, List.map_map, Function.comp_def, List.zipIdx_map_fst]

theorem enumerate_map_fst (l : List Int) : (enumerate l).map Prod.fst = List.range l.length := by
  simp only [enumerate, List.map_map, Function.comp_def]
  rw [List.range_eq_range']
  exact List.zipIdx_map_snd 0 l

theorem mem_enumerate {l : List Int} {m : Nat × Int} : m ∈ enumerate l ↔ l[m.1]? = some m.2 := by
  simp only [enumerate, List.mem_map]
  constructor
  · rintro ⟨p, hp, rfl⟩; exact List.mem_zipIdx_iff_getElem?.1 hp
  · intro h; exact ⟨(m.2, m.1), List.mem_zipIdx_iff_getElem?.2 h, rfl⟩

theorem sortedMapping_perm (cp : List Int) : (sortedMapping cp).Perm (enumerate cp) :=
  List.mergeSort_perm _ _

theorem sortedMapping_snd (cp : List Int) : (sortedMapping cp).map Prod.snd = sortInt cp := by
  rw [sortedMapping, List.map_mergeSort (s := fun a b => decide (a ≤ b)) (fun _ _ _ _ => rfl), enumerate_map_snd, sortInt]

theorem sortedMapping_length (cp : List Int) (M : Nat) (h : ValidPerm 0 M cp) :
    (sortedMapping cp).length = M := by
  have := congrArg List.length (sortedMapping_snd cp)
  simpa [sortInt_length, h.length_eq] using this

theorem sortedMapping_getElem_snd (cp : List Int) (M : Nat) (h : ValidPerm 0 M cp) (j : Nat)
    (hj : j < (sortedMapping cp).length) : (sortedMapping cp)[j].2 = (j : Int) := by
  have hM := sortedMapping_length cp M h
  have h1 : ((sortedMapping cp).map Prod.snd)[j]? = (iota 0 M)[j]? := by
    rw [sortedMapping_snd, (sortInt_eq_iota_iff 0 M cp).2 h]
  have h2 := iota_getD 0 M j (by omega)
  rw [List.getD_eq_getElem?_getD, ← h1] at h2
  simpa [List.getElem?_eq_getElem hj] using h2

theorem sortedMapping_fst_lt (cp : List Int) (M : Nat) (h : ValidPerm 0 M cp) :
    ∀ m ∈ sortedMapping cp, m.1 < M := by
  intro m hm
  have := (sortedMapping_perm cp).mem_iff.1 hm
  rw [mem_enumerate] at this
  have := (List.getElem?_eq_some_iff.1 this).1
  have := h.length_eq
  omega

theorem sortedMapping_fst_perm (cp : List Int) (M : Nat) (h : ValidPerm 0 M cp) :
    ((sortedMapping cp).map Prod.fst).Perm (List.range M) := by
  have := (sortedMapping_perm cp).map Prod.fst
  rw [enumerate_map_fst] at this
  rwa [h.length_eq] at this

def LitIn (N : Nat) (l : Int) : Prop := l ≠ 0 ∧ l.natAbs ≤ N

theorem getD_flip {N : Nat} {fl : List Int} (h : ValidFlips N fl) (i : Nat) (hi : i < N) :
    fl.getD i 0 = 1 ∨ fl.getD i 0 = -1 := by
  have hl : i < fl.length := by rw [h.1]; exact hi
  rw [List.getD_eq_getElem?_getD, List.getElem?_eq_getElem hl]
  exact h.2 _ (List.getElem_mem hl)

theorem getD_perm {N : Nat} {vp : List Int} (h : ValidPerm 1 N vp) (i : Nat) (hi : i < N) :
    1 ≤ vp.getD i 0 ∧ vp.getD i 0 ≤ N := by
  have hl : i < vp.length := by rw [h.length_eq]; exact hi
  rw [List.getD_eq_getElem?_getD, List.getElem?_eq_getElem hl]
  have := h.mem_iff.1 (List.getElem_mem hl)
  simp only [Option.getD_some]; omega

theorem signed_parts {s f v : Int} (hs : s.natAbs = 1) (hf : f = 1 ∨ f = -1) (hv : 0 < v) :
    (s * (f * v)).natAbs = v.natAbs ∧ (s * (f * v)).sign = s * f := by
  rcases (by omega : s = 1 ∨ s = -1) with rfl | rfl <;> rcases hf with rfl | rfl <;>
    simp [Int.sign_eq_one_of_pos hv]

theorem flip_sq {s f v : Int} (hf : f = 1 ∨ f = -1) : s * f * (f * v) = s * v := by
  rcases hf with rfl | rfl <;> simp [Int.neg_mul_neg]

theorem sigma_parts {N : Nat} {fl vp : List Int} (hf : ValidFlips N fl) (hv : ValidPerm 1 N vp)
    {l : Int} (hl : LitIn N l) :
    ((sigma fl vp l).natAbs : Int) = vp.getD (l.natAbs - 1) 0 ∧
    (sigma fl vp l).sign = l.sign * fl.getD (l.natAbs - 1) 0 := by
  have hi : l.natAbs - 1 < N := by have := hl.1; have := hl.2; omega
  have h2 := getD_perm hv _ hi
  have := signed_parts (Int.natAbs_sign_of_ne_zero hl.1) (getD_flip hf _ hi)
    (by omega : 0 < vp.getD (l.natAbs - 1) 0)
  exact ⟨by rw [sigma, this.1]; omega, this.2⟩

theorem sigma_litIn {N : Nat} {fl vp : List Int} (hf : ValidFlips N fl) (hv : ValidPerm 1 N vp)
    {l : Int} (hl : LitIn N l) : LitIn N (sigma fl vp l) := by
  have h1 := (sigma_parts hf hv hl).1
  have h2 := getD_perm hv (l.natAbs - 1) (by have := hl.1; have := hl.2; omega)
  unfold LitIn; omega

/-- the inverse literal map: look the variable up in `vperm`, undo the flip of that position -/
def sigmaInv (fl vp : List Int) (m : Int) : Int :=
  m.sign * (fl.getD (vp.idxOf (m.natAbs : Int)) 0 * ((vp.idxOf (m.natAbs : Int) : Int) + 1))

theorem sigmaInv_neg (fl vp : List Int) (m : Int) : sigmaInv fl vp (-m) = -sigmaInv fl vp m := by
  simp [sigmaInv, Int.sign_neg, Int.natAbs_neg, Int.neg_mul]

theorem idxOf_lt {N : Nat} {vp : List Int} (hv : ValidPerm 1 N vp) {m : Int} (hm : LitIn N m) :
    vp.idxOf (m.natAbs : Int) < N := by
  have : (m.natAbs : Int) ∈ vp := hv.mem_iff.2 (by have := hm.1; have := hm.2; omega)
  have := List.idxOf_lt_length_of_mem this
  rwa [hv.length_eq] at this

theorem getD_idxOf {N : Nat} {vp : List Int} (hv : ValidPerm 1 N vp) {m : Int} (hm : LitIn N m) :
    vp.getD (vp.idxOf (m.natAbs : Int)) 0 = (m.natAbs : Int) := by
  have hmem : (m.natAbs : Int) ∈ vp := hv.mem_iff.2 (by have := hm.1; have := hm.2; omega)
  have hlt := List.idxOf_lt_length_of_mem hmem
  rw [List.getD_eq_getElem?_getD, List.getElem?_eq_getElem hlt]
  simp [List.getElem_idxOf]

theorem sigmaInv_parts {N : Nat} {fl vp : List Int} (hf : ValidFlips N fl) (hv : ValidPerm 1 N vp)
    {m : Int} (hm : LitIn N m) :
    (sigmaInv fl vp m).natAbs = vp.idxOf (m.natAbs : Int) + 1 ∧
    (sigmaInv fl vp m).sign = m.sign * fl.getD (vp.idxOf (m.natAbs : Int)) 0 := by
  have := signed_parts (Int.natAbs_sign_of_ne_zero hm.1) (getD_flip hf _ (idxOf_lt hv hm))
    (by omega : 0 < ((vp.idxOf (m.natAbs : Int) : Int) + 1))
  exact ⟨by rw [sigmaInv, this.1]; omega, this.2⟩

theorem sigmaInv_litIn {N : Nat} {fl vp : List Int} (hf : ValidFlips N fl) (hv : ValidPerm 1 N vp)
    {m : Int} (hm : LitIn N m) : LitIn N (sigmaInv fl vp m) := by
  have h1 := (sigmaInv_parts hf hv hm).1
  have h2 := idxOf_lt hv hm
  unfold LitIn; omega

theorem sigma_sigmaInv {N : Nat} {fl vp : List Int} (hf : ValidFlips N fl) (hv : ValidPerm 1 N vp)
    {m : Int} (hm : LitIn N m) : sigma fl vp (sigmaInv fl vp m) = m := by
  obtain ⟨h1, h2⟩ := sigmaInv_parts hf hv hm
  rw [sigma, h1, h2, Nat.add_sub_cancel, flip_sq (getD_flip hf _ (idxOf_lt hv hm)), getD_idxOf hv hm,
    Int.sign_mul_natAbs]

theorem sigmaInv_sigma {N : Nat} {fl vp : List Int} (hf : ValidFlips N fl) (hv : ValidPerm 1 N vp)
    {l : Int} (hl : LitIn N l) : sigmaInv fl vp (sigma fl vp l) = l := by
  obtain ⟨h1, h2⟩ := sigma_parts hf hv hl
  have hi : l.natAbs - 1 < N := by have := hl.1; have := hl.2; omega
  have hlen : l.natAbs - 1 < vp.length := by rw [hv.length_eq]; exact hi
  have hidx : vp.idxOf (vp.getD (l.natAbs - 1) 0) = l.natAbs - 1 := by
    rw [List.getD_eq_getElem?_getD, List.getElem?_eq_getElem hlen]
    exact hv.nodup.idxOf_getElem _ hlen
  have e : ((l.natAbs - 1 : Nat) : Int) + 1 = (l.natAbs : Int) := by have := hl.1; omega
  rw [sigmaInv, h1, h2, hidx, flip_sq (getD_flip hf _ hi), e, Int.sign_mul_natAbs]

/-- `g` and `h` are mutually inverse maps of the literals over `1..N` that commute with negation -/
structure SignedBij (N : Nat) (g h : Int → Int) : Prop where
  neg : ∀ x, g (-x) = -g x
  negInv : ∀ x, h (-x) = -h x
  lit : ∀ {l}, LitIn N l → LitIn N (g l)
  litInv : ∀ {m}, LitIn N m → LitIn N (h m)
  left : ∀ {l}, LitIn N l → h (g l) = l
  right : ∀ {m}, LitIn N m → g (h m) = m

theorem SignedBij.symm {N : Nat} {g h : Int → Int} (s : SignedBij N g h) : SignedBij N h g :=
  ⟨s.negInv, s.neg, s.litInv, s.lit, s.right, s.left⟩

theorem sigma_signedBij {N : Nat} {fl vp : List Int} (hf : ValidFlips N fl) (hv : ValidPerm 1 N vp) :
    SignedBij N (sigma fl vp) (sigmaInv fl vp) :=
  ⟨sigma_neg fl vp, sigmaInv_neg fl vp, sigma_litIn hf hv, sigmaInv_litIn hf hv, sigmaInv_sigma hf hv, sigma_sigmaInv hf hv⟩

/-- the assignment that gives variable `v` the value `α` gives to the literal `g v`; `pull fl vp` is
`pullBy (sigma fl vp)` and `push fl vp` is `pullBy (sigmaInv fl vp)` by `rfl`, which is how the `SignedBij` lemmas
are used on them -/
def pullBy (g : Int → Int) (α : Assign) : Assign := fun v => litHolds α (g (v : Int))

/-- `pull α` gives variable `v` the value that `α` gives to the literal `σ(v)` -/
def pull (fl vp : List Int) (α : Assign) : Assign := fun v => litHolds α (sigma fl vp (v : Int))

/-- `push β` gives variable `w` the value that `β` gives to the literal `σ⁻¹(w)` -/
def push (fl vp : List Int) (β : Assign) : Assign := fun w => litHolds β (sigmaInv fl vp (w : Int))

theorem litHolds_of_odd (g : Int → Int) (hneg : ∀ x, g (-x) = -g x) (α : Assign) (l : Int)
    (h0 : l ≠ 0) (hg : g (l.natAbs : Int) ≠ 0) :
    litHolds α (g l) = litHolds (pullBy g α) l := by
  rcases Int.lt_or_gt_of_ne h0 with hn | hp
  · have e : l = -((l.natAbs : Nat) : Int) := by omega
    have hl : litHolds (pullBy g α) l = !litHolds α (g (l.natAbs : Int)) := by
      have : ¬ (0 < l) := by omega
      simp [litHolds, pullBy, this]
    rw [hl]
    conv => lhs; rw [e, hneg]
    exact litHolds_neg α _ hg
  · have e : l = ((l.natAbs : Nat) : Int) := by omega
    have hl : litHolds (pullBy g α) l = litHolds α (g (l.natAbs : Int)) := by
      simp [litHolds, pullBy, hp]
    rw [hl]
    conv => lhs; rw [e]

namespace SignedBij
variable {N : Nat} {g h : Int → Int}

theorem litHolds (s : SignedBij N g h) (α : Assign) {l : Int} (hl : LitIn N l) :
    litHolds α (g l) = Cnfgen.litHolds (pullBy g α) l :=
  litHolds_of_odd g s.neg α l hl.1 (s.lit (l := (l.natAbs : Int)) ⟨by have := hl.1; omega, by have := hl.2; omega⟩).1

theorem pull_pull (s : SignedBij N g h) (β : Assign) (v : Nat) (h1 : 1 ≤ v) (h2 : v ≤ N) :
    pullBy g (pullBy h β) v = β v := by
  have hl : LitIn N (v : Int) := ⟨by omega, by omega⟩
  show Cnfgen.litHolds (pullBy h β) (g v) = β v
  rw [← s.symm.litHolds β (s.lit hl), s.left hl]
  exact litHolds_natCast β h1

theorem pull_congr (s : SignedBij N g h) (α α' : Assign) (hα : ∀ v, 1 ≤ v → v ≤ N → α v = α' v)
    (v : Nat) (h1 : 1 ≤ v) (h2 : v ≤ N) : pullBy g α v = pullBy g α' v := by
  have hl : LitIn N (g (v : Int)) := s.lit ⟨by omega, by omega⟩
  exact litHolds_congr α α' _ (hα _ (by have := hl.1; omega) hl.2)

end SignedBij

theorem clauseHolds_map_sigma {N : Nat} {fl vp : List Int} (hf : ValidFlips N fl)
    (hv : ValidPerm 1 N vp) (α : Assign) (c : Clause) (hc : ∀ l ∈ c, LitIn N l) :
    clauseHolds α (c.map (sigma fl vp)) = clauseHolds (pull fl vp α) c := by
  induction c with
  | nil => rfl
  | cons x xs ih =>
    rw [List.map_cons, clauseHolds_cons, clauseHolds_cons, (sigma_signedBij hf hv).litHolds α (hc x (by simp)),
      ih (fun l hl => hc l (by simp [hl]))]
    rfl

/-- clause list of the result: the sorted mapping read off position by position -/
def resultClauses (F : CNF) (fl vp : List Int) (S : List (Nat × Int)) : List Clause :=
  S.map (fun m => (F.clauses.getD m.1 []).map (sigma fl vp))

theorem core_ok (F : CNF) (hwf : F.WF) (fl vp : List Int) (hf : ValidFlips F.nvars fl)
    (hv : ValidPerm 1 F.nvars vp) (S : List (Nat × Int))
    (hidx : ∀ j (h : j < S.length), S[j].2 = (j : Int)) (hlt : ∀ m ∈ S, m.1 < F.clauses.length) :
    core F fl vp S = .ok ⟨F.nvars, resultClauses F fl vp S⟩ := by
  unfold core substTable
  have h1 : ¬ (fl.length < F.nvars ∨ vp.length < F.nvars) := by rw [hf.1, hv.length_eq]; omega
  have htake : (List.zipWith (· * ·) fl vp).take F.nvars = List.zipWith (· * ·) fl vp := by
    apply List.take_of_length_le; simp [hf.1, hv.length_eq]
  simp only [h1, ↓reduceIte, htake]
  have := foldE_load F
    (none :: ((List.zipWith (· * ·) fl vp).map some ++
      (List.zipWith (· * ·) fl vp).reverse.map (fun x => some (-x)))) (sigma fl vp) F.nvars
    (by
      intro c hc l hl
      have hl' : LitIn F.nvars l := hwf c hc l hl
      have hs := sigma_litIn hf hv hl'
      exact ⟨pyIndex_table fl vp F.nvars hf.1 hv.length_eq l hl'.1 hl'.2, hs.1, hs.2⟩)
    S ⟨F.nvars, []⟩ rfl (by intro j h; simp [hidx j h]) hlt
  simpa [resultClauses] using this

theorem shuffle_ok (F : CNF) (hwf : F.WF) (fl vp cp : List Int) (h : Valid F fl vp cp) :
    shuffle F fl vp cp = .ok ⟨F.nvars, resultClauses F fl vp (sortedMapping cp)⟩ := by
  obtain ⟨hf, hv, hc⟩ := h
  unfold shuffle
  rw [(checkFlips_ok_iff _ _).2 hf, (checkPerm_ok_iff _ _ _).2 hv, (checkPerm_ok_iff _ _ _).2 hc]
  exact core_ok F hwf fl vp hf hv _ (sortedMapping_getElem_snd cp _ hc) (sortedMapping_fst_lt cp _ hc)

theorem resultClauses_perm (F : CNF) (fl vp cp : List Int) (hc : ValidPerm 0 F.clauses.length cp) :
    (resultClauses F fl vp (sortedMapping cp)).Perm (F.clauses.map (fun c => c.map (sigma fl vp))) := by
  have h1 : resultClauses F fl vp (sortedMapping cp) =
      ((sortedMapping cp).map Prod.fst).map (fun i => (F.clauses.getD i []).map (sigma fl vp)) := by
    simp [resultClauses, List.map_map, Function.comp_def]
  have h2 : (List.range F.clauses.length).map (fun i => (F.clauses.getD i []).map (sigma fl vp)) =
      F.clauses.map (fun c => c.map (sigma fl vp)) := by
    apply List.ext_getElem
    · simp
    · intro i h1 h2
      have : i < F.clauses.length := by simpa using h1
      simp [List.getD_eq_getElem?_getD, List.getElem?_eq_getElem this]
  rw [h1, ← h2]
  exact (sortedMapping_fst_perm cp _ hc).map _

theorem holds_of_perm (α : Assign) (n m : Nat) (cs ds : List Clause) (h : cs.Perm ds) :
    CNF.holds α ⟨n, cs⟩ = CNF.holds α ⟨m, ds⟩ := by
  unfold CNF.holds
  rw [Bool.eq_iff_iff]
  simp only [List.all_eq_true]
  exact ⟨fun hh c hc => hh c (h.mem_iff.2 hc), fun hh c hc => hh c (h.mem_iff.1 hc)⟩

theorem result_holds (F : CNF) (hwf : F.WF) (fl vp cp : List Int) (h : Valid F fl vp cp) (α : Assign) :
    CNF.holds α ⟨F.nvars, resultClauses F fl vp (sortedMapping cp)⟩ = F.holds (pull fl vp α) := by
  obtain ⟨hf, hv, hc⟩ := h
  rw [holds_of_perm α F.nvars F.nvars _ _ (resultClauses_perm F fl vp cp hc)]
  unfold CNF.holds
  rw [Bool.eq_iff_iff]
  simp only [List.all_eq_true, List.mem_map, forall_exists_index, and_imp, forall_apply_eq_imp_iff₂]
  constructor
  · intro hh c hc'; rw [← clauseHolds_map_sigma hf hv α c (hwf c hc')]; exact hh c hc'
  · intro hh c hc'; rw [clauseHolds_map_sigma hf hv α c (hwf c hc')]; exact hh c hc'

/-- `ds` is what the first block of `Shuffle` draws for the argument, and `fl` the flips it ends up with.
For `'shuffle'` the only thing assumed about `random.choice([-1,1])` is that it returns `-1` or `1`. -/
def FlipsFrom (N : Nat) : Arg → List Draw → List Int → Prop
  | .fixed, ds, fl => ds = [] ∧ fl = List.replicate N 1
  | .shuffle, ds, fl => ds = fl.map Draw.choice ∧ ValidFlips N fl
  | .explicit l, ds, fl => ds = [] ∧ fl = l

/-- the same for a permutation block; for `'shuffle'` the only thing assumed about `random.shuffle`
is that it permutes its list. -/
def PermFrom (base : Int) (n : Nat) : Arg → List Draw → List Int → Prop
  | .fixed, ds, p => ds = [] ∧ p = iota base n
  | .shuffle, ds, p => ds = [Draw.shuffled p] ∧ ValidPerm base n p
  | .explicit l, ds, p => ds = [] ∧ p = l

/-- the draw stream `ds` is legal for the call `Shuffle(F, pa, va, ca)` and resolves the three arguments
to `fl`, `vp`, `cp` -/
def Resolves (F : CNF) (pa va ca : Arg) (ds : List Draw) (fl vp cp : List Int) : Prop :=
  ∃ d1 d2 d3, ds = d1 ++ (d2 ++ d3) ∧ FlipsFrom F.nvars pa d1 fl ∧
    PermFrom 1 F.nvars va d2 vp ∧ PermFrom 0 F.clauses.length ca d3 cp

theorem takeChoices_map (fl : List Int) (r : List Draw) :
    takeChoices fl.length (fl.map Draw.choice ++ r) = some (fl, r) := by
  induction fl with
  | nil => rfl
  | cons x xs ih => simp [takeChoices, ih]

theorem validFlips_replicate (N : Nat) : ValidFlips N (List.replicate N 1) := by
  refine ⟨by simp, ?_⟩
  intro x hx; left; exact (List.mem_replicate.1 hx).2

theorem validPerm_iota (base : Int) (n : Nat) : ValidPerm base n (iota base n) := List.Perm.refl _

theorem iota1_eq (N : Nat) : iota1 N = iota 1 N := rfl
theorem iota0_eq (M : Nat) : iota0 M = iota 0 M := by simp [iota0, iota]

/-- the `'fixed'` clause mapping `((i,i) for i in range(M))` is the sorted mapping of the identity -/
theorem sortedMapping_iota (M : Nat) :
    sortedMapping (iota 0 M) = (List.range M).map (fun (i : Nat) => (i, (i : Int))) := by
  have he : enumerate (iota 0 M) = (List.range M).map (fun (i : Nat) => (i, (i : Int))) := by
    apply List.ext_getElem
    · simp [enumerate, iota]
    · intro i h1 h2
      simp [enumerate, iota]
  unfold sortedMapping
  rw [he]
  apply List.mergeSort_of_pairwise
  rw [List.pairwise_map]
  exact (List.pairwise_le_range (n := M)).imp (by intro a b h; simp; omega)

theorem resolveFlips_from (N : Nat) (pa : Arg) (d r : List Draw) (fl : List Int)
    (h : FlipsFrom N pa d fl) :
    resolveFlips N pa (d ++ r) =
      some (match checkFlips N fl with | .ok _ => .ok fl | .error e => .error e, r) := by
  cases pa with
  | fixed =>
    obtain ⟨rfl, rfl⟩ := h
    simp [resolveFlips, (checkFlips_ok_iff _ _).2 (validFlips_replicate N)]
  | shuffle =>
    obtain ⟨rfl, hv⟩ := h
    have := takeChoices_map fl r
    rw [hv.1] at this
    simp [resolveFlips, this, (checkFlips_ok_iff _ _).2 hv]
  | explicit l =>
    obtain ⟨rfl, rfl⟩ := h
    simp only [resolveFlips, List.nil_append]
    cases checkFlips N fl <;> rfl

theorem resolveVperm_from (N : Nat) (va : Arg) (d r : List Draw) (vp : List Int)
    (h : PermFrom 1 N va d vp) :
    resolveVperm N va (d ++ r) =
      some (match checkPerm 1 N vp with | .ok _ => .ok vp | .error e => .error e, r) := by
  cases va with
  | fixed =>
    obtain ⟨rfl, rfl⟩ := h
    simp [resolveVperm, iota1_eq, (checkPerm_ok_iff _ _ _).2 (validPerm_iota 1 N)]
  | shuffle =>
    obtain ⟨rfl, hv⟩ := h
    simp [resolveVperm, takeShuffled, (checkPerm_ok_iff _ _ _).2 hv]
  | explicit l =>
    obtain ⟨rfl, rfl⟩ := h
    simp only [resolveVperm, List.nil_append]
    cases checkPerm 1 N vp <;> rfl

theorem resolveCperm_from (M : Nat) (ca : Arg) (d r : List Draw) (cp : List Int)
    (h : PermFrom 0 M ca d cp) :
    resolveCperm M ca (d ++ r) =
      some (match checkPerm 0 M cp with | .ok _ => .ok (sortedMapping cp) | .error e => .error e, r) := by
  cases ca with
  | fixed =>
    obtain ⟨rfl, rfl⟩ := h
    simp [resolveCperm, sortedMapping_iota, (checkPerm_ok_iff _ _ _).2 (validPerm_iota 0 M)]
  | shuffle =>
    obtain ⟨rfl, hv⟩ := h
    simp [resolveCperm, takeShuffled, (checkPerm_ok_iff _ _ _).2 hv]
  | explicit l =>
    obtain ⟨rfl, rfl⟩ := h
    simp only [resolveCperm, List.nil_append]
    cases checkPerm 0 M cp <;> rfl

theorem run_spec (F : CNF) (pa va ca : Arg) (ds : List Draw) (fl vp cp : List Int)
    (h : Resolves F pa va ca ds fl vp cp) :
    ∃ r, run F pa va ca ds = some (shuffle F fl vp cp, r) ∧ (Valid F fl vp cp → r = []) := by
  obtain ⟨d1, d2, d3, rfl, h1, h2, h3⟩ := h
  have h3' := resolveCperm_from _ _ _ [] _ h3
  rw [List.append_nil] at h3'
  unfold run shuffle
  rw [resolveFlips_from _ _ _ _ _ h1]
  cases e1 : checkFlips F.nvars fl with
  | error e => exact ⟨_, rfl, fun hV => by rw [(checkFlips_ok_iff _ _).2 hV.1] at e1; cases e1⟩
  | ok _ =>
    simp only []
    rw [resolveVperm_from _ _ _ _ _ h2]
    cases e2 : checkPerm 1 F.nvars vp with
    | error e => exact ⟨_, rfl, fun hV => by rw [(checkPerm_ok_iff _ _ _).2 hV.2.1] at e2; cases e2⟩
    | ok _ =>
      simp only []
      rw [h3']
      cases checkPerm 0 F.clauses.length cp <;> exact ⟨_, rfl, fun _ => rfl⟩

theorem tkey_injective {i j : Nat} (h : tkey i = tkey j) : i = j := by
  unfold tkey at h
  exact Nat.repr_injective ((String.append_right_inj _).1 h)

theorem hasKey_iff (h : Header) (k : String) : hasKey h k = true ↔ k ∈ h.map Prod.fst := by
  simp only [hasKey, List.any_eq_true, beq_iff_eq, List.mem_map]

theorem firstFree_spec (h : Header) :
    1 ≤ firstFree h ∧ hasKey h (tkey (firstFree h)) = false ∧
    ∀ j, 1 ≤ j → j < firstFree h → hasKey h (tkey j) = true := by
  obtain ⟨a, c, d⟩ := fuelSearch_spec (fun i => hasKey h (tkey i)) (firstFreeFrom h) (fun _ => rfl)
    (fun _ _ => rfl) (h.length + 1) 1
  refine ⟨a, d.resolve_right fun hr => ?_, c⟩
  -- pigeonhole: the keys `tkey 1 … tkey (n+1)` are distinct and all in a header with `n` entries
  have hsub : (List.range (h.length + 1)).map (fun j => tkey (j + 1)) ⊆ h.map Prod.fst := by
    intro k hk
    simp only [List.mem_map, List.mem_range] at hk
    obtain ⟨j, hj, rfl⟩ := hk
    exact (hasKey_iff h _).1 (c (j + 1) (by omega) (by omega))
  have hnd : ((List.range (h.length + 1)).map (fun j => tkey (j + 1))).Nodup := by
    unfold List.Nodup
    rw [List.pairwise_map]
    exact (List.pairwise_lt_range (n := h.length + 1)).imp
      (by intro x y hxy heq; have := tkey_injective heq; omega)
  have := hnd.length_le_of_subset hsub
  simp only [List.length_map, List.length_range] at this
  omega

theorem hasKey_reshuffled (h : Header) (k : String) :
    hasKey (h.map (fun p => if p.1 == "description" then (p.1, p.2 ++ " (reshuffled)") else p)) k =
      hasKey h k := by
  unfold hasKey
  rw [List.any_map]
  apply List.any_congr rfl
  intro p
  by_cases hp : p.1 = "description" <;> simp [hp]

end Cnfgen.Shuffle
