/-
Helper lemmas for the header provenance part of C05 / C19: `add_description` picks the first
free `transformation i` key and appends.
-/
import CnfgenModel.Trans.Header
import Lemmas.FuelSearch
namespace Cnfgen
namespace Header

theorem hasKey_cons (e : Key × String) (h : Hdr) (k : Key) :
    hasKey (e :: h) k = (e.1 == k || hasKey h k) := by simp [hasKey]

theorem le_maxTrans (h : Hdr) (i : Nat) (hk : hasKey h (.trans i) = true) : i ≤ maxTrans h := by
  induction h with
  | nil => simp [hasKey] at hk
  | cons e h ih =>
    obtain ⟨k, v⟩ := e
    rw [hasKey_cons] at hk
    cases k with
    | trans j =>
      simp only [maxTrans]
      by_cases hj : j = i
      · subst hj; omega
      · have : (Key.trans j == Key.trans i) = false := by simp [hj]
        simp only [this, Bool.false_or] at hk
        have := ih hk; omega
    | other s =>
      simp only [maxTrans]
      have : (Key.other s == Key.trans i) = false := by simp
      simp only [this, Bool.false_or] at hk
      exact ih hk

theorem freeIndex_spec (h : Hdr) :
    hasKey h (.trans (freeIndex h)) = false ∧ 1 ≤ freeIndex h ∧
      ∀ j, 1 ≤ j → j < freeIndex h → hasKey h (.trans j) = true := by
  obtain ⟨a, c, d⟩ := fuelSearch_spec (fun i => hasKey h (.trans i)) (freeFrom h) (fun _ => rfl)
    (fun _ _ => rfl) (maxTrans h + 1) 1
  refine ⟨d.elim id fun hr => ?_, a, c⟩
  cases hk : hasKey h (.trans (freeIndex h))
  · rfl
  · have := le_maxTrans h _ hk; unfold freeIndex at this; omega

theorem addDescription_eq (h : Hdr) (text : String) :
    addDescription h text = h ++ [(.trans (freeIndex h), text)] := by
  simp [addDescription, setKey, (freeIndex_spec h).1]

theorem hasKey_append (h h' : Hdr) (k : Key) : hasKey (h ++ h') k = (hasKey h k || hasKey h' k) := by
  simp [hasKey]

theorem get?_append_of_hasKey (h h' : Hdr) (k : Key) (hk : hasKey h k = true) :
    get? (h ++ h') k = get? h k := by
  unfold get?
  rw [List.find?_append]
  simp only [hasKey, List.any_eq_true] at hk
  obtain ⟨e, he, hek⟩ := hk
  cases hf : List.find? (fun e => e.1 == k) h with
  | none =>
    rw [List.find?_eq_none] at hf
    exact absurd hek (hf e he)
  | some x => simp

theorem transformAll_eq (h : Hdr) (ts : List T) :
    ∃ suf : Hdr, transformAll h ts = h ++ suf ∧ suf.map (·.2) = ts.map descr ∧
      ∀ e ∈ suf, ∃ i, 1 ≤ i ∧ e.1 = Key.trans i := by
  induction ts generalizing h with
  | nil => exact ⟨[], by simp [transformAll], rfl, by simp⟩
  | cons t ts ih =>
    obtain ⟨suf, h1, h2, h3⟩ := ih (transform h t)
    have e : transform h t = h ++ [(.trans (freeIndex h), descr t)] := addDescription_eq h (descr t)
    refine ⟨(.trans (freeIndex h), descr t) :: suf, ?_, ?_, ?_⟩
    · simp only [transformAll, List.foldl_cons] at h1 ⊢
      rw [h1, e]; simp
    · simp [h2]
    · intro x hx
      rcases List.mem_cons.1 hx with rfl | hx
      · exact ⟨freeIndex h, (freeIndex_spec h).2.1, rfl⟩
      · exact h3 x hx

end Header
end Cnfgen
