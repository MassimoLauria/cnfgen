/-
The sampler that `sample_clauses` (randomformulas.py) and `sample_parities` (randomkxor.py) share, for an
arbitrary type of candidates: a rejection loop with a retry budget of `10*m` candidates, then, unless the
loop delivered, a dense fallback that lists all compatible candidates and takes one `random.sample`.
`Lemmas/RandKCNF.lean` and `Lemmas/RandKXOR.lean` show that the two models are instances.
What a program does on legal draws is stated as a triple `Ran A S w Q x` (result in `Q`, exceptions in `A`,
at most `w` draws) and composed with `Ran.bind`, so each program gets one statement.
-/
import Lemmas.RandDraws
import Lemmas.RandIter
namespace Cnfgen.Rand
open Cnfgen

/-- a run is complete when the draw list neither ran out nor answered a request the program did not make -/
def Completed {α : Type} (r : Except RErr α) : Prop := r ≠ .error .outOfDraws ∧ r ≠ .error .mismatch

theorem completed_ok {α : Type} (a : α) : Completed (.ok a : Except RErr α) := ⟨nofun, nofun⟩

theorem completed_py {α : Type} (e : Err) : Completed (.error (.py e) : Except RErr α) := ⟨nofun, nofun⟩

/-- the generator state the sampler actually reads: `σ s` after `random.seed(s)`, else the prior state -/
def usedStream (σ : Int → List Draw) (seed : Option Int) (rng : List Draw) : List Draw :=
  match seed with
  | some s => σ s
  | none => rng

variable {α β : Type} {A A' : Err → Prop} {S : Prop} {w w' : Nat} {P Q Q' : α → Prop} {x : RandM α}

/-- the ways a run on the draws `ds` that needs at most `w` of them can fail: with a Python exception in
`A`, or because the recording is not one of this program (it ends early or answers another request).
`S` is the regime in which the number of draws is bounded at all (`n ≤ sys.maxsize`). -/
def RanErr (A : Err → Prop) (S : Prop) (ds : List Draw) (w : Nat) (e : RErr) : Prop :=
  (∃ e', e = .py e' ∧ A e') ∨ (e = .outOfDraws ∧ (S → ds.length < w)) ∨ e = .mismatch

theorem RanErr.mono {ds ds₀ : List Draw} {e : RErr} (h : RanErr A S ds w e) (hA : ∀ e', A e' → A' e')
    (hlen : S → ds₀.length + w ≤ ds.length + w') : RanErr A' S ds₀ w' e := by
  rcases h with ⟨e', h, ha⟩ | ⟨h, hl⟩ | h
  · exact Or.inl ⟨e', h, hA e' ha⟩
  · exact Or.inr (Or.inl ⟨h, fun hS => by have := hl hS; have := hlen hS; omega⟩)
  · exact Or.inr (Or.inr h)

/-- on legal draws `x` returns a value satisfying `Q`, leaving legal draws, at most `w` fewer; or it fails
as `RanErr` says -/
structure Ran (A : Err → Prop) (S : Prop) (w : Nat) (Q : α → Prop) (x : RandM α) : Prop where
  ok : ∀ {ds ds' : List Draw} {a : α}, Legal ds → x ds = .ok (a, ds') →
    Q a ∧ Legal ds' ∧ (S → ds.length ≤ ds'.length + w)
  error : ∀ {ds : List Draw} {e : RErr}, Legal ds → x ds = .error e → RanErr A S ds w e

namespace Ran

theorem pure {a : α} (h : Q a) : Ran A S w Q (pure a) where
  ok hL h' := by cases RandM.pure_eq_ok.1 h'; exact ⟨h, hL, fun _ => Nat.le_add_right _ _⟩
  error _ h' := absurd h' RandM.pure_ne_error

theorem raise {e : Err} (h : A e) : Ran A S w Q (RandM.raise e) where
  ok _ h' := by cases h'
  error _ h' := by cases h'; exact Or.inl ⟨e, rfl, h⟩

theorem mono (h : Ran A S w Q x) (hA : ∀ e, A e → A' e) (hw : w ≤ w') (hQ : ∀ a, Q a → Q' a) :
    Ran A' S w' Q' x where
  ok hL h' := by
    obtain ⟨a, b, c⟩ := h.ok hL h'
    exact ⟨hQ _ a, b, fun hS => by have := c hS; omega⟩
  error hL h' := (h.error hL h').mono hA (fun _ => by omega)

theorem bind {f : α → RandM β} {Q : β → Prop} (hx : Ran A S w P x)
    (hf : ∀ a, P a → Ran A S w' Q (f a)) : Ran A S (w' + w) Q (x >>= f) where
  ok hL h := by
    obtain ⟨a, ds1, h1, h2⟩ := RandM.bind_eq_ok.1 h
    obtain ⟨hP, hL1, e1⟩ := hx.ok hL h1
    obtain ⟨hQ, hL2, e2⟩ := (hf a hP).ok hL1 h2
    exact ⟨hQ, hL2, fun hS => by have := e1 hS; have := e2 hS; omega⟩
  error hL h := by
    rcases RandM.bind_eq_error.1 h with h1 | ⟨a, ds1, h1, h2⟩
    · exact (hx.error hL h1).mono (fun _ => id) (fun _ => by omega)
    · obtain ⟨hP, hL1, e1⟩ := hx.ok hL h1
      exact ((hf a hP).error hL1 h2).mono (fun _ => id) (fun hS => by have := e1 hS; omega)

theorem map {g : α → β} {Q : β → Prop} (hx : Ran A S w P x) (hg : ∀ a, P a → Q (g a)) :
    Ran A S w Q (x >>= fun a => Pure.pure (g a)) where
  ok hL h := by
    obtain ⟨a, h1, rfl⟩ := RandM.bind_pure_eq_ok.1 h
    exact ⟨hg a (hx.ok hL h1).1, (hx.ok hL h1).2⟩
  error hL h := hx.error hL (RandM.bind_pure_eq_error.1 h)

/-- a primitive whose answers `a` are read from the draw `mk a` only (whose legality is what is known of `a`) -/
theorem of_prim {bad : Prop} [Decidable bad] {E : Err} {read : Draw → Option α} {mk : α → Draw}
    (hread : ∀ {d a}, read d = some a → d = mk a) (hA : bad → A E) :
    Ran A S 1 (fun a => (mk a).Legal) (prim bad E read) where
  ok hL h := by
    obtain ⟨_, d, hr, rfl⟩ := prim_eq_ok.1 h
    cases hread hr
    exact ⟨(Legal.cons.1 hL).1, (Legal.cons.1 hL).2, fun _ => Nat.le_refl _⟩
  error _ h := by
    rcases prim_eq_error h with ⟨rfl, hb⟩ | ⟨rfl, rfl⟩ | rfl
    · exact Or.inl ⟨E, rfl, hA hb⟩
    · exact Or.inr (Or.inl ⟨rfl, fun _ => Nat.zero_lt_one⟩)
    · exact Or.inr (Or.inr rfl)

end Ran

theorem sample_ran (n k : Nat) (hA : n < k → A .valueError) :
    Ran A S 1 (fun idx => idx.length = k ∧ idx.Nodup ∧ ∀ i ∈ idx, i < n) (sample n k) :=
  sample_eq n k ▸ Ran.of_prim (mk := .sample n k) readSample_eq_some.1 hA

theorem choice_ran {len : Nat} (h : len ≠ 0) : Ran A S 1 (· < len) (choice len) :=
  choice_eq len ▸ Ran.of_prim (mk := .choice len) readChoice_eq_some.1 (fun h' => absurd h' h)

theorem randint_ran {a b : Int} (h : a ≤ b) : Ran A S 1 (fun v => a ≤ v ∧ v ≤ b) (randint a b) :=
  randint_eq a b ▸ Ran.of_prim (mk := .randint a b) readRandint_eq_some.1 (fun h' => absurd h' (by omega))

theorem sampleFrom_ran (pop : List α) (k : Nat) (dflt : α) (hA : pop.length < k → A .valueError) :
    Ran A S 1 (fun res => res.length = k ∧ (∀ x ∈ res, x ∈ pop) ∧ (pop.Nodup → res.Nodup))
      (sampleFrom pop k dflt) := by
  refine (sample_ran pop.length k hA).map fun idx ⟨hlen, hnd, hlt⟩ => ?_
  have hget : ∀ i ∈ idx, ∃ h : i < pop.length, pop.getD i dflt = pop[i] := fun i hi =>
    ⟨hlt i hi, by simp [List.getD_eq_getElem?_getD, hlt i hi]⟩
  refine ⟨by simpa using hlen, ?_, fun hp => List.Nodup.map_on ?_ hnd⟩
  · intro x hx
    obtain ⟨i, hi, rfl⟩ := List.mem_map.1 hx
    obtain ⟨_, e⟩ := hget i hi
    rw [e]; exact List.getElem_mem _
  · intro i hi j hj hij
    obtain ⟨_, e1⟩ := hget i hi
    obtain ⟨_, e2⟩ := hget j hj
    rw [e1, e2] at hij
    exact (List.Nodup.getElem_inj_iff hp).1 hij

theorem choiceFrom_ran {seq : List α} (h : seq ≠ []) (dflt : α) :
    Ran A S 1 (· ∈ seq) (choiceFrom seq dflt) :=
  (choice_ran (mt List.length_eq_zero_iff.1 h)).map fun i hi => by
    rw [List.getD_eq_getElem?_getD, List.getElem?_eq_getElem hi]
    exact List.getElem_mem _

/-- what one candidate does to the sampled list: nothing if `seen` (its key is in the set of sampled keys) or
if it is not compatible with the planted assignments (`good`, which may raise); else it is appended -/
def addCand (seen : List α → α → Bool) (good : α → Except Err Bool) (acc : List α) (c : α) :
    Except Err (List α) :=
  if seen acc c then .ok acc
  else match good c with
    | .ok g => .ok (if g then acc ++ [c] else acc)
    | .error e => .error e

/-- `while len(acc) < m and t < 10*m`, with `fuel = 10*m - t` -/
def rejLoop (cand : RandM α) (seen : List α → α → Bool) (good : α → Except Err Bool) (m : Nat) :
    Nat → List α → RandM (List α)
  | 0, acc => pure acc
  | fuel + 1, acc =>
    if acc.length < m then
      cand >>= fun c => RandM.lift (addCand seen good acc c) >>= rejLoop cand seen good m fuel
    else pure acc

variable {cand : RandM α} {seen : List α → α → Bool} {good : α → Except Err Bool} {k n m : Nat}

/-- invariant of the sampled list: distinct candidates of shape `P` that passed the test, at most `m` -/
def Sampled (P : α → Prop) (good : α → Except Err Bool) (m : Nat) (acc : List α) : Prop :=
  acc.Nodup ∧ (∀ c ∈ acc, P c ∧ good c = .ok true) ∧ acc.length ≤ m

theorem Sampled.nil : Sampled P good m [] := ⟨List.nodup_nil, nofun, Nat.zero_le _⟩

theorem Sampled.add (hseen : ∀ acc c, seen acc c = false → c ∉ acc) {acc : List α} {c : α} {g : Bool}
    (hI : Sampled P good m acc) (hlt : acc.length < m) (hP : P c) (hg : good c = .ok g) :
    ∃ acc', addCand seen good acc c = .ok acc' ∧ Sampled P good m acc' := by
  unfold addCand
  rw [hg]
  cases hs : seen acc c <;> cases g
  · exact ⟨_, rfl, hI⟩
  · obtain ⟨hn, hm, _⟩ := hI
    refine ⟨_, rfl, List.concat_eq_append ▸ hn.concat (hseen acc c hs), fun a ha => ?_, by simp; omega⟩
    rcases List.mem_append.1 ha with ha | ha
    · exact hm a ha
    · rw [List.mem_singleton.1 ha]; exact ⟨hP, hg⟩
  · exact ⟨_, rfl, hI⟩
  · exact ⟨_, rfl, hI⟩

theorem rejLoop_ran (hC : Ran A S w P cand) (hseen : ∀ acc c, seen acc c = false → c ∉ acc)
    (hgood : ∀ c, P c → ∃ g, good c = .ok g) (fuel : Nat) {acc : List α} (hI : Sampled P good m acc) :
    Ran A S (fuel * w) (Sampled P good m) (rejLoop cand seen good m fuel acc) := by
  induction fuel generalizing acc with
  | zero => exact Ran.pure hI
  | succ fuel ih =>
    unfold rejLoop
    split
    · rename_i hlt
      rw [Nat.add_one_mul]
      refine hC.bind fun c hP => ?_
      obtain ⟨g, hg⟩ := hgood c hP
      obtain ⟨acc', hadd, hI'⟩ := hI.add hseen hlt hP hg
      rw [hadd]
      exact ih hI'
    · exact Ran.pure hI

/-- `fullset = list(all_…(k, n, planted))` (it may raise), ValueError if it has fewer than `m` members, else
`random.sample(fullset, m)`.  The enumeration starts with `itertools.combinations(range(1, n+1), k)`:
OverflowError beyond `sys.maxsize` variables, before anything else. -/
def denseFrom (n m : Nat) (full : Except Err (List α)) (dflt : α) : RandM (List α) :=
  if sysMaxsize < n then RandM.raise .overflowError
  else RandM.lift full >>= fun fullset =>
    if fullset.length < m then RandM.raise .valueError else sampleFrom fullset m dflt

/-- the Python exceptions of a sampler over `fl`, the list of all compatible candidates: ValueError if
`k > n` or — up to `sys.maxsize` variables — `fl` is too short; OverflowError beyond (defect C13-H1) -/
def SamplerErr (k n m : Nat) (fl : List α) (e : Err) : Prop :=
  (e = .valueError ∧ (n < k ∨ (fl.length < m ∧ n ≤ sysMaxsize))) ∨ (e = .overflowError ∧ sysMaxsize < n)

def IsSample (m : Nat) (fl res : List α) : Prop := res.length = m ∧ res.Nodup ∧ ∀ c ∈ res, c ∈ fl

theorem denseFrom_ran {fl : List α} (hnd : fl.Nodup) (dflt : α) :
    Ran (SamplerErr k n m fl) (n ≤ sysMaxsize) 1 (IsSample m fl) (denseFrom n m (.ok fl) dflt) := by
  unfold denseFrom
  split
  · rename_i hbig
    exact Ran.raise (Or.inr ⟨rfl, hbig⟩)
  · rw [RandM.lift_ok, RandM.pure_bind]
    split
    · rename_i hlt
      exact Ran.raise (Or.inl ⟨rfl, Or.inr ⟨hlt, by omega⟩⟩)
    · rename_i hlt
      exact (sampleFrom_ran fl m dflt (fun h => absurd h hlt)).mono (fun _ => id) (Nat.le_refl _)
        fun res ⟨a, b, c⟩ => ⟨a, c hnd, b⟩

theorem denseFrom_eq_ok {fl res : List α} {dflt : α} {ds ds' : List Draw}
    (h : denseFrom n m (.ok fl) dflt ds = .ok (res, ds')) :
    n ≤ sysMaxsize ∧ m ≤ fl.length ∧ ∃ idx, ds = .sample fl.length m idx :: ds' := by
  unfold denseFrom at h
  split at h
  · cases h
  · rw [RandM.lift_ok, RandM.pure_bind] at h
    split at h
    · cases h
    · obtain ⟨idx, h1, _⟩ := RandM.bind_pure_eq_ok.1 h
      rw [sample_eq] at h1
      obtain ⟨_, d, hr, rfl⟩ := prim_eq_ok.1 h1
      exact ⟨by omega, by omega, idx, by rw [readSample_eq_some.1 hr]⟩

/-- `sample_clauses` / `sample_parities`; `enough` is the code's test whether the loop delivered
(`len(clauses) == m`, resp. `len(sampled_list) >= m`) -/
def sampleVia (cand : RandM α) (seen : List α → α → Bool) (good : α → Except Err Bool) (n m : Nat)
    (enough : List α → Prop) [DecidablePred enough] (full : Except Err (List α)) (dflt : α) :
    RandM (List α) :=
  rejLoop cand seen good m (retryBudget m) [] >>= fun acc =>
    if enough acc then pure acc else denseFrom n m full dflt

/-- what both samplers guarantee on legal draws, `fl` being the list of all compatible candidates and `B` the
number of draws a run can consume up to `sys.maxsize` variables -/
abbrev SamplerSpec (run : RandM (List α)) (k n m : Nat) (fl : List α) (B : Nat) : Prop :=
  Ran (SamplerErr k n m fl) (n ≤ sysMaxsize) B (IsSample m fl) run

/-- a candidate generator raises ValueError at most, and only if `k > n` (`sample_variables`) -/
abbrev Cand (cand : RandM α) (k n w : Nat) (P : α → Prop) : Prop :=
  Ran (fun e => e = .valueError ∧ n < k) (n ≤ sysMaxsize) w P cand

theorem sampleVia_spec (hC : Cand cand k n w P) (hseen : ∀ acc c, seen acc c = false → c ∉ acc)
    (hgood : ∀ c, P c → ∃ g, good c = .ok g) {enough : List α → Prop} [DecidablePred enough]
    (henough : ∀ acc, acc.length ≤ m → (enough acc ↔ acc.length = m))
    {fl : List α} (hnd : fl.Nodup) (hfl : ∀ c, P c → good c = .ok true → c ∈ fl) (dflt : α) :
    SamplerSpec (sampleVia cand seen good n m enough (.ok fl) dflt) k n m fl (retryBudget m * w + 1) := by
  have hC' : Ran (SamplerErr k n m fl) (n ≤ sysMaxsize) w P cand :=
    hC.mono (fun e h => Or.inl ⟨h.1, Or.inl h.2⟩) (Nat.le_refl _) (fun _ => id)
  rw [Nat.add_comm]
  refine (rejLoop_ran hC' hseen hgood _ Sampled.nil).bind fun acc hI => ?_
  split
  · rename_i he
    exact Ran.pure ⟨(henough _ hI.2.2).1 he, hI.1, fun c hc => hfl c (hI.2.1 c hc).1 (hI.2.1 c hc).2⟩
  · exact denseFrom_ran hnd dflt

/-- the frame of `RandomKCNF` / `RandomKXOR` around the sampler -/
def seededRun (σ : Int → List Draw) (seed : Option Int) (k n : Nat) (run : RandM β) : RandM β := do
  reseed σ seed
  if n < k then RandM.raise .valueError else run

theorem seededRun_apply (σ : Int → List Draw) (seed : Option Int) (k n : Nat) (run : RandM β)
    (rng : List Draw) :
    seededRun σ seed k n run rng =
      if n < k then .error (.py .valueError) else run (usedStream σ seed rng) := by
  unfold seededRun
  rw [RandM.bind_apply, reseed_apply]
  by_cases h : n < k
  · rw [if_pos h, if_pos h]; rfl
  · rw [if_neg h, if_neg h]; rfl

theorem seededRun_bind (σ : Int → List Draw) (seed : Option Int) (k n : Nat) (run : RandM α)
    (f : α → RandM β) : seededRun σ seed k n run >>= f = seededRun σ seed k n (run >>= f) := by
  funext rng
  rw [RandM.bind_apply, seededRun_apply, seededRun_apply]
  by_cases h : n < k
  · rw [if_pos h, if_pos h]
  · rw [if_neg h, if_neg h, RandM.bind_apply]

theorem seededRun_eq_ok {σ : Int → List Draw} {seed : Option Int} {run : RandM β} {rng : List Draw}
    {r : β × List Draw} (h : seededRun σ seed k n run rng = .ok r) :
    k ≤ n ∧ run (usedStream σ seed rng) = .ok r := by
  rw [seededRun_apply] at h
  split at h
  · cases h
  · exact ⟨by omega, h⟩

namespace SamplerSpec
variable {run : RandM (List α)} {fl : List α} {B : Nat} {σ : Int → List Draw} {seed : Option Int}
  {rng : List Draw}

theorem seeded_error (hR : SamplerSpec run k n m fl B) (hL : Legal (usedStream σ seed rng)) {e : RErr}
    (h : seededRun σ seed k n run rng = .error e) :
    RanErr (SamplerErr k n m fl) (n ≤ sysMaxsize) (usedStream σ seed rng) B e := by
  rw [seededRun_apply] at h
  split at h
  · rename_i hk
    cases h; exact Or.inl ⟨_, rfl, Or.inl ⟨rfl, Or.inl hk⟩⟩
  · exact hR.error hL h

theorem le_length (hR : SamplerSpec run k n m fl B) {ds ds' : List Draw} (hL : Legal ds) {res : List α}
    (h : run ds = .ok (res, ds')) : m ≤ fl.length := by
  obtain ⟨⟨hlen, hn, hm⟩, _⟩ := hR.ok hL h
  rw [← hlen]; exact hn.length_le_of_subset hm

theorem seeded_py (hR : SamplerSpec run k n m fl B) (hL : Legal (usedStream σ seed rng)) {e : Err}
    (h : seededRun σ seed k n run rng = .error (.py e)) : SamplerErr k n m fl e := by
  rcases hR.seeded_error hL h with ⟨e', h', hA⟩ | ⟨h', _⟩ | h'
  · cases h'; exact hA
  · cases h'
  · cases h'

theorem error_kinds (hR : SamplerSpec run k n m fl B) (hL : Legal (usedStream σ seed rng)) {e : Err}
    (h : seededRun σ seed k n run rng = .error (.py e)) :
    e = .valueError ∨ (e = .overflowError ∧ sysMaxsize < n) :=
  (hR.seeded_py hL h).imp And.left id

theorem valueError_only_if (hR : SamplerSpec run k n m fl B) (hL : Legal (usedStream σ seed rng))
    (h : seededRun σ seed k n run rng = .error (.py .valueError)) : n < k ∨ fl.length < m := by
  rcases hR.seeded_py hL h with ⟨_, hA⟩ | ⟨hA, _⟩
  · exact hA.imp_right And.left
  · cases hA

theorem outcome (hR : SamplerSpec run k n m fl B) (hL : Legal (usedStream σ seed rng))
    (hC : Completed (seededRun σ seed k n run rng)) :
    (k ≤ n ∧ m ≤ fl.length ∧ ∃ r, seededRun σ seed k n run rng = .ok r) ∨
      ((n < k ∨ (fl.length < m ∧ n ≤ sysMaxsize)) ∧
        seededRun σ seed k n run rng = .error (.py .valueError)) ∨
      (sysMaxsize < n ∧ seededRun σ seed k n run rng = .error (.py .overflowError)) := by
  cases hr : seededRun σ seed k n run rng with
  | ok r =>
    obtain ⟨hk, h⟩ := seededRun_eq_ok hr
    exact Or.inl ⟨hk, hR.le_length hL h, r, rfl⟩
  | error e =>
    rw [hr] at hC
    rcases hR.seeded_error hL hr with ⟨e', rfl, ⟨rfl, h'⟩ | ⟨rfl, h'⟩⟩ | ⟨rfl, _⟩ | rfl
    · exact Or.inr (Or.inl ⟨h', rfl⟩)
    · exact Or.inr (Or.inr ⟨h', rfl⟩)
    · exact absurd rfl hC.1
    · exact absurd rfl hC.2

theorem valueError_iff (hR : SamplerSpec run k n m fl B) (hS : n ≤ sysMaxsize)
    (hL : Legal (usedStream σ seed rng)) (hC : Completed (seededRun σ seed k n run rng)) :
    seededRun σ seed k n run rng = .error (.py .valueError) ↔ n < k ∨ fl.length < m := by
  refine ⟨hR.valueError_only_if hL, fun hcond => ?_⟩
  rcases hR.outcome hL hC with ⟨_, _, _⟩ | ⟨_, h⟩ | ⟨_, _⟩
  · omega
  · exact h
  · omega

/-- defect C13-H1: beyond `sys.maxsize` variables a request for more candidates than there are fails with
OverflowError -/
theorem huge_overflow (hR : SamplerSpec run k n m fl B) (hB : sysMaxsize < n) (hk : k ≤ n)
    (hm : fl.length < m) (hL : Legal (usedStream σ seed rng))
    (hC : Completed (seededRun σ seed k n run rng)) :
    seededRun σ seed k n run rng = .error (.py .overflowError) := by
  rcases hR.outcome hL hC with ⟨_, _, _⟩ | ⟨_ | ⟨_, _⟩, _⟩ | ⟨_, h⟩
  · omega
  · omega
  · omega
  · exact h

theorem enough_draws (hR : SamplerSpec run k n m fl B) (hS : n ≤ sysMaxsize)
    (hL : Legal (usedStream σ seed rng)) (hlen : B ≤ (usedStream σ seed rng).length) :
    seededRun σ seed k n run rng ≠ .error .outOfDraws := by
  intro h
  rcases hR.seeded_error hL h with ⟨_, h', _⟩ | ⟨_, h'⟩ | h'
  · cases h'
  · have := h' hS; omega
  · cases h'

end SamplerSpec

/-! ### a completing draw list for every input

`Runs S w w' Q x`: there are legal draws — at most `w` of them, at most `w'` in the regime `S` — that `x`
consumes exactly, ending in a result in `Q` or in a Python exception, whatever follows them.  The counterpart of
`Ran` for existence; `Runs.bind` concatenates the draws. -/

section
variable {β : Type} {v v' : Nat} {Q : α → Prop}

def Runs (S : Prop) (w w' : Nat) (Q : α → Prop) (x : RandM α) : Prop :=
  ∃ ds, Legal ds ∧ ds.length ≤ w ∧ (S → ds.length ≤ w') ∧
    ((∃ a, Q a ∧ ∀ t, x (ds ++ t) = .ok (a, t)) ∨ ∃ e, ∀ t, x (ds ++ t) = .error (.py e))

namespace Runs

theorem pure {a : α} (h : Q a) : Runs S w w' Q (pure a : RandM α) :=
  ⟨[], Legal.nil, Nat.zero_le _, fun _ => Nat.zero_le _, Or.inl ⟨a, h, fun _ => rfl⟩⟩

theorem raise (e : Err) : Runs S w w' Q (RandM.raise e : RandM α) :=
  ⟨[], Legal.nil, Nat.zero_le _, fun _ => Nat.zero_le _, Or.inr ⟨e, fun _ => rfl⟩⟩

theorem lift (x : Except Err α) : Runs S w w' (fun _ => True) (RandM.lift x) := by
  cases x
  · exact raise _
  · exact pure trivial

theorem bind {x : RandM α} {f : α → RandM β} {R : β → Prop} (hx : Runs S w w' Q x)
    (hf : ∀ a, Q a → Runs S v v' R (f a)) : Runs S (w + v) (w' + v') R (x >>= f) := by
  obtain ⟨d1, hL1, hw, hw', ⟨a, hQ, h1⟩ | ⟨e, h1⟩⟩ := hx
  · obtain ⟨d2, hL2, hv, hv', h2⟩ := hf a hQ
    refine ⟨d1 ++ d2, Legal.append.2 ⟨hL1, hL2⟩, by rw [List.length_append]; omega,
      fun hS => by have := hw' hS; have := hv' hS; rw [List.length_append]; omega, ?_⟩
    have hb : ∀ t, (x >>= f) (d1 ++ d2 ++ t) = f a (d2 ++ t) := fun t => by
      rw [List.append_assoc, RandM.bind_apply, h1]
    exact h2.imp (fun ⟨b, hR, h⟩ => ⟨b, hR, fun t => (hb t).trans (h t)⟩)
      (fun ⟨e, h⟩ => ⟨e, fun t => (hb t).trans (h t)⟩)
  · exact ⟨d1, hL1, by omega, fun hS => by have := hw' hS; omega, Or.inr ⟨e, fun t => by rw [RandM.bind_apply, h1]⟩⟩

theorem map {x : RandM α} {g : α → β} {R : β → Prop} (hx : Runs S w w' Q x) (hg : ∀ a, Q a → R (g a)) :
    Runs S w w' R (x >>= fun a => Pure.pure (g a)) :=
  hx.bind (v := 0) (v' := 0) fun a h => pure (hg a h)

theorem mono {x : RandM α} (h : Runs S w w' Q x) (hw : w ≤ v) (hw' : w' ≤ v') : Runs S v v' Q x := by
  obtain ⟨ds, hL, h1, h2, h3⟩ := h
  exact ⟨ds, hL, by omega, fun hS => by have := h2 hS; omega, h3⟩

theorem completed {x : RandM α} (h : Runs S w w' Q x) :
    ∃ rng, Legal rng ∧ (rng.length ≤ w ∧ (S → rng.length ≤ w')) ∧ Completed (x rng) := by
  obtain ⟨ds, hL, h1, h2, ⟨a, _, h⟩ | ⟨e, h⟩⟩ := h
  · exact ⟨ds, hL, ⟨h1, h2⟩, by have := h []; rw [List.append_nil] at this; rw [this]; exact completed_ok _⟩
  · exact ⟨ds, hL, ⟨h1, h2⟩, by have := h []; rw [List.append_nil] at this; rw [this]; exact completed_py _⟩

end Runs

theorem runs_of_prim {bad : Prop} [Decidable bad] {E : Err} {read : Draw → Option α} {d : Draw} {a : α}
    (hd : ¬ bad → d.Legal) (hr : read d = some a) (hQ : Q a) : Runs S 1 1 Q (prim bad E read) := by
  by_cases hb : bad
  · exact ⟨[], Legal.nil, Nat.zero_le _, fun _ => Nat.zero_le _, Or.inr ⟨E, fun _ => if_pos hb⟩⟩
  · exact ⟨[d], Legal.cons.2 ⟨hd hb, Legal.nil⟩, Nat.le_refl _, fun _ => Nat.le_refl _,
      Or.inl ⟨a, hQ, fun _ => prim_eq_ok.2 ⟨hb, d, hr, rfl⟩⟩⟩

theorem sample_runs (n k : Nat) : Runs S 1 1 (·.length = k) (sample n k) :=
  sample_eq n k ▸ runs_of_prim (d := .sample n k (List.range k))
    (fun h => ⟨List.length_range, List.nodup_range, fun i hi => by have := List.mem_range.1 hi; omega⟩)
    (readSample_eq_some.2 rfl) List.length_range

theorem choice_runs (len : Nat) : Runs S 1 1 (fun _ => True) (choice len) :=
  choice_eq len ▸ runs_of_prim (d := .choice len 0) (fun h => Nat.pos_of_ne_zero h) (readChoice_eq_some.2 rfl) trivial

theorem randint_runs (a b : Int) : Runs S 1 1 (fun _ => True) (randint a b) :=
  randint_eq a b ▸ runs_of_prim (d := .randint a b a) (fun h => ⟨Int.le_refl _, by omega⟩)
    (readRandint_eq_some.2 rfl) trivial

theorem rejLoop_runs {cand : RandM α} {seen : List α → α → Bool} {good : α → Except Err Bool} {m : Nat}
    (hC : Runs S w w' Q cand) (fuel : Nat) (acc : List α) :
    Runs S (fuel * w) (fuel * w') (fun _ => True) (rejLoop cand seen good m fuel acc) := by
  induction fuel generalizing acc with
  | zero => exact Runs.pure trivial
  | succ fuel ih =>
    unfold rejLoop
    split
    · rw [Nat.add_one_mul, Nat.add_one_mul, Nat.add_comm _ w, Nat.add_comm _ w']
      refine hC.bind fun c _ => ?_
      have := (Runs.lift (S := S) (w := 0) (w' := 0) (addCand seen good acc c)).bind fun acc' _ => ih acc'
      rwa [Nat.zero_add, Nat.zero_add] at this
    · exact Runs.pure trivial

theorem sampleVia_runs {cand : RandM α} {seen : List α → α → Bool} {good : α → Except Err Bool} {n m : Nat}
    (hC : Runs S w w' Q cand) (enough : List α → Prop) [DecidablePred enough] (full : Except Err (List α))
    (dflt : α) :
    Runs S (retryBudget m * w + 1) (retryBudget m * w' + 1) (fun _ => True)
      (sampleVia cand seen good n m enough full dflt) := by
  refine (rejLoop_runs hC _ _).bind fun acc _ => ?_
  split
  · exact Runs.pure trivial
  · unfold denseFrom
    split
    · exact Runs.raise _
    · refine (Runs.lift (w := 0) (w' := 0) full).bind (v := 1) (v' := 1) fun fullset _ => ?_
      split
      · exact Runs.raise _
      · exact (sample_runs _ _).map fun _ _ => trivial

theorem seededRun_runs (σ : Int → List Draw) {k n : Nat} {run : RandM β} {R : β → Prop}
    (h : Runs S w w' R run) : Runs S w w' R (seededRun σ none k n run) := by
  have : seededRun σ none k n run = if n < k then RandM.raise .valueError else run := by
    funext rng; rw [seededRun_apply]; split <;> rfl
  rw [this]; split
  · exact Runs.raise _
  · exact h

end

end Cnfgen.Rand
