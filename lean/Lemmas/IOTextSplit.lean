/-
Character level, splitting: `str.split()` does not join what white space separates, so the line `" ".join(toks)` — the form of
every structured line the writers print, however they spell it — is split into `toks` again, also after `strip()` and with its
terminator still on; such a line contains no line terminator.
-/
import Lemmas.IOTextNum
import Lemmas.IOComments
namespace Cnfgen.IO

theorem splitWS_cons_cons (c d : Char) (r : Str) (hc : isSpace c = false) (hd : isSpace d = false) :
    splitWS (c :: d :: r) = (match splitWS (d :: r) with | t :: ts => (c :: t) :: ts | [] => [[c]]) := by
  rw [splitWS.eq_def]; simp only [hc, hd]
  cases splitWS (d :: r) <;> simp

theorem splitWS_space_cons (w : Char) (s : Str) (hw : isSpace w = true) : splitWS (w :: s) = splitWS s := by
  rw [splitWS.eq_def]; simp [hw]

theorem splitWS_cons_space (c d : Char) (r : Str) (hc : isSpace c = false) (hd : isSpace d = true) :
    splitWS (c :: d :: r) = [c] :: splitWS (d :: r) := by
  rw [splitWS.eq_def]; simp only [hc, hd]; simp

theorem splitWS_ne_nil (d : Char) (ds : Str) (hd : isSpace d = false) : splitWS (d :: ds) ≠ [] := by
  cases ds with
  | nil => simp [splitWS, hd]
  | cons e es =>
    by_cases he : isSpace e = true
    · rw [splitWS_cons_space d e es hd he]; simp
    · rw [splitWS_cons_cons d e es hd (by simpa using he)]; split <;> simp

theorem splitWS_append_ws (w : Char) (hw : isSpace w = true) : ∀ (a b : Str), splitWS (a ++ w :: b) = splitWS a ++ splitWS b
  | [], b => by simp [splitWS_space_cons w b hw, splitWS]
  | [c], b => by
    show splitWS (c :: w :: b) = splitWS [c] ++ splitWS b
    by_cases hc : isSpace c = true
    · rw [splitWS_space_cons c _ hc, splitWS_space_cons w b hw, splitWS_space_cons c [] hc]
      rfl
    · have hc' : isSpace c = false := by simpa using hc
      rw [splitWS_cons_space c w b hc' hw, splitWS_space_cons w b hw]
      simp [splitWS, hc']
  | c :: d :: ds, b => by
    have ih := splitWS_append_ws w hw (d :: ds) b
    by_cases hc : isSpace c = true
    · show splitWS (c :: (d :: ds ++ w :: b)) = _
      rw [splitWS_space_cons c _ hc, splitWS_space_cons c _ hc, ih]
    · have hc' : isSpace c = false := by simpa using hc
      by_cases hd : isSpace d = true
      · show splitWS (c :: d :: (ds ++ w :: b)) = _
        rw [splitWS_cons_space c d _ hc' hd, splitWS_cons_space c d _ hc' hd]
        simp only [List.cons_append] at ih
        rw [ih]; rfl
      · have hd' : isSpace d = false := by simpa using hd
        show splitWS (c :: d :: (ds ++ w :: b)) = _
        rw [splitWS_cons_cons c d _ hc' hd', splitWS_cons_cons c d _ hc' hd']
        simp only [List.cons_append] at ih
        rw [ih]
        cases hs : splitWS (d :: ds) with
        | nil => exact absurd hs (splitWS_ne_nil d ds hd')
        | cons t ts => rfl

theorem splitWS_append_blank (a b : Str) : splitWS (a ++ ' ' :: b) = splitWS a ++ splitWS b :=
  splitWS_append_ws ' ' isSpace_blank a b

theorem splitWS_tok : ∀ (t : Str), IsTok t → splitWS t = [t]
  | [], h => absurd rfl h.1
  | [c], h => by simp [splitWS, h.2 c (by simp)]
  | c :: d :: r, h => by
    have hc : isSpace c = false := h.2 c (by simp)
    have hd : isSpace d = false := h.2 d (by simp)
    have ih := splitWS_tok (d :: r) ⟨by simp, fun x hx => h.2 x (by simp [hx])⟩
    rw [splitWS_cons_cons c d r hc hd, ih]

theorem splitWS_join : ∀ (toks : List Str), (∀ t ∈ toks, IsTok t) → splitWS (join [' '] toks) = toks
  | [], _ => rfl
  | [t], h => splitWS_tok t (h t (by simp))
  | t :: t' :: ts, h => by
    show splitWS (t ++ [' '] ++ join [' '] (t' :: ts)) = _
    rw [List.append_assoc, List.singleton_append, splitWS_append_blank, splitWS_tok t (h t (by simp)),
      splitWS_join (t' :: ts) fun x hx => h x (by simp [hx])]
    rfl

/-- the graph readers split a line with its terminator still on -/
theorem splitWS_join_nl (toks : List Str) (h : ∀ t ∈ toks, IsTok t) : splitWS (join [' '] toks ++ ['\n']) = toks := by
  rw [splitWS_append_ws '\n' isSpace_nl, splitWS_join toks h]
  exact List.append_nil _

theorem splitWS_dropWhile : ∀ s : Str, splitWS (s.dropWhile isSpace) = splitWS s
  | [] => rfl
  | c :: cs => by
    by_cases hc : isSpace c = true
    · rw [List.dropWhile_cons_of_pos hc, splitWS_dropWhile cs, splitWS_space_cons c cs hc]
    · rw [List.dropWhile_cons_of_neg hc]

theorem splitWS_append_spaces : ∀ (ws a : Str), (∀ c ∈ ws, isSpace c = true) → splitWS (a ++ ws) = splitWS a
  | [], a, _ => by rw [List.append_nil]
  | w :: ws, a, h => by
    have ih := splitWS_append_spaces ws (a ++ [w]) fun c hc => h c (by simp [hc])
    rw [List.append_assoc, List.singleton_append] at ih
    rw [ih, splitWS_append_ws w (h w (by simp))]
    exact List.append_nil _

theorem splitWS_strip (s : Str) : splitWS (strip s) = splitWS s := by
  have h := congrArg List.reverse (List.takeWhile_append_dropWhile (p := isSpace) (l := (s.dropWhile isSpace).reverse))
  rw [List.reverse_append, List.reverse_reverse] at h
  rw [← splitWS_dropWhile s, ← h]
  exact (splitWS_append_spaces _ _ fun c hc => List.all_eq_true.1 List.all_takeWhile c (List.mem_reverse.1 hc)).symm

/-- the two loops by which the writers spell `" ".join`: `t + " "` for all tokens but the last … -/
theorem join_blank_snoc : ∀ (ts : List Str) (t : Str), ts.flatMap (fun t => t ++ [' ']) ++ t = join [' '] (ts ++ [t])
  | [], _ => rfl
  | [a], t => by rw [List.flatMap_singleton]; rfl
  | a :: b :: ts, t => by
    rw [List.flatMap_cons, List.append_assoc, join_blank_snoc (b :: ts) t]
    rfl

/-- … and `" " + t` for all but the first -/
theorem join_blank_cons (t : Str) : ∀ (ts : List Str), join [' '] (t :: ts) = t ++ ts.flatMap (fun t => ' ' :: t)
  | [] => (List.append_nil t).symm
  | a :: ts => by
    rw [List.flatMap_cons, List.cons_append, ← join_blank_cons a ts]
    exact List.append_assoc t [' '] _

section joinLine
variable (toks : List Str) (h : ∀ t ∈ toks, IsTok t)
include h

theorem lexLine_join : lexLine (join [' '] toks) = toks.map classify := by
  rw [lexLine, splitWS_join toks h]

theorem noNL_join_toks : NoNL (join [' '] toks) :=
  noNL_join _ _ (noNL_lit _ (by decide)) fun t ht => (h t ht).noNL

end joinLine

end Cnfgen.IO
