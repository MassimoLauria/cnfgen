/-
Lemmas about the stone / sparse stone formula model (`Fam/Pebbling.lean`).
-/
import CnfgenModel.Fam.Pebbling
import Lemmas.FamC03aBasic
import Lemmas.FamPebbling
import Lemmas.VarsBip
namespace Cnfgen.Fam.Pebbling
open Cnfgen.FamC03a

theorem mem_uniq {a : Nat} : ∀ {l : List Nat}, a ∈ uniq l ↔ a ∈ l
  | [] => by simp [uniq]
  | x :: xs => by
    simp only [uniq, List.mem_cons, List.mem_filter, mem_uniq (l := xs), bne_iff_ne, ne_eq]
    constructor
    · rintro (h | ⟨h, _⟩)
      · exact Or.inl h
      · exact Or.inr h
    · rintro (h | h)
      · exact Or.inl h
      · by_cases hx : a = x
        · exact Or.inl hx
        · exact Or.inr ⟨h, hx⟩

theorem mem_patterns (B : BipG) (j : Nat) (pred pat : List Nat) :
    pat ∈ patterns B pred j ↔
      pat.length = pred.length ∧ ∀ ps ∈ pred.zip pat, ps.2 ∈ B.rnbrs ps.1 ∧ ps.2 ≠ j := by
  rw [patterns, mem_product, List.forall₂_map_right_iff]
  refine Iff.trans (b := List.Forall₂ (fun p s => s ∈ (B.rnbrs p).filter (· != j)) pred pat) ⟨.flip, .flip⟩ ?_
  simp only [List.forall₂_iff_zip, List.mem_filter, bne_iff_ne, ne_eq, Prod.forall, eq_comm (a := pat.length)]

theorem exists_zip_of_mem_right {s : Nat} : ∀ {l₁ l₂ : List Nat}, l₂.length = l₁.length → s ∈ l₂ →
    ∃ p, (p, s) ∈ l₁.zip l₂
  | _, [], _, h => by simp at h
  | [], _ :: _, hl, _ => by simp at hl
  | x :: xs, y :: ys, hl, h => by
    simp only [List.mem_cons] at h
    rcases h with rfl | h
    · exact ⟨x, by simp⟩
    · obtain ⟨p, hp⟩ := exists_zip_of_mem_right (l₁ := xs) (by simpa using hl) h
      exact ⟨p, by simp only [List.zip_cons_cons, List.mem_cons]; exact Or.inr hp⟩

/-- identifier of `R(j)` -/
def Rvar (B : BipG) (j : Nat) : Nat := Vars.blockId 1 [B.r] [j]
/-- identifier of `P(u,v)` -/
def Pvar (B : BipG) (u v : Nat) : Nat := Vars.bipId B (B.r + 1) u v

theorem R_eq (B : BipG) (j : Nat) : R B j = (Rvar B j : Int) := rfl
theorem P_eq (B : BipG) (u v : Nat) : P B u v = (Pvar B u v : Int) := rfl

theorem Rvar_eq (B : BipG) (j : Nat) (h : 1 ≤ j) : Rvar B j = j := Vars.blockId_one B.r j h

theorem Rvar_pos (B : BipG) (j : Nat) : 1 ≤ Rvar B j := Vars.le_blockId 1 _ _

theorem Pvar_eq (B : BipG) (u v : Nat) (h1 : 1 ≤ u) (h2 : u ≤ B.l) :
    Pvar B u v = B.r + 1 + Vars.degSum B (u - 1) + (B.rnbrs u).idxOf v := by
  unfold Pvar Vars.bipId
  rw [Vars.bipOffsets_getD B _ ⟨h1, h2⟩]

theorem Pvar_pos (B : BipG) (u v : Nat) (h1 : 1 ≤ u) (h2 : u ≤ B.l) : 1 ≤ Pvar B u v := by
  rw [Pvar_eq B u v h1 h2]; omega

/-- facts about a bipartite graph object used for well-formedness: right neighbours are right
vertices and the adjacency lists account for exactly `number_of_edges()` edges (C16's invariant
of reachable `BipartiteGraph` objects) -/
structure BipOK (B : BipG) : Prop where
  rng : ∀ u, 1 ≤ u → u ≤ B.l → ∀ j ∈ B.rnbrs u, 1 ≤ j ∧ j ≤ B.r
  degsum : ((List.range B.l).map (fun i => (B.rnbrs (i + 1)).length)).sum = B.numberOfEdges

theorem bipOK_of_wf {B : BipG} (h : B.WF) : BipOK B :=
  ⟨fun u _ _ j hj => (h.edge_range u j ((h.mem_row u j).1 hj)).2.2, (BipG.numberOfEdges_eq_sum h).symm⟩

theorem Pvar_bounds (B : BipG) (hB : BipOK B) (u v : Nat) (h1 : 1 ≤ u) (h2 : u ≤ B.l) (hv : v ∈ B.rnbrs u) :
    B.r + 1 ≤ Pvar B u v ∧ Pvar B u v ≤ B.r + B.numberOfEdges := by
  rw [Pvar_eq B u v h1 h2]
  have m1 := Vars.degSum_mono B h2
  have e : Vars.degSum B B.l = B.numberOfEdges := hB.degsum
  have hi : (B.rnbrs u).idxOf v < (B.rnbrs u).length := List.idxOf_lt_length_of_mem hv
  have hs := Vars.degSum_pred B h1
  omega

/-- the documented axiom groups, over `on v j` ("stone `j` is on vertex `v`") and `red j` -/
structure StoneSpec (D : DiG) (B : BipG) (on : Nat → Nat → Prop) (red : Nat → Prop) : Prop where
  /-- every vertex carries one of the stones allowed on it -/
  complete : ∀ v, 1 ≤ v → v ≤ B.l → ∃ j ∈ B.rnbrs v, on v j
  /-- if the predecessors of `v` carry red stones (one choice `pat` of stones other than `j`,
  allowed on them), a stone `j` on `v` is red; sources: `pat = []` -/
  propagate : ∀ v, 1 ≤ v → v ≤ D.n → ∀ j ∈ B.rnbrs v, ∀ pat : List Nat,
    pat.length = (D.preds v).length → (∀ ps ∈ (D.preds v).zip pat, ps.2 ∈ B.rnbrs ps.1 ∧ ps.2 ≠ j) →
    (∀ ps ∈ (D.preds v).zip pat, on ps.1 ps.2) → on v j → (∀ s ∈ pat, red s) → red j
  /-- stones on sinks are not red -/
  sink : ∀ v, 1 ≤ v → v ≤ D.n → D.succs v = [] → ∀ j ∈ B.rnbrs v, ¬ (on v j ∧ red j)

theorem stoneClause_holds (B : BipG) (α : Assign) (pred : List Nat) (v j : Nat) (pat : List Nat) :
    clauseHolds α (stoneClause B pred v j pat) = true ↔
      ((∀ ps ∈ pred.zip pat, α (Pvar B ps.1 ps.2) = true) → α (Pvar B v j) = true →
        (∀ s ∈ pat, α (Rvar B s) = true) → α (Rvar B j) = true) := by
  simp only [stoneClause, P_eq, R_eq]
  rw [clauseHolds_concat_pos α _ (Rvar_pos B j), clauseHolds_append_false, clauseHolds_append_false,
    clauseHolds_map_neg_false α (pred.zip pat) (fun ps => Pvar B ps.1 ps.2), clauseHolds_map_neg_false α _ (Rvar B)]
  simp only [clauseHolds_cons, clauseHolds_nil, Bool.or_false, litHolds_neg_natCast, Bool.not_eq_false', mem_uniq, and_imp]

theorem completeClause_holds (B : BipG) (α : Assign) (u : Nat) (h1 : 1 ≤ u) (h2 : u ≤ B.l) :
    clauseHolds α ((Vars.bipRow B (B.r + 1) u).map (fun (i : Nat) => (i : Int))) = true ↔
      ∃ j ∈ B.rnbrs u, α (Pvar B u j) = true := by
  unfold Vars.bipRow
  rw [List.map_map]
  exact clauseHolds_map_pos α (B.rnbrs u) (fun j => Pvar B u j) (fun j _ => Pvar_pos B u j h1 h2)

theorem sstone_holds_iff (D : DiG) (B : BipG) (α : Assign) :
    (sstone D B).holds α = true ↔
      StoneSpec D B (fun v j => α (Pvar B v j) = true) (fun j => α (Rvar B j) = true) := by
  unfold sstone
  rw [Formula.holds_append]
  simp only [List.forall_mem_map, List.forall_mem_flatMap, List.forall_mem_append, forall_mem_ite_nil, mem_verts, and_imp,
    mem_patterns, Con.holds, stoneClause_holds, P_eq, R_eq, clauseHolds_two_neg, beq_iff_eq, List.length_eq_zero_iff]
  constructor
  · rintro ⟨h1, h2⟩
    exact ⟨fun v hv1 hv2 => (completeClause_holds B α v hv1 hv2).1 (h1 v hv1 hv2),
      fun v hv1 hv2 => (h2 v hv1 hv2).1, fun v hv1 hv2 => (h2 v hv1 hv2).2⟩
  · intro h
    exact ⟨fun v hv1 hv2 => (completeClause_holds B α v hv1 hv2).2 (h.complete v hv1 hv2),
      fun v hv1 hv2 => ⟨h.propagate v hv1 hv2, h.sink v hv1 hv2⟩⟩

/-- either `j` is already known to be red, or the red stones on the predecessors form a
pattern avoiding `j` -/
theorem choose_pattern (B : BipG) (on : Nat → Nat → Prop) (red : Nat → Prop) (j : Nat) :
    ∀ (preds : List Nat), (∀ p ∈ preds, ∃ s ∈ B.rnbrs p, on p s ∧ red s) →
      red j ∨ ∃ pat : List Nat, pat.length = preds.length ∧
        (∀ ps ∈ preds.zip pat, ps.2 ∈ B.rnbrs ps.1 ∧ ps.2 ≠ j) ∧
        (∀ ps ∈ preds.zip pat, on ps.1 ps.2) ∧ (∀ s ∈ pat, red s)
  | [], _ => Or.inr ⟨[], rfl, by simp, by simp, by simp⟩
  | p :: ps, h => by
    obtain ⟨s, hs, hon, hred⟩ := h p (List.mem_cons_self ..)
    by_cases hsj : s = j
    · subst hsj; exact Or.inl hred
    · rcases choose_pattern B on red j ps (fun q hq => h q (List.mem_cons_of_mem _ hq)) with hr | ⟨pat, hl, h1, h2, h3⟩
      · exact Or.inl hr
      · refine Or.inr ⟨s :: pat, by simp [hl], ?_, ?_, ?_⟩
        · intro q hq
          simp only [List.zip_cons_cons, List.mem_cons] at hq
          rcases hq with rfl | hq
          · exact ⟨hs, hsj⟩
          · exact h1 q hq
        · intro q hq
          simp only [List.zip_cons_cons, List.mem_cons] at hq
          rcases hq with rfl | hq
          · exact hon
          · exact h2 q hq
        · intro t ht
          simp only [List.mem_cons] at ht
          rcases ht with rfl | ht
          · exact hred
          · exact h3 t ht

theorem all_red (D : DiG) (B : BipG) (hD : TopoDAG D) (hl : B.l = D.n) (on : Nat → Nat → Prop)
    (red : Nat → Prop) (hs : StoneSpec D B on red) :
    ∀ v, 1 ≤ v → v ≤ D.n → ∀ j ∈ B.rnbrs v, on v j → red j := by
  intro v
  induction v using Nat.strongRecOn with
  | _ v ih =>
    intro h1 h2 j hj hon
    have hp : ∀ p ∈ D.preds v, ∃ s ∈ B.rnbrs p, on p s ∧ red s := by
      intro p hp
      have := hD.pred_lt v h1 h2 p hp
      obtain ⟨s, hs1, hs2⟩ := hs.complete p this.1 (by omega)
      exact ⟨s, hs1, hs2, ih p this.2 this.1 (by omega) s hs1 hs2⟩
    rcases choose_pattern B on red j (D.preds v) hp with hr | ⟨pat, hlen, hz, hz2, hz3⟩
    · exact hr
    · exact hs.propagate v h1 h2 j hj pat hlen hz hz2 hon hz3

theorem stoneSpec_false (D : DiG) (B : BipG) (hD : TopoDAG D) (hl : B.l = D.n) (hn : 1 ≤ D.n)
    (on : Nat → Nat → Prop) (red : Nat → Prop) : ¬ StoneSpec D B on red := by
  intro hs
  obtain ⟨j, hj, hon⟩ := hs.complete D.n hn (by omega)
  have hred := all_red D B hD hl on red hs D.n hn (Nat.le_refl _) j hj hon
  exact hs.sink D.n hn (Nat.le_refl _) (hD.succs_last hn) j hj ⟨hon, hred⟩

theorem sstone_unsat (D : DiG) (B : BipG) (hD : TopoDAG D) (hl : B.l = D.n) (hn : 1 ≤ D.n) :
    ¬ ∃ α, (sstone D B).holds α = true := by
  rintro ⟨α, hα⟩
  exact stoneSpec_false D B hD hl hn _ _ ((sstone_holds_iff D B α).1 hα)

theorem sstone_nvars (D : DiG) (B : BipG) : (sstone D B).nvars = B.r + B.numberOfEdges := rfl

theorem sstone_wf (D : DiG) (B : BipG) (hD : TopoDAG D) (hl : B.l = D.n) (hB : BipOK B) : (sstone D B).WF := by
  have hP : ∀ u j, 1 ≤ u → u ≤ B.l → j ∈ B.rnbrs u → 1 ≤ Pvar B u j ∧ Pvar B u j ≤ B.r + B.numberOfEdges := by
    intro u j h1 h2 hj
    have := Pvar_bounds B hB u j h1 h2 hj
    omega
  have hR : ∀ u j, 1 ≤ u → u ≤ B.l → j ∈ B.rnbrs u → 1 ≤ Rvar B j ∧ Rvar B j ≤ B.r + B.numberOfEdges := by
    intro u j h1 h2 hj
    have := hB.rng u h1 h2 j hj
    rw [Rvar_eq B j this.1]; omega
  refine G2.wf_of_consIn (lo := 1) (.append (.map fun u hu => .map fun i hi => ?_) (.flatMap fun v hv =>
    have hv := mem_verts.1 hv
    .append (.flatMap fun j hj => .map fun pat hp => ?_) (.ite (fun _ => .map fun j hj => ?_) fun _ => .nil)))
  · obtain ⟨j, hj, rfl⟩ := List.mem_map.1 hi
    have hu := mem_verts.1 hu
    have r := hP u j hu.1 hu.2 hj
    exact .pos r.1 r .nil
  · obtain ⟨hlen, hz⟩ := (mem_patterns B j _ _).1 hp
    have hpred : ∀ ps ∈ (D.preds v).zip pat, 1 ≤ ps.1 ∧ ps.1 ≤ B.l ∧ ps.2 ∈ B.rnbrs ps.1 := fun ps hps =>
      have := hD.pred_lt v hv.1 hv.2 ps.1 (List.of_mem_zip hps).1
      ⟨this.1, by omega, (hz ps hps).1⟩
    have rP := hP v j hv.1 (by omega) hj
    have rR := hR v j hv.1 (by omega) hj
    refine (((LitsIn.map fun ps hps => ?_).append (.neg rP.1 rP .nil)).append (.map fun s hs => ?_)).append (.pos rR.1 rR .nil)
    · have := hpred ps hps
      have r := hP ps.1 ps.2 this.1 this.2.1 this.2.2
      exact .neg r.1 r .nil
    · obtain ⟨p, hps⟩ := exists_zip_of_mem_right hlen (mem_uniq.1 hs)
      have := hpred _ hps
      have r := hR p s this.1 this.2.1 this.2.2
      exact .neg r.1 r .nil
  · have rP := hP v j hv.1 (by omega) hj
    have rR := hR v j hv.1 (by omega) hj
    exact .neg rP.1 rP (.neg rR.1 rR .nil)

theorem complete_ok (l r : Nat) : BipOK (BipG.complete l r) := bipOK_of_wf (BipG.wf_complete l r)

theorem sparseStone_ok (D : DiG) (B : BipG) (hd : D.stillDag = true) (hl : B.l = D.n) :
    sparseStone D B = .ok (sstone D B) := by
  simp [sparseStone, hd, hl]

theorem stone_ok (D : DiG) (k : Nat) (hd : D.stillDag = true) :
    stone D (k : Int) = .ok (sstone D (BipG.complete D.n k)) := by
  have : (BipG.complete D.n k).l = D.n := rfl
  simp [stone, hd, sparseStone, this]

theorem pebbling_ok (D : DiG) (hd : D.stillDag = true) : pebbling D = .ok (peb D) := by
  simp [pebbling, hd]

end Cnfgen.Fam.Pebbling
