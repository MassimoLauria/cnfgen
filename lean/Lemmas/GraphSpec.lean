/-
The abstract specification of the graph objects (C16): a vertex count and a duplicate-free
list of pairs (unordered, normalised `u < v`, for simple graphs), updated by the obvious set
operations; the refinement relation between the concrete object and the specification;
its preservation by every operation, lifted to histories; and the equality of every view
with the specification's answer (T-C16.2).
-/
import Lemmas.GraphInv
import CnfgenModel.Graph.Ops
namespace Cnfgen

/-- the specifications' test for the ordered pair `(u, v)` -/
theorem pair_test_iff (e : Nat × Nat) (u v : Int) :
    ((e.1 : Int) = u ∧ (e.2 : Int) = v) ↔ 0 ≤ u ∧ 0 ≤ v ∧ e = (u.toNat, v.toNat) := by
  obtain ⟨x, y⟩ := e
  simp only [Prod.mk.injEq]
  omega

theorem any_test_iff {l : List (Nat × Nat)} {f : Nat × Nat → Bool} {P : Prop} {p : Nat × Nat}
    (hf : ∀ e, f e = true ↔ P ∧ e = p) : l.any f = true ↔ P ∧ p ∈ l := by
  rw [List.any_eq_true]
  constructor
  · rintro ⟨e, he, ht⟩
    obtain ⟨hP, rfl⟩ := (hf e).1 ht
    exact ⟨hP, he⟩
  · rintro ⟨hP, hm⟩
    exact ⟨p, hm, (hf p).2 ⟨hP, rfl⟩⟩

/-- the outcomes of a whole history (what the caller observes, call by call) -/
def traceOf {σ} (step : σ → GOp → σ × Outcome) : σ → List GOp → List Outcome
  | _, [] => []
  | s, o :: os => (step s o).2 :: traceOf step (step s o).1 os

theorem run_keeps {σ} {step : σ → GOp → σ × Outcome} {I : σ → Prop} (hs : ∀ {G}, I G → ∀ op, I (step G op).1)
    {G : σ} (h : I G) (ops : List GOp) : I (ops.foldl (fun g o => (step g o).1) G) := by
  induction ops generalizing G with
  | nil => exact h
  | cons o os ih => exact ih (hs h o)

theorem sim_history {σ τ} {step : σ → GOp → σ × Outcome} {astep : τ → GOp → τ × Outcome} {R : σ → τ → Prop}
    (hs : ∀ {G a}, R G a → ∀ op, R (step G op).1 (astep a op).1 ∧ (step G op).2 = (astep a op).2)
    {G : σ} {a : τ} (h : R G a) (ops : List GOp) :
    R (ops.foldl (fun g o => (step g o).1) G) (ops.foldl (fun s o => (astep s o).1) a) ∧
      traceOf step G ops = traceOf astep a ops := by
  induction ops generalizing G a with
  | nil => exact ⟨h, rfl⟩
  | cons o os ih =>
    have := ih (hs h o).1
    exact ⟨this.1, by simp only [traceOf]; rw [(hs h o).2, this.2]⟩

namespace SimpleG

theorem step_addEdge (G : SimpleG) (u v : Int) : G.step (.addEdge u v) = G.step (.addEdgesFrom [(u, v)]) := by
  simp only [step, addEdgesFromP]
  cases G.addEdge u v <;> rfl

/-- a refused call leaves the object as it is, `add_edges_from` keeps the edges it got to -/
theorem step_keeps {I : SimpleG → Prop} (hadd : ∀ {G G' : SimpleG} {u v : Int}, I G → G.addEdge u v = .ok G' → I G')
    (hrem : ∀ {G : SimpleG} (u v : Int), I G → I (G.removeEdge u v))
    (hupd : ∀ {G G' : SimpleG} {k : Int}, I G → G.updateVertexNumber k = .ok G' → I G')
    {G : SimpleG} (h : I G) (op : GOp) : I (G.step op).1 := by
  cases op with
  | addEdge u v => rw [step_addEdge]; exact inPlace.keeps (fun h e => hadd h e) h _
  | removeEdge u v => exact hrem u v h
  | updateVertexNumber k =>
    simp only [step]
    split
    · rename_i G' he; exact hupd h he
    · exact h
  | addEdgesFrom es => exact inPlace.keeps (fun h e => hadd h e) h es

/-- T-C16.1, one step: every operation with arbitrary arguments preserves the invariant -/
theorem inv_step {G : SimpleG} (h : Inv G) (op : GOp) : Inv (G.step op).1 :=
  step_keeps (fun h e => inv_addEdge h e) (fun u v h => inv_removeEdge h u v) (fun h e => inv_updateVertexNumber h e) h op

theorem inv_run {G : SimpleG} (h : Inv G) (ops : List GOp) : Inv (G.run ops) := run_keeps inv_step h ops

structure Spec where
  n : Nat
  /-- normalised pairs `(u, v)`, `u < v`; duplicate-free -/
  E : List (Nat × Nat)
  deriving Repr, DecidableEq

namespace Spec
def init (n : Nat) : Spec := ⟨n, []⟩

def insert (a : Spec) (p : Nat × Nat) : Spec := if p ∈ a.E then a else { a with E := p :: a.E }

/-- set removal of the unordered pair `{u, v}` -/
def remove (a : Spec) (u v : Int) : Spec :=
  { a with E := a.E.filter (fun e => !(decide ((e.1 : Int) = min u v) && decide ((e.2 : Int) = max u v))) }

/-- `add_edges_from`: insert until the first pair that is not a legal edge -/
def addEdges (a : Spec) : List (Int × Int) → Spec × Outcome
  | [] => (a, .ok)
  | e :: es =>
    if Valid a.n e.1 e.2 then (a.insert (norm e.1.toNat e.2.toNat)).addEdges es
    else (a, .raised .valueError)

def step (a : Spec) : GOp → Spec × Outcome
  | .addEdge u v =>
    if Valid a.n u v then (a.insert (norm u.toNat v.toNat), .ok) else (a, .raised .valueError)
  | .removeEdge u v => (a.remove u v, .ok)
  | .updateVertexNumber k =>
    if k < 0 then (a, .raised .valueError) else ({ a with n := max a.n k.toNat }, .ok)
  | .addEdgesFrom es => a.addEdges es

def run (a : Spec) (ops : List GOp) : Spec := ops.foldl (fun s o => (s.step o).1) a

/-! the specification's answer for every view -/
def numberOfEdges (a : Spec) : Nat := a.E.length
/-- the edges in lexicographic order, each once -/
def edges (a : Spec) : List (Nat × Nat) := a.E.mergeSort lexLe
def hasEdge (a : Spec) (u v : Int) : Bool :=
  a.E.any (fun e => decide ((e.1 : Int) = min u v) && decide ((e.2 : Int) = max u v))
/-- the vertices `v` with `{u, v}` an edge, in increasing order -/
def nbrs (a : Spec) (u : Nat) : List Nat :=
  (List.range (a.n + 1)).filter (fun v => decide (norm u v ∈ a.E))
def neighbors (a : Spec) (u : Int) : Except Err (List Nat) :=
  if 1 ≤ u ∧ u ≤ a.n then .ok (a.nbrs u.toNat) else .error .valueError
def degree (a : Spec) (u : Int) : Except Err Nat :=
  if 1 ≤ u ∧ u ≤ a.n then .ok (a.nbrs u.toNat).length else .error .valueError

theorem insert_n (a : Spec) (p : Nat × Nat) : (a.insert p).n = a.n := by
  unfold insert; split <;> rfl

theorem mem_insert (a : Spec) (p e : Nat × Nat) : e ∈ (a.insert p).E ↔ e = p ∨ e ∈ a.E := by
  unfold insert
  split
  · rename_i hp
    constructor
    · exact Or.inr
    · rintro (rfl | he)
      · exact hp
      · exact he
  · simp

theorem insert_nodup {a : Spec} (h : a.E.Nodup) (p : Nat × Nat) : (a.insert p).E.Nodup := by
  unfold insert
  split
  · exact h
  · rename_i hp; exact List.nodup_cons.2 ⟨hp, h⟩

theorem insert_insert (a : Spec) (p : Nat × Nat) : (a.insert p).insert p = a.insert p := by
  have : p ∈ (a.insert p).E := (mem_insert a p p).2 (Or.inl rfl)
  generalize a.insert p = b at this ⊢
  unfold insert; rw [if_pos this]

theorem nbrs_sorted (a : Spec) (u : Nat) : SortedLt (a.nbrs u) :=
  List.Pairwise.filter _ List.pairwise_lt_range

theorem mem_nbrs (a : Spec) (u v : Nat) : v ∈ a.nbrs u ↔ v ≤ a.n ∧ norm u v ∈ a.E := by
  simp [nbrs, List.mem_filter, List.mem_range]; omega
end Spec

/-- the concrete object `G` represents the abstract state `a` -/
structure Refines (G : SimpleG) (a : Spec) : Prop where
  inv : Inv G
  n_eq : G.n = a.n
  nodup : a.E.Nodup
  mem : ∀ e, e ∈ a.E ↔ e ∈ abs G

theorem refines_init (n : Nat) : Refines (init n) (Spec.init n) :=
  ⟨inv_init n, rfl, by simp [Spec.init], by simp [Spec.init, abs, init]⟩

theorem Inv.refines {G : SimpleG} (h : Inv G) : Refines G ⟨G.n, abs G⟩ :=
  ⟨h, rfl, h.abs_nodup, fun _ => Iff.rfl⟩

theorem refines_addEdge {G : SimpleG} {a : Spec} (h : Refines G a) {u v : Int} (hv : Valid G.n u v) :
    ∃ G', G.addEdge u v = .ok G' ∧ Refines G' (a.insert (norm u.toNat v.toNat)) :=
  have ⟨G', e, ⟨i, n⟩, m⟩ := addEdge_spec ⟨h.inv, rfl⟩ hv
  ⟨G', e, i, by rw [Spec.insert_n, n, h.n_eq], Spec.insert_nodup h.nodup _,
    fun p => by rw [Spec.mem_insert, m, h.mem]⟩

/-- the state after deleting the present edge `{a, b}` -/
def deleteOld (G : SimpleG) (a b : Nat) : SimpleG :=
  ⟨G.n, G.m - 1, (G.adj.modify a (removeFirst · b)).modify b (removeFirst · a),
   G.edgeset.filter (fun e => e != (a, b) && e != (b, a))⟩

theorem removeEdge_of_has {G : SimpleG} {u v : Int} (hh : G.hasEdge u v = true) :
    G.removeEdge u v = deleteOld G u.toNat v.toNat := by
  unfold removeEdge; rw [if_neg (by simp [hh])]; rfl

theorem removeEdge_of_not {G : SimpleG} {u v : Int} (hh : ¬ G.hasEdge u v = true) :
    G.removeEdge u v = G := by
  unfold removeEdge; rw [if_pos (by simpa using hh)]

/-- the specification's test for the unordered pair `{u, v}` -/
theorem spec_test_iff (e : Nat × Nat) (u v : Int) :
    ((e.1 : Int) = min u v ∧ (e.2 : Int) = max u v) ↔ 0 ≤ u ∧ 0 ≤ v ∧ e = norm u.toNat v.toNat := by
  obtain ⟨x, y⟩ := e
  simp only [norm, Prod.mk.injEq]
  rcases Int.le_total u v with huv | huv
  · rw [Int.min_eq_left huv, Int.max_eq_right huv, Nat.min_eq_left (Int.toNat_le_toNat huv),
      Nat.max_eq_right (Int.toNat_le_toNat huv)]
    omega
  · rw [Int.min_eq_right huv, Int.max_eq_left huv, Nat.min_eq_right (Int.toNat_le_toNat huv),
      Nat.max_eq_left (Int.toNat_le_toNat huv)]
    omega

theorem mem_abs_removeEdge {G : SimpleG} (h : Inv G) (u v : Int) (e : Nat × Nat) :
    e ∈ abs (G.removeEdge u v) ↔ e ∈ abs G ∧ ¬ (0 ≤ u ∧ 0 ≤ v ∧ e = norm u.toNat v.toNat) := by
  by_cases he : G.hasEdge u v = true
  · obtain ⟨hu, hv, hm⟩ := (hasEdge_iff G u v).1 he
    rw [removeEdge_of_has he,
      show abs (deleteOld G u.toNat v.toNat) = _ from abs_filter _ (h.range _ _ hm).2.2.2.2, List.mem_filter, bne_iff_ne]
    exact and_congr_right fun _ => ⟨fun hne hc => hne hc.2.2, fun hn hc => hn ⟨hu, hv, hc⟩⟩
  · rw [removeEdge_of_not he]
    refine ⟨fun hm => ⟨hm, ?_⟩, And.left⟩
    rintro ⟨hu, hv, rfl⟩
    exact he ((hasEdge_iff G u v).2 ⟨hu, hv, h.mem_edgeset_iff.2 hm⟩)

theorem refines_removeEdge {G : SimpleG} {a : Spec} (h : Refines G a) (u v : Int) :
    Refines (G.removeEdge u v) (a.remove u v) := by
  refine ⟨inv_removeEdge h.inv u v, by rw [removeEdge_n]; exact h.n_eq,
    h.nodup.sublist List.filter_sublist, fun e => ?_⟩
  rw [mem_abs_removeEdge h.inv, ← h.mem]
  simp only [Spec.remove, List.mem_filter, Bool.not_eq_true', Bool.and_eq_false_iff, decide_eq_false_iff_not]
  refine and_congr_right fun _ => ?_
  rw [← spec_test_iff, Classical.not_and_iff_not_or_not]

theorem refines_addEdgesFromP {G : SimpleG} {a : Spec} (h : Refines G a) (es : List (Int × Int)) :
    Refines (G.addEdgesFromP es).1 (a.addEdges es).1 ∧
      Outcome.ofOpt (G.addEdgesFromP es).2 = (a.addEdges es).2 := by
  induction es generalizing G a with
  | nil => exact ⟨h, by trivial⟩
  | cons e es ih =>
    by_cases hv : Valid G.n e.1 e.2
    · obtain ⟨G', e', r'⟩ := refines_addEdge h hv
      have hv' : Valid a.n e.1 e.2 := h.n_eq ▸ hv
      simp only [addEdgesFromP, e', Spec.addEdges, if_pos hv']
      exact ih r'
    · have hv' : ¬ Valid a.n e.1 e.2 := h.n_eq ▸ hv
      simp only [addEdgesFromP, addEdge_invalid hv, Spec.addEdges, if_neg hv']
      exact ⟨h, by trivial⟩

/-- T-C16.1/2, one step: the object keeps representing the specification, and the caller
observes the same outcome (normal return / ValueError), for every operation and arguments -/
theorem refines_step {G : SimpleG} {a : Spec} (h : Refines G a) (op : GOp) :
    Refines (G.step op).1 (a.step op).1 ∧ (G.step op).2 = (a.step op).2 := by
  cases op with
  | addEdge u v => rw [step_addEdge]; exact refines_addEdgesFromP h [(u, v)]
  | removeEdge u v => exact ⟨refines_removeEdge h u v, rfl⟩
  | updateVertexNumber k =>
    rcases updateVertexNumber_cases G k with ⟨hk, e1⟩ | ⟨hk, G', e1, hn, hm, hes⟩
    · simp only [step, e1, Spec.step, if_pos hk]; exact ⟨h, by trivial⟩
    · simp only [step, e1, Spec.step, if_neg (show ¬ k < 0 by omega)]
      refine ⟨⟨inv_updateVertexNumber h.inv e1, by rw [hn, h.n_eq], h.nodup, fun e => ?_⟩, by trivial⟩
      rw [h.mem]; simp only [abs, hes]
  | addEdgesFrom es => exact refines_addEdgesFromP h es

theorem refines_run {G : SimpleG} {a : Spec} (h : Refines G a) (ops : List GOp) :
    Refines (G.run ops) (a.run ops) := (sim_history refines_step h ops).1

theorem trace_eq {G : SimpleG} {a : Spec} (h : Refines G a) (ops : List GOp) :
    traceOf step G ops = traceOf Spec.step a ops := (sim_history refines_step h ops).2

namespace Refines
variable {G : SimpleG} {a : Spec} (h : Refines G a)
include h

theorem numberOfVertices_eq : G.numberOfVertices = a.n := h.n_eq

theorem numberOfEdges_eq : G.numberOfEdges = a.numberOfEdges := by
  show G.m = a.E.length
  rw [← h.inv.count]
  exact ((List.perm_ext_iff_of_nodup h.nodup h.inv.abs_nodup).2 h.mem).length_eq.symm

theorem mem_edges (e : Nat × Nat) : e ∈ G.edges ↔ e ∈ a.E :=
  h.inv.mem_edges'.trans (mem_abs.symm.trans (h.mem e).symm)

theorem edges_eq : G.edges = a.edges :=
  h.inv.edges_sorted.eq_mergeSort h.nodup h.mem_edges

theorem hasEdge_eq (u v : Int) : G.hasEdge u v = a.hasEdge u v := by
  rw [Bool.eq_iff_iff, hasEdge_iff, h.inv.mem_edgeset_iff, ← h.mem, ← and_assoc]
  refine (any_test_iff fun e => ?_).symm
  rw [Bool.and_eq_true, decide_eq_true_iff, decide_eq_true_iff, spec_test_iff, and_assoc]

theorem nbrs_eq (u : Nat) : G.nbrs u = a.nbrs u := by
  apply SortedLt.ext (h.inv.nbrs_sorted u) (a.nbrs_sorted u)
  intro v
  rw [h.inv.mem_nbrs, Spec.mem_nbrs, h.mem, ← h.inv.mem_edgeset_iff, ← h.n_eq]
  constructor
  · intro hm; exact ⟨(h.inv.range _ _ hm).2.2.2.1, hm⟩
  · exact fun hh => hh.2

theorem neighbors_eq (u : Int) : G.neighbors u = a.neighbors u := by
  unfold neighbors Spec.neighbors
  rw [ite_not, h.n_eq, ← h.nbrs_eq]
  rfl

theorem degree_eq (u : Int) : G.degree u = a.degree u := by
  unfold degree Spec.degree
  rw [h.neighbors_eq]
  unfold Spec.neighbors
  split <;> rfl

omit h in
theorem isDag_eq : G.isDag = false := rfl

end Refines

theorem step_addEdge_present {G : SimpleG} (h : Inv G) {u v : Int} (he : G.hasEdge u v = true) :
    G.step (.addEdge u v) = (G, .ok) ∧ G.step (.addEdge v u) = (G, .ok) := by
  have key : ∀ u v : Int, G.hasEdge u v = true → G.step (.addEdge u v) = (G, .ok) := by
    intro u v he
    obtain ⟨hu, hv, hm⟩ := (hasEdge_iff G u v).1 he
    rcases addEdge_cases G u v with ⟨hv', _⟩ | ⟨_, _, h1⟩ | ⟨_, hc, _⟩
    · have := h.range _ _ hm
      exact absurd ⟨by omega, by omega, by omega, by omega, by omega⟩ hv'
    · simp only [step, h1]
    · exact absurd hm hc
  exact ⟨key u v he, key v u (by rw [← h.hasEdge_comm]; exact he)⟩

theorem step_addEdge_invalid {G : SimpleG} {u v : Int} (hv : ¬ Valid G.n u v) :
    G.step (.addEdge u v) = (G, .raised .valueError) := by
  simp only [step, addEdge_invalid hv]

theorem step_addEdge_valid {G : SimpleG} {u v : Int} (hv : Valid G.n u v) :
    (G.step (.addEdge u v)).2 = .ok := by
  rcases addEdge_cases G u v with ⟨hv', _⟩ | ⟨_, _, h1⟩ | ⟨_, _, h1⟩
  · exact absurd hv hv'
  · simp only [step, h1]
  · simp only [step, h1]

end SimpleG

namespace DiG

theorem step_addEdge (G : DiG) (u v : Int) : G.step (.addEdge u v) = G.step (.addEdgesFrom [(u, v)]) := by
  simp only [step, addEdgesFromP]
  cases G.addEdge u v <;> rfl

/-- the class has no update but insertion -/
theorem step_keeps {I : DiG → Prop} (hadd : ∀ {G G' : DiG} {u v : Int}, I G → G.addEdge u v = .ok G' → I G')
    {G : DiG} (h : I G) (op : GOp) : I (G.step op).1 := by
  cases op with
  | addEdge u v => rw [step_addEdge]; exact inPlace.keeps (fun h e => hadd h e) h _
  | removeEdge u v => exact h
  | updateVertexNumber k => exact h
  | addEdgesFrom es => exact inPlace.keeps (fun h e => hadd h e) h es

theorem inv_step {G : DiG} (h : Inv G) (op : GOp) : Inv (G.step op).1 := step_keeps (fun h e => inv_addEdge h e) h op

theorem inv_run {G : DiG} (h : Inv G) (ops : List GOp) : Inv (G.run ops) := run_keeps inv_step h ops

structure Spec where
  n : Nat
  /-- ordered pairs; duplicate-free -/
  E : List (Nat × Nat)
  deriving Repr, DecidableEq

namespace Spec
def init (n : Nat) : Spec := ⟨n, []⟩
def insert (a : Spec) (p : Nat × Nat) : Spec := if p ∈ a.E then a else { a with E := p :: a.E }

def addEdges (a : Spec) : List (Int × Int) → Spec × Outcome
  | [] => (a, .ok)
  | e :: es =>
    if Valid a.n e.1 e.2 then (a.insert (e.1.toNat, e.2.toNat)).addEdges es
    else (a, .raised .valueError)

/-- `DirectedGraph` has no `remove_edge` / `update_vertex_number` -/
def step (a : Spec) : GOp → Spec × Outcome
  | .addEdge u v =>
    if Valid a.n u v then (a.insert (u.toNat, v.toNat), .ok) else (a, .raised .valueError)
  | .removeEdge _ _ => (a, .noSuchMethod)
  | .updateVertexNumber _ => (a, .noSuchMethod)
  | .addEdgesFrom es => a.addEdges es

def run (a : Spec) (ops : List GOp) : Spec := ops.foldl (fun s o => (s.step o).1) a

def numberOfEdges (a : Spec) : Nat := a.E.length
def edges (a : Spec) : List (Nat × Nat) := a.E.mergeSort lexLe
/-- sorted by (destination, source) -/
def edgesBySucc (a : Spec) : List (Nat × Nat) := ((a.E.map Prod.swap).mergeSort lexLe).map Prod.swap
def hasEdge (a : Spec) (u v : Int) : Bool :=
  a.E.any (fun e => decide ((e.1 : Int) = u) && decide ((e.2 : Int) = v))
def succs (a : Spec) (u : Nat) : List Nat := (List.range (a.n + 1)).filter (fun v => decide ((u, v) ∈ a.E))
def preds (a : Spec) (v : Nat) : List Nat := (List.range (a.n + 1)).filter (fun u => decide ((u, v) ∈ a.E))
def successors (a : Spec) (u : Int) : Except Err (List Nat) :=
  if 1 ≤ u ∧ u ≤ a.n then .ok (a.succs u.toNat) else .error .valueError
def predecessors (a : Spec) (u : Int) : Except Err (List Nat) :=
  if 1 ≤ u ∧ u ≤ a.n then .ok (a.preds u.toNat) else .error .valueError
def outDegree (a : Spec) (u : Int) : Except Err Nat :=
  if 1 ≤ u ∧ u ≤ a.n then .ok (a.succs u.toNat).length else .error .valueError
def inDegree (a : Spec) (u : Int) : Except Err Nat :=
  if 1 ≤ u ∧ u ≤ a.n then .ok (a.preds u.toNat).length else .error .valueError
/-- every edge goes from a lower to a higher vertex -/
def isDag (a : Spec) : Bool := a.E.all (fun e => decide (e.1 < e.2))

theorem insert_n (a : Spec) (p : Nat × Nat) : (a.insert p).n = a.n := by
  unfold insert; split <;> rfl

theorem mem_insert (a : Spec) (p e : Nat × Nat) : e ∈ (a.insert p).E ↔ e = p ∨ e ∈ a.E := by
  unfold insert
  split
  · rename_i hp
    constructor
    · exact Or.inr
    · rintro (rfl | he)
      · exact hp
      · exact he
  · simp

theorem insert_insert (a : Spec) (p : Nat × Nat) : (a.insert p).insert p = a.insert p := by
  have : p ∈ (a.insert p).E := (mem_insert a p p).2 (Or.inl rfl)
  generalize a.insert p = b at this ⊢
  unfold insert; rw [if_pos this]

theorem succs_sorted (a : Spec) (u : Nat) : SortedLt (a.succs u) :=
  List.Pairwise.filter _ List.pairwise_lt_range
theorem preds_sorted (a : Spec) (u : Nat) : SortedLt (a.preds u) :=
  List.Pairwise.filter _ List.pairwise_lt_range
theorem mem_succs (a : Spec) (u v : Nat) : v ∈ a.succs u ↔ v ≤ a.n ∧ (u, v) ∈ a.E := by
  simp [succs, List.mem_filter, List.mem_range]; omega
theorem mem_preds (a : Spec) (u v : Nat) : u ∈ a.preds v ↔ u ≤ a.n ∧ (u, v) ∈ a.E := by
  simp [preds, List.mem_filter, List.mem_range]; omega
end Spec

structure Refines (G : DiG) (a : Spec) : Prop where
  inv : Inv G
  n_eq : G.n = a.n
  nodup : a.E.Nodup
  mem : ∀ e, e ∈ a.E ↔ e ∈ G.edgeset

theorem refines_init (n : Nat) : Refines (init n) (Spec.init n) :=
  ⟨inv_init n, rfl, by simp [Spec.init], by simp [Spec.init, init]⟩

theorem Inv.refines {G : DiG} (h : Inv G) : Refines G ⟨G.n, G.edgeset⟩ :=
  ⟨h, rfl, h.nodup, fun _ => Iff.rfl⟩

theorem Spec.insert_nodup {a : Spec} (h : a.E.Nodup) (p : Nat × Nat) : (a.insert p).E.Nodup := by
  unfold Spec.insert
  split
  · exact h
  · rename_i hp; exact List.nodup_cons.2 ⟨hp, h⟩

theorem refines_addEdge {G : DiG} {a : Spec} (h : Refines G a) {u v : Int} (hv : Valid G.n u v) :
    ∃ G', G.addEdge u v = .ok G' ∧ Refines G' (a.insert (u.toNat, v.toNat)) :=
  have ⟨G', e, ⟨i, n⟩, m⟩ := addEdge_spec ⟨h.inv, rfl⟩ hv
  ⟨G', e, i, by rw [Spec.insert_n, n, h.n_eq], Spec.insert_nodup h.nodup _,
    fun p => by rw [Spec.mem_insert, m, h.mem]⟩

theorem refines_addEdgesFromP {G : DiG} {a : Spec} (h : Refines G a) (es : List (Int × Int)) :
    Refines (G.addEdgesFromP es).1 (a.addEdges es).1 ∧
      Outcome.ofOpt (G.addEdgesFromP es).2 = (a.addEdges es).2 := by
  induction es generalizing G a with
  | nil => exact ⟨h, rfl⟩
  | cons e es ih =>
    by_cases hv : Valid G.n e.1 e.2
    · obtain ⟨G', e', r'⟩ := refines_addEdge h hv
      have hv' : Valid a.n e.1 e.2 := h.n_eq ▸ hv
      simp only [addEdgesFromP, e', Spec.addEdges, if_pos hv']
      exact ih r'
    · have hv' : ¬ Valid a.n e.1 e.2 := h.n_eq ▸ hv
      simp only [addEdgesFromP, addEdge_invalid hv, Spec.addEdges, if_neg hv']
      exact ⟨h, rfl⟩

theorem refines_step {G : DiG} {a : Spec} (h : Refines G a) (op : GOp) :
    Refines (G.step op).1 (a.step op).1 ∧ (G.step op).2 = (a.step op).2 := by
  cases op with
  | addEdge u v => rw [step_addEdge]; exact refines_addEdgesFromP h [(u, v)]
  | removeEdge u v => exact ⟨h, rfl⟩
  | updateVertexNumber k => exact ⟨h, rfl⟩
  | addEdgesFrom es => exact refines_addEdgesFromP h es

theorem refines_run {G : DiG} {a : Spec} (h : Refines G a) (ops : List GOp) :
    Refines (G.run ops) (a.run ops) := (sim_history refines_step h ops).1

theorem trace_eq {G : DiG} {a : Spec} (h : Refines G a) (ops : List GOp) :
    traceOf step G ops = traceOf Spec.step a ops := (sim_history refines_step h ops).2

namespace Refines
variable {G : DiG} {a : Spec} (h : Refines G a)
include h

theorem numberOfVertices_eq : G.numberOfVertices = a.n := h.n_eq

theorem numberOfEdges_eq : G.numberOfEdges = a.numberOfEdges := by
  show G.m = a.E.length
  rw [← h.inv.count]
  exact ((List.perm_ext_iff_of_nodup h.nodup h.inv.nodup).2 h.mem).length_eq.symm

theorem mem_edges (e : Nat × Nat) : e ∈ G.edges ↔ e ∈ a.E := h.inv.mem_edges.trans (h.mem e).symm

theorem edges_eq : G.edges = a.edges := h.inv.edges_sorted.eq_mergeSort h.nodup h.mem_edges

theorem edgesBySucc_eq : G.edgesBySucc = a.edgesBySucc := by
  have key : G.edgesBySucc.map Prod.swap = (a.E.map Prod.swap).mergeSort lexLe := by
    apply SortedLex.eq_mergeSort h.inv.edgesBySucc_sorted (nodup_map_inj _ (fun _ _ => Prod.swap_inj.1) h.nodup)
    intro x
    simp only [List.mem_map]
    constructor
    · rintro ⟨e, he, rfl⟩; exact ⟨e, (h.mem e).2 (h.inv.mem_edgesBySucc.1 he), rfl⟩
    · rintro ⟨e, he, rfl⟩; exact ⟨e, h.inv.mem_edgesBySucc.2 ((h.mem e).1 he), rfl⟩
  unfold Spec.edgesBySucc
  rw [← key, List.map_map]
  have : (Prod.swap ∘ Prod.swap : Nat × Nat → Nat × Nat) = id := by funext x; rfl
  rw [this, List.map_id]

theorem hasEdge_eq (u v : Int) : G.hasEdge u v = a.hasEdge u v := by
  rw [Bool.eq_iff_iff, hasEdge_iff, ← h.mem, ← and_assoc]
  refine (any_test_iff fun e => ?_).symm
  rw [Bool.and_eq_true, decide_eq_true_iff, decide_eq_true_iff, pair_test_iff, and_assoc]

theorem succs_eq (u : Nat) : G.succs u = a.succs u := by
  apply SortedLt.ext (h.inv.succs_sorted u) (a.succs_sorted u)
  intro v
  rw [h.inv.mem_succs, Spec.mem_succs, h.mem, ← h.n_eq]
  constructor
  · intro hm; exact ⟨(h.inv.range _ _ hm).2.2.2, hm⟩
  · exact fun hh => hh.2

theorem preds_eq (v : Nat) : G.preds v = a.preds v := by
  apply SortedLt.ext (h.inv.preds_sorted v) (a.preds_sorted v)
  intro u
  rw [h.inv.mem_preds, Spec.mem_preds, h.mem, ← h.n_eq]
  constructor
  · intro hm; exact ⟨(h.inv.range _ _ hm).2.1, hm⟩
  · exact fun hh => hh.2

theorem successors_eq (u : Int) : G.successors u = a.successors u := by
  unfold successors Spec.successors
  rw [ite_not, h.n_eq, ← h.succs_eq]
  rfl

theorem predecessors_eq (u : Int) : G.predecessors u = a.predecessors u := by
  unfold predecessors Spec.predecessors
  rw [ite_not, h.n_eq, ← h.preds_eq]
  rfl

theorem outDegree_eq (u : Int) : G.outDegree u = a.outDegree u := by
  unfold outDegree Spec.outDegree
  rw [h.successors_eq]
  unfold Spec.successors
  split <;> rfl

theorem inDegree_eq (u : Int) : G.inDegree u = a.inDegree u := by
  unfold inDegree Spec.inDegree
  rw [h.predecessors_eq]
  unfold Spec.predecessors
  split <;> rfl

/-- T-C16.3 (state form): the flag is on iff every edge of the abstract set is increasing -/
theorem isDag_eq : G.isDag = a.isDag := by
  rw [Bool.eq_iff_iff]
  show G.stillDag = true ↔ _
  rw [h.inv.dag, Spec.isDag, List.all_eq_true]
  constructor
  · intro hh e he; exact decide_eq_true (hh e ((h.mem e).1 he))
  · intro hh e he; exact of_decide_eq_true (hh e ((h.mem e).2 he))

end Refines

theorem step_addEdge_present {G : DiG} (h : Inv G) {u v : Int} (he : G.hasEdge u v = true) :
    G.step (.addEdge u v) = (G, .ok) := by
  obtain ⟨hu, hv, hm⟩ := (hasEdge_iff G u v).1 he
  rcases addEdge_cases G u v with ⟨hv', _⟩ | ⟨_, _, h1⟩ | ⟨_, hc, _⟩
  · have := h.range _ _ hm
    exact absurd ⟨by omega, by omega, by omega, by omega⟩ hv'
  · simp only [step, h1]
  · exact absurd hm hc

theorem step_addEdge_invalid {G : DiG} {u v : Int} (hv : ¬ Valid G.n u v) :
    G.step (.addEdge u v) = (G, .raised .valueError) := by
  simp only [step, addEdge_invalid hv]

theorem step_addEdge_valid {G : DiG} {u v : Int} (hv : Valid G.n u v) :
    (G.step (.addEdge u v)).2 = .ok := by
  rcases addEdge_cases G u v with ⟨hv', _⟩ | ⟨_, _, h1⟩ | ⟨_, _, h1⟩
  · exact absurd hv hv'
  · simp only [step, h1]
  · simp only [step, h1]

/-! ### T-C16.3 in history form: the edges ever inserted -/

/-- the argument pairs accepted by one call (for `add_edges_from`: those before the first
rejected pair) -/
def acceptedOf (n : Nat) : GOp → List (Int × Int)
  | .addEdge u v => if Valid n u v then [(u, v)] else []
  | .addEdgesFrom es => es.takeWhile (fun e => decide (Valid n e.1 e.2))
  | _ => []

/-- every edge ever inserted by the history (duplicates included) -/
def inserted (n : Nat) (ops : List GOp) : List (Int × Int) := ops.flatMap (acceptedOf n)

theorem acceptedOf_addEdge (n : Nat) (u v : Int) : acceptedOf n (.addEdge u v) = acceptedOf n (.addEdgesFrom [(u, v)]) := by
  simp only [acceptedOf, List.takeWhile_cons, List.takeWhile_nil]
  by_cases hv : Valid n u v <;> simp [hv]

theorem Spec.addEdges_n (a : Spec) (es : List (Int × Int)) : (a.addEdges es).1.n = a.n := by
  induction es generalizing a with
  | nil => rfl
  | cons e es ih =>
    simp only [Spec.addEdges]
    split
    · rw [ih, Spec.insert_n]
    · rfl

theorem Spec.step_n (a : Spec) (op : GOp) : (a.step op).1.n = a.n := by
  cases op with
  | addEdge u v => exact Spec.addEdges_n a [(u, v)]
  | removeEdge u v => rfl
  | updateVertexNumber k => rfl
  | addEdgesFrom es => exact Spec.addEdges_n a es

theorem Spec.mem_addEdges (a : Spec) (es : List (Int × Int)) (p : Nat × Nat) :
    p ∈ (a.addEdges es).1.E ↔ p ∈ a.E ∨
      ((p.1 : Int), (p.2 : Int)) ∈ es.takeWhile (fun e => decide (Valid a.n e.1 e.2)) := by
  induction es generalizing a with
  | nil => simp [Spec.addEdges]
  | cons e es ih =>
    simp only [Spec.addEdges, List.takeWhile_cons]
    by_cases hv : Valid a.n e.1 e.2
    · rw [if_pos hv, if_pos (decide_eq_true hv), ih, Spec.mem_insert, Spec.insert_n, List.mem_cons, or_assoc, or_left_comm]
      -- being the accepted pair `e` is the specification's test for it (`pair_test_iff`), both entries of `e` being positive
      rw [Prod.ext_iff (y := e), pair_test_iff, and_iff_right (Int.le_trans (by decide) hv.1),
        and_iff_right (Int.le_trans (by decide) hv.2.2.1)]
    · rw [if_neg hv, if_neg (by simpa using hv)]; simp

theorem Spec.mem_step (a : Spec) (op : GOp) (p : Nat × Nat) :
    p ∈ (a.step op).1.E ↔ p ∈ a.E ∨ ((p.1 : Int), (p.2 : Int)) ∈ acceptedOf a.n op := by
  cases op with
  | addEdge u v => rw [acceptedOf_addEdge]; exact Spec.mem_addEdges a [(u, v)] p
  | removeEdge u v => simp [Spec.step, acceptedOf]
  | updateVertexNumber k => simp [Spec.step, acceptedOf]
  | addEdgesFrom es => exact Spec.mem_addEdges a es p

theorem Spec.mem_run (a : Spec) (ops : List GOp) (p : Nat × Nat) :
    p ∈ (a.run ops).E ↔ p ∈ a.E ∨ ((p.1 : Int), (p.2 : Int)) ∈ inserted a.n ops := by
  induction ops generalizing a with
  | nil => simp [Spec.run, inserted]
  | cons o os ih =>
    have : (a.run (o :: os)) = (a.step o).1.run os := rfl
    rw [this, ih, Spec.mem_step, Spec.step_n]
    simp only [inserted, List.flatMap_cons, List.mem_append]
    exact or_assoc

theorem inserted_valid {n : Nat} {ops : List GOp} {e : Int × Int} (he : e ∈ inserted n ops) :
    Valid n e.1 e.2 := by
  simp only [inserted, List.mem_flatMap] at he
  obtain ⟨op, _, hop⟩ := he
  cases op with
  | addEdge u v => rw [acceptedOf_addEdge] at hop; simpa using List.all_eq_true.1 List.all_takeWhile e hop
  | removeEdge u v => cases hop
  | updateVertexNumber k => cases hop
  | addEdgesFrom es => simpa using List.all_eq_true.1 List.all_takeWhile e hop

end DiG

namespace BipG

theorem step_addEdge (G : BipG) (u v : Int) : G.step (.addEdge u v) = G.step (.addEdgesFrom [(u, v)]) := by
  simp only [step, addEdgesFromP]
  cases G.addEdge u v <;> rfl

/-- the class has no update but insertion -/
theorem step_keeps {I : BipG → Prop} (hadd : ∀ {G G' : BipG} {u v : Int}, I G → G.addEdge u v = .ok G' → I G')
    {G : BipG} (h : I G) (op : GOp) : I (G.step op).1 := by
  cases op with
  | addEdge u v => rw [step_addEdge]; exact inPlace.keeps (fun h e => hadd h e) h _
  | removeEdge u v => exact h
  | updateVertexNumber k => exact h
  | addEdgesFrom es => exact inPlace.keeps (fun h e => hadd h e) h es

theorem inv_step {G : BipG} (h : Inv G) (op : GOp) : Inv (G.step op).1 := step_keeps (fun h e => inv_addEdge h e) h op

theorem inv_run {G : BipG} (h : Inv G) (ops : List GOp) : Inv (G.run ops) := run_keeps inv_step h ops

structure Spec where
  l : Nat
  r : Nat
  /-- pairs (left vertex, right vertex); duplicate-free -/
  E : List (Nat × Nat)
  deriving Repr, DecidableEq

namespace Spec
def init (l r : Nat) : Spec := ⟨l, r, []⟩
def insert (a : Spec) (p : Nat × Nat) : Spec := if p ∈ a.E then a else { a with E := p :: a.E }

def addEdges (a : Spec) : List (Int × Int) → Spec × Outcome
  | [] => (a, .ok)
  | e :: es =>
    if Valid a.l a.r e.1 e.2 then (a.insert (e.1.toNat, e.2.toNat)).addEdges es
    else (a, .raised .valueError)

def step (a : Spec) : GOp → Spec × Outcome
  | .addEdge u v =>
    if Valid a.l a.r u v then (a.insert (u.toNat, v.toNat), .ok) else (a, .raised .valueError)
  | .removeEdge _ _ => (a, .noSuchMethod)
  | .updateVertexNumber _ => (a, .noSuchMethod)
  | .addEdgesFrom es => a.addEdges es

def run (a : Spec) (ops : List GOp) : Spec := ops.foldl (fun s o => (s.step o).1) a

def numberOfVertices (a : Spec) : Nat := a.l + a.r
def numberOfEdges (a : Spec) : Nat := a.E.length
def edges (a : Spec) : List (Nat × Nat) := a.E.mergeSort lexLe
def hasEdge (a : Spec) (u v : Int) : Bool :=
  a.E.any (fun e => decide ((e.1 : Int) = u) && decide ((e.2 : Int) = v))
def rnbrs (a : Spec) (u : Nat) : List Nat := (List.range (a.r + 1)).filter (fun v => decide ((u, v) ∈ a.E))
def lnbrs (a : Spec) (v : Nat) : List Nat := (List.range (a.l + 1)).filter (fun u => decide ((u, v) ∈ a.E))
def rightNeighbors (a : Spec) (u : Int) : Except Err (List Nat) :=
  if 1 ≤ u ∧ u ≤ a.l then .ok (a.rnbrs u.toNat) else .error .valueError
def leftNeighbors (a : Spec) (v : Int) : Except Err (List Nat) :=
  if 1 ≤ v ∧ v ≤ a.r then .ok (a.lnbrs v.toNat) else .error .valueError
def rightDegree (a : Spec) (u : Int) : Except Err Nat :=
  if 1 ≤ u ∧ u ≤ a.l then .ok (a.rnbrs u.toNat).length else .error .valueError
def leftDegree (a : Spec) (v : Int) : Except Err Nat :=
  if 1 ≤ v ∧ v ≤ a.r then .ok (a.lnbrs v.toNat).length else .error .valueError

theorem insert_lr (a : Spec) (p : Nat × Nat) : (a.insert p).l = a.l ∧ (a.insert p).r = a.r := by
  unfold insert; split <;> exact ⟨rfl, rfl⟩

theorem mem_insert (a : Spec) (p e : Nat × Nat) : e ∈ (a.insert p).E ↔ e = p ∨ e ∈ a.E := by
  unfold insert
  split
  · rename_i hp
    constructor
    · exact Or.inr
    · rintro (rfl | he)
      · exact hp
      · exact he
  · simp

theorem insert_insert (a : Spec) (p : Nat × Nat) : (a.insert p).insert p = a.insert p := by
  have : p ∈ (a.insert p).E := (mem_insert a p p).2 (Or.inl rfl)
  generalize a.insert p = b at this ⊢
  unfold insert; rw [if_pos this]

theorem rnbrs_sorted (a : Spec) (u : Nat) : SortedLt (a.rnbrs u) :=
  List.Pairwise.filter _ List.pairwise_lt_range
theorem lnbrs_sorted (a : Spec) (u : Nat) : SortedLt (a.lnbrs u) :=
  List.Pairwise.filter _ List.pairwise_lt_range
theorem mem_rnbrs (a : Spec) (u v : Nat) : v ∈ a.rnbrs u ↔ v ≤ a.r ∧ (u, v) ∈ a.E := by
  simp [rnbrs, List.mem_filter, List.mem_range]; omega
theorem mem_lnbrs (a : Spec) (u v : Nat) : u ∈ a.lnbrs v ↔ u ≤ a.l ∧ (u, v) ∈ a.E := by
  simp [lnbrs, List.mem_filter, List.mem_range]; omega
end Spec

structure Refines (G : BipG) (a : Spec) : Prop where
  inv : Inv G
  l_eq : G.l = a.l
  r_eq : G.r = a.r
  nodup : a.E.Nodup
  mem : ∀ e, e ∈ a.E ↔ e ∈ G.edgeset

theorem refines_init (l r : Nat) : Refines (init l r) (Spec.init l r) :=
  ⟨inv_init l r, rfl, rfl, by simp [Spec.init], by simp [Spec.init, init]⟩

theorem Inv.refines {G : BipG} (h : Inv G) : Refines G ⟨G.l, G.r, G.edgeset⟩ :=
  ⟨h, rfl, rfl, h.nodup, fun _ => Iff.rfl⟩

theorem Spec.insert_nodup {a : Spec} (h : a.E.Nodup) (p : Nat × Nat) : (a.insert p).E.Nodup := by
  unfold Spec.insert
  split
  · exact h
  · rename_i hp; exact List.nodup_cons.2 ⟨hp, h⟩

theorem refines_addEdge {G : BipG} {a : Spec} (h : Refines G a) {u v : Int} (hv : Valid G.l G.r u v) :
    ∃ G', G.addEdge u v = .ok G' ∧ Refines G' (a.insert (u.toNat, v.toNat)) :=
  have ⟨G', e, ⟨i, l, r⟩, m⟩ := addEdge_spec ⟨h.inv, rfl, rfl⟩ hv
  ⟨G', e, i, by rw [(Spec.insert_lr a _).1, l, h.l_eq], by rw [(Spec.insert_lr a _).2, r, h.r_eq],
    Spec.insert_nodup h.nodup _, fun p => by rw [Spec.mem_insert, m, h.mem]⟩

theorem refines_addEdgesFromP {G : BipG} {a : Spec} (h : Refines G a) (es : List (Int × Int)) :
    Refines (G.addEdgesFromP es).1 (a.addEdges es).1 ∧
      Outcome.ofOpt (G.addEdgesFromP es).2 = (a.addEdges es).2 := by
  induction es generalizing G a with
  | nil => exact ⟨h, rfl⟩
  | cons e es ih =>
    by_cases hv : Valid G.l G.r e.1 e.2
    · obtain ⟨G', e', r'⟩ := refines_addEdge h hv
      have hv' : Valid a.l a.r e.1 e.2 := h.l_eq ▸ h.r_eq ▸ hv
      simp only [addEdgesFromP, e', Spec.addEdges, if_pos hv']
      exact ih r'
    · have hv' : ¬ Valid a.l a.r e.1 e.2 := h.l_eq ▸ h.r_eq ▸ hv
      simp only [addEdgesFromP, addEdge_invalid hv, Spec.addEdges, if_neg hv']
      exact ⟨h, rfl⟩

theorem refines_step {G : BipG} {a : Spec} (h : Refines G a) (op : GOp) :
    Refines (G.step op).1 (a.step op).1 ∧ (G.step op).2 = (a.step op).2 := by
  cases op with
  | addEdge u v => rw [step_addEdge]; exact refines_addEdgesFromP h [(u, v)]
  | removeEdge u v => exact ⟨h, rfl⟩
  | updateVertexNumber k => exact ⟨h, rfl⟩
  | addEdgesFrom es => exact refines_addEdgesFromP h es

theorem refines_run {G : BipG} {a : Spec} (h : Refines G a) (ops : List GOp) :
    Refines (G.run ops) (a.run ops) := (sim_history refines_step h ops).1

theorem trace_eq {G : BipG} {a : Spec} (h : Refines G a) (ops : List GOp) :
    traceOf step G ops = traceOf Spec.step a ops := (sim_history refines_step h ops).2

namespace Refines
variable {G : BipG} {a : Spec} (h : Refines G a)
include h

theorem numberOfVertices_eq : G.numberOfVertices = a.numberOfVertices := by
  simp only [numberOfVertices, Spec.numberOfVertices, h.l_eq, h.r_eq]

theorem numberOfEdges_eq : G.numberOfEdges = a.numberOfEdges :=
  ((List.perm_ext_iff_of_nodup h.nodup h.inv.nodup).2 h.mem).length_eq.symm

theorem mem_edges (e : Nat × Nat) : e ∈ G.edges ↔ e ∈ a.E := h.inv.mem_edges.trans (h.mem e).symm

theorem edges_eq : G.edges = a.edges := h.inv.edges_sorted.eq_mergeSort h.nodup h.mem_edges

theorem hasEdge_eq (u v : Int) : G.hasEdge u v = a.hasEdge u v := by
  rw [Bool.eq_iff_iff, hasEdge_iff, ← h.mem, ← and_assoc]
  refine (any_test_iff fun e => ?_).symm
  rw [Bool.and_eq_true, decide_eq_true_iff, decide_eq_true_iff, pair_test_iff, and_assoc]

theorem rnbrs_eq (u : Nat) : G.rnbrs u = a.rnbrs u := by
  apply SortedLt.ext (h.inv.rnbrs_sorted u) (a.rnbrs_sorted u)
  intro v
  rw [h.inv.mem_rnbrs, Spec.mem_rnbrs, h.mem, ← h.r_eq]
  constructor
  · intro hm; exact ⟨(h.inv.range _ _ hm).2.2.2, hm⟩
  · exact fun hh => hh.2

theorem lnbrs_eq (v : Nat) : G.lnbrs v = a.lnbrs v := by
  apply SortedLt.ext (h.inv.lnbrs_sorted v) (a.lnbrs_sorted v)
  intro u
  rw [h.inv.mem_lnbrs, Spec.mem_lnbrs, h.mem, ← h.l_eq]
  constructor
  · intro hm; exact ⟨(h.inv.range _ _ hm).2.1, hm⟩
  · exact fun hh => hh.2

theorem rightNeighbors_eq (u : Int) : G.rightNeighbors u = a.rightNeighbors u := by
  unfold rightNeighbors Spec.rightNeighbors
  rw [ite_not, h.l_eq, ← h.rnbrs_eq]
  rfl

theorem leftNeighbors_eq (v : Int) : G.leftNeighbors v = a.leftNeighbors v := by
  unfold leftNeighbors Spec.leftNeighbors
  rw [ite_not, h.r_eq, ← h.lnbrs_eq]
  rfl

theorem rightDegree_eq (u : Int) : G.rightDegree u = a.rightDegree u := by
  unfold rightDegree Spec.rightDegree
  rw [h.rightNeighbors_eq]
  unfold Spec.rightNeighbors
  split <;> rfl

theorem leftDegree_eq (v : Int) : G.leftDegree v = a.leftDegree v := by
  unfold leftDegree Spec.leftDegree
  rw [h.leftNeighbors_eq]
  unfold Spec.leftNeighbors
  split <;> rfl

end Refines

theorem step_addEdge_present {G : BipG} (h : Inv G) {u v : Int} (he : G.hasEdge u v = true) :
    G.step (.addEdge u v) = (G, .ok) := by
  obtain ⟨hu, hv, hm⟩ := (hasEdge_iff G u v).1 he
  rcases addEdge_cases G u v with ⟨hv', _⟩ | ⟨_, _, h1⟩ | ⟨_, hc, _⟩
  · have := h.range _ _ hm
    exact absurd ⟨by omega, by omega, by omega, by omega⟩ hv'
  · simp only [step, h1]
  · exact absurd hm hc

theorem step_addEdge_invalid {G : BipG} {u v : Int} (hv : ¬ Valid G.l G.r u v) :
    G.step (.addEdge u v) = (G, .raised .valueError) := by
  simp only [step, addEdge_invalid hv]

theorem step_addEdge_valid {G : BipG} {u v : Int} (hv : Valid G.l G.r u v) :
    (G.step (.addEdge u v)).2 = .ok := by
  rcases addEdge_cases G u v with ⟨hv', _⟩ | ⟨_, _, h1⟩ | ⟨_, _, h1⟩
  · exact absurd hv hv'
  · simp only [step, h1]
  · simp only [step, h1]

end BipG

end Cnfgen
