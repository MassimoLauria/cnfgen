/-
Helper lemmas for `Fam.coloringF` / `Fam.evenColoringF`: identifier arithmetic of a complete
unary mapping, the specification, colourings ↔ assignments, the degree sum over a closed vertex set.
-/
import Lemmas.FamTseitin
namespace Cnfgen
namespace Fam
open Vars

theorem mapId_eq (s k v c : Nat) : mapId s k v c = s + (v - 1) * k + (c - 1) := rfl

theorem mapId_ge (s k v c : Nat) : s ≤ mapId s k v c := by rw [mapId_eq]; omega

theorem mapId_decode {s k v c : Nat} (hv1 : 1 ≤ v) (hc1 : 1 ≤ c) (hck : c ≤ k) :
    (mapId s k v c - s) / k + 1 = v ∧ (mapId s k v c - s) % k + 1 = c := by
  rw [G2.mapId_div hc1 hck, G2.mapId_mod hc1 hck]
  omega

theorem mapId_inj {s k v c v' c' : Nat} (hv1 : 1 ≤ v) (hc1 : 1 ≤ c) (hck : c ≤ k)
    (hv1' : 1 ≤ v') (hc1' : 1 ≤ c') (hck' : c' ≤ k) (h : mapId s k v c = mapId s k v' c') :
    v = v' ∧ c = c' :=
  G2.mapId_inj hv1 hv1' hc1 hck hc1' hck' h

theorem mapId_of_decode {s k x : Nat} (hx : s ≤ x) :
    mapId s k ((x - s) / k + 1) ((x - s) % k + 1) = x := by
  rw [mapId_eq]
  have := Nat.div_add_mod (x - s) k
  simp only [Nat.add_sub_cancel]
  rw [Nat.mul_comm] at this
  omega

theorem clauseHolds_mapRow (α : Assign) {s : Nat} (hs : 1 ≤ s) (k v : Nat) :
    clauseHolds α (mapRow s k v) = true ↔ ∃ c, 1 ≤ c ∧ c ≤ k ∧ α (mapId s k v c) = true := by
  rw [mapRow, clauseHolds_map_pos α _ _ (fun _ _ => G2.mapId_pos hs)]
  simp only [mem_rangeN_one, and_assoc]

theorem atMostOne_rangeN (α : Assign) (n : Nat) (g : Nat → Nat) (hg : ∀ v, 0 < g v) :
    Con.holds α (.lin ((rangeN 1 (n + 1)).map (fun v => ((g v : Nat) : Int))) .le 1) = true ↔
      ∀ a b, 1 ≤ a → a ≤ n → 1 ≤ b → b ≤ n → α (g a) = true → α (g b) = true → a = b := by
  rw [Con.atMostOne_holds α (rangeN_nodup 1 (n + 1)) g (fun v _ => hg v)]
  simp only [mem_rangeN_one, and_imp]
  exact ⟨fun h a b a1 a2 b1 b2 => h a a1 a2 b b1 b2, fun h a a1 a2 b b1 b2 => h a b a1 a2 b1 b2⟩

theorem atMostOne_mapRow (α : Assign) {s : Nat} (hs : 1 ≤ s) (k v : Nat) :
    Con.holds α (.lin (mapRow s k v) .le 1) = true ↔
      ∀ c c', 1 ≤ c → c ≤ k → 1 ≤ c' → c' ≤ k →
        α (mapId s k v c) = true → α (mapId s k v c') = true → c = c' :=
  atMostOne_rangeN α k _ (fun _ => G2.mapId_pos hs)

theorem atMostOne_mapCol (α : Assign) {s : Nat} (hs : 1 ≤ s) (n k i : Nat) :
    Con.holds α (.lin (mapCol s n k i) .le 1) = true ↔
      ∀ u v, 1 ≤ u → u ≤ n → 1 ≤ v → v ≤ n →
        α (mapId s k u i) = true → α (mapId s k v i) = true → u = v :=
  atMostOne_rangeN α n (fun u => mapId s k u i) (fun _ => G2.mapId_pos hs)

theorem all_rangeN_one {n : Nat} {f : Nat → Bool} :
    (rangeN 1 (n + 1)).all f = true ↔ ∀ i, 1 ≤ i → i ≤ n → f i = true := by
  simp only [List.all_eq_true, mem_rangeN_one, and_imp]

theorem clauseHolds_neg_cons (α : Assign) (x : Nat) (ls : List Int) :
    clauseHolds α (-(x : Int) :: ls) = true ↔ (α x = true → clauseHolds α ls = true) := by
  rw [clauseHolds, List.any_cons, litHolds_neg_natCast α x]
  cases α x <;> simp [clauseHolds]

/-- what the variables `x_{v,c}` say -/
def ColoringSpec (G : SimpleG) (k : Nat) (functional : Bool) (α : Assign) : Prop :=
  (∀ v, 1 ≤ v → v ≤ G.n → ∃ c, 1 ≤ c ∧ c ≤ k ∧ α (mapId 1 k v c) = true) ∧
  (functional = true → ∀ v, 1 ≤ v → v ≤ G.n → ∀ c c', 1 ≤ c → c ≤ k → 1 ≤ c' → c' ≤ k →
    α (mapId 1 k v c) = true → α (mapId 1 k v c') = true → c = c') ∧
  (∀ e ∈ G.edges, ∀ c, 1 ≤ c → c ≤ k →
    ¬ (α (mapId 1 k e.1 c) = true ∧ α (mapId 1 k e.2 c) = true))

theorem coloringF_holds_iff (G : SimpleG) (k : Nat) (fn : Bool) (α : Assign) :
    (coloringF G k fn).holds α = true ↔ ColoringSpec G k fn α := by
  unfold Formula.holds coloringF ColoringSpec
  simp only [List.all_append, Bool.and_eq_true, and_assoc]
  refine and_congr ?_ (and_congr ?_ ?_)
  · simp only [List.all_map, all_rangeN_one, Function.comp, Con.holds,
      clauseHolds_mapRow α (Nat.le_refl 1)]
  · cases fn
    · simp
    · simp only [if_true, List.all_map, all_rangeN_one, Function.comp,
        atMostOne_mapRow α (Nat.le_refl 1), forall_const]
  · simp only [List.all_flatMap, List.all_map, List.all_eq_true, mem_rangeN_one, and_imp,
      Function.comp, Con.holds, clauseHolds_neg_cons, clauseHolds_nil, Bool.false_eq_true, not_and,
      imp_false]

theorem coloringF_wf (G : SimpleG) (hG : GoodGraph G) (k : Nat) (fn : Bool) : (coloringF G k fn).WF := by
  have hrow : ∀ v ∈ rangeN 1 (G.n + 1), ∀ l ∈ mapRow 1 k v, l ≠ 0 ∧ 1 ≤ l.natAbs ∧ l.natAbs ≤ 1 + G.n * k - 1 :=
    fun v hv => G2.mRow_in (Nat.le_refl 1) (mem_rangeN_one.1 hv).1 (mem_rangeN_one.1 hv).2
  have : G2.ConsIn 1 (1 + G.n * k - 1) (coloringF G k fn).cons :=
    ((G2.ConsIn.map hrow).append (.ite (fun _ => .map hrow) fun _ => .nil)).append
      (.flatMap fun e he => .map fun c hc => by
        have hm := (mem_edges hG).1 he
        have hv := hG.mem hm.2.2 hm.2.1
        rw [mem_rangeN_one] at hc
        exact G2.clause_neg2_in (Nat.le_refl 1) (hG.pos_of_mem hm.2.2 hm.2.1) hm.2.2 hc.1 hc.2 hv.1 hv.2.1 hc.1 hc.2)
  exact G2.wf_of_consIn (this.mono (Nat.le_refl 1) (Nat.le_of_eq (Nat.add_sub_cancel_left 1 _)))

/-- a proper colouring with colours `1..k` (of the listed edges) -/
def ProperColoring (G : SimpleG) (k : Nat) (col : Nat → Nat) : Prop :=
  (∀ v, 1 ≤ v → v ≤ G.n → 1 ≤ col v ∧ col v ≤ k) ∧ ∀ e ∈ G.edges, col e.1 ≠ col e.2

/-- the first index `c` in `1..k` whose variable `f(v)=c` is switched on (0 if none) -/
def pickIdx (s k : Nat) (α : Assign) (v : Nat) : Nat :=
  ((rangeN 1 (k + 1)).find? (fun c => α (mapId s k v c))).getD 0

theorem pickIdx_spec {s k : Nat} {α : Assign} {v : Nat}
    (h : ∃ c, 1 ≤ c ∧ c ≤ k ∧ α (mapId s k v c) = true) :
    1 ≤ pickIdx s k α v ∧ pickIdx s k α v ≤ k ∧ α (mapId s k v (pickIdx s k α v)) = true := by
  unfold pickIdx
  obtain ⟨c, h1, h2, h3⟩ := h
  cases hf : (rangeN 1 (k + 1)).find? (fun c => α (mapId s k v c)) with
  | none =>
    rw [List.find?_eq_none] at hf
    exact absurd h3 (hf c (mem_rangeN_one.2 ⟨h1, h2⟩))
  | some c0 =>
    have hm := List.mem_of_find?_eq_some hf
    have hp := List.find?_some hf
    rw [mem_rangeN_one] at hm
    exact ⟨hm.1, hm.2, hp⟩

/-- the colouring read off an assignment: the first colour switched on -/
def toCol (k : Nat) (α : Assign) (v : Nat) : Nat := pickIdx 1 k α v

/-- the assignment describing a colouring: `x_{v,c}` is true exactly when `col v = c` -/
def ofCol (k : Nat) (col : Nat → Nat) : Assign :=
  fun x => col ((x - 1) / k + 1) == (x - 1) % k + 1

theorem ofCol_mapId {k v c : Nat} (col : Nat → Nat) (hv1 : 1 ≤ v) (hc1 : 1 ≤ c) (hck : c ≤ k) :
    ofCol k col (mapId 1 k v c) = (col v == c) := by
  unfold ofCol
  have d := mapId_decode (s := 1) hv1 hc1 hck
  rw [d.1, d.2]

theorem toCol_spec {k : Nat} {α : Assign} {v : Nat}
    (h : ∃ c, 1 ≤ c ∧ c ≤ k ∧ α (mapId 1 k v c) = true) :
    1 ≤ toCol k α v ∧ toCol k α v ≤ k ∧ α (mapId 1 k v (toCol k α v)) = true :=
  pickIdx_spec h

theorem coloring_toCol_proper (G : SimpleG) (hG : GoodGraph G) (k : Nat) (fn : Bool) (α : Assign)
    (h : ColoringSpec G k fn α) : ProperColoring G k (toCol k α) := by
  obtain ⟨htot, _, hprop⟩ := h
  constructor
  · intro v h1 h2
    have := toCol_spec (htot v h1 h2)
    exact ⟨this.1, this.2.1⟩
  · intro e he heq
    obtain ⟨u, v⟩ := e
    have hm := (mem_edges hG).1 he
    have hv := hG.mem hm.2.2 hm.2.1
    have hu1 := hG.pos_of_mem hm.2.2 hm.2.1
    have su := toCol_spec (htot u hu1 hm.2.2)
    have sv := toCol_spec (htot v hv.1 hv.2.1)
    simp only at heq
    exact hprop (u, v) he (toCol k α u) su.1 su.2.1 ⟨su.2.2, by rw [heq]; exact sv.2.2⟩

theorem coloring_ofCol_spec (G : SimpleG) (hG : GoodGraph G) (k : Nat) (fn : Bool) (col : Nat → Nat)
    (h : ProperColoring G k col) : ColoringSpec G k fn (ofCol k col) := by
  obtain ⟨hr, hp⟩ := h
  refine ⟨?_, ?_, ?_⟩
  · intro v h1 h2
    have := hr v h1 h2
    exact ⟨col v, this.1, this.2, by rw [ofCol_mapId col h1 this.1 this.2]; simp⟩
  · intro _ v h1 _ c c' hc1 hck hc1' hck' ha ha'
    rw [ofCol_mapId col h1 hc1 hck] at ha
    rw [ofCol_mapId col h1 hc1' hck'] at ha'
    simp only [beq_iff_eq] at ha ha'
    omega
  · intro e he c hc1 hck hboth
    obtain ⟨u, v⟩ := e
    have hm := (mem_edges hG).1 he
    have hv := hG.mem hm.2.2 hm.2.1
    have hu1 := hG.pos_of_mem hm.2.2 hm.2.1
    rw [ofCol_mapId col hu1 hc1 hck, ofCol_mapId col hv.1 hc1 hck] at hboth
    simp only [beq_iff_eq] at hboth
    exact hp (u, v) he (by simp only; omega)

theorem toCol_ofCol (G : SimpleG) (k : Nat) (col : Nat → Nat)
    (h : ∀ v, 1 ≤ v → v ≤ G.n → 1 ≤ col v ∧ col v ≤ k) (v : Nat) (h1 : 1 ≤ v) (h2 : v ≤ G.n) :
    toCol k (ofCol k col) v = col v := by
  have hc := h v h1 h2
  have sp := toCol_spec (k := k) (α := ofCol k col) (v := v)
    ⟨col v, hc.1, hc.2, by rw [ofCol_mapId col h1 hc.1 hc.2]; simp⟩
  rw [ofCol_mapId col h1 sp.1 sp.2.1] at sp
  simp only [beq_iff_eq] at sp
  omega

theorem ofCol_toCol (G : SimpleG) (k : Nat) (α : Assign) (h : ColoringSpec G k true α)
    (x : Nat) (hx1 : 1 ≤ x) (hxn : x ≤ G.n * k) : ofCol k (toCol k α) x = α x := by
  obtain ⟨htot, hfun, _⟩ := h
  have hk : 0 < k := by
    rcases Nat.eq_zero_or_pos k with rfl | hk
    · simp at hxn; omega
    · exact hk
  have hmap := mapId_of_decode (s := 1) (k := k) hx1
  have hv1 : 1 ≤ (x - 1) / k + 1 := Nat.le_add_left 1 _
  have hvn : (x - 1) / k + 1 ≤ G.n := by
    have : (x - 1) / k < G.n := (Nat.div_lt_iff_lt_mul hk).2 (by omega)
    omega
  have hc1 : 1 ≤ (x - 1) % k + 1 := Nat.le_add_left 1 _
  have hck : (x - 1) % k + 1 ≤ k := by have := Nat.mod_lt (x - 1) hk; omega
  have sp := toCol_spec (htot _ hv1 hvn)
  unfold ofCol
  cases hα : α x
  · rw [beq_eq_false_iff_ne]
    intro heq
    rw [heq, hmap, hα] at sp
    exact Bool.noConfusion sp.2.2
  · rw [beq_iff_eq]
    exact hfun rfl _ hv1 hvn _ _ sp.1 sp.2.1 hc1 hck sp.2.2 (by rw [hmap]; exact hα)

theorem filter_lt_append_filter_gt (l : List Nat) (w : Nat) (hs : l.Pairwise (· < ·)) (hw : w ∉ l) :
    l.filter (fun x => x < w) ++ l.filter (fun x => w < x) = l := by
  induction l with
  | nil => simp
  | cons x xs ih =>
    rw [List.pairwise_cons] at hs
    have hxw : x ≠ w := fun h => hw (by simp [h])
    have hw' : w ∉ xs := fun h => hw (List.mem_cons_of_mem _ h)
    by_cases hlt : x < w
    · simp only [List.filter_cons, hlt, decide_true, if_true, Nat.lt_asymm hlt, decide_false]
      simp only [Bool.false_eq_true, if_false, List.cons_append]
      rw [ih hs.2 hw']
    · have hgt : w < x := by omega
      have h1 : (x :: xs).filter (fun y => y < w) = [] := by
        rw [List.filter_eq_nil_iff]
        intro a ha
        simp only [List.mem_cons] at ha
        rcases ha with rfl | ha
        · simp; omega
        · have := hs.1 a ha; simp; omega
      have h2 : (x :: xs).filter (fun y => w < y) = x :: xs := by
        rw [List.filter_eq_self]
        intro a ha
        simp only [List.mem_cons] at ha
        rcases ha with rfl | ha
        · simp; omega
        · have := hs.1 a ha; simp; omega
      rw [h1, h2]; rfl

theorem loNbrs_eq {G : SimpleG} (hG : GoodGraph G) {w : Nat} (hwn : w ≤ G.n) :
    loNbrs G w = (G.nbrs w).filter (fun x => x < w) := by
  apply List.Pairwise.eq_of_mem_iff (r := (· < ·))
  · exact (rangeN_pairwise 1 (G.n + 1)).sublist List.filter_sublist
  · exact (hG.sorted hwn).sublist List.filter_sublist
  · intro u
    simp only [loNbrs, List.mem_filter, mem_rangeN_one, List.contains_iff_mem, decide_eq_true_eq,
      mem_upNbrs hG]
    constructor
    · rintro ⟨_, hlt, hw, hun⟩
      exact ⟨hG.symm hun hw, hlt⟩
    · rintro ⟨hu, hlt⟩
      have hm := hG.mem hwn hu
      exact ⟨⟨hm.1, hm.2.1⟩, hlt, hm.2.2.2, hm.2.1⟩

/-- `e.indices(w, None)` enumerates the edges at `w` in the order of `G.neighbors(w)` -/
theorem incidentLits_eq {G : SimpleG} (hG : GoodGraph G) {w : Nat} (hwn : w ≤ G.n) :
    incidentLits G w = tseitinLits G w := by
  unfold incidentLits incidentPairs tseitinLits
  have hup : (upNbrs G w).filter (fun x => x != w) = upNbrs G w := by
    rw [List.filter_eq_self]
    intro a ha
    have := ((mem_upNbrs hG).1 ha).1
    simp; omega
  have hnot : w ∉ G.nbrs w := fun h => (hG.mem hwn h).2.2.1 rfl
  rw [hup, loNbrs_eq hG hwn, upNbrs_eq hG hwn, List.map_append, List.map_map, List.map_map]
  conv_rhs => rw [← filter_lt_append_filter_gt (G.nbrs w) w (hG.sorted hwn) hnot]
  rw [List.map_append]
  congr 1
  apply List.map_congr_left
  intro x _
  simp only [Function.comp]
  rw [edgeId_comm]

/-- at every vertex exactly half of the incident edge variables are true -/
def EvenColoringSpec (G : SimpleG) (α : Assign) : Prop :=
  ∀ v, 1 ≤ v → v ≤ G.n →
    (G.nbrs v).countP (fun u => α (edgeId G 1 u v)) = (G.nbrs v).length / 2

theorem evenColoringF_holds_iff (G : SimpleG) (hG : GoodGraph G) (α : Assign) :
    (evenColoringF G).holds α = true ↔ EvenColoringSpec G α := by
  unfold Formula.holds evenColoringF EvenColoringSpec
  simp only [List.all_map, List.all_eq_true, mem_rangeN_one, Function.comp, Con.holds, Op.denote,
    decide_eq_true_eq]
  constructor
  · intro h v h1 h2
    have := h v ⟨h1, h2⟩
    rw [incidentLits_eq hG h2, count_tseitinLits] at this
    simp only [tseitinLits, List.length_map] at this
    omega
  · intro h v hv
    rw [incidentLits_eq hG hv.2, count_tseitinLits, h v hv.1 hv.2]
    simp only [tseitinLits, List.length_map]

theorem evenColoringF_wf (G : SimpleG) (hG : GoodGraph G) : (evenColoringF G).WF :=
  G2.wf_of_consIn (lo := 1) (G2.ConsIn.map fun v hv => by
    have hv := (mem_rangeN_one.1 hv).2
    simp only [Con.lits, incidentLits_eq hG hv]
    exact tseitinLits_in hG hv)

theorem evenColoring_ok_iff (G : SimpleG) :
    (∃ F, evenColoring G = .ok F) ↔ ∀ v, 1 ≤ v → v ≤ G.n → (G.nbrs v).length % 2 = 0 := by
  unfold evenColoring
  constructor
  · rintro ⟨F, hF⟩ v h1 h2
    split at hF
    · cases hF
    · rename_i hany
      simp only [List.any_eq_true, mem_rangeN_one, beq_iff_eq, not_exists, not_and] at hany
      have := hany v ⟨h1, h2⟩
      omega
  · intro h
    refine ⟨evenColoringF G, ?_⟩
    rw [if_neg]
    simp only [List.any_eq_true, mem_rangeN_one, beq_iff_eq, not_exists, not_and]
    intro v hv
    have := h v hv.1 hv.2
    omega

/-- summing the vertex equations over a vertex set closed under adjacency: the half-degrees
add up to an even number.  When all degrees are even this sum is the number of edges inside the
set, so every connected component of a satisfiable instance has an even number of edges. -/
theorem evenColoring_parity (G : SimpleG) (hG : GoodGraph G) (α : Assign)
    (h : EvenColoringSpec G α) (C : Nat → Bool)
    (hC : ∀ v u, C v = true → u ∈ G.nbrs v → C u = true) :
    Even (∑ v ∈ (Finset.Icc 1 G.n).filter (fun v => C v = true), (G.nbrs v).length / 2) := by
  have heven := closed_vcount_even hG α C hC
  rwa [Finset.sum_congr rfl (g := fun v => (G.nbrs v).length / 2) fun v hv => ?_] at heven
  rw [Finset.mem_filter, Finset.mem_Icc] at hv
  exact h v hv.1.1 hv.1.2

variable {G : SimpleG}

/-- the number of edges `(u,v)` of `G.edges()` whose first end lies in `C` (for a set closed under
adjacency: the edges inside `C`) -/
def edgesIn (G : SimpleG) (C : Nat → Bool) : Nat := (G.edges.filter (fun e => C e.1)).length

theorem list_sum_range (f : Nat → Nat) (k : Nat) :
    ((List.range k).map f).sum = ∑ i ∈ Finset.range k, f i := by
  induction k with
  | zero => simp
  | succ k ih => rw [prefix_sum_succ, Finset.sum_range_succ, ih]

theorem sum_Icc_filter_eq (n : Nat) (p : Nat → Prop) [DecidablePred p] (f : Nat → Nat) :
    ∑ v ∈ (Finset.Icc 1 n).filter p, f v =
      ∑ a ∈ Finset.range (n + 1), (if 1 ≤ a ∧ p a then f a else 0) := by
  rw [← Finset.sum_filter]
  apply Finset.sum_congr _ (fun _ _ => rfl)
  ext v
  simp only [Finset.mem_filter, Finset.mem_Icc, Finset.mem_range]
  constructor
  · rintro ⟨⟨h1, h2⟩, h3⟩; exact ⟨by omega, h1, h3⟩
  · rintro ⟨h0, h1, h3⟩; exact ⟨⟨h1, by omega⟩, h3⟩

theorem upNbrs_top (G : SimpleG) : upNbrs G G.n = [] := by
  unfold upNbrs; rw [if_neg]; omega

theorem edgesIn_eq_sum (G : SimpleG) (C : Nat → Bool) :
    edgesIn G C = ∑ a ∈ (Finset.Icc 1 G.n).filter (fun a => C a = true), (upNbrs G a).length := by
  unfold edgesIn
  rw [edges_eq, List.filter_flatMap, List.length_flatMap]
  have hrow : (List.range (G.n - 1)).map (fun i =>
        (((upNbrs G (i + 1)).map (fun v => (i + 1, v))).filter (fun e => C e.1)).length) =
      (List.range (G.n - 1)).map (fun i =>
        (fun a => if C a = true then (upNbrs G a).length else 0) (i + 1)) := by
    apply List.map_congr_left
    intro i _
    by_cases hc : C (i + 1) = true
    · simp only []
      rw [if_pos hc, List.filter_eq_self.2, List.length_map]
      intro e he
      obtain ⟨v, _, rfl⟩ := List.mem_map.1 he
      exact hc
    · simp only []
      rw [if_neg hc, List.filter_eq_nil_iff.2, List.length_nil]
      intro e he
      obtain ⟨v, _, rfl⟩ := List.mem_map.1 he
      exact hc
  -- the rows are those of the vertices `1..n-1`; the row of `n` is empty
  rw [hrow, list_sum_range, sum_Icc_filter_eq]
  rcases Nat.eq_zero_or_pos G.n with h0 | hpos
  · simp [h0]
  · obtain ⟨k, hk⟩ : ∃ k, G.n = k + 1 := ⟨G.n - 1, by omega⟩
    have htop := upNbrs_top G
    rw [hk] at htop ⊢
    rw [Finset.sum_range_succ, Finset.sum_range_succ', htop]
    simp

theorem closed_degree_sum (hG : GoodGraph G) (C : Nat → Bool)
    (hC : ∀ v u, C v = true → u ∈ G.nbrs v → C u = true) :
    ∑ v ∈ (Finset.Icc 1 G.n).filter (fun v => C v = true), (G.nbrs v).length =
      2 * edgesIn G C := by
  have h := handshake _ G.nbrs (fun _ _ => true) (fun _ _ => rfl) (closed_nbrs_ok hG C hC)
  simp only [List.countP_true, Bool.and_true] at h
  rw [h, edgesIn_eq_sum]
  congr 1
  refine Finset.sum_congr rfl fun a ha => ?_
  rw [upNbrs_eq hG (Finset.mem_Icc.1 (Finset.mem_filter.1 ha).1).2, List.countP_eq_length_filter]

end Fam
end Cnfgen
