/-
Lemmas about `Cnfgen.Cli.parseArgs` (CnfgenModel/Cli/Dispatch.lean) for the sub-commands whose positionals
each take one typed token and whose options are all flags (`numericOnly`).
-/
import Lemmas.DispatchTotal
namespace Cnfgen.Cli
open Cnfgen.Gen

theorem dnum_std_basic (o : OptSpec) (h : o.standard = true) :
    o.nested = false ∧ (o.action == "PHPArgs") = false ∧ (o.action == "compose_two_parsers") = false ∧
      o.group = "" :=
  have hs := dtot_std o h
  ⟨hs.1, beq_eq_false_iff_ne.2 hs.2.1, beq_eq_false_iff_ne.2 hs.2.2.1, hs.2.2.2.1⟩

theorem dnum_counts (i L : Nat) :
    counts (List.replicate i .one) L = if i ≤ L then some (List.replicate i 1) else none := by
  induction i generalizing L with
  | zero => simp [counts]
  | succ i ih =>
    rw [List.replicate_succ, counts]
    simp only [List.map_replicate, minArgs, List.sum_replicate_nat, Nat.mul_one, ih]
    by_cases h : 1 + i ≤ L
    · have h1 : i ≤ L - 1 := by omega
      have h2 : i + 1 ≤ L := by omega
      simp [h, h1, h2, List.replicate_succ]
    · have h2 : ¬ (i + 1 ≤ L) := by omega
      simp [h, h2]

theorem dnum_matchPartial (n L i : Nat) (hi : i ≤ n) :
    matchPartial (List.replicate n .one) L i = List.replicate (min i L) 1 := by
  induction i with
  | zero => simp [matchPartial]
  | succ i ih =>
    rw [matchPartial, List.take_replicate, dnum_counts]
    have hm : min (i + 1) n = i + 1 := by omega
    rw [hm]
    by_cases h : i + 1 ≤ L
    · have : min (i + 1) L = i + 1 := by omega
      simp [h, this]
    · have : min (i + 1) L = min i L := by omega
      simp only [h, if_false, this]
      exact ih (by omega)

theorem dnum_map_arity (ps : List OptSpec) (hps : ∀ p ∈ ps, p.arity = .one) :
    ps.map OptSpec.arity = List.replicate ps.length .one := by
  induction ps with
  | nil => rfl
  | cons p ps ih =>
    simp only [List.map_cons, List.length_cons, List.replicate_succ]
    rw [hps p (by simp), ih (fun q hq => hps q (by simp [hq]))]

/-- `(k, v)` is the binding of one of the positionals `ps` to its token in `toks` -/
def dnum_PosBind (ps : List OptSpec) (toks : List String) (k : String) (v : Val) : Prop :=
  ∃ p ∈ ps.zip toks, k = p.1.dest ∧ convertOne p.1 p.2 = some v

/-- every token passes the validator of its positional -/
def dnum_AllConv (ps : List OptSpec) (toks : List String) : Prop :=
  ∀ p ∈ ps.zip toks, (convertOne p.1 p.2).isSome = true

theorem dnum_AllConv_cons (o : OptSpec) (os : List OptSpec) (t : String) (ts : List String) :
    dnum_AllConv (o :: os) (t :: ts) ↔ (convertOne o t).isSome = true ∧ dnum_AllConv os ts := by
  simp [dnum_AllConv]

theorem dnum_PosBind_cons (o : OptSpec) (os : List OptSpec) (t : String) (ts : List String) (k : String) (v : Val) :
    dnum_PosBind (o :: os) (t :: ts) k v ↔ (k = o.dest ∧ convertOne o t = some v) ∨ dnum_PosBind os ts k v := by
  simp [dnum_PosBind]

theorem dnum_applyPos (chunk : List String) (ps : List OptSpec)
    (hps : ∀ p ∈ ps, p.arity = .one) (hl : chunk.length ≤ ps.length) :
    match applyPos ps (List.replicate chunk.length 1) chunk with
    | .error e => e = .cliError ∧ ¬ dnum_AllConv ps chunk
    | .ok b => dnum_AllConv ps chunk ∧ ∀ k v, (k, v) ∈ b ↔ dnum_PosBind ps chunk k v := by
  induction chunk generalizing ps with
  | nil =>
    cases ps <;> simp [applyPos, dnum_AllConv, dnum_PosBind]
  | cons t ts ih =>
    match ps, hl with
    | o :: os, hl =>
      have ih' := ih os (fun q hq => hps q (by simp [hq])) (by simpa using hl)
      simp only [List.length_cons, List.replicate_succ, applyPos, List.take_succ_cons, List.take_zero,
        List.drop_succ_cons, List.drop_zero, dnum_AllConv_cons, dnum_PosBind_cons]
      rw [bindOne_token o (Or.inl (hps o (by simp))) t]
      cases hc : convertOne o t with
      | none => exact ⟨rfl, fun h => nomatch h.1⟩
      | some v =>
        simp only
        cases hr : applyPos os (List.replicate ts.length 1) ts with
        | error e =>
          rw [hr] at ih'
          exact ⟨ih'.1, fun h => ih'.2 h.2⟩
        | ok b =>
          rw [hr] at ih'
          refine ⟨⟨rfl, ih'.1⟩, fun k w => ?_⟩
          simp only [List.mem_append, ih'.2, List.mem_singleton, Prod.mk.injEq, Option.some.injEq, or_comm, eq_comm]

theorem dnum_consumePos (ps : List OptSpec) (hps : ∀ p ∈ ps, p.arity = .one)
    (chunk : List String) (final : Bool) :
    match consumePos ps chunk final with
    | .error e => e = .cliError ∧ ¬ (chunk.length ≤ ps.length ∧ dnum_AllConv ps chunk)
    | .ok (ps', b) => chunk.length ≤ ps.length ∧ ps' = ps.drop chunk.length ∧ dnum_AllConv ps chunk ∧
        ∀ k v, (k, v) ∈ b ↔ dnum_PosBind ps chunk k v := by
  unfold consumePos
  by_cases h0 : (chunk.isEmpty && !final) = true
  · rw [if_pos h0]
    have hc : chunk = [] := by
      simp only [Bool.and_eq_true, List.isEmpty_iff] at h0
      exact h0.1
    subst hc
    simp [dnum_AllConv, dnum_PosBind]
  · rw [if_neg h0]
    simp only []
    rw [dnum_map_arity ps hps, dnum_matchPartial _ _ _ (Nat.le_refl _)]
    simp only [List.sum_replicate_nat, Nat.mul_one, List.length_replicate]
    by_cases hle : chunk.length ≤ ps.length
    · have hm : min ps.length chunk.length = chunk.length := by omega
      rw [hm, if_neg (Nat.lt_irrefl _)]
      have := dnum_applyPos chunk ps hps hle
      cases hr : applyPos ps (List.replicate chunk.length 1) chunk with
      | error e =>
        rw [hr] at this
        simp only at this ⊢
        exact ⟨this.1, fun h => this.2 h.2⟩
      | ok b =>
        rw [hr] at this
        simp only at this ⊢
        exact ⟨hle, trivial, this.1, this.2⟩
    · have hm : min ps.length chunk.length = ps.length := by omega
      rw [hm, if_pos (by omega)]
      exact ⟨rfl, fun h => hle h.1⟩

theorem dnum_zip_append (ts us : List String) (ps : List OptSpec) (hl : ts.length ≤ ps.length) :
    ps.zip (ts ++ us) = ps.zip ts ++ (ps.drop ts.length).zip us := by
  induction ts generalizing ps with
  | nil => simp
  | cons t ts ih =>
    match ps, hl with
    | o :: os, hl =>
      simp only [List.cons_append, List.zip_cons_cons, List.length_cons, List.drop_succ_cons]
      rw [ih os (by simpa using hl)]

/-- a run of tokens for the first positionals, then tokens for the others -/
theorem dnum_split (ts us : List String) (ps : List OptSpec) (hl : ts.length ≤ ps.length) :
    (((ts ++ us).length = ps.length ∧ dnum_AllConv ps (ts ++ us)) ↔
      dnum_AllConv ps ts ∧ us.length = (ps.drop ts.length).length ∧ dnum_AllConv (ps.drop ts.length) us) ∧
    ∀ k v, dnum_PosBind ps (ts ++ us) k v ↔ dnum_PosBind ps ts k v ∨ dnum_PosBind (ps.drop ts.length) us k v := by
  unfold dnum_AllConv dnum_PosBind
  rw [dnum_zip_append ts us ps hl]
  simp only [List.mem_append, List.length_append, List.length_drop, or_imp, forall_and, or_and_right, exists_or]
  exact ⟨⟨fun h => ⟨h.2.1, by omega, h.2.2⟩, fun h => ⟨by omega, h.1, h.2.2⟩⟩, fun _ _ => trivial⟩

theorem dnum_AllConv_left (ts us : List String) (ps : List OptSpec)
    (h : (ts ++ us).length = ps.length ∧ dnum_AllConv ps (ts ++ us)) :
    ts.length ≤ ps.length ∧ dnum_AllConv ps ts := by
  have hle : ts.length ≤ ps.length := by
    have := h.1; simp only [List.length_append] at this; omega
  exact ⟨hle, ((dnum_split ts us ps hle).1.1 h).1⟩

theorem dnum_parseSegs (segs : List (OptSpec × List String)) (hsegs : ∀ x ∈ segs, x.1.arity = .zero)
    (ps : List OptSpec) (hps : ∀ p ∈ ps, p.arity = .one) :
    match parseSegs ps segs with
    | .error e => e = .cliError ∧
        ¬ ((segs.flatMap (·.2)).length = ps.length ∧ dnum_AllConv ps (segs.flatMap (·.2)))
    | .ok b => (segs.flatMap (·.2)).length = ps.length ∧ dnum_AllConv ps (segs.flatMap (·.2)) ∧
        ∀ k v, (k, v) ∈ b ↔ dnum_PosBind ps (segs.flatMap (·.2)) k v ∨
          ∃ x ∈ segs, k = x.1.dest ∧ v = x.1.flagVal := by
  induction segs generalizing ps with
  | nil =>
    unfold parseSegs
    cases ps with
    | nil => simp [dnum_AllConv, dnum_PosBind]
    | cons p ps => simp
  | cons x rest ih =>
    obtain ⟨o, chunk⟩ := x
    have hrest : ∀ x ∈ rest, x.1.arity = .zero := fun x hx => hsegs x (by simp [hx])
    unfold parseSegs
    rw [dflag_consumeOpt o (hsegs (o, chunk) (by simp)) chunk]
    simp only [List.flatMap_cons]
    have hcp := dnum_consumePos ps hps chunk rest.isEmpty
    cases hr : consumePos ps chunk rest.isEmpty with
    | error e =>
      rw [hr] at hcp
      exact ⟨hcp.1, fun h => hcp.2 (dnum_AllConv_left chunk _ ps h)⟩
    | ok r =>
      obtain ⟨ps', bs⟩ := r
      rw [hr] at hcp
      obtain ⟨hle, rfl, hall, hbs⟩ := hcp
      have ih' := ih hrest (ps.drop chunk.length) fun p hp => hps p (List.mem_of_mem_drop hp)
      have hsplit := dnum_split chunk (rest.flatMap (·.2)) ps hle
      simp only
      cases hr2 : parseSegs (ps.drop chunk.length) rest with
      | error e =>
        rw [hr2] at ih'
        exact ⟨ih'.1, fun h => ih'.2 (hsplit.1.1 h).2⟩
      | ok more =>
        rw [hr2] at ih'
        obtain ⟨h1, h2, h3⟩ := ih'
        refine ⟨(hsplit.1.2 ⟨hall, h1, h2⟩).1, (hsplit.1.2 ⟨hall, h1, h2⟩).2, fun k v => ?_⟩
        simp only [List.mem_append, List.mem_cons, List.not_mem_nil, or_false, Prod.mk.injEq, h3, hbs, hsplit.2,
          exists_eq_or_imp]
        simp only [or_assoc, or_left_comm, or_comm]

theorem dnum_numericOnly (s : CliSpec) (hn : numericOnly s = true) (o : OptSpec) (ho : o ∈ s.opts) :
    o.standard = true ∧ (o.positional = true → o.arity = .one) ∧
      (o.positional = false → o.arity = .zero ∧ o.required = false) := by
  unfold numericOnly at hn
  rw [List.all_eq_true] at hn
  have := hn o ho
  cases hp : o.positional <;> simp [hp] at this <;> simp [this]

theorem dnum_positionals (s : CliSpec) (hn : numericOnly s = true) : ∀ p ∈ positionals s, p.arity = .one := by
  intro p hp
  unfold positionals at hp
  rw [List.mem_filter] at hp
  exact (dnum_numericOnly s hn p (List.mem_filter.1 hp.1).1).2.1 hp.2

theorem requiredSeen_none (s : CliSpec) (hreq : ∀ o ∈ s.opts, o.positional = false → o.required = false) (b : Ns) :
    requiredSeen s b = true := by
  unfold requiredSeen
  rw [List.all_eq_true]
  intro o ho
  cases hp : o.positional
  · simp [hreq o ho hp]
  · simp

theorem dnum_mutexOK (segs : List (OptSpec × List String)) (h : ∀ x ∈ segs, x.1.group = "") :
    mutexOK segs = true := by
  unfold mutexOK
  rw [List.all_eq_true]
  intro p hp
  rw [List.all_eq_true]
  intro q _
  simp [h p hp]

theorem dnum_parseArgs_eq (s : CliSpec) (hn : numericOnly s = true) (argv : List String) :
    parseArgs s argv = parseRaw s argv :=
  have hstd := fun o ho => dtot_std o (dnum_numericOnly s hn o ho).1
  parseArgs_eq_raw s (fun o ho => Or.inl ⟨(hstd o ho).1, (hstd o ho).2.2.2.2.1⟩)
    (fun o ho => (hstd o ((dtot_mem_mainOpts s o).1 ho).1).2.2.1) argv

/-- the parse of a numeric sub-command: it refuses exactly when the argument tokens are not one per positional, each
passing the validator of ITS positional; its bindings are those of the positionals to their tokens, and flags -/
theorem dnum_parseArgs (s : CliSpec) (hn : numericOnly s = true) (argv : List String)
    (hf : inFragment s argv = true) :
    match parseArgs s argv with
    | .error e => e = .cliError ∧
        ¬ ((argTokens s argv).length = (positionals s).length ∧
            dnum_AllConv (positionals s) (argTokens s argv))
    | .ok b => (argTokens s argv).length = (positionals s).length ∧
        dnum_AllConv (positionals s) (argTokens s argv) ∧
        (∀ k v, dnum_PosBind (positionals s) (argTokens s argv) k v → (k, v) ∈ b) ∧
        (∀ k v, (k, v) ∈ b → dnum_PosBind (positionals s) (argTokens s argv) k v ∨
          ∃ o ∈ s.opts, o.positional = false ∧ k = o.dest ∧ v = o.flagVal) := by
  rw [dnum_parseArgs_eq s hn argv]
  have hno := dnum_numericOnly s hn
  have hends := segments_ends s argv
  cases hseg : segments s argv with
  | error e => rw [hends.err hseg] at hf; cases hf
  | ok r =>
    obtain ⟨chunk, segs⟩ := r
    obtain ⟨htoks, hsrc⟩ := hends.ok hseg
    have hopts : ∀ x ∈ segs, x.1 ∈ s.opts ∧ x.1.positional = false :=
      fun x hx => let ⟨t, _, ht⟩ := hsrc x hx; optOf_mem s t x.1 ht
    have hsegs : ∀ x ∈ segs, x.1.arity = .zero := fun x hx => ((hno x.1 (hopts x hx).1).2.2 (hopts x hx).2).1
    have hps := dnum_positionals s hn
    have hmut : mutexOK segs = true :=
      dnum_mutexOK segs (fun x hx => (dtot_std x.1 (hno x.1 (hopts x hx).1).1).2.2.2.1)
    unfold parseRaw
    generalize positionals s = ps at hps ⊢
    rw [hseg, htoks]
    simp only [hmut, Bool.not_true, Bool.false_eq_true, if_false,
      requiredSeen_none s (fun o ho hp => ((hno o ho).2.2 hp).2), if_true]
    have hcp := dnum_consumePos ps hps chunk segs.isEmpty
    cases hr : consumePos ps chunk segs.isEmpty with
    | error e =>
      rw [hr] at hcp
      exact ⟨hcp.1, fun h => hcp.2 (dnum_AllConv_left chunk _ ps h)⟩
    | ok r =>
      obtain ⟨ps', bs⟩ := r
      rw [hr] at hcp
      obtain ⟨hle, rfl, hall, hbs⟩ := hcp
      have ih' := dnum_parseSegs segs hsegs (ps.drop chunk.length) fun p hp => hps p (List.mem_of_mem_drop hp)
      have hsplit := dnum_split chunk (segs.flatMap (·.2)) ps hle
      simp only
      cases hr2 : parseSegs (ps.drop chunk.length) segs with
      | error e =>
        rw [hr2] at ih'
        exact ⟨ih'.1, fun h => ih'.2 (hsplit.1.1 h).2⟩
      | ok more =>
        rw [hr2] at ih'
        obtain ⟨h1, h2, h3⟩ := ih'
        have hmem : ∀ k v, (k, v) ∈ more ++ bs ↔ dnum_PosBind ps (chunk ++ segs.flatMap (·.2)) k v ∨
            ∃ x ∈ segs, k = x.1.dest ∧ v = x.1.flagVal := fun k v => by
          simp only [List.mem_append, h3, hbs, hsplit.2, or_assoc, or_comm]
        refine ⟨(hsplit.1.2 ⟨hall, h1, h2⟩).1, (hsplit.1.2 ⟨hall, h1, h2⟩).2, fun k v h => (hmem k v).2 (Or.inl h),
          fun k v h => ((hmem k v).1 h).imp_right fun ⟨x, hx, hk⟩ => ⟨x.1, (hopts x hx).1, (hopts x hx).2, hk⟩⟩

theorem dnum_lookup_unique (b : Ns) (k : String) (v : Val) (hm : (k, v) ∈ b)
    (hu : ∀ v', (k, v') ∈ b → v' = v) : b.lookup k = some v := by
  obtain ⟨v', h⟩ := dtot_lookup_some b k v hm
  rw [h, hu v' (dtot_lookup_mem b k v' h)]

theorem dnum_zip_unique (ps : List OptSpec) (ts : List String) (hnd : (destsOf ps).Nodup)
    (p q : OptSpec × String) (hp : p ∈ ps.zip ts) (hq : q ∈ ps.zip ts) (hd : p.1.dest = q.1.dest) :
    p = q := by
  induction ps generalizing ts with
  | nil => simp at hp
  | cons o os ih =>
    cases ts with
    | nil => simp at hp
    | cons t ts =>
      unfold destsOf at hnd ih
      rw [List.map_cons, List.nodup_cons] at hnd
      simp only [List.zip_cons_cons, List.mem_cons] at hp hq
      have hmem : ∀ r : OptSpec × String, r ∈ os.zip ts → r.1.dest ≠ o.dest := by
        intro r hr heq
        apply hnd.1
        rw [← heq]
        exact List.mem_map_of_mem (f := fun x : OptSpec => x.dest) (List.of_mem_zip hr).1
      rcases hp with rfl | hp <;> rcases hq with rfl | hq
      · rfl
      · exact absurd hd.symm (hmem q hq)
      · exact absurd hd (hmem p hp)
      · exact ih ts hnd.2 hp hq

theorem numeric_parse_total (s : CliSpec) (hn : numericOnly s = true) (argv : List String)
    (hf : inFragment s argv = true) :
    (∃ b, parseArgs s argv = .ok b) ∨ parseArgs s argv = .error .cliError := by
  have h := dnum_parseArgs s hn argv hf
  cases hr : parseArgs s argv with
  | error e =>
    rw [hr] at h
    simp only at h
    right
    rw [h.1]
  | ok b => exact Or.inl ⟨b, rfl⟩

theorem numeric_parse_ok_iff (s : CliSpec) (hn : numericOnly s = true) (argv : List String)
    (hf : inFragment s argv = true) :
    (∃ b, parseArgs s argv = .ok b) ↔
      ((argTokens s argv).length = (positionals s).length ∧
       ∀ p ∈ (positionals s).zip (argTokens s argv), (convertOne p.1 p.2).isSome = true) := by
  have h := dnum_parseArgs s hn argv hf
  cases hr : parseArgs s argv with
  | error e =>
    rw [hr] at h
    simp only at h
    constructor
    · rintro ⟨b, hb⟩
      cases hb
    · intro h'
      exact absurd h' h.2
  | ok b =>
    rw [hr] at h
    simp only at h
    constructor
    · intro _
      exact ⟨h.1, h.2.1⟩
    · intro _
      exact ⟨b, rfl⟩

/-- the namespace of a numeric parse, read by `lookup`: the dest of a positional answers with its token converted (no flag
shares the dest, and no two positionals do), and every answer is such a one or the constant of a flag -/
theorem dnum_lookup (s : CliSpec) (hn : numericOnly s = true) (hwf : specWF s = true)
    (argv : List String) (hf : inFragment s argv = true) (b : Ns) (h : parseArgs s argv = .ok b) (k : String) (v : Val) :
    (dnum_PosBind (positionals s) (argTokens s argv) k v → b.lookup k = some v) ∧
    (b.lookup k = some v → dnum_PosBind (positionals s) (argTokens s argv) k v ∨
      ∃ o ∈ s.opts, o.positional = false ∧ k = o.dest ∧ v = o.flagVal) := by
  have hspec := dnum_parseArgs s hn argv hf
  rw [h] at hspec
  obtain ⟨_, _, hin, hout⟩ := hspec
  refine ⟨fun hv => dnum_lookup_unique b k v (hin k v hv) fun v' hv' => ?_, fun hl => hout k v (dtot_lookup_mem b k v hl)⟩
  unfold specWF at hwf
  simp only [Bool.and_eq_true, decide_eq_true_eq, List.all_eq_true] at hwf
  obtain ⟨p, hp, hd, hc⟩ := hv
  rcases hout k v' hv' with ⟨q, hq, hd', hc'⟩ | ⟨o, ho, hpos, hd', _⟩
  · cases dnum_zip_unique _ _ hwf.1.1.1 p q hp hq (by rw [← hd, ← hd'])
    exact Option.some.inj (hc'.symm.trans hc)
  · have := hwf.1.1.2 o ho
    simp only [hpos, Bool.false_or, Bool.not_eq_true', List.contains_eq_mem, decide_eq_false_iff_not] at this
    rw [← hd', hd] at this
    exact absurd (List.mem_map_of_mem (f := fun x : OptSpec => x.dest) (List.of_mem_zip hp).1) this

theorem numeric_parse_values (s : CliSpec) (hn : numericOnly s = true) (hwf : specWF s = true)
    (argv : List String) (hf : inFragment s argv = true) (b : Ns) (h : parseArgs s argv = .ok b) :
    ∀ p ∈ (positionals s).zip (argTokens s argv), b.lookup p.1.dest = convertOne p.1 p.2 := by
  intro p hp
  obtain ⟨v, hc⟩ := Option.isSome_iff_exists.1 (((numeric_parse_ok_iff s hn argv hf).1 ⟨b, h⟩).2 p hp)
  rw [hc]
  exact (dnum_lookup s hn hwf argv hf b h _ v).1 ⟨p, hp, rfl, hc⟩

/-- the sub-parser chosen when the first token is a number has positionals `[n, d]`: one typed token and an
optional typed token -/
def numericBranch (s : CliSpec) (c n d : OptSpec) : Prop :=
  positionals s = [c] ∧ c.action = "compose_two_parsers" ∧ c.arity = .star ∧ c.nested = false ∧
  (∃ p1 p2, c.compose = [p1, p2] ∧ subPositionals s p1 = [n, d]) ∧
  composeOpt s c.dest = some c ∧
  n.arity = .one ∧ d.arity = .opt ∧ n.action ≠ "PHPArgs" ∧ n.action ≠ "compose_two_parsers" ∧
  d.action ≠ "PHPArgs" ∧ d.action ≠ "compose_two_parsers" ∧ n.dest ≠ d.dest ∧
  (∀ o ∈ s.opts, o.positional = false → o.required = false)

theorem dnum_segments_args (s : CliSpec) (toks : List String) (harg : ∀ t ∈ toks, classify s t = .arg) :
    segments s toks = .ok (toks, []) := by
  induction toks with
  | nil => rfl
  | cons t ts ih =>
    unfold segments
    rw [ih (fun u hu => harg u (List.mem_cons_of_mem _ hu)), harg t (by simp)]

theorem dnum_bindOne_compose (c : OptSpec) (ha : c.action = "compose_two_parsers") (toks : List String) :
    bindOne c toks = .ok [(c.dest, .toks toks)] := by
  unfold bindOne
  simp [ha]

theorem dnum_consumePos_star (c : OptSpec) (ha : c.action = "compose_two_parsers") (har : c.arity = .star)
    (toks : List String) : consumePos [c] toks true = .ok ([], [(c.dest, .toks toks)]) := by
  unfold consumePos
  simp [matchPartial, counts, har, applyPos, dnum_bindOne_compose c ha]

theorem dnum_parseRaw_compose (s : CliSpec) (c : OptSpec) (hp : positionals s = [c])
    (ha : c.action = "compose_two_parsers") (har : c.arity = .star)
    (hreq : ∀ o ∈ s.opts, o.positional = false → o.required = false)
    (toks : List String) (harg : ∀ t ∈ toks, classify s t = .arg) :
    parseRaw s toks = .ok [(c.dest, .toks toks)] := by
  unfold parseRaw
  rw [dnum_segments_args s toks harg, hp]
  simp [mutexOK, dnum_consumePos_star c ha har, parseSegs, requiredSeen_none s hreq]

theorem dnum_consumePos_nd (n d : OptSpec) (hna : n.arity = .one) (hda : d.arity = .opt)
    (t0 : String) (rest : List String) :
    consumePos [n, d] (t0 :: rest) true =
      match rest with
      | [] =>
        (match convertOne n t0 with
         | some v => .ok ([], [(d.dest, d.defaultVal), (n.dest, v)])
         | none => .error .cliError)
      | [t1] =>
        (match convertOne n t0, convertOne d t1 with
         | some v0, some v1 => .ok ([], [(d.dest, v1), (n.dest, v0)])
         | _, _ => .error .cliError)
      | _ :: _ :: _ => .error .cliError := by
  unfold consumePos
  match rest with
  | [] =>
    simp [matchPartial, counts, hna, hda, applyPos, minArgs, bindOne_token n (Or.inl hna), bindOne_absent d hda]
    cases convertOne n t0 <;> rfl
  | [t1] =>
    simp [matchPartial, counts, hna, hda, applyPos, minArgs, bindOne_token n (Or.inl hna),
      bindOne_token d (Or.inr hda)]
    cases convertOne n t0 <;> cases convertOne d t1 <;> rfl
  | t1 :: t2 :: r =>
    simp [matchPartial, counts, hna, hda, minArgs]

theorem dnum_parseArgs_compose (s : CliSpec) (c n d : OptSpec) (h : numericBranch s c n d)
    (t0 : String) (rest : List String) (hnum : pyFloatOk t0 = true)
    (harg : ∀ t ∈ t0 :: rest, classify s t = .arg) :
    parseArgs s (t0 :: rest) =
      match consumePos [n, d] (t0 :: rest) true with
      | .error e => .error e
      | .ok (r, b) => if r.isEmpty then .ok (b ++ []) else .error .cliError := by
  obtain ⟨hp, ha, har, _, ⟨p1, p2, hcomp, hsub⟩, hco, _, _, _, _, _, _, _, hreq⟩ := h
  unfold parseArgs
  rw [dnum_parseRaw_compose s c hp ha har hreq _ harg]
  simp only [expand, hco, composeParse, hcomp, hnum, if_true, hsub]
  cases consumePos [n, d] (t0 :: rest) true with
  | error e => rfl
  | ok x =>
    obtain ⟨r, b⟩ := x
    simp only
    cases r.isEmpty <;> rfl

theorem compose_numeric_no_swap (s : CliSpec) (c n d : OptSpec) (h : numericBranch s c n d)
    (t0 : String) (rest : List String)
    (hnum : pyFloatOk t0 = true) (harg : ∀ t ∈ t0 :: rest, classify s t = .arg) :
    (∀ b, parseArgs s (t0 :: rest) = .ok b →
       (rest = [] ∧ b.lookup n.dest = convertOne n t0 ∧ b.lookup d.dest = some d.defaultVal) ∨
       (∃ t1, rest = [t1] ∧ b.lookup n.dest = convertOne n t0 ∧ b.lookup d.dest = convertOne d t1)) ∧
    ((∃ b, parseArgs s (t0 :: rest) = .ok b) ↔
       ((rest = [] ∧ (convertOne n t0).isSome) ∨
        (∃ t1, rest = [t1] ∧ (convertOne n t0).isSome ∧ (convertOne d t1).isSome))) := by
  have hpa := dnum_parseArgs_compose s c n d h t0 rest hnum harg
  obtain ⟨_, _, _, _, _, _, hna, hda, _, _, _, _, hne, _⟩ := h
  rw [dnum_consumePos_nd n d hna hda] at hpa
  have hne1 : (n.dest == d.dest) = false := by simp [hne]
  rw [hpa]
  match rest with
  | [] =>
    cases hc : convertOne n t0 with
    | none => simp
    | some v => simp [List.lookup, hne1]
  | [t1] =>
    simp only []
    cases hc : convertOne n t0 with
    | none => simp
    | some v0 =>
      cases hc1 : convertOne d t1 with
      | none => simp [hc1]
      | some v1 => simp [List.lookup, hne1, hc1]
  | t1 :: t2 :: r => simp

end Cnfgen.Cli
