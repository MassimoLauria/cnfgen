/-
Helper lemmas for `Fam.tseitin`: shape of the constraint list, well-formedness, the
specification, and the handshake over a closed vertex set.
-/
import Lemmas.FamGraph
import Lemmas.Constr
import Lemmas.FamMapping
import Mathlib.Order.Interval.Finset.Nat
import Mathlib.Algebra.Group.Nat.Even
namespace Cnfgen
namespace Fam

theorem rangeN_one (n : Nat) : rangeN 1 (n + 1) = (List.range n).map (· + 1) := by
  simp [rangeN]

theorem zip_rangeN (n : Nat) (l : List Bool) (h : n ≤ l.length) :
    (rangeN 1 (n + 1)).zip l = (List.range n).map (fun i => (i + 1, l.getD i false)) := by
  rw [rangeN_one]
  apply List.ext_getElem
  · simp; omega
  · intro i h1 h2
    simp only [List.length_map, List.length_range] at h2
    simp [List.getD_eq_getElem?_getD, List.getElem?_eq_getElem (show i < l.length by omega)]

theorem padCharges_length (n : Nat) (c : List Bool) : n ≤ (padCharges n c).length := by
  unfold padCharges
  split
  · simp; omega
  · omega

theorem padCharges_getD (n : Nat) (c : List Bool) (i : Nat) :
    (padCharges n c).getD i false = c.getD i false := by
  unfold padCharges
  split
  · simp only [List.getD_eq_getElem?_getD, List.getElem?_append]
    split
    · rfl
    · rw [List.getElem?_eq_none (l := c) (by omega)]
      simp only [List.getElem?_replicate]
      split <;> rfl
  · rfl

theorem charges_length (n : Nat) (ch : Option (List Bool)) : n ≤ (charges n ch).length :=
  padCharges_length _ _

/-- the charge the formula puts on vertex `v` -/
def chargeAt (n : Nat) (ch : Option (List Bool)) (v : Nat) : Bool := (charges n ch).getD (v - 1) false

theorem chargeAt_none (n v : Nat) (hv : 1 ≤ v) : chargeAt n none v = decide (v = 1) := by
  unfold chargeAt charges
  rw [padCharges_getD]
  rcases Nat.eq_or_lt_of_le hv with rfl | h1
  · simp
  · obtain ⟨k, rfl⟩ : ∃ k, v = k + 2 := ⟨v - 2, by omega⟩
    simp [List.getD_eq_getElem?_getD, List.getElem?_replicate]
    split <;> rfl

theorem chargeAt_some (n : Nat) (c : List Bool) (v : Nat) :
    chargeAt n (some c) v = c.getD (v - 1) false := by
  unfold chargeAt charges
  rw [padCharges_getD]

theorem tseitin_cons (G : SimpleG) (ch : Option (List Bool)) :
    (tseitin G ch).cons = (List.range G.n).map (fun i =>
      Con.parity (tseitinLits G (i + 1)) (if chargeAt G.n ch (i + 1) then 1 else 0)) := by
  unfold tseitin
  simp only
  rw [zip_rangeN _ _ (charges_length _ _), List.map_map]
  rfl

theorem edgeId_pos (G : SimpleG) (u v : Nat) : 1 ≤ edgeId G 1 u v := by
  unfold edgeId edgeOffset; omega

theorem count_tseitinLits (G : SimpleG) (α : Assign) (v : Nat) :
    count α (tseitinLits G v) = (G.nbrs v).countP (fun u => α (edgeId G 1 u v)) := by
  unfold count tseitinLits
  rw [List.countP_map]
  congr 1
  funext u
  simp [litHolds_natCast α (edgeId_pos G u v)]

/-- number of true edge variables at `v` -/
def vcount (G : SimpleG) (α : Assign) (v : Nat) : Nat :=
  (G.nbrs v).countP (fun u => α (edgeId G 1 u v))

/-- the specification predicate: at every vertex the number of true incident edge variables has
the parity of the charge -/
def TseitinSpec (G : SimpleG) (ch : Option (List Bool)) (α : Assign) : Prop :=
  ∀ v, 1 ≤ v → v ≤ G.n →
    (G.nbrs v).countP (fun u => α (edgeId G 1 u v)) % 2 = (if chargeAt G.n ch v then 1 else 0)

theorem tseitin_holds_iff (G : SimpleG) (ch : Option (List Bool)) (α : Assign) :
    (tseitin G ch).holds α = true ↔ TseitinSpec G ch α := by
  unfold Formula.holds TseitinSpec
  rw [tseitin_cons]
  simp only [List.all_map, List.all_eq_true, List.mem_range, Function.comp, Con.holds,
    decide_eq_true_eq, count_tseitinLits]
  constructor
  · intro h v hv1 hvn
    have := h (v - 1) (by omega)
    rw [Nat.sub_add_cancel hv1] at this
    rw [this]
    cases chargeAt G.n ch v <;> simp
  · intro h i hi
    rw [h (i + 1) (by omega) (by omega)]
    cases chargeAt G.n ch (i + 1) <;> simp

theorem tseitinLits_in {G : SimpleG} (hG : GoodGraph G) {v : Nat} (hv : v ≤ G.n) :
    LitsIn 1 G.edges.length (tseitinLits G v) :=
  LitsIn.map fun u hu => by
    have hb := edgeId_bounds hG 1 hv hu
    rw [edgeId_comm] at hb
    exact LitsIn.pos hb.1 ⟨hb.1, by omega⟩ LitsIn.nil

theorem tseitin_wf (G : SimpleG) (hG : GoodGraph G) (ch : Option (List Bool)) : (tseitin G ch).WF := by
  apply G2.wf_of_consIn (lo := 1)
  rw [tseitin_cons]
  exact G2.ConsIn.map fun i hi => tseitinLits_in hG (Nat.succ_le_of_lt (List.mem_range.1 hi))

/-- a vertex set closed under adjacency, cut down to the vertices `1..n`, is one of the finite sets
of `Fam.handshake` -/
theorem closed_nbrs_ok {G : SimpleG} (hG : GoodGraph G) (C : Nat → Bool)
    (hC : ∀ v u, C v = true → u ∈ G.nbrs v → C u = true) :
    ∀ v ∈ (Finset.Icc 1 G.n).filter (fun v => C v = true), (G.nbrs v).Nodup ∧
      ∀ u ∈ G.nbrs v, u ∈ (Finset.Icc 1 G.n).filter (fun v => C v = true) ∧ u ≠ v ∧ v ∈ G.nbrs u := by
  intro v hv
  rw [Finset.mem_filter, Finset.mem_Icc] at hv
  exact ⟨hG.nodup hv.1.2, fun u hu =>
    have hm := hG.mem hv.1.2 hu
    ⟨Finset.mem_filter.2 ⟨Finset.mem_Icc.2 ⟨hm.1, hm.2.1⟩, hC v u hv.2 hu⟩, hm.2.2.1, hm.2.2.2⟩⟩

/-- `Lemmas/FamPitfallTseitin.lean` instantiates `handshake_even` a second time, for the Tseitin generator of the
pitfall formula, whose edge identifiers are a different function of the model. -/
theorem closed_vcount_even {G : SimpleG} (hG : GoodGraph G) (α : Assign) (C : Nat → Bool)
    (hC : ∀ v u, C v = true → u ∈ G.nbrs v → C u = true) :
    Even (∑ v ∈ (Finset.Icc 1 G.n).filter (fun v => C v = true), vcount G α v) :=
  handshake_even _ G.nbrs (fun u v => α (edgeId G 1 u v)) (fun u v => by rw [edgeId_comm])
    (closed_nbrs_ok hG C hC)

end Fam
end Cnfgen
