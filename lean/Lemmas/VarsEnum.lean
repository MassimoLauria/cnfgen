/-
What the index ↔ identifier functions of every variable-group class have in common: `index`
enumerates the list `idxs` of legal indices from the identifier `s`.
-/
import CnfgenModel.Core.Sem
import Lemmas.Exc
import Mathlib.Data.List.Nodup
namespace Cnfgen
namespace Vars

/-- the `k`-th entry of `idxs` has identifier `s + k`, a literal whose variable is the identifier of
an entry converts back to that entry, and literals outside `[s, s + len)` are refused -/
structure Enumerates {α : Type} (idxs : List α) (id : α → Nat) (index : Int → Except Err α)
    (s len : Nat) : Prop where
  ids : idxs.map id = List.range' s len
  index_id : ∀ x ∈ idxs, ∀ lit : Int, lit.natAbs = id x → index lit = .ok x
  reject : ∀ lit : Int, ¬ (s ≤ lit.natAbs ∧ lit.natAbs < s + len) → index lit = .error .valueError

section Ids
variable {α : Type} {idxs : List α} {id : α → Nat} {s len : Nat} (h : idxs.map id = List.range' s len)
include h

theorem ids_range {x : α} (hx : x ∈ idxs) : s ≤ id x ∧ id x < s + len :=
  List.mem_range'_1.1 (h ▸ List.mem_map_of_mem hx)

theorem ids_inj {x y : α} (hx : x ∈ idxs) (hy : y ∈ idxs) (e : id x = id y) : x = y :=
  List.inj_on_of_nodup_map (h ▸ List.nodup_range') hx hy e

theorem ids_nodup : idxs.Nodup :=
  List.Nodup.of_map id (h ▸ List.nodup_range')

theorem ids_surj {v : Nat} (hv : s ≤ v ∧ v < s + len) : ∃ x ∈ idxs, id x = v :=
  List.mem_map.1 (h ▸ List.mem_range'_1.2 hv)

theorem ids_getElem {i : Nat} (hi : i < idxs.length) : id idxs[i] = s + i := by
  have hl : idxs.length = len := by simpa using congrArg List.length h
  have := congrArg (·[i]?) h
  simpa [hi, hl ▸ hi] using this

theorem ids_idxOf [BEq α] [LawfulBEq α] {x : α} (hx : x ∈ idxs) : s + idxs.idxOf x = id x := by
  have hi := List.idxOf_lt_length_of_mem hx
  rw [← ids_getElem h hi, List.getElem_idxOf hi]

end Ids

theorem map_range'_of_add {f : Nat → Nat} {s c len : Nat} (h : ∀ t < len, f (s + t) = c + t) :
    (List.range' s len).map f = List.range' c len := by
  rw [List.range'_eq_map_range, List.range'_eq_map_range, List.map_map]
  exact List.map_congr_left fun t ht => h t (List.mem_range.1 ht)

/-- rows whose identifiers are consecutive intervals (`tot i` identifiers stand before row `i`) enumerate an interval:
the prefix sums of the edge groups, the multiples of the blocks and of the binary mappings -/
theorem ids_flatMap {β : Type} {row : Nat → List β} {id : β → Nat} {s : Nat} {tot len : Nat → Nat} (h0 : tot 0 = 0)
    (hs : ∀ i, tot (i + 1) = tot i + len i) (n : Nat)
    (h : ∀ i < n, (row i).map id = List.range' (s + tot i) (len i)) :
    ((List.range n).flatMap row).map id = List.range' s (tot n) := by
  induction n with
  | zero => rw [h0]; rfl
  | succ n ih =>
    rw [List.range_succ, List.flatMap_append, List.map_append, ih fun i hi => h i (Nat.lt_succ_of_lt hi), hs,
      ← List.range'_append_1, List.flatMap_singleton, h n (Nat.lt_succ_self n)]

namespace Enumerates
variable {α : Type} {idxs : List α} {id : α → Nat} {index : Int → Except Err α} {s len : Nat}

theorem of_both (ids : idxs.map id = List.range' s len)
    (both : ∀ x ∈ idxs, index (id x : Int) = .ok x ∧ index (-(id x : Int)) = .ok x)
    (reject : ∀ lit : Int, ¬ (s ≤ lit.natAbs ∧ lit.natAbs < s + len) → index lit = .error .valueError) :
    Enumerates idxs id index s len where
  ids := ids
  index_id := fun x hx lit hl => by
    rcases Int.natAbs_eq lit with h | h <;> rw [h, hl]
    · exact (both x hx).1
    · exact (both x hx).2
  reject := reject

theorem map {β : Type} (h : Enumerates idxs id index s len) (f : α → β) {id' : β → Nat}
    (hid : ∀ x ∈ idxs, id' (f x) = id x) :
    Enumerates (idxs.map f) id' (fun lit => (index lit).map f) s len where
  ids := by
    rw [List.map_map, ← h.ids]
    exact List.map_congr_left hid
  index_id := fun y hy lit hl => by
    obtain ⟨x, hx, rfl⟩ := List.mem_map.1 hy
    rw [h.index_id x hx lit (hl.trans (hid x hx))]
    rfl
  reject := fun lit hr => by
    rw [h.reject lit hr]
    rfl

theorem filter_sorted (h : Enumerates idxs id index s len) (p : α → Bool) :
    ((idxs.filter p).map id).Pairwise (· < ·) :=
  List.Pairwise.sublist (h.ids ▸ List.filter_sublist.map id) List.pairwise_lt_range'

theorem length_eq (h : Enumerates idxs id index s len) : idxs.length = len := by
  have := congrArg List.length h.ids
  rwa [List.length_map, List.length_range'] at this

theorem index_both (h : Enumerates idxs id index s len) {x : α} (hx : x ∈ idxs) :
    index (id x : Int) = .ok x ∧ index (-(id x : Int)) = .ok x :=
  ⟨h.index_id x hx _ (Int.natAbs_natCast _), h.index_id x hx _ (by rw [Int.natAbs_neg, Int.natAbs_natCast])⟩

theorem exists_of_range (h : Enumerates idxs id index s len) {v : Nat} (hv : s ≤ v ∧ v < s + len) :
    ∃ x ∈ idxs, id x = v :=
  ids_surj h.ids hv

theorem isOk_iff (h : Enumerates idxs id index s len) (lit : Int) :
    (∃ x, index lit = .ok x) ↔ (s ≤ lit.natAbs ∧ lit.natAbs < s + len) := by
  constructor
  · rintro ⟨x, hx⟩
    refine Classical.not_not.1 fun hr => ?_
    rw [h.reject lit hr] at hx
    cases hx
  · intro hr
    obtain ⟨y, hy, hid⟩ := h.exists_of_range hr
    exact ⟨y, h.index_id y hy lit hid.symm⟩

theorem id_index (h : Enumerates idxs id index s len) {lit : Int} {x : α} (hi : index lit = .ok x) :
    x ∈ idxs ∧ id x = lit.natAbs := by
  obtain ⟨y, hy, hid⟩ := h.exists_of_range ((h.isOk_iff lit).1 ⟨x, hi⟩)
  rw [h.index_id y hy lit hid.symm] at hi
  cases hi
  exact ⟨hy, hid⟩

theorem error_eq (h : Enumerates idxs id index s len) {lit : Int} {e : Err} (he : index lit = .error e) :
    e = .valueError := by
  by_cases hr : s ≤ lit.natAbs ∧ lit.natAbs < s + len
  · obtain ⟨x, hx⟩ := (h.isOk_iff lit).2 hr
    rw [hx] at he
    cases he
  · rw [h.reject lit hr] at he
    cases he
    rfl

/-- functions `gId`, `gIdx` on another index type (the translated `_unsafe_index_to_lit`, `to_index`) that agree with
`id`, `index` through `emb` satisfy the same bijection, stated on them alone -/
theorem transport {β : Type} (E : Enumerates idxs id index s len) (emb : α → β)
    {gId : β → Except Err Int} {gIdx : Int → Except Err β}
    (hid : ∀ x ∈ idxs, gId (emb x) = .ok (id x : Int))
    (hidx : ∀ lit, gIdx lit = (index lit).map emb) :
    (idxs.map emb).mapM gId = .ok ((List.range' s (idxs.map emb).length).map Int.ofNat) ∧
    (len : Int) = (idxs.map emb).length ∧
    (∀ t ∈ idxs.map emb, ∃ i, gId t = .ok i ∧ gIdx i = .ok t ∧ gIdx (-i) = .ok t) ∧
    (∀ lit t, gIdx lit = .ok t → t ∈ idxs.map emb ∧ gId t = .ok (lit.natAbs : Int)) := by
  refine ⟨?_, ?_, ?_, ?_⟩
  · rw [List.length_map, E.length_eq, ← E.ids, List.map_map, List.mapM_map]
    exact mapM_ok _ _ _ hid
  · rw [List.length_map, E.length_eq]
  · intro t ht
    obtain ⟨x, hx, rfl⟩ := List.mem_map.1 ht
    have hb := E.index_both hx
    exact ⟨_, hid x hx, by rw [hidx, hb.1]; rfl, by rw [hidx, hb.2]; rfl⟩
  · intro lit t ht
    rw [hidx] at ht
    cases hi : index lit with
    | error e => rw [hi] at ht; cases ht
    | ok x =>
      rw [hi] at ht
      cases ht
      have := E.id_index hi
      exact ⟨List.mem_map_of_mem this.1, by rw [hid x this.1, this.2]⟩

end Enumerates
end Vars
end Cnfgen
