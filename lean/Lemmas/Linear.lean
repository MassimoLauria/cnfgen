import CnfgenModel.Build.Linear
import Lemmas.Basic
namespace Cnfgen
open Linear

theorem all_hold_map_cons (α : Assign) (x : Int) (cs : List Clause) :
    (∀ c ∈ cs.map (x :: ·), clauseHolds α c = true) ↔
      (litHolds α x = true ∨ ∀ c ∈ cs, clauseHolds α c = true) := by
  simp only [List.forall_mem_map, clauseHolds_cons, Bool.or_eq_true]
  cases litHolds α x <;> simp

theorem count_cons (α : Assign) (x : Int) (xs : List Int) :
    count α (x :: xs) = count α xs + (if litHolds α x then 1 else 0) :=
  List.countP_cons ..

theorem count_le_length (α : Assign) (xs : List Int) : count α xs ≤ xs.length :=
  List.countP_le_length

def falses (α : Assign) (ls : List Int) : Nat := ls.countP (fun l => !litHolds α l)

theorem falses_cons (α : Assign) (x : Int) (xs : List Int) :
    falses α (x :: xs) = falses α xs + (if litHolds α x then 0 else 1) := by
  unfold falses
  rw [List.countP_cons]
  cases litHolds α x <;> rfl

theorem count_add_falses (α : Assign) (ls : List Int) : count α ls + falses α ls = ls.length := by
  induction ls with
  | nil => rfl
  | cons x xs ih =>
    rw [count_cons, falses_cons, List.length_cons, ← ih]
    cases litHolds α x
    · rfl
    · exact Nat.add_right_comm ..

/-- the combinatorial heart of `add_linear` -/
theorem combos_all_hold (α : Assign) (ls : List Int) (j : Nat) :
    (∀ c ∈ combos ls j, clauseHolds α c = true) ↔ falses α ls < j := by
  induction ls generalizing j with
  | nil => cases j <;> simp [combos, clauseHolds, falses]
  | cons x xs ih =>
    cases j with
    | zero => simp [combos, clauseHolds]
    | succ j =>
      rw [combos, List.forall_mem_append, all_hold_map_cons, ih, ih, falses_cons]
      cases litHolds α x
      · simp only [Bool.false_eq_true, false_or, if_false, Nat.add_lt_add_iff_right, and_iff_left_iff_imp]
        exact Nat.lt_succ_of_lt
      · simp only [true_or, true_and, if_true, Nat.add_zero]

theorem geq_holds (α : Assign) (ls : List Int) (k : Int) :
    (∀ c ∈ geq ls k, clauseHolds α c = true) ↔ k ≤ (count α ls : Int) := by
  unfold geq
  split
  next h0 =>
    simp only [List.not_mem_nil, false_imp_iff, implies_true, true_iff]
    exact Int.le_trans h0 (Int.natCast_nonneg _)
  next h0 =>
    obtain ⟨n, rfl⟩ := Int.eq_ofNat_of_zero_le (Int.le_of_lt (Int.not_le.1 h0))
    rw [Int.toNat_natCast, Int.ofNat_le]
    split
    next h1 =>
      simp only [List.forall_mem_singleton, clauseHolds, List.any_nil, Bool.false_eq_true, false_iff]
      exact fun h => Int.not_le.2 h1 (Int.ofNat_le.2 (Nat.le_trans h (count_le_length α ls)))
    next h1 =>
      rw [combos_all_hold]
      have := count_add_falses α ls
      omega

theorem count_map_neg (α : Assign) (ls : List Int) (h : ∀ l ∈ ls, l ≠ 0) :
    count α (ls.map (fun l => -l)) = falses α ls := by
  induction ls with
  | nil => rfl
  | cons x xs ih =>
    rw [List.forall_mem_cons] at h
    rw [List.map_cons, count_cons, falses_cons, ih h.2, litHolds_neg α x h.1]
    cases litHolds α x <;> rfl

theorem leq_holds (α : Assign) (ls : List Int) (k : Int) (h : ∀ l ∈ ls, l ≠ 0) :
    (∀ c ∈ leq ls k, clauseHolds α c = true) ↔ (count α ls : Int) ≤ k := by
  unfold leq
  rw [geq_holds, count_map_neg α ls h]
  have := count_add_falses α ls
  omega

theorem clauseHolds_iff_count_pos (α : Assign) (c : Clause) : clauseHolds α c = true ↔ 0 < count α c := by
  rw [clauseHolds, count, List.any_eq_true, List.countP_pos_iff]

theorem neqClauses_holds (α : Assign) (ls : List Int) (k : Nat) (h : ∀ l ∈ ls, l ≠ 0) :
    (∀ c ∈ neqClauses ls k, clauseHolds α c = true) ↔ count α ls ≠ k := by
  induction ls generalizing k with
  | nil =>
    cases k with
    | zero =>
      rw [neqClauses, List.forall_mem_singleton, clauseHolds_iff_count_pos]
      exact Nat.pos_iff_ne_zero
    | succ k =>
      simp only [neqClauses, List.not_mem_nil, false_imp_iff, implies_true, true_iff]
      exact (Nat.succ_ne_zero k).symm
  | cons x xs ih =>
    rw [List.forall_mem_cons] at h
    cases k with
    | zero =>
      rw [neqClauses, List.forall_mem_singleton, clauseHolds_iff_count_pos]
      exact Nat.pos_iff_ne_zero
    | succ k =>
      rw [neqClauses, List.forall_mem_append, all_hold_map_cons, all_hold_map_cons, ih _ h.2, ih _ h.2,
        litHolds_neg α x h.1, count_cons]
      cases litHolds α x
      · simp only [Bool.false_eq_true, false_or, Bool.not_false, true_or, true_and, if_false, Nat.add_zero]
      · simp only [true_or, and_true, Bool.not_true, Bool.false_eq_true, false_or, if_true, ne_eq,
          Nat.add_right_cancel_iff]

theorem neq_holds (α : Assign) (ls : List Int) (k : Int) (h : ∀ l ∈ ls, l ≠ 0) :
    (∀ c ∈ neq ls k, clauseHolds α c = true) ↔ (count α ls : Int) ≠ k := by
  unfold neq
  split
  next hk =>
    simp only [List.not_mem_nil, false_imp_iff, implies_true, true_iff]
    rintro rfl
    rcases hk with hk | hk
    · exact Int.not_le.2 hk (Int.natCast_nonneg _)
    · exact Int.not_le.2 hk (Int.ofNat_le.2 (count_le_length α ls))
  next hk =>
    obtain ⟨n, rfl⟩ := Int.eq_ofNat_of_zero_le (Int.not_lt.1 fun h0 => hk (Or.inl h0))
    rw [neqClauses_holds α ls _ h, Int.toNat_natCast, ne_eq, ne_eq, Int.natCast_inj]

theorem odd_succ (n : Nat) : decide ((n + 1) % 2 = 1) = !decide (n % 2 = 1) := by
  rw [Nat.add_mod]
  rcases Nat.mod_two_eq_zero_or_one n with h | h <;> rw [h] <;> rfl

theorem parityClauses_holds (α : Assign) (ls : List Int) (want : Bool) (h : ∀ l ∈ ls, l ≠ 0) :
    (∀ c ∈ parityClauses ls want, clauseHolds α c = true) ↔ (decide (count α ls % 2 = 1)) = want := by
  induction ls generalizing want with
  | nil => cases want <;> simp [parityClauses, clauseHolds, count]
  | cons x xs ih =>
    rw [List.forall_mem_cons] at h
    rw [parityClauses, List.forall_mem_append, all_hold_map_cons, all_hold_map_cons, ih _ h.2, ih _ h.2,
      litHolds_neg α x h.1, count_cons]
    cases litHolds α x
    · simp only [Bool.false_eq_true, false_or, Bool.not_false, true_or, and_true, if_false, Nat.add_zero]
    · simp only [true_or, true_and, Bool.not_true, Bool.false_eq_true, false_or, if_true, odd_succ,
        Bool.not_eq_eq_eq_not]

/-- `add_parity` with any constant: 1 asks for an odd count, every other value for an even one -/
theorem parity_holds_const (α : Assign) (ls : List Int) (constant : Int) (h : ∀ l ∈ ls, l ≠ 0) :
    (∀ c ∈ parity ls constant, clauseHolds α c = true) ↔
      count α ls % 2 = (if (constant == 1) = true then 1 else 0) := by
  rw [parity, parityClauses_holds α ls _ h]
  cases constant == 1
  · exact decide_eq_false_iff_not.trans Nat.mod_two_not_eq_one
  · exact decide_eq_true_iff

end Cnfgen
