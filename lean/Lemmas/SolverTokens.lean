/-
Helper lemmas for C20: Python's `str.split()`, `int()` and `sorted(key=abs)` as modelled in
`CnfgenModel/Solver/Parse.lean`.
-/
import CnfgenModel.Solver.Parse
import Lemmas.InsSort
import Lemmas.NatStr
namespace Cnfgen.Solver

/-- equality of results is decidable (used by the `decide`d examples on concrete outputs) -/
instance instDecEqExcept {ε α} [DecidableEq ε] [DecidableEq α] : DecidableEq (Except ε α)
  | .ok x, .ok y => decidable_of_iff (x = y) (by simp)
  | .error x, .error y => decidable_of_iff (x = y) (by simp)
  | .ok _, .error _ => isFalse nofun
  | .error _, .ok _ => isFalse nofun

def AllSpace (s : Str) : Prop := ∀ c ∈ s, isSpace c = true
def NoSpace (s : Str) : Prop := ∀ c ∈ s, isSpace c = false

theorem pySplitAux_noSpace (t rest cur : Str) (ht : NoSpace t) :
    pySplitAux (t ++ rest) cur = pySplitAux rest (cur ++ t) := by
  induction t generalizing cur with
  | nil => simp
  | cons c cs ih =>
    have hc : isSpace c = false := ht c (by simp)
    have hcs : NoSpace cs := fun d hd => ht d (by simp [hd])
    have e : cur ++ c :: cs = (cur ++ [c]) ++ cs := by simp
    rw [e, ← ih _ hcs]
    simp [pySplitAux, hc]

theorem pySplitAux_allSpace (ws rest cur : Str) (h : AllSpace ws) (hne : ws ≠ [] ∨ cur = []) :
    pySplitAux (ws ++ rest) cur = (if cur = [] then [] else [cur]) ++ pySplitAux rest [] := by
  induction ws generalizing cur with
  | nil => simp [hne.resolve_left (· rfl)]
  | cons c cs ih =>
    have hc := h c (by simp)
    have := ih [] (fun d hd => h d (by simp [hd])) (.inr rfl)
    by_cases hcur : cur = [] <;> simp_all [pySplitAux]

theorem pySplitAux_allSpace_nil (ws rest : Str) (h : AllSpace ws) :
    pySplitAux (ws ++ rest) [] = pySplitAux rest [] :=
  pySplitAux_allSpace ws rest [] h (.inr rfl)

theorem pySplitAux_allSpace_end (ws cur : Str) (h : AllSpace ws) :
    pySplitAux ws cur = if cur = [] then [] else [cur] := by
  by_cases hne : ws ≠ [] ∨ cur = []
  · simpa [pySplitAux] using pySplitAux_allSpace ws [] cur h hne
  · obtain ⟨rfl, hcur⟩ : ws = [] ∧ cur ≠ [] := by simpa [not_or] using hne
    simp [pySplitAux, hcur]

/-- tokens glued with their leading separators: `sep₁ tok₁ sep₂ tok₂ …` -/
def glue : List (Str × Str) → Str
  | [] => []
  | p :: r => p.1 ++ p.2 ++ glue r

def GoodSegs (segs : List (Str × Str)) : Prop :=
  ∀ p ∈ segs, AllSpace p.1 ∧ p.1 ≠ [] ∧ NoSpace p.2 ∧ p.2 ≠ []

theorem pySplitAux_glue (segs : List (Str × Str)) (h : GoodSegs segs) (tail : Str)
    (ht : AllSpace tail) (cur : Str) :
    pySplitAux (glue segs ++ tail) cur = (if cur = [] then [] else [cur]) ++ segs.map (·.2) := by
  induction segs generalizing cur with
  | nil => simp [glue, pySplitAux_allSpace_end tail cur ht]
  | cons p r ih =>
    obtain ⟨h1, h2, h3, h4⟩ := h p (by simp)
    have hr : GoodSegs r := fun q hq => h q (by simp [hq])
    have e : glue (p :: r) ++ tail = p.1 ++ (p.2 ++ (glue r ++ tail)) := by simp [glue]
    rw [e]
    rw [pySplitAux_allSpace _ _ cur h1 (.inl h2), pySplitAux_noSpace _ _ _ h3, ih hr]
    simp [h4]

theorem pySplit_glue (segs : List (Str × Str)) (h : GoodSegs segs) (tail : Str) (ht : AllSpace tail) :
    pySplit (glue segs ++ tail) = segs.map (·.2) := by
  simp [pySplit, pySplitAux_glue segs h tail ht]

theorem pySplit_word_glue (w : Str) (hw : NoSpace w) (hne : w ≠ []) (segs : List (Str × Str))
    (h : GoodSegs segs) (tail : Str) (ht : AllSpace tail) :
    pySplit (w ++ (glue segs ++ tail)) = w :: segs.map (·.2) := by
  unfold pySplit
  rw [pySplitAux_noSpace _ _ _ hw, pySplitAux_glue segs h tail ht]
  simp [hne]

open Cnfgen.IO (IsDigit digitsFrom natStr_digits)

theorem pyNatAux_digits (ds ys : Str) (acc nd : Nat) (b : Bool) (h : ∀ c ∈ ds, IsDigit c) :
    pyNatAux (ds ++ ys) acc nd b =
      pyNatAux ys (digitsFrom acc ds) (nd + ds.length) (if ds = [] then b else true) := by
  induction ds generalizing acc nd b with
  | nil => simp [digitsFrom]
  | cons c cs ih =>
    obtain ⟨h1, h2⟩ : IsDigit c := h c (by simp)
    have h95 : (c.toNat == 95) = false := by simp; omega
    have hdv : digitVal c = some (c.toNat - 48) := by simp [digitVal, h1, h2]
    simp only [List.cons_append, pyNatAux, h95, hdv, Bool.false_eq_true, if_false,
      ih _ _ _ fun d hd => h d (by simp [hd])]
    rw [show nd + 1 + cs.length = nd + (c :: cs).length by simp; omega]
    by_cases hcs' : cs = [] <;> simp [hcs', digitsFrom]

theorem digitChar_eq : ∀ d, d < 10 → digitChar d = IO.digitChar d := by decide

/-- the decimal printer of this model is `IO.natStr`; what is known of a printed number is in `Lemmas/NatStr.lean` -/
theorem showNat_eq (n : Nat) : showNat n = IO.natStr n := by
  suffices h : ∀ fuel n, n < fuel → showNatF fuel n = IO.natStr n from h _ n (Nat.lt_succ_self n)
  intro fuel
  induction fuel with
  | zero => intro n h; omega
  | succ f ih =>
    intro n h
    unfold showNatF
    split
    · rename_i hn
      rw [IO.natStr_lt10 hn, digitChar_eq n hn]
    · rw [IO.natStr_ge10 (by omega), ih _ (by omega), digitChar_eq _ (Nat.mod_lt _ (by omega))]

theorem pyNatAux_showNat (n : Nat) :
    pyNatAux (showNat n) 0 0 false = some (n, (showNat n).length) := by
  obtain ⟨hd, hne, hv⟩ := natStr_digits n
  have h := pyNatAux_digits (IO.natStr n) [] 0 0 false hd
  simp only [List.append_nil] at h
  rw [showNat_eq, h]
  simp [hv, hne, pyNatAux]

theorem showNat_head (n : Nat) : ∃ c cs, showNat n = c :: cs ∧ IsDigit c := by
  obtain ⟨hd, hne, _⟩ := natStr_digits n
  rw [showNat_eq]
  cases h : IO.natStr n with
  | nil => exact absurd h hne
  | cons c cs => exact ⟨c, cs, rfl, hd c (h ▸ List.mem_cons_self)⟩

theorem pyInt_showInt (i : Int) (h : i.natAbs < 10 ^ maxStrDigits) : pyInt (showInt i) = some i := by
  have hgt : ¬ (showNat i.natAbs).length > maxStrDigits :=
    Nat.not_lt.mpr (showNat_eq _ ▸ (IO.natStr_length_le _ _ (by decide)).2 h)
  have hnat := pyNatAux_showNat i.natAbs
  unfold showInt
  split
  · have : ('-' : Char).toNat == 45 := by decide
    simp only [pyInt, this, if_true, hnat, hgt, if_false]
    congr 1; omega
  · obtain ⟨c, cs, hcs, hd⟩ := showNat_head i.natAbs
    have h45 : (c.toNat == 45) = false := by unfold IsDigit at hd; simp; omega
    have h43 : (c.toNat == 43) = false := by unfold IsDigit at hd; simp; omega
    rw [hcs] at hnat hgt ⊢
    simp only [pyInt, h45, h43, hnat, hgt, Bool.false_eq_true, if_false]
    congr 1; omega

theorem isSpace_of_digit (c : Char) (h : IsDigit c) : isSpace c = false := by
  unfold IsDigit at h
  unfold isSpace
  simp only [Bool.or_eq_false_iff, Bool.and_eq_false_imp, decide_eq_true_eq, decide_eq_false_iff_not,
    Nat.not_le, beq_eq_false_iff_ne, ne_eq]
  omega

theorem noSpace_showNat (n : Nat) : NoSpace (showNat n) :=
  fun c hc => isSpace_of_digit c ((natStr_digits n).1 c (showNat_eq n ▸ hc))

theorem noSpace_showInt (i : Int) : NoSpace (showInt i) := by
  unfold showInt
  split
  · intro c hc
    simp only [List.mem_cons] at hc
    rcases hc with rfl | hc
    · decide
    · exact noSpace_showNat _ c hc
  · exact noSpace_showNat _

theorem showInt_ne_nil (i : Int) : showInt i ≠ [] := by
  unfold showInt
  split
  · simp
  · exact showNat_eq _ ▸ (natStr_digits _).2.1

theorem showInt_ne_tokV (i : Int) : showInt i ≠ tokV := by
  unfold showInt tokV
  split
  · intro h; injection h with h1 _; revert h1; decide
  · obtain ⟨c, cs, hcs, hd⟩ := showNat_head i.natAbs
    rw [hcs]; intro h; injection h with h1 _
    subst h1; unfold IsDigit at hd; revert hd; decide

theorem showInt_ne_tok0 (i : Int) (hi : i ≠ 0) : showInt i ≠ tok0 := by
  unfold showInt tok0
  split
  · intro h; injection h with h1 _; revert h1; decide
  · intro h
    -- the digits `0` have value 0
    have hv := (natStr_digits i.natAbs).2.2
    rw [← showNat_eq, show showNat i.natAbs = ['0'] from h] at hv
    simp [digitsFrom] at hv
    omega

theorem mapE_ok_map {α β} (f : α → Except Err β) (g : α → β) (l : List α)
    (h : ∀ x ∈ l, f x = .ok (g x)) : mapE f l = .ok (l.map g) := by
  induction l with
  | nil => rfl
  | cons x xs ih =>
    have hx := h x (by simp)
    have hxs := ih (fun y hy => h y (by simp [hy]))
    simp [mapE, hx, hxs]

theorem mapE_pyIntE_error (l : List Str) (e : Err) (h : mapE pyIntE l = .error e) : e = .valueError := by
  induction l with
  | nil => simp [mapE] at h
  | cons t ts ih =>
    simp only [mapE] at h
    cases hp : pyIntE t with
    | error e1 =>
      rw [hp] at h
      unfold pyIntE at hp
      split at hp
      · cases hp
      · injection hp with hp; injection h with h; rw [← h, ← hp]
    | ok i =>
      rw [hp] at h
      cases hm : mapE pyIntE ts with
      | error e2 => rw [hm] at h; injection h with h; subst h; exact ih hm
      | ok ys => rw [hm] at h; cases h

theorem catchValueError_ok {α} (x : Except Err α) (a : α) : catchValueError x = .ok a ↔ x = .ok a := by
  cases x with
  | ok b => simp [catchValueError]
  | error e => cases e <;> simp [catchValueError]

theorem catchValueError_mapE (l : List Str) (e : Err)
    (h : catchValueError (mapE pyIntE l) = .error e) : e = .runtimeError := by
  cases hm : mapE pyIntE l with
  | ok ys => rw [hm] at h; simp [catchValueError] at h
  | error e1 =>
    have := mapE_pyIntE_error l e1 hm
    subst this
    rw [hm] at h
    simp [catchValueError] at h
    exact h.symm

private theorem insertByVar_cons (x : Int) (xs : List Int) (v : Int) :
    insertByVar v (x :: xs) = if ¬ v.natAbs ≤ x.natAbs then x :: insertByVar v xs else v :: x :: xs := by
  rw [insertByVar, ite_not]

theorem sortByVar_perm (l : List Int) : (sortByVar l).Perm l :=
  InsSort.foldr_ins_perm (ins := fun l v => insertByVar v l) (fun _ => rfl) insertByVar_cons l

def ByVar (l : List Int) : Prop := l.Pairwise (fun a b => a.natAbs ≤ b.natAbs)

theorem sortByVar_sorted (l : List Int) : ByVar (sortByVar l) :=
  InsSort.foldr_ins_sorted (r := fun a b : Int => a.natAbs ≤ b.natAbs) (ins := fun l v => insertByVar v l)
    (fun _ => rfl) insertByVar_cons (fun _ _ h => by omega) (fun _ _ h => by omega)
    (fun _ _ _ => Nat.le_trans) l

theorem sortByVar_eq_nil (l : List Int) : sortByVar l = [] ↔ l = [] := by
  constructor
  · intro h
    have := (sortByVar_perm l).length_eq
    rw [h] at this
    exact List.length_eq_zero_iff.mp this.symm
  · rintro rfl; rfl

theorem mem_sortByVar (l : List Int) (x : Int) : x ∈ sortByVar l ↔ x ∈ l :=
  (sortByVar_perm l).mem_iff

theorem sortByVar_total (l : List Int) (n : Nat)
    (h : (l.map Int.natAbs).Perm (List.range' 1 n)) :
    (sortByVar l).map Int.natAbs = List.range' 1 n := by
  have hp : ((sortByVar l).map Int.natAbs).Perm (List.range' 1 n) :=
    ((sortByVar_perm l).map _).trans h
  have hs1 : ((sortByVar l).map Int.natAbs).Pairwise (· ≤ ·) := by
    have := sortByVar_sorted l
    unfold ByVar at this
    exact List.pairwise_map.mpr this
  have hs2 : (List.range' 1 n).Pairwise (· ≤ ·) := by
    have := List.pairwise_lt_range' (s := 1) (n := n) (step := 1)
    exact this.imp (fun h => Nat.le_of_lt h)
  exact List.Perm.eq_of_pairwise (fun a b _ _ h1 h2 => Nat.le_antisymm h1 h2) hs1 hs2 hp

end Cnfgen.Solver
