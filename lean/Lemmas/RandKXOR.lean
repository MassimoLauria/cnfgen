/-
Lemmas for the model of `cnfgen/families/randomkxor.py` (Rand/KXOR.lean).
-/
import CnfgenModel.Rand.KXOR
import Lemmas.RandKCNF
import Lemmas.Constr
namespace Cnfgen.Rand
open Cnfgen

/-- `value` of `parity_satisfied`: how many members of `X` are in the assignment -/
def xorCount (a : List Int) (X : List Int) : Nat := X.countP (fun x => a.contains x)

def TotalOn (n : Nat) (a : List Int) : Prop := ∀ v : Int, 1 ≤ v → v ≤ n → v ∈ a ∨ -v ∈ a

def ParityOK (X : List Int) (b : Int) (planted : List (List Int)) : Prop :=
  ∀ a ∈ planted, ((xorCount a X : Nat) : Int) % 2 = b

instance (X : List Int) (b : Int) (planted : List (List Int)) : Decidable (ParityOK X b planted) := by
  unfold ParityOK; infer_instance

def Decides (planted : List (List Int)) (X : List Int) : Prop := ∀ a ∈ planted, ∀ x ∈ X, x ∈ a ∨ -x ∈ a

theorem decides_of_total {k n : Nat} {planted : List (List Int)} (hT : ∀ a ∈ planted, TotalOn n a)
    {X : List Int} (hX : X ∈ combos (vars n) k) : Decides planted X := by
  intro a ha x hx
  obtain ⟨_, _, hm⟩ := mem_combos_vars.1 hX
  exact hT a ha x (hm x hx).1 (hm x hx).2

theorem parityValue_eq_xorCount {a X : List Int} (h : ∀ x ∈ X, x ∈ a ∨ -x ∈ a) :
    parityValue a X = .ok (xorCount a X) := by
  induction X with
  | nil => rfl
  | cons x xs ih =>
    have ih' := ih (fun y hy => h y (by simp [hy]))
    unfold parityValue
    by_cases hx : a.contains x = true
    · simp only [hx, if_true, ih', Except.map, xorCount, List.countP_cons]
    · have hx' : a.contains (-x) = true := by
        rcases h x (by simp) with h1 | h1
        · exact absurd (by simpa using h1) hx
        · simpa using h1
      simp only [hx, hx', if_true, ih', xorCount, List.countP_cons]
      simp

theorem paritySatisfied_eq_decide {X : List Int} {b : Int} {planted : List (List Int)} (h : Decides planted X) :
    paritySatisfied X b planted = .ok (decide (ParityOK X b planted)) := by
  induction planted with
  | nil => simp [paritySatisfied, ParityOK]
  | cons a as ih =>
    have ih' := ih (fun a' ha' => h a' (by simp [ha']))
    unfold paritySatisfied
    rw [parityValue_eq_xorCount (h a (by simp))]
    simp only
    by_cases hb : ((xorCount a X : Nat) : Int) % 2 = b
    · have : (((xorCount a X : Nat) : Int) % 2 != b) = false := by simp [hb]
      simp only [this, ih', Bool.false_eq_true, if_false]
      congr 1
      simp only [ParityOK, List.mem_cons, forall_eq_or_imp, hb, true_and]
    · have : (((xorCount a X : Nat) : Int) % 2 != b) = true := by simp [hb]
      simp only [this, if_true]
      congr 1
      simp only [ParityOK, List.mem_cons, forall_eq_or_imp, hb, false_and, decide_false]

/-- membership in the dense enumeration -/
def IsGood (k n : Nat) (planted : List (List Int)) (p : Parity) : Prop :=
  p.1 ∈ combos (vars n) k ∧ (p.2 = 0 ∨ p.2 = 1) ∧ ParityOK p.1 p.2 planted

theorem goodParitiesOf_eq {planted : List (List Int)} {Xs : List (List Int)}
    (h : ∀ X ∈ Xs, Decides planted X) :
    goodParitiesOf planted Xs =
      .ok (Xs.flatMap fun X => [(X, 0), (X, 1)].filter fun p => decide (ParityOK p.1 p.2 planted)) := by
  induction Xs with
  | nil => rfl
  | cons X Xs ih =>
    have hX := h X (by simp)
    unfold goodParitiesOf
    rw [paritySatisfied_eq_decide hX, paritySatisfied_eq_decide hX, ih (fun Y hY => h Y (by simp [hY]))]
    by_cases h0 : ParityOK X 0 planted <;> by_cases h1 : ParityOK X 1 planted <;> simp [h0, h1]

theorem allGoodParities_total {k n : Nat} {planted : List (List Int)} (hT : ∀ a ∈ planted, TotalOn n a) :
    ∃ full, allGoodParities k n planted = .ok full ∧ (∀ p, p ∈ full ↔ IsGood k n planted p) ∧ full.Nodup := by
  refine ⟨_, goodParitiesOf_eq (fun X hX => decides_of_total hT hX), fun p => ?_, ?_⟩
  · simp only [List.mem_flatMap, List.mem_filter, List.mem_cons, List.not_mem_nil, or_false,
      decide_eq_true_eq, IsGood]
    constructor
    · rintro ⟨X, hX, rfl | rfl, hok⟩
      · exact ⟨hX, Or.inl rfl, hok⟩
      · exact ⟨hX, Or.inr rfl, hok⟩
    · rintro ⟨hX, hb, hok⟩
      exact ⟨p.1, hX, hb.imp (Prod.ext rfl) (Prod.ext rfl), hok⟩
  · refine nodup_flatMap_of_key (key := Prod.fst) (combos_nodup (vars_nodup n) k)
      (fun X _ => List.Nodup.filter _ (by simp)) fun X _ p hp => ?_
    rcases List.mem_cons.1 (List.mem_filter.1 hp).1 with rfl | h
    · rfl
    · rw [List.mem_singleton.1 h]

/-- a candidate of the rejection loop: `k` increasing variables of `1..n` and a bit -/
def IsParity (k n : Nat) (p : Parity) : Prop := p.1 ∈ combos (vars n) k ∧ (p.2 = 0 ∨ p.2 = 1)

/-- `X = sample_variables(n, k)`, `b = random.randint(0, 1)` -/
def drawParity (k n : Nat) : RandM Parity :=
  drawVars k n >>= fun X => randint 0 1 >>= fun b => pure (X, b)

theorem drawParity_cand (k n : Nat) : Cand (drawParity k n) k n 2 (IsParity k n) :=
  (drawVars_cand k n).bind fun X hX => (randint_ran (by decide)).map fun b hb => ⟨hX, by omega⟩

/-- the keys `tuple(X+[b])` in `sampled_set` identify the parities -/
theorem key_mem_iff {acc : List Parity} {p : Parity} :
    (acc.map Parity.key).contains p.key = true ↔ p ∈ acc := by
  simp only [List.contains_iff_mem, List.mem_map, Parity.key]
  constructor
  · rintro ⟨q, hq, he⟩
    obtain ⟨h1, h2⟩ := List.append_inj' he rfl
    rwa [← Prod.ext h1 (List.singleton_inj.1 h2)]
  · intro h; exact ⟨p, h, rfl⟩

theorem sparseLoopX_eq (k n m : Nat) (planted : List (List Int)) (fuel : Nat) (acc : List Parity) :
    sparseLoopX k n m planted fuel acc =
      rejLoop (drawParity k n) (fun acc p => (acc.map Parity.key).contains p.key)
        (fun p => paritySatisfied p.1 p.2 planted) m fuel acc := by
  induction fuel generalizing acc with
  | zero => rfl
  | succ fuel ih =>
    unfold sparseLoopX rejLoop drawParity
    split
    · rw [RandM.bind_assoc]; congr 1; funext X
      rw [RandM.bind_assoc]; congr 1; funext b
      rw [RandM.pure_bind]
      dsimp only [addCand]
      rw [ih acc, ih (acc ++ [(X, b)])]
      split
      · rfl
      · cases paritySatisfied X b planted with
        | error e => rfl
        | ok g => cases g <;> rfl
    · rfl

theorem denseParities_eq (k n m : Nat) (planted : List (List Int)) :
    denseParities k n m planted = denseFrom n m (allGoodParities k n planted) ([], 0) := rfl

theorem sampleParities_eq (k n m : Nat) (planted : List (List Int)) :
    sampleParities k n m planted =
      sampleVia (drawParity k n) (fun acc p => (acc.map Parity.key).contains p.key)
        (fun p => paritySatisfied p.1 p.2 planted) n m (fun acc => m ≤ acc.length)
        (allGoodParities k n planted) ([], 0) := by
  unfold sampleParities sampleVia
  rw [funext (sparseLoopX_eq k n m planted (retryBudget m)), denseParities_eq]

/-- draws a complete run of `sample_parities` can consume -/
def drawBudgetX (m : Nat) : Nat := retryBudget m * 2 + 1

theorem sampleParities_spec {k n : Nat} (m : Nat) {planted : List (List Int)}
    (hT : ∀ a ∈ planted, TotalOn n a) {full : List Parity} (hfull : allGoodParities k n planted = .ok full) :
    SamplerSpec (sampleParities k n m planted) k n m full (drawBudgetX m) := by
  obtain ⟨full', h1, hmem, hnd⟩ := allGoodParities_total (k := k) hT
  cases hfull.symm.trans h1
  rw [sampleParities_eq, hfull]
  have hgood : ∀ p, IsParity k n p → paritySatisfied p.1 p.2 planted = .ok (decide (ParityOK p.1 p.2 planted)) :=
    fun p hp => paritySatisfied_eq_decide (decides_of_total hT hp.1)
  exact sampleVia_spec (drawParity_cand k n)
    (fun acc p h hp => by rw [key_mem_iff.2 hp] at h; cases h) (fun p hp => ⟨_, hgood p hp⟩)
    (fun acc h => by omega) hnd
    (fun p hp hg => (hmem p).2 ⟨hp.1, hp.2, of_decide_eq_true (Except.ok.inj ((hgood p hp).symm.trans hg))⟩) _

theorem randomKXORSys_eq (σ : Int → List Draw) (k n m : Nat) (seed : Option Int) (planted : List (List Int)) :
    randomKXORSys σ k n m seed planted = seededRun σ seed k n (sampleParities k n m planted) := rfl

theorem randomKXOR_eq (σ : Int → List Draw) (k n m : Nat) (seed : Option Int) (planted : List (List Int)) :
    randomKXOR σ k n m seed planted =
      randomKXORSys σ k n m seed planted >>= fun sys => pure (kxorFormula n sys) := rfl

theorem count_asg_pos {a X : List Int} (h : ∀ x ∈ X, 0 < x) : count (asg a) X = xorCount a X := by
  unfold count xorCount
  apply List.countP_congr
  intro x hx
  have hp := h x hx
  simp only [litHolds, hp, if_true, asg]
  have : ((x.natAbs : Nat) : Int) = x := by omega
  rw [this]

theorem kxorFormula_WF {k n : Nat} {sys : List Parity} (h : ∀ p ∈ sys, p.1 ∈ combos (vars n) k) :
    (kxorFormula n sys).WF := by
  intro c hc l hl
  simp only [kxorFormula, List.mem_map] at hc
  obtain ⟨p, hp, rfl⟩ := hc
  simp only [Con.lits] at hl
  obtain ⟨_, _, hm⟩ := mem_combos_vars.1 (h p hp)
  have := hm l hl
  show l ≠ 0 ∧ l.natAbs ≤ n
  omega

theorem parity_holds_iff (α : Assign) (X : List Int) {b : Int} (hb : b = 0 ∨ b = 1) :
    (Con.parity X b).holds α = true ↔ ((count α X : Nat) : Int) % 2 = b := by
  rcases hb with rfl | rfl <;> simp [Con.holds] <;> omega

theorem kxorFormula_holds {n : Nat} {sys : List Parity} (α : Assign) (hb : ∀ p ∈ sys, p.2 = 0 ∨ p.2 = 1) :
    (kxorFormula n sys).holds α = true ↔ ∀ p ∈ sys, ((count α p.1 : Nat) : Int) % 2 = p.2 := by
  simp only [Formula.holds, kxorFormula, List.all_map, List.all_eq_true, Function.comp_apply]
  exact forall₂_congr fun p hp => parity_holds_iff α p.1 (hb p hp)

end Cnfgen.Rand
