/-
Unary mappings over the complete bipartite graph (`new_mapping`): identifier arithmetic
(bounds, injectivity, decoding) and the meaning of the four `force_*_mapping` generators.
-/
import Lemmas.C01Basic
import Lemmas.FamMapping
namespace Cnfgen.Fam
open Cnfgen

namespace UMap

theorem var_eq (f : UMap) (u v : Nat) : f.var u v = f.start + (u - 1) * f.rng + (v - 1) := rfl

theorem var_pos (f : UMap) (hs : 0 < f.start) (u v : Nat) : 0 < f.var u v := by
  rw [var_eq]; omega

theorem var_lt (f : UMap) {u v : Nat} (hu1 : 1 ≤ u) (hu : u ≤ f.dom) (hv1 : 1 ≤ v) (hv : v ≤ f.rng) :
    f.var u v < f.start + f.dom * f.rng :=
  (G2.mapId_lt hu1 hu hv1 hv).2

/-- `to_index`, first coordinate -/
def decU (f : UMap) (x : Nat) : Nat := (x - f.start) / f.rng + 1
/-- `to_index`, second coordinate -/
def decV (f : UMap) (x : Nat) : Nat := (x - f.start) % f.rng + 1

theorem decU_var (f : UMap) {u v : Nat} (hu1 : 1 ≤ u) (hv1 : 1 ≤ v) (hv : v ≤ f.rng) :
    f.decU (f.var u v) = u := by
  rw [decU, var, G2.mapId_div hv1 hv]; omega

theorem decV_var (f : UMap) {u v : Nat} (hv1 : 1 ≤ v) (hv : v ≤ f.rng) :
    f.decV (f.var u v) = v := by
  rw [decV, var, G2.mapId_mod hv1 hv]; omega

theorem var_inj (f : UMap) {u v u' v' : Nat} (hu1 : 1 ≤ u) (hv1 : 1 ≤ v) (hv : v ≤ f.rng)
    (hu1' : 1 ≤ u') (hv1' : 1 ≤ v') (hv' : v' ≤ f.rng) (h : f.var u v = f.var u' v') :
    u = u' ∧ v = v' :=
  G2.mapId_inj hu1 hu1' hv1 hv hv1' hv' h

/-- every identifier of the group is `var u v` for a unique in-range pair -/
theorem var_dec (f : UMap) {x : Nat} (h1 : f.start ≤ x) (h2 : x < f.start + f.dom * f.rng) :
    1 ≤ f.decU x ∧ f.decU x ≤ f.dom ∧ 1 ≤ f.decV x ∧ f.decV x ≤ f.rng ∧ f.var (f.decU x) (f.decV x) = x := by
  obtain ⟨u, v, hu1, hu, hv1, hv, rfl⟩ := G2.mapId_surj h1 h2
  rw [show Vars.mapId f.start f.rng u v = f.var u v from rfl, f.decU_var hu1 hv1 hv, f.decV_var hv1 hv]
  exact ⟨hu1, hu, hv1, hv, rfl⟩

theorem clause_row (f : UMap) (hs : 0 < f.start) (α : Assign) (u : Nat) :
    clauseHolds α (f.row u) = true ↔ ∃ v, 1 ≤ v ∧ v ≤ f.rng ∧ α (f.var u v) = true := by
  rw [show f.row u = (idx f.rng).map fun v => ((f.var u v : Nat) : Int) from rfl,
    clauseHolds_map_pos α _ _ fun v _ => f.var_pos hs u v]
  simp only [mem_idx, and_assoc]

/-! ### the `force_*_mapping` generators
They are those of `Fam/MapCons.lean` for the group `(start, dom, rng)`, by unfolding. -/

/-- the relation a truth assignment induces on a mapping group -/
def Rel (f : UMap) (α : Assign) (u v : Nat) : Prop := α (f.var u v) = true

/-- every element of the domain has an image -/
def Total (f : UMap) (R : Nat → Nat → Prop) : Prop :=
  ∀ u, 1 ≤ u → u ≤ f.dom → ∃ v, 1 ≤ v ∧ v ≤ f.rng ∧ R u v
/-- at most one image per element -/
def Functional (f : UMap) (R : Nat → Nat → Prop) : Prop :=
  ∀ u, 1 ≤ u → u ≤ f.dom → ∀ v, 1 ≤ v → v ≤ f.rng → ∀ v', 1 ≤ v' → v' ≤ f.rng → R u v → R u v' → v = v'
/-- every element of the range has a preimage -/
def Onto (f : UMap) (R : Nat → Nat → Prop) : Prop :=
  ∀ v, 1 ≤ v → v ≤ f.rng → ∃ u, 1 ≤ u ∧ u ≤ f.dom ∧ R u v
/-- at most one preimage per element -/
def Injective (f : UMap) (R : Nat → Nat → Prop) : Prop :=
  ∀ v, 1 ≤ v → v ≤ f.rng → ∀ u, 1 ≤ u → u ≤ f.dom → ∀ u', 1 ≤ u' → u' ≤ f.dom → R u v → R u' v → u = u'

theorem forceComplete_holds (f : UMap) (hs : 0 < f.start) (α : Assign) :
    f.forceComplete.all (Con.holds α) = true ↔ f.Total (f.Rel α) :=
  List.all_eq_true.trans (G2.forceComplete_holds α f.dom f.rng hs)

theorem forceSurjective_holds (f : UMap) (hs : 0 < f.start) (α : Assign) :
    f.forceSurjective.all (Con.holds α) = true ↔ f.Onto (f.Rel α) :=
  List.all_eq_true.trans (G2.forceSurjective_holds α f.dom f.rng hs)

theorem forceFunctional_holds (f : UMap) (hs : 0 < f.start) (α : Assign) :
    f.forceFunctional.all (Con.holds α) = true ↔ f.Functional (f.Rel α) :=
  List.all_eq_true.trans (G2.forceFunctional_holds α f.dom f.rng hs)

theorem forceInjective_holds (f : UMap) (hs : 0 < f.start) (α : Assign) :
    f.forceInjective.all (Con.holds α) = true ↔ f.Injective (f.Rel α) :=
  List.all_eq_true.trans (G2.forceInjective_holds α f.dom f.rng hs)

theorem lit_in (f : UMap) (hs : 1 ≤ f.start) {N : Nat} (hN : f.start + f.dom * f.rng ≤ N + 1)
    {u v : Nat} (hu : u ∈ idx f.dom) (hv : v ∈ idx f.rng) :
    f.lit u v ≠ 0 ∧ 1 ≤ (f.lit u v).natAbs ∧ (f.lit u v).natAbs ≤ N := by
  have := f.var_pos hs u v
  have := f.var_lt (mem_idx.1 hu).1 (mem_idx.1 hu).2 (mem_idx.1 hv).1 (mem_idx.1 hv).2
  simp only [lit]; omega

end UMap

theorem all_ite_nil (b : Bool) (l : List Con) (p : Con → Bool) :
    (if b = true then l else []).all p = true ↔ (b = true → l.all p = true) := by
  cases b
  · simp
  · simp

end Cnfgen.Fam
