/-
C06 — DIMACS output round-trips and the DIMACS reader never misreads.
Property theorems only; helper lemmas are in `Lemmas/IOLex.lean`, `Lemmas/IOComments.lean`,
`Lemmas/IODimacs.lean`.  Everything here is about token rows (`List (List Tok)`); the step
characters → token rows is the lexer (compared with Python by the correspondence harness), and
`Props/C06/Text.lean` composes it with these theorems.
-/
import Lemmas.IODimacs
import Lemmas.IOComments
namespace Cnfgen.C06
open Cnfgen Cnfgen.IO

/-- What a token matrix *says*, read off the definition of the format and not off the reader:
comments / blank rows, then one problem row `p … n m`, no second problem row, and the
integers on the remaining non-comment rows are, in order, the clauses of `F` each closed by `0`;
every literal is within `1..n`; there are exactly `m` clauses. -/
def Denotes (rows : List Row) (F : CNF) : Prop :=
  ∃ (pre post : List Row) (a b : Tok) (m : Nat),
    rows = pre ++ [a, b, .int (F.nvars : Int), .int (m : Int)] :: post ∧
    (∀ r ∈ pre, r.cls = .blank ∨ r.cls = .comment) ∧
    Row.cls [a, b, .int (F.nvars : Int), .int (m : Int)] = .spec ∧
    (∀ r ∈ post, r.cls ≠ .spec) ∧
    litToks post = (F.clauses.flatMap (fun c => c ++ [0])).map Tok.int ∧
    F.WF ∧ F.clauses.length = m

/-- T-C06.3 reader soundness: whatever the reader returns is exactly what the rows denote —
one `p` row before any literal, literals between zeros = the clauses in order, every literal
within the declared range, clause count = declared `m`. -/
theorem reader_sound (rows : List Row) (F : CNF) (h : parseDimacs rows = .ok F) : Denotes rows F := by
  unfold parseDimacs at h
  cases hg : runGenerator rows with
  | error e => simp [hg] at h
  | ok st =>
    simp only [hg] at h
    unfold runGenerator at hg
    cases hf : rows.foldlM rowStep PState.init with
    | error e => simp [hf] at hg
    | ok st0 =>
      simp only [hf] at hg
      obtain ⟨rfl, hbuf, n, hspec⟩ := finish_ok hg
      simp only [hspec] at h
      rcases rows_before_spec rows st hf with ⟨e, _⟩ | ⟨pre, r, nm, post, hrows, hpre, hr, hps, hpost⟩
      · rw [e] at hspec; simp [PState.init] at hspec
      · obtain ⟨hns, hlit, hsp⟩ := rows_after_spec nm.1 nm.2 post [] [] st hpost
        rw [hspec] at hsp
        obtain ⟨n1, m1⟩ := nm
        simp only [Option.some.injEq, Prod.mk.injEq] at hsp
        obtain ⟨rfl, rfl⟩ := hsp
        rw [hbuf] at hlit
        obtain ⟨henc, hgood⟩ := (litFold_iff n (litToks post) st.out).1 hlit
        have hF : F = ⟨n, st.out⟩ := by
          have : CNF.empty.updateVarNum n = ⟨n, []⟩ := by simp [CNF.empty, CNF.updateVarNum]
          rw [this, addClauses_good n st.out [] hgood] at h
          simpa using h.symm
        subst hF
        obtain ⟨a, b, hrow⟩ := parseSpec_ok hps
        subst hrow
        exact ⟨pre, post, a, b, st.out.length, hrows, hpre, hr, hns, by rw [henc, enc_eq_map], hgood, rfl⟩

/-- the converse: every token matrix that denotes a formula is read, and read as that formula
(the reader rejects nothing that is well-formed) -/
theorem reader_complete (rows : List Row) (F : CNF) (h : Denotes rows F) : parseDimacs rows = .ok F := by
  obtain ⟨pre, post, a, b, m, rfl, hpre, hcls, hns, hlit, hwf, hm⟩ := h
  obtain ⟨n, cs⟩ := F
  simp only at hlit hm hcls
  have hgood : ∀ c ∈ cs, GoodLits n c := hwf
  have h1 : (pre ++ [a, b, Tok.int (n : Int), Tok.int (m : Int)] :: post).foldlM rowStep PState.init =
      .ok ⟨some (n, m), [], cs⟩ := by
    rw [List.foldlM_append, rows_skip PState.init pre hpre]
    simp only [except_bind_ok, List.foldlM_cons]
    have : rowStep PState.init [a, b, Tok.int (n : Int), Tok.int (m : Int)] = .ok ⟨some (n, m), [], []⟩ := by
      simp [rowStep, hcls, PState.init, parseSpec_nat]
    rw [this]
    simp only [except_bind_ok]
    apply rows_after_spec_complete n m post [] [] [] cs hns
    rw [hlit, ← enc_eq_map]
    exact (litFold_iff n (enc cs) cs).2 ⟨rfl, hgood⟩
  have h2 : runGenerator (pre ++ [a, b, Tok.int (n : Int), Tok.int (m : Int)] :: post) = .ok ⟨some (n, m), [], cs⟩ := by
    unfold runGenerator; rw [h1]; simp [finish, hm]
  unfold parseDimacs
  rw [h2]
  have : CNF.empty.updateVarNum n = ⟨n, []⟩ := by simp [CNF.empty, CNF.updateVarNum]
  simp only [this]
  simpa using addClauses_good n cs [] hgood

/-- the reader accepts exactly the token matrices that denote a formula, with that formula -/
theorem reader_iff (rows : List Row) (F : CNF) : parseDimacs rows = .ok F ↔ Denotes rows F :=
  ⟨reader_sound rows F, reader_complete rows F⟩

/-- corollary of T-C06.3: no literal outside the declared range is ever accepted … -/
theorem reader_range (rows : List Row) (F : CNF) (h : parseDimacs rows = .ok F) :
    ∀ c ∈ F.clauses, ∀ l ∈ c, l ≠ 0 ∧ l.natAbs ≤ F.nvars := by
  obtain ⟨_, _, _, _, _, _, _, _, _, _, hwf, _⟩ := reader_sound rows F h
  exact hwf

/-- … and no wrong clause count: the `p` row of an accepted matrix states `nvars` and `#clauses` -/
theorem reader_count (rows : List Row) (F : CNF) (h : parseDimacs rows = .ok F) :
    ∃ a b, [a, b, Tok.int (F.nvars : Int), Tok.int (F.clauses.length : Int)] ∈ rows := by
  obtain ⟨pre, post, a, b, m, hrows, _, _, _, _, _, hm⟩ := reader_sound rows F h
  exact ⟨a, b, by rw [hrows, hm]; simp⟩

/-- T-C06.4 reader totality: on every token matrix the reader returns a formula or raises
`ValueError`; no other exception kind is reachable (in particular not the `StopIteration` of
`next()` on a generator that yields nothing, nor anything from `add_clause`). -/
theorem reader_total (rows : List Row) :
    (∃ F, parseDimacs rows = .ok F) ∨ parseDimacs rows = .error .valueError := by
  cases h : parseDimacs rows with
  | ok F => exact Or.inl ⟨F, rfl⟩
  | error e =>
    right
    congr
    unfold parseDimacs at h
    cases hg : runGenerator rows with
    | error e' =>
      simp [hg] at h; subst h
      unfold runGenerator at hg
      cases hf : rows.foldlM rowStep PState.init with
      | error e'' => simp [hf] at hg; subst hg; exact foldlM_err _ rowStep_err _ _ _ hf
      | ok st0 => simp [hf] at hg; exact finish_err _ _ hg
    | ok st =>
      simp only [hg] at h
      unfold runGenerator at hg
      cases hf : rows.foldlM rowStep PState.init with
      | error e'' => simp [hf] at hg
      | ok st0 =>
        simp only [hf] at hg
        obtain ⟨rfl, _, n, hspec⟩ := finish_ok hg
        simp only [hspec] at h
        exact foldlM_err _ (fun F c e => addClause_err F c e) _ _ _ h

/-- T-C06.2 shape of the output: comment rows (every one starts with the word `c`), then the
problem row stating the true number of variables and of clauses, then one row per clause:
its literals followed by `0`.  Holds for every header dictionary and every label list. -/
theorem render_shape (u : Bool) (F : CNF) (hdr : Option Header) (names : Option (List Str)) :
    ∃ comments : List Row,
      renderDimacs u F hdr names =
        comments ++ [Tok.word ['p'], Tok.word "cnf".toList, Tok.int (F.nvars : Int), Tok.int (F.clauses.length : Int)] ::
          F.clauses.map (fun c => c.map Tok.int ++ [Tok.int 0]) ∧
      ∀ r ∈ comments, r.cls = .comment ∧ ∃ rest, r = Tok.word ['c'] :: rest := by
  refine ⟨dimacsCommentRows u hdr names, rfl, ?_⟩
  intro r hr
  obtain ⟨rest, rfl⟩ := dimacsCommentRows_c u hdr names r hr
  exact ⟨by simp [Row.cls], rest, rfl⟩

/-- T-C06.1 round trip: reading back what the writer wrote gives the same number of variables
and the same clauses in the same order — for every well-formed formula (empty formula, empty
clauses, unused variables, repeated literals included), with or without header and variable
names, whatever characters (line breaks included) the header values and labels contain. -/
theorem roundtrip (u : Bool) (F : CNF) (hdr : Option Header) (names : Option (List Str)) (hF : F.WF) :
    parseDimacs (renderDimacs u F hdr names) = .ok F := by
  apply reader_complete
  refine ⟨dimacsCommentRows u hdr names, F.clauses.map clauseRow, Tok.word ['p'], Tok.word "cnf".toList,
    F.clauses.length, rfl, ?_, by simp [Row.cls], ?_, ?_, hF, rfl⟩
  · intro r hr
    obtain ⟨rest, rfl⟩ := dimacsCommentRows_c u hdr names r hr
    right; simp [Row.cls]
  · intro r hr
    simp only [List.mem_map] at hr
    obtain ⟨c, _, rfl⟩ := hr
    cases c <;> simp [clauseRow, Row.cls]
  · have : ∀ cs : List Clause, litToks (cs.map clauseRow) = enc cs := by
      intro cs
      induction cs with
      | nil => rfl
      | cons c cs ih =>
        have hc : isLits (clauseRow c) = true := by cases c <;> simp [isLits, clauseRow, Row.cls]
        simp only [litToks] at ih
        simp [litToks, hc, ih, enc]
    rw [this, enc_eq_map]

/-- the round trip, stated on the two observable components -/
theorem roundtrip_components (u : Bool) (F : CNF) (hdr : Option Header) (names : Option (List Str)) (hF : F.WF) :
    ∃ G, parseDimacs (renderDimacs u F hdr names) = .ok G ∧ G.nvars = F.nvars ∧ G.clauses = F.clauses :=
  ⟨F, roundtrip u F hdr names hF, rfl, rfl⟩

/-! ### non-vacuity -/

/-- a well-formed formula with an empty clause, a repeated literal and unused variables -/
example : (CNF.mk 5 [[1, -2], [], [3, 3, -1]]).WF := by
  unfold CNF.WF; decide +kernel

/-- the round trip on a concrete formula with a multi-line header value and a multi-line label
(the D14 witness) -/
example : parseDimacs (renderDimacs true ⟨2, [[1, -2], []]⟩
    (some [("description".toList, "graph\nname\n".toList)]) (some ["x\ny".toList, "b".toList])) =
    .ok ⟨2, [[1, -2], []]⟩ := by lit_decide

/-- a token matrix that denotes a formula although no writer of cnfgen lays it out this way:
clause split over rows, comment in between, two clauses on one row -/
example : parseDimacs [[.word ['c']], [.word ['p'], .word ['x'], .int 3, .int 3], [.int 1], [.word ['c', '1']],
    [.int (-3), .int 0, .int 0, .int 2], [], [.int 0]] = .ok ⟨3, [[1, -3], [], [2]]⟩ := by decide +kernel

/-- rejected matrices: literal out of range, wrong count, second problem row, literal before it -/
example : parseDimacs [[.word ['p'], .word ['x'], .int 2, .int 1], [.int 3, .int 0]] = .error .valueError := by decide +kernel
example : parseDimacs [[.word ['p'], .word ['x'], .int 2, .int 2], [.int 1, .int 0]] = .error .valueError := by decide +kernel
example : parseDimacs [[.word ['p'], .word ['x'], .int 2, .int 0], [.word ['p'], .word ['x'], .int 2, .int 0]] =
    .error .valueError := by decide +kernel
example : parseDimacs [[.int 1, .int 0], [.word ['p'], .word ['x'], .int 2, .int 1]] = .error .valueError := by decide +kernel

end Cnfgen.C06
