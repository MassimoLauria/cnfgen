/-
C16 — Graph objects stay consistent under any sequence of updates.
Property theorems only; the model is `CnfgenModel/Graph/{Basic,Ops}.lean`, the helper lemmas are
`Lemmas/Graph{List,Inv,Spec,Nx,Complete}.lean`.

Reading guide.  `G.step op` / `G.run ops` run one call / a history on the object (`GOp`:
`addEdge u v | removeEdge u v | updateVertexNumber k | addEdgesFrom es`, integer arguments, so
every invalid call is expressible).  `Spec` is the abstract object: a vertex count and a
duplicate-free list of pairs (normalised `u < v` for simple graphs) updated by set insertion /
removal; `Refines G a` says the concrete object (adjacency lists + edge set + counter)
represents `a`.  `traceOf` is the list of outcomes the caller sees (`ok`, `raised valueError`,
`noSuchMethod` = the class has no such update).
-/
import Lemmas.GraphComplete
namespace Cnfgen.C16
open Cnfgen

/-! ## T-C16.1 — the invariant holds initially and is preserved by every operation -/

/-- simple graphs: `Inv` = `adjlist` has `n+1` strictly sorted rows storing exactly `edgeset`,
`edgeset` is symmetric, loop-free, within `1..n`, duplicate-free, and `m = |abs|` -/
theorem simple_inv_init (n : Nat) : (SimpleG.init n).Inv := SimpleG.inv_init n

theorem simple_inv_step (G : SimpleG) (h : G.Inv) (op : GOp) : (G.step op).1.Inv :=
  SimpleG.inv_step h op

/-- … hence after every finite history of calls with arbitrary arguments, from any size -/
theorem simple_inv_history (n : Nat) (ops : List GOp) : ((SimpleG.init n).run ops).Inv :=
  SimpleG.inv_run (SimpleG.inv_init n) ops

theorem di_inv_init (n : Nat) : (DiG.init n).Inv := DiG.inv_init n

theorem di_inv_step (G : DiG) (h : G.Inv) (op : GOp) : (G.step op).1.Inv := DiG.inv_step h op

theorem di_inv_history (n : Nat) (ops : List GOp) : ((DiG.init n).run ops).Inv :=
  DiG.inv_run (DiG.inv_init n) ops

theorem bip_inv_init (l r : Nat) : (BipG.init l r).Inv := BipG.inv_init l r

theorem bip_inv_step (G : BipG) (h : G.Inv) (op : GOp) : (G.step op).1.Inv := BipG.inv_step h op

theorem bip_inv_history (l r : Nat) (ops : List GOp) : ((BipG.init l r).run ops).Inv :=
  BipG.inv_run (BipG.inv_init l r) ops

/-- non-vacuity: a history with duplicates, both orientations, a removal, vertex growth, invalid
calls and an `add_edges_from` that stops in the middle really moves the object -/
example : ((SimpleG.init 3).run [.addEdge 1 2, .addEdge 2 1, .addEdge 3 1, .addEdge 0 1, .addEdge 2 2,
    .removeEdge 2 1, .updateVertexNumber 5, .addEdgesFrom [(5, 1), (9, 9), (1, 2)]]).edges = [(1, 3), (1, 5)] := by
  decide +kernel

/-! ## T-C16.1/2 — refinement: the object keeps representing the abstract set of edges, and
the caller observes exactly the specification's outcomes -/

theorem simple_refines_step (G : SimpleG) (a : SimpleG.Spec) (h : G.Refines a) (op : GOp) :
    (G.step op).1.Refines (a.step op).1 ∧ (G.step op).2 = (a.step op).2 :=
  SimpleG.refines_step h op

theorem simple_refines_history (n : Nat) (ops : List GOp) :
    ((SimpleG.init n).run ops).Refines ((SimpleG.Spec.init n).run ops) ∧
    traceOf SimpleG.step (SimpleG.init n) ops = traceOf SimpleG.Spec.step (SimpleG.Spec.init n) ops :=
  ⟨SimpleG.refines_run (SimpleG.refines_init n) ops, SimpleG.trace_eq (SimpleG.refines_init n) ops⟩

theorem di_refines_step (G : DiG) (a : DiG.Spec) (h : G.Refines a) (op : GOp) :
    (G.step op).1.Refines (a.step op).1 ∧ (G.step op).2 = (a.step op).2 :=
  DiG.refines_step h op

theorem di_refines_history (n : Nat) (ops : List GOp) :
    ((DiG.init n).run ops).Refines ((DiG.Spec.init n).run ops) ∧
    traceOf DiG.step (DiG.init n) ops = traceOf DiG.Spec.step (DiG.Spec.init n) ops :=
  ⟨DiG.refines_run (DiG.refines_init n) ops, DiG.trace_eq (DiG.refines_init n) ops⟩

theorem bip_refines_step (G : BipG) (a : BipG.Spec) (h : G.Refines a) (op : GOp) :
    (G.step op).1.Refines (a.step op).1 ∧ (G.step op).2 = (a.step op).2 :=
  BipG.refines_step h op

theorem bip_refines_history (l r : Nat) (ops : List GOp) :
    ((BipG.init l r).run ops).Refines ((BipG.Spec.init l r).run ops) ∧
    traceOf BipG.step (BipG.init l r) ops = traceOf BipG.Spec.step (BipG.Spec.init l r) ops :=
  ⟨BipG.refines_run (BipG.refines_init l r) ops, BipG.trace_eq (BipG.refines_init l r) ops⟩

/-- the specification is the set semantics it claims to be (simple graphs): insertion of a
legal pair adds its normalised form, anything else is refused; removal deletes the unordered
pair; growth only raises `n` -/
theorem simple_spec_is_set_semantics (a : SimpleG.Spec) (u v : Int) (k : Int) (e : Nat × Nat) :
    (SimpleG.Valid a.n u v →
        (e ∈ (a.step (.addEdge u v)).1.E ↔ e = SimpleG.norm u.toNat v.toNat ∨ e ∈ a.E) ∧
        (a.step (.addEdge u v)).2 = .ok ∧ (a.step (.addEdge u v)).1.n = a.n) ∧
    (¬ SimpleG.Valid a.n u v → a.step (.addEdge u v) = (a, .raised .valueError)) ∧
    (e ∈ (a.step (.removeEdge u v)).1.E ↔ e ∈ a.E ∧ ¬ ((e.1 : Int) = min u v ∧ (e.2 : Int) = max u v)) ∧
    (0 ≤ k → a.step (.updateVertexNumber k) = ({ a with n := max a.n k.toNat }, .ok)) ∧
    (k < 0 → a.step (.updateVertexNumber k) = (a, .raised .valueError)) := by
  refine ⟨fun hv => ?_, fun hv => ?_, ?_, fun hk => ?_, fun hk => ?_⟩
  · simp only [SimpleG.Spec.step, if_pos hv, SimpleG.Spec.mem_insert, SimpleG.Spec.insert_n, and_self]
  · simp only [SimpleG.Spec.step, if_neg hv]
  · simp only [SimpleG.Spec.step, SimpleG.Spec.remove, List.mem_filter, Bool.not_eq_true',
      Bool.and_eq_false_iff, decide_eq_false_iff_not]
    by_cases h1 : (e.1 : Int) = min u v <;> simp [h1]
  · simp only [SimpleG.Spec.step, if_neg (show ¬ k < 0 by omega)]
  · simp only [SimpleG.Spec.step, if_pos hk]

example : SimpleG.Valid (⟨3, [(1, 2)]⟩ : SimpleG.Spec).n 3 1 := by decide +kernel

/-! ## T-C16.2 — every view is the specification's answer -/

/-- simple graphs: order, edge count, edge listing (the sorted abstract set, each edge once),
membership, neighbour lists (increasing abstract neighbours), degrees, `is_dag` -/
theorem simple_views (G : SimpleG) (a : SimpleG.Spec) (h : G.Refines a) :
    G.numberOfVertices = a.n ∧ G.numberOfEdges = a.numberOfEdges ∧ G.edges = a.edges ∧
    (∀ u v, G.hasEdge u v = a.hasEdge u v) ∧ (∀ u, G.neighbors u = a.neighbors u) ∧
    (∀ u, G.degree u = a.degree u) ∧ G.isDag = false :=
  ⟨h.numberOfVertices_eq, h.numberOfEdges_eq, h.edges_eq, h.hasEdge_eq, h.neighbors_eq, h.degree_eq, rfl⟩

/-- … in particular after every history -/
theorem simple_views_history (n : Nat) (ops : List GOp) :
    let G := (SimpleG.init n).run ops
    let a := (SimpleG.Spec.init n).run ops
    G.numberOfVertices = a.n ∧ G.numberOfEdges = a.numberOfEdges ∧ G.edges = a.edges ∧
    (∀ u v, G.hasEdge u v = a.hasEdge u v) ∧ (∀ u, G.neighbors u = a.neighbors u) ∧
    (∀ u, G.degree u = a.degree u) ∧ G.isDag = false :=
  simple_views _ _ (simple_refines_history n ops).1

/-- shape of the listing: strictly increasing lexicographically, so sorted and each edge once;
`u < v`; the edge count is its length -/
theorem simple_edges_shape (G : SimpleG) (h : G.Inv) :
    SortedLex G.edges ∧ G.edges.Nodup ∧ (∀ e ∈ G.edges, 1 ≤ e.1 ∧ e.1 < e.2 ∧ e.2 ≤ G.n) ∧
    G.numberOfEdges = G.edges.length ∧
    (∀ u, SortedLt (G.nbrs u)) ∧ (∀ u v, v ∈ G.nbrs u ↔ u ∈ G.nbrs v) :=
  ⟨h.edges_sorted, h.edges_nodup, fun _ he => h.edges_range he, h.m_eq_length_edges, h.nbrs_sorted,
   fun _ _ => h.mem_nbrs_comm⟩

example : (SimpleG.init 4).Inv := SimpleG.inv_init 4

theorem di_views (G : DiG) (a : DiG.Spec) (h : G.Refines a) :
    G.numberOfVertices = a.n ∧ G.numberOfEdges = a.numberOfEdges ∧ G.edges = a.edges ∧
    G.edgesBySucc = a.edgesBySucc ∧ (∀ u v, G.hasEdge u v = a.hasEdge u v) ∧
    (∀ u, G.predecessors u = a.predecessors u) ∧ (∀ u, G.successors u = a.successors u) ∧
    (∀ u, G.inDegree u = a.inDegree u) ∧ (∀ u, G.outDegree u = a.outDegree u) ∧ G.isDag = a.isDag :=
  ⟨h.numberOfVertices_eq, h.numberOfEdges_eq, h.edges_eq, h.edgesBySucc_eq, h.hasEdge_eq,
   h.predecessors_eq, h.successors_eq, h.inDegree_eq, h.outDegree_eq, h.isDag_eq⟩

theorem di_views_history (n : Nat) (ops : List GOp) :
    let G := (DiG.init n).run ops
    let a := (DiG.Spec.init n).run ops
    G.numberOfVertices = a.n ∧ G.numberOfEdges = a.numberOfEdges ∧ G.edges = a.edges ∧
    G.edgesBySucc = a.edgesBySucc ∧ (∀ u v, G.hasEdge u v = a.hasEdge u v) ∧
    (∀ u, G.predecessors u = a.predecessors u) ∧ (∀ u, G.successors u = a.successors u) ∧
    (∀ u, G.inDegree u = a.inDegree u) ∧ (∀ u, G.outDegree u = a.outDegree u) ∧ G.isDag = a.isDag :=
  di_views _ _ (di_refines_history n ops).1

theorem di_edges_shape (G : DiG) (h : G.Inv) :
    SortedLex G.edges ∧ G.edges.Nodup ∧ SortedLex (G.edgesBySucc.map Prod.swap) ∧
    (∀ e, e ∈ G.edges ↔ e ∈ G.edgesBySucc) ∧
    (∀ u, SortedLt (G.succs u)) ∧ (∀ u, SortedLt (G.preds u)) ∧
    (∀ u v, v ∈ G.succs u ↔ u ∈ G.preds v) :=
  ⟨h.edges_sorted, h.edges_nodup, h.edgesBySucc_sorted, fun _ => h.mem_edges.trans h.mem_edgesBySucc.symm,
   h.succs_sorted, h.preds_sorted, fun _ _ => h.mem_succs_iff_mem_preds⟩

theorem bip_views (G : BipG) (a : BipG.Spec) (h : G.Refines a) :
    G.l = a.l ∧ G.r = a.r ∧ G.numberOfVertices = a.numberOfVertices ∧
    G.numberOfEdges = a.numberOfEdges ∧ G.edges = a.edges ∧
    (∀ u v, G.hasEdge u v = a.hasEdge u v) ∧
    (∀ u, G.rightNeighbors u = a.rightNeighbors u) ∧ (∀ v, G.leftNeighbors v = a.leftNeighbors v) ∧
    (∀ u, G.rightDegree u = a.rightDegree u) ∧ (∀ v, G.leftDegree v = a.leftDegree v) :=
  ⟨h.l_eq, h.r_eq, h.numberOfVertices_eq, h.numberOfEdges_eq, h.edges_eq, h.hasEdge_eq,
   h.rightNeighbors_eq, h.leftNeighbors_eq, h.rightDegree_eq, h.leftDegree_eq⟩

theorem bip_views_history (l r : Nat) (ops : List GOp) :
    let G := (BipG.init l r).run ops
    let a := (BipG.Spec.init l r).run ops
    G.l = a.l ∧ G.r = a.r ∧ G.numberOfVertices = a.numberOfVertices ∧
    G.numberOfEdges = a.numberOfEdges ∧ G.edges = a.edges ∧
    (∀ u v, G.hasEdge u v = a.hasEdge u v) ∧
    (∀ u, G.rightNeighbors u = a.rightNeighbors u) ∧ (∀ v, G.leftNeighbors v = a.leftNeighbors v) ∧
    (∀ u, G.rightDegree u = a.rightDegree u) ∧ (∀ v, G.leftDegree v = a.leftDegree v) :=
  bip_views _ _ (bip_refines_history l r ops).1

theorem bip_edges_shape (G : BipG) (h : G.Inv) :
    SortedLex G.edges ∧ G.edges.Nodup ∧ G.numberOfEdges = G.edges.length ∧
    (∀ u, SortedLt (G.rnbrs u)) ∧ (∀ v, SortedLt (G.lnbrs v)) ∧
    (∀ u v, (v ∈ G.rnbrs u ↔ u ∈ G.lnbrs v) ∧ (v ∈ G.rnbrs u ↔ (u, v) ∈ G.edges)) ∧
    (∀ e ∈ G.edges, 1 ≤ e.1 ∧ e.1 ≤ G.l ∧ 1 ≤ e.2 ∧ e.2 ≤ G.r) :=
  ⟨h.edges_sorted, h.edges_nodup, h.numberOfEdges_eq, h.rnbrs_sorted, h.lnbrs_sorted,
   fun _ _ => ⟨h.mem_rnbrs_iff_mem_lnbrs, h.mem_edges_iff_rnbrs.symm⟩, fun _ he => h.edges_range he⟩

example : (DiG.init 4).Refines (DiG.Spec.init 4) := DiG.refines_init 4
example : (BipG.init 2 3).Refines (BipG.Spec.init 2 3) := BipG.refines_init 2 3

/-- duplicate insertions change nothing (simple graphs: in either orientation) -/
theorem simple_duplicate_noop (G : SimpleG) (h : G.Inv) (u v : Int) (he : G.hasEdge u v = true) :
    G.step (.addEdge u v) = (G, .ok) ∧ G.step (.addEdge v u) = (G, .ok) :=
  SimpleG.step_addEdge_present h he

theorem di_duplicate_noop (G : DiG) (h : G.Inv) (u v : Int) (he : G.hasEdge u v = true) :
    G.step (.addEdge u v) = (G, .ok) := DiG.step_addEdge_present h he

theorem bip_duplicate_noop (G : BipG) (h : G.Inv) (u v : Int) (he : G.hasEdge u v = true) :
    G.step (.addEdge u v) = (G, .ok) := BipG.step_addEdge_present h he

example : ((SimpleG.init 3).run [.addEdge 1 2]).hasEdge 2 1 = true := by decide +kernel

/-- an insertion the graph type does not allow (vertex out of `1..n`, self-loop in a simple
graph) is refused with `ValueError` and has no side effect; a legal one is never refused -/
theorem simple_rejected (G : SimpleG) (u v : Int) :
    (¬ SimpleG.Valid G.n u v → G.step (.addEdge u v) = (G, .raised .valueError)) ∧
    (SimpleG.Valid G.n u v → (G.step (.addEdge u v)).2 = .ok) :=
  ⟨SimpleG.step_addEdge_invalid, SimpleG.step_addEdge_valid⟩

theorem di_rejected (G : DiG) (u v : Int) :
    (¬ DiG.Valid G.n u v → G.step (.addEdge u v) = (G, .raised .valueError)) ∧
    (DiG.Valid G.n u v → (G.step (.addEdge u v)).2 = .ok) :=
  ⟨DiG.step_addEdge_invalid, DiG.step_addEdge_valid⟩

theorem bip_rejected (G : BipG) (u v : Int) :
    (¬ BipG.Valid G.l G.r u v → G.step (.addEdge u v) = (G, .raised .valueError)) ∧
    (BipG.Valid G.l G.r u v → (G.step (.addEdge u v)).2 = .ok) :=
  ⟨BipG.step_addEdge_invalid, BipG.step_addEdge_valid⟩

example : ¬ SimpleG.Valid 3 2 2 ∧ ¬ SimpleG.Valid 3 0 1 ∧ ¬ SimpleG.Valid 3 4 1 ∧ SimpleG.Valid 3 3 1 := by decide +kernel

/-- `add_edges_from` is the loop it is: the pairs before the first illegal one are inserted,
then `ValueError`; all legal ⇒ normal return -/
theorem simple_addEdgesFrom_prefix (G : SimpleG) (es₁ es₂ : List (Int × Int)) (bad : Int × Int)
    (h₁ : ∀ e ∈ es₁, SimpleG.Valid G.n e.1 e.2) (hb : ¬ SimpleG.Valid G.n bad.1 bad.2) :
    G.step (.addEdgesFrom (es₁ ++ bad :: es₂)) = ((G.step (.addEdgesFrom es₁)).1, .raised .valueError) ∧
    (G.step (.addEdgesFrom es₁)).2 = .ok := by
  induction es₁ generalizing G with
  | nil =>
    simp only [SimpleG.step, List.nil_append, SimpleG.addEdgesFromP, SimpleG.addEdge_invalid hb]
    exact ⟨rfl, rfl⟩
  | cons e es ih =>
    have hv := h₁ e (List.mem_cons_self ..)
    rcases SimpleG.addEdge_cases G e.1 e.2 with ⟨hv', _⟩ | ⟨_, _, h1⟩ | ⟨_, _, h1⟩
    · exact absurd hv hv'
    · have := ih G (fun x hx => h₁ x (List.mem_cons_of_mem _ hx)) hb
      simp only [SimpleG.step, List.cons_append, SimpleG.addEdgesFromP, h1] at this ⊢
      exact this
    · have hn : (SimpleG.insertNew G (min e.1.toNat e.2.toNat) (max e.1.toNat e.2.toNat)).n = G.n := rfl
      have := ih _ (fun x hx => by rw [hn]; exact h₁ x (List.mem_cons_of_mem _ hx)) (by rw [hn]; exact hb)
      simp only [SimpleG.step, List.cons_append, SimpleG.addEdgesFromP, h1] at this ⊢
      exact this

example : ∀ e ∈ [((1 : Int), (2 : Int)), (3, 1)], SimpleG.Valid (SimpleG.init 3).n e.1 e.2 := by decide +kernel

/-! ## T-C16.3 — `is_dag` ⇔ every edge ever inserted goes from a lower to a higher vertex -/

/-- state form -/
theorem di_isDag_iff (G : DiG) (a : DiG.Spec) (h : G.Refines a) :
    G.isDag = true ↔ ∀ e ∈ a.E, e.1 < e.2 := by
  rw [h.isDag_eq, DiG.Spec.isDag, List.all_eq_true]
  constructor
  · intro hh e he; exact of_decide_eq_true (hh e he)
  · intro hh e he; exact decide_eq_true (hh e he)

/-- history form: `inserted n ops` lists every argument pair accepted by an `add_edge` /
`add_edges_from` call of the history (duplicates and later-repeated pairs included) -/
theorem di_isDag_history (n : Nat) (ops : List GOp) :
    ((DiG.init n).run ops).isDag = true ↔ ∀ e ∈ DiG.inserted n ops, e.1 < e.2 := by
  rw [di_isDag_iff _ _ (di_refines_history n ops).1]
  constructor
  · intro hh e he
    have hv := DiG.inserted_valid he
    obtain ⟨h1, h2, h3, h4⟩ := hv
    have hp : (e.1.toNat, e.2.toNat) ∈ ((DiG.Spec.init n).run ops).E := by
      rw [DiG.Spec.mem_run]
      right
      have : (((e.1.toNat : Nat) : Int), ((e.2.toNat : Nat) : Int)) = e :=
        Prod.ext (by simp only; omega) (by simp only; omega)
      simp only [DiG.Spec.init]
      rw [this]; exact he
    have := hh _ hp
    simp only at this
    omega
  · intro hh p hp
    rw [DiG.Spec.mem_run] at hp
    rcases hp with hp | hp
    · simp [DiG.Spec.init] at hp
    · have := hh _ hp
      simp only at this
      omega

/-- the flag is never reset: a single non-increasing edge (a self-loop included) turns it off for good -/
theorem di_isDag_monotone (G : DiG) (op : GOp) (h : G.isDag = false) : (G.step op).1.isDag = false := by
  refine DiG.step_keeps (I := fun G => G.isDag = false) (fun {G G' u v} h e => ?_) h op
  rcases DiG.addEdge_cases G u v with ⟨_, h1⟩ | ⟨_, _, h1⟩ | ⟨_, _, h1⟩
  · rw [h1] at e; cases e
  · rw [h1] at e; cases e; exact h
  · rw [h1] at e; cases e
    simp only [DiG.isDag] at h
    simp [DiG.isDag, DiG.insertNew, h]

example : ((DiG.init 3).run [.addEdge 1 2, .addEdge 2 2]).isDag = false ∧
    ((DiG.init 3).run [.addEdge 1 2, .addEdge 0 1, .addEdgesFrom [(2, 3), (1, 3)]]).isDag = true ∧
    DiG.inserted 3 [.addEdge 1 2, .addEdge 0 1, .addEdgesFrom [(2, 3), (4, 4), (3, 1)]] = [(1, 2), (2, 3)] := by
  decide +kernel

/-! ## T-C16.4 — conversion to and from networkx preserves vertices and edges
(the networkx object is modelled by what is put into / read from it: the vertex count and an
edge list) -/

/-- `to_networkx` hands over exactly the vertices `1..n` and the sorted abstract edge set -/
theorem simple_toNx (G : SimpleG) (a : SimpleG.Spec) (h : G.Refines a) :
    (G.toNx).1 = a.n ∧ (G.toNx).2 = a.edges := SimpleG.toNx_spec h

/-- `from_networkx(to_networkx(G))` is `G`: same `n`, `m`, adjacency table, and edge set -/
theorem simple_nx_roundtrip (G : SimpleG) (h : G.Inv) :
    ∃ G', SimpleG.fromNx G.toNx = .ok G' ∧ G'.Inv ∧ G'.n = G.n ∧ G'.m = G.m ∧ G'.adj = G.adj ∧
      ∀ e, e ∈ G'.edgeset ↔ e ∈ G.edgeset := SimpleG.fromNx_toNx h

/-- … and so is `from_networkx` of ANY listing of the edges: any order, either orientation,
repetitions (networkx's iteration order is not assumed) -/
theorem simple_nx_any_listing (G : SimpleG) (h : G.Inv) (es : List (Nat × Nat))
    (hv : ∀ e ∈ es, 1 ≤ e.1 ∧ e.1 ≤ G.n ∧ 1 ≤ e.2 ∧ e.2 ≤ G.n ∧ e.1 ≠ e.2)
    (hes : ∀ p, p ∈ G.abs ↔ ∃ e ∈ es, p = SimpleG.norm e.1 e.2) :
    ∃ G', SimpleG.fromNx (G.n, es) = .ok G' ∧ G'.Inv ∧ G'.n = G.n ∧ G'.m = G.m ∧ G'.adj = G.adj ∧
      ∀ e, e ∈ G'.edgeset ↔ e ∈ G.edgeset := SimpleG.fromNx_listing h hv hes

theorem di_toNx (G : DiG) (a : DiG.Spec) (h : G.Refines a) :
    (G.toNx).1 = a.n ∧ (G.toNx).2 = a.edges := DiG.toNx_spec h

theorem di_nx_roundtrip (G : DiG) (h : G.Inv) :
    ∃ G', DiG.fromNx G.toNx = .ok G' ∧ G'.Inv ∧ G'.n = G.n ∧ G'.m = G.m ∧ G'.succ = G.succ ∧
      G'.pred = G.pred ∧ G'.stillDag = G.stillDag ∧ ∀ e, e ∈ G'.edgeset ↔ e ∈ G.edgeset :=
  DiG.fromNx_toNx h

theorem di_nx_any_listing (G : DiG) (h : G.Inv) (es : List (Nat × Nat))
    (hes : ∀ p, p ∈ G.edgeset ↔ p ∈ es) :
    ∃ G', DiG.fromNx (G.n, es) = .ok G' ∧ G'.Inv ∧ G'.n = G.n ∧ G'.m = G.m ∧ G'.succ = G.succ ∧
      G'.pred = G.pred ∧ G'.stillDag = G.stillDag ∧ ∀ e, e ∈ G'.edgeset ↔ e ∈ G.edgeset :=
  DiG.fromNx_listing h hes

theorem bip_toNx (G : BipG) (a : BipG.Spec) (h : G.Refines a) :
    (G.toNx).1 = a.l ∧ (G.toNx).2.1 = a.r ∧ (G.toNx).2.2 = a.edges.map (fun e => (e.1, e.2 + a.l)) :=
  BipG.toNx_spec h

theorem bip_nx_roundtrip (G : BipG) (h : G.Inv) :
    ∃ G', BipG.fromNx G.toNx = .ok G' ∧ G'.Inv ∧ G'.l = G.l ∧ G'.r = G.r ∧
      G'.ladj = G.ladj ∧ G'.radj = G.radj ∧ G'.numberOfEdges = G.numberOfEdges ∧
      ∀ e, e ∈ G'.edgeset ↔ e ∈ G.edgeset := BipG.fromNx_toNx h

theorem bip_nx_any_listing (G : BipG) (h : G.Inv) (xs : List ((Nat × Nat) × Bool))
    (hes : ∀ p, p ∈ G.edgeset ↔ p ∈ xs.map Prod.fst) :
    ∃ G', BipG.fromNx (G.l, G.r, xs.map (BipG.nxEdge G.l)) = .ok G' ∧ G'.Inv ∧ G'.l = G.l ∧ G'.r = G.r ∧
      G'.ladj = G.ladj ∧ G'.radj = G.radj ∧ G'.numberOfEdges = G.numberOfEdges ∧
      ∀ e, e ∈ G'.edgeset ↔ e ∈ G.edgeset := BipG.fromNx_listing h hes

example : SimpleG.fromNx ((SimpleG.init 3).run [.addEdge 3 1, .addEdge 1 2]).toNx =
    .ok ((SimpleG.init 3).run [.addEdge 1 2, .addEdge 1 3]) := rfl

example : BipG.fromNx (2, 2, [(1, 4), (3, 2)]) = BipG.ofEdges 2 2 [(1, 2), (2, 1)] := rfl

/-! ## what `ofEdges` builds (the constructor every graph-based family model uses) -/

theorem simple_ofEdges (n : Nat) (es : List (Nat × Nat)) :
    (∀ G, SimpleG.ofEdges n es = .ok G → G.Inv) ∧
    ((∀ e ∈ es, 1 ≤ e.1 ∧ e.1 ≤ n ∧ 1 ≤ e.2 ∧ e.2 ≤ n ∧ e.1 ≠ e.2) →
      ∃ G, SimpleG.ofEdges n es = .ok G ∧ G.n = n ∧ ∀ p, p ∈ G.abs ↔ ∃ e ∈ es, p = SimpleG.norm e.1 e.2) ∧
    ((¬ ∀ e ∈ es, 1 ≤ e.1 ∧ e.1 ≤ n ∧ 1 ≤ e.2 ∧ e.2 ≤ n ∧ e.1 ≠ e.2) →
      SimpleG.ofEdges n es = .error .valueError) := by
  refine ⟨fun G e => SimpleG.inv_ofEdges e, fun hv => ?_, SimpleG.ofEdges_error⟩
  obtain ⟨G, h1, _, h3, h4⟩ := SimpleG.ofEdges_spec hv
  exact ⟨G, h1, h3, h4⟩

theorem di_ofEdges (n : Nat) (es : List (Nat × Nat)) :
    (∀ G, DiG.ofEdges n es = .ok G → G.Inv) ∧
    ((∀ e ∈ es, 1 ≤ e.1 ∧ e.1 ≤ n ∧ 1 ≤ e.2 ∧ e.2 ≤ n) →
      ∃ G, DiG.ofEdges n es = .ok G ∧ G.n = n ∧ ∀ p, p ∈ G.edgeset ↔ p ∈ es) ∧
    ((¬ ∀ e ∈ es, 1 ≤ e.1 ∧ e.1 ≤ n ∧ 1 ≤ e.2 ∧ e.2 ≤ n) → DiG.ofEdges n es = .error .valueError) := by
  refine ⟨fun G e => DiG.inv_ofEdges e, fun hv => ?_, DiG.ofEdges_error⟩
  obtain ⟨G, h1, _, h3, h4⟩ := DiG.ofEdges_spec hv
  exact ⟨G, h1, h3, h4⟩

theorem bip_ofEdges (l r : Nat) (es : List (Nat × Nat)) :
    (∀ G, BipG.ofEdges l r es = .ok G → G.Inv) ∧
    ((∀ e ∈ es, 1 ≤ e.1 ∧ e.1 ≤ l ∧ 1 ≤ e.2 ∧ e.2 ≤ r) →
      ∃ G, BipG.ofEdges l r es = .ok G ∧ G.l = l ∧ G.r = r ∧ ∀ p, p ∈ G.edgeset ↔ p ∈ es) ∧
    ((¬ ∀ e ∈ es, 1 ≤ e.1 ∧ e.1 ≤ l ∧ 1 ≤ e.2 ∧ e.2 ≤ r) → BipG.ofEdges l r es = .error .valueError) := by
  refine ⟨fun G e => BipG.inv_ofEdges e, fun hv => ?_, BipG.ofEdges_error⟩
  obtain ⟨G, h1, _, h3, h3', h4⟩ := BipG.ofEdges_spec hv
  exact ⟨G, h1, h3, h3', h4⟩

example : ∃ G, SimpleG.ofEdges 3 [(2, 1), (1, 2), (3, 2)] = .ok G ∧ G.edges = [(1, 2), (2, 3)] :=
  ⟨_, rfl, by decide +kernel⟩

/-! ## `CompleteBipartiteGraph` -/

/-- the value used by the families satisfies the bipartite invariant; no update changes the
object; its closed-form views are the views of that value -/
theorem cbip_consistent (G : CBipG) (ops : List GOp) :
    G.toBipG.Inv ∧ G.run ops = G ∧
    G.edges = G.toBipG.edges ∧ (∀ u v, G.hasEdge u v = G.toBipG.hasEdge u v) ∧
    G.numberOfEdges = G.toBipG.numberOfEdges ∧
    (∀ e, e ∈ G.edges ↔ 1 ≤ e.1 ∧ e.1 ≤ G.l ∧ 1 ≤ e.2 ∧ e.2 ≤ G.r) ∧
    (∀ u : Int, 1 ≤ u ∧ u ≤ G.l → G.toBipG.rightNeighbors u = .ok (G.rightNeighbors u)) ∧
    (∀ v : Int, 1 ≤ v ∧ v ≤ G.r → G.toBipG.leftNeighbors v = .ok (G.leftNeighbors v)) :=
  ⟨BipG.inv_complete G.l G.r, G.run_state ops, G.edges_eq, G.hasEdge_eq,
   G.numberOfEdges_eq, G.mem_edges, fun _ hu => G.rightNeighbors_eq hu, fun _ hv => G.leftNeighbors_eq hv⟩

/-- insertions (finding D33, fixed): a pair outside `1..L × 1..R` is refused with `ValueError` and
the object is unchanged; a legal pair — already an edge — is a no-op; `add_edges_from` raises
iff some pair is illegal and changes nothing -/
theorem cbip_rejected (G : CBipG) (u v : Int) (es : List (Int × Int)) :
    (¬ BipG.Valid G.l G.r u v → G.step (.addEdge u v) = (G, .raised .valueError)) ∧
    (BipG.Valid G.l G.r u v → G.step (.addEdge u v) = (G, .ok) ∧ G.hasEdge u v = true) ∧
    (G.step (.addEdgesFrom es)).1 = G ∧
    ((G.step (.addEdgesFrom es)).2 = .ok ↔ ∀ e ∈ es, BipG.Valid G.l G.r e.1 e.2) ∧
    ((G.step (.addEdgesFrom es)).2 = .ok ∨ (G.step (.addEdgesFrom es)).2 = .raised .valueError) :=
  ⟨G.step_addEdge_invalid, fun h => ⟨G.step_addEdge_valid h, by
      simp only [CBipG.hasEdge, decide_eq_true_eq]; exact h⟩,
   (G.step_addEdgesFrom es).1, (G.step_addEdgesFrom es).2.1, (G.step_addEdgesFrom es).2.2⟩

example : ¬ BipG.Valid (CBipG.mk 2 3).l (CBipG.mk 2 3).r 9 9 ∧ BipG.Valid (CBipG.mk 2 3).l (CBipG.mk 2 3).r 2 3 := by
  decide +kernel

example : (CBipG.mk 2 3).edges = [(1, 1), (1, 2), (1, 3), (2, 1), (2, 2), (2, 3)] := by decide +kernel

end Cnfgen.C16
