/-
C07 — static hazards: the list of process-dependence sources regenerated from the current source equals the
reviewed list (`Cli/HazardReview.lean`, one justification per entry).
-/
import CnfgenModel.Cli.HazardReview
namespace Cnfgen.C07
open Cnfgen.Cli Cnfgen.GenPh

/-- every static hazard of the current source has been reviewed, and every reviewed one still exists -/
theorem hazards_are_reviewed : hazards = reviewedHazards := rfl

/-- in particular: nowhere in the package is a set / frozenset iterated, `id(`/`hash(` called, the clock, the working
directory, the process id, the host, a directory listing, OS entropy, a private `random.Random()` or
`random.seed()` without argument used -/
theorem no_hash_or_address_dependence : ∀ h ∈ hazards, h.kind ∉ hashKinds := by decide +kernel

/-- the only default-repr formatting of an object is the error text of `_process_graph_io_arguments` -/
theorem objects_in_format_strings :
    (hazards.filter (fun h => h.kind == "objectInFormat")).map (fun h => (h.file, h.fn)) =
      [("graphs.py", "_process_graph_io_arguments")] := by decide +kernel

/-- non-vacuity: the table is not empty (the translator found the hazards it is expected to find) -/
example : hazards.length = 20 ∧ (hazards.filter (fun h => h.kind == "dictView")).length = 6 := by decide +kernel

end Cnfgen.C07
