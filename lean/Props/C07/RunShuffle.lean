/-
C07 — the whole output of a run of `cnfshuffle` as a function of the command line, the input and the seed
(`Cli/RunShuffle.lean`).  The seed of cnfshuffle is a TOKEN (`type=str`); its guard is the truthiness of the token.
-/
import CnfgenModel.Cli.RunShuffle
import Props.C07.Run
namespace Cnfgen.C07
open Cnfgen.Cli Cnfgen.CliRun Cnfgen.GenPh

/-- the shape of a table under which a non-empty seed token makes the run independent of the initial state: parsing
(which cannot draw) comes first, then `random.seed(args.seed)` under a guard that fires for every non-empty token, and
nothing in between -/
def seedsRightAfterParsing (t : ToolPhases) : Bool :=
  match t.events with
  | .parse _ :: .seed gd .argsSeed :: _ => (gd == .truthy && seedTy t == "str") || gd == .isNotNone || gd == .always
  | _ => false

theorem seedsRightAfterParsing_events (t : ToolPhases) (ht : seedsRightAfterParsing t = true) :
    ∃ c gd es, t.events = .parse c :: .seed gd .argsSeed :: es ∧
      ((gd == .truthy && seedTy t == "str") || gd == .isNotNone || gd == .always) = true := by
  unfold seedsRightAfterParsing at ht
  split at ht
  · exact ⟨_, _, _, ‹_›, ht⟩
  · cases ht

theorem tokGuardFires_nonempty (ty : String) (gd : Guard)
    (h : ((gd == .truthy && ty == "str") || gd == .isNotNone || gd == .always) = true)
    (s : String) (hs : s ≠ "") : tokGuardFires ty gd (some s) = true := by
  cases gd <;> simp_all [tokGuardFires]

theorem shParse_ok (w : ShWorld) (argv : List String) (top : ShTop) (h : shParse w argv = .ok top) :
    parseShTop (argv.length + 1) argv.tail {} = .ok top := by
  unfold shParse at h
  cases hp : parseShTop (argv.length + 1) argv.tail {} with
  | error o => simp [hp] at h
  | ok top' =>
    simp only [hp] at h
    split at h
    · split at h
      · cases h
      · cases h; rfl
    · cases h; rfl

/-- T-C07.5 (general) for every such table: with a NON-EMPTY seed token on the command line the whole outcome of the
run (text or failure kind, number of answers consumed) does not depend on the state the generator had at start —
for every `σ`, every input text, every command line -/
theorem shuffleRunTable_deterministic (σ : String → List Shuffle.Draw) (w : ShWorld) (t : ToolPhases)
    (ht : seedsRightAfterParsing t = true) (argv : List String) (stdin : String) (s : String)
    (hs : shSeedOf argv = some s) (hne : s ≠ "") (r₁ r₂ : List Shuffle.Draw) :
    shuffleRunTable σ w t argv stdin r₁ = shuffleRunTable σ w t argv stdin r₂ := by
  obtain ⟨c, gd, es, hev, hgd⟩ := seedsRightAfterParsing_events t ht
  unfold shSeedOf at hs
  simp only [shuffleRunTable, hev, shRunFrom, isOutput, Bool.false_eq_true, if_false, shStep]
  cases hp : shParse w argv with
  | error o => rfl
  | ok top =>
    rw [shParse_ok w argv top hp] at hs
    simp only at hs
    simp only [hs, tokGuardFires_nonempty (seedTy t) gd hgd s hne, if_true]

theorem cnfshuffle_seeds_right_after_parsing : (phasesOf "cnfshuffle").any seedsRightAfterParsing = true := by
  decide +kernel

/-- T-C07.5 for the CURRENT source of cnfshuffle -/
theorem shuffleRun_deterministic (σ : String → List Shuffle.Draw) (w : ShWorld) (argv : List String) (stdin : String)
    (s : String) (hs : shSeedOf argv = some s) (hne : s ≠ "") (r₁ r₂ : List Shuffle.Draw) :
    shuffleRun σ w argv stdin r₁ = shuffleRun σ w argv stdin r₂ := by
  unfold shuffleRun
  have h := cnfshuffle_seeds_right_after_parsing
  cases ht : phasesOf "cnfshuffle" with
  | none => rfl
  | some t =>
    rw [ht] at h
    exact shuffleRunTable_deterministic σ w t (by simpa using h) argv stdin s hs hne r₁ r₂

/-- every integer seed is a non-empty token -/
theorem decimal_token_nonempty (v : String) (h : (decimal? v).isSome = true) : v ≠ "" := by
  intro hv
  subst hv
  simp [decimal?, isDigitStr] at h

/-! ### the text on stdout as a list of characters (as for `toolRun`, `Props/C07/Run.lean`) -/

def shRenderChars (st : ShState) : Option (List Char) :=
  match st.out, st.top.output with
  | some (G, hdr), none => (headerArg? st.top.verbose hdr).map fun h => IO.renderDimacsText G h none
  | _, _ => none

theorem shRender_of_chars {st : ShState} {cs : List Char} (h : shRenderChars st = some cs) :
    (shRender st).1 = .text (String.ofList cs) := by
  unfold shRenderChars at h
  unfold shRender
  split at h
  · rename_i G hdr ho hout
    simp only [ho, hout, Option.map_eq_some_iff] at h ⊢
    obtain ⟨h?, hh, rfl⟩ := h
    rw [headerArg_of_chars hh]
  · cases h

def shRunFromChars (σ : String → List Shuffle.Draw) (w : ShWorld) (t : ToolPhases) (argv : List String) (stdin : String) :
    List Ev → ShState → Option (List Char)
  | [], _ => none
  | e :: es, st =>
    if isOutput e then shRenderChars st
    else match shStep σ w t argv stdin st e with
      | .error _ => none
      | .ok st' => shRunFromChars σ w t argv stdin es st'

theorem shRunFrom_of_chars {σ : String → List Shuffle.Draw} {w : ShWorld} {t : ToolPhases} {argv : List String}
    {stdin : String} {cs : List Char} : ∀ (evs : List Ev) (st : ShState), shRunFromChars σ w t argv stdin evs st = some cs →
      (shRunFrom σ w t argv stdin evs st).1 = .text (String.ofList cs)
  | [], _, h => by cases h
  | e :: es, st, h => by
    unfold shRunFromChars at h
    unfold shRunFrom
    split
    · rename_i ho
      rw [if_pos ho] at h
      exact shRender_of_chars h
    · rename_i ho
      rw [if_neg ho] at h
      cases hs : shStep σ w t argv stdin st e with
      | error o => simp [hs] at h
      | ok st' =>
        simp only [hs] at h ⊢
        exact shRunFrom_of_chars es st' h

def shuffleRunChars (σ : String → List Shuffle.Draw) (w : ShWorld) (argv : List String) (stdin : String)
    (rng₀ : List Shuffle.Draw) : Option (List Char) :=
  (phasesOf "cnfshuffle").bind fun t => shRunFromChars σ w t argv stdin t.events { rng := rng₀ }

theorem shuffleRun_text_ne {σ₁ σ₂ : String → List Shuffle.Draw} {w : ShWorld} {argv₁ argv₂ : List String}
    {stdin₁ stdin₂ : String} {r₁ r₂ : List Shuffle.Draw}
    (h : textsDiffer (shuffleRunChars σ₁ w argv₁ stdin₁ r₁) (shuffleRunChars σ₂ w argv₂ stdin₂ r₂) = true) :
    (shuffleRun σ₁ w argv₁ stdin₁ r₁).1 ≠ (shuffleRun σ₂ w argv₂ stdin₂ r₂).1 := by
  obtain ⟨cs, ds, h₁, h₂, hne⟩ := ofList_ne_of_textsDiffer h
  unfold shuffleRunChars at h₁ h₂
  unfold shuffleRun shuffleRunTable
  cases ht : phasesOf "cnfshuffle" with
  | none => simp [ht] at h₁
  | some t =>
    rw [ht] at h₁ h₂
    simp only [shRunFrom_of_chars _ _ h₁, shRunFrom_of_chars _ _ h₂]
    simpa using hne

def shWorld : ShWorld := { inputName := "<stdin>", baseHeader := [("generator", "CNFgen")] }

def shFileWorld : ShWorld :=
  { shWorld with files := fun tok => if tok == "in.cnf" then some "p cnf 2 1\n1 0\n" else none }

/-- the EMPTY seed token is ignored by `if args.seed:` — the output then depends on the initial state.  Not a
violation of the property (the empty string is not an integer seed); recorded as an observation. -/
theorem empty_seed_token_is_ignored :
    (shuffleRun (fun _ => [.shuffled [1, 2]]) shWorld ["cnfshuffle", "--seed", "", "-p", "-c"] "p cnf 2 1\n1 0\n"
      [.shuffled [1, 2]]).1 ≠
    (shuffleRun (fun _ => [.shuffled [1, 2]]) shWorld ["cnfshuffle", "--seed", "", "-p", "-c"] "p cnf 2 1\n1 0\n"
      [.shuffled [2, 1]]).1 := shuffleRun_text_ne (by decide +kernel)

/-- seed `0` is honoured (the token `"0"` is truthy): non-vacuity of T-C07.5 with the seed the old cnfgen ignored;
the state installed by the seed decides the output, the initial state does not -/
example :
    shuffleRun (fun _ => [.shuffled [2, 1]]) shWorld ["cnfshuffle", "-q", "--seed", "0", "-p", "-c"] "p cnf 2 1\n1 0\n"
      [.shuffled [1, 2]] = (.text "p cnf 2 1\n2 0\n", 1, []) ∧
    shSeedOf ["cnfshuffle", "-q", "--seed", "0", "-p", "-c"] = some "0" := by decide +kernel

/-- T-C07.5 with `-i` / `-o`: the text written to the OUTPUT FILE (and the empty stdout) is independent of the initial
generator state too — `shuffleRun_deterministic` is about the whole result, this is its projection -/
theorem shuffleRun_file_output_deterministic (σ : String → List Shuffle.Draw) (w : ShWorld) (argv : List String)
    (stdin : String) (s : String) (hs : shSeedOf argv = some s) (hne : s ≠ "") (r₁ r₂ : List Shuffle.Draw) :
    (shuffleRun σ w argv stdin r₁).2.2 = (shuffleRun σ w argv stdin r₂).2.2 := by
  rw [shuffleRun_deterministic σ w argv stdin s hs hne r₁ r₂]

/-- stdin is read by `readInput` only, and only when the options name no input file; `hp`: they do, or the step is the
parsing that sets them -/
theorem shStep_stdin (σ : String → List Shuffle.Draw) (w : ShWorld) (t : ToolPhases) (argv : List String)
    (s₁ s₂ : String) (st : ShState) (e : Ev) (hp : st.top.input.isSome = true ∨ ∃ c, e = .parse c) :
    shStep σ w t argv s₁ st e = shStep σ w t argv s₂ st e := by
  cases e with
  | readInput c =>
    obtain ⟨f, hf⟩ := Option.isSome_iff_exists.1 (hp.resolve_right (by simp))
    simp only [shStep, hf]
  | _ => rfl

/-- a command line that names an input file: the parsing sets the options, no other step changes them -/
theorem shStep_input (σ : String → List Shuffle.Draw) (w : ShWorld) (t : ToolPhases) (argv : List String) (s : String)
    (hi : (shParse w argv).toOption.all (·.input.isSome) = true) (st st' : ShState) (e : Ev)
    (hp : st.top.input.isSome = true ∨ ∃ c, e = .parse c) (h : shStep σ w t argv s st e = .ok st') :
    st'.top.input.isSome = true := by
  cases e with
  | parse c =>
    simp only [shStep] at h
    cases hw : shParse w argv with
    | error o => simp [hw] at h
    | ok top =>
      simp only [hw, Except.ok.injEq] at h
      subst h
      simpa [hw, Except.toOption] using hi
  | _ =>
    simp only [shStep] at h
    repeat' split at h
    all_goals cases h
    all_goals simpa using hp

theorem shRunFrom_stdin (σ : String → List Shuffle.Draw) (w : ShWorld) (t : ToolPhases) (argv : List String)
    (hi : (shParse w argv).toOption.all (·.input.isSome) = true) (s₁ s₂ : String) (evs : List Ev) :
    ∀ st, (st.top.input.isSome = true ∨ ∃ c es, evs = .parse c :: es) →
      shRunFrom σ w t argv s₁ evs st = shRunFrom σ w t argv s₂ evs st := by
  induction evs with
  | nil => intro st _; rfl
  | cons e es ih =>
    intro st hp
    replace hp : st.top.input.isSome = true ∨ ∃ c, e = .parse c := hp.imp_right fun ⟨c, _, h⟩ => ⟨c, (List.cons.inj h).1⟩
    simp only [shRunFrom]
    split
    · rfl
    · rw [← shStep_stdin σ w t argv s₁ s₂ st e hp]
      cases h : shStep σ w t argv s₁ st e with
      | error o => rfl
      | ok st' => exact ih st' (.inl (shStep_input σ w t argv s₁ hi st st' e hp h))

/-- a command line that names an input file (or is rejected): the run is a function of the FILE's content (the environment),
whatever stands on stdin -/
theorem shuffleRun_independent_of_stdin (σ : String → List Shuffle.Draw) (w : ShWorld) (argv : List String)
    (hi : (shParse w argv).toOption.all (·.input.isSome) = true) (s₁ s₂ : String) (r : List Shuffle.Draw) :
    shuffleRun σ w argv s₁ r = shuffleRun σ w argv s₂ r := by
  unfold shuffleRun
  have h := cnfshuffle_seeds_right_after_parsing
  cases ht : phasesOf "cnfshuffle" with
  | none => rfl
  | some t =>
    rw [ht] at h
    obtain ⟨c, gd, es, hev, -⟩ := seedsRightAfterParsing_events t (by simpa using h)
    exact shRunFrom_stdin σ w t argv hi s₁ s₂ t.events _ (.inr ⟨c, _, hev⟩)

theorem shuffleRun_input_file_ignores_stdin :
    shuffleRun (fun _ => [.shuffled [2, 1]]) shFileWorld ["cnfshuffle", "--seed", "5", "-p", "-c", "-i", "in.cnf"] "garbage" [] =
    shuffleRun (fun _ => [.shuffled [2, 1]]) shFileWorld ["cnfshuffle", "--seed", "5", "-p", "-c", "-i", "in.cnf"] "" [] :=
  shuffleRun_independent_of_stdin _ _ _ (by decide +kernel) _ _ _

/-- recorded shape of `cnfshuffle -q --seed 5 -p -c -i in.cnf -o out.cnf`: nothing on stdout, the formula in the file;
a missing input file is an argparse error -/
example :
    shuffleRun (fun _ => [.shuffled [2, 1]]) shFileWorld ["cnfshuffle", "-q", "--seed", "5", "-p", "-c", "-i", "in.cnf", "-o", "out.cnf"]
      "ignored" [.shuffled [1, 2]] = (.text "", 1, [("out.cnf", "p cnf 2 1\n2 0\n")]) ∧
    shuffleRun (fun _ => []) shFileWorld ["cnfshuffle", "--seed", "5", "-i", "missing.cnf"] "" [] = (.cliError, 0, []) ∧
    shSeedOf ["cnfshuffle", "-q", "--seed", "5", "-p", "-c", "-i", "in.cnf", "-o", "out.cnf"] = some "5" := by decide +kernel

end Cnfgen.C07
