/-
C07 — where the generator is consulted: theorems over the call-site tables regenerated from the current source
(`Generated/Phases.lean`: every call of a function of `random` / of a networkx generator drawing from the
module-level generator, with the roots it is reachable from in an over-approximating call graph).
-/
import CnfgenModel.Cli.PhaseTable
import CnfgenModel.Cli.HazardReview
namespace Cnfgen.C07
open Cnfgen.Cli Cnfgen.GenPh

/-- every draw happens in a phase that the phase tables order AFTER a seeding: inside the argparse action of a
sub-command's argument (`action`), inside `build_formula` (`build`) or inside `transform_cnf` (`transform`) —
never at import time, never while the parsers are set up, never inside the action of an option of the main
parser (which could precede `--seed` on the command line), never in `cli()` itself -/
theorem draws_only_in_seeded_phases :
    ∀ s ∈ randomSites, s.draws = true → ∀ r ∈ s.roots, r ∈ ["action", "build", "transform"] := by
  decide +kernel

/-- the calls of `random.seed` are exactly: `cli()` of the three tools (events of the phase tables), the `--seed`
actions of cnfgen / pbgen, and the library generators with a `seed` parameter -/
theorem seed_calls_accounted :
    ∀ s ∈ randomSites, s.callee = "random.seed" →
      s.fn = "cli" ∨ s.roots = ["topaction"] ∨ (s.file, s.fn) ∈ reviewedSeededGenerators := by
  decide +kernel

/-- graph arguments are materialised by argparse actions of the SUB-COMMANDS (never by an option of the main
parser), and every action argument of a helper uses a known action class -/
theorem graph_arguments_materialised_while_parsing :
    (∀ a ∈ actionClasses, a.2.2.1 = true → a.2.2.2.1 = false ∧ a.2.2.2.2 = true) ∧
    (∀ a ∈ actionArguments, a.2.2.2 ∈ actionClasses.map (·.1)) := by
  decide +kernel

/-- a tool whose sub-command arguments can draw while parsing, and that has a `--seed` option, seeds inside the
option's action (D2) -/
theorem parse_time_draws_are_seeded :
    ∀ t ∈ toolPhases, parseMayDraw t = true → ∀ o, t.seedOpt = some o → o.seeds = true ∧ o.stores = true := by
  decide +kernel

/-- parsing CAN draw in cnfgen, pbgen and kthlist2pebbling (so the previous theorem is not vacuous), and cannot in
cnfshuffle -/
theorem parse_may_draw_table :
    toolPhases.map (fun t => (t.tool, parseMayDraw t)) =
      [("cnfgen", true), ("pbgen", true), ("cnfshuffle", false), ("kthlist2pebbling", true)] := by
  decide +kernel

/-- library half: the functions with a `seed` parameter are the reviewed ones; each of them can draw, and each
runs `if seed is not None: random.seed(seed)` before anything that can draw -/
theorem seeded_generators_seed_first :
    seededGenerators.map (fun s => (s.file, s.fn)) = reviewedSeededGenerators ∧
    ∀ s ∈ seededGenerators, s.guard = .isNotNone ∧ s.arg = .argsSeed ∧ s.seedFirst = true ∧ s.draws = true := by
  decide +kernel

/-- non-vacuity: the site table is populated -/
example : (randomSites.filter (·.draws)).length ≥ 30 ∧
    (randomSites.filter (fun s => s.draws && s.roots.contains "action")).length ≥ 10 := by decide +kernel

end Cnfgen.C07
