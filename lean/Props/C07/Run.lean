/-
C07 — the whole output of a run as a function of the command line and the seed (`Cli/Run.lean`).
-/
import CnfgenModel.Cli.Run
namespace Cnfgen.C07
open Cnfgen.Cli Cnfgen.CliRun Cnfgen.GenPh

/-- the shape of a table that `runTable_deterministic` needs: the first event is the parsing of the command line
and the `--seed` action seeds the generator -/
def seedsWhileParsing (t : ToolPhases) : Bool :=
  match t.events, t.seedOpt with
  | .parse _ :: _, some o => o.seeds
  | _, _ => false

theorem seedOf_eq_some {argv : List String} {s : Int} (hs : seedOf argv = some s) :
    ∃ top, parseTop (argv.length + 1) (parseCommandLine argv).1 {} = .ok top ∧ top.seed = some s := by
  unfold seedOf at hs
  split at hs
  · exact ⟨_, ‹_›, hs⟩
  · cases hs

theorem stepParse_independent_of_state (σ : Int → Rng) (w : World) (t : ToolPhases) (argv : List String)
    (o : SeedOpt) (ho : t.seedOpt = some o) (hseeds : o.seeds = true) (s : Int) (hs : seedOf argv = some s)
    (r₁ r₂ : Rng) : stepParse σ w t argv { rng := r₁ } = stepParse σ w t argv { rng := r₂ } := by
  obtain ⟨top, hp, hseed⟩ := seedOf_eq_some hs
  simp only [stepParse, hp, ho, hseed, hseeds, if_true]

/-- T-C07.3 (general) for every table whose `--seed` action seeds while parsing: with a seed on the command line the
WHOLE outcome of the run — the text written, or the kind of failure, and the number of answers consumed from the
generator — does not depend on the state the generator had when the process started.  For every `σ`
(whatever `random.seed` does, as long as it is a function of the seed), every world, every command line. -/
theorem runTable_deterministic (σ : Int → Rng) (w : World) (t : ToolPhases) (ht : seedsWhileParsing t = true)
    (argv : List String) (s : Int) (hs : seedOf argv = some s) (r₁ r₂ : Rng) :
    runTable σ w t argv r₁ = runTable σ w t argv r₂ := by
  unfold seedsWhileParsing at ht
  split at ht
  · rename_i c es o hev hso
    simp only [runTable, hev, CliRun.runFrom, isOutput, Bool.false_eq_true, if_false, CliRun.stepEv]
    rw [stepParse_independent_of_state σ w t argv o hso ht s hs r₁ r₂]
  · cases ht

theorem tools_seed_while_parsing :
    ∀ tool ∈ ["cnfgen", "pbgen"], (phasesOf tool).any seedsWhileParsing = true := by decide +kernel

/-- T-C07.3 for the CURRENT source of cnfgen and pbgen -/
theorem toolRun_deterministic (tool : String) (htool : tool ∈ ["cnfgen", "pbgen"]) (σ : Int → Rng) (w : World)
    (argv : List String) (s : Int) (hs : seedOf argv = some s) (r₁ r₂ : Rng) :
    toolRun tool σ w argv r₁ = toolRun tool σ w argv r₂ := by
  unfold toolRun
  have h := tools_seed_while_parsing tool htool
  cases ht : phasesOf tool with
  | none => rfl
  | some t =>
    rw [ht] at h
    exact runTable_deterministic σ w t (by simpa using h) argv s hs r₁ r₂

/-- T-C07.3 for the CURRENT source of cnfgen: equal command lines with a seed give equal output text, whatever the
process -/
theorem cliRun_deterministic (σ : Int → Rng) (w : World) (argv : List String) (s : Int)
    (hs : seedOf argv = some s) (r₁ r₂ : Rng) : cliRun σ w argv r₁ = cliRun σ w argv r₂ :=
  toolRun_deterministic "cnfgen" (by simp) σ w argv s hs r₁ r₂

def SeedInv (argv : List String) (st : RState) : Prop := st.top.seed = none ∨ st.top.seed = seedOf argv

theorem argsSeed_cases (t : ToolPhases) (x : Option Int) : argsSeed t x = x ∨ argsSeed t x = none := by
  unfold argsSeed
  cases t.seedOpt with
  | none => right; rfl
  | some o => cases h : o.stores <;> simp [h]

theorem stepParse_sigma (σ₁ σ₂ : Int → Rng) (w : World) (t : ToolPhases) (argv : List String) (s : Int)
    (hs : seedOf argv = some s) (hσ : σ₁ s = σ₂ s) (st : RState) :
    stepParse σ₁ w t argv st = stepParse σ₂ w t argv st := by
  obtain ⟨top, hp, hseed⟩ := seedOf_eq_some hs
  simp only [stepParse, hp, hseed]
  cases t.seedOpt with
  | none => rfl
  | some o => simp only [hσ]

theorem stepParse_inv (σ : Int → Rng) (w : World) (t : ToolPhases) (argv : List String) (st st' : RState)
    (h : stepParse σ w t argv st = .ok st') : SeedInv argv st' := by
  unfold stepParse at h
  split at h
  · cases h
  cases hp : parseTop (argv.length + 1) (parseCommandLine argv).1 {} with
  | error e => simp [hp] at h
  | ok top =>
    have hseed : seedOf argv = top.seed := by simp [seedOf, hp]
    simp only [hp] at h
    right
    rw [hseed]
    split at h
    · cases h
    · cases h; rfl

theorem stepEv_sigma (σ₁ σ₂ : Int → Rng) (w : World) (t : ToolPhases) (argv : List String) (s : Int)
    (hs : seedOf argv = some s) (hσ : σ₁ s = σ₂ s) (st : RState) (hinv : SeedInv argv st) (e : Ev) :
    CliRun.stepEv σ₁ w t argv st e = CliRun.stepEv σ₂ w t argv st e := by
  cases e with
  | parse c => exact stepParse_sigma σ₁ σ₂ w t argv s hs hσ st
  | seed gd a =>
    simp only [CliRun.stepEv]
    split
    · have hx : argsSeed t st.top.seed = none ∨ argsSeed t st.top.seed = some s := by
        rcases argsSeed_cases t st.top.seed with h | h
        · rcases hinv with h0 | h0
          · left; rw [h, h0]
          · right; rw [h, h0, hs]
        · left; exact h
      rcases hx with hx | hx
      · rw [hx]
        cases a <;> rfl
      · rw [hx]
        cases a <;> simp [hσ]
    · rfl
  | _ => rfl

theorem stepEv_inv (σ : Int → Rng) (w : World) (t : ToolPhases) (argv : List String) (st st' : RState)
    (hinv : SeedInv argv st) (e : Ev) (h : CliRun.stepEv σ w t argv st e = .ok st') : SeedInv argv st' := by
  cases e with
  | parse c => exact stepParse_inv σ w t argv st st' h
  | _ =>
    -- every other event leaves `top` as it is
    simp only [CliRun.stepEv] at h
    repeat' split at h
    all_goals cases h
    all_goals exact hinv

theorem runFrom_sigma (σ₁ σ₂ : Int → Rng) (w : World) (t : ToolPhases) (argv : List String) (s : Int)
    (hs : seedOf argv = some s) (hσ : σ₁ s = σ₂ s) (evs : List Ev) :
    ∀ st, SeedInv argv st → CliRun.runFrom σ₁ w t argv evs st = CliRun.runFrom σ₂ w t argv evs st := by
  induction evs with
  | nil => intro st _; rfl
  | cons e es ih =>
    intro st hinv
    simp only [CliRun.runFrom]
    split
    · rfl
    · rw [← stepEv_sigma σ₁ σ₂ w t argv s hs hσ st hinv e]
      cases hst : CliRun.stepEv σ₁ w t argv st e with
      | error o => rfl
      | ok st' => exact ih st' (stepEv_inv σ₁ w t argv st st' hinv e hst)

/-- T-C07.4 the run consults `random.seed` only at the seed of the command line: two generators that agree on the
state installed by THAT seed give the same outcome.  Together with T-C07.3: the output text is a function of
(command line, state installed by the seed) — nothing else about the generator or the process enters. -/
theorem toolRun_function_of_seeded_state (tool : String) (htool : tool ∈ ["cnfgen", "pbgen"]) (σ₁ σ₂ : Int → Rng)
    (w : World) (argv : List String) (s : Int) (hs : seedOf argv = some s) (hσ : σ₁ s = σ₂ s) (r₁ r₂ : Rng) :
    toolRun tool σ₁ w argv r₁ = toolRun tool σ₂ w argv r₂ := by
  rw [toolRun_deterministic tool htool σ₁ w argv s hs r₁ r₂]
  unfold toolRun
  cases phasesOf tool with
  | none => rfl
  | some t => exact runFrom_sigma σ₁ σ₂ w t argv s hs hσ t.events _ (Or.inl rfl)

theorem cliRun_function_of_seeded_state (σ₁ σ₂ : Int → Rng) (w : World) (argv : List String) (s : Int)
    (hs : seedOf argv = some s) (hσ : σ₁ s = σ₂ s) (r₁ r₂ : Rng) :
    cliRun σ₁ w argv r₁ = cliRun σ₂ w argv r₂ :=
  toolRun_function_of_seeded_state "cnfgen" (by simp) σ₁ σ₂ w argv s hs hσ r₁ r₂

/-! ### the text of a run as a list of characters

For the kernel `String.ofList l` is quadratic in the length of `l` (the bytes are pushed one by one at the end of a list),
and so is deciding `String.ofList l = "…"`; `String.toList` decodes by position and is quadratic with a larger constant.
A literal, on the other hand, IS `String.ofList [c₁, …]` for the kernel, without evaluation.  So the recorded runs below
are checked on the characters: `toolRunChars` is `toolRun` without the final `String.ofList`, and it reads the strings of
the header (all ASCII) off their bytes. -/

def asciiChars? (s : String) : Option (List Char) :=
  s.toByteArray.data.toList.mapM fun b => if b < 128 then some (Char.ofUInt8 b) else none

theorem encode_ofUInt8 (b : UInt8) (h : b < 128) : String.utf8EncodeChar (Char.ofUInt8 b) = [b] := by
  have hb : b.toNat < 128 := h
  have h1 : (Char.ofUInt8 b).utf8Size = 1 := by
    rw [Char.utf8Size_eq_one_iff]
    simp only [Char.ofUInt8, UInt32.le_iff_toNat_le, UInt8.toNat_toUInt32, UInt32.reduceToNat]
    omega
  rw [String.utf8EncodeChar_eq_singleton h1]
  simp [Char.ofUInt8]

theorem encode_of_ascii : ∀ (bs : List UInt8) (cs : List Char),
    bs.mapM (fun b => if b < 128 then some (Char.ofUInt8 b) else none) = some cs → cs.flatMap String.utf8EncodeChar = bs
  | [], cs, h => by cases h; rfl
  | b :: bs, cs, h => by
    rw [List.mapM_cons] at h
    by_cases hb : b < 128
    · simp only [hb, if_true, Option.pure_def, Option.bind_eq_bind, Option.bind_some, Option.bind_eq_some_iff] at h
      obtain ⟨cs', hcs, h⟩ := h
      cases h
      rw [List.flatMap_cons, encode_ofUInt8 b hb, encode_of_ascii bs cs' hcs]
      rfl
    · simp [hb] at h

theorem toList_of_asciiChars {s : String} {cs : List Char} (h : asciiChars? s = some cs) : s.toList = cs := by
  have hs : s = String.ofList cs := by
    apply String.toByteArray_inj.1
    rw [String.toByteArray_ofList, List.utf8Encode, encode_of_ascii _ _ h]
    exact ByteArray.ext (by simp)
  rw [hs, String.toList_ofList]

def headerChars? (hdr : Hdr) : Option IO.Header :=
  hdr.mapM fun e => do pure ((← asciiChars? e.1), (← asciiChars? e.2))

theorem header_of_chars : ∀ (hdr : Hdr) (h : IO.Header), headerChars? hdr = some h →
    hdr.map (fun e => (e.1.toList, e.2.toList)) = h
  | [], h, hh => by cases hh; rfl
  | e :: hdr, h, hh => by
    unfold headerChars? at hh
    rw [List.mapM_cons] at hh
    simp only [Option.pure_def, Option.bind_eq_bind, Option.bind_eq_some_iff, Option.some.injEq] at hh
    obtain ⟨p, ⟨k, hk, v, hv, rfl⟩, h', hh', rfl⟩ := hh
    rw [List.map_cons, toList_of_asciiChars hk, toList_of_asciiChars hv, header_of_chars hdr h' hh']

/-- the header handed to the writer (`export_header=args.verbose`) -/
def headerArg? (verbose : Bool) (hdr : Hdr) : Option (Option IO.Header) :=
  if verbose then (headerChars? hdr).map some else some none

theorem headerArg_of_chars {verbose : Bool} {hdr : Hdr} {h? : Option IO.Header} (h : headerArg? verbose hdr = some h?) :
    (if verbose then some (hdr.map (fun e => (e.1.toList, e.2.toList))) else none) = h? := by
  cases verbose with
  | true =>
    simp only [headerArg?, if_true, Option.map_eq_some_iff] at h
    obtain ⟨h', hh', rfl⟩ := h
    rw [header_of_chars _ _ hh', if_pos rfl]
  | false => cases h; rfl

def renderChars (t : ToolPhases) (st : RState) : Option (List Char) :=
  match st.formula with
  | none => none
  | some (F, hdr) =>
    (headerArg? st.top.verbose hdr).bind fun hdr? =>
    if t.tool == "cnfgen" then some (IO.renderDimacsText F.toCNF hdr? none)
    else if t.tool == "pbgen" then some (IO.renderOpbText F.toOPB hdr? none)
    else none

theorem render_of_chars {t : ToolPhases} {st : RState} {cs : List Char} (h : renderChars t st = some cs) :
    render t st = .text (String.ofList cs) := by
  unfold renderChars at h
  unfold render
  cases hf : st.formula with
  | none => simp [hf] at h
  | some p =>
    simp only [hf, Option.bind_eq_some_iff] at h ⊢
    obtain ⟨hdr?, hh, h⟩ := h
    rw [headerArg_of_chars hh]
    split
    · simp_all
    · split <;> simp_all

def runFromChars (σ : Int → Rng) (w : World) (t : ToolPhases) (argv : List String) :
    List Ev → RState → Option (List Char × Nat × Nat × List (String × String))
  | [], _ => none
  | e :: es, st =>
    if isOutput e then (renderChars t st).map (·, st.usedGraph, st.usedFormula, st.written)
    else match CliRun.stepEv σ w t argv st e with
      | .error _ => none
      | .ok st' => runFromChars σ w t argv es st'

theorem runFrom_of_chars {σ : Int → Rng} {w : World} {t : ToolPhases} {argv : List String} {cs : List Char} {a b : Nat}
    {wr : List (String × String)} : ∀ (evs : List Ev) (st : RState), runFromChars σ w t argv evs st = some (cs, a, b, wr) →
      CliRun.runFrom σ w t argv evs st = ⟨.text (String.ofList cs), a, b, wr⟩
  | [], _, h => by cases h
  | e :: es, st, h => by
    unfold runFromChars at h
    unfold CliRun.runFrom
    split
    · rename_i ho
      simp only [ho, if_true, Option.map_eq_some_iff, Prod.mk.injEq] at h
      obtain ⟨cs', hr, rfl, rfl, rfl, rfl⟩ := h
      rw [render_of_chars hr]
    · rename_i ho
      simp only [ho] at h
      cases hs : CliRun.stepEv σ w t argv st e with
      | error o => simp [hs] at h
      | ok st' =>
        simp only [hs] at h ⊢
        exact runFrom_of_chars es st' h

def toolRunChars (tool : String) (σ : Int → Rng) (w : World) (argv : List String) (rng₀ : Rng) :
    Option (List Char × Nat × Nat × List (String × String)) :=
  (phasesOf tool).bind fun t => runFromChars σ w t argv t.events { rng := rng₀ }

theorem toolRun_of_chars {tool : String} {σ : Int → Rng} {w : World} {argv : List String} {r : Rng} {cs : List Char}
    {a b : Nat} {wr : List (String × String)} {s : String} (hs : s = String.ofList cs)
    (h : toolRunChars tool σ w argv r = some (cs, a, b, wr)) : toolRun tool σ w argv r = ⟨.text s, a, b, wr⟩ := by
  unfold toolRunChars at h
  unfold toolRun runTable
  cases ht : phasesOf tool with
  | none => simp [ht] at h
  | some t =>
    rw [ht] at h
    rw [hs]
    exact runFrom_of_chars _ _ h

theorem append_ofList {s : String} {a b : List Char} (hs : s = String.ofList a) :
    s ++ String.ofList b = String.ofList (a ++ b) := by
  rw [hs, String.ofList_append]

/-- closes `"…" ++ "…" ++ … = String.ofList ?cs`, finding `cs`: a literal is `String.ofList` of its characters by `rfl`;
the literals are taken off from the right -/
macro "literal_chars" : tactic => `(tactic| ((repeat apply append_ofList); exact rfl))

def textsDiffer : (x y : Option (List Char)) → Bool
  | some cs, some ds => cs != ds
  | _, _ => false

theorem ofList_ne_of_textsDiffer {x y : Option (List Char)} (h : textsDiffer x y = true) :
    ∃ cs ds, x = some cs ∧ y = some ds ∧ String.ofList cs ≠ String.ofList ds := by
  match x, y, h with
  | some cs, some ds, h => exact ⟨cs, ds, rfl, rfl, by simpa [textsDiffer, String.ofList_inj] using h⟩

theorem toolRun_out_ne {tool : String} {σ₁ σ₂ : Int → Rng} {w : World} {argv₁ argv₂ : List String} {r₁ r₂ : Rng}
    (h : textsDiffer ((toolRunChars tool σ₁ w argv₁ r₁).map (·.1)) ((toolRunChars tool σ₂ w argv₂ r₂).map (·.1)) = true) :
    (toolRun tool σ₁ w argv₁ r₁).out ≠ (toolRun tool σ₂ w argv₂ r₂).out := by
  obtain ⟨cs, ds, h₁, h₂, hne⟩ := ofList_ne_of_textsDiffer h
  obtain ⟨⟨_, a, b, wr⟩, h₁', rfl⟩ := Option.map_eq_some_iff.1 h₁
  obtain ⟨⟨_, a', b', wr'⟩, h₂', rfl⟩ := Option.map_eq_some_iff.1 h₂
  rw [toolRun_of_chars rfl h₁', toolRun_of_chars rfl h₂']
  simpa using hne

/-! ### witnesses: the model is not trivially constant, and reproduces recorded runs of the real tool -/

/-- a world for the witnesses: numerals are read by `int`, `.5` is 1/2, the base header has one entry -/
def witnessWorld : World :=
  { gw := { interp := fun tok => ⟨pyInt? tok, if tok == ".5" then some (1, 2) else none⟩, ext := none,
            openFile := .error .valueError, readGraph := fun _ => .stuck, fuel := 0, dot := true }
    floatStr := fun t => if t == ".5" then "0.5" else t
    baseHeader := [("generator", "CNFgen (3e30473)")] }

/-- WITHOUT a seed the text does depend on the state of the generator: `seedOf argv = some s` is a necessary
hypothesis of T-C07.3 -/
theorem cliRun_unseeded_depends_on_state :
    (cliRun (fun _ => ⟨[], []⟩) witnessWorld ["cnfgen", "randkcnf", "1", "2", "1"]
      ⟨[], [.f (.sample 2 1 [0]), .f (.choice 2 0)]⟩).out ≠
    (cliRun (fun _ => ⟨[], []⟩) witnessWorld ["cnfgen", "randkcnf", "1", "2", "1"]
      ⟨[], [.f (.sample 2 1 [1]), .f (.choice 2 0)]⟩).out := toolRun_out_ne (by decide +kernel)

/-- the answers of the seeded state do reach the text (the run is not constant in `σ`) -/
theorem cliRun_seeded_state_matters :
    (cliRun (fun _ => ⟨[], [.f (.sample 2 1 [0]), .f (.choice 2 0)]⟩) witnessWorld ["cnfgen", "--seed", "7", "randkcnf", "1", "2", "1"] ⟨[], []⟩).out ≠
    (cliRun (fun _ => ⟨[], [.f (.sample 2 1 [1]), .f (.choice 2 0)]⟩) witnessWorld ["cnfgen", "--seed", "7", "randkcnf", "1", "2", "1"] ⟨[], []⟩).out :=
  toolRun_out_ne (by decide +kernel)

/-- recorded run of the real tool (`cnfgen --seed 0 randkcnf 2 3 2`, CPython 3.12 generator): the model, given the
answers the generator gave after `random.seed(0)`, asks for exactly those six draws and writes the same text -/
example :
    cliRun (fun _ => ⟨[], [.f (.sample 3 2 [1, 2]), .f (.choice 2 0), .f (.choice 2 1), .f (.sample 3 2 [2, 1]),
                          .f (.choice 2 1), .f (.choice 2 1)]⟩)
      witnessWorld ["cnfgen", "--seed", "0", "randkcnf", "2", "3", "2"] ⟨[.g (.unit 5)], [.f (.choice 9 9)]⟩ =
    ⟨.text ("c description: Random 2-CNF over 3 variables and 2 clauses\nc generator: CNFgen (3e30473)\n" ++
            "c random seed: 0\nc command line: cnfgen --seed 0 randkcnf 2 3 2\nc\np cnf 3 2\n2 -3 0\n-2 -3 0\n"), 0, 6, []⟩ :=
  toolRun_of_chars (by literal_chars) (by decide +kernel)

/-- recorded run of `cnfgen -q --seed 7 kcolor 2 gnp 3 .5`: three `random()` calls of networkx while the command
line is parsed (the graph argument), none afterwards; non-vacuity of T-C07.3 with a random graph argument -/
example :
    cliRun (fun _ => ⟨[.g (.unit 2916826238065975), .g (.unit 1358728566951068), .g (.unit 5863096500449791)], []⟩)
      witnessWorld ["cnfgen", "-q", "--seed", "7", "kcolor", "2", "gnp", "3", ".5"] ⟨[], []⟩ =
    ⟨.text "p cnf 6 10\n1 2 0\n3 4 0\n5 6 0\n-1 -2 0\n-3 -4 0\n-5 -6 0\n-1 -3 0\n-2 -4 0\n-1 -5 0\n-2 -6 0\n", 3, 0, []⟩ ∧
    seedOf ["cnfgen", "-q", "--seed", "7", "kcolor", "2", "gnp", "3", ".5"] = some 7 :=
  ⟨toolRun_of_chars (by literal_chars) (by decide +kernel), by decide +kernel⟩

/-- recorded run of `pbgen -q --seed 3 kcolor 2 gnp 3 .5` (OPB rendering of the same family, same flow) -/
example :
    toolRun "pbgen" (fun _ => ⟨[.g (.unit 2143394811796802), .g (.unit 4901981072493965), .g (.unit 3332259900419439)], []⟩)
      witnessWorld ["pbgen", "-q", "--seed", "3", "kcolor", "2", "gnp", "3", ".5"] ⟨[.g (.unit 1)], []⟩ =
    ⟨.text ("* #variable= 6 #constraint= 10\n+1 x1 +1 x2 >= 1\n+1 x3 +1 x4 >= 1\n+1 x5 +1 x6 >= 1\n+1 ~x1 +1 ~x2 >= 1\n" ++
            "+1 ~x3 +1 ~x4 >= 1\n+1 ~x5 +1 ~x6 >= 1\n+1 ~x1 +1 ~x3 >= 1\n+1 ~x2 +1 ~x4 >= 1\n+1 ~x3 +1 ~x5 >= 1\n+1 ~x4 +1 ~x6 >= 1\n"),
     3, 0, []⟩ :=
  toolRun_of_chars (by literal_chars) (by decide +kernel)

end Cnfgen.C07
