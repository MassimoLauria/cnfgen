/-
C07 — the extended fragment of the whole-run model (`Cli/Run.lean`): graph arguments `gnm` / `gnd` (networkx's generators as
functions of the draws, Rand/NxDraws.lean), the bipartite samplers, `tseitin` with random charges, `php` over a bipartite
graph, `domset`, `kclique`, and `-T` chains with random transformations.  The determinism theorems of `Props/C07/Run.lean`
(`toolRun_deterministic`, `toolRun_function_of_seeded_state`) are statements about `toolRun` and hence about this whole
fragment; here: their corollaries for the parts of the result, and recorded real runs reproduced byte for byte by the kernel.
-/
import Props.C07.Run
namespace Cnfgen.C07
open Cnfgen.Cli Cnfgen.CliRun Cnfgen.GenPh

/-- the world of the recorded runs: numerals read by `int`, `.5` is 1/2, the base header of the installation the runs were
recorded on (CPython 3.12, networkx 3.6.1) -/
def realWorld : World :=
  { witnessWorld with
    gw := { witnessWorld.gw with fuel := 40 }
    baseHeader := [("generator", "CNFgen (41a4c01)"),
                   ("copyright", "(C) 2012-2022 Massimo Lauria <massimo.lauria@uniroma1.it>"),
                   ("url", "https://massimolauria.net/cnfgen")] }

/-- T-C07.3 for every part of the result: with a seed on the command line the text written to stdout, the number of answers
consumed in each phase and the files written by `save` (path token and text, in order) do not depend on the state the
generator had when the process started — for every graph argument, family and `-T` chain of the fragment -/
theorem toolRun_parts_deterministic (tool : String) (htool : tool ∈ ["cnfgen", "pbgen"]) (σ : Int → Rng) (w : World)
    (argv : List String) (s : Int) (hs : seedOf argv = some s) (r₁ r₂ : Rng) :
    (toolRun tool σ w argv r₁).out = (toolRun tool σ w argv r₂).out ∧
    (toolRun tool σ w argv r₁).written = (toolRun tool σ w argv r₂).written ∧
    (toolRun tool σ w argv r₁).usedParse = (toolRun tool σ w argv r₂).usedParse ∧
    (toolRun tool σ w argv r₁).usedLater = (toolRun tool σ w argv r₂).usedLater := by
  rw [toolRun_deterministic tool htool σ w argv s hs r₁ r₂]
  exact ⟨rfl, rfl, rfl, rfl⟩

/-- recorded run of `cnfgen --seed 5 tseitin random gnd 4 2`: the model asks for exactly the recorded answers (2 while the
command line is parsed, 4 afterwards) and writes the same text, byte for byte; likewise the runs below -/
example :
    toolRun "cnfgen" (fun _ => ⟨[.nx (.shuffle [0, 1, 2, 3, 0, 1, 2, 3] [2, 3, 1, 0, 3, 2, 1, 0]), .nx (.shuffle [2, 3, 0, 1] [3, 0, 1, 2])],
        [.f (.randint 0 1 1), .f (.randint 0 1 1), .f (.randint 0 1 0), .f (.randint 0 1 1)]⟩)
      realWorld ["cnfgen", "--seed", "5", "tseitin", "random", "gnd", "4", "2"] ⟨[], []⟩ =
    ⟨.text ("c description: Tseitin formula on Random 2-regular graph of 4 vertices, with odd charge\n" ++
            "c generator: CNFgen (41a4c01)\n" ++
            "c copyright: (C) 2012-2022 Massimo Lauria <massimo.lauria@uniroma1.it>\n" ++
            "c url: https://massimolauria.net/cnfgen\nc random seed: 5\n" ++
            "c command line: cnfgen --seed 5 tseitin random gnd 4 2\nc\np cnf 4 8\n1 2 0\n-1 -2 0\n1 3 0\n-1 -3 0\n" ++
            "3 -4 0\n-3 4 0\n2 4 0\n-2 -4 0\n"),
     2, 4, []⟩ :=
  toolRun_of_chars (by literal_chars) (by decide +kernel)

/-- recorded run of `cnfgen -q --seed 11 kclique 2 gnm 4 3 addedges 1` -/
example :
    toolRun "cnfgen" (fun _ => ⟨[.nx (.choice 3), .nx (.choice 3), .nx (.choice 3), .nx (.choice 1), .nx (.choice 1), .nx (.choice 3), .nx (.choice 1), .nx (.choice 0), .nx (.choice 3), .nx (.choice 2), .g (.sample [2, 1]), .g (.sample [1, 3])],
        []⟩)
      realWorld ["cnfgen", "-q", "--seed", "11", "kclique", "2", "gnm", "4", "3", "addedges", "1"] ⟨[], []⟩ =
    ⟨.text ("p cnf 8 26\n1 2 3 4 0\n5 6 7 8 0\n-1 -2 0\n-1 -3 0\n-1 -4 0\n-2 -3 0\n-2 -4 0\n-3 -4 0\n-5 -6 0\n-5 -7 0\n" ++
            "-5 -8 0\n-6 -7 0\n-6 -8 0\n-7 -8 0\n-1 -5 0\n-2 -6 0\n-3 -7 0\n-4 -8 0\n-2 -5 0\n-3 -5 0\n-3 -6 0\n" ++
            "-4 -5 0\n-4 -6 0\n-4 -7 0\n-1 -8 0\n-2 -7 0\n"),
     12, 0, []⟩ :=
  toolRun_of_chars (by literal_chars) (by decide +kernel)

/-- recorded run of `cnfgen -q --seed 3 php glrd 1 2 1 -T shuffle` -/
example :
    toolRun "cnfgen" (fun _ => ⟨[.g (.sample [1])],
        [.sh (.choice (-1)), .sh (.shuffled [1]), .sh (.shuffled [0])]⟩)
      realWorld ["cnfgen", "-q", "--seed", "3", "php", "glrd", "1", "2", "1", "-T", "shuffle"] ⟨[], []⟩ =
    ⟨.text ("p cnf 1 1\n-1 0\n"),
     1, 3, []⟩ :=
  toolRun_of_chars (by literal_chars) (by decide +kernel)

/-- recorded run of `cnfgen --seed 2 randkcnf 2 2 1 -T xorcomp 2 1 -T shuffle -T majcomp 3 2` -/
example :
    toolRun "cnfgen" (fun _ => ⟨[],
        [.f (.sample 2 2 [0, 1]), .f (.choice 2 0), .f (.choice 2 1), .g (.sample [1]), .g (.sample [2]), .sh (.choice (1)), .sh (.choice (-1)), .sh (.shuffled [2, 1]), .sh (.shuffled [0]), .g (.sample [3, 1]), .g (.sample [2, 3])]⟩)
      realWorld ["cnfgen", "--seed", "2", "randkcnf", "2", "2", "1", "-T", "xorcomp", "2", "1", "-T", "shuffle", "-T", "majcomp", "3", "2"] ⟨[], []⟩ =
    ⟨.text ("c description: Random 2-CNF over 2 variables and 1 clauses (reshuffled)\n" ++
            "c generator: CNFgen (41a4c01)\n" ++
            "c copyright: (C) 2012-2022 Massimo Lauria <massimo.lauria@uniroma1.it>\n" ++
            "c url: https://massimolauria.net/cnfgen\n" ++
            "c transformation 1: Variable xor-compression from 2 to 2 variables\n" ++
            "c transformation 2: Formula reshuffling\n" ++
            "c transformation 3: Variable maj-compression from 2 to 3 variables\nc random seed: 2\n" ++
            "c command line: cnfgen --seed 2 randkcnf 2 2 1 -T xorcomp 2 1 -T shuffle -T majcomp 3 2\nc\n" ++
            "p cnf 3 1\n2 3 1 3 0\n"),
     0, 11, []⟩ :=
  toolRun_of_chars (by literal_chars) (by decide +kernel)

/-- recorded run of `pbgen -q --seed 4 domset 1 gnm 3 2` -/
example :
    toolRun "pbgen" (fun _ => ⟨[.nx (.choice 0), .nx (.choice 1), .nx (.choice 0), .nx (.choice 2)],
        []⟩)
      realWorld ["pbgen", "-q", "--seed", "4", "domset", "1", "gnm", "3", "2"] ⟨[], []⟩ =
    ⟨.text ("* #variable= 6 #constraint= 10\n+1 ~x4 +1 ~x5 +1 ~x6 >= 2\n+1 ~x4 +1 x1 >= 1\n+1 ~x5 +1 x2 >= 1\n" ++
            "+1 ~x6 +1 x3 >= 1\n+1 ~x1 +1 x4 >= 1\n+1 ~x2 +1 x5 >= 1\n+1 ~x3 +1 x6 >= 1\n+1 x1 +1 x2 >= 1\n" ++
            "+1 x1 +1 x2 +1 x3 >= 1\n+1 x1 +1 x3 >= 1\n"),
     4, 0, []⟩ :=
  toolRun_of_chars (by literal_chars) (by decide +kernel)

/-- recorded run of `cnfgen -q --seed 9 tseitin 4 2` -/
example :
    toolRun "cnfgen" (fun _ => ⟨[],
        [.nx (.shuffle [0, 1, 2, 3, 0, 1, 2, 3] [3, 2, 0, 1, 1, 2, 0, 3]), .f (.randint 0 1 1), .f (.randint 0 1 1), .f (.randint 0 1 0)]⟩)
      realWorld ["cnfgen", "-q", "--seed", "9", "tseitin", "4", "2"] ⟨[], []⟩ =
    ⟨.text ("p cnf 4 8\n1 2 0\n-1 -2 0\n1 3 0\n-1 -3 0\n3 -4 0\n-3 4 0\n2 4 0\n-2 -4 0\n"),
     0, 4, []⟩ :=
  toolRun_of_chars (by literal_chars) (by decide +kernel)

/-- recorded run of `cnfgen -q --seed 6 php --functional regular 2 2 1 plantbiclique 1 1` -/
example :
    toolRun "cnfgen" (fun _ => ⟨[.g (.randint 0), .g (.randint 1), .g (.randint 1), .g (.randint 1), .g (.sample [1]), .g (.sample [1])],
        []⟩)
      realWorld ["cnfgen", "-q", "--seed", "6", "php", "--functional", "regular", "2", "2", "1", "plantbiclique", "1", "1"] ⟨[], []⟩ =
    ⟨.text ("p cnf 3 4\n1 2 0\n3 0\n-1 -3 0\n-1 -2 0\n"),
     6, 0, []⟩ :=
  toolRun_of_chars (by literal_chars) (by decide +kernel)

end Cnfgen.C07
