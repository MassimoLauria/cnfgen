/-
C01 — SubsetCardinalityFormula(B, equalities) on an arbitrary bipartite graph object.
-/
import Lemmas.C01GraphInv
import CnfgenModel.Fam.SubsetCard
import Props.C01.Gphp
namespace Cnfgen.C01
open Cnfgen Cnfgen.Fam

/-- the edge labelling described by `α`: the value of `x_{u,v}` (`new_bipartite_edges(B)`) -/
def scLabel (B : BipG) (α : Assign) (u v : Nat) : Bool := α (Vars.bipId B 1 u v)

/-- the documented statement about an edge labelling `x`: at least half of the edges at every left
vertex are 1, at most half of the edges at every right vertex are 1; with `equalities`, exactly
`⌈d/2⌉` resp. `⌊d/2⌋` of them -/
structure SCSpec (B : BipG) (equalities : Bool) (x : Nat → Nat → Bool) : Prop where
  left : ∀ u, 1 ≤ u → u ≤ B.l →
    if equalities then (B.rnbrs u).countP (fun v => x u v) = ((B.rnbrs u).length + 1) / 2
    else (B.rnbrs u).length ≤ 2 * (B.rnbrs u).countP (fun v => x u v)
  right : ∀ v, 1 ≤ v → v ≤ B.r →
    if equalities then (B.lnbrs v).countP (fun u => x u v) = (B.lnbrs v).length / 2
    else 2 * (B.lnbrs v).countP (fun u => x u v) ≤ (B.lnbrs v).length

/-- T-C01.5 (subset cardinality): for every consistent bipartite graph, flag and assignment -/
theorem sc_spec (B : BipG) (hg : Fam.GoodBip B) (eq : Bool) (α : Assign) :
    (subsetCardF B eq).holds α = true ↔ SCSpec B eq (scLabel B α) := by
  have hs : 0 < (SMap.mk B 1).start := by simp
  have hcols := SMap.GoodBip.cols hg
  have hrow : ∀ u, 1 ≤ u → u ≤ B.l →
      count α ((SMap.mk B 1).row u) = (B.rnbrs u).countP (fun v => scLabel B α u v) :=
    fun u h1 h2 => SMap.count_row _ hs α h1 h2
  have hcol : ∀ v, 1 ≤ v → v ≤ B.r →
      count α ((SMap.mk B 1).col v) = (B.lnbrs v).countP (fun u => scLabel B α u v) :=
    fun v h1 h2 => SMap.count_col _ hs α (hcols v h1 h2)
  have lrow : ∀ u, ((SMap.mk B 1).row u).length = (B.rnbrs u).length := fun u => by simp [SMap.row]
  have lcol : ∀ v, ((SMap.mk B 1).col v).length = (B.lnbrs v).length := fun v => by simp [SMap.col]
  simp only [subsetCardF, Formula.holds_mk, List.all_append, Bool.and_eq_true, List.all_map,
    List.all_eq_true, mem_idx, Function.comp, and_imp]
  -- vertex by vertex, the constraint says what the specification says
  refine (fun (hL : ∀ u, 1 ≤ u → u ≤ B.l → (_ ↔ _)) (hR : ∀ v, 1 ≤ v → v ≤ B.r → (_ ↔ _)) =>
    ⟨fun ⟨hl, hr⟩ => ⟨fun u h1 h2 => (hL u h1 h2).1 (hl u h1 h2), fun v h1 h2 => (hR v h1 h2).1 (hr v h1 h2)⟩,
     fun ⟨hl, hr⟩ => ⟨fun u h1 h2 => (hL u h1 h2).2 (hl u h1 h2), fun v h1 h2 => (hR v h1 h2).2 (hr v h1 h2)⟩⟩) ?_ ?_
  · intro u h1 h2
    cases eq
    · simp [Con.holds, lrow, hrow u h1 h2]
    · simp only [if_true, Con.holds, Op.denote, decide_eq_true_eq, hrow u h1 h2]; omega
  · intro v h1 h2
    cases eq
    · simp [Con.holds, lcol, hcol v h1 h2]
    · simp only [if_true, Con.holds, Op.denote, decide_eq_true_eq, hcol v h1 h2]; omega

theorem sc_wf (B : BipG) (hg : Fam.GoodBip B) (eq : Bool) : (subsetCardF B eq).WF := by
  have hN : 1 + B.numberOfEdges ≤ B.numberOfEdges + 1 := Nat.le_of_eq (Nat.add_comm 1 _)
  refine G2.wf_of_consIn (lo := 1) (.append (.map fun u hu => ?_) (.map fun v hv => ?_))
  · cases eq <;> exact SMap.row_in ⟨B, 1⟩ (Nat.le_refl 1) hg hN hu
  · cases eq <;> exact SMap.col_in ⟨B, 1⟩ (Nat.le_refl 1) hg hN hv

/-- one variable per edge -/
theorem sc_nvars (B : BipG) (eq : Bool) : (subsetCardF B eq).nvars = B.numberOfEdges := rfl

theorem sc_cnf_spec (B : BipG) (hg : Fam.GoodBip B) (eq : Bool) (α : Assign) :
    (subsetCardF B eq).toCNF.holds α = true ↔ SCSpec B eq (scLabel B α) := by
  rw [Formula.toCNF_holds α _ (sc_wf B hg eq)]; exact sc_spec B hg eq α

theorem sc_opb_spec (B : BipG) (hg : Fam.GoodBip B) (eq : Bool) (α : Assign) :
    (subsetCardF B eq).toOPB.holds α = true ↔ SCSpec B eq (scLabel B α) := by
  rw [Formula.toOPB_holds α _ (sc_wf B hg eq)]; exact sc_spec B hg eq α

theorem sc_spec_ofEdges (l r : Nat) (es : List (Nat × Nat)) (B : BipG)
    (h : BipG.ofEdges l r es = .ok B) (eq : Bool) (α : Assign) :
    (subsetCardF B eq).holds α = true ↔ SCSpec B eq (scLabel B α) :=
  sc_spec B (Fam.goodBip_ofEdges l r es B h) eq α

/-- non-vacuity of the specification: the 4-cycle, alternate edges labelled 1 -/
example : ∃ B, BipG.ofEdges 2 2 [(1, 1), (1, 2), (2, 1), (2, 2)] = .ok B ∧
    SCSpec B true (fun u v => u == v) := by
  refine ⟨_, rfl, ?_, ?_⟩
  · intro u h1 h2
    have h2' : u ≤ 2 := h2
    have : u = 1 ∨ u = 2 := by omega
    rcases this with rfl | rfl <;> decide
  · intro v h1 h2
    have h2' : v ≤ 2 := h2
    have : v = 1 ∨ v = 2 := by omega
    rcases this with rfl | rfl <;> decide

theorem SCSpec_congr {B : BipG} (hg : Fam.GoodBip B) {eq : Bool} {x x' : Nat → Nat → Bool}
    (h : ∀ u v, 1 ≤ u → u ≤ B.l → v ∈ B.rnbrs u → x u v = x' u v) :
    SCSpec B eq x → SCSpec B eq x' := by
  have hl : ∀ u, 1 ≤ u → u ≤ B.l →
      (B.rnbrs u).countP (fun v => x u v) = (B.rnbrs u).countP (fun v => x' u v) :=
    fun u h1 h2 => List.countP_congr (fun v hv => by simp only [h u v h1 h2 hv])
  have hr : ∀ v, 1 ≤ v → v ≤ B.r →
      (B.lnbrs v).countP (fun u => x u v) = (B.lnbrs v).countP (fun u => x' u v) := by
    intro v h1 h2
    apply List.countP_congr
    intro u hu
    have c := (hg.adj u v).2 ⟨h1, h2, hu⟩
    simp only [h u v c.1 c.2.1 c.2.2]
  rintro ⟨a, b⟩
  refine ⟨fun u h1 h2 => ?_, fun v h1 h2 => ?_⟩
  · rw [← hl u h1 h2]; exact a u h1 h2
  · rw [← hr v h1 h2]; exact b v h1 h2

/-- every edge labelling with the documented property is described by a satisfying assignment -/
theorem sc_realises (B : BipG) (hg : Fam.GoodBip B) (eq : Bool) (x : Nat → Nat → Bool)
    (h : SCSpec B eq x) : (subsetCardF B eq).holds ((SMap.mk B 1).assignOf x) = true := by
  rw [sc_spec B hg]
  refine SCSpec_congr hg (fun u v h1 h2 hv => ?_) h
  have := (SMap.mk B 1).assignOf_var x h1 h2 hv
  simp only [SMap.var] at this
  simp only [scLabel, this]

/-! ### subset cardinality formula: assignments ↔ edge labellings within the degree bounds -/

/-- the documented object of `SubsetCardinalityFormula(B, equalities)`: a 0/1 labelling `T` of
the edges of `B` with at least half (exactly `⌈d/2⌉`) ones at every left vertex and at most half
(exactly `⌊d/2⌋`) ones at every right vertex -/
def IsSCLabelling (B : BipG) (eq : Bool) (T : EdgeSet B) : Prop := SCSpec B eq (edgeFn T)

/-- the labelling described by an assignment: the label of `(u, v)` is the value of `x_{u,v}` -/
def scToObj (B : BipG) (hg : Fam.GoodBip B) (a : Fin B.numberOfEdges → Bool) : EdgeSet B :=
  (edgeIndex B hg).toObj a

/-- the assignment describing a labelling -/
def scOfObj (B : BipG) (hg : Fam.GoodBip B) (T : EdgeSet B) : Fin B.numberOfEdges → Bool :=
  (edgeIndex B hg).ofObj T

theorem sc_ofObj_toObj (B : BipG) (hg : Fam.GoodBip B) (a : Fin B.numberOfEdges → Bool) :
    scOfObj B hg (scToObj B hg a) = a := (edgeIndex B hg).ofObj_toObj a

theorem sc_toObj_ofObj (B : BipG) (hg : Fam.GoodBip B) (T : EdgeSet B) :
    scToObj B hg (scOfObj B hg T) = T := (edgeIndex B hg).toObj_ofObj T

/-- the satisfying assignments (restricted to the `|E|` variables) are exactly the assignments
that describe a labelling within the degree bounds -/
theorem sc_holds_iff_obj (B : BipG) (hg : Fam.GoodBip B) (eq : Bool) (a : Fin B.numberOfEdges → Bool) :
    (subsetCardF B eq).holds (extend a) = true ↔ IsSCLabelling B eq (scToObj B hg a) := by
  rw [sc_spec B hg]
  have key : ∀ u v, 1 ≤ u → u ≤ B.l → v ∈ B.rnbrs u →
      scLabel B (extend a) u v = edgeFn (scToObj B hg a) u v :=
    fun u v h1 h2 hv => extend_bipId B hg a h1 h2 hv
  constructor
  · exact SCSpec_congr hg key
  · exact SCSpec_congr hg (fun u v h1 h2 hv => (key u v h1 h2 hv).symm)

theorem sc_bijection (B : BipG) (hg : Fam.GoodBip B) (eq : Bool) :
    (∀ a, (subsetCardF B eq).holds (extend a) = true → IsSCLabelling B eq (scToObj B hg a)) ∧
    (∀ T, IsSCLabelling B eq T → (subsetCardF B eq).holds (extend (scOfObj B hg T)) = true) ∧
    (∀ a, scOfObj B hg (scToObj B hg a) = a) ∧ (∀ T, scToObj B hg (scOfObj B hg T) = T) :=
  bijection_of_inverse (sc_ofObj_toObj B hg) (sc_toObj_ofObj B hg) (sc_holds_iff_obj B hg eq)

theorem sc_bijection_unique (B : BipG) (hg : Fam.GoodBip B) (eq : Bool) :
    (∀ a, (subsetCardF B eq).holds (extend a) = true →
      ∃! T, IsSCLabelling B eq T ∧ scOfObj B hg T = a) ∧
    (∀ T, IsSCLabelling B eq T →
      ∃! a, (subsetCardF B eq).holds (extend a) = true ∧ scToObj B hg a = T) :=
  existsUnique_of_inverse (sc_ofObj_toObj B hg) (sc_toObj_ofObj B hg) (sc_holds_iff_obj B hg eq)

/-- every satisfying (total) assignment describes the labelling read off its restriction -/
theorem sc_describes (B : BipG) (hg : Fam.GoodBip B) (eq : Bool) (α : Assign) :
    (subsetCardF B eq).holds α = true ↔
      IsSCLabelling B eq (scToObj B hg (Fam.restrict B.numberOfEdges α)) := by
  rw [← sc_holds_iff_obj B hg eq, ← holds_restrict _ (sc_wf B hg eq) α]
  rfl

/-- uniqueness for total assignments: two assignments that label the edges alike agree on every
variable of the formula -/
theorem sc_unique (B : BipG) (hg : Fam.GoodBip B) (eq : Bool) (α β : Assign)
    (h : ∀ u v, 1 ≤ u → u ≤ B.l → v ∈ B.rnbrs u → scLabel B α u v = scLabel B β u v) :
    ∀ x, 1 ≤ x → x ≤ (subsetCardF B eq).nvars → α x = β x := by
  apply (edgeIndex B hg).agree_of_toObj_eq
  intro e
  exact h _ _ e.spec.1 e.spec.2.1 e.spec.2.2

/-- the graph object of the example below, as the `add_edge` calls leave it -/
def exScB : BipG := ⟨2, 2, [[], [1, 2], [1, 2]], [[], [1, 2], [1, 2]], [(2, 2), (2, 1), (1, 2), (1, 1)]⟩

theorem exScB_eq : BipG.ofEdges 2 2 [(1, 1), (1, 2), (2, 1), (2, 2)] = .ok exScB := by decide +kernel

theorem exScB_good : GoodBip exScB := goodBip_ofEdges _ _ _ _ exScB_eq

/-- the labelling "1 on (1,1) and (2,2)" of the 4-cycle -/
def exScT : EdgeSet exScB := fun e => e.1.1 == e.1.2

theorem exScT_labelling : IsSCLabelling exScB true exScT := by
  refine ⟨?_, ?_⟩
  · intro u h1 h2
    have h2' : u ≤ 2 := h2
    have : u = 1 ∨ u = 2 := by omega
    rcases this with rfl | rfl <;> decide
  · intro v h1 h2
    have h2' : v ≤ 2 := h2
    have : v = 1 ∨ v = 2 := by omega
    rcases this with rfl | rfl <;> decide

/-- non-vacuity (subset cardinality): exactly one assignment to the four variables describes it -/
example : ∃! a, (subsetCardF exScB true).holds (extend a) = true ∧
    scToObj exScB exScB_good a = exScT :=
  (sc_bijection_unique exScB exScB_good true).2 exScT exScT_labelling

end Cnfgen.C01
