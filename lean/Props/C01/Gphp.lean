/-
C01 — GraphPigeonholePrinciple(G, functional, onto) on an arbitrary bipartite graph object.
-/
import Lemmas.C01GraphInv
import Lemmas.C01Complete
import Lemmas.C01Pigeon
import CnfgenModel.Fam.Php
import Lemmas.C01Bij2
import Props.C01.Php
namespace Cnfgen.C01
open Cnfgen Cnfgen.Fam

/-- "pigeon `u` flies to hole `v`": the variable `p_{u,v}` of `new_sparse_mapping(G)` is true -/
def gphpRel (B : BipG) (α : Assign) (u v : Nat) : Prop := α (Vars.bipId B 1 u v) = true

/-- the documented statement of `GraphPigeonholePrinciple(G, functional, onto)`: a set of edges
`E' = {(u,v) ∈ E | R u v}` with at least one edge at every left vertex, at most one at every right
vertex [, at most one at every left vertex] [, at least one at every right vertex] -/
structure GPHPSpec (B : BipG) (functional onto : Bool) (R : Nat → Nat → Prop) : Prop where
  total : ∀ u, 1 ≤ u → u ≤ B.l → ∃ v, v ∈ B.rnbrs u ∧ R u v
  inj : ∀ v, 1 ≤ v → v ≤ B.r → ∀ u ∈ B.lnbrs v, ∀ u' ∈ B.lnbrs v, R u v → R u' v → u = u'
  func : functional = true →
    ∀ u, 1 ≤ u → u ≤ B.l → ∀ v ∈ B.rnbrs u, ∀ v' ∈ B.rnbrs u, R u v → R u v' → v = v'
  surj : onto = true → ∀ v, 1 ≤ v → v ≤ B.r → ∃ u, u ∈ B.lnbrs v ∧ R u v

/-- the bipartite graph objects the theorems are about: the two adjacency tables are duplicate
free and describe the same edges (invariant of `BipartiteGraph.add_edge`) -/
abbrev GoodBip := Fam.GoodBip

/-- T-C01.1: for every consistent bipartite graph, both flags and every assignment -/
theorem gphp_spec (B : BipG) (hg : GoodBip B) (f o : Bool) (α : Assign) :
    (gphp B f o).holds α = true ↔ GPHPSpec B f o (gphpRel B α) := by
  have hs : 0 < (SMap.mk B 1).start := by simp
  simp only [gphp, Formula.holds_mk, List.all_append, Bool.and_eq_true, all_ite_nil, SMap.forceComplete_holds _ hs,
    SMap.forceSurjective_holds _ hs hg, SMap.forceInjective_holds _ hs hg, SMap.forceFunctional_holds _ hs hg]
  constructor
  · rintro ⟨⟨⟨h1, h2⟩, h3⟩, h4⟩; exact ⟨h1, h3, h4, h2⟩
  · rintro ⟨h1, h3, h4, h2⟩; exact ⟨⟨⟨h1, h2⟩, h3⟩, h4⟩

theorem gphp_wf (B : BipG) (hg : GoodBip B) (f o : Bool) : (gphp B f o).WF :=
  have hs : 0 < (SMap.mk B 1).start := Nat.one_pos
  have hN : (SMap.mk B 1).start + B.numberOfEdges ≤ B.numberOfEdges + 1 := Nat.le_of_eq (Nat.add_comm 1 _)
  G2.wf_of_consIn ((((SMap.forceComplete_in _ hs hg hN).append
    (.ite (fun _ => SMap.forceSurjective_in _ hs hg hN) fun _ => .nil)).append (SMap.forceInjective_in _ hs hg hN)).append
    (.ite (fun _ => SMap.forceFunctional_in _ hs hg hN) fun _ => .nil))

/-- one variable per edge -/
theorem gphp_nvars (B : BipG) (f o : Bool) : (gphp B f o).nvars = B.numberOfEdges := rfl

theorem gphp_cnf_spec (B : BipG) (hg : GoodBip B) (f o : Bool) (α : Assign) :
    (gphp B f o).toCNF.holds α = true ↔ GPHPSpec B f o (gphpRel B α) := by
  rw [Formula.toCNF_holds α _ (gphp_wf B hg f o)]; exact gphp_spec B hg f o α

theorem gphp_opb_spec (B : BipG) (hg : GoodBip B) (f o : Bool) (α : Assign) :
    (gphp B f o).toOPB.holds α = true ↔ GPHPSpec B f o (gphpRel B α) := by
  rw [Formula.toOPB_holds α _ (gphp_wf B hg f o)]; exact gphp_spec B hg f o α

/-- the hypothesis of the theorems above holds for every graph object the real class can
represent: `BipartiteGraph(l, r)` followed by any sequence of successful `add_edge` calls -/
theorem goodBip_ofEdges (l r : Nat) (es : List (Nat × Nat)) (B : BipG)
    (h : BipG.ofEdges l r es = .ok B) : GoodBip B := Fam.goodBip_ofEdges l r es B h

theorem gphp_spec_ofEdges (l r : Nat) (es : List (Nat × Nat)) (B : BipG)
    (h : BipG.ofEdges l r es = .ok B) (f o : Bool) (α : Assign) :
    (gphp B f o).holds α = true ↔ GPHPSpec B f o (gphpRel B α) :=
  gphp_spec B (goodBip_ofEdges l r es B h) f o α

/-- non-vacuity: a graph with an isolated right vertex, edges inserted out of order -/
example : ∃ B, BipG.ofEdges 2 3 [(2, 1), (1, 2), (1, 1), (2, 1)] = .ok B ∧ B.rnbrs 1 = [1, 2] ∧
    B.lnbrs 3 = [] := ⟨_, rfl, rfl, rfl⟩

/-- non-vacuity of the specification on that graph: pigeon 1 in hole 2, pigeon 2 in hole 1 -/
example : ∃ B, BipG.ofEdges 2 3 [(2, 1), (1, 2), (1, 1), (2, 1)] = .ok B ∧
    GPHPSpec B true false (fun u v => (u = 1 ∧ v = 2) ∨ (u = 2 ∧ v = 1)) := by
  refine ⟨_, rfl, ?_, ?_, ?_, fun h => absurd h Bool.false_ne_true⟩
  · intro u h1 h2
    have h2' : u ≤ 2 := h2
    have : u = 1 ∨ u = 2 := by omega
    rcases this with rfl | rfl <;> decide +kernel
  · intro v _ _ u _ u' _ e e'; omega
  · intro _ u _ _ v _ v' _ e e'; omega

/-! ## "by exactly one"

The objects of graph pigeonhole, perfect matching (`Props/C01/Matching.lean`) and subset cardinality
(`Props/C01/SubsetCard.lean`) are sets of edges of a bipartite graph object. -/

/-- a set of edges of the bipartite graph object `B`, as an indicator on the entries of
`B.edges()` (equivalently: a 0/1 labelling of the edges) -/
abbrev EdgeSet (B : BipG) := BEdge B → Bool

/-- the relation `{(u, v) ∈ E(B) | T (u, v)}` of an edge set -/
def relOf {B : BipG} (T : EdgeSet B) (u v : Nat) : Prop := edgeFn T u v = true

/-- an edge set is a sub-relation of `B` -/
theorem relOf_sub {B : BipG} (T : EdgeSet B) {u v : Nat} (h : relOf T u v) :
    1 ≤ u ∧ u ≤ B.l ∧ v ∈ B.rnbrs u := (mem_bip_edges B u v).1 (edgeFn_mem T h)

/-- the documented object of `GraphPigeonholePrinciple(B, functional, onto)`: a set `T` of edges
of `B` such that every left vertex has a selected edge, no two selected edges share their right
endpoint [, no two share their left endpoint] [, every right vertex has a selected edge] -/
structure EdgePlacement (B : BipG) (functional onto : Bool) (T : EdgeSet B) : Prop where
  total : ∀ u, 1 ≤ u → u ≤ B.l → ∃ e : BEdge B, e.1.1 = u ∧ T e = true
  inj : ∀ e e' : BEdge B, T e = true → T e' = true → e.1.2 = e'.1.2 → e = e'
  func : functional = true → ∀ e e' : BEdge B, T e = true → T e' = true → e.1.1 = e'.1.1 → e = e'
  surj : onto = true → ∀ v, 1 ≤ v → v ≤ B.r → ∃ e : BEdge B, e.1.2 = v ∧ T e = true

/-- the documented statement in terms of the edges: a relation on the vertices that is read off an edge set -/
theorem GPHPSpec_iff_EdgePlacement (B : BipG) (hg : GoodBip B) (f o : Bool) (R : Nat → Nat → Prop) (T : EdgeSet B)
    (hR : ∀ e : BEdge B, R e.1.1 e.1.2 ↔ T e = true) : GPHPSpec B f o R ↔ EdgePlacement B f o T := by
  -- an edge is an entry `v` of the row of `u`, and also an entry `u` of the column of `v`
  have row : ∀ {u v}, 1 ≤ u → u ≤ B.l → v ∈ B.rnbrs u → ∃ e : BEdge B, e.1 = (u, v) :=
    fun a b c => ⟨⟨_, (mem_bip_edges B _ _).2 ⟨a, b, c⟩⟩, rfl⟩
  have col : ∀ {u v}, 1 ≤ v → v ≤ B.r → u ∈ B.lnbrs v → ∃ e : BEdge B, e.1 = (u, v) := fun a b c =>
    have h := (hg.adj _ _).2 ⟨a, b, c⟩
    row h.1 h.2.1 h.2.2
  have colOf : ∀ e : BEdge B, 1 ≤ e.1.2 ∧ e.1.2 ≤ B.r ∧ e.1.1 ∈ B.lnbrs e.1.2 := fun e => (hg.adj _ _).1 e.spec
  constructor
  · rintro ⟨h1, h2, h3, h4⟩
    refine ⟨fun u a b => ?_, fun e e' hT hT' hv => ?_, fun hf e e' hT hT' hu => ?_, fun ho v a b => ?_⟩
    · obtain ⟨v, c, r⟩ := h1 u a b
      obtain ⟨e, he⟩ := row a b c
      exact ⟨e, by rw [he], (hR e).1 (by rw [he]; exact r)⟩
    · have s := colOf e
      have s' := colOf e'
      rw [← hv] at s'
      exact Subtype.ext (Prod.ext (h2 _ s.1 s.2.1 _ s.2.2 _ s'.2.2 ((hR e).2 hT) (hv ▸ (hR e').2 hT')) hv)
    · have s := e.spec
      have s' := e'.spec
      rw [← hu] at s'
      exact Subtype.ext (Prod.ext hu (h3 hf _ s.1 s.2.1 _ s.2.2 _ s'.2.2 ((hR e).2 hT) (hu ▸ (hR e').2 hT')))
    · obtain ⟨u, c, r⟩ := h4 ho v a b
      obtain ⟨e, he⟩ := col a b c
      exact ⟨e, by rw [he], (hR e).1 (by rw [he]; exact r)⟩
  · rintro ⟨h1, h2, h3, h4⟩
    refine ⟨fun u a b => ?_, fun v a b u c u' c' r r' => ?_, fun hf u a b v c v' c' r r' => ?_, fun ho v a b => ?_⟩
    · obtain ⟨e, rfl, hT⟩ := h1 u a b
      exact ⟨_, e.spec.2.2, (hR e).2 hT⟩
    · obtain ⟨e, he⟩ := col a b c
      obtain ⟨e', he'⟩ := col a b c'
      have := h2 e e' ((hR e).1 (by rw [he]; exact r)) ((hR e').1 (by rw [he']; exact r')) (by rw [he, he'])
      rw [← this, he] at he'
      exact (Prod.mk.inj he').1
    · obtain ⟨e, he⟩ := row a b c
      obtain ⟨e', he'⟩ := row a b c'
      have := h3 hf e e' ((hR e).1 (by rw [he]; exact r)) ((hR e').1 (by rw [he']; exact r')) (by rw [he, he'])
      rw [← this, he] at he'
      exact (Prod.mk.inj he').2
    · obtain ⟨e, rfl, hT⟩ := h4 ho v a b
      exact ⟨_, (colOf e).2.2, (hR e).2 hT⟩

/-- the edge set described by an assignment: the edge `(u, v)` is selected iff `p_{u,v}` is true -/
def gphpToObj (B : BipG) (hg : GoodBip B) (a : Fin B.numberOfEdges → Bool) : EdgeSet B :=
  (edgeIndex B hg).toObj a

/-- the assignment describing an edge set -/
def gphpOfObj (B : BipG) (hg : GoodBip B) (T : EdgeSet B) : Fin B.numberOfEdges → Bool :=
  (edgeIndex B hg).ofObj T

theorem gphp_ofObj_toObj (B : BipG) (hg : GoodBip B) (a : Fin B.numberOfEdges → Bool) :
    gphpOfObj B hg (gphpToObj B hg a) = a := (edgeIndex B hg).ofObj_toObj a

theorem gphp_toObj_ofObj (B : BipG) (hg : GoodBip B) (T : EdgeSet B) :
    gphpToObj B hg (gphpOfObj B hg T) = T := (edgeIndex B hg).toObj_ofObj T

/-- the satisfying assignments (restricted to the `|E|` variables) are exactly the assignments
that describe a placement along the edges; with the two inverse laws this is the bijection
"satisfying assignments ↔ edge placements", for both flags and every graph object -/
theorem gphp_holds_iff_obj (B : BipG) (hg : GoodBip B) (f o : Bool) (a : Fin B.numberOfEdges → Bool) :
    (gphp B f o).holds (extend a) = true ↔ EdgePlacement B f o (gphpToObj B hg a) :=
  (gphp_spec B hg f o _).trans (GPHPSpec_iff_EdgePlacement B hg f o _ _ fun _ =>
    (edgeIndex B hg).holds_var a rfl)

/-- the bijection, packaged as in `php_bijection` -/
theorem gphp_bijection (B : BipG) (hg : GoodBip B) (f o : Bool) :
    (∀ a, (gphp B f o).holds (extend a) = true → EdgePlacement B f o (gphpToObj B hg a)) ∧
    (∀ T, EdgePlacement B f o T → (gphp B f o).holds (extend (gphpOfObj B hg T)) = true) ∧
    (∀ a, gphpOfObj B hg (gphpToObj B hg a) = a) ∧ (∀ T, gphpToObj B hg (gphpOfObj B hg T) = T) :=
  bijection_of_inverse (gphp_ofObj_toObj B hg) (gphp_toObj_ofObj B hg) (gphp_holds_iff_obj B hg f o)

/-- … and as "exactly one": every satisfying restricted assignment is described by exactly one
edge placement, every edge placement by exactly one satisfying restricted assignment -/
theorem gphp_bijection_unique (B : BipG) (hg : GoodBip B) (f o : Bool) :
    (∀ a, (gphp B f o).holds (extend a) = true →
      ∃! T, EdgePlacement B f o T ∧ gphpOfObj B hg T = a) ∧
    (∀ T, EdgePlacement B f o T →
      ∃! a, (gphp B f o).holds (extend a) = true ∧ gphpToObj B hg a = T) :=
  existsUnique_of_inverse (gphp_ofObj_toObj B hg) (gphp_toObj_ofObj B hg) (gphp_holds_iff_obj B hg f o)

/-- every satisfying (total) assignment describes the edge placement read off its restriction -/
theorem gphp_describes (B : BipG) (hg : GoodBip B) (f o : Bool) (α : Assign) :
    (gphp B f o).holds α = true ↔
      EdgePlacement B f o (gphpToObj B hg (Fam.restrict B.numberOfEdges α)) := by
  rw [← gphp_holds_iff_obj B hg f o, ← holds_restrict _ (gphp_wf B hg f o) α]
  rfl

/-- uniqueness for total assignments: two assignments that select the same edges agree on every
variable of the formula -/
theorem gphp_unique (B : BipG) (hg : GoodBip B) (f o : Bool) (α β : Assign)
    (h : ∀ u v, 1 ≤ u → u ≤ B.l → v ∈ B.rnbrs u → (gphpRel B α u v ↔ gphpRel B β u v)) :
    ∀ x, 1 ≤ x → x ≤ (gphp B f o).nvars → α x = β x := by
  apply (edgeIndex B hg).agree_of_toObj_eq
  intro e
  have := h _ _ e.spec.1 e.spec.2.1 e.spec.2.2
  simp only [gphpRel] at this
  rw [edgeIndex_var, Bool.eq_iff_iff]; exact this

/-- the docstring's "satisfiable if and only if the graph has a matching of size |L|":
a choice `g` of a neighbour for every left vertex, injective on the left side -/
theorem gphp_sat_iff_matching (B : BipG) (hg : GoodBip B) (f : Bool) :
    (∃ α, (gphp B f false).holds α = true) ↔
      ∃ g : Nat → Nat, (∀ u, 1 ≤ u → u ≤ B.l → g u ∈ B.rnbrs u) ∧
        (∀ u, 1 ≤ u → u ≤ B.l → ∀ u', 1 ≤ u' → u' ≤ B.l → g u = g u' → u = u') := by
  constructor
  · rintro ⟨α, hα⟩
    obtain ⟨h1, h2, _, _⟩ := (gphp_spec B hg f false α).1 hα
    have hex : ∀ u, ∃ v, (1 ≤ u ∧ u ≤ B.l) → v ∈ B.rnbrs u ∧ gphpRel B α u v := by
      intro u
      by_cases hu : 1 ≤ u ∧ u ≤ B.l
      · obtain ⟨v, hv⟩ := h1 u hu.1 hu.2
        exact ⟨v, fun _ => hv⟩
      · exact ⟨0, fun h => absurd h hu⟩
    refine ⟨fun u => Classical.choose (hex u), ?_, ?_⟩
    · intro u a b; exact (Classical.choose_spec (hex u) ⟨a, b⟩).1
    · intro u a b u' a' b' e
      have s := Classical.choose_spec (hex u) ⟨a, b⟩
      have s' := Classical.choose_spec (hex u') ⟨a', b'⟩
      simp only [] at e
      have hv := (hg.adj u _).1 ⟨a, b, s.1⟩
      have hv' := (hg.adj u' _).1 ⟨a', b', s'.1⟩
      rw [← e] at hv' s'
      exact h2 _ hv.1 hv.2.1 u hv.2.2 u' hv'.2.2 s.2 s'.2
  · rintro ⟨g, hg1, hg2⟩
    refine ⟨_, (gphp_bijection B hg f false).2.1 (fun e => decide (e.1.2 = g e.1.1)) ⟨?_, ?_, ?_, nofun⟩⟩
    · intro u a b
      exact ⟨⟨(u, g u), (mem_bip_edges B u (g u)).2 ⟨a, b, hg1 u a b⟩⟩, rfl, decide_eq_true rfl⟩
    · intro e e' h h' hv
      simp only [decide_eq_true_eq] at h h'
      have := hg2 _ e.spec.1 e.spec.2.1 _ e'.spec.1 e'.spec.2.1 (by rw [← h, ← h', hv])
      exact Subtype.ext (Prod.ext this hv)
    · intro _ e e' h h' hu
      simp only [decide_eq_true_eq] at h h'
      exact Subtype.ext (Prod.ext hu (by rw [h, h', hu]))

/-- `PigeonholePrinciple(m, n, …)` is `GraphPigeonholePrinciple(CompleteBipartiteGraph(m, n), …)`:
the same variables, the same constraints in the same order -/
theorem php_eq_gphp_complete (m n : Nat) (f o : Bool) :
    phpF m n f o = gphp (BipG.complete m n) f o := Fam.phpF_eq_gphp_complete m n f o

/-- the graph object of the example below, as the `add_edge` calls leave it -/
def exGphpB : BipG := ⟨2, 3, [[], [1, 2], [1]], [[], [1, 2], [1], []], [(1, 1), (1, 2), (2, 1)]⟩

theorem exGphpB_eq : BipG.ofEdges 2 3 [(2, 1), (1, 2), (1, 1), (2, 1)] = .ok exGphpB := by decide +kernel

theorem exGphpB_good : GoodBip exGphpB := goodBip_ofEdges _ _ _ _ exGphpB_eq

/-- the edge set {(1,2), (2,1)} of the graph with edges (1,1), (1,2), (2,1) and an isolated
right vertex -/
def exGphpT : EdgeSet exGphpB := fun e => decide (e.1 = (1, 2) ∨ e.1 = (2, 1))

theorem exGphpT_placement : EdgePlacement exGphpB true false exGphpT := by
  have hsel : ∀ e e' : BEdge exGphpB, exGphpT e = true → exGphpT e' = true →
      (e.1.2 = e'.1.2 ∨ e.1.1 = e'.1.1) → e = e' := by
    intro e e' h h' hc
    simp only [exGphpT, decide_eq_true_eq] at h h'
    apply Subtype.ext
    rcases h with h | h <;> rcases h' with h' | h' <;> rw [h, h'] at hc ⊢ <;>
      first | rfl | exact absurd hc (by decide)
  refine ⟨?_, fun e e' h h' hc => hsel e e' h h' (Or.inl hc),
    fun _ e e' h h' hc => hsel e e' h h' (Or.inr hc), fun h => absurd h Bool.false_ne_true⟩
  intro u h1 h2
  have h2' : u ≤ 2 := h2
  have : u = 1 ∨ u = 2 := by omega
  rcases this with rfl | rfl
  · exact ⟨⟨(1, 2), by decide⟩, rfl, by decide⟩
  · exact ⟨⟨(2, 1), by decide⟩, rfl, by decide⟩

/-- non-vacuity (graph pigeonhole): exactly one assignment to the three variables describes the
functional placement {(1,2), (2,1)} -/
example : ∃! a, (gphp exGphpB true false).holds (extend a) = true ∧
    gphpToObj exGphpB exGphpB_good a = exGphpT :=
  (gphp_bijection_unique exGphpB exGphpB_good true false).2 exGphpT exGphpT_placement

end Cnfgen.C01
