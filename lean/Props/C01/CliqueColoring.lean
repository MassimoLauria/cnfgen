/-
C01 — CliqueColoring(n, k, c): a graph on [n] with a k-clique and a c-colouring.
-/
import Lemmas.C01CC
import Lemmas.C01Bij
import Lemmas.C01CCIndex
import Props.C01.Php
namespace Cnfgen.C01
open Cnfgen Cnfgen.Fam

/-- number of edge variables; equals `n choose 2` (`cc_edges_count`) -/
def ccNE (n : Nat) : Nat := (pairs (idx n)).length

theorem cc_edges_count (n : Nat) : ccNE n = Nat.choose n 2 := by
  rw [ccNE, length_pairs, length_idx]

/-- `e_{u,v}` (`u < v`): `{u,v}` is an edge of the graph; the pairs are numbered in the order of
`combinations(range(1, n+1), 2)` -/
def ccE (n : Nat) (α : Assign) (u v : Nat) : Prop := α (1 + (pairs (idx n)).idxOf (u, v)) = true
/-- `q_{i,v}`: vertex `v` is the `i`-th member of the clique -/
def ccQrel (n : Nat) (α : Assign) (i v : Nat) : Prop := α (Vars.mapId (1 + ccNE n) n i v) = true
/-- `r_{v,ℓ}`: vertex `v` has colour `ℓ` -/
def ccRrel (n k c : Nat) (α : Assign) (v l : Nat) : Prop :=
  α (Vars.mapId (1 + ccNE n + k * n) c v l) = true

/-- the documented statement: `Q` is an injective function `[k] → [n]` whose image is a clique of
the graph `E`, and `R` is a function `[n] → [c]` that is a proper colouring of `E` -/
structure CCSpec (n k c : Nat) (E Q R : Nat → Nat → Prop) : Prop where
  qTotal : ∀ i, 1 ≤ i → i ≤ k → ∃ v, 1 ≤ v ∧ v ≤ n ∧ Q i v
  qFunc : ∀ i, 1 ≤ i → i ≤ k → ∀ v, 1 ≤ v → v ≤ n → ∀ v', 1 ≤ v' → v' ≤ n → Q i v → Q i v' → v = v'
  qInj : ∀ v, 1 ≤ v → v ≤ n → ∀ i, 1 ≤ i → i ≤ k → ∀ i', 1 ≤ i' → i' ≤ k → Q i v → Q i' v → i = i'
  clique : ∀ u v, 1 ≤ u → u < v → v ≤ n → ∀ i, 1 ≤ i → i ≤ k → ∀ j, 1 ≤ j → j ≤ k → i ≠ j →
    Q i u → Q j v → E u v
  rTotal : ∀ v, 1 ≤ v → v ≤ n → ∃ l, 1 ≤ l ∧ l ≤ c ∧ R v l
  rFunc : ∀ v, 1 ≤ v → v ≤ n → ∀ l, 1 ≤ l → l ≤ c → ∀ l', 1 ≤ l' → l' ≤ c → R v l → R v l' → l = l'
  proper : ∀ u v, 1 ≤ u → u < v → v ≤ n → ∀ l, 1 ≤ l → l ≤ c → E u v → ¬ (R u l ∧ R v l)

/-- T-C01.5 (clique-colouring): for all sizes and assignments -/
theorem cc_spec (n k c : Nat) (α : Assign) :
    (cliqueColoringF n k c).holds α = true ↔
      CCSpec n k c (ccE n α) (ccQrel n α) (ccRrel n k c α) := by
  have hq : 0 < (ccQ n k).start := by simp only [ccQ]; omega
  have hr : 0 < (ccR n k c).start := by simp only [ccR]; omega
  have h1 := UMap.forceComplete_holds (ccQ n k) hq α
  have h2 := UMap.forceFunctional_holds (ccQ n k) hq α
  have h3 := UMap.forceInjective_holds (ccQ n k) hq α
  have h5 := UMap.forceComplete_holds (ccR n k c) hr α
  have h6 := UMap.forceFunctional_holds (ccR n k c) hr α
  simp only [cliqueColoringF, Formula.holds_mk, List.all_append, Bool.and_eq_true, h1, h2, h3, h5, h6]
  simp only [ccEdges_eq, List.flatMap_map, List.all_flatMap, List.all_map, List.all_cons, List.all_nil,
    Bool.and_true, Bool.and_eq_true, List.all_eq_true, Function.comp, Con.holds, cc_clique_holds,
    cc_proper_holds, mem_idx, Prod.forall, mem_pairs_idx, and_imp]
  constructor
  · rintro ⟨⟨⟨⟨⟨⟨a1, a2⟩, a3⟩, a4⟩, a5⟩, a6⟩, a7⟩
    refine ⟨a1, a2, a3, ?_, a5, a6, a7⟩
    intro u v hu huv hv i hi1 hi2 j hj1 hj2 hij hQi hQj
    rcases Nat.lt_or_gt_of_ne hij with hlt | hgt
    · exact (a4 u v hu huv hv i j hi1 hlt hj2).1 hQi hQj
    · exact (a4 u v hu huv hv j i hj1 hgt hi2).2 hQj hQi
  · rintro ⟨a1, a2, a3, a4, a5, a6, a7⟩
    refine ⟨⟨⟨⟨⟨⟨a1, a2⟩, a3⟩, ?_⟩, a5⟩, a6⟩, a7⟩
    intro u v hu huv hv i j hi hij hj
    exact ⟨a4 u v hu huv hv i hi (by omega) j (by omega) hj (by omega),
      fun hQi hQj => a4 u v hu huv hv j (by omega) hj i hi (by omega) (by omega) hQj hQi⟩

example : CCSpec 2 2 2 (fun _ _ => True) (fun i v => i = v) (fun v l => v = l) :=
  ⟨fun i a b => ⟨i, a, b, rfl⟩, by intros; omega, by intros; omega, by intros; trivial,
   fun v a b => ⟨v, a, b, rfl⟩, by intros; omega, by intro u v _ _ _ l _ _ _ h; omega⟩

theorem cc_wf (n k c : Nat) : (cliqueColoringF n k c).WF := by
  have hq : 1 ≤ (ccQ n k).start := Nat.le_add_right ..
  have hr : 1 ≤ (ccR n k c).start := by simp only [ccR]; omega
  have hNq : (ccQ n k).start + k * n ≤ (cliqueColoringF n k c).nvars + 1 := by
    simp only [ccQ, cliqueColoringF]; omega
  have hNr : (ccR n k c).start + n * c ≤ (cliqueColoringF n k c).nvars + 1 := by
    simp only [ccR, cliqueColoringF]; omega
  have q := @UMap.lit_in (ccQ n k) hq _ hNq
  have r := @UMap.lit_in (ccR n k c) hr _ hNr
  have hE : ∀ e ∈ ccEdges n, (e.1.1 ∈ idx n ∧ e.1.2 ∈ idx n) ∧
      1 ≤ 1 + e.2 ∧ 1 + e.2 ≤ (cliqueColoringF n k c).nvars := by
    intro e he
    rw [ccEdges_eq, List.mem_map] at he
    obtain ⟨p, hp, rfl⟩ := he
    have := List.idxOf_lt_length_iff.2 hp
    exact ⟨mem_pairs_mem _ _ _ hp, Nat.le_add_right .., by simp only [cliqueColoringF]; omega⟩
  refine G2.wf_of_consIn (lo := 1) ((((((G2.ConsIn.append ?_ ?_).append ?_).append ?_).append ?_).append ?_).append ?_)
  · exact (G2.forceComplete_in k n hq).mono hq (Nat.sub_le_of_le_add hNq)
  · exact (G2.forceFunctional_in k n hq).mono hq (Nat.sub_le_of_le_add hNq)
  · exact (G2.forceInjective_in k n hq).mono hq (Nat.sub_le_of_le_add hNq)
  · refine .flatMap fun e he => .flatMap fun i hi => ?_
    have ⟨v, x⟩ := hE e he
    have i := mem_pairs_mem _ _ _ hi
    exact .cons (.pos x.1 x (.negLit (q i.1 v.1) (.negLit (q i.2 v.2) .nil)))
      (.cons (.pos x.1 x (.negLit (q i.1 v.2) (.negLit (q i.2 v.1) .nil))) .nil)
  · exact (G2.forceComplete_in n c hr).mono hr (Nat.sub_le_of_le_add hNr)
  · exact (G2.forceFunctional_in n c hr).mono hr (Nat.sub_le_of_le_add hNr)
  · refine .flatMap fun e he => .map fun l hl => ?_
    have ⟨v, x⟩ := hE e he
    exact .neg x.1 x (.negLit (r v.1 hl) (.negLit (r v.2 hl) .nil))

/-- documented variable count: `e` (n choose 2), `q` (k·n), `r` (n·c) -/
theorem cc_nvars (n k c : Nat) : (cliqueColoringF n k c).nvars = Nat.choose n 2 + k * n + n * c := by
  show (pairs (idx n)).length + k * n + n * c = _
  rw [length_pairs, length_idx]

theorem cc_validation (n k c : Int) :
    cliqueColoring n k c = if n < 0 ∨ k < 0 ∨ c < 0 then .error .valueError
      else .ok (cliqueColoringF n.toNat k.toNat c.toNat) := rfl

theorem cc_cnf_spec (n k c : Nat) (α : Assign) :
    (cliqueColoringF n k c).toCNF.holds α = true ↔
      CCSpec n k c (ccE n α) (ccQrel n α) (ccRrel n k c α) := by
  rw [Formula.toCNF_holds α _ (cc_wf n k c)]; exact cc_spec n k c α

theorem cc_opb_spec (n k c : Nat) (α : Assign) :
    (cliqueColoringF n k c).toOPB.holds α = true ↔
      CCSpec n k c (ccE n α) (ccQrel n α) (ccRrel n k c α) := by
  rw [Formula.toOPB_holds α _ (cc_wf n k c)]; exact cc_spec n k c α

/-! ## "by exactly one"

The satisfying assignments restricted to the variables `1..nvars` correspond one to one to the documented objects,
the triples (graph `E` on `[n]`, clique map `Q : [k] → [n]`, colouring `R : [n] → [c]`) in which `Q` is an injective
function whose image is a clique of `E` and `R` is a function that colours `E` properly.  For all `n`, `k`, `c`
(zeros included).

The three variable groups (`e_{u,v}` : position in `combinations(range(1, n+1), 2)`, `q_{i,v}` and
`r_{v,ℓ}` : row-major grids) are numbered by the `Fam.VarIndex` `ccIndex`; the inverse laws come
from `VarIndex.ofObj_toObj` / `VarIndex.toObj_ofObj`.
-/

/-- the potential edges of a graph on `[n]`: the pairs `(u, v)` with `1 ≤ u < v ≤ n`
(`mem_pairs_idx`), i.e. the entries of `combinations(range(1, n+1), 2)` -/
abbrev CCPair (n : Nat) := {e : Nat × Nat // e ∈ pairs (idx n)}

/-- the potential edge between the (0-based) vertices `u < v` -/
def ccPair {n : Nat} (u v : Fin n) (h : u.val < v.val) : CCPair n :=
  ⟨(u.val + 1, v.val + 1), mem_pairs_idx.2 ⟨by omega, by omega, v.isLt⟩⟩

theorem ccPair_val {n : Nat} (u v : Fin n) (h : u.val < v.val) :
    (ccPair u v h).1 = (u.val + 1, v.val + 1) := rfl

/-- every potential edge is `ccPair u v _` (for exactly one pair of vertices `u < v`) -/
theorem ccPair_surj {n : Nat} (e : CCPair n) :
    ∃ (u v : Fin n) (h : u.val < v.val), e = ccPair u v h ∧
      ∀ (u' v' : Fin n) (h' : u'.val < v'.val), e = ccPair u' v' h' → u' = u ∧ v' = v := by
  obtain ⟨⟨a, b⟩, he⟩ := e
  have hm := mem_pairs_idx.1 he
  refine ⟨⟨a - 1, by omega⟩, ⟨b - 1, by omega⟩, by simp only []; omega, ?_, ?_⟩
  · apply Subtype.ext
    simp only [ccPair_val, Prod.mk.injEq]; omega
  · intro u' v' h' e'
    have := congrArg Subtype.val e'
    simp only [ccPair_val, Prod.mk.injEq] at this
    exact ⟨Fin.ext (by simp only []; omega), Fin.ext (by simp only []; omega)⟩

/-- the objects: a graph (indicator of the edges among the pairs `u < v`), a relation
`[k] × [n]` and a relation `[n] × [c]` (0/1 matrices) -/
abbrev CCObj (n k c : Nat) :=
  (CCPair n → Bool) × (Fin k → Fin n → Bool) × (Fin n → Fin c → Bool)

/-- the documented properties of the triple (graph `E`, clique map `Q`, colouring `R`):
`Q` is an injective function `[k] → [n]` whose image is a clique of `E`, and `R` is a function
`[n] → [c]` that is a proper colouring of `E` -/
structure CliqueColouring (n k c : Nat) (E : CCPair n → Bool) (Q : Fin k → Fin n → Bool)
    (R : Fin n → Fin c → Bool) : Prop where
  qTotal : ∀ i, ∃ v, Q i v = true
  qFunc : ∀ i v v', Q i v = true → Q i v' = true → v = v'
  qInj : ∀ v i i', Q i v = true → Q i' v = true → i = i'
  clique : ∀ (u v : Fin n) (h : u.val < v.val) (i j : Fin k), i ≠ j →
    Q i u = true → Q j v = true → E (ccPair u v h) = true
  rTotal : ∀ v, ∃ l, R v l = true
  rFunc : ∀ v l l', R v l = true → R v l' = true → l = l'
  proper : ∀ (u v : Fin n) (h : u.val < v.val), E (ccPair u v h) = true →
    ∀ l, ¬ (R u l = true ∧ R v l = true)

/-- the index type of the variables: `e` (pairs), then `q` (`k × n`), then `r` (`n × c`) -/
abbrev CCIdx (n k c : Nat) := (CCPair n ⊕ (Fin k × Fin n)) ⊕ (Fin n × Fin c)

/-- the numbering of the three variable groups by `1..nvars` -/
def ccIndex (n k c : Nat) : VarIndex (CCIdx n k c) (cliqueColoringF n k c).nvars :=
  VarIndex.sumIdx (VarIndex.sumIdx (ccListIndex (pairs (idx n)) (nodup_pairs _ (idx_nodup n)))
    (VarIndex.gridIdx k n)) (VarIndex.gridIdx n c)

/-- `e_{u,v}` is the variable the formula uses (`ccE`) -/
theorem ccIndex_e (n k c : Nat) (e : CCPair n) :
    (ccIndex n k c).var (.inl (.inl e)) = 1 + (pairs (idx n)).idxOf e.1 := rfl

/-- `q_{i+1,v+1}` is the variable the formula uses (`ccQrel`) -/
theorem ccIndex_q (n k c : Nat) (i : Fin k) (v : Fin n) :
    (ccIndex n k c).var (.inl (.inr (i, v))) = Vars.mapId (1 + ccNE n) n (i.val + 1) (v.val + 1) := by
  show (pairs (idx n)).length + (i.val * n + v.val + 1) = _
  simp only [Vars.mapId, ccNE, Nat.add_sub_cancel]; omega

/-- `r_{v+1,ℓ+1}` is the variable the formula uses (`ccRrel`) -/
theorem ccIndex_r (n k c : Nat) (v : Fin n) (l : Fin c) :
    (ccIndex n k c).var (.inr (v, l)) =
      Vars.mapId (1 + ccNE n + k * n) c (v.val + 1) (l.val + 1) := by
  show (pairs (idx n)).length + k * n + (v.val * c + l.val + 1) = _
  simp only [Vars.mapId, ccNE, Nat.add_sub_cancel]; omega

/-- a triple as one Boolean function on the index type -/
def ccObjFn {n k c : Nat} (T : CCObj n k c) : CCIdx n k c → Bool
  | .inl (.inl e) => T.1 e
  | .inl (.inr p) => T.2.1 p.1 p.2
  | .inr p => T.2.2 p.1 p.2

/-- the triple described by an assignment: `E e` is the value of `e_{u,v}`, `Q i v` the value of
`q_{i+1,v+1}`, `R v l` the value of `r_{v+1,l+1}` -/
def ccToObj (n k c : Nat) (a : Fin (cliqueColoringF n k c).nvars → Bool) : CCObj n k c :=
  (fun e => (ccIndex n k c).toObj a (.inl (.inl e)),
   fun i v => (ccIndex n k c).toObj a (.inl (.inr (i, v))),
   fun v l => (ccIndex n k c).toObj a (.inr (v, l)))

/-- the assignment describing a triple -/
def ccOfObj (n k c : Nat) (T : CCObj n k c) : Fin (cliqueColoringF n k c).nvars → Bool :=
  (ccIndex n k c).ofObj (ccObjFn T)

theorem ccObjFn_toObj (n k c : Nat) (a : Fin (cliqueColoringF n k c).nvars → Bool) :
    ccObjFn (ccToObj n k c a) = (ccIndex n k c).toObj a := by
  funext s
  rcases s with (e | ⟨i, v⟩) | ⟨v, l⟩ <;> rfl

theorem cc_ofObj_toObj (n k c : Nat) (a : Fin (cliqueColoringF n k c).nvars → Bool) :
    ccOfObj n k c (ccToObj n k c a) = a := by
  rw [ccOfObj, ccObjFn_toObj, VarIndex.ofObj_toObj]

theorem cc_toObj_ofObj (n k c : Nat) (T : CCObj n k c) : ccToObj n k c (ccOfObj n k c T) = T := by
  simp only [ccToObj, ccOfObj, VarIndex.toObj_ofObj]
  rfl

/-- the documented statement in `Fin` terms: three relations on `1..` indices read off a graph on the pairs and
two 0/1 matrices -/
theorem CCSpec_iff_CliqueColouring (n k c : Nat) (E' Q' R' : Nat → Nat → Prop) (E : CCPair n → Bool)
    (Q : Fin k → Fin n → Bool) (R : Fin n → Fin c → Bool)
    (hE : ∀ u v (h : u.val < v.val), E' (u.val + 1) (v.val + 1) ↔ E (ccPair u v h) = true)
    (hQ : ∀ i v, Q' (i.val + 1) (v.val + 1) ↔ Q i v = true)
    (hR : ∀ v l, R' (v.val + 1) (l.val + 1) ↔ R v l = true) :
    CCSpec n k c E' Q' R' ↔ CliqueColouring n k c E Q R := by
  constructor
  · rintro ⟨h1, h2, h3, h4, h5, h6, h7⟩
    simp only [forall_range_iff_fin, exists_range_iff_fin, forall_lt_range_iff_fin, hQ, hR, ne_eq,
      Nat.add_right_cancel_iff, Fin.val_inj] at h1 h2 h3 h4 h5 h6 h7
    exact ⟨h1, h2, h3, fun u v h i j hij e e' => (hE u v h).1 (h4 u v h i j hij e e'), h5, h6,
      fun u v h he l => h7 u v h l ((hE u v h).2 he)⟩
  · rintro ⟨h1, h2, h3, h4, h5, h6, h7⟩
    refine ⟨?_, ?_, ?_, ?_, ?_, ?_, ?_⟩ <;>
      simp only [forall_range_iff_fin, exists_range_iff_fin, forall_lt_range_iff_fin, hQ, hR, ne_eq,
        Nat.add_right_cancel_iff, Fin.val_inj]
    exacts [h1, h2, h3, fun u v h i j hij e e' => (hE u v h).2 (h4 u v h i j hij e e'), h5, h6,
      fun u v h l he => h7 u v h ((hE u v h).1 he) l]

/-- the satisfying assignments (restricted to the `C(n,2) + k·n + n·c` variables) are exactly the
assignments that describe a graph with a `k`-clique and a `c`-colouring; together with
`cc_ofObj_toObj` / `cc_toObj_ofObj` this is the bijection "satisfying assignments ↔ triples" -/
theorem cc_holds_iff_obj (n k c : Nat) (a : Fin (cliqueColoringF n k c).nvars → Bool) :
    (cliqueColoringF n k c).holds (extend a) = true ↔
      CliqueColouring n k c (ccToObj n k c a).1 (ccToObj n k c a).2.1 (ccToObj n k c a).2.2 := by
  rw [cc_spec]
  exact CCSpec_iff_CliqueColouring n k c _ _ _ _ _ _
    (fun u v h => (ccIndex n k c).holds_var a (ccIndex_e n k c (ccPair u v h)))
    (fun i v => (ccIndex n k c).holds_var a (ccIndex_q n k c i v))
    (fun v l => (ccIndex n k c).holds_var a (ccIndex_r n k c v l))

/-- the bijection, packaged: `ccToObj` maps the satisfying restricted assignments one-to-one onto
the triples (graph, clique map, colouring) with the documented properties -/
theorem cc_bijection (n k c : Nat) :
    (∀ a, (cliqueColoringF n k c).holds (extend a) = true →
      CliqueColouring n k c (ccToObj n k c a).1 (ccToObj n k c a).2.1 (ccToObj n k c a).2.2) ∧
    (∀ T : CCObj n k c, CliqueColouring n k c T.1 T.2.1 T.2.2 →
      (cliqueColoringF n k c).holds (extend (ccOfObj n k c T)) = true) ∧
    (∀ a, ccOfObj n k c (ccToObj n k c a) = a) ∧ (∀ T, ccToObj n k c (ccOfObj n k c T) = T) :=
  bijection_of_inverse (Q := fun T : CCObj n k c => CliqueColouring n k c T.1 T.2.1 T.2.2) (cc_ofObj_toObj n k c)
    (cc_toObj_ofObj n k c) (cc_holds_iff_obj n k c)

/-- every satisfying restricted assignment is described by exactly one triple with the documented
properties, and every such triple is described by exactly one satisfying restricted assignment -/
theorem cc_bijection_unique (n k c : Nat) :
    (∀ a, (cliqueColoringF n k c).holds (extend a) = true →
      ∃! T : CCObj n k c, CliqueColouring n k c T.1 T.2.1 T.2.2 ∧ ccOfObj n k c T = a) ∧
    (∀ T : CCObj n k c, CliqueColouring n k c T.1 T.2.1 T.2.2 →
      ∃! a, (cliqueColoringF n k c).holds (extend a) = true ∧ ccToObj n k c a = T) :=
  existsUnique_of_inverse (Q := fun T : CCObj n k c => CliqueColouring n k c T.1 T.2.1 T.2.2)
    (cc_ofObj_toObj n k c) (cc_toObj_ofObj n k c) (cc_holds_iff_obj n k c)

/-- two (total) assignments that describe the same triple (graph, clique map, colouring) agree on
every variable of the formula -/
theorem cc_unique (n k c : Nat) (α β : Assign)
    (hE : ∀ u v, 1 ≤ u → u < v → v ≤ n → (ccE n α u v ↔ ccE n β u v))
    (hQ : ∀ i v, 1 ≤ i → i ≤ k → 1 ≤ v → v ≤ n → (ccQrel n α i v ↔ ccQrel n β i v))
    (hR : ∀ v l, 1 ≤ v → v ≤ n → 1 ≤ l → l ≤ c → (ccRrel n k c α v l ↔ ccRrel n k c β v l)) :
    ∀ x, 1 ≤ x → x ≤ (cliqueColoringF n k c).nvars → α x = β x := by
  apply (ccIndex n k c).agree_of_toObj_eq α β
  intro s
  rw [Bool.eq_iff_iff]
  rcases s with (e | ⟨i, v⟩) | ⟨v, l⟩
  · obtain ⟨⟨u, v⟩, he⟩ := e
    have hm := mem_pairs_idx.1 he
    rw [ccIndex_e]
    exact hE u v hm.1 hm.2.1 hm.2.2
  · rw [ccIndex_q]
    exact hQ (i.val + 1) (v.val + 1) (by omega) i.isLt (by omega) v.isLt
  · rw [ccIndex_r]
    exact hR (v.val + 1) (l.val + 1) (by omega) v.isLt (by omega) l.isLt

/-- in particular: a satisfying total assignment is determined on `1..nvars` by its triple, i.e.
its restriction is the assignment `ccOfObj` of the triple it describes -/
theorem cc_restrict_eq (n k c : Nat) (α : Assign) :
    ccOfObj n k c (ccToObj n k c (Fam.restrict (cliqueColoringF n k c).nvars α)) =
      Fam.restrict (cliqueColoringF n k c).nvars α := cc_ofObj_toObj n k c _

/-- total assignments: `α` satisfies the formula iff the triple described by its restriction to
`1..nvars` has the documented properties -/
theorem cc_holds_iff_obj_total (n k c : Nat) (α : Assign) :
    (cliqueColoringF n k c).holds α = true ↔
      CliqueColouring n k c (ccToObj n k c (Fam.restrict (cliqueColoringF n k c).nvars α)).1
        (ccToObj n k c (Fam.restrict (cliqueColoringF n k c).nvars α)).2.1
        (ccToObj n k c (Fam.restrict (cliqueColoringF n k c).nvars α)).2.2 := by
  rw [← holds_restrict _ (cc_wf n k c) α]
  exact cc_holds_iff_obj n k c _

/-- the graph on `{1, 2}` with the single edge `{1,2}`, clique members `1 ↦ 1`, `2 ↦ 2`,
colours `1 ↦ 1`, `2 ↦ 2` -/
theorem cc_obj_222 : CliqueColouring 2 2 2 (fun _ => true) (fun i v => decide (i = v))
    (fun v l => decide (v = l)) := by
  refine ⟨fun i => ⟨i, by simp⟩, ?_, ?_, fun _ _ _ _ _ _ _ _ => rfl, fun v => ⟨v, by simp⟩, ?_, ?_⟩
  · intro i v v' e e'
    simp only [decide_eq_true_eq] at e e'
    exact e.symm.trans e'
  · intro v i i' e e'
    simp only [decide_eq_true_eq] at e e'
    exact e.trans e'.symm
  · intro v l l' e e'
    simp only [decide_eq_true_eq] at e e'
    exact e.symm.trans e'
  · intro u v h _ l hRR
    simp only [decide_eq_true_eq] at hRR
    have := hRR.1.trans hRR.2.symm
    rw [this] at h
    exact Nat.lt_irrefl _ h

/-- exactly one assignment to the `1 + 4 + 4` variables of CliqueColoring(2,2,2) describes it -/
example : ∃! a, (cliqueColoringF 2 2 2).holds (extend a) = true ∧
    ccToObj 2 2 2 a = (fun _ => true, fun i v => decide (i = v), fun v l => decide (v = l)) :=
  (cc_bijection_unique 2 2 2).2 (fun _ => true, fun i v => decide (i = v), fun v l => decide (v = l))
    cc_obj_222

/-- and, because a 2-clique needs the edge, no triple with the empty graph is described -/
example : ¬ CliqueColouring 2 2 2 (fun _ => false) (fun i v => decide (i = v))
    (fun v l => decide (v = l)) := by
  intro h
  have := h.clique ⟨0, by omega⟩ ⟨1, by omega⟩ (by simp) ⟨0, by omega⟩ ⟨1, by omega⟩ (by simp)
    (by simp) (by simp)
  simp at this

/-- T-C01.5 corollary: a graph on `n` vertices with a `k`-clique and a `c`-colouring exists
exactly when `k ≤ n`, `k ≤ c` and (if there is a vertex at all) there is a colour.
In particular `k = c + 1` is unsatisfiable. -/
theorem cc_sat_iff (n k c : Nat) :
    (∃ α, (cliqueColoringF n k c).holds α = true) ↔ k ≤ n ∧ k ≤ c ∧ (n = 0 ∨ 1 ≤ c) := by
  constructor
  · rintro ⟨α, hα⟩
    obtain ⟨a1, a2, a3, a4, a5, a6, a7⟩ := (cc_spec n k c α).1 hα
    refine ⟨le_of_total_injective k n _ a1 a3, ?_, ?_⟩
    · -- the colours of the clique members are pairwise distinct
      apply le_of_total_injective k c
        (fun i l => ∃ v, 1 ≤ v ∧ v ≤ n ∧ ccQrel n α i v ∧ ccRrel n k c α v l)
      · intro i hi1 hi2
        obtain ⟨v, hv1, hv2, hQ⟩ := a1 i hi1 hi2
        obtain ⟨l, hl1, hl2, hR⟩ := a5 v hv1 hv2
        exact ⟨l, hl1, hl2, v, hv1, hv2, hQ, hR⟩
      · rintro l hl1 hl2 i hi1 hi2 i' hi1' hi2' ⟨v, hv1, hv2, hQ, hR⟩ ⟨v', hv1', hv2', hQ', hR'⟩
        by_cases hii : i = i'
        · exact hii
        · exfalso
          rcases Nat.lt_trichotomy v v' with hlt | he | hgt
          · exact a7 v v' hv1 hlt hv2' l hl1 hl2
              (a4 v v' hv1 hlt hv2' i hi1 hi2 i' hi1' hi2' hii hQ hQ') ⟨hR, hR'⟩
          · subst he; exact hii (a3 v hv1 hv2 i hi1 hi2 i' hi1' hi2' hQ hQ')
          · exact a7 v' v hv1' hgt hv2 l hl1 hl2
              (a4 v' v hv1' hgt hv2 i' hi1' hi2' i hi1 hi2 (fun h => hii h.symm) hQ' hQ) ⟨hR', hR⟩
    · rcases Nat.eq_zero_or_pos n with h | h
      · exact Or.inl h
      · obtain ⟨l, hl1, hl2, _⟩ := a5 1 (by omega) h
        right; omega
  · rintro ⟨hkn, hkc, hnc⟩
    -- clique = the first k vertices (member i is vertex i), vertex v gets colour min v c
    refine ⟨_, (cc_bijection n k c).2.1 (fun e => decide (e.1.2 ≤ k), fun i v => decide (i.val = v.val),
      fun v l => decide (l.val = min v.val (c - 1))) ⟨?_, ?_, ?_, ?_, ?_, ?_, ?_⟩⟩
    · intro i; exact ⟨⟨i.val, by omega⟩, by simp⟩
    · intro i v v' h h'
      simp only [decide_eq_true_eq] at h h'; exact Fin.ext (by omega)
    · intro v i i' h h'
      simp only [decide_eq_true_eq] at h h'; exact Fin.ext (by omega)
    · intro u v _ i j _ _ h'
      simp only [decide_eq_true_eq] at h'
      exact decide_eq_true (by simp only [ccPair_val]; omega)
    · intro v
      have := v.isLt
      exact ⟨⟨min v.val (c - 1), by omega⟩, decide_eq_true rfl⟩
    · intro v l l' h h'
      simp only [decide_eq_true_eq] at h h'; exact Fin.ext (by omega)
    · intro u v huv hE l ⟨h, h'⟩
      have := of_decide_eq_true hE
      simp only [decide_eq_true_eq, ccPair_val] at this h h'
      omega

end Cnfgen.C01
