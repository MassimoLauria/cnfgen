/-
C01 — PerfectMatchingPrinciple(G) on an arbitrary simple graph object.
-/
import Lemmas.C01GraphInv
import Props.C01.Gphp
namespace Cnfgen.C01
open Cnfgen Cnfgen.Fam

/-- "the edge `{a, b}` is selected": the variable `e_{min,max}` of `new_graph_edges(G)` is true -/
def pmRel (G : SimpleG) (α : Assign) (a b : Nat) : Prop :=
  α (Vars.bipId (auxBip G) 1 (min a b) (max a b)) = true

/-- the documented statement: every vertex has exactly one selected incident edge -/
def PMSpec (G : SimpleG) (R : Nat → Nat → Prop) : Prop :=
  ∀ w, 1 ≤ w → w ≤ G.n → ∃ x, x ∈ G.nbrs w ∧ R w x ∧ ∀ y ∈ G.nbrs w, R w y → y = x

/-- the simple graph objects the theorem is about: duplicate-free, loop-free, symmetric adjacency
lists within the vertex range (invariant of `Graph.add_edge`) -/
abbrev GoodSimple := Fam.GoodSimple

/-- T-C01.5 (perfect matching): for every consistent simple graph and every assignment -/
theorem pm_spec (G : SimpleG) (hg : GoodSimple G) (α : Assign) :
    (pmF G).holds α = true ↔ PMSpec G (pmRel G α) := by
  simp only [pmF, Formula.holds_mk, List.all_map, List.all_eq_true, mem_idx, Function.comp, Con.holds,
    Op.denote, decide_eq_true_eq, PMSpec, and_imp]
  refine forall₃_congr fun w h1 h2 => ?_
  rw [count_pmStar G hg α h1 h2]
  refine Iff.trans ?_ (countP_eq_one_iff_unique _ (fun x => α (pmVar G w x)) (hg.nodup w))
  omega

theorem pm_wf (G : SimpleG) (hg : GoodSimple G) : (pmF G).WF :=
  G2.wf_of_consIn (.map fun _ hw => pmStar_in G hg hw)

/-- one variable per edge (of the oriented copy built by `GraphEdgesVariables`) -/
theorem pm_nvars (G : SimpleG) : (pmF G).nvars = (auxBip G).numberOfEdges := rfl

theorem pm_cnf_spec (G : SimpleG) (hg : GoodSimple G) (α : Assign) :
    (pmF G).toCNF.holds α = true ↔ PMSpec G (pmRel G α) := by
  rw [Formula.toCNF_holds α _ (pm_wf G hg)]; exact pm_spec G hg α

theorem pm_opb_spec (G : SimpleG) (hg : GoodSimple G) (α : Assign) :
    (pmF G).toOPB.holds α = true ↔ PMSpec G (pmRel G α) := by
  rw [Formula.toOPB_holds α _ (pm_wf G hg)]; exact pm_spec G hg α

/-- the hypothesis holds for every graph object the real class can represent:
`Graph(n)` followed by any sequence of successful `add_edge` calls -/
theorem goodSimple_ofEdges (n : Nat) (es : List (Nat × Nat)) (G : SimpleG)
    (h : SimpleG.ofEdges n es = .ok G) : GoodSimple G := Fam.goodSimple_ofEdges n es G h

theorem pm_spec_ofEdges (n : Nat) (es : List (Nat × Nat)) (G : SimpleG)
    (h : SimpleG.ofEdges n es = .ok G) (α : Assign) :
    (pmF G).holds α = true ↔ PMSpec G (pmRel G α) :=
  pm_spec G (goodSimple_ofEdges n es G h) α

/-- non-vacuity: the path 1-3, 3-2, 2-4 with its perfect matching {1,3}, {2,4} -/
example : ∃ G, SimpleG.ofEdges 4 [(3, 1), (2, 4), (2, 3)] = .ok G ∧
    PMSpec G (fun a b => (min a b, max a b) = (1, 3) ∨ (min a b, max a b) = (2, 4)) := by
  refine ⟨_, rfl, ?_⟩
  intro w h1 h2
  have h2' : w ≤ 4 := h2
  have : w = 1 ∨ w = 2 ∨ w = 3 ∨ w = 4 := by omega
  rcases this with rfl | rfl | rfl | rfl <;> decide +kernel

/-- the edge `{w, x}` of `G` is the edge `(min w x, max w x)` of its oriented copy -/
theorem auxBip_edge (G : SimpleG) (hg : GoodSimple G) {w x : Nat} (h1 : 1 ≤ w) (h2 : w ≤ G.n)
    (hx : x ∈ G.nbrs w) :
    1 ≤ min w x ∧ min w x ≤ (auxBip G).l ∧ max w x ∈ (auxBip G).rnbrs (min w x) := by
  have hs := hg.sym w x ⟨h1, h2, hx⟩
  have hne : x ≠ w := fun e => hg.noloop w (e ▸ hx)
  rw [auxBip_l, auxBip_rnbrs]
  rcases Nat.lt_or_gt_of_ne hne with hlt | hgt
  · rw [Nat.min_eq_right (Nat.le_of_lt hlt), Nat.max_eq_left (Nat.le_of_lt hlt), if_pos ⟨hs.1, hs.2.1⟩]
    exact ⟨hs.1, hs.2.1, List.mem_filter.2 ⟨hs.2.2, decide_eq_true hlt⟩⟩
  · rw [Nat.min_eq_left (Nat.le_of_lt hgt), Nat.max_eq_right (Nat.le_of_lt hgt), if_pos ⟨h1, h2⟩]
    exact ⟨h1, h2, List.mem_filter.2 ⟨hx, decide_eq_true hgt⟩⟩

theorem PMSpec_congr {G : SimpleG} {R R' : Nat → Nat → Prop}
    (h : ∀ w x, 1 ≤ w → w ≤ G.n → x ∈ G.nbrs w → (R w x ↔ R' w x)) : PMSpec G R → PMSpec G R' := by
  intro hs w h1 h2
  obtain ⟨x, hx, hR, hu⟩ := hs w h1 h2
  exact ⟨x, hx, (h w x h1 h2 hx).1 hR, fun y hy hy' => hu y hy ((h w y h1 h2 hy).2 hy')⟩

/-- every perfect matching (a set `R` of edges, given on ordered pairs `u < v`) is described by a
satisfying assignment -/
theorem pm_realises (G : SimpleG) (hg : GoodSimple G) (R : Nat → Nat → Bool)
    (h : PMSpec G (fun a b => R (min a b) (max a b) = true)) :
    (pmF G).holds ((SMap.mk (auxBip G) 1).assignOf R) = true := by
  rw [pm_spec G hg]
  refine PMSpec_congr (fun w x h1 h2 hx => ?_) h
  have hedge := auxBip_edge G hg h1 h2 hx
  have := (SMap.mk (auxBip G) 1).assignOf_var R hedge.1 hedge.2.1 hedge.2.2
  simp only [SMap.var] at this
  simp only [pmRel, this]

/-! ### perfect matching principle: assignments ↔ perfect matchings -/

/-- the edges of the simple graph object `G`: the pairs `(u, v)`, `u < v`, `v` adjacent to `u`
(the oriented copy built by `GraphEdgesVariables`) -/
abbrev GEdge (G : SimpleG) := BEdge (auxBip G)

theorem GEdge.spec' {G : SimpleG} (e : GEdge G) :
    1 ≤ e.1.1 ∧ e.1.1 ≤ G.n ∧ e.1.2 ∈ G.nbrs e.1.1 ∧ e.1.1 < e.1.2 := by
  have s := BEdge.spec e
  rw [auxBip_l, auxBip_rnbrs, if_pos ⟨s.1, s.2.1⟩, List.mem_filter] at s
  exact ⟨s.1, s.2.1, s.2.2.1, by simpa using s.2.2.2⟩

theorem mem_auxBip_edges (G : SimpleG) (hg : GoodSimple G) {w x : Nat} (h1 : 1 ≤ w) (h2 : w ≤ G.n)
    (hx : x ∈ G.nbrs w) : (min w x, max w x) ∈ (auxBip G).edges :=
  (mem_bip_edges _ _ _).2 (auxBip_edge G hg h1 h2 hx)

/-- the edge `{w, x}` of `G` -/
def gEdge (G : SimpleG) (hg : GoodSimple G) {w x : Nat} (h1 : 1 ≤ w) (h2 : w ≤ G.n)
    (hx : x ∈ G.nbrs w) : GEdge G := ⟨(min w x, max w x), mem_auxBip_edges G hg h1 h2 hx⟩

/-- the documented object of `PerfectMatchingPrinciple(G)`: a set `T` of edges of `G` such that
every vertex is an endpoint of exactly one selected edge -/
def IsPerfectMatching (G : SimpleG) (T : EdgeSet (auxBip G)) : Prop :=
  ∀ w, 1 ≤ w → w ≤ G.n →
    ∃ e : GEdge G, (e.1.1 = w ∨ e.1.2 = w) ∧ T e = true ∧
      ∀ e' : GEdge G, (e'.1.1 = w ∨ e'.1.2 = w) → T e' = true → e' = e

/-- "the edge `{a, b}` is selected" -/
def pmRelOf {G : SimpleG} (T : EdgeSet (auxBip G)) (a b : Nat) : Prop :=
  relOf T (min a b) (max a b)

/-- the intrinsic description agrees with the specification over the adjacency lists -/
theorem isPerfectMatching_iff_spec (G : SimpleG) (hg : GoodSimple G) (T : EdgeSet (auxBip G)) :
    IsPerfectMatching G T ↔ PMSpec G (pmRelOf T) := by
  -- an edge at `w` is `{w, y}` for a neighbour `y` of `w`
  have other : ∀ (e : GEdge G) w, (e.1.1 = w ∨ e.1.2 = w) →
      ∃ y, y ∈ G.nbrs w ∧ e.1 = (min w y, max w y) := by
    intro e w hw
    have s := e.spec'
    have hle := Nat.le_of_lt s.2.2.2
    rcases hw with rfl | rfl
    · exact ⟨e.1.2, s.2.2.1, Prod.ext (Nat.min_eq_left hle).symm (Nat.max_eq_right hle).symm⟩
    · exact ⟨e.1.1, (hg.sym _ _ ⟨s.1, s.2.1, s.2.2.1⟩).2.2,
        Prod.ext (Nat.min_eq_right hle).symm (Nat.max_eq_left hle).symm⟩
  have sel : ∀ (e : GEdge G) w y, e.1 = (min w y, max w y) → (T e = true ↔ pmRelOf T w y) := by
    rintro ⟨_, hp⟩ w y rfl
    rw [pmRelOf, relOf, edgeFn_edge T hp]
  constructor
  · intro h w h1 h2
    obtain ⟨e, hw, hT, hu⟩ := h w h1 h2
    obtain ⟨x, hx, he⟩ := other e w hw
    refine ⟨x, hx, (sel e w x he).1 hT, ?_⟩
    intro y hy hR
    have hcov : (gEdge G hg h1 h2 hy).1.1 = w ∨ (gEdge G hg h1 h2 hy).1.2 = w := by
      simp only [gEdge]; omega
    have := hu (gEdge G hg h1 h2 hy) hcov ((sel _ w y rfl).2 hR)
    have := congrArg Subtype.val this
    rw [he] at this
    simp only [gEdge, Prod.mk.injEq] at this
    omega
  · intro h w h1 h2
    obtain ⟨x, hx, hR, hu⟩ := h w h1 h2
    refine ⟨gEdge G hg h1 h2 hx, ?_, (sel _ w x rfl).2 hR, ?_⟩
    · simp only [gEdge]; omega
    · intro e' hw' hT'
      obtain ⟨y, hy, he'⟩ := other e' w hw'
      have := hu y hy ((sel e' w y he').1 hT')
      subst this
      exact Subtype.ext he'

/-- the edge set described by an assignment: `{u, v}` is selected iff `e_{u,v}` is true -/
def pmToObj (G : SimpleG) (hg : GoodSimple G) (a : Fin (auxBip G).numberOfEdges → Bool) :
    EdgeSet (auxBip G) := (edgeIndex (auxBip G) (goodBip_auxBip G hg)).toObj a

/-- the assignment describing an edge set -/
def pmOfObj (G : SimpleG) (hg : GoodSimple G) (T : EdgeSet (auxBip G)) :
    Fin (auxBip G).numberOfEdges → Bool := (edgeIndex (auxBip G) (goodBip_auxBip G hg)).ofObj T

theorem pm_ofObj_toObj (G : SimpleG) (hg : GoodSimple G) (a : Fin (auxBip G).numberOfEdges → Bool) :
    pmOfObj G hg (pmToObj G hg a) = a := (edgeIndex _ _).ofObj_toObj a

theorem pm_toObj_ofObj (G : SimpleG) (hg : GoodSimple G) (T : EdgeSet (auxBip G)) :
    pmToObj G hg (pmOfObj G hg T) = T := (edgeIndex _ _).toObj_ofObj T

theorem pmRel_extend (G : SimpleG) (hg : GoodSimple G) (a : Fin (auxBip G).numberOfEdges → Bool)
    {w x : Nat} (h1 : 1 ≤ w) (h2 : w ≤ G.n) (hx : x ∈ G.nbrs w) :
    pmRel G (extend a) w x ↔ pmRelOf (pmToObj G hg a) w x := by
  have hm := auxBip_edge G hg h1 h2 hx
  simp only [pmRel, pmRelOf, relOf, pmToObj]
  rw [show extend a (Vars.bipId (auxBip G) 1 (min w x) (max w x)) = _ from
    extend_bipId (auxBip G) (goodBip_auxBip G hg) a hm.1 hm.2.1 hm.2.2]

/-- the satisfying assignments (restricted to the `|E|` variables) are exactly the assignments
that describe a perfect matching of `G` -/
theorem pm_holds_iff_obj (G : SimpleG) (hg : GoodSimple G) (a : Fin (auxBip G).numberOfEdges → Bool) :
    (pmF G).holds (extend a) = true ↔ IsPerfectMatching G (pmToObj G hg a) := by
  rw [pm_spec G hg, isPerfectMatching_iff_spec G hg]
  constructor
  · exact PMSpec_congr (fun w x h1 h2 hx => pmRel_extend G hg a h1 h2 hx)
  · exact PMSpec_congr (fun w x h1 h2 hx => (pmRel_extend G hg a h1 h2 hx).symm)

theorem pm_bijection (G : SimpleG) (hg : GoodSimple G) :
    (∀ a, (pmF G).holds (extend a) = true → IsPerfectMatching G (pmToObj G hg a)) ∧
    (∀ T, IsPerfectMatching G T → (pmF G).holds (extend (pmOfObj G hg T)) = true) ∧
    (∀ a, pmOfObj G hg (pmToObj G hg a) = a) ∧ (∀ T, pmToObj G hg (pmOfObj G hg T) = T) :=
  bijection_of_inverse (pm_ofObj_toObj G hg) (pm_toObj_ofObj G hg) (pm_holds_iff_obj G hg)

theorem pm_bijection_unique (G : SimpleG) (hg : GoodSimple G) :
    (∀ a, (pmF G).holds (extend a) = true → ∃! T, IsPerfectMatching G T ∧ pmOfObj G hg T = a) ∧
    (∀ T, IsPerfectMatching G T →
      ∃! a, (pmF G).holds (extend a) = true ∧ pmToObj G hg a = T) :=
  existsUnique_of_inverse (pm_ofObj_toObj G hg) (pm_toObj_ofObj G hg) (pm_holds_iff_obj G hg)

/-- every satisfying (total) assignment describes the perfect matching read off its restriction -/
theorem pm_describes (G : SimpleG) (hg : GoodSimple G) (α : Assign) :
    (pmF G).holds α = true ↔
      IsPerfectMatching G (pmToObj G hg (Fam.restrict (auxBip G).numberOfEdges α)) := by
  rw [← pm_holds_iff_obj G hg, ← holds_restrict _ (pm_wf G hg) α]
  rfl

/-- uniqueness for total assignments: two assignments that select the same edges of `G` agree on
every variable of the formula -/
theorem pm_unique (G : SimpleG) (hg : GoodSimple G) (α β : Assign)
    (h : ∀ w x, 1 ≤ w → w ≤ G.n → x ∈ G.nbrs w → (pmRel G α w x ↔ pmRel G β w x)) :
    ∀ x, 1 ≤ x → x ≤ (pmF G).nvars → α x = β x := by
  apply (edgeIndex (auxBip G) (goodBip_auxBip G hg)).agree_of_toObj_eq
  intro e
  have s := GEdge.spec' e
  have := h _ _ s.1 s.2.1 s.2.2.1
  simp only [pmRel, show min e.1.1 e.1.2 = e.1.1 by omega, show max e.1.1 e.1.2 = e.1.2 by omega] at this
  rw [edgeIndex_var, Bool.eq_iff_iff]; exact this

/-- the graph object of the example below, as the `add_edge` calls leave it -/
def exPmG : SimpleG :=
  ⟨4, 3, [[], [3], [3, 4], [1, 2], [2]], [(3, 2), (2, 3), (4, 2), (2, 4), (3, 1), (1, 3)]⟩

theorem exPmG_eq : SimpleG.ofEdges 4 [(3, 1), (2, 4), (2, 3)] = .ok exPmG := by decide +kernel

theorem exPmG_good : GoodSimple exPmG := goodSimple_ofEdges _ _ _ exPmG_eq

/-- the perfect matching {1,3}, {2,4} of the path 1-3, 3-2, 2-4 -/
def exPmT : EdgeSet (auxBip exPmG) := fun e => decide (e.1 = (1, 3) ∨ e.1 = (2, 4))

theorem exPmT_matching : IsPerfectMatching exPmG exPmT := by
  rw [isPerfectMatching_iff_spec exPmG exPmG_good]
  intro w h1 h2
  have h2' : w ≤ 4 := h2
  have : w = 1 ∨ w = 2 ∨ w = 3 ∨ w = 4 := by omega
  rcases this with rfl | rfl | rfl | rfl <;> unfold pmRelOf relOf <;> decide +kernel

/-- non-vacuity (perfect matching): exactly one assignment to the three edge variables describes
the matching {1,3}, {2,4} -/
example : ∃! a, (pmF exPmG).holds (extend a) = true ∧ pmToObj exPmG exPmG_good a = exPmT :=
  (pm_bijection_unique exPmG exPmG_good).2 exPmT exPmT_matching

end Cnfgen.C01
