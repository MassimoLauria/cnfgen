/-
C01 — `PerfectMatchingPrinciple` as TRANSLATED from cnfgen/families/counting.py is `Fam.pmF` of the model, on every simple
graph object that satisfies the representation invariant of `Graph` (C16): the translated `new_graph_edges` builds the
auxiliary bipartite graph with the source's own loop (`Vars.graphAux`), whose neighbour lists are those of the model's
closed form `auxBip` (Lemmas/GenAuxBip.lean); `e(u, None)` goes through the translated `indices` (local generator) and
`_unsafe_index_to_lit`.
-/
import Lemmas.GenFamGraph
import Props.C01.Generated
import Props.C01.Matching
set_option linter.unusedSimpArgs false
namespace Cnfgen.C01
open Cnfgen Cnfgen.Vars Cnfgen.PyGen Cnfgen.GenVars Cnfgen.Fam Cnfgen.PyF Cnfgen.GenFam Cnfgen.C11 Cnfgen.GenAuxBip

/-- **`PerfectMatchingPrinciple` of the source is `Fam.pmF` of the model** on every graph object with the invariant -/
theorem gen_pmp_eq_model (G : SimpleG) (hG : SimpleG.Inv G) :
    PerfectMatchingPrinciple (absGraph G) = Except.ok (stateOf (pmF G)) := by
  obtain ⟨B, hB⟩ := graphAux_ok G hG
  have hwfB := (graphAux_spec hB).1
  have hl : B.l = G.n := (graphAux_spec hB).2.1
  have hr : B.r = G.n := (graphAux_spec hB).2.2.1
  unfold PerfectMatchingPrinciple
  simp only []
  rw [new_graph_edges_eq PyF.empty 0 rfl hB]
  simp only [Py.ok_bind]
  have hnv : ((0 + B.numberOfEdges : Nat) : Int) = (((pmF G).nvars : Nat) : Int) := by
    rw [pm_nvars, graphAux_numberOfEdges hG hB, Nat.zero_add]
  rw [abs_vertices]
  refine addAll_wf (pm_wf G (goodSimple_of_inv G hG)) hnv ?_
  simp only [pmF]
  refine addAll_last (foldlM_adds_map Int.ofNat _ _ _ (fun s u hu => ?_) _)
  have hu' := Fam.mem_idx.1 hu
  simp only [Int.ofNat_eq_natCast, graph_call_row 0 hwfB (graphAux_edge_lt hG hB) u ⟨⟨hu'.1, by omega⟩, ⟨hu'.1, by omega⟩⟩, Py.ok_bind,
    Nat.zero_add, graphAux_row hG hB, graphAux_col hG hB]
  rfl

/-- **the perfect matching principle of the source encodes the perfect matchings of the graph** — on the generated
definition, for every graph object with the invariant `add_edge` maintains: one variable per edge, and an assignment
satisfies the formula (abstract constraints, CNF, OPB) iff every vertex has exactly one selected incident edge -/
theorem gen_pmp_holds_iff (G : SimpleG) (hG : SimpleG.Inv G) :
    ∃ s : FState, PerfectMatchingPrinciple (absGraph G) = Except.ok s ∧
      s.numvar = (((auxBip G).numberOfEdges : Nat) : Int) ∧
      ∀ α, ((formulaOf s).holds α = true ↔ PMSpec G (pmRel G α)) ∧
        ((formulaOf s).toCNF.holds α = true ↔ PMSpec G (pmRel G α)) ∧
        ((formulaOf s).toOPB.holds α = true ↔ PMSpec G (pmRel G α)) := by
  have hg := goodSimple_of_inv G hG
  refine ⟨stateOf (pmF G), gen_pmp_eq_model G hG, rfl, ?_⟩
  intro α
  rw [formulaOf_stateOf]
  exact ⟨pm_spec G hg α, pm_cnf_spec G hg α, pm_opb_spec G hg α⟩

end Cnfgen.C01
