/-
C01 — PigeonholePrinciple(pigeons, holes, functional, onto): the satisfying assignments are
exactly the placements of pigeons; satisfiable iff such a placement exists.

The family files of C01 have this order: the specification over the relation an assignment induces (`…_spec`, `…_wf`,
both renderings); the documented objects over `Fin` / the edges, `…ToObj` / `…OfObj` with both inverse laws and
`…_bijection` ("every such object is described by exactly one satisfying assignment to `1..nvars`"); then, where there
is one, the satisfiability criterion, whose witness is an object handed to `…_bijection` (binary php: `bphp_sat_iff`
comes first, its witness from `bphp_realises`).
-/
import Lemmas.C01Pigeon
import Lemmas.C01Bij
import Lemmas.C01BijSum
import CnfgenModel.Fam.Php
import Mathlib.Data.List.Nodup
namespace Cnfgen.C01
open Cnfgen Cnfgen.Fam

/-- "pigeon `u` flies to hole `v`" under `α`: the variable `p_{u,v}` of `new_mapping(m, n)` is true -/
def phpRel (n : Nat) (α : Assign) (u v : Nat) : Prop := α (Vars.mapId 1 n u v) = true

/-- the documented statement of `PigeonholePrinciple(m, n, functional, onto)` about a relation
`R ⊆ [m] × [n]` ("pigeon u sits in hole v") -/
structure PHPSpec (m n : Nat) (functional onto : Bool) (R : Nat → Nat → Prop) : Prop where
  /-- every pigeon sits in some hole -/
  total : ∀ u, 1 ≤ u → u ≤ m → ∃ v, 1 ≤ v ∧ v ≤ n ∧ R u v
  /-- no two pigeons in the same hole -/
  inj : ∀ v, 1 ≤ v → v ≤ n → ∀ u, 1 ≤ u → u ≤ m → ∀ u', 1 ≤ u' → u' ≤ m → R u v → R u' v → u = u'
  /-- FPHP: at most one hole per pigeon -/
  func : functional = true →
    ∀ u, 1 ≤ u → u ≤ m → ∀ v, 1 ≤ v → v ≤ n → ∀ v', 1 ≤ v' → v' ≤ n → R u v → R u v' → v = v'
  /-- onto-PHP: every hole is covered -/
  surj : onto = true → ∀ v, 1 ≤ v → v ≤ n → ∃ u, 1 ≤ u ∧ u ≤ m ∧ R u v

/-- T-C01.1 (complete graph): the formula holds exactly under the assignments that describe
a placement of the documented kind — for all sizes, both flags, all assignments. -/
theorem php_spec (m n : Nat) (f o : Bool) (α : Assign) :
    (phpF m n f o).holds α = true ↔ PHPSpec m n f o (phpRel n α) := by
  have hs : 0 < (UMap.mk 1 m n).start := by simp
  simp only [phpF, Formula.holds_mk, List.all_append, Bool.and_eq_true, all_ite_nil, UMap.forceComplete_holds _ hs,
    UMap.forceInjective_holds _ hs, UMap.forceSurjective_holds _ hs, UMap.forceFunctional_holds _ hs]
  constructor
  · rintro ⟨⟨⟨h1, h2⟩, h3⟩, h4⟩; exact ⟨h1, h3, h4, h2⟩
  · rintro ⟨h1, h3, h4, h2⟩; exact ⟨⟨⟨h1, h2⟩, h3⟩, h4⟩

example : PHPSpec 2 3 true false (fun u v => u = v) :=
  ⟨fun u h1 h2 => ⟨u, h1, by omega, rfl⟩, by intros; omega, by intros; omega, fun h => absurd h Bool.false_ne_true⟩

/-- every literal is a variable of the formula: the hypothesis of the transfer to both renderings (C08) -/
theorem php_wf (m n : Nat) (f o : Bool) : (phpF m n f o).WF :=
  have hs : 1 ≤ 1 := Nat.le_refl 1
  ((((G2.forceComplete_in m n hs).append (.ite (fun _ => G2.forceSurjective_in m n hs) fun _ => .nil)).append
    (G2.forceInjective_in m n hs)).append (.ite (fun _ => G2.forceFunctional_in m n hs) fun _ => .nil)).wf
    (Nat.le_of_eq (Nat.add_sub_cancel_left 1 _))

/-- documented variable count: one variable per (pigeon, hole) pair -/
theorem php_nvars (m n : Nat) (f o : Bool) : (phpF m n f o).nvars = m * n := rfl

/-- parameter validation: `ValueError` exactly for a negative argument -/
theorem php_validation (p h : Int) (f o : Bool) :
    php p h f o = if p < 0 ∨ h < 0 then .error .valueError else .ok (phpF p.toNat h.toNat f o) := rfl

/-- transfer to the rendered formulas of both classes -/
theorem php_cnf_spec (m n : Nat) (f o : Bool) (α : Assign) :
    (phpF m n f o).toCNF.holds α = true ↔ PHPSpec m n f o (phpRel n α) := by
  rw [Formula.toCNF_holds α _ (php_wf m n f o)]; exact php_spec m n f o α

theorem php_opb_spec (m n : Nat) (f o : Bool) (α : Assign) :
    (phpF m n f o).toOPB.holds α = true ↔ PHPSpec m n f o (phpRel n α) := by
  rw [Formula.toOPB_holds α _ (php_wf m n f o)]; exact php_spec m n f o α

/-- assignments to the variables `1..N`, read as total assignments (`false` elsewhere) -/
abbrev extend {N : Nat} (a : Fin N → Bool) : Assign := Fam.extend a

/-- a well-formed formula only depends on the restriction of the assignment to `1..nvars` -/
theorem holds_restrict (F : Formula) (hwf : F.WF) (α : Assign) :
    F.holds (extend (Fam.restrict F.nvars α)) = F.holds α :=
  Fam.Formula.holds_extend_restrict F hwf α

/-! ### pigeonhole: assignments ↔ placements -/

/-- a placement of `m` pigeons into `n` holes: a relation `R ⊆ [m] × [n]` (as a 0/1 matrix) in
which every pigeon has a hole and no hole has two pigeons [, functional] [, onto] -/
structure Placement (m n : Nat) (functional onto : Bool) (R : Fin m → Fin n → Bool) : Prop where
  total : ∀ i, ∃ j, R i j = true
  inj : ∀ j i i', R i j = true → R i' j = true → i = i'
  func : functional = true → ∀ i j j', R i j = true → R i j' = true → j = j'
  surj : onto = true → ∀ j, ∃ i, R i j = true

theorem idx_lt {m n : Nat} (i : Fin m) (j : Fin n) : i.val * n + j.val < m * n := grid_idx_lt i j

theorem div_lt {m n : Nat} (x : Fin (m * n)) : x.val / n < m := grid_div_lt x

theorem mod_lt {m n : Nat} (x : Fin (m * n)) : x.val % n < n := grid_mod_lt x

/-- the placement described by an assignment: `R i j` is the value of `p_{i+1,j+1}` -/
def phpToObj (m n : Nat) (a : Fin (m * n) → Bool) : Fin m → Fin n → Bool :=
  fun i j => a ⟨i.val * n + j.val, idx_lt i j⟩

/-- the assignment describing a placement -/
def phpOfObj (m n : Nat) (R : Fin m → Fin n → Bool) : Fin (m * n) → Bool :=
  fun x => R ⟨x.val / n, div_lt x⟩ ⟨x.val % n, mod_lt x⟩

/-- `phpToObj` / `phpOfObj` are the two directions of the row-major numbering `VarIndex.gridIdx m n` -/
theorem php_ofObj_toObj (m n : Nat) (a : Fin (m * n) → Bool) : phpOfObj m n (phpToObj m n a) = a :=
  (VarIndex.gridIdx m n).ofObj_toObj a

theorem php_toObj_ofObj (m n : Nat) (R : Fin m → Fin n → Bool) : phpToObj m n (phpOfObj m n R) = R :=
  funext fun i => funext fun j => congrFun ((VarIndex.gridIdx m n).toObj_ofObj (fun p => R p.1 p.2)) (i, j)

theorem phpRel_extend (m n : Nat) (a : Fin (m * n) → Bool) (i : Fin m) (j : Fin n) :
    phpRel n (extend a) (i.val + 1) (j.val + 1) ↔ phpToObj m n a i j = true :=
  (VarIndex.gridIdx m n).holds_var a (i := (i, j))
    (by simp only [Vars.mapId, Nat.add_sub_cancel, VarIndex.gridIdx_var]; omega)

/-- the satisfying assignments (restricted to the `m·n` variables) are exactly the assignments
that describe a placement; together with `php_ofObj_toObj` / `php_toObj_ofObj` this is the
bijection "satisfying assignments ↔ placements" for all four flag combinations -/
theorem php_holds_iff_placement (m n : Nat) (f o : Bool) (a : Fin (m * n) → Bool) :
    (phpF m n f o).holds (extend a) = true ↔ Placement m n f o (phpToObj m n a) := by
  rw [php_spec]
  have key := phpRel_extend m n a
  constructor
  · rintro ⟨h1, h2, h3, h4⟩
    simp only [forall_range_iff_fin, exists_range_iff_fin, key, Nat.add_right_cancel_iff, Fin.val_inj] at h1 h2 h3 h4
    exact ⟨h1, h2, h3, h4⟩
  · rintro ⟨h1, h2, h3, h4⟩
    refine ⟨?_, ?_, ?_, ?_⟩ <;>
      simp only [forall_range_iff_fin, exists_range_iff_fin, key, Nat.add_right_cancel_iff, Fin.val_inj] <;>
      assumption

/-- the bijection, packaged: `phpToObj` maps the satisfying restricted assignments one-to-one
onto the placements -/
theorem php_bijection (m n : Nat) (f o : Bool) :
    (∀ a, (phpF m n f o).holds (extend a) = true → Placement m n f o (phpToObj m n a)) ∧
    (∀ R, Placement m n f o R → (phpF m n f o).holds (extend (phpOfObj m n R)) = true) ∧
    (∀ a, phpOfObj m n (phpToObj m n a) = a) ∧ (∀ R, phpToObj m n (phpOfObj m n R) = R) :=
  bijection_of_inverse (php_ofObj_toObj m n) (php_toObj_ofObj m n) (php_holds_iff_placement m n f o)

/-- a placement exists exactly when … (closed form; checked against the real code by brute force) -/
def PHPSatisfiable (m n : Nat) (f o : Bool) : Prop :=
  m ≤ n ∧ (o = true → (f = true → n ≤ m) ∧ (m = 0 → n = 0))

/-- T-C01.1 corollary: satisfiable exactly when a placement exists, in closed form -/
theorem php_sat_iff (m n : Nat) (f o : Bool) :
    (∃ α, (phpF m n f o).holds α = true) ↔ PHPSatisfiable m n f o := by
  constructor
  · rintro ⟨α, hα⟩
    obtain ⟨h1, h2, h3, h4⟩ := (php_spec m n f o α).1 hα
    refine ⟨le_of_total_injective m n _ h1 h2, ?_⟩
    intro ho
    refine ⟨?_, ?_⟩
    · intro hf
      -- holes → pigeons is total (onto) and injective (functional)
      exact le_of_total_injective n m (fun v u => phpRel n α u v) (h4 ho)
        (fun u a b v c d v' c' d' e e' => h3 hf u a b v c d v' c' d' e e')
    · intro hm
      by_contra hn
      obtain ⟨u, a, b, _⟩ := h4 ho 1 (by omega) (by omega)
      omega
  · rintro ⟨hmn, ho⟩
    cases o
    · -- pigeon u in hole u
      refine ⟨_, (php_bijection m n f false).2.1 (fun i j => decide (i.val = j.val)) ⟨?_, ?_, ?_, nofun⟩⟩
      · intro i; exact ⟨⟨i.val, by omega⟩, by simp⟩
      · intro j i i' e e'; simp only [decide_eq_true_eq] at e e'; exact Fin.ext (by omega)
      · intro _ i j j' e e'; simp only [decide_eq_true_eq] at e e'; exact Fin.ext (by omega)
    · -- hole v takes pigeon min v m
      have ho := ho rfl
      refine ⟨_, (php_bijection m n f true).2.1 (fun i j => decide (i.val = min j.val (m - 1))) ⟨?_, ?_, ?_, ?_⟩⟩
      · intro i; exact ⟨⟨i.val, by omega⟩, decide_eq_true (by simp only []; omega)⟩
      · intro j i i' e e'; simp only [decide_eq_true_eq] at e e'; exact Fin.ext (by omega)
      · intro hf i j j' e e'
        have := ho.1 hf
        simp only [decide_eq_true_eq] at e e'; exact Fin.ext (by omega)
      · intro _ j
        have := j.isLt
        exact ⟨⟨min j.val (m - 1), by omega⟩, decide_eq_true rfl⟩

/-- "the pigeonhole principle is unsatisfiable if and only if there are more pigeons than holes" -/
theorem php_unsat_iff (m n : Nat) (f : Bool) :
    (¬ ∃ α, (phpF m n f false).holds α = true) ↔ n < m := by
  rw [php_sat_iff]; simp [PHPSatisfiable]

/-- the same for the rendered CNF and OPB formulas -/
theorem php_cnf_unsat_iff (m n : Nat) (f : Bool) :
    (¬ ∃ α, (phpF m n f false).toCNF.holds α = true) ↔ n < m := by
  rw [← php_unsat_iff m n f]; simp only [Formula.toCNF_holds _ _ (php_wf m n f false)]

theorem php_opb_unsat_iff (m n : Nat) (f : Bool) :
    (¬ ∃ α, (phpF m n f false).toOPB.holds α = true) ↔ n < m := by
  rw [← php_unsat_iff m n f]; simp only [Formula.toOPB_holds _ _ (php_wf m n f false)]

/-- matching (functional + onto) is satisfiable iff `m = n` -/
theorem php_matching_sat_iff (m n : Nat) :
    (∃ α, (phpF m n true true).holds α = true) ↔ m = n := by
  rw [php_sat_iff]; unfold PHPSatisfiable; constructor
  · intro h; have h2 := h.2 rfl; have := h2.1 rfl; omega
  · intro h; subst h; simp

/-! ### functional placements are injections, matchings are bijections -/

/-- the 0/1 matrix of a function -/
def graphOf {m n : Nat} (g : Fin m → Fin n) : Fin m → Fin n → Bool := fun i j => decide (g i = j)

theorem graphOf_injective {m n : Nat} : Function.Injective (graphOf (m := m) (n := n)) := by
  intro g g' h
  funext i
  have := congrFun (congrFun h i) (g i)
  simp only [graphOf, decide_true] at this
  exact (of_decide_eq_true this.symm).symm

/-- functional PHP: the objects are the injections `[m] → [n]`; matching: the bijections -/
theorem placement_graphOf_iff {m n : Nat} (o : Bool) (g : Fin m → Fin n) :
    Placement m n true o (graphOf g) ↔
      Function.Injective g ∧ (o = true → Function.Surjective g) := by
  constructor
  · rintro ⟨_, h2, _, h4⟩
    refine ⟨fun i i' e => h2 (g i) i i' (by simp [graphOf]) (by simp [graphOf, e]), ?_⟩
    intro ho j
    obtain ⟨i, hi⟩ := h4 ho j
    exact ⟨i, by simpa [graphOf] using hi⟩
  · rintro ⟨hinj, hsur⟩
    refine ⟨fun i => ⟨g i, by simp [graphOf]⟩, ?_, ?_, ?_⟩
    · intro j i i' e e'
      simp only [graphOf, decide_eq_true_eq] at e e'
      exact hinj (e.trans e'.symm)
    · intro _ i j j' e e'
      simp only [graphOf, decide_eq_true_eq] at e e'
      exact e.symm.trans e'
    · intro ho j
      obtain ⟨i, hi⟩ := hsur ho j
      exact ⟨i, by simp [graphOf, hi]⟩

/-- every functional placement is the matrix of exactly one function -/
theorem placement_functional_unique {m n : Nat} (o : Bool) (R : Fin m → Fin n → Bool)
    (h : Placement m n true o R) : ∃ g : Fin m → Fin n, R = graphOf g ∧ ∀ g', R = graphOf g' → g' = g := by
  have hex : ∀ i, ∃ j, R i j = true := h.total
  refine ⟨fun i => Classical.choose (hex i), ?_, ?_⟩
  · funext i j
    have hs := Classical.choose_spec (hex i)
    by_cases hj : R i j = true
    · have := h.func rfl i _ _ hs hj
      simp [graphOf, hj, this]
    · have hne : Classical.choose (hex i) ≠ j := fun e => hj (e ▸ hs)
      simp only [Bool.not_eq_true] at hj
      simp [graphOf, hj, hne]
  · intro g' hg'
    funext i
    have hs := Classical.choose_spec (hex i)
    have hs' : graphOf g' i (Classical.choose (hex i)) = true := by rw [← hg']; exact hs
    simp only [graphOf, decide_eq_true_eq] at hs'
    exact hs'

/-- Matching formula (functional + onto): the satisfying assignments on `1..m·n` are in
one-to-one correspondence with the bijections `[m] → [n]`; functional PHP: with the injections -/
theorem php_functional_bijection (m n : Nat) (o : Bool) :
    (∀ g : Fin m → Fin n, Function.Injective g → (o = true → Function.Surjective g) →
      (phpF m n true o).holds (extend (phpOfObj m n (graphOf g))) = true) ∧
    (∀ a, (phpF m n true o).holds (extend a) = true →
      ∃ g : Fin m → Fin n, Function.Injective g ∧ (o = true → Function.Surjective g) ∧
        a = phpOfObj m n (graphOf g) ∧ ∀ g', a = phpOfObj m n (graphOf g') → g' = g) := by
  refine ⟨?_, ?_⟩
  · intro g hi hs
    rw [php_holds_iff_placement, php_toObj_ofObj]
    exact (placement_graphOf_iff o g).2 ⟨hi, hs⟩
  · intro a ha
    have hp := (php_holds_iff_placement m n true o a).1 ha
    obtain ⟨g, hg, huniq⟩ := placement_functional_unique o _ hp
    have hpg := (placement_graphOf_iff o g).1 (hg ▸ hp)
    refine ⟨g, hpg.1, hpg.2, ?_, ?_⟩
    · rw [← hg, php_ofObj_toObj]
    · intro g' hg'
      apply huniq
      rw [hg', php_toObj_ofObj]

example : Placement 2 2 true true (graphOf (fun i : Fin 2 => i)) :=
  (placement_graphOf_iff true _).2 ⟨fun _ _ h => h, fun _ j => ⟨j, rfl⟩⟩

end Cnfgen.C01
