/-
C01 — family generators as TRANSLATED from cnfgen/families/*.py (`Generated/Funcs.lean`, regenerated from the source on
every run): a generator is a procedure on the formula object (`Core/PyFormula.lean`: number of variables + abstract
constraints in order) that calls the translated `VariablesManager` procedures, which call the translated group classes.
The state it returns is the hand-written family model, so the theorems of `Props/C01/*.lean` (and C08, C10) speak about
what the source does.
-/
import Lemmas.GenFamRphp
import Props.C01.Php
import Props.C01.Bphp
import Props.C01.Gphp
set_option linter.unusedSimpArgs false
namespace Cnfgen.C01
open Cnfgen Cnfgen.Vars Cnfgen.PyGen Cnfgen.GenVars Cnfgen.Fam Cnfgen.PyF Cnfgen.GenFam

/-- the state of the formula object that a model `Formula` stands for -/
def stateOf (F : Formula) : FState := ⟨F.nvars, F.cons⟩

theorem gen_non_negative_int_eq (v : Int) (name : String) :
    non_negative_int v name = if v < 0 then Except.error Err.valueError else Except.ok () := by
  simp [non_negative_int]

theorem non_negative_int_ok {v : Int} (h : ¬ v < 0) (name : String) : non_negative_int v name = Except.ok () := by
  rw [gen_non_negative_int_eq, if_neg h]

theorem non_negative_int_error {v : Int} (h : v < 0) (name : String) :
    non_negative_int v name = Except.error Err.valueError := by
  rw [gen_non_negative_int_eq, if_pos h]

/-- the common tail of `PigeonholePrinciple` and `GraphPigeonholePrinciple`: the four `force_*_mapping` calls on the
mapping just created on the empty formula add the constraints of `gphp` -/
theorem force_mappings_eq {G : BipG} (h : G.WF) (functional onto : Bool) :
    (VariablesManager.force_complete_mapping_unary ⟨((0 + G.numberOfEdges : Nat) : Int), []⟩ (unarySelf 0 G) >>= fun F1 =>
     (if onto = true then
        VariablesManager.force_surjective_mapping_unary F1 (unarySelf 0 G) >>= fun F2 => Except.ok F2
      else Except.ok F1) >>= fun F =>
     VariablesManager.force_injective_mapping_unary F (unarySelf 0 G) >>= fun F3 =>
     (if functional = true then
        VariablesManager.force_functional_mapping_unary F3 (unarySelf 0 G) >>= fun F4 => Except.ok F4
      else Except.ok F3) >>= fun F => Except.ok F) = Except.ok (stateOf (gphp G functional onto)) := by
  rw [force_complete_unary_eq _ 0 h, Py.ok_bind]
  cases onto <;> cases functional <;>
    simp [force_surjective_unary_eq _ 0 h, force_injective_unary_eq _ 0 h, force_functional_unary_eq _ 0 h,
      gphp, stateOf]

theorem gen_php_nat (m n : Nat) (functional onto : Bool) :
    PigeonholePrinciple m n functional onto = Except.ok (stateOf (phpF m n functional onto)) := by
  unfold PigeonholePrinciple
  refine bind_of_ok (non_negative_int_ok (by omega) _) (bind_of_ok (non_negative_int_ok (by omega) _) ?_)
  rw [phpF_eq_gphp_complete]
  refine bind_of_ok ((new_mapping_nat PyF.empty 0 rfl m n).trans (by rw [← BipG.numberOfEdges_complete m n])) ?_
  exact force_mappings_eq (BipG.wf_complete m n) functional onto

/-- **`PigeonholePrinciple` of the source is `Fam.php` of the model**: every argument tuple (negative sizes included),
all four flag combinations — the same ValueError or the same number of variables and the same constraints in order -/
theorem gen_php_eq_model (pigeons holes : Int) (functional onto : Bool) :
    PigeonholePrinciple pigeons holes functional onto = (Fam.php pigeons holes functional onto).map stateOf := by
  unfold Fam.php
  by_cases hneg : pigeons < 0 ∨ holes < 0
  · rw [if_pos hneg]
    unfold PigeonholePrinciple
    by_cases hp : pigeons < 0
    · exact bind_of_error (non_negative_int_error hp _)
    · exact bind_of_ok (non_negative_int_ok hp _) (bind_of_error (non_negative_int_error (by omega) _))
  · rw [if_neg hneg]
    obtain ⟨m, rfl⟩ := Int.eq_ofNat_of_zero_le (by omega : 0 ≤ pigeons)
    obtain ⟨n, rfl⟩ := Int.eq_ofNat_of_zero_le (by omega : 0 ≤ holes)
    exact gen_php_nat m n functional onto

/-- the formula a state of the formula object stands for -/
def formulaOf (s : FState) : Formula := ⟨s.numvar.toNat, s.cons⟩

theorem formulaOf_stateOf (F : Formula) : formulaOf (stateOf F) = F := by
  cases F; simp [formulaOf, stateOf]

theorem sat_iff_stateOf {F : Formula} (hwf : F.WF) {P : Prop} (h : (∃ α, F.holds α = true) ↔ P) :
    ((∃ α, (formulaOf (stateOf F)).holds α = true) ↔ P) ∧
      ((∃ α, (formulaOf (stateOf F)).toCNF.holds α = true) ↔ P) ∧
      ((∃ α, (formulaOf (stateOf F)).toOPB.holds α = true) ↔ P) := by
  rw [formulaOf_stateOf, ← h]
  simp only [Formula.toCNF_holds _ _ hwf, Formula.toOPB_holds _ _ hwf, and_self]

/-- **the pigeonhole principle of the source is unsatisfiable exactly when there are more pigeons than holes** — stated
on the generated definition: for all sizes and with or without the functional axioms, the translated generator
succeeds, declares `m·n` variables, and the formula it built (as abstract constraints, as the CNF the class `CNF`
renders, as the OPB the class `OPB` renders) has no satisfying assignment iff `n < m` -/
theorem gen_php_unsat_iff (m n : Nat) (f : Bool) :
    ∃ s : FState, PigeonholePrinciple (m : Int) (n : Int) f false = Except.ok s ∧ s.numvar = ((m * n : Nat) : Int) ∧
      ((¬ ∃ α, (formulaOf s).holds α = true) ↔ n < m) ∧
      ((¬ ∃ α, (formulaOf s).toCNF.holds α = true) ↔ n < m) ∧
      ((¬ ∃ α, (formulaOf s).toOPB.holds α = true) ↔ n < m) := by
  refine ⟨stateOf (phpF m n f false), ?_, rfl, ?_, ?_, ?_⟩
  · exact gen_php_nat m n f false
  · rw [formulaOf_stateOf]; exact php_unsat_iff m n f
  · rw [formulaOf_stateOf]; exact php_cnf_unsat_iff m n f
  · rw [formulaOf_stateOf, ← php_unsat_iff m n f]
    simp only [Formula.toOPB_holds _ _ (php_wf m n f false)]

/-- non-vacuity: `PigeonholePrinciple(2, 1)`: 2 variables, two unit clauses and one "at most one" -/
example : PigeonholePrinciple 2 1 false false =
    Except.ok ⟨2, [.clause [1], .clause [2], .lin [1, 2] .le 1]⟩ := by rw [gen_php_eq_model]; rfl

/-- **`GraphPigeonholePrinciple` of the source is `Fam.gphp` of the model**, for every well-formed bipartite graph
object (what `BipartiteGraph` maintains: C16) and all four flag combinations -/
theorem gen_gphp_eq_model {G : BipG} (h : G.WF) (functional onto : Bool) :
    GraphPigeonholePrinciple (absBip G) functional onto = Except.ok (stateOf (gphp G functional onto)) := by
  unfold GraphPigeonholePrinciple
  exact bind_of_ok (new_sparse_mapping_eq PyF.empty 0 rfl h _) (force_mappings_eq h functional onto)

/-- **the graph pigeonhole principle of the source is satisfiable exactly when the graph has a matching that covers the
pigeons**, on the generated definition, for every bipartite graph object built by `add_edge` -/
theorem gen_gphp_sat_iff_matching (l r : Nat) (es : List (Nat × Nat)) (B : BipG) (h : BipG.ofEdges l r es = .ok B)
    (f : Bool) :
    ∃ s : FState, GraphPigeonholePrinciple (absBip B) f false = Except.ok s ∧
      s.numvar = ((B.numberOfEdges : Nat) : Int) ∧
      ((∃ α, (formulaOf s).holds α = true) ↔
        ∃ g : Nat → Nat, (∀ u, 1 ≤ u → u ≤ B.l → g u ∈ B.rnbrs u) ∧
          (∀ u, 1 ≤ u → u ≤ B.l → ∀ u', 1 ≤ u' → u' ≤ B.l → g u = g u' → u = u')) := by
  refine ⟨stateOf (gphp B f false), gen_gphp_eq_model (BipG.wf_ofEdges h).1 f false, rfl, ?_⟩
  rw [formulaOf_stateOf]
  exact gphp_sat_iff_matching B (goodBip_ofEdges l r es B h) f

theorem gen_bphp_ok {pigeons holes : Int} (hneg : ¬ (pigeons < 0 ∨ holes < 0)) :
    BinaryPigeonholePrinciple pigeons holes = Except.ok (stateOf (bphpF pigeons.toNat holes.toNat)) := by
  unfold BinaryPigeonholePrinciple
  refine bind_of_ok (non_negative_int_ok (by omega) _) (bind_of_ok (non_negative_int_ok (by omega) _) ?_)
  refine bind_of_ok ((new_binary_mapping_eq PyF.empty 0 rfl _ _).trans (if_neg hneg)) ?_
  refine bind_of_ok (force_complete_binary_eq _ _ _ _) (bind_of_ok (force_injective_binary_eq _ _ _ _) ?_)
  simp [stateOf, bphpF, PyF.empty]

/-- **`BinaryPigeonholePrinciple` of the source is `Fam.bphp` of the model**: `new_binary_mapping`, then
`force_complete_mapping` (the bit strings `holes … 2^bits - 1` are forbidden for every pigeon) and
`force_injective_mapping` (two pigeons never spell the same hole), through the translated `forbid` -/
theorem gen_bphp_eq_model (pigeons holes : Int) :
    BinaryPigeonholePrinciple pigeons holes = (Fam.bphp pigeons holes).map stateOf := by
  unfold Fam.bphp
  by_cases hneg : pigeons < 0 ∨ holes < 0
  · rw [if_pos hneg]
    unfold BinaryPigeonholePrinciple
    by_cases hp : pigeons < 0
    · exact bind_of_error (non_negative_int_error hp _)
    · exact bind_of_ok (non_negative_int_ok hp _) (bind_of_error (non_negative_int_error (by omega) _))
  · rw [if_neg hneg]
    exact gen_bphp_ok hneg

/-- **binary PHP of the source is satisfiable exactly when the pigeons fit**, on the generated definition, for the
abstract constraints and both renderings -/
theorem gen_bphp_sat_iff (m n : Nat) :
    ∃ s : FState, BinaryPigeonholePrinciple (m : Int) (n : Int) = Except.ok s ∧
      s.numvar = ((m * clog2 n : Nat) : Int) ∧
      ((∃ α, (formulaOf s).holds α = true) ↔ m ≤ n) ∧
      ((∃ α, (formulaOf s).toCNF.holds α = true) ↔ m ≤ n) ∧
      ((∃ α, (formulaOf s).toOPB.holds α = true) ↔ m ≤ n) := by
  exact ⟨stateOf (bphpF m n), gen_bphp_ok (by omega), rfl, sat_iff_stateOf (bphp_wf m n) (bphp_sat_iff m n)⟩

end Cnfgen.C01
