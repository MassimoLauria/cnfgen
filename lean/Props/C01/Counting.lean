/-
C01 — CountingPrinciple(M, p): the satisfying assignments are the partitions of [M] into
p-element parts; satisfiable iff p divides M.
-/
import Lemmas.C01Counting
import Mathlib.Data.List.Nodup
import Props.C01.Php
namespace Cnfgen.C01
open Cnfgen Cnfgen.Fam

/-- `S` is a `p`-subset of `[1..M]`, written as its increasing list (an index of `new_combinations(M, p)`) -/
def IsSubset (M p : Nat) (S : List Nat) : Prop :=
  S.Pairwise (· < ·) ∧ S.length = p ∧ ∀ x ∈ S, 1 ≤ x ∧ x ≤ M

/-- the variable `X(S)`: position of `S` in `combinations(range(1, M+1), p)`, 1-based -/
def countVar (M p : Nat) (S : List Nat) : Nat := 1 + (Vars.combosSeqs M p).idxOf S

/-- the indices of `new_combinations(M, p)` are exactly the `p`-subsets -/
theorem mem_combosSeqs_iff (M p : Nat) (S : List Nat) : S ∈ Vars.combosSeqs M p ↔ IsSubset M p S :=
  Fam.mem_combosSeqs M p S

/-- the documented statement about a family of chosen parts: every element of the domain is in
exactly one chosen part (so the chosen parts partition `[M]` into sets of size `p`) -/
def CountSpec (M p : Nat) (chosen : List Nat → Prop) : Prop :=
  ∀ x, 1 ≤ x → x ≤ M →
    ∃ S, IsSubset M p S ∧ x ∈ S ∧ chosen S ∧ ∀ S', IsSubset M p S' → x ∈ S' → chosen S' → S' = S

/-- T-C01.4: for all `M`, `p` and assignments -/
theorem counting_spec (M p : Nat) (α : Assign) :
    (countingF M p).holds α = true ↔ CountSpec M p (fun S => α (countVar M p S) = true) := by
  simp only [countingF, Formula.holds_mk, List.all_map, List.all_eq_true, mem_idx, Function.comp, Con.holds,
    Op.denote, decide_eq_true_eq, CountSpec, and_imp]
  refine forall₃_congr fun x h1 h2 => ?_
  rw [count_countingStar]
  refine Iff.trans ?_ ((countP_eq_one_iff_unique _ (fun S => α (Fam.countVar M p S) && S.contains x)
    (nodup_combosSeqs M p)).trans ?_)
  · omega
  · simp only [mem_combosSeqs_iff, Bool.and_eq_true, List.contains_iff_mem]
    exact ⟨fun ⟨S, hS, ⟨a, b⟩, h⟩ => ⟨S, hS, b, a, fun S' hS' hx' ha' => h S' hS' ⟨ha', hx'⟩⟩,
      fun ⟨S, hS, b, a, h⟩ => ⟨S, hS, ⟨a, b⟩, fun S' hS' ha' => h S' hS' ha'.2 ha'.1⟩⟩

/-- every partition into `p`-sets is described by an assignment; the canonical one for `p ∣ M`:
the blocks `{1..p}, {p+1..2p}, …` -/
theorem counting_blocks (M p : Nat) (hd : p ∣ M) :
    CountSpec M p (fun S => isBlock M p S = true) := by
  intro x h1 h2
  obtain ⟨q, rfl⟩ := hd
  have hp : 0 < p := by
    rcases Nat.eq_zero_or_pos p with h | h
    · subst h; simp at h2; omega
    · exact h
  have hdm := Nat.div_add_mod (x - 1) p
  have hm := Nat.mod_lt (x - 1) hp
  have hq : p * q / p = q := Nat.mul_div_cancel_left q hp
  have hb : (x - 1) / p < p * q / p := by
    rw [hq, Nat.div_lt_iff_lt_mul hp, Nat.mul_comm]; omega
  have hcomm : (x - 1) / p * p = p * ((x - 1) / p) := Nat.mul_comm _ _
  refine ⟨block p ((x - 1) / p), block_isSubset _ _ _ hb, ?_, ?_, ?_⟩
  · rw [mem_block]; omega
  · exact (isBlock_iff _ _ _).2 ⟨_, hb, rfl⟩
  · intro S' _ hx' hc'
    obtain ⟨b', _, rfl⟩ := (isBlock_iff _ _ _).1 hc'
    rw [mem_block] at hx'
    have : (x - 1) / p = b' := by
      apply Nat.div_eq_of_lt_le
      · omega
      · rw [Nat.add_mul, Nat.one_mul]; omega
    rw [this]

example : CountSpec 4 2 (fun S => S = [1, 3] ∨ S = [2, 4]) := by
  have h13 : IsSubset 4 2 [1, 3] := ⟨by simp, rfl, by simp⟩
  have h24 : IsSubset 4 2 [2, 4] := ⟨by simp, rfl, by simp⟩
  intro x h1 h2
  have hx : x = 1 ∨ x = 2 ∨ x = 3 ∨ x = 4 := by omega
  rcases hx with rfl | rfl | rfl | rfl
  · exact ⟨[1, 3], h13, by decide, Or.inl rfl, by rintro S' _ hx (rfl | rfl) <;> first | rfl | exact absurd hx (by decide)⟩
  · exact ⟨[2, 4], h24, by decide, Or.inr rfl, by rintro S' _ hx (rfl | rfl) <;> first | rfl | exact absurd hx (by decide)⟩
  · exact ⟨[1, 3], h13, by decide, Or.inl rfl, by rintro S' _ hx (rfl | rfl) <;> first | rfl | exact absurd hx (by decide)⟩
  · exact ⟨[2, 4], h24, by decide, Or.inr rfl, by rintro S' _ hx (rfl | rfl) <;> first | rfl | exact absurd hx (by decide)⟩

theorem counting_wf (M p : Nat) : (countingF M p).WF :=
  G2.wf_of_consIn (.map fun x _ => countingStar_in M p x)

/-- documented variable count: one variable per `p`-subset of `[M]` -/
theorem counting_nvars (M p : Nat) : (countingF M p).nvars = Nat.choose M p :=
  length_combosSeqs M p

theorem counting_validation (M p : Int) :
    counting M p = if M < 0 then .error .valueError else if p < 1 then .error .valueError
      else .ok (countingF M.toNat p.toNat) := rfl

theorem counting_cnf_spec (M p : Nat) (α : Assign) :
    (countingF M p).toCNF.holds α = true ↔ CountSpec M p (fun S => α (countVar M p S) = true) := by
  rw [Formula.toCNF_holds α _ (counting_wf M p)]; exact counting_spec M p α

theorem counting_opb_spec (M p : Nat) (α : Assign) :
    (countingF M p).toOPB.holds α = true ↔ CountSpec M p (fun S => α (countVar M p S) = true) := by
  rw [Formula.toOPB_holds α _ (counting_wf M p)]; exact counting_spec M p α

/-! ### counting principle: assignments ↔ partitions into `p`-sets -/

/-- the `p`-subsets of `[1..M]` -/
abbrev PSubset (M p : Nat) := {S : List Nat // IsSubset M p S}

/-- `T` (a family of `p`-subsets, as an indicator) partitions `[1..M]`: every element lies in
exactly one member of the family -/
def IsPartition (M p : Nat) (T : PSubset M p → Bool) : Prop :=
  ∀ x, 1 ≤ x → x ≤ M →
    ∃ S : PSubset M p, x ∈ S.1 ∧ T S = true ∧ ∀ S' : PSubset M p, x ∈ S'.1 → T S' = true → S' = S

theorem psubset_idx_lt {M p : Nat} (S : PSubset M p) :
    (Vars.combosSeqs M p).idxOf S.1 < (countingF M p).nvars :=
  List.idxOf_lt_length_iff.2 ((mem_combosSeqs_iff M p S.1).2 S.2)

/-- the family described by an assignment: `S` is chosen iff `X(S)` is true -/
def countToObj (M p : Nat) (a : Fin (countingF M p).nvars → Bool) : PSubset M p → Bool :=
  fun S => a ⟨(Vars.combosSeqs M p).idxOf S.1, psubset_idx_lt S⟩

/-- the assignment describing a family -/
def countOfObj (M p : Nat) (T : PSubset M p → Bool) : Fin (countingF M p).nvars → Bool :=
  fun i => T ⟨(Vars.combosSeqs M p)[i.val]'i.isLt,
    (mem_combosSeqs_iff M p _).1 (List.getElem_mem i.isLt)⟩

theorem count_ofObj_toObj (M p : Nat) (a : Fin (countingF M p).nvars → Bool) :
    countOfObj M p (countToObj M p a) = a := by
  funext i
  simp only [countOfObj, countToObj]
  congr 1
  apply Fin.ext
  exact (nodup_combosSeqs M p).idxOf_getElem i.val i.isLt

theorem count_toObj_ofObj (M p : Nat) (T : PSubset M p → Bool) :
    countToObj M p (countOfObj M p T) = T := by
  funext S
  simp only [countOfObj, countToObj]
  congr 1
  apply Subtype.ext
  exact List.getElem_idxOf _

/-- the satisfying assignments (restricted to the `C(M,p)` variables) are exactly those that
describe a partition of `[M]` into `p`-sets; with the two inverse laws above this is the bijection
"satisfying assignments ↔ partitions" -/
theorem counting_holds_iff_partition (M p : Nat) (a : Fin (countingF M p).nvars → Bool) :
    (countingF M p).holds (extend a) = true ↔ IsPartition M p (countToObj M p a) := by
  rw [counting_spec]
  have key : ∀ S : PSubset M p, extend a (countVar M p S.1) = countToObj M p a S := by
    intro S
    have hlt := psubset_idx_lt S
    simp only [countVar, countToObj]
    rw [show extend a (1 + (Vars.combosSeqs M p).idxOf S.1)
        = a ⟨1 + (Vars.combosSeqs M p).idxOf S.1 - 1, by omega⟩ from
      Fam.extend_apply a (by omega) (by omega)]
    congr 1; apply Fin.ext; simp
  simp only [CountSpec, IsPartition, Subtype.exists, Subtype.forall, ← key, Subtype.mk.injEq, exists_prop]

theorem counting_bijection (M p : Nat) :
    (∀ a, (countingF M p).holds (extend a) = true → IsPartition M p (countToObj M p a)) ∧
    (∀ T, IsPartition M p T → (countingF M p).holds (extend (countOfObj M p T)) = true) ∧
    (∀ a, countOfObj M p (countToObj M p a) = a) ∧ (∀ T, countToObj M p (countOfObj M p T) = T) :=
  bijection_of_inverse (count_ofObj_toObj M p) (count_toObj_ofObj M p) (counting_holds_iff_partition M p)

/-- T-C01.4 corollary: the counting principle is satisfiable exactly when `p` divides `M`
(`→` by double counting `p · #parts = M`, `←` by the block partition) -/
theorem counting_sat_iff (M p : Nat) : (∃ α, (countingF M p).holds α = true) ↔ p ∣ M := by
  constructor
  · rintro ⟨α, hα⟩
    simp only [countingF, Formula.holds_mk, List.all_map, List.all_eq_true, mem_idx, Function.comp,
      Con.holds, Op.denote, decide_eq_true_eq] at hα
    have := counting_double_count M p α (fun x h1 h2 => by have := hα x ⟨h1, h2⟩; omega)
    exact ⟨_, this⟩
  · intro hd
    refine ⟨_, (counting_bijection M p).2.1 (fun S => isBlock M p S.1) ?_⟩
    intro x h1 h2
    obtain ⟨S, hS, hx, hc, hu⟩ := counting_blocks M p hd x h1 h2
    exact ⟨⟨S, hS⟩, hx, hc, fun S' hx' hc' => Subtype.ext (hu S'.1 S'.2 hx' hc')⟩

end Cnfgen.C01
