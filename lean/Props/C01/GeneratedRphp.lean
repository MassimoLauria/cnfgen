/-
C01 — `RelativizedPigeonholePrinciple` as TRANSLATED from cnfgen/families/pigeonhole.py is `Fam.rphp` of the model:
two complete mappings and a block created one after the other, five loops adding clauses with `check=True`
(the checks pass and leave the variable count alone because the formula is well formed: `rphp_wf`).
-/
import Lemmas.GenFamRphp
import Props.C01.Rphp
import Props.C01.Generated
set_option linter.unusedSimpArgs false
namespace Cnfgen.C01
open Cnfgen Cnfgen.Vars Cnfgen.PyGen Cnfgen.GenVars Cnfgen.Fam Cnfgen.PyF Cnfgen.GenFam Cnfgen.C11

theorem gen_rphp_nat (m r n : Nat) :
    RelativizedPigeonholePrinciple m r n = Except.ok (stateOf (rphpF m r n)) := by
  unfold RelativizedPigeonholePrinciple
  refine bind_of_ok (non_negative_int_ok (by omega) _) (bind_of_ok (non_negative_int_ok (by omega) _)
    (bind_of_ok (non_negative_int_ok (by omega) _) ?_))
  refine bind_of_ok ((new_mapping_nat PyF.empty 0 rfl m r).trans (by rw [Nat.zero_add])) ?_
  refine bind_of_ok (new_mapping_nat _ (m * r) rfl r n) ?_
  -- `r` is only created (and only used) when there is a resting place
  refine bind_of_ok (a := (⟨((m * r + r * n + r : Nat) : Int), []⟩,
    if 0 < r then some (blockSelf (m * r + r * n) [r]) else none)) ?_ ?_
  · by_cases hr : 0 < r
    · rw [if_pos (by omega), if_pos (by simp), new_block_one_eq _ _ rfl r, if_pos hr]; rfl
    · have : r = 0 := by omega
      subst this
      rw [if_neg (by omega), if_neg hr]; rfl
  -- the right side becomes the model's groups of constraints in order; each loop below is read against the next group
  refine addAll_wf (rphp_wf m r n) rfl ?_
  simp only [rphpF, List.append_assoc]
  refine bind_of_ok (unary_domain_complete 0 m r) ?_
  -- (3.1a) … (3.1e): the labels the source gives its five loops
  refine addAll_bind (foldlM_adds_map Int.ofNat _ _ _ ?_ _) fun F => ?_
  · intro s a ha
    have ha' := mem_idx.1 ha
    simp only [Int.ofNat_eq_natCast, unary_call_row 0 (BipG.wf_complete m r) a ha', Py.ok_bind,
      smap_row_complete (0 + 1) m r a ha', Nat.zero_add]
    rfl
  -- (3.1b)
  refine bind_of_ok (unary_range_complete 0 m r) ?_
  refine addAll_bind (foldlM_adds_map Int.ofNat _ _ _ ?_ _) fun F => ?_
  · intro s a ha
    have ha' := mem_idx.1 ha
    simp only [Int.ofNat_eq_natCast, unary_call_col 0 (BipG.wf_complete m r) a ha', Py.ok_bind,
      smap_col_complete (0 + 1) m r a ha', Nat.zero_add]
    rfl
  -- (3.1c)
  have hstart : m * r + r * n + 1 = 1 + m * r + r * n := by omega
  refine bind_of_ok (unary_range_complete 0 m r) ?_
  refine bind_of_ok (unary_domain_complete 0 m r) ?_
  rw [Py.product2_map]
  refine addAll_bind (foldlM_adds_product2 _ _ _ _ _ ?_ _) fun F => ?_
  · intro s v u hv hu
    have hv' := mem_idx.1 hv
    have hu' := mem_idx.1 hu
    simp only [Int.ofNat_eq_natCast, unary_call_pair_complete 0 m r u v hu' hv', Py.ok_bind,
      if_pos (show 0 < r by omega), Py.bound,
      block_call_one (m * r + r * n) r v hv', Nat.zero_add, hstart]
    rfl
  -- (3.1d)
  refine bind_of_ok (unary_domain_complete (m * r) r n) ?_
  refine addAll_bind (foldlM_adds_map Int.ofNat _ _ _ ?_ _) fun F => ?_
  · intro s v hv
    have hv' := mem_idx.1 hv
    have hq : m * r + 1 = 1 + m * r := by omega
    simp only [Int.ofNat_eq_natCast, if_pos (show 0 < r by omega), Py.bound,
      block_call_one (m * r + r * n) r v hv', Py.ok_bind,
      unary_call_row (m * r) (BipG.wf_complete r n) v hv',
      smap_row_complete (1 + m * r) r n v hv', Nat.zero_add, hstart, hq, List.singleton_append]
    rfl
  -- (3.1e)
  refine bind_of_ok (unary_range_complete (m * r) r n) ?_
  refine bind_of_ok (unary_domain_complete (m * r) r n) ?_
  rw [combos2_eq_pairs, ints, pairs_map, Py.product2_map]
  refine addAll_last (foldlM_adds_product2 _ _ _ _ _ ?_ _)
  rintro s w ⟨v1, v2⟩ hw hv
  have hw' := mem_idx.1 hw
  have hvv := mem_pairs_idx.1 hv
  have h1 : 1 ≤ v1 ∧ v1 ≤ r := by omega
  have h2 : 1 ≤ v2 ∧ v2 ≤ r := by omega
  have hq : m * r + 1 = 1 + m * r := by omega
  simp only [Int.ofNat_eq_natCast, if_pos (show 0 < r by omega), Py.bound,
    block_call_one (m * r + r * n) r v1 h1,
    block_call_one (m * r + r * n) r v2 h2, Py.ok_bind,
    unary_call_pair_complete (m * r) r n v1 w h1 hw', unary_call_pair_complete (m * r) r n v2 w h2 hw',
    Nat.zero_add, hstart, hq]
  rfl

theorem gen_rphp_eq_model (pigeons resting holes : Int) :
    RelativizedPigeonholePrinciple pigeons resting holes = (Fam.rphp pigeons resting holes).map stateOf := by
  unfold Fam.rphp
  by_cases hneg : pigeons < 0 ∨ resting < 0 ∨ holes < 0
  · rw [if_pos hneg]
    unfold RelativizedPigeonholePrinciple
    by_cases hp : pigeons < 0
    · exact bind_of_error (non_negative_int_error hp _)
    refine bind_of_ok (non_negative_int_ok hp _) ?_
    by_cases hr : resting < 0
    · exact bind_of_error (non_negative_int_error hr _)
    · exact bind_of_ok (non_negative_int_ok hr _) (bind_of_error (non_negative_int_error (by omega) _))
  · rw [if_neg hneg]
    obtain ⟨m, rfl⟩ := Int.eq_ofNat_of_zero_le (by omega : 0 ≤ pigeons)
    obtain ⟨r, rfl⟩ := Int.eq_ofNat_of_zero_le (by omega : 0 ≤ resting)
    obtain ⟨n, rfl⟩ := Int.eq_ofNat_of_zero_le (by omega : 0 ≤ holes)
    exact gen_rphp_nat m r n

/-- **the relativized pigeonhole principle of the source is satisfiable exactly when `m ≤ r` and `m ≤ n`**, on the
generated definition, for the abstract constraints and both renderings -/
theorem gen_rphp_sat_iff (m r n : Nat) :
    ∃ s : FState, RelativizedPigeonholePrinciple (m : Int) (r : Int) (n : Int) = Except.ok s ∧
      s.numvar = ((m * r + r * n + r : Nat) : Int) ∧
      ((∃ α, (formulaOf s).holds α = true) ↔ m ≤ r ∧ m ≤ n) ∧
      ((∃ α, (formulaOf s).toCNF.holds α = true) ↔ m ≤ r ∧ m ≤ n) ∧
      ((∃ α, (formulaOf s).toOPB.holds α = true) ↔ m ≤ r ∧ m ≤ n) := by
  exact ⟨stateOf (rphpF m r n), gen_rphp_nat m r n, rfl, sat_iff_stateOf (rphp_wf m r n) (rphp_sat_iff m r n)⟩

end Cnfgen.C01
