/-
C01 — RelativizedPigeonholePrinciple(pigeons, resting_places, holes): axioms 3.1a–e say what
they are documented to say; satisfiable iff `m ≤ r` and `m ≤ n`.
-/
import Lemmas.C01Rphp
import Lemmas.C01BijSum
import Props.C01.Php
import Lemmas.C01Bij
namespace Cnfgen.C01
open Cnfgen Cnfgen.Fam

/-- `p_{u,v}`: pigeon `u` rests at place `v` -/
def rphpP (r : Nat) (α : Assign) (u v : Nat) : Prop := α (Vars.mapId 1 r u v) = true
/-- `q_{v,w}`: the pigeon resting at `v` flies to hole `w` -/
def rphpQ (m r n : Nat) (α : Assign) (v w : Nat) : Prop := α (Vars.mapId (1 + m * r) n v w) = true
/-- `r_v`: resting place `v` is active -/
def rphpA (m r n : Nat) (α : Assign) (v : Nat) : Prop := α (1 + m * r + r * n + (v - 1)) = true

/-- the documented statement (axioms 3.1a–3.1e of [ALN16]) -/
structure RPHPSpec (m r n : Nat) (P : Nat → Nat → Prop) (A : Nat → Prop) (Q : Nat → Nat → Prop) : Prop where
  /-- 3.1a each pigeon rests somewhere -/
  rest : ∀ u, 1 ≤ u → u ≤ m → ∃ v, 1 ≤ v ∧ v ≤ r ∧ P u v
  /-- 3.1b no two pigeons rest in the same place -/
  noShare : ∀ v, 1 ≤ v → v ≤ r → ∀ u, 1 ≤ u → u ≤ m → ∀ u', 1 ≤ u' → u' ≤ m → P u v → P u' v → u = u'
  /-- 3.1c a place where a pigeon rests is active -/
  active : ∀ v, 1 ≤ v → v ≤ r → ∀ u, 1 ≤ u → u ≤ m → P u v → A v
  /-- 3.1d from an active place the pigeon flies to some hole -/
  leave : ∀ v, 1 ≤ v → v ≤ r → A v → ∃ w, 1 ≤ w ∧ w ≤ n ∧ Q v w
  /-- 3.1e two active places do not send to the same hole -/
  noClash : ∀ w, 1 ≤ w → w ≤ n → ∀ v₁ v₂, 1 ≤ v₁ → v₁ < v₂ → v₂ ≤ r →
    ¬ (A v₁ ∧ A v₂ ∧ Q v₁ w ∧ Q v₂ w)

/-- T-C01.3: for all sizes and assignments -/
theorem rphp_spec (m r n : Nat) (α : Assign) :
    (rphpF m r n).holds α = true ↔
      RPHPSpec m r n (rphpP r α) (rphpA m r n α) (rphpQ m r n α) := by
  have hp : 0 < (UMap.mk 1 m r).start := by simp
  have hq : 0 < (UMap.mk (1 + m * r) r n).start := by simp only []; omega
  have ha := UMap.forceComplete_holds (UMap.mk 1 m r) hp α
  have hb := UMap.forceInjective_holds (UMap.mk 1 m r) hp α
  simp only [UMap.forceComplete, UMap.forceInjective] at ha hb
  simp only [rphpF, Formula.holds_mk, List.all_append, Bool.and_eq_true, ha, hb]
  simp only [List.all_flatMap, List.all_map, List.all_eq_true, mem_idx, Function.comp, Con.holds,
    rphp_c_holds, rphp_d_holds α _ hq, rphp_e_holds, Prod.forall, mem_pairs_idx, and_imp]
  exact ⟨fun ⟨⟨⟨⟨h1, h2⟩, h3⟩, h4⟩, h5⟩ => ⟨h1, h2, h3, h4, h5⟩, fun ⟨h1, h2, h3, h4, h5⟩ => ⟨⟨⟨⟨h1, h2⟩, h3⟩, h4⟩, h5⟩⟩

example : RPHPSpec 1 2 1 (fun u v => u = 1 ∧ v = 2) (fun v => v = 2) (fun v w => v = 2 ∧ w = 1) :=
  ⟨fun u _ _ => ⟨2, by omega, by omega, by omega, rfl⟩, by intros; omega,
   by intro v _ _ u _ _ h; exact h.2, by intro v _ _ h; exact ⟨1, by omega, by omega, h, rfl⟩,
   by intro w _ _ v₁ v₂ _ _ _ h; omega⟩

theorem rphp_wf (m r n : Nat) : (rphpF m r n).WF := by
  have hq : 1 ≤ 1 + m * r := Nat.le_add_right ..
  have hNp : 1 + m * r ≤ (m * r + r * n + r) + 1 := by omega
  have hNq : 1 + m * r + r * n ≤ (m * r + r * n + r) + 1 := by omega
  have p := @UMap.lit_in ⟨1, m, r⟩ (Nat.le_refl 1) _ hNp
  have q := @UMap.lit_in ⟨1 + m * r, r, n⟩ hq _ hNq
  have a := @rphpR_in m r n
  refine G2.wf_of_consIn (lo := 1) ((((G2.ConsIn.append ?_ ?_).append ?_).append ?_).append ?_)
  · exact (G2.forceComplete_in m r (Nat.le_refl 1)).mono (Nat.le_refl 1) (Nat.sub_le_of_le_add hNp)
  · exact (G2.forceInjective_in m r (Nat.le_refl 1)).mono (Nat.le_refl 1) (Nat.sub_le_of_le_add hNp)
  · exact .flatMap fun v hv => .map fun u hu => .negLit (p hu hv) (List.forall_mem_singleton.2 (a hv))
  · exact .map fun v hv => .negLit (a hv)
      ((G2.mRow_in hq (mem_idx.1 hv).1 (mem_idx.1 hv).2).mono hq (Nat.sub_le_of_le_add hNq))
  · refine .flatMap fun w hw => .map fun v hv => ?_
    have v' := mem_pairs_mem _ _ _ hv
    exact .negLit (a v'.1) (.negLit (a v'.2) (.negLit (q v'.1 hw) (.negLit (q v'.2 hw) .nil)))

/-- documented variable count: `p` (m·r), `q` (r·n) and `r` (r) -/
theorem rphp_nvars (m r n : Nat) : (rphpF m r n).nvars = m * r + r * n + r := rfl

theorem rphp_validation (p t h : Int) :
    rphp p t h = if p < 0 ∨ t < 0 ∨ h < 0 then .error .valueError
      else .ok (rphpF p.toNat t.toNat h.toNat) := rfl

theorem rphp_cnf_spec (m r n : Nat) (α : Assign) :
    (rphpF m r n).toCNF.holds α = true ↔
      RPHPSpec m r n (rphpP r α) (rphpA m r n α) (rphpQ m r n α) := by
  rw [Formula.toCNF_holds α _ (rphp_wf m r n)]; exact rphp_spec m r n α

theorem rphp_opb_spec (m r n : Nat) (α : Assign) :
    (rphpF m r n).toOPB.holds α = true ↔
      RPHPSpec m r n (rphpP r α) (rphpA m r n α) (rphpQ m r n α) := by
  rw [Formula.toOPB_holds α _ (rphp_wf m r n)]; exact rphp_spec m r n α

/-! ## "by exactly one"

The satisfying assignments restricted to the variables `1..m·r+r·n+r` are in one-to-one correspondence with the
documented objects, the triples (resting relation `P ⊆ [m]×[r]`, set of active places `A ⊆ [r]`,
flying relation `Q ⊆ [r]×[n]`) satisfying axioms 3.1a–e.  For all `m r n` (zeros included).
-/

/-- the documented objects: pigeons rest (3.1a) at distinct places (3.1b), which are active
(3.1c); from every active place a pigeon flies to a hole (3.1d) and two active places never send
to the same hole (3.1e) -/
structure RelPlacement (m r n : Nat) (P : Fin m → Fin r → Bool) (A : Fin r → Bool)
    (Q : Fin r → Fin n → Bool) : Prop where
  /-- 3.1a each pigeon rests somewhere -/
  rest : ∀ u, ∃ v, P u v = true
  /-- 3.1b no two pigeons rest in the same place -/
  noShare : ∀ v u u', P u v = true → P u' v = true → u = u'
  /-- 3.1c a place where a pigeon rests is active -/
  active : ∀ v u, P u v = true → A v = true
  /-- 3.1d from an active place the pigeon flies to some hole -/
  leave : ∀ v, A v = true → ∃ w, Q v w = true
  /-- 3.1e two active places do not send to the same hole -/
  noClash : ∀ w v₁ v₂, v₁ < v₂ → ¬ (A v₁ = true ∧ A v₂ = true ∧ Q v₁ w = true ∧ Q v₂ w = true)

/-- the index type of the variables: `p_{u,v}`, then `q_{v,w}`, then `r_v` -/
abbrev RphpIx (m r n : Nat) : Type := ((Fin m × Fin r) ⊕ (Fin r × Fin n)) ⊕ Fin r

/-- the numbering of the variables of `rphpF m r n`: the mapping `p` (`m·r` variables), then the
mapping `q` (`r·n` variables), then the block `r` (`r` variables) -/
def rphpIdx (m r n : Nat) : VarIndex (RphpIx m r n) (m * r + r * n + r) :=
  ((VarIndex.gridIdx m r).sumIdx (VarIndex.gridIdx r n)).sumIdx (VarIndex.finIdx r)

theorem rphpIdx_p (m r n : Nat) (u : Fin m) (v : Fin r) :
    (rphpIdx m r n).var (.inl (.inl (u, v))) = Vars.mapId 1 r (u.val + 1) (v.val + 1) := by
  show u.val * r + v.val + 1 = _
  simp only [Vars.mapId, Nat.add_sub_cancel]; omega

theorem rphpIdx_q (m r n : Nat) (v : Fin r) (w : Fin n) :
    (rphpIdx m r n).var (.inl (.inr (v, w))) = Vars.mapId (1 + m * r) n (v.val + 1) (w.val + 1) := by
  show m * r + (v.val * n + w.val + 1) = _
  simp only [Vars.mapId, Nat.add_sub_cancel]; omega

theorem rphpIdx_a (m r n : Nat) (v : Fin r) :
    (rphpIdx m r n).var (.inr v) = 1 + m * r + r * n + (v.val + 1 - 1) := by
  show m * r + r * n + (v.val + 1) = _
  simp only [Nat.add_sub_cancel]; omega

/-- a triple as a Boolean function on the index type -/
def rphpPack {m r n : Nat}
    (T : (Fin m → Fin r → Bool) × (Fin r → Bool) × (Fin r → Fin n → Bool)) : RphpIx m r n → Bool :=
  Sum.elim (Sum.elim (fun p => T.1 p.1 p.2) (fun p => T.2.2 p.1 p.2)) T.2.1

/-- a Boolean function on the index type as a triple -/
def rphpUnpack {m r n : Nat} (f : RphpIx m r n → Bool) :
    (Fin m → Fin r → Bool) × (Fin r → Bool) × (Fin r → Fin n → Bool) :=
  (fun u v => f (.inl (.inl (u, v))), fun v => f (.inr v), fun v w => f (.inl (.inr (v, w))))

theorem rphpPack_unpack {m r n : Nat} (f : RphpIx m r n → Bool) : rphpPack (rphpUnpack f) = f := by
  funext i
  rcases i with (⟨u, v⟩ | ⟨v, w⟩) | v <;> rfl

theorem rphpUnpack_pack {m r n : Nat}
    (T : (Fin m → Fin r → Bool) × (Fin r → Bool) × (Fin r → Fin n → Bool)) :
    rphpUnpack (rphpPack T) = T := rfl

/-- the triple described by an assignment: `P u v` is the value of `p_{u+1,v+1}`, `A v` the value
of `r_{v+1}`, `Q v w` the value of `q_{v+1,w+1}` -/
def rphpToObj (m r n : Nat) (a : Fin (m * r + r * n + r) → Bool) :
    (Fin m → Fin r → Bool) × (Fin r → Bool) × (Fin r → Fin n → Bool) :=
  rphpUnpack ((rphpIdx m r n).toObj a)

/-- the assignment describing a triple -/
def rphpOfObj (m r n : Nat)
    (T : (Fin m → Fin r → Bool) × (Fin r → Bool) × (Fin r → Fin n → Bool)) :
    Fin (m * r + r * n + r) → Bool :=
  (rphpIdx m r n).ofObj (rphpPack T)

theorem rphp_ofObj_toObj (m r n : Nat) (a : Fin (m * r + r * n + r) → Bool) :
    rphpOfObj m r n (rphpToObj m r n a) = a := by
  simp only [rphpOfObj, rphpToObj, rphpPack_unpack, VarIndex.ofObj_toObj]

theorem rphp_toObj_ofObj (m r n : Nat)
    (T : (Fin m → Fin r → Bool) × (Fin r → Bool) × (Fin r → Fin n → Bool)) :
    rphpToObj m r n (rphpOfObj m r n T) = T := by
  simp only [rphpOfObj, rphpToObj, VarIndex.toObj_ofObj, rphpUnpack_pack]

/-- the documented statement in `Fin` terms: a triple of relations on `1..` indices that is read
off a triple of 0/1 matrices -/
theorem RPHPSpec_iff_RelPlacement (m r n : Nat) (P' : Nat → Nat → Prop) (A' : Nat → Prop)
    (Q' : Nat → Nat → Prop) (P : Fin m → Fin r → Bool) (A : Fin r → Bool) (Q : Fin r → Fin n → Bool)
    (hP : ∀ u v, P' (u.val + 1) (v.val + 1) ↔ P u v = true)
    (hA : ∀ v, A' (v.val + 1) ↔ A v = true)
    (hQ : ∀ v w, Q' (v.val + 1) (w.val + 1) ↔ Q v w = true) :
    RPHPSpec m r n P' A' Q' ↔ RelPlacement m r n P A Q := by
  constructor
  · rintro ⟨h1, h2, h3, h4, h5⟩
    simp only [forall_range_iff_fin, exists_range_iff_fin, forall_lt_range_iff_fin, hP, hA, hQ,
      Nat.add_right_cancel_iff, Fin.val_inj] at h1 h2 h3 h4 h5
    exact ⟨h1, h2, h3, h4, h5⟩
  · rintro ⟨h1, h2, h3, h4, h5⟩
    refine ⟨?_, ?_, ?_, ?_, ?_⟩ <;>
      simp only [forall_range_iff_fin, exists_range_iff_fin, forall_lt_range_iff_fin, hP, hA, hQ,
        Nat.add_right_cancel_iff, Fin.val_inj] <;> assumption

/-- the satisfying assignments (restricted to the `m·r+r·n+r` variables) are exactly the
assignments that describe a triple with the documented properties; together with
`rphp_ofObj_toObj` / `rphp_toObj_ofObj` this is the bijection "satisfying assignments ↔ triples
(resting relation, active set, flying relation)" -/
theorem rphp_holds_iff_obj (m r n : Nat) (a : Fin (m * r + r * n + r) → Bool) :
    (rphpF m r n).holds (extend a) = true ↔
      RelPlacement m r n (rphpToObj m r n a).1 (rphpToObj m r n a).2.1 (rphpToObj m r n a).2.2 := by
  rw [rphp_spec]
  exact RPHPSpec_iff_RelPlacement m r n _ _ _ _ _ _
    (fun u v => (rphpIdx m r n).holds_var a (rphpIdx_p m r n u v))
    (fun v => (rphpIdx m r n).holds_var a (rphpIdx_a m r n v))
    (fun v w => (rphpIdx m r n).holds_var a (rphpIdx_q m r n v w))

/-- the bijection, packaged: `rphpToObj` maps the satisfying restricted assignments one-to-one
onto the documented triples -/
theorem rphp_bijection (m r n : Nat) :
    (∀ a, (rphpF m r n).holds (extend a) = true →
      RelPlacement m r n (rphpToObj m r n a).1 (rphpToObj m r n a).2.1 (rphpToObj m r n a).2.2) ∧
    (∀ T : (Fin m → Fin r → Bool) × (Fin r → Bool) × (Fin r → Fin n → Bool),
      RelPlacement m r n T.1 T.2.1 T.2.2 → (rphpF m r n).holds (extend (rphpOfObj m r n T)) = true) ∧
    (∀ a, rphpOfObj m r n (rphpToObj m r n a) = a) ∧ (∀ T, rphpToObj m r n (rphpOfObj m r n T) = T) :=
  bijection_of_inverse (Q := fun T => RelPlacement m r n T.1 T.2.1 T.2.2) (rphp_ofObj_toObj m r n)
    (rphp_toObj_ofObj m r n) (rphp_holds_iff_obj m r n)

/-- every satisfying restricted assignment describes exactly one documented triple, and every
documented triple is described by exactly one satisfying restricted assignment -/
theorem rphp_bijection_unique (m r n : Nat) :
    (∀ a, (rphpF m r n).holds (extend a) = true →
      ∃! T : (Fin m → Fin r → Bool) × (Fin r → Bool) × (Fin r → Fin n → Bool),
        RelPlacement m r n T.1 T.2.1 T.2.2 ∧ rphpOfObj m r n T = a) ∧
    (∀ T : (Fin m → Fin r → Bool) × (Fin r → Bool) × (Fin r → Fin n → Bool),
      RelPlacement m r n T.1 T.2.1 T.2.2 →
      ∃! a, (rphpF m r n).holds (extend a) = true ∧ rphpToObj m r n a = T) :=
  existsUnique_of_inverse (Q := fun T => RelPlacement m r n T.1 T.2.1 T.2.2) (rphp_ofObj_toObj m r n)
    (rphp_toObj_ofObj m r n) (rphp_holds_iff_obj m r n)

/-- two (total) assignments that describe the same triple agree on every variable of the formula -/
theorem rphp_unique (m r n : Nat) (α β : Assign)
    (hP : ∀ u v, 1 ≤ u → u ≤ m → 1 ≤ v → v ≤ r → (rphpP r α u v ↔ rphpP r β u v))
    (hQ : ∀ v w, 1 ≤ v → v ≤ r → 1 ≤ w → w ≤ n → (rphpQ m r n α v w ↔ rphpQ m r n β v w))
    (hA : ∀ v, 1 ≤ v → v ≤ r → (rphpA m r n α v ↔ rphpA m r n β v)) :
    ∀ x, 1 ≤ x → x ≤ (rphpF m r n).nvars → α x = β x := by
  apply (rphpIdx m r n).agree_of_toObj_eq α β
  intro i
  rw [Bool.eq_iff_iff]
  rcases i with (⟨u, v⟩ | ⟨v, w⟩) | v
  · rw [rphpIdx_p]
    exact hP (u.val + 1) (v.val + 1) (by omega) u.isLt (by omega) v.isLt
  · rw [rphpIdx_q]
    exact hQ (v.val + 1) (w.val + 1) (by omega) v.isLt (by omega) w.isLt
  · rw [rphpIdx_a]
    exact hA (v.val + 1) (by omega) v.isLt

/-- the satisfying total assignments that describe the same triple agree on all the variables: a
total satisfying assignment is determined on `1..nvars` by the triple of its restriction -/
theorem rphp_toObj_restrict_eq (m r n : Nat) (α β : Assign)
    (h : rphpToObj m r n (restrict (m * r + r * n + r) α)
       = rphpToObj m r n (restrict (m * r + r * n + r) β)) :
    ∀ x, 1 ≤ x → x ≤ (rphpF m r n).nvars → α x = β x := by
  apply (rphpIdx m r n).agree_of_toObj_eq α β
  intro i
  have h' := congrArg rphpPack h
  simp only [rphpToObj, rphpPack_unpack] at h'
  have := congrFun h' i
  rwa [VarIndex.toObj_restrict, VarIndex.toObj_restrict] at this

/-- one pigeon, two resting places, one hole: the pigeon rests at place 2 (index 1), which is the
only active place and sends it to hole 1 (index 0) -/
def rphpExample : (Fin 1 → Fin 2 → Bool) × (Fin 2 → Bool) × (Fin 2 → Fin 1 → Bool) :=
  (fun _ v => decide (v = 1), fun v => decide (v = 1), fun v _ => decide (v = 1))

example : RelPlacement 1 2 1 rphpExample.1 rphpExample.2.1 rphpExample.2.2 :=
  ⟨by decide, by decide, by decide, by decide, by decide⟩

/-- … and exactly one restricted satisfying assignment describes it -/
example : ∃! a, (rphpF 1 2 1).holds (extend a) = true ∧ rphpToObj 1 2 1 a = rphpExample :=
  (rphp_bijection_unique 1 2 1).2 rphpExample ⟨by decide, by decide, by decide, by decide, by decide⟩

/-- that assignment: `p_{1,2}`, `q_{2,1}` and `r_2` (variables 2, 4, 6) are true, the rest false -/
example : rphpOfObj 1 2 1 rphpExample = fun x => decide (x.val = 1 ∨ x.val = 3 ∨ x.val = 5) := by
  decide

/-- the same resting relation as `rphpExample`, but the (inactive) place 1 also carries a flying
edge to hole 1 — 3.1d/3.1e only constrain the active places -/
def rphpExample' : (Fin 1 → Fin 2 → Bool) × (Fin 2 → Bool) × (Fin 2 → Fin 1 → Bool) :=
  (fun _ v => decide (v = 1), fun v => decide (v = 1), fun _ _ => true)

/-- the documented variables are the triple `(P, A, Q)`: the "placement of the pigeons" `P` alone
does not determine the assignment (two different satisfying restricted assignments describe the
same resting relation), so "exactly one assignment" is a statement about triples -/
theorem rphp_not_determined_by_resting :
    ∃ a b, a ≠ b ∧ (rphpF 1 2 1).holds (extend a) = true ∧ (rphpF 1 2 1).holds (extend b) = true ∧
      (rphpToObj 1 2 1 a).1 = (rphpToObj 1 2 1 b).1 := by
  refine ⟨rphpOfObj 1 2 1 rphpExample, rphpOfObj 1 2 1 rphpExample', ?_,
    (rphp_bijection 1 2 1).2.1 _ ⟨by decide, by decide, by decide, by decide, by decide⟩,
    (rphp_bijection 1 2 1).2.1 _ ⟨by decide, by decide, by decide, by decide, by decide⟩, ?_⟩
  · intro h
    have := congrArg (rphpToObj 1 2 1) h
    rw [rphp_toObj_ofObj, rphp_toObj_ofObj] at this
    have := congrFun (congrFun (congrArg (fun T => T.2.2) this) 0) 0
    exact absurd this (by decide)
  · rw [rphp_toObj_ofObj, rphp_toObj_ofObj]; rfl

/-- T-C01.3 corollary: satisfiable exactly when `m ≤ r` and `m ≤ n`.  (The docstring's
"only satisfiable when m ≤ t ≤ n" is not the exact condition: `t ≤ n` is not necessary.) -/
theorem rphp_sat_iff (m r n : Nat) : (∃ α, (rphpF m r n).holds α = true) ↔ m ≤ r ∧ m ≤ n := by
  constructor
  · rintro ⟨α, hα⟩
    obtain ⟨h1, h2, h3, h4, h5⟩ := (rphp_spec m r n α).1 hα
    refine ⟨le_of_total_injective m r _ h1 h2, ?_⟩
    -- pigeon ↦ hole of its resting place is total and injective
    apply le_of_total_injective m n
      (fun u w => ∃ v, 1 ≤ v ∧ v ≤ r ∧ rphpP r α u v ∧ rphpA m r n α v ∧ rphpQ m r n α v w)
    · intro u hu1 hu2
      obtain ⟨v, hv1, hv2, hP⟩ := h1 u hu1 hu2
      have hA := h3 v hv1 hv2 u hu1 hu2 hP
      obtain ⟨w, hw1, hw2, hQ⟩ := h4 v hv1 hv2 hA
      exact ⟨w, hw1, hw2, v, hv1, hv2, hP, hA, hQ⟩
    · rintro w hw1 hw2 u hu1 hu2 u' hu1' hu2' ⟨v, hv1, hv2, hP, hA, hQ⟩ ⟨v', hv1', hv2', hP', hA', hQ'⟩
      have hvv : v = v' := by
        rcases Nat.lt_trichotomy v v' with hlt | he | hgt
        · exact absurd ⟨hA, hA', hQ, hQ'⟩ (h5 w hw1 hw2 v v' hv1 hlt hv2')
        · exact he
        · exact absurd ⟨hA', hA, hQ', hQ⟩ (h5 w hw1 hw2 v' v hv1' hgt hv2)
      subst hvv
      exact h2 v hv1 hv2 u hu1 hu2 u' hu1' hu2' hP hP'
  · rintro ⟨hmr, hmn⟩
    -- pigeon u rests at place u, which is active and sends it to hole u
    refine ⟨_, (rphp_bijection m r n).2.1 (fun u v => u.val == v.val, fun v => decide (v.val < m),
      fun v w => v.val == w.val && decide (v.val < m)) ⟨?_, ?_, ?_, ?_, ?_⟩⟩
    · intro u; exact ⟨⟨u.val, by omega⟩, by simp⟩
    · intro v u u' hP hP'
      simp only [beq_iff_eq] at hP hP'; exact Fin.ext (by omega)
    · intro v u hP
      simp only [beq_iff_eq] at hP
      simp only [decide_eq_true_eq]; omega
    · intro v hA
      simp only [decide_eq_true_eq] at hA
      exact ⟨⟨v.val, by omega⟩, by simp [hA]⟩
    · intro w v₁ v₂ hlt ⟨_, _, hQ, hQ'⟩
      simp only [Bool.and_eq_true, beq_iff_eq] at hQ hQ'
      omega

end Cnfgen.C01
