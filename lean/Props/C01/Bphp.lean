/-
C01 — BinaryPigeonholePrinciple(pigeons, holes): the satisfying assignments are the injections
from pigeons to holes, written in binary.
-/
import Lemmas.C01Binary
import Lemmas.C01Pigeon
import Lemmas.C01BijSum
import Props.C01.Php
namespace Cnfgen.C01
open Cnfgen Cnfgen.Fam

/-- the hole (0-based) that the bits `v(i, k-1) … v(i, 0)` of pigeon `i` spell under `α`,
`k = ⌈log₂ n⌉` bits per pigeon: `Σ_b [α(v(i,b))] · 2^b` -/
def bphpVal (α : Assign) (n i : Nat) : Nat :=
  Nat.ofBits (fun b : Fin (Vars.clog2 n) => α (Vars.binId 1 (Vars.clog2 n) i b))

/-- the documented statement: every pigeon names a hole `0 … n-1`, no two pigeons the same -/
structure BPHPSpec (m n : Nat) (val : Nat → Nat) : Prop where
  inRange : ∀ i, 1 ≤ i → i ≤ m → val i < n
  inj : ∀ i, 1 ≤ i → i ≤ m → ∀ i', 1 ≤ i' → i' ≤ m → val i = val i' → i = i'

/-- the bit length used by the generator is the least `k` with `n ≤ 2^k` -/
theorem bphp_bits (n : Nat) : n ≤ 2 ^ Vars.clog2 n ∧ ∀ b, b < Vars.clog2 n → 2 ^ b < n :=
  ⟨le_two_pow_clog2 n, clog2_min n⟩

/-- the two groups of `BinaryMappingVariables`: `force_complete_mapping`, then `force_injective_mapping` -/
theorem bphpF_cons (m n : Nat) : (bphpF m n).cons =
    G2.binComplete 1 (Vars.clog2 n) m n ++ G2.binInjective 1 (Vars.clog2 n) m n := by
  simp only [G2.binInjective, G2.pairs2_eq_pairs]
  rfl

/-- T-C01.2: for all sizes and assignments -/
theorem bphp_spec (m n : Nat) (α : Assign) :
    (bphpF m n).holds α = true ↔ BPHPSpec m n (bphpVal α n) := by
  rw [Formula.holds, bphpF_cons, List.all_eq_true, List.forall_mem_append, binComplete_holds α (Nat.le_refl 1),
    binInjective_holds α (Nat.le_refl 1) (le_two_pow_clog2 n)]
  constructor
  · rintro ⟨hr, hi⟩
    refine ⟨hr, fun i h1 h2 i' h1' h2' e => ?_⟩
    -- the constraint speaks of `i < i'` only
    rcases Nat.lt_trichotomy i i' with hlt | he | hgt
    · exact absurd ⟨rfl, e.symm⟩ (hi _ (hr i h1 h2) i i' h1 hlt h2')
    · exact he
    · exact absurd ⟨rfl, e⟩ (hi _ (hr i' h1' h2') i' i h1' hgt h2)
  · rintro ⟨hr, hi⟩
    refine ⟨hr, fun y _ i i' h1 hlt h2' e => ?_⟩
    have := hi i h1 (by omega) i' (by omega) h2' (e.1.trans e.2.symm)
    omega

example : BPHPSpec 3 5 (fun i => i - 1) := ⟨by intros; omega, by intros; omega⟩

/-- every injection `g : [1..m] → {0..n-1}` is described by a satisfying assignment … -/
theorem bphp_realises (m n : Nat) (g : Nat → Nat) (h : BPHPSpec m n g) :
    (bphpF m n).holds (binAssignOf (Vars.clog2 n) g) = true ∧
    ∀ i, 1 ≤ i → i ≤ m → bphpVal (binAssignOf (Vars.clog2 n) g) n i = g i := by
  have hk := le_two_pow_clog2 n
  have hv : ∀ i, 1 ≤ i → i ≤ m → bphpVal (binAssignOf (Vars.clog2 n) g) n i = g i :=
    fun i h1 h2 => bval_binAssignOf g h1 (by have := h.inRange i h1 h2; omega)
  refine ⟨(bphp_spec m n _).2 ⟨?_, ?_⟩, hv⟩
  · intro i h1 h2; rw [hv i h1 h2]; exact h.inRange i h1 h2
  · intro i h1 h2 i' h1' h2' e
    rw [hv i h1 h2, hv i' h1' h2'] at e
    exact h.inj i h1 h2 i' h1' h2' e

/-- … and by only one: two assignments that spell the same holes agree on every variable of
the formula (the variables `v(i, b)`, `1 ≤ i ≤ m`, `b < ⌈log₂ n⌉`) -/
theorem bphp_val_determines (m n : Nat) (α β : Assign)
    (h : ∀ i, 1 ≤ i → i ≤ m → bphpVal α n i = bphpVal β n i) :
    ∀ i b, 1 ≤ i → i ≤ m → b < Vars.clog2 n →
      α (Vars.binId 1 (Vars.clog2 n) i b) = β (Vars.binId 1 (Vars.clog2 n) i b) :=
  fun i b h1 h2 hb => bval_inj α β 1 _ i (h i h1 h2) b hb

/-- T-C01.2 corollary: satisfiable exactly when there are at most as many pigeons as holes
(`→` pigeonhole principle on the spelled holes, `←` pigeon `i` spells `i - 1`) -/
theorem bphp_sat_iff (m n : Nat) : (∃ α, (bphpF m n).holds α = true) ↔ m ≤ n := by
  constructor
  · rintro ⟨α, hα⟩
    obtain ⟨hr, hi⟩ := (bphp_spec m n α).1 hα
    apply le_of_total_injective m n (fun i v => bphpVal α n i + 1 = v)
    · intro i h1 h2; exact ⟨_, by omega, by have := hr i h1 h2; omega, rfl⟩
    · intro v _ _ i h1 h2 i' h1' h2' e e'
      exact hi i h1 h2 i' h1' h2' (by omega)
  · intro hmn
    exact ⟨_, (bphp_realises m n (fun i => i - 1) ⟨by intros; omega, by intros; omega⟩).1⟩

theorem bphp_wf (m n : Nat) : (bphpF m n).WF :=
  G2.wf_of_consIn (lo := 1) (bphpF_cons m n ▸ (binComplete_in _ m n).append (binInjective_in _ m n))

/-- documented variable count: `⌈log₂ holes⌉` bits per pigeon -/
theorem bphp_nvars (m n : Nat) : (bphpF m n).nvars = m * Vars.clog2 n := rfl

/-- parameter validation: ValueError exactly for a negative argument (the documented contract) -/
theorem bphp_validation (p h : Int) :
    bphp p h = if p < 0 ∨ h < 0 then .error .valueError else .ok (bphpF p.toNat h.toNat) := rfl

/-- what the docstring promises: every non-negative pair of parameters yields a formula -/
def BphpDocumentedDomain : Prop := ∀ p h : Int, 0 ≤ p → 0 ≤ h → ∃ F, bphp p h = .ok F

/-- the documented domain (`pigeons ≥ 0`, `holes ≥ 0`) is the accepted one.  Before the fix of D42 the code refused
zero pigeons and zero holes (`bphp 0 1` raised ValueError). -/
theorem bphp_documented_domain : BphpDocumentedDomain := by
  intro p h hp hh
  refine ⟨bphpF p.toNat h.toNat, ?_⟩
  rw [bphp_validation]
  have : ¬ (p < 0 ∨ h < 0) := by omega
  simp [this]

/-- regression witnesses of D42: no pigeons ⇒ the empty (satisfiable) formula; a pigeon and no hole ⇒ unsatisfiable -/
example : bphp 0 1 = .ok ⟨0, []⟩ := by rfl
example : ∃ F, bphp 1 0 = .ok F ∧ ¬ ∃ α, F.holds α = true :=
  ⟨bphpF 1 0, rfl, by rw [bphp_sat_iff]; omega⟩

theorem bphp_domain (p h : Int) (hp : 0 ≤ p) (hh : 0 ≤ h) :
    bphp p h = .ok (bphpF p.toNat h.toNat) := by
  rw [bphp_validation]
  have : ¬ (p < 0 ∨ h < 0) := by omega
  simp [this]

theorem bphp_cnf_spec (m n : Nat) (α : Assign) :
    (bphpF m n).toCNF.holds α = true ↔ BPHPSpec m n (bphpVal α n) := by
  rw [Formula.toCNF_holds α _ (bphp_wf m n)]; exact bphp_spec m n α

theorem bphp_opb_spec (m n : Nat) (α : Assign) :
    (bphpF m n).toOPB.holds α = true ↔ BPHPSpec m n (bphpVal α n) := by
  rw [Formula.toOPB_holds α _ (bphp_wf m n)]; exact bphp_spec m n α

/-! ## "by exactly one"

The satisfying assignments of `bphpF m n` restricted to its variables `1..m·k` (`k = ⌈log₂ n⌉` bits per pigeon)
correspond one to one to the injective functions from the `m` pigeons to the `n` holes: assignments to the `m·k`
variables are the functions `[m] → {0 … 2^k - 1}`, the satisfying ones those that are injective with values below `n`. -/

/-- the function described by an assignment: pigeon `i` (0-based) goes to the hole spelled by the
bits `v(i+1, k-1) … v(i+1, 0)` -/
def bphpToObj (m n : Nat) (a : Fin (m * Vars.clog2 n) → Bool) : Fin m → Fin (2 ^ Vars.clog2 n) :=
  fun i => ⟨bphpVal (extend a) n (i.val + 1), bval_lt (extend a) 1 (Vars.clog2 n) (i.val + 1)⟩

/-- bit `b` of pigeon `i + 1` is the entry `(i, k - 1 - b)` of the row-major grid `m × k` (most significant bit first) -/
theorem binId_eq_gridIdx (m : Nat) {k : Nat} (i : Fin m) (c : Fin k) :
    Vars.binId 1 k (i.val + 1) c.rev.val = (VarIndex.gridIdx m k).var (i, c) := by
  have := c.isLt
  rw [VarIndex.gridIdx_var, Fin.val_rev, Vars.binId, Nat.add_mul, Nat.one_mul]
  omega

/-- the assignment spelling a function in binary -/
def bphpOfObj (m n : Nat) (g : Fin m → Fin (2 ^ Vars.clog2 n)) : Fin (m * Vars.clog2 n) → Bool :=
  (VarIndex.gridIdx m (Vars.clog2 n)).ofObj fun p => (g p.1).val.testBit p.2.rev

theorem bphpToObj_testBit (m n : Nat) (a : Fin (m * Vars.clog2 n) → Bool) (i : Fin m) (c : Fin (Vars.clog2 n)) :
    (bphpToObj m n a i).val.testBit c.rev = (VarIndex.gridIdx m (Vars.clog2 n)).toObj a (i, c) := by
  rw [← VarIndex.extend_var, ← binId_eq_gridIdx]
  exact Nat.testBit_ofBits_lt _ _ c.rev.isLt

theorem bphp_ofObj_toObj (m n : Nat) (a : Fin (m * Vars.clog2 n) → Bool) :
    bphpOfObj m n (bphpToObj m n a) = a := by
  simp only [bphpOfObj, bphpToObj_testBit]
  exact VarIndex.ofObj_toObj _ a

theorem bphp_toObj_ofObj (m n : Nat) (g : Fin m → Fin (2 ^ Vars.clog2 n)) :
    bphpToObj m n (bphpOfObj m n g) = g := by
  funext i
  have : (fun b : Fin (Vars.clog2 n) => extend (bphpOfObj m n g) (Vars.binId 1 (Vars.clog2 n) (i.val + 1) b))
      = fun b : Fin (Vars.clog2 n) => (g i).val.testBit b := by
    funext b
    have h := binId_eq_gridIdx m i b.rev
    rw [Fin.rev_rev] at h
    rw [h, C01.extend, VarIndex.extend_var, bphpOfObj, VarIndex.toObj_ofObj, Fin.rev_rev]
  apply Fin.ext
  show Nat.ofBits _ = _
  rw [this, Nat.ofBits_testBit, Nat.mod_eq_of_lt (g i).isLt]

/-- the satisfying assignments (restricted to the `m·k` variables) are exactly those that spell an
injective function all of whose values are holes `0 … n-1`; with the two inverse laws above this
is the bijection "satisfying assignments ↔ injections `[m] → [n]`" -/
theorem bphp_holds_iff_injection (m n : Nat) (a : Fin (m * Vars.clog2 n) → Bool) :
    (bphpF m n).holds (extend a) = true ↔
      (∀ i, (bphpToObj m n a i).val < n) ∧ Function.Injective (bphpToObj m n a) := by
  rw [bphp_spec]
  constructor
  · rintro ⟨hr, hi⟩
    simp only [forall_range_iff_fin, Nat.add_right_cancel_iff, Fin.val_inj] at hr hi
    exact ⟨hr, fun i i' e => hi i i' (congrArg Fin.val e)⟩
  · rintro ⟨hr, hi⟩
    refine ⟨?_, ?_⟩ <;> simp only [forall_range_iff_fin, Nat.add_right_cancel_iff, Fin.val_inj]
    exacts [hr, fun i i' e => hi (Fin.ext e)]

/-- a function into the `n` holes, seen as a function into `{0 … 2^k - 1}` (`n ≤ 2^k`) -/
def bphpLift {m : Nat} (n : Nat) (g : Fin m → Fin n) : Fin m → Fin (2 ^ Vars.clog2 n) :=
  fun i => ⟨(g i).val, Nat.lt_of_lt_of_le (g i).isLt (le_two_pow_clog2 n)⟩

/-- the bijection, packaged with the documented objects: every satisfying restricted assignment
spells exactly one injection `[m] → [n]`, and every injection `[m] → [n]` is spelled by exactly
one satisfying restricted assignment -/
theorem bphp_bijection (m n : Nat) :
    (∀ a, (bphpF m n).holds (extend a) = true →
      ∃! g : Fin m → Fin n, Function.Injective g ∧ ∀ i, (bphpToObj m n a i).val = (g i).val) ∧
    (∀ g : Fin m → Fin n, Function.Injective g →
      ∃! a, (bphpF m n).holds (extend a) = true ∧ ∀ i, (bphpToObj m n a i).val = (g i).val) := by
  refine ⟨?_, ?_⟩
  · intro a ha
    obtain ⟨hr, hi⟩ := (bphp_holds_iff_injection m n a).1 ha
    refine ⟨fun i => ⟨(bphpToObj m n a i).val, hr i⟩, ⟨?_, fun _ => rfl⟩, ?_⟩
    · intro i i' e
      have e' := congrArg Fin.val e
      exact hi (Fin.ext e')
    · rintro g' ⟨_, hg'⟩
      funext i
      exact Fin.ext (hg' i).symm
  · intro g hg
    have hto : bphpToObj m n (bphpOfObj m n (bphpLift n g)) = bphpLift n g := bphp_toObj_ofObj m n _
    refine ⟨bphpOfObj m n (bphpLift n g), ⟨?_, ?_⟩, ?_⟩
    · rw [bphp_holds_iff_injection, hto]
      refine ⟨fun i => (g i).isLt, ?_⟩
      intro i i' e
      have e' := congrArg Fin.val e
      exact hg (Fin.ext e')
    · intro i; rw [hto]; rfl
    · rintro a' ⟨_, ha'⟩
      have : bphpToObj m n a' = bphpLift n g := by
        funext i; exact Fin.ext (ha' i)
      rw [← this, bphp_ofObj_toObj]

/-- two total assignments that spell the same function agree on every variable of the formula
(no satisfaction hypothesis is needed) -/
theorem bphp_unique (m n : Nat) (α β : Assign)
    (h : ∀ i, 1 ≤ i → i ≤ m → bphpVal α n i = bphpVal β n i) :
    ∀ x, 1 ≤ x → x ≤ (bphpF m n).nvars → α x = β x := by
  intro x h1 h2
  obtain ⟨i, b, hi1, hi2, hb, rfl⟩ := binId_surj h1 h2
  exact bphp_val_determines m n α β h i b hi1 hi2 hb

/-- in particular a satisfying total assignment is determined, on the variables of the formula,
by the injection it spells -/
theorem bphp_unique_sat (m n : Nat) (α β : Assign)
    (_ : (bphpF m n).holds α = true) (_ : (bphpF m n).holds β = true)
    (h : ∀ i, 1 ≤ i → i ≤ m → bphpVal α n i = bphpVal β n i) :
    ∀ x, 1 ≤ x → x ≤ (bphpF m n).nvars → α x = β x :=
  bphp_unique m n α β h

/-! ### a concrete instance: 2 pigeons, 3 holes (2 bits per pigeon, 4 variables) -/

/-- the function `0 ↦ 2, 1 ↦ 0` -/
def bphpExample : Fin 2 → Fin 3 := fun i => ⟨2 - 2 * i.val, by omega⟩

theorem bphpExample_injective : Function.Injective bphpExample := by
  intro i i' e
  have := congrArg Fin.val e
  simp only [bphpExample] at this
  exact Fin.ext (by omega)

/-- it is injective, so exactly one satisfying assignment to the 4 variables spells it -/
example : ∃! a : Fin (2 * Vars.clog2 3) → Bool, (bphpF 2 3).holds (extend a) = true ∧
    ∀ i, (bphpToObj 2 3 a i).val = (bphpExample i).val :=
  (bphp_bijection 2 3).2 bphpExample bphpExample_injective

/-- degenerate sizes: with no pigeon the empty assignment is the only one, and it is satisfying -/
example : ∃! a : Fin (0 * Vars.clog2 5) → Bool, (bphpF 0 5).holds (extend a) = true ∧
    ∀ i, (bphpToObj 0 5 a i).val = ((fun i => i.elim0 : Fin 0 → Fin 5) i).val :=
  (bphp_bijection 0 5).2 _ (fun i => i.elim0)

end Cnfgen.C01
