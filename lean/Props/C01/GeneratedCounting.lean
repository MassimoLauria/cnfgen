/-
C01 — `CountingPrinciple` as TRANSLATED from cnfgen/families/counting.py is `Fam.counting` of the model: the translated
`new_combinations`, the double loop `stars[i-1].append(var)` over `zip(X.indices(), X())`, one "exactly one" constraint
per element.
-/
import Lemmas.GenFamCounting
import Props.C01.Generated
import Props.C01.Counting
set_option linter.unusedSimpArgs false
namespace Cnfgen.C01
open Cnfgen Cnfgen.Vars Cnfgen.PyGen Cnfgen.GenVars Cnfgen.Fam Cnfgen.PyF Cnfgen.GenFam Cnfgen.C11

theorem zip_map_range' {α β γ : Type} (l : List α) (f : α → β) (g : Nat → γ) (k : Nat) :
    List.zip (l.map f) ((List.range' k l.length).map g) = (l.zipIdx k).map (fun S => (f S.1, g S.2)) := by
  induction l generalizing k with
  | nil => simp
  | cons a l ih => simp [List.range'_succ, ih]

theorem rows_init (m : Nat) :
    List.map (fun (_ : Int) => ([] : List Int)) (Py.Range.toList ⟨0, (m : Int)⟩) = rowsOf m (fun _ => []) := by
  simp [rowsOf, idx, rangeN, Py.range_zero_toList, List.map_map, Function.comp_def]

/-- **`CountingPrinciple` of the source is `Fam.counting` of the model** for all integers `M`, `p` -/
theorem gen_counting_eq_model (M p : Int) :
    CountingPrinciple M p = (Fam.counting M p).map stateOf := by
  unfold CountingPrinciple
  rw [counting_validation]
  simp only [gen_non_negative_int_eq, gen_positive_int_eq]
  by_cases hM : M < 0
  · rw [if_pos hM, if_pos hM]; rfl
  by_cases hp : p < 1
  · rw [if_neg hM, if_neg hM, if_pos hp, if_pos hp]; rfl
  obtain ⟨m, rfl⟩ := Int.eq_ofNat_of_zero_le (by omega : 0 ≤ M)
  obtain ⟨q, rfl⟩ := Int.eq_ofNat_of_zero_le (by omega : 0 ≤ p)
  have hq : 1 ≤ q := by omega
  simp only [hM, hp, if_false, Py.ok_bind, Py.map_ok, Int.toNat_natCast]
  rw [new_combinations_eq PyF.empty 0 rfl m q]
  simp only [Py.ok_bind]
  have hnd := nodup_combosSeqs m q
  have hmem : ∀ S ∈ combosSeqs m q, S.Sublist (idx m) ∧ S.length = q := fun S hS => Cnfgen.mem_combos.1 hS
  have hne : [] ∉ combosSeqs m q := by
    intro h; have := (hmem [] h).2; simp at this; omega
  have hind : WordOfIndicesVariables.indices (wordSelf 0 (m : Int) (q : Int) "combinations" (combosSeqs m q)) [] =
      Except.ok ((combosSeqs m q).map upPat) := by
    rw [gen_word_indices_eq_model]; simp [Group.indices]
  rw [hind, Py.ok_bind, word_call_all 0 _ _ _ hnd hne, Py.ok_bind]
  simp only [Py.ok_bind]
  rw [rows_init]
  generalize hL : (combosSeqs m q).zipIdx.map (fun S => (S.1, (((0 + 1 + S.2 : Nat)) : Int))) = L
  have hzip : List.zip ((combosSeqs m q).map upPat)
      ((List.range (combosSeqs m q).length).map (fun j => ((0 + 1 + j : Nat) : Int))) =
      L.map (fun S => (upPat S.1, S.2)) := by
    rw [List.range_eq_range', zip_map_range', ← hL, List.map_map]
    rfl
  have hLmem : ∀ S ∈ L, S.1 ∈ combosSeqs m q := by
    rw [← hL]
    intro S hS
    simp only [List.mem_map] at hS
    obtain ⟨T, hT, rfl⟩ := hS
    exact (List.mem_zipIdx hT).2.2 ▸ List.getElem_mem _
  rw [hzip, star_outer m L
    (fun S hS => ((hmem S.1 (hLmem S hS)).1.nodup (idx_nodup m)))
    (fun S hS i hi => by
      have := (hmem S.1 (hLmem S hS)).1.subset hi
      simpa [mem_idx] using this), Py.ok_bind]
  have hstar : ∀ x, ([] : List Int) ++ L.filterMap (fun S => if S.1.contains x then some S.2 else none) =
      countingStar m q x := by
    intro x
    rw [← hL]
    simp [countingStar, List.filterMap_map, Function.comp_def, Nat.add_comm]
  simp only [hstar, rowsOf]
  have hnv : ((0 + (combosSeqs m q).length : Nat) : Int) = (((countingF m q).nvars : Nat) : Int) := by
    simp [countingF]
  refine addAll_wf (counting_wf m q) hnv ?_
  simp only [countingF]
  refine addAll_last (foldlM_adds_map _ _ _ _ ?_ _)
  intro s x _
  rfl

/-- **the counting principle of the source is satisfiable exactly when `p` divides `M`** — on the generated
definition: for all `M` and `p ≥ 1` the translated generator succeeds, declares one variable per `p`-subset
(`M choose p`), and the formula it built (abstract constraints, CNF rendering, OPB rendering) has a satisfying
assignment iff `p ∣ M` -/
theorem gen_counting_sat_iff (M p : Nat) (hp : 1 ≤ p) :
    ∃ s : FState, CountingPrinciple (M : Int) (p : Int) = Except.ok s ∧ s.numvar = ((Nat.choose M p : Nat) : Int) ∧
      ((∃ α, (formulaOf s).holds α = true) ↔ p ∣ M) ∧
      ((∃ α, (formulaOf s).toCNF.holds α = true) ↔ p ∣ M) ∧
      ((∃ α, (formulaOf s).toOPB.holds α = true) ↔ p ∣ M) := by
  refine ⟨stateOf (countingF M p), ?_, ?_, sat_iff_stateOf (counting_wf M p) (counting_sat_iff M p)⟩
  · rw [gen_counting_eq_model, counting_validation]
    have h1 : ¬ ((M : Int) < 0) := by omega
    have h2 : ¬ ((p : Int) < 1) := by omega
    simp [h1, h2]
  · simp only [stateOf]; rw [counting_nvars]

/-- non-vacuity: `CountingPrinciple(3, 2)`: three pairs, each element in two of them -/
example : CountingPrinciple 3 2 =
    Except.ok ⟨3, [.lin [1, 2] .eq 1, .lin [1, 3] .eq 1, .lin [2, 3] .eq 1]⟩ := by
  rw [gen_counting_eq_model]; rfl

end Cnfgen.C01
