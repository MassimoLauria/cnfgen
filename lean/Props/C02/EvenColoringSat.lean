/-
C02 — the even-colouring formula: "satisfiable iff every connected component has an even number
of edges" (all degrees even, which is what the generator insists on), both directions.

* only if: summing the vertex equations over a vertex set closed under adjacency (handshake,
  `evenColoring_parity`) and identifying the sum of the half-degrees with the number of edges
  inside the set (`closed_degree_sum`, `Lemmas/FamColoring.lean`);
* if: Euler's theorem for each component (`exists_euler_circuit`, `Lemmas/FamEulerCircuit.lean`: longest-trail
  argument on Mathlib's `SimpleGraph.Walk`), the edges of the circuit coloured alternately (`alt_balance`);
  an odd circuit is excluded by the handshake lemma (`comp_colouring`); the components are glued
  by choice (`evenColoring_converse`, `Lemmas/FamEvenColoringConv.lean`).

As in `TseitinSatIff`, "every component" is expressed through the vertex sets closed under
adjacency (every component is one, every closed set is a union of components);
`edgesIn G C` = number of `(u,v) ∈ G.edges()` with `u ∈ C` (for closed `C`: the edges inside `C`).
-/
import Lemmas.FamEvenColoringConv
namespace Cnfgen.C02
open Cnfgen Cnfgen.Fam

/-- identifies the quantity of `evenColoring_sat_components_partial`, the sum of the half-degrees over a closed
vertex set, with the number of edges inside the set (all degrees even) -/
theorem evenColoring_half_degree_sum (G : SimpleG) (hG : GoodGraph G) (C : Nat → Bool)
    (hC : ∀ v u, C v = true → u ∈ G.nbrs v → C u = true) :
    (∑ v ∈ (Finset.Icc 1 G.n).filter (fun v => C v = true), (G.nbrs v).length = 2 * edgesIn G C) ∧
    ((∀ v, 1 ≤ v → v ≤ G.n → (G.nbrs v).length % 2 = 0) →
      ∑ v ∈ (Finset.Icc 1 G.n).filter (fun v => C v = true), (G.nbrs v).length / 2 = edgesIn G C) := by
  have h := closed_degree_sum hG C hC
  refine ⟨h, fun hdeg => ?_⟩
  have h2 : ∑ v ∈ (Finset.Icc 1 G.n).filter (fun v => C v = true), (G.nbrs v).length =
      ∑ v ∈ (Finset.Icc 1 G.n).filter (fun v => C v = true), (G.nbrs v).length / 2 +
      ∑ v ∈ (Finset.Icc 1 G.n).filter (fun v => C v = true), (G.nbrs v).length / 2 := by
    rw [← Finset.sum_add_distrib]
    apply Finset.sum_congr rfl
    intro v hv
    rw [Finset.mem_filter, Finset.mem_Icc] at hv
    have := hdeg v hv.1.1 hv.1.2
    omega
  omega

/-- the documented criterion for the even-colouring formula: satisfiable iff every vertex set
closed under adjacency (every connected component, every union of components) contains an even
number of edges -/
def EvenColoringSatIff (G : SimpleG) : Prop :=
  (∃ α, (evenColoringF G).holds α = true) ↔
    ∀ C : Nat → Bool, (∀ v u, C v = true → u ∈ G.nbrs v → C u = true) → Even (edgesIn G C)

/-- **T-C02.3d** the full criterion, both directions, for every good graph all of whose degrees
are even (the graphs the generator accepts, `evenColoring_validation`) -/
theorem evenColoring_sat_iff (G : SimpleG) (hG : GoodGraph G)
    (hdeg : ∀ v, 1 ≤ v → v ≤ G.n → (G.nbrs v).length % 2 = 0) : EvenColoringSatIff G := by
  constructor
  · rintro ⟨α, hα⟩ C hC
    rw [← (evenColoring_half_degree_sum G hG C hC).2 hdeg]
    exact evenColoring_parity G hG α ((evenColoringF_holds_iff G hG α).1 hα) C hC
  · intro h
    obtain ⟨α, hα⟩ := evenColoring_converse hG hdeg (fun r _ => by
      rw [(evenColoring_half_degree_sum G hG _ (compSet_closed hG r)).2 hdeg]
      exact h _ (compSet_closed hG r))
    exact ⟨α, (evenColoringF_holds_iff G hG α).2 hα⟩

/-- the same for the generator itself: whenever `EvenColoringFormula(G)` is built (no
`ValueError`), it is satisfiable iff every closed vertex set contains an even number of edges -/
theorem evenColoring_generator_sat_iff (G : SimpleG) (hG : GoodGraph G) (F : Formula)
    (hF : evenColoring G = .ok F) :
    (∃ α, F.holds α = true) ↔
      ∀ C : Nat → Bool, (∀ v u, C v = true → u ∈ G.nbrs v → C u = true) → Even (edgesIn G C) := by
  have hdeg := (evenColoring_ok_iff G).1 ⟨F, hF⟩
  have hFe : F = evenColoringF G := by
    unfold evenColoring at hF
    split at hF
    · cases hF
    · cases hF; rfl
  rw [hFe]
  exact evenColoring_sat_iff G hG hdeg

/-- Euler's theorem as used here: in a good graph with all degrees even, the edges of the
component of any vertex `r` form a closed trail of the graph -/
theorem euler_circuit (G : SimpleG) (hG : GoodGraph G)
    (hdeg : ∀ v, 1 ≤ v → v ≤ G.n → (G.nbrs v).length % 2 = 0) (r : Nat) (hr : 1 ≤ r ∧ r ≤ G.n) :
    ∃ (u : ℕ) (p : (toSG G).Walk u u), Reach G r u ∧ p.IsTrail ∧
      ∀ a b, Reach G r a → b ∈ G.nbrs a → s(a, b) ∈ p.edges :=
  exists_euler_circuit hG hdeg hr

def exK3 : SimpleG :=
  ⟨3, 3, [[], [2, 3], [1, 3], [1, 2]], [(3, 1), (1, 3), (3, 2), (2, 3), (2, 1), (1, 2)]⟩

def exC4 : SimpleG :=
  ⟨4, 4, [[], [2, 4], [1, 3], [2, 4], [1, 3]],
    [(4, 1), (1, 4), (4, 3), (3, 4), (3, 2), (2, 3), (2, 1), (1, 2)]⟩

example : SimpleG.ofEdges 3 [(1, 2), (2, 3), (1, 3)] = .ok exK3 ∧ GoodGraph exK3 ∧
    SimpleG.ofEdges 4 [(1, 2), (2, 3), (3, 4), (1, 4)] = .ok exC4 ∧ GoodGraph exC4 := by
  refine ⟨by decide, by decide, by decide, by decide⟩

/-- the triangle is accepted by the generator (all degrees 2) but has 3 edges: unsatisfiable -/
example : (∃ F, evenColoring exK3 = .ok F) ∧ ¬ ∃ α, (evenColoringF exK3).holds α = true := by
  have hdeg : ∀ v, 1 ≤ v → v ≤ exK3.n → (exK3.nbrs v).length % 2 = 0 := by
    intro v h1 h2
    have : v ≤ 3 := h2
    have : v = 1 ∨ v = 2 ∨ v = 3 := by omega
    rcases this with rfl | rfl | rfl <;> decide
  refine ⟨(evenColoring_ok_iff exK3).2 hdeg, fun h => ?_⟩
  have := (evenColoring_sat_iff exK3 (by decide) hdeg).1 h (fun _ => true) (fun _ _ _ _ => rfl)
  revert this; decide

/-- the 4-cycle (one component, 4 edges) is satisfiable: colour the edges 1-2 and 3-4 -/
example : ∃ α, (evenColoringF exC4).holds α = true :=
  ⟨fun i => i == 1 || i == 4, by decide⟩

end Cnfgen.C02
