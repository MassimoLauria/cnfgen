/-
C02 — family generators on simple graphs as TRANSLATED from cnfgen/families/coloring.py and tseitin.py are the family
models (`Fam.coloring`, `Fam.evenColoring`, `Fam.tseitin`), on every graph object with the representation invariant of
`Graph` (C16).  The edge variables go through the translated `GraphEdgesVariables` (Props/C11/GeneratedGraph.lean); the
model's identifier arithmetic (`edgeId`, `upNbrs`, `loNbrs`) is proved equal to that of the auxiliary graph the source's
loop builds (Lemmas/GenAuxBip.lean, GenEdgeId.lean).
-/
import Lemmas.GenFamGraph
import Lemmas.GenEdgeId
import Props.C01.Generated
import Props.C02.Graphs1
set_option linter.unusedSimpArgs false
namespace Cnfgen.C02
open Cnfgen Cnfgen.Vars Cnfgen.PyGen Cnfgen.GenVars Cnfgen.Fam Cnfgen.PyF Cnfgen.GenFam Cnfgen.C11
open Cnfgen.GenAuxBip Cnfgen.GenEdgeId
open Cnfgen.C01 (stateOf formulaOf formulaOf_stateOf gen_non_negative_int_eq)

theorem umap_row_eq (s k v : Nat) : (UMap.mk s 0 k).row v = mapRow s k v := rfl

/-- **`GraphColoringFormula` of the source is `Fam.coloring` of the model**: every integer number of colours (negative:
the same ValueError), both values of `functional`, every graph object with the invariant -/
theorem gen_coloring_eq_model (G : SimpleG) (hG : SimpleG.Inv G) (colors : Int) (functional : Bool) :
    GraphColoringFormula (absGraph G) colors functional = (coloring G colors functional).map stateOf := by
  unfold GraphColoringFormula
  rw [coloring_validation]
  simp only [gen_non_negative_int_eq]
  by_cases hc : colors < 0
  · simp [hc]
  · obtain ⟨k, rfl⟩ := Int.eq_ofNat_of_zero_le (by omega : 0 ≤ colors)
    have hn : (absGraph G).order = (G.n : Int) := rfl
    have hneg : ¬ ((G.n : Int) < 0 ∨ (k : Int) < 0) := by omega
    simp only [hc, if_false, Py.ok_bind, hn, Py.map_ok, Int.toNat_natCast]
    rw [new_mapping_eq PyF.empty 0 rfl, if_neg hneg]
    simp only [Py.tryExcept, Py.ok_bind, Int.toNat_natCast]
    have hw := BipG.wf_complete G.n k
    rw [force_complete_unary_eq _ 0 hw, Py.ok_bind]
    have hgood := goodGraph_of_inv G hG
    have hwf := (coloring_wf G hgood k functional).1
    -- what `force_complete_mapping` and `force_functional_mapping` add are the first two groups of `coloringF`
    have hcomp : (SMap.mk (BipG.complete G.n k) (0 + 1)).forceComplete =
        (rangeN 1 (G.n + 1)).map (fun v => Con.clause (mapRow 1 k v)) := SMap.forceComplete_complete 1 G.n k
    have hfun : (SMap.mk (BipG.complete G.n k) (0 + 1)).forceFunctional =
        (rangeN 1 (G.n + 1)).map (fun v => Con.lin (mapRow 1 k v) .le 1) := SMap.forceFunctional_complete 1 G.n k
    have hnv : ((0 + G.n * k : Nat) : Int) = (((coloringF G k functional).nvars : Nat) : Int) := by
      simp [coloringF]
    cases functional
    case' false => simp only [Bool.false_eq_true, if_false, Py.ok_bind]
    case' true =>
      simp only [if_true]
      rw [force_functional_unary_eq _ 0 hw, Py.ok_bind, Py.ok_bind]
    -- both values of `functional`: the loop over the edges runs on a state with `n·k` variables
    all_goals
      rw [abs_edges]
      apply addAll_wf_after hwf hnv (cs := G.edges.flatMap fun e => (rangeN 1 (k + 1)).map fun c =>
        Con.clause [-(Vars.mapId 1 k e.1 c : Int), -(Vars.mapId 1 k e.2 c : Int)])
      · refine addAll_last (foldlM_addAll_map _ _ _ _ ?_ _)
        intro s e he
        have her := hG.edges_range (u := e.1) (v := e.2) he
        rw [range_toList_nat]
        refine addAll_last (foldlM_adds_map Int.ofNat _ _ _ ?_ _)
        intro s c hc'
        rw [mem_rangeN] at hc'
        simp only [Int.ofNat_eq_natCast,
          unary_call_pair_complete 0 G.n k e.1 c ⟨her.1, by omega⟩ ⟨hc'.1, by omega⟩,
          unary_call_pair_complete 0 G.n k e.2 c ⟨by omega, her.2.2⟩ ⟨hc'.1, by omega⟩, Py.ok_bind,
          Int.toNat_natCast, UMap.lit, UMap.var, Nat.zero_add]
        rfl
      · simp [PyF.empty, coloringF, hcomp, hfun]

/-- `e(u, v)` of the translated group on two adjacent vertices is the model's `edgeId` -/
theorem graph_call_edgeId {G : SimpleG} (hG : SimpleG.Inv G) {B : BipG} (hB : graphAux G = .ok B) {u v : Nat}
    (hadj : v ∈ G.nbrs u) :
    GraphEdgesVariables.call (graphSelf 0 B) [some (u : Int), some (v : Int)] =
      Except.ok (Sum.inl ((edgeId G 1 u v : Nat) : Int)) := by
  have hne := (hG.nbrs_range hadj).2.2.2.2
  -- the auxiliary graph lists the edge from its smaller to its larger end
  have hmem : (min u v, max u v) ∈ B.edgeset := by
    rw [graphAux_mem_edgeset hG hB]
    rcases Nat.lt_or_gt_of_ne hne with hlt' | hgt
    · rw [Nat.min_eq_left (by omega), Nat.max_eq_right (by omega)]; exact ⟨hlt', hadj⟩
    · rw [Nat.min_eq_right (by omega), Nat.max_eq_left (by omega)]; exact ⟨hgt, hG.mem_nbrs_comm.1 hadj⟩
  rw [graph_call_pair 0 (graphAux_spec hB).1 (graphAux_edge_lt hG hB) u v hmem, Nat.zero_add,
    graphAux_bipId_edgeId_of_mem hG hB 1 hadj]

/-- `charges + [False] * (n - len(charges))` when the sequence is shorter than the vertex list -/
theorem pad_eq (n : Nat) (c : List Bool) :
    (if Py.len c < (n : Int) then c ++ List.replicate ((n : Int) - Py.len c).toNat false else c) = padCharges n c := by
  rw [Py.len_eq, padCharges]
  by_cases hlt : c.length < n
  · rw [if_pos (show ((c.length : Nat) : Int) < n by omega), if_pos hlt,
      show ((n : Int) - (c.length : Int)).toNat = n - c.length by omega]
  · rw [if_neg (show ¬ ((c.length : Nat) : Int) < n by omega), if_neg hlt]

theorem gen_tseitin_some (G : SimpleG) (hG : SimpleG.Inv G) (c : List Bool) :
    TseitinFormula (absGraph G) (some c) = Except.ok (stateOf (tseitin G (some c))) := by
  obtain ⟨B, hB⟩ := graphAux_ok G hG
  unfold TseitinFormula
  have hn : (absGraph G).order = (G.n : Int) := rfl
  simp only [hn, List.map_id', pad_eq]
  rw [new_graph_edges_eq PyF.empty 0 rfl hB]
  simp only [Py.ok_bind]
  have hgood := goodGraph_of_inv G hG
  have hnv : ((0 + B.numberOfEdges : Nat) : Int) = (((tseitin G (some c)).nvars : Nat) : Int) := by
    simp [tseitin, graphAux_numberOfEdges_edges hG hB]
  have hzip : List.zip (ints (rangeN 1 (G.n + 1))) (padCharges G.n c) =
      ((rangeN 1 (G.n + 1)).zip (padCharges G.n c)).map (fun p => ((p.1 : Int), p.2)) := by
    simp [ints, List.zip_map_left]
  rw [abs_vertices, hzip]
  refine addAll_wf (Fam.tseitin_wf G hgood (some c)) hnv ?_
  simp only [tseitin, charges]
  refine addAll_last (foldlM_adds_map _ _ _ _ ?_ _)
  intro s p hp
  have hp1 := mem_rangeN.1 (List.of_mem_zip hp).1
  simp only [abs_neighbors G ⟨hp1.1, by omega⟩, Py.ok_bind]
  rw [ints, mapM_map_ok _ _ (fun u => Sum.inl ((edgeId G 1 u p.1 : Nat) : Int)) (G.nbrs p.1) (fun u hu => by
    rw [Int.ofNat_eq_natCast, graph_call_edgeId hG hB (hG.mem_nbrs_comm.1 hu), Py.ok_bind]), Py.ok_bind, lits_inl', Py.ok_bind]
  rfl

/-- **`TseitinFormula` of the source is `Fam.tseitin` of the model**: default charge, explicit charges (padded or cut to the
number of vertices), on every graph object with the invariant -/
theorem gen_tseitin_eq_model (G : SimpleG) (hG : SimpleG.Inv G) (ch : Option (List Bool)) :
    TseitinFormula (absGraph G) ch = Except.ok (stateOf (tseitin G ch)) := by
  cases ch with
  | some c => exact gen_tseitin_some G hG c
  | none =>
    -- the default is the explicit vector `[True] + [False] * (n - 1)`
    have hn : (absGraph G).order = (G.n : Int) := rfl
    have h1 : ((G.n : Int) - 1).toNat = G.n - 1 := by omega
    have : TseitinFormula (absGraph G) none =
        TseitinFormula (absGraph G) (some (true :: List.replicate (G.n - 1) false)) := by
      unfold TseitinFormula
      simp only [hn, h1, List.map_id', List.singleton_append]
    rw [this, gen_tseitin_some G hG]
    rfl

/-- **`EvenColoringFormula` of the source is `Fam.evenColoring` of the model**: the same ValueError when some vertex has
odd degree (raised at the first such vertex), otherwise "exactly half of the incident edges" at every vertex -/
theorem gen_evenColoring_eq_model (G : SimpleG) (hG : SimpleG.Inv G) :
    EvenColoringFormula (absGraph G) = (evenColoring G).map stateOf := by
  obtain ⟨B, hB⟩ := graphAux_ok G hG
  unfold EvenColoringFormula
  simp only []
  rw [new_graph_edges_eq PyF.empty 0 rfl hB]
  simp only [Py.ok_bind]
  have hgood := goodGraph_of_inv G hG
  have hnv : ((0 + B.numberOfEdges : Nat) : Int) = (((evenColoringF G).nvars : Nat) : Int) := by
    simp [evenColoringF, graphAux_numberOfEdges_edges hG hB]
  rw [abs_vertices, ints, show PyF.empty.cons = [] from rfl, foldlM_adds_until (evenColoringF_wf G hgood) hnv Int.ofNat _ _ _ rfl
    (fun v => (G.nbrs v).length % 2 == 1) Err.valueError]
  · unfold evenColoring
    split <;> rfl
  intro s v hv
  have hv' : 1 ≤ v ∧ v ≤ G.n := by have := mem_rangeN.1 hv; omega
  have hwfB := (graphAux_spec hB).1
  have hl : B.l = G.n := (graphAux_spec hB).2.1
  have hr : B.r = G.n := (graphAux_spec hB).2.2.1
  have h2 : (2 : Int) = ((2 : Nat) : Int) := rfl
  rw [Int.ofNat_eq_natCast, abs_degree G hv', Py.ok_bind, h2, Py.mod_nat _ 2 (by omega), Py.ok_bind]
  by_cases hodd : (G.nbrs v).length % 2 = 1
  · rw [if_pos (by omega), if_pos (by simpa using hodd)]
  rw [if_neg (by omega), if_neg (by simpa using hodd),
    graph_indices_row 0 hwfB (graphAux_edge_lt hG hB) v ⟨⟨hv'.1, by omega⟩, ⟨hv'.1, by omega⟩⟩, Py.ok_bind,
    graphAux_lnbrs_loNbrs hG hB, graphAux_rnbrs_upNbrs hG hB]
  have hpairs : (loNbrs G v).map (fun u => (u, v)) ++ (upNbrs G v).map (fun x => (v, x)) = incidentPairs G v := by
    unfold incidentPairs
    congr 2
    symm
    rw [List.filter_eq_self]
    intro a ha
    have := ((mem_upNbrs hgood).1 ha).1
    simp; omega
  rw [hpairs]
  rw [intPairs, mapM_map_ok _ _ (fun p => Sum.inl ((edgeId G 1 p.1 p.2 : Nat) : Int)) (incidentPairs G v) (fun p hp => by
    have hadj : p.2 ∈ G.nbrs p.1 := by
      rw [← hpairs, List.mem_append, List.mem_map, List.mem_map] at hp
      rcases hp with ⟨u, hu, rfl⟩ | ⟨x, hx, rfl⟩
      · rw [← graphAux_lnbrs_loNbrs hG hB] at hu
        have := (graphAux_mem_edgeset hG hB u v).1 ((hwfB.mem_col _ _).1 hu)
        exact this.2
      · rw [← graphAux_rnbrs_upNbrs hG hB] at hx
        have := (graphAux_mem_edgeset hG hB v x).1 ((hwfB.mem_row _ _).1 hx)
        exact this.2
    rw [graph_call_edgeId hG hB hadj, Py.ok_bind]), Py.ok_bind]
  have hlits : (incidentPairs G v).map (fun p => (Sum.inl ((edgeId G 1 p.1 p.2 : Nat) : Int) : Sum Int (List Int))) =
      (incidentLits G v).map Sum.inl := by
    simp [incidentLits, List.map_map, Function.comp_def]
  rw [hlits]
  have hlen : Py.len ((incidentLits G v).map (Sum.inl : Int → Sum Int (List Int))) =
      (((incidentLits G v).length : Nat) : Int) := by simp
  rw [hlen, Py.floordiv_nat _ 2 (by omega), Py.ok_bind, lits_inl, Py.ok_bind]
  rfl

/-- **the Tseitin formula of the source** on every graph object with the invariant `add_edge` maintains and every charge
vector: one variable per edge; an assignment satisfies it (abstract constraints, CNF, OPB) iff at every vertex the xor of
the incident edge variables is the charge; and it is satisfiable iff every connected component carries an even number of
odd charges -/
theorem gen_tseitin_spec (G : SimpleG) (hG : SimpleG.Inv G) (ch : Option (List Bool)) :
    ∃ s : FState, TseitinFormula (absGraph G) ch = Except.ok s ∧ s.numvar = ((G.m : Nat) : Int) ∧
      (∀ α, ((formulaOf s).holds α = true ↔ TseitinSpec G ch α) ∧
        ((formulaOf s).toCNF.holds α = true ↔ TseitinSpec G ch α) ∧
        ((formulaOf s).toOPB.holds α = true ↔ TseitinSpec G ch α)) ∧
      ((∃ α, (formulaOf s).holds α = true) ↔
        ∀ C : Nat → Bool, (∀ v u, C v = true → u ∈ G.nbrs v → C u = true) →
          Even ((Finset.Icc 1 G.n).filter (fun v => C v = true ∧ chargeAt G.n ch v = true)).card) := by
  have hgood := goodGraph_of_inv G hG
  refine ⟨stateOf (tseitin G ch), gen_tseitin_eq_model G hG ch, ?_, ?_, ?_⟩
  · have := (tseitin_wf G hgood ch).2
    simp only [stateOf]; exact_mod_cast this
  · intro α
    rw [formulaOf_stateOf]
    exact ⟨tseitin_holds G ch α, tseitin_cnf G hgood ch α, tseitin_opb G hgood ch α⟩
  · rw [formulaOf_stateOf]
    exact tseitin_sat_iff G hgood ch

/-- **the k-colouring formula of the source**: `n·k` variables; an assignment satisfies it (abstract constraints, CNF,
OPB) iff every vertex has a colour (only one when `functional`) and no edge has both ends in one colour; it is
satisfiable iff the graph has a proper `k`-colouring -/
theorem gen_coloring_spec (G : SimpleG) (hG : SimpleG.Inv G) (k : Nat) (fn : Bool) :
    ∃ s : FState, GraphColoringFormula (absGraph G) (k : Int) fn = Except.ok s ∧
      s.numvar = ((G.n * k : Nat) : Int) ∧
      (∀ α, ((formulaOf s).holds α = true ↔ ColoringSpec G k fn α) ∧
        ((formulaOf s).toCNF.holds α = true ↔ ColoringSpec G k fn α) ∧
        ((formulaOf s).toOPB.holds α = true ↔ ColoringSpec G k fn α)) ∧
      ((∃ α, (formulaOf s).holds α = true) ↔ ∃ col, ProperColoring G k col) := by
  have hgood := goodGraph_of_inv G hG
  refine ⟨stateOf (coloringF G k fn), ?_, rfl, ?_, ?_⟩
  · rw [gen_coloring_eq_model G hG, coloring_validation]
    have : ¬ ((k : Int) < 0) := by omega
    simp [this]
  · intro α
    rw [formulaOf_stateOf]
    exact ⟨coloring_holds G k fn α, coloring_cnf G hgood k fn α, coloring_opb G hgood k fn α⟩
  · rw [formulaOf_stateOf]
    exact coloring_sat_iff G hgood k fn

/-- **the even colouring formula of the source**: refused (ValueError) exactly when some vertex has odd degree; otherwise
the models are the edge colourings with exactly half of the edges at every vertex true -/
theorem gen_evenColoring_spec (G : SimpleG) (hG : SimpleG.Inv G) :
    ((∃ s, EvenColoringFormula (absGraph G) = Except.ok s) ↔ ∀ v, 1 ≤ v → v ≤ G.n → (G.nbrs v).length % 2 = 0) ∧
    (∀ s, EvenColoringFormula (absGraph G) = Except.ok s → s.numvar = ((G.m : Nat) : Int) ∧
      ∀ α, ((formulaOf s).holds α = true ↔ EvenColoringSpec G α) ∧
        ((formulaOf s).toCNF.holds α = true ↔ EvenColoringSpec G α) ∧
        ((formulaOf s).toOPB.holds α = true ↔ EvenColoringSpec G α)) ∧
    (∀ e, EvenColoringFormula (absGraph G) = Except.error e → e = Err.valueError) := by
  have hgood := goodGraph_of_inv G hG
  have hval := evenColoring_validation G
  rw [gen_evenColoring_eq_model G hG]
  refine ⟨?_, ?_, ?_⟩
  · rw [← hval.1]
    constructor
    · rintro ⟨s, hs⟩
      cases hF : evenColoring G with
      | error e => rw [hF] at hs; cases hs
      | ok F => exact ⟨F, rfl⟩
    · rintro ⟨F, hF⟩; exact ⟨stateOf F, by rw [hF]; rfl⟩
  · intro s hs
    cases hF : evenColoring G with
    | error e => rw [hF] at hs; cases hs
    | ok F =>
      rw [hF] at hs
      have hFe := hval.2.1 F hF
      subst hFe
      have hs' : s = stateOf (evenColoringF G) := (Except.ok.inj hs).symm
      subst hs'
      refine ⟨?_, ?_⟩
      · have := (evenColoring_wf G hgood).2
        simp only [stateOf]; exact_mod_cast this
      · intro α
        rw [formulaOf_stateOf]
        exact ⟨evenColoring_holds G hgood α, evenColoring_cnf G hgood α, evenColoring_opb G hgood α⟩
  · intro e he
    cases hF : evenColoring G with
    | error e' =>
      rw [hF] at he
      have : e' = e := Except.error.inj he
      rw [← this]; exact hval.2.2 e' hF
    | ok F => rw [hF] at he; cases he

end Cnfgen.C02
