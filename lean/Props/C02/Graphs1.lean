/-
C02 (first half) — graph-problem families: Tseitin, k-colouring, even colouring, dominating set
(both encodings), tiling.  Property theorems only; helper lemmas are in `Lemmas/Fam*.lean`.

Every family model is a `Formula` (list of abstract constraints); `…_holds` theorems are about
its arithmetic meaning, `…_cnf` / `…_opb` transfer them to the two renderings that the
correspondence harness compares with the real code.  `GoodGraph G` is the invariant of
`cnfgen.graphs.Graph` objects (sorted, symmetric, loop-free adjacency within `1..n`).
-/
import Lemmas.FamTseitin
import Lemmas.FamTseitinConv
import Lemmas.FamColoring
import Lemmas.FamDomSet
namespace Cnfgen.C02
open Cnfgen Cnfgen.Fam Cnfgen.Vars

/-- non-vacuity of the hypothesis `GoodGraph`: a disconnected graph with an isolated vertex,
obtained through `add_edge` -/
example : GoodGraph exG ∧ SimpleG.ofEdges 6 [(1, 2), (2, 3), (1, 3), (4, 5)] = .ok exG :=
  ⟨exG_good, exG_reachable⟩

/-- `G.edges()` of a good graph: the pairs `u < v` with `v` adjacent to `u` (this is the edge
relation used by `ProperColoring` and by the edge variables) -/
theorem edges_spec (G : SimpleG) (hG : GoodGraph G) (u v : Nat) :
    (u, v) ∈ G.edges ↔ u < v ∧ v ∈ G.nbrs u ∧ u ≤ G.n :=
  mem_edges hG

/-- T-C02.1a all literals are edge variables `1..|E|`; the variable count is the edge count -/
theorem tseitin_wf (G : SimpleG) (hG : GoodGraph G) (ch : Option (List Bool)) :
    (tseitin G ch).WF ∧ (tseitin G ch).nvars = G.m :=
  ⟨Fam.tseitin_wf G hG ch, hG.2.1.symm⟩

/-- distinct edges have distinct variables, all within `start .. start+|E|-1` -/
theorem edge_variables (G : SimpleG) (hG : GoodGraph G) (s : Nat) {u v u' v' : Nat}
    (huv : u < v) (hv : v ∈ G.nbrs u) (hu : u ≤ G.n)
    (huv' : u' < v') (hv' : v' ∈ G.nbrs u') (hu' : u' ≤ G.n) :
    (s ≤ edgeId G s u v ∧ edgeId G s u v < s + G.edges.length) ∧
    (edgeId G s u v = edgeId G s u' v' → u = u' ∧ v = v') :=
  ⟨edgeId_bounds hG s hu hv, edgeId_inj hG s huv hv hu huv' hv' hu'⟩

/-- T-C02.1b specification: `α` satisfies the formula iff at every vertex the xor of the incident
edge variables is the charge of the vertex (every graph value, every charge vector, every α) -/
theorem tseitin_holds (G : SimpleG) (ch : Option (List Bool)) (α : Assign) :
    (tseitin G ch).holds α = true ↔ TseitinSpec G ch α :=
  tseitin_holds_iff G ch α

/-- the charges: default = odd on vertex 1 only; explicit = entry `v`, `False` beyond the end
(padding), entries beyond `n` never used (truncation) -/
theorem tseitin_charges (n v : Nat) (hv : 1 ≤ v) (c : List Bool) :
    chargeAt n none v = decide (v = 1) ∧ chargeAt n (some c) v = c.getD (v - 1) false :=
  ⟨chargeAt_none n v hv, chargeAt_some n c v⟩

theorem tseitin_cnf (G : SimpleG) (hG : GoodGraph G) (ch : Option (List Bool)) (α : Assign) :
    (tseitin G ch).toCNF.holds α = true ↔ TseitinSpec G ch α := by
  rw [Formula.toCNF_holds α _ (Fam.tseitin_wf G hG ch)]; exact tseitin_holds_iff G ch α

theorem tseitin_opb (G : SimpleG) (hG : GoodGraph G) (ch : Option (List Bool)) (α : Assign) :
    (tseitin G ch).toOPB.holds α = true ↔ TseitinSpec G ch α := by
  rw [Formula.toOPB_holds α _ (Fam.tseitin_wf G hG ch)]; exact tseitin_holds_iff G ch α

/-- The documented criterion: satisfiable iff every connected component has an even number of
odd-charged vertices.  A vertex set closed under adjacency is a union of components and every
component is such a set, so the criterion reads: -/
def TseitinSatIff (G : SimpleG) (ch : Option (List Bool)) : Prop :=
  (∃ α, (tseitin G ch).holds α = true) ↔
    ∀ C : Nat → Bool, (∀ v u, C v = true → u ∈ G.nbrs v → C u = true) →
      Even ((Finset.Icc 1 G.n).filter (fun v => C v = true ∧ chargeAt G.n ch v = true)).card

/-- T-C02.1c the "only if" half — sum of the vertex equations over a closed vertex set, every
internal edge counted twice -/
theorem tseitin_sat_components (G : SimpleG) (hG : GoodGraph G) (ch : Option (List Bool))
    (h : ∃ α, (tseitin G ch).holds α = true) (C : Nat → Bool)
    (hC : ∀ v u, C v = true → u ∈ G.nbrs v → C u = true) :
    Even ((Finset.Icc 1 G.n).filter (fun v => C v = true ∧ chargeAt G.n ch v = true)).card := by
  obtain ⟨α, hα⟩ := h
  exact tseitin_parity G hG ch α ((tseitin_holds_iff G ch α).1 hα) C hC

/-- T-C02.1d the full criterion, both directions (the converse repairs defective vertices in
pairs by flipping the edge variables along a walk; `Lemmas/FamTseitinConv.lean`).
The model count `2^(|E|-|V|+c)` of a satisfiable instance is `tseitin_model_count` in
`Props/C02/TseitinCount.lean`. -/
theorem tseitin_sat_iff (G : SimpleG) (hG : GoodGraph G) (ch : Option (List Bool)) :
    TseitinSatIff G ch := by
  constructor
  · intro h C hC; exact tseitin_sat_components G hG ch h C hC
  · intro h
    obtain ⟨α, hα⟩ := tseitin_converse hG ch h
    exact ⟨α, (tseitin_holds_iff G ch α).2 hα⟩

/-- non-vacuity: on `exG` with default charges the closed set {1,2,3} (the triangle) contains the
single odd vertex, so the formula is unsatisfiable -/
example : ¬ ∃ α, (tseitin exG none).holds α = true := by
  intro h
  have := tseitin_sat_components exG exG_good none h (fun v => decide (v ≤ 3))
    exG_triangle_closed
  revert this; decide

/-- T-C02.2a parameter validation: negative `colors` is refused with `ValueError`, everything
else is accepted -/
theorem coloring_validation (G : SimpleG) (k : Int) (fn : Bool) :
    coloring G k fn = if k < 0 then .error .valueError else .ok (coloringF G k.toNat fn) := rfl

theorem coloring_wf (G : SimpleG) (hG : GoodGraph G) (k : Nat) (fn : Bool) :
    (coloringF G k fn).WF ∧ (coloringF G k fn).nvars = G.n * k :=
  ⟨coloringF_wf G hG k fn, rfl⟩

/-- T-C02.2b specification: every vertex has a colour, at most one if `functional`, and no edge
is monochromatic -/
theorem coloring_holds (G : SimpleG) (k : Nat) (fn : Bool) (α : Assign) :
    (coloringF G k fn).holds α = true ↔ ColoringSpec G k fn α :=
  coloringF_holds_iff G k fn α

theorem coloring_cnf (G : SimpleG) (hG : GoodGraph G) (k : Nat) (fn : Bool) (α : Assign) :
    (coloringF G k fn).toCNF.holds α = true ↔ ColoringSpec G k fn α := by
  rw [Formula.toCNF_holds α _ (coloringF_wf G hG k fn)]; exact coloringF_holds_iff G k fn α

theorem coloring_opb (G : SimpleG) (hG : GoodGraph G) (k : Nat) (fn : Bool) (α : Assign) :
    (coloringF G k fn).toOPB.holds α = true ↔ ColoringSpec G k fn α := by
  rw [Formula.toOPB_holds α _ (coloringF_wf G hG k fn)]; exact coloringF_holds_iff G k fn α

/-- T-C02.2c satisfiable iff a proper `k`-colouring exists (both values of `functional`; in
particular unsatisfiable for `k = 0` on a non-empty graph) -/
theorem coloring_sat_iff (G : SimpleG) (hG : GoodGraph G) (k : Nat) (fn : Bool) :
    (∃ α, (coloringF G k fn).holds α = true) ↔ ∃ col, ProperColoring G k col := by
  constructor
  · rintro ⟨α, h⟩
    exact ⟨toCol k α, coloring_toCol_proper G hG k fn α ((coloringF_holds_iff G k fn α).1 h)⟩
  · rintro ⟨col, h⟩
    exact ⟨ofCol k col, (coloringF_holds_iff G k fn _).2 (coloring_ofCol_spec G hG k fn col h)⟩

/-- T-C02.2d with `functional`, models (restricted to the `n·k` variables) and proper colourings
(restricted to the vertices) are in bijection through `toCol` / `ofCol`: both maps land in the
right set and are inverse to each other — so the model count is the number of proper colourings -/
theorem coloring_bijection (G : SimpleG) (hG : GoodGraph G) (k : Nat) :
    (∀ α, (coloringF G k true).holds α = true → ProperColoring G k (toCol k α)) ∧
    (∀ col, ProperColoring G k col → (coloringF G k true).holds (ofCol k col) = true) ∧
    (∀ col, ProperColoring G k col → ∀ v, 1 ≤ v → v ≤ G.n → toCol k (ofCol k col) v = col v) ∧
    (∀ α, (coloringF G k true).holds α = true →
      ∀ x, 1 ≤ x → x ≤ (coloringF G k true).nvars → ofCol k (toCol k α) x = α x) :=
  ⟨fun α h => coloring_toCol_proper G hG k true α ((coloringF_holds_iff G k true α).1 h),
   fun col h => (coloringF_holds_iff G k true _).2 (coloring_ofCol_spec G hG k true col h),
   fun col h v h1 h2 => toCol_ofCol G k col h.1 v h1 h2,
   fun α h x h1 h2 => ofCol_toCol G k α ((coloringF_holds_iff G k true α).1 h) x h1 h2⟩

/-- non-vacuity: the triangle inside `exG` has no proper 2-colouring, hence the formula with two
colours is unsatisfiable -/
example : ¬ ∃ α, (coloringF exG 2 true).holds α = true := by
  rw [coloring_sat_iff exG exG_good 2 true]
  rintro ⟨col, hr, hp⟩
  have h12 := hp (1, 2) (by decide)
  have h23 := hp (2, 3) (by decide)
  have h13 := hp (1, 3) (by decide)
  have r1 := hr 1 (by decide) (by decide)
  have r2 := hr 2 (by decide) (by decide)
  have r3 := hr 3 (by decide) (by decide)
  simp only at h12 h23 h13
  omega

/-- T-C02.3a the generator refuses exactly the graphs with a vertex of odd degree -/
theorem evenColoring_validation (G : SimpleG) :
    ((∃ F, evenColoring G = .ok F) ↔ ∀ v, 1 ≤ v → v ≤ G.n → (G.nbrs v).length % 2 = 0) ∧
    (∀ F, evenColoring G = .ok F → F = evenColoringF G) ∧
    (∀ e, evenColoring G = .error e → e = .valueError) := by
  refine ⟨evenColoring_ok_iff G, ?_, ?_⟩
  · intro F h; unfold evenColoring at h; split at h
    · cases h
    · cases h; rfl
  · intro e h; unfold evenColoring at h; split at h
    · cases h; rfl
    · cases h

theorem evenColoring_wf (G : SimpleG) (hG : GoodGraph G) :
    (evenColoringF G).WF ∧ (evenColoringF G).nvars = G.m :=
  ⟨evenColoringF_wf G hG, hG.2.1.symm⟩

/-- T-C02.3b specification: at every vertex exactly half of the incident edges are true -/
theorem evenColoring_holds (G : SimpleG) (hG : GoodGraph G) (α : Assign) :
    (evenColoringF G).holds α = true ↔ EvenColoringSpec G α :=
  evenColoringF_holds_iff G hG α

theorem evenColoring_cnf (G : SimpleG) (hG : GoodGraph G) (α : Assign) :
    (evenColoringF G).toCNF.holds α = true ↔ EvenColoringSpec G α := by
  rw [Formula.toCNF_holds α _ (evenColoringF_wf G hG)]; exact evenColoringF_holds_iff G hG α

theorem evenColoring_opb (G : SimpleG) (hG : GoodGraph G) (α : Assign) :
    (evenColoringF G).toOPB.holds α = true ↔ EvenColoringSpec G α := by
  rw [Formula.toOPB_holds α _ (evenColoringF_wf G hG)]; exact evenColoringF_holds_iff G hG α

/-- T-C02.3c (the handshake half) "satisfiable only on graphs with an even number of edges in each
component": over a vertex set closed under adjacency the half-degrees sum to an even number.
The identification of that sum with the number of edges inside the set and the converse (alternate
the colours along an Euler circuit) are in `Props/C02/EvenColoringSat.lean` (`evenColoring_sat_iff`). -/
theorem evenColoring_sat_components_partial (G : SimpleG) (hG : GoodGraph G)
    (h : ∃ α, (evenColoringF G).holds α = true) (C : Nat → Bool)
    (hC : ∀ v u, C v = true → u ∈ G.nbrs v → C u = true) :
    Even (∑ v ∈ (Finset.Icc 1 G.n).filter (fun v => C v = true), (G.nbrs v).length / 2) := by
  obtain ⟨α, hα⟩ := h
  exact evenColoring_parity G hG α ((evenColoringF_holds_iff G hG α).1 hα) C hC

/-- T-C02.4a `unique_neighborhoods` lists exactly the closed neighbourhoods `N[v]`, `v ∈ 1..n` -/
theorem uniqueNeighborhoods_spec (G : SimpleG) (N : List Nat) :
    N ∈ uniqueNeighborhoods G ↔ ∃ v, 1 ≤ v ∧ v ≤ G.n ∧ N = closedNbr G v :=
  mem_uniqueNeighborhoods

/-- "Each neighborhood is listed just once. Each one is sorted and they are enumerated in a sorted
fashion": the list is strictly increasing for Python's list order (`lexLe`), hence duplicate-free
— one clause per distinct closed neighbourhood — and every member is a sorted list -/
theorem uniqueNeighborhoods_once (G : SimpleG) :
    (uniqueNeighborhoods G).Pairwise (fun a b => lexLe a b = true ∧ a ≠ b) ∧
    (uniqueNeighborhoods G).Nodup ∧
    ∀ N ∈ uniqueNeighborhoods G, N.Pairwise (· ≤ ·) := by
  refine ⟨uniqueNeighborhoods_sorted G, uniqueNeighborhoods_nodup G, fun N hN => ?_⟩
  obtain ⟨v, _, _, rfl⟩ := mem_uniqueNeighborhoods.1 hN
  exact closedNbr_sorted G v

theorem closedNbr_spec (G : SimpleG) (v u : Nat) : u ∈ closedNbr G v ↔ u = v ∨ u ∈ G.nbrs v :=
  mem_closedNbr

/-- T-C02.4b parameter validation: `d < 1` is refused with `ValueError` -/
theorem domset_validation (G : SimpleG) (d : Int) (alt : Bool) :
    domset G d alt = if d < 1 then .error .valueError else .ok (domsetF G d.toNat alt) := rfl

theorem domset_wf (G : SimpleG) (hG : GoodGraph G) (d : Nat) (alt : Bool) :
    (domsetF G d alt).WF ∧ (domsetF G d alt).nvars = G.n + G.n * d :=
  ⟨domsetF_wf G hG d alt, domsetF_nvars G d alt⟩

/-- T-C02.4c what the variables say, default encoding -/
theorem domset_std_holds (G : SimpleG) (hG : GoodGraph G) (d : Nat) (α : Assign) :
    (domsetF G d false).holds α = true ↔ DomSpecStd G d α :=
  domsetF_std_holds_iff G hG d α

/-- T-C02.4d what the variables say, alternative encoding -/
theorem domset_alt_holds (G : SimpleG) (hG : GoodGraph G) (d : Nat) (α : Assign) :
    (domsetF G d true).holds α = true ↔ DomSpecAlt G d α :=
  domsetF_alt_holds_iff G hG d α

theorem domset_cnf (G : SimpleG) (hG : GoodGraph G) (d : Nat) (alt : Bool) (α : Assign) :
    (domsetF G d alt).toCNF.holds α = (domsetF G d alt).holds α :=
  Formula.toCNF_holds α _ (domsetF_wf G hG d alt)

theorem domset_opb (G : SimpleG) (hG : GoodGraph G) (d : Nat) (alt : Bool) (α : Assign) :
    (domsetF G d alt).toOPB.holds α = (domsetF G d alt).holds α :=
  Formula.toOPB_holds α _ (domsetF_wf G hG d alt)

/-- T-C02.4e satisfiable iff `G` has a dominating set with at most `d` vertices — both encodings.
Moreover (`domset_models_project`) the `D` part of any model IS such a set, and every such set is the `D` part of a model. -/
theorem domset_sat_iff (G : SimpleG) (hG : GoodGraph G) (d : Nat) (alt : Bool) :
    (∃ α, (domsetF G d alt).holds α = true) ↔ ∃ S, Dominating G S ∧ S.length ≤ d :=
  ⟨fun ⟨α, h⟩ => ⟨_, domsetF_sound G hG d alt α h⟩,
   fun ⟨S, hS, hd⟩ => ⟨_, domsetF_complete G hG d alt S hS hd⟩⟩

theorem domset_models_project (G : SimpleG) (hG : GoodGraph G) (d : Nat) (alt : Bool) :
    (∀ α, (domsetF G d alt).holds α = true → Dominating G (domOf G α) ∧ (domOf G α).length ≤ d) ∧
    (∀ S, Dominating G S → S.length ≤ d →
      (domsetF G d alt).holds (domAssign G.n d S) = true ∧
      ∀ v, v ≤ G.n → (domAssign G.n d S v = true ↔ v ∈ S)) :=
  ⟨domsetF_sound G hG d alt, fun S hS hd =>
    ⟨domsetF_complete G hG d alt S hS hd, fun v hv => by rw [domAssign_D hv]; simp⟩⟩

/-- non-vacuity: `{1, 4, 6}` dominates `exG`, so `d = 3` is satisfiable -/
example : ∃ α, (domsetF exG 3 false).holds α = true :=
  (domset_sat_iff exG exG_good 3 false).2 ⟨[1, 4, 6], exG_dominating, by decide⟩

theorem tiling_wf (G : SimpleG) (hG : GoodGraph G) : (tiling G).WF ∧ (tiling G).nvars = G.n :=
  ⟨Fam.tiling_wf G hG, rfl⟩

/-- T-C02.5a specification: every closed neighbourhood contains exactly one chosen vertex -/
theorem tiling_holds (G : SimpleG) (hG : GoodGraph G) (α : Assign) :
    (tiling G).holds α = true ↔ TilingSpec G α :=
  tiling_holds_iff G hG α

theorem tiling_cnf (G : SimpleG) (hG : GoodGraph G) (α : Assign) :
    (tiling G).toCNF.holds α = true ↔ TilingSpec G α := by
  rw [Formula.toCNF_holds α _ (Fam.tiling_wf G hG)]; exact tiling_holds_iff G hG α

theorem tiling_opb (G : SimpleG) (hG : GoodGraph G) (α : Assign) :
    (tiling G).toOPB.holds α = true ↔ TilingSpec G α := by
  rw [Formula.toOPB_holds α _ (Fam.tiling_wf G hG)]; exact tiling_holds_iff G hG α

/-- T-C02.5b satisfiable iff the graph has a tiling (perfect dominating set); the variables are
the witness: the chosen set of a model is a tiling, the indicator of a tiling is a model -/
theorem tiling_sat_iff (G : SimpleG) (hG : GoodGraph G) :
    (∃ α, (tiling G).holds α = true) ↔ ∃ S, IsTiling G S := by
  constructor
  · rintro ⟨α, h⟩
    exact ⟨domOf G α, tiling_sound G hG α ((tiling_holds_iff G hG α).1 h)⟩
  · rintro ⟨S, hS⟩
    exact ⟨fun u => decide (u ∈ S), (tiling_holds_iff G hG _).2 (tiling_complete G S hS)⟩

/-- non-vacuity: `{1, 4, 6}` tiles `exG` -/
example : ∃ α, (tiling exG).holds α = true :=
  (tiling_sat_iff exG exG_good).2 ⟨[1, 4, 6], exG_tiling⟩

end Cnfgen.C02
