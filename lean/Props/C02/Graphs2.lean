/-
C02 (second half) — graph isomorphism / automorphism, (induced) subgraph, k-clique (unary and binary,
with and without symmetry breaking), Ramsey witness: the formula holds under an assignment exactly
when the assignment encodes the documented witness.
Property theorems only; helper lemmas are in `Lemmas/Fam*.lean`.  `GoodGraph` is `Fam.G2.GoodGraph` of
`Lemmas/FamIso.lean` here (`has_edge` symmetric and irreflexive), not the `Fam.GoodGraph` that `Graphs1.lean` assumes.
-/
import Lemmas.FamIso
import Lemmas.FamSubgraph
import Lemmas.FamRamseyWitness
import Lemmas.FamBinary
import Lemmas.FamCount
import Lemmas.Constr
namespace Cnfgen.C02
open Cnfgen Cnfgen.Fam.G2 Vars

/-- `i` is a vertex of a graph of order `n` (vertices are `1 … n`) -/
def V (n i : Nat) : Prop := 1 ≤ i ∧ i ≤ n

/-- the relation `i ↦ j` that `α` induces through the mapping variables (first identifier `st`,
range of size `N`): the documented meaning of `x_{i,j}` / `s_{i,j}` -/
def Rel (st N : Nat) (α : Assign) (i j : Nat) : Prop := α (mapId st N i j) = true

theorem forall_lt_iff_forall {n : Nat} {P : Nat → Nat → Prop} (hsymm : ∀ i i', P i i' → P i' i)
    (hrefl : ∀ i, P i i) :
    (∀ i, 1 ≤ i → ∀ i', i < i' → i' ≤ n → P i i') ↔ ∀ i i', V n i → V n i' → P i i' := by
  constructor
  · rintro h i i' ⟨a, b⟩ ⟨a', b'⟩
    rcases Nat.lt_trichotomy i i' with hlt | rfl | hgt
    · exact h i a i' hlt b'
    · exact hrefl i
    · exact hsymm _ _ (h i' a' i hgt b)
  · intro h i a i' hlt b'
    exact h i i' ⟨a, by omega⟩ ⟨by omega, b'⟩

/-! ## T-C02.6 graph isomorphism -/

/-- the relation induced by `α` is a bijection `V₁ → V₂` preserving edges and non-edges -/
def IsoSpec (G1 G2 : SimpleG) (α : Assign) : Prop :=
  (∀ i, V G1.n i → ∃ j, V G2.n j ∧ Rel 1 G2.n α i j ∧ ∀ j', V G2.n j' → Rel 1 G2.n α i j' → j' = j) ∧
  (∀ j, V G2.n j → ∃ i, V G1.n i ∧ Rel 1 G2.n α i j ∧ ∀ i', V G1.n i' → Rel 1 G2.n α i' j → i' = i) ∧
  (∀ i i' j j', V G1.n i → V G1.n i' → V G2.n j → V G2.n j' →
      Rel 1 G2.n α i j → Rel 1 G2.n α i' j' → adj G1 i i' = adj G2 j j')

theorem graphIsomorphism_nvars (G1 G2 : SimpleG) : (graphIsomorphism G1 G2).nvars = G1.n * G2.n := rfl

theorem graphIsomorphism_wf (G1 G2 : SimpleG) : (graphIsomorphism G1 G2).WF :=
  wf_of_consIn (graphIsomorphism_consIn G1 G2)

/-- `l = [f 1, …, f n₁]` is the table of an isomorphism `f : V₁ → V₂` -/
structure IsIsoTable (G1 G2 : SimpleG) (l : List Nat) : Prop where
  len : l.length = G1.n
  rng : ∀ v ∈ l, 1 ≤ v ∧ v ≤ G2.n
  nodup : l.Nodup
  onto : ∀ j, 1 ≤ j → j ≤ G2.n → j ∈ l
  edges : ∀ i i', V G1.n i → V G1.n i' → adj G1 i i' = adj G2 (img l i) (img l i')

/-- the satisfying assignments are exactly the encodings of isomorphism tables -/
theorem graphIsomorphism_holds_iff_table (G1 G2 : SimpleG) (h1 : GoodGraph G1) (h2 : GoodGraph G2) (α : Assign) :
    (graphIsomorphism G1 G2).holds α = true ↔ ∃ l, IsIsoTable G1 G2 l ∧ EncL 1 G1.n G2.n α l := by
  simp only [Formula.holds, graphIsomorphism, List.all_append, Bool.and_eq_true, List.all_eq_true]
  rw [forceComplete_holds α _ _ (Nat.le_refl 1), forceSurjective_holds α _ _ (Nat.le_refl 1),
    forceFunctional_holds α _ _ (Nat.le_refl 1), forceInjective_holds α _ _ (Nat.le_refl 1)]
  have edges : ∀ {l : List Nat}, EncL 1 G1.n G2.n α l → l.Nodup →
      ((∀ c ∈ isoEdgeCons G1 G2, Con.holds α c = true) ↔
        ∀ i i', V G1.n i → V G1.n i' → adj G1 i i' = adj G2 (img l i) (img l i')) := fun hl hnd =>
    (isoEdges_iff h2 hl hnd).trans
      (forall_lt_iff_forall (P := fun i i' => adj G1 i i' = adj G2 (img _ i) (img _ i'))
        (fun i i' h => by rw [h1.symm, h2.symm]; exact h) (fun i => by rw [h1.irrefl, h2.irrefl]))
  constructor
  · rintro ⟨⟨⟨⟨hc, hs⟩, hf⟩, hi⟩, he⟩
    obtain ⟨l, hl⟩ := TotFun.exists_encL (st := 1) ⟨hc, hf⟩
    have hnd := hl.injective_iff.1 hi
    exact ⟨l, ⟨hl.len, hl.rng, hnd, hl.surjective_iff.1 hs, (edges hl hnd).1 he⟩, hl⟩
  · rintro ⟨l, ⟨_, _, hnd, honto, hedges⟩, hl⟩
    exact ⟨⟨⟨⟨hl.totFun.1, hl.surjective_iff.2 honto⟩, hl.totFun.2⟩, hl.injective_iff.2 hnd⟩,
      (edges hl hnd).2 hedges⟩

theorem graphIsomorphism_tabular (G1 G2 : SimpleG) (h1 : GoodGraph G1) (h2 : GoodGraph G2) :
    Tabular (graphIsomorphism G1 G2) G1.n G2.n (IsIsoTable G1 G2) :=
  ⟨rfl, graphIsomorphism_wf G1 G2, graphIsomorphism_holds_iff_table G1 G2 h1 h2, fun _ hl => ⟨hl.len, hl.rng⟩⟩

/-- the relation of an assignment is an isomorphism exactly when the assignment encodes an isomorphism table -/
theorem isoSpec_iff_table (G1 G2 : SimpleG) (α : Assign) :
    IsoSpec G1 G2 α ↔ ∃ l, IsIsoTable G1 G2 l ∧ EncL 1 G1.n G2.n α l := by
  unfold IsoSpec V Rel
  constructor
  · rintro ⟨ht, hb, he⟩
    have htf : TotFun 1 G1.n G2.n α := by
      constructor
      · intro i a b; obtain ⟨j, hj, r, _⟩ := ht i ⟨a, b⟩; exact ⟨j, hj.1, hj.2, r⟩
      · intro i a b j c d j' c' d' r r'
        obtain ⟨j0, _, _, hu⟩ := ht i ⟨a, b⟩
        rw [hu j ⟨c, d⟩ r, hu j' ⟨c', d'⟩ r']
    obtain ⟨l, hl⟩ := htf.exists_encL
    refine ⟨l, ⟨hl.len, hl.rng, ?_, ?_, ?_⟩, hl⟩
    · rw [← hl.injective_iff]
      intro j a b i c d i' c' d' r r'
      obtain ⟨i0, _, _, hu⟩ := hb j ⟨a, b⟩
      rw [hu i ⟨c, d⟩ r, hu i' ⟨c', d'⟩ r']
    · rw [← hl.surjective_iff]
      intro j a b; obtain ⟨i, hi, r, _⟩ := hb j ⟨a, b⟩; exact ⟨i, hi.1, hi.2, r⟩
    · rintro i i' ⟨a, b⟩ ⟨a', b'⟩
      exact he i i' _ _ ⟨a, b⟩ ⟨a', b'⟩ (hl.img_rng a b) (hl.img_rng a' b') (hl.holds_img a b) (hl.holds_img a' b')
  · rintro ⟨l, ⟨_, _, hnd, honto, hedges⟩, hl⟩
    refine ⟨?_, ?_, ?_⟩
    · rintro i ⟨a, b⟩
      refine ⟨img l i, hl.img_rng a b, hl.holds_img a b, ?_⟩
      intro j' hj' r
      exact ((hl.enc _ a b _ hj'.1 hj'.2).1 r).symm
    · rintro j ⟨a, b⟩
      obtain ⟨i, i1, i2, r⟩ := (hl.surjective_iff.2 honto) j a b
      refine ⟨i, ⟨i1, i2⟩, r, ?_⟩
      intro i' hi' r'
      exact (hl.injective_iff.2 hnd) j a b i' hi'.1 hi'.2 i i1 i2 r' r
    · rintro i i' j j' ⟨a, b⟩ ⟨a', b'⟩ ⟨c, d⟩ ⟨c', d'⟩ r r'
      rw [← (hl.enc _ a b _ c d).1 r, ← (hl.enc _ a' b' _ c' d').1 r']
      exact hedges i i' ⟨a, b⟩ ⟨a', b'⟩

/-- specification theorem: for all graphs and all assignments -/
theorem graphIsomorphism_holds (G1 G2 : SimpleG) (h1 : GoodGraph G1) (h2 : GoodGraph G2) (α : Assign) :
    (graphIsomorphism G1 G2).holds α = true ↔ IsoSpec G1 G2 α :=
  (graphIsomorphism_holds_iff_table G1 G2 h1 h2 α).trans (isoSpec_iff_table G1 G2 α).symm

/-- non-vacuity: the identity on the path `1-2-3` -/
example : IsoSpec ⟨3, 2, [[], [2], [1, 3], [2]], [(3, 2), (2, 3), (2, 1), (1, 2)]⟩
    ⟨3, 2, [[], [2], [1, 3], [2]], [(3, 2), (2, 3), (2, 1), (1, 2)]⟩ (encode 1 3 3 [1, 2, 3]) := by
  have hg : GoodGraph ⟨3, 2, [[], [2], [1, 3], [2]], [(3, 2), (2, 3), (2, 1), (1, 2)]⟩ :=
    goodGraph_of_edgeset _ (by decide)
  rw [← graphIsomorphism_holds _ _ hg hg]; decide +kernel

/-- an isomorphism as a function on vertices -/
def IsIsomorphism (G1 G2 : SimpleG) (f : Nat → Nat) : Prop :=
  (∀ i, V G1.n i → V G2.n (f i)) ∧
  (∀ i i', V G1.n i → V G1.n i' → f i = f i' → i = i') ∧
  (∀ j, V G2.n j → ∃ i, V G1.n i ∧ f i = j) ∧
  (∀ i i', V G1.n i → V G1.n i' → adj G1 i i' = adj G2 (f i) (f i'))

theorem isIsoTable_iff_isIsomorphism (G1 G2 : SimpleG) :
    (∃ l, IsIsoTable G1 G2 l) ↔ ∃ f, IsIsomorphism G1 G2 f := by
  constructor
  · rintro ⟨l, hlen, hrng, hnd, honto, hedges⟩
    refine ⟨img l, ?_, ?_, ?_, hedges⟩
    · rintro i ⟨a, b⟩; exact hrng _ (img_mem a (by omega))
    · rintro i i' ⟨a, b⟩ ⟨a', b'⟩ e
      rw [List.nodup_iff_pairwise_ne, ← pairwise_img_iff hlen] at hnd
      rcases Nat.lt_trichotomy i i' with hlt | heq | hgt
      · exact absurd e (hnd i a i' hlt b')
      · exact heq
      · exact absurd e.symm (hnd i' a' i hgt b)
    · rintro j ⟨a, b⟩
      obtain ⟨i, i1, i2, e⟩ := exists_img_of_mem (honto j a b)
      exact ⟨i, ⟨i1, by omega⟩, e⟩
  · rintro ⟨f, hr, hinj, hsurj, hedges⟩
    have him : ∀ i, 1 ≤ i → i ≤ G1.n → img ((List.range G1.n).map (fun p => f (p + 1))) i = f i :=
      fun i a b => img_map_range f a b
    refine ⟨(List.range G1.n).map (fun p => f (p + 1)), by simp, ?_, ?_, ?_, ?_⟩
    · intro v hv
      simp only [List.mem_map, List.mem_range] at hv
      obtain ⟨p, hp, rfl⟩ := hv
      exact hr (p + 1) ⟨by omega, by omega⟩
    · rw [List.nodup_iff_pairwise_ne, ← pairwise_img_iff (k := G1.n) (by simp)]
      intro i a i' hlt b e
      rw [him i a (by omega), him i' (by omega) b] at e
      have := hinj i i' ⟨a, by omega⟩ ⟨by omega, b⟩ e
      omega
    · intro j a b
      obtain ⟨i, hi, e⟩ := hsurj j ⟨a, b⟩
      simp only [List.mem_map, List.mem_range]
      exact ⟨i - 1, by have := hi.1; have := hi.2; omega, by rw [← e]; congr 1; have := hi.1; omega⟩
    · rintro i i' ⟨a, b⟩ ⟨a', b'⟩
      rw [him i a b, him i' a' b']
      exact hedges i i' ⟨a, b⟩ ⟨a', b'⟩

/-- satisfiable iff the graphs are isomorphic -/
theorem graphIsomorphism_sat_iff (G1 G2 : SimpleG) (h1 : GoodGraph G1) (h2 : GoodGraph G2) :
    (∃ α, (graphIsomorphism G1 G2).holds α = true) ↔ ∃ f, IsIsomorphism G1 G2 f := by
  rw [← isIsoTable_iff_isIsomorphism]
  exact (graphIsomorphism_tabular G1 G2 h1 h2).sat_iff

/-- the explicit bijection: `l ↦ encode l` sends isomorphism tables to satisfying assignments, reaches
every satisfying assignment (on the variables `1 … n₁·n₂`) and is injective — so the number of satisfying
assignments is the number of isomorphisms -/
theorem graphIsomorphism_count (G1 G2 : SimpleG) (h1 : GoodGraph G1) (h2 : GoodGraph G2) :
    (∀ l, IsIsoTable G1 G2 l → (graphIsomorphism G1 G2).holds (encode 1 G1.n G2.n l) = true) ∧
    (∀ α, (graphIsomorphism G1 G2).holds α = true →
        ∃ l, IsIsoTable G1 G2 l ∧ AgreeOn (G1.n * G2.n) α (encode 1 G1.n G2.n l)) ∧
    (∀ l l', IsIsoTable G1 G2 l → IsIsoTable G1 G2 l' →
        AgreeOn (G1.n * G2.n) (encode 1 G1.n G2.n l) (encode 1 G1.n G2.n l') → l = l') :=
  (graphIsomorphism_tabular G1 G2 h1 h2).count

theorem graphIsomorphism_models_equiv (G1 G2 : SimpleG) (h1 : GoodGraph G1) (h2 : GoodGraph G2) :
    Nonempty (Models (graphIsomorphism G1 G2) ≃ {l : List Nat // IsIsoTable G1 G2 l}) :=
  (graphIsomorphism_tabular G1 G2 h1 h2).equiv

/-- graphs of different orders: no isomorphism table, hence no satisfying assignment (count 0) -/
theorem isIsoTable_order_eq (G1 G2 : SimpleG) (l : List Nat) (h : IsIsoTable G1 G2 l) : G1.n = G2.n := by
  have hp : l.Perm (verts G2.n) := by
    rw [List.perm_ext_iff_of_nodup h.nodup (verts_nodup _)]
    intro a
    rw [mem_verts]
    exact ⟨fun ha => h.rng a ha, fun ha => h.onto a ha.1 ha.2⟩
  have := hp.length_eq
  rw [h.len, verts_length] at this
  exact this

theorem graphIsomorphism_unsat_of_order_ne (G1 G2 : SimpleG) (h1 : GoodGraph G1) (h2 : GoodGraph G2)
    (hne : G1.n ≠ G2.n) (α : Assign) : (graphIsomorphism G1 G2).holds α = false :=
  (graphIsomorphism_tabular G1 G2 h1 h2).unsat (fun l hl => hne (isIsoTable_order_eq G1 G2 l hl)) α

/-- transfer to the two renderings the code produces (CNF clauses, OPB constraints) -/
theorem graphIsomorphism_cnf (G1 G2 : SimpleG) (α : Assign) :
    (graphIsomorphism G1 G2).toCNF.holds α = (graphIsomorphism G1 G2).holds α :=
  Formula.toCNF_holds α _ (graphIsomorphism_wf G1 G2)

theorem graphIsomorphism_opb (G1 G2 : SimpleG) (α : Assign) :
    (graphIsomorphism G1 G2).toOPB.holds α = (graphIsomorphism G1 G2).holds α :=
  Formula.toOPB_holds α _ (graphIsomorphism_wf G1 G2)

/-! ## T-C02.6, option `nontrivial` of `GraphIsomorphism`
(the option was accepted and never read — defect D36, fixed in /repo by 9050d5b; the model follows the fixed code:
with the option the clause `[-x_{u,u} for u in 1..|V₁| if u ≤ |V₂|]` is appended) -/

theorem graphIsomorphismOpt_nvars (G1 G2 : SimpleG) (b : Bool) :
    (graphIsomorphismOpt G1 G2 b).nvars = G1.n * G2.n := rfl

theorem graphIsomorphismOpt_wf (G1 G2 : SimpleG) (b : Bool) : (graphIsomorphismOpt G1 G2 b).WF :=
  wf_of_consIn (graphIsomorphismOpt_consIn G1 G2 b)

/-- exactly what the extra clause says: some vertex `u ≤ min(|V₁|, |V₂|)` is not mapped to itself -/
def MovesVertex (G1 G2 : SimpleG) (α : Assign) : Prop :=
  ∃ u, V G1.n u ∧ u ≤ G2.n ∧ ¬ Rel 1 G2.n α u u

/-- specification theorem for both values of the option -/
theorem graphIsomorphismOpt_holds (G1 G2 : SimpleG) (h1 : GoodGraph G1) (h2 : GoodGraph G2) (b : Bool) (α : Assign) :
    (graphIsomorphismOpt G1 G2 b).holds α = true ↔ IsoSpec G1 G2 α ∧ (b = true → MovesVertex G1 G2 α) := by
  have : (graphIsomorphismOpt G1 G2 b).holds α =
      ((graphIsomorphism G1 G2).holds α && (if b then Con.holds α (notIdentityClause G1.n G2.n) else true)) := by
    cases b <;> simp [Formula.holds, graphIsomorphismOpt, List.all_append]
  rw [this, Bool.and_eq_true, graphIsomorphism_holds G1 G2 h1 h2]
  cases b
  · simp
  · simp only [if_true, forall_const, notIdentityClause_holds]
    unfold MovesVertex V Rel
    constructor
    · rintro ⟨h, u, a, c, d, e⟩; exact ⟨h, u, ⟨a, c⟩, d, by simp [e]⟩
    · rintro ⟨h, u, ⟨a, c⟩, d, e⟩; exact ⟨h, u, a, c, d, by simpa using e⟩

/-- the satisfying assignments are the encodings of the isomorphism tables — other than the identical table
`[1, …, n]` when the option is on -/
theorem graphIsomorphismOpt_holds_iff_table (G1 G2 : SimpleG) (h1 : GoodGraph G1) (h2 : GoodGraph G2) (b : Bool)
    (α : Assign) :
    (graphIsomorphismOpt G1 G2 b).holds α = true ↔
      ∃ l, (IsIsoTable G1 G2 l ∧ (b = true → l ≠ verts G1.n)) ∧ EncL 1 G1.n G2.n α l := by
  rw [graphIsomorphismOpt_holds G1 G2 h1 h2, ← graphIsomorphism_holds G1 G2 h1 h2,
    graphIsomorphism_holds_iff_table G1 G2 h1 h2]
  unfold MovesVertex V Rel
  constructor
  · rintro ⟨⟨l, hl, he⟩, hm⟩
    refine ⟨l, ⟨hl, ?_⟩, he⟩
    intro hb e
    obtain ⟨u, ⟨a, c⟩, d, hu⟩ := hm hb
    apply hu
    rw [he.enc _ a c _ a d, e, img_verts a c]
  · rintro ⟨l, ⟨hl, hne⟩, he⟩
    refine ⟨⟨l, hl, he⟩, ?_⟩
    intro hb
    have hn := isIsoTable_order_eq G1 G2 l hl
    apply Classical.byContradiction
    intro hno
    apply hne hb
    apply ext_img (by rw [hl.len, verts_length])
    intro i a c
    rw [hl.len] at c
    rw [img_verts a c]
    apply Classical.byContradiction
    intro hi
    exact hno ⟨i, ⟨a, c⟩, by omega, fun r => hi ((he.enc _ a c _ a (by omega)).1 r)⟩

theorem graphIsomorphismOpt_tabular (G1 G2 : SimpleG) (h1 : GoodGraph G1) (h2 : GoodGraph G2) (b : Bool) :
    Tabular (graphIsomorphismOpt G1 G2 b) G1.n G2.n (fun l => IsIsoTable G1 G2 l ∧ (b = true → l ≠ verts G1.n)) :=
  ⟨rfl, graphIsomorphismOpt_wf G1 G2 b, graphIsomorphismOpt_holds_iff_table G1 G2 h1 h2 b,
    fun _ hl => ⟨hl.1.len, hl.1.rng⟩⟩

/-- satisfiable iff an isomorphism exists — other than the identical mapping when the option is on -/
theorem graphIsomorphismOpt_sat_iff (G1 G2 : SimpleG) (h1 : GoodGraph G1) (h2 : GoodGraph G2) (b : Bool) :
    (∃ α, (graphIsomorphismOpt G1 G2 b).holds α = true) ↔
      ∃ l, IsIsoTable G1 G2 l ∧ (b = true → l ≠ verts G1.n) :=
  (graphIsomorphismOpt_tabular G1 G2 h1 h2 b).sat_iff

/-- one satisfying assignment per (non-identical) isomorphism -/
theorem graphIsomorphismOpt_count (G1 G2 : SimpleG) (h1 : GoodGraph G1) (h2 : GoodGraph G2) (b : Bool) :
    (∀ l, (IsIsoTable G1 G2 l ∧ (b = true → l ≠ verts G1.n)) →
        (graphIsomorphismOpt G1 G2 b).holds (encode 1 G1.n G2.n l) = true) ∧
    (∀ α, (graphIsomorphismOpt G1 G2 b).holds α = true →
        ∃ l, (IsIsoTable G1 G2 l ∧ (b = true → l ≠ verts G1.n)) ∧ AgreeOn (G1.n * G2.n) α (encode 1 G1.n G2.n l)) ∧
    (∀ l l', (IsIsoTable G1 G2 l ∧ (b = true → l ≠ verts G1.n)) → (IsIsoTable G1 G2 l' ∧ (b = true → l' ≠ verts G1.n)) →
        AgreeOn (G1.n * G2.n) (encode 1 G1.n G2.n l) (encode 1 G1.n G2.n l') → l = l') :=
  (graphIsomorphismOpt_tabular G1 G2 h1 h2 b).count

theorem graphIsomorphismOpt_models_equiv (G1 G2 : SimpleG) (h1 : GoodGraph G1) (h2 : GoodGraph G2) (b : Bool) :
    Nonempty (Models (graphIsomorphismOpt G1 G2 b) ≃
      {l : List Nat // IsIsoTable G1 G2 l ∧ (b = true → l ≠ verts G1.n)}) :=
  (graphIsomorphismOpt_tabular G1 G2 h1 h2 b).equiv

def oneVertex : SimpleG := ⟨1, 0, [[], []], []⟩

theorem oneVertex_good : GoodGraph oneVertex := goodGraph_of_edgeset _ (by decide)

/-- non-vacuity (and regression of D36): on the one-vertex graph the identical mapping `x_{1,1}` satisfies the
formula without the option and falsifies it with the option -/
theorem graphIsomorphismOpt_oneVertex :
    (graphIsomorphismOpt oneVertex oneVertex false).holds (encode 1 1 1 [1]) = true ∧
    (graphIsomorphismOpt oneVertex oneVertex true).holds (encode 1 1 1 [1]) = false := by
  constructor <;> decide +kernel

theorem graphIsomorphismOpt_cnf (G1 G2 : SimpleG) (b : Bool) (α : Assign) :
    (graphIsomorphismOpt G1 G2 b).toCNF.holds α = (graphIsomorphismOpt G1 G2 b).holds α :=
  Formula.toCNF_holds α _ (graphIsomorphismOpt_wf G1 G2 b)

theorem graphIsomorphismOpt_opb (G1 G2 : SimpleG) (b : Bool) (α : Assign) :
    (graphIsomorphismOpt G1 G2 b).toOPB.holds α = (graphIsomorphismOpt G1 G2 b).holds α :=
  Formula.toOPB_holds α _ (graphIsomorphismOpt_wf G1 G2 b)

/-! ## T-C02.6 graph automorphism -/

/-- `GraphAutomorphism(G)` is `GraphIsomorphism(G, G, nontrivial=True)` -/
theorem graphAutomorphism_eq_graphIsomorphismOpt (G : SimpleG) :
    graphAutomorphism G = graphIsomorphismOpt G G true := graphAutomorphism_eq_opt G

theorem graphAutomorphism_nvars (G : SimpleG) : (graphAutomorphism G).nvars = G.n * G.n := rfl

theorem graphAutomorphism_wf (G : SimpleG) : (graphAutomorphism G).WF :=
  wf_of_consIn (graphAutomorphism_consIn G)

/-- specification theorem: an isomorphism of `G` with itself that moves some vertex -/
theorem graphAutomorphism_holds (G : SimpleG) (hG : GoodGraph G) (α : Assign) :
    (graphAutomorphism G).holds α = true ↔ IsoSpec G G α ∧ ∃ u, V G.n u ∧ ¬ Rel 1 G.n α u u := by
  rw [graphAutomorphism_eq_opt, graphIsomorphismOpt_holds G G hG hG]
  simp only [forall_const, MovesVertex, V, and_assoc, and_self_left]

/-- the satisfying assignments are the encodings of the automorphism tables other than the identity `[1, …, n]` -/
theorem graphAutomorphism_holds_iff_table (G : SimpleG) (hG : GoodGraph G) (α : Assign) :
    (graphAutomorphism G).holds α = true ↔
      ∃ l, (IsIsoTable G G l ∧ l ≠ verts G.n) ∧ EncL 1 G.n G.n α l := by
  rw [graphAutomorphism_eq_opt, graphIsomorphismOpt_holds_iff_table G G hG hG]
  simp only [forall_const]

theorem graphAutomorphism_tabular (G : SimpleG) (hG : GoodGraph G) :
    Tabular (graphAutomorphism G) G.n G.n (fun l => IsIsoTable G G l ∧ l ≠ verts G.n) :=
  ⟨rfl, graphAutomorphism_wf G, graphAutomorphism_holds_iff_table G hG, fun _ hl => ⟨hl.1.len, hl.1.rng⟩⟩

/-- satisfiable iff `G` has an automorphism other than the identity -/
theorem graphAutomorphism_sat_iff (G : SimpleG) (hG : GoodGraph G) :
    (∃ α, (graphAutomorphism G).holds α = true) ↔ ∃ l, IsIsoTable G G l ∧ l ≠ verts G.n :=
  (graphAutomorphism_tabular G hG).sat_iff

/-- one satisfying assignment per non-identical automorphism -/
theorem graphAutomorphism_count (G : SimpleG) (hG : GoodGraph G) :
    (∀ l, (IsIsoTable G G l ∧ l ≠ verts G.n) → (graphAutomorphism G).holds (encode 1 G.n G.n l) = true) ∧
    (∀ α, (graphAutomorphism G).holds α = true →
        ∃ l, (IsIsoTable G G l ∧ l ≠ verts G.n) ∧ AgreeOn (G.n * G.n) α (encode 1 G.n G.n l)) ∧
    (∀ l l', (IsIsoTable G G l ∧ l ≠ verts G.n) → (IsIsoTable G G l' ∧ l' ≠ verts G.n) →
        AgreeOn (G.n * G.n) (encode 1 G.n G.n l) (encode 1 G.n G.n l') → l = l') :=
  (graphAutomorphism_tabular G hG).count

theorem graphAutomorphism_models_equiv (G : SimpleG) (hG : GoodGraph G) :
    Nonempty (Models (graphAutomorphism G) ≃ {l : List Nat // IsIsoTable G G l ∧ l ≠ verts G.n}) :=
  (graphAutomorphism_tabular G hG).equiv

/-- non-vacuity: swapping the end points of the path `1-2-3` -/
example : IsIsoTable ⟨3, 2, [[], [2], [1, 3], [2]], [(3, 2), (2, 3), (2, 1), (1, 2)]⟩
    ⟨3, 2, [[], [2], [1, 3], [2]], [(3, 2), (2, 3), (2, 1), (1, 2)]⟩ [3, 2, 1] ∧ [3, 2, 1] ≠ verts 3 := by
  refine ⟨⟨rfl, by decide +kernel, by decide +kernel, ?_, ?_⟩, by decide +kernel⟩
  · intro j a b
    have : j = 1 ∨ j = 2 ∨ j = 3 := by simp only at b; omega
    rcases this with rfl | rfl | rfl <;> decide +kernel
  · rintro i i' ⟨a, b⟩ ⟨a', b'⟩
    have h1 : i = 1 ∨ i = 2 ∨ i = 3 := by simp only at b; omega
    have h2 : i' = 1 ∨ i' = 2 ∨ i' = 3 := by simp only at b'; omega
    rcases h1 with rfl | rfl | rfl <;> rcases h2 with rfl | rfl | rfl <;> decide +kernel

theorem graphAutomorphism_cnf (G : SimpleG) (α : Assign) :
    (graphAutomorphism G).toCNF.holds α = (graphAutomorphism G).holds α :=
  Formula.toCNF_holds α _ (graphAutomorphism_wf G)

theorem graphAutomorphism_opb (G : SimpleG) (α : Assign) :
    (graphAutomorphism G).toOPB.holds α = (graphAutomorphism G).holds α :=
  Formula.toOPB_holds α _ (graphAutomorphism_wf G)

/-! ## T-C02.7 k-clique (unary encoding) -/

/-- `l = [f 1, …, f k]` lists a `k`-clique of `G`: `k` vertices, pairwise adjacent; strictly increasing
when symmetry breaking is on (one table per clique), repetition-free otherwise (an *ordered* `k`-clique) -/
structure IsCliqueTable (G : SimpleG) (k : Nat) (symbreak : Bool) (l : List Nat) : Prop where
  len : l.length = k
  rng : ∀ v ∈ l, 1 ≤ v ∧ v ≤ G.n
  shape : if symbreak then l.Pairwise (· < ·) else l.Nodup
  adjacent : l.Pairwise (fun a b => adj G a b = true)

theorem cliqueCore_nvars (G : SimpleG) (k : Nat) (sb : Bool) : (cliqueCore G k sb).nvars = k * G.n := rfl

theorem cliqueCore_wf (G : SimpleG) (k : Nat) (sb : Bool) : (cliqueCore G k sb).WF :=
  wf_of_consIn (cliqueCore_consIn G k sb)

/-- parameter validation of `CliqueFormula` -/
theorem cliqueFormula_eq (G : SimpleG) (k : Int) (sb : Bool) :
    cliqueFormula G k sb = if k < 0 then .error .valueError else .ok (cliqueCore G k.toNat sb) := rfl

/-- specification theorem: the formula holds exactly under the assignments that encode an increasing
embedding of `K_k` (symmetry breaking) / an ordered `k`-clique (no symmetry breaking) -/
theorem cliqueCore_holds (G : SimpleG) (hG : GoodGraph G) (k : Nat) (sb : Bool) (α : Assign) :
    (cliqueCore G k sb).holds α = true ↔ ∃ l, IsCliqueTable G k sb l ∧ EncL 1 k G.n α l := by
  simp only [Formula.holds, cliqueCore, List.all_eq_true]
  rw [List.forall_mem_append, prefix_sym_holds]
  constructor
  · rintro ⟨⟨l, hl, hs⟩, he⟩
    exact ⟨l, ⟨hl.len, hl.rng, hs, (cliqueEdges_iff hG hl hs).1 he⟩, hl⟩
  · rintro ⟨l, ⟨_, _, hs, ha⟩, hl⟩
    exact ⟨⟨l, hl, hs⟩, (cliqueEdges_iff hG hl hs).2 ha⟩

theorem cliqueCore_tabular (G : SimpleG) (hG : GoodGraph G) (k : Nat) (sb : Bool) :
    Tabular (cliqueCore G k sb) k G.n (IsCliqueTable G k sb) :=
  ⟨rfl, cliqueCore_wf G k sb, cliqueCore_holds G hG k sb, fun _ hl => ⟨hl.len, hl.rng⟩⟩

/-- non-vacuity: the triangle `{1,2,3}` in `K_3` plus a pendant vertex -/
example : IsCliqueTable ⟨4, 4, [[], [2, 3], [1, 3], [1, 2, 4], [3]],
    [(4, 3), (3, 4), (3, 2), (2, 3), (3, 1), (1, 3), (2, 1), (1, 2)]⟩ 3 true [1, 2, 3] :=
  ⟨rfl, by decide, by decide, by decide⟩

/-- a `k`-clique of `G` as a set of vertices (strictly increasing list) -/
def IsClique (G : SimpleG) (S : List Nat) : Prop :=
  S.Pairwise (· < ·) ∧ (∀ v ∈ S, 1 ≤ v ∧ v ≤ G.n) ∧ ∀ u ∈ S, ∀ v ∈ S, u ≠ v → adj G u v = true

def HasClique (G : SimpleG) (k : Nat) : Prop := ∃ S, IsClique G S ∧ S.length = k

theorem isCliqueTable_true_iff (G : SimpleG) (hG : GoodGraph G) (k : Nat) (l : List Nat) :
    IsCliqueTable G k true l ↔ IsClique G l ∧ l.length = k := by
  constructor
  · rintro ⟨a, b, c, d⟩
    exact ⟨⟨c, b, (pairwise_mono_iff hG true (nodup_of_sorted c)).1 d⟩, a⟩
  · rintro ⟨⟨c, b, d⟩, a⟩
    exact ⟨a, b, c, (pairwise_mono_iff hG true (nodup_of_sorted c)).2 d⟩

/-- `l` lists `r` distinct vertices (increasing with symmetry breaking) that are pairwise adjacent when
`C = true` and pairwise non-adjacent when `C = false` -/
structure IsRamseyTable (G : SimpleG) (r : Nat) (symbreak : Bool) (C : Bool) (l : List Nat) : Prop where
  len : l.length = r
  rng : ∀ v ∈ l, 1 ≤ v ∧ v ≤ G.n
  shape : if symbreak then l.Pairwise (· < ·) else l.Nodup
  mono : l.Pairwise (fun a b => adj G a b = C)

/-- such a table exists iff a set of `r` vertices, pairwise adjacent (`C`) / non-adjacent (`¬C`), does: a table can be
sorted, a set listed in order.  The right side is `HasClique G r` for `C = true`, `HasIndep G r` for `C = false`. -/
theorem exists_ramseyTable_iff (G : SimpleG) (hG : GoodGraph G) (r : Nat) (sb C : Bool) :
    (∃ l, IsRamseyTable G r sb C l) ↔
      ∃ S : List Nat, (S.Pairwise (· < ·) ∧ (∀ v ∈ S, 1 ≤ v ∧ v ≤ G.n) ∧ ∀ u ∈ S, ∀ v ∈ S, u ≠ v → adj G u v = C) ∧
        S.length = r := by
  constructor
  · rintro ⟨l, a, b, c, d⟩
    obtain ⟨l', hp, hs, hm⟩ := exists_sorted_mono G hG C (Shape.nodup c) d
    exact ⟨l', ⟨hs, fun v hv => b v (hp.mem_iff.1 hv), (pairwise_mono_iff hG C (nodup_of_sorted hs)).1 hm⟩,
      by rw [hp.length_eq, a]⟩
  · rintro ⟨S, ⟨hs, hr, hm⟩, hk⟩
    refine ⟨S, hk, hr, ?_, (pairwise_mono_iff hG C (nodup_of_sorted hs)).2 hm⟩
    cases sb
    · exact nodup_of_sorted hs
    · exact hs

/-- a clique table is a Ramsey table for `C = true` -/
theorem exists_cliqueTable_iff (G : SimpleG) (hG : GoodGraph G) (k : Nat) (sb : Bool) :
    (∃ l, IsCliqueTable G k sb l) ↔ HasClique G k :=
  Iff.trans ⟨fun ⟨l, a, b, c, d⟩ => ⟨l, a, b, c, d⟩, fun ⟨l, a, b, c, d⟩ => ⟨l, a, b, c, d⟩⟩
    (exists_ramseyTable_iff G hG k sb true)

/-- satisfiable iff `G` has a `k`-clique — with and without symmetry breaking -/
theorem cliqueCore_sat_iff (G : SimpleG) (hG : GoodGraph G) (k : Nat) (sb : Bool) :
    (∃ α, (cliqueCore G k sb).holds α = true) ↔ HasClique G k :=
  (cliqueCore_tabular G hG k sb).sat_iff.trans (exists_cliqueTable_iff G hG k sb)

/-- no clique is larger than the graph: unsatisfiable for `k > |V|` -/
theorem not_hasClique_of_gt (G : SimpleG) (k : Nat) (h : G.n < k) : ¬ HasClique G k := by
  rintro ⟨S, ⟨hs, hr, _⟩, hk⟩
  have := length_le_of_nodup (nodup_of_sorted hs) hr
  omega

theorem cliqueCore_unsat_of_gt (G : SimpleG) (hG : GoodGraph G) (k : Nat) (sb : Bool) (h : G.n < k) (α : Assign) :
    (cliqueCore G k sb).holds α = false :=
  Bool.eq_false_iff.2 fun e => not_hasClique_of_gt G k h ((cliqueCore_sat_iff G hG k sb).1 ⟨α, e⟩)

/-- the explicit bijection between satisfying assignments and clique tables: with symmetry breaking
the tables are the `k`-cliques themselves, without they are the ordered `k`-cliques -/
theorem cliqueCore_count (G : SimpleG) (hG : GoodGraph G) (k : Nat) (sb : Bool) :
    (∀ l, IsCliqueTable G k sb l → (cliqueCore G k sb).holds (encode 1 k G.n l) = true) ∧
    (∀ α, (cliqueCore G k sb).holds α = true →
        ∃ l, IsCliqueTable G k sb l ∧ AgreeOn (k * G.n) α (encode 1 k G.n l)) ∧
    (∀ l l', IsCliqueTable G k sb l → IsCliqueTable G k sb l' →
        AgreeOn (k * G.n) (encode 1 k G.n l) (encode 1 k G.n l') → l = l') :=
  (cliqueCore_tabular G hG k sb).count

theorem cliqueCore_models_equiv (G : SimpleG) (hG : GoodGraph G) (k : Nat) (sb : Bool) :
    Nonempty (Models (cliqueCore G k sb) ≃ {l : List Nat // IsCliqueTable G k sb l}) :=
  (cliqueCore_tabular G hG k sb).equiv

/-- with symmetry breaking: satisfying assignments ↔ `k`-cliques (as vertex sets) -/
theorem cliqueCore_models_equiv_cliques (G : SimpleG) (hG : GoodGraph G) (k : Nat) :
    Nonempty (Models (cliqueCore G k true) ≃ {S : List Nat // IsClique G S ∧ S.length = k}) := by
  obtain ⟨e⟩ := cliqueCore_models_equiv G hG k true
  exact ⟨e.trans
    ⟨fun x => ⟨x.1, (isCliqueTable_true_iff G hG k x.1).1 x.2⟩,
     fun x => ⟨x.1, (isCliqueTable_true_iff G hG k x.1).2 x.2⟩, fun _ => rfl, fun _ => rfl⟩⟩

theorem cliqueCore_cnf (G : SimpleG) (k : Nat) (sb : Bool) (α : Assign) :
    (cliqueCore G k sb).toCNF.holds α = (cliqueCore G k sb).holds α :=
  Formula.toCNF_holds α _ (cliqueCore_wf G k sb)

theorem cliqueCore_opb (G : SimpleG) (k : Nat) (sb : Bool) (α : Assign) :
    (cliqueCore G k sb).toOPB.holds α = (cliqueCore G k sb).holds α :=
  Formula.toOPB_holds α _ (cliqueCore_wf G k sb)

/-! ## T-C02.7 k-clique, binary encoding -/

theorem binaryCliqueCore_nvars (G : SimpleG) (k : Nat) (sb : Bool) :
    (binaryCliqueCore G k sb).nvars = k * clog2 G.n := rfl

/-- `clog2 N` is `⌈log₂ N⌉`: the least `b` with `N ≤ 2^b` -/
theorem clog2_spec (N : Nat) : N ≤ 2 ^ clog2 N ∧ ∀ b, N ≤ 2 ^ b → clog2 N ≤ b :=
  Vars.clog2_spec N

theorem binaryCliqueCore_wf (G : SimpleG) (k : Nat) (sb : Bool) : (binaryCliqueCore G k sb).WF :=
  wf_of_consIn (binaryCliqueCore_consIn G k sb)

/-- parameter validation of `BinaryCliqueFormula`: ValueError exactly for `k < 0`; `k = 0` and the graph without
vertices are accepted (fix of D42: `BinaryMappingVariables` takes an empty domain or range) -/
theorem binaryCliqueFormula_eq (G : SimpleG) (k : Int) (sb : Bool) :
    binaryCliqueFormula G k sb =
      if k < 0 then .error .valueError else .ok (binaryCliqueCore G k.toNat sb) := rfl

/-- every code handed to `forbid` is below `2^bits`: the ValueError branch of `forbid` is never taken,
which is why the model uses the guard-free `forbidC` -/
theorem forbid_eq_forbidC (st bits i j : Nat) (h : j < 2 ^ bits) :
    Vars.forbid st bits i j = .ok (Fam.G2.forbidC st bits i j) := by
  have : ¬ j ≥ 2 ^ bits := by omega
  simp [Vars.forbid, Fam.G2.forbidC, this]

/-- specification theorem, through the 0-based code: the formula holds exactly when the vertices
`code α i + 1` (`i = 1 … k`) form a clique table (increasing with symmetry breaking, ordered without) -/
theorem binaryCliqueCore_holds (G : SimpleG) (hG : GoodGraph G) (k : Nat) (sb : Bool) (α : Assign) :
    (binaryCliqueCore G k sb).holds α = true ↔ IsCliqueTable G k sb (binTable α (clog2 G.n) k) := by
  have hN := Fam.le_two_pow_clog2 G.n
  have hlen := binTable_length α (clog2 G.n) k
  simp only [Formula.holds, binaryCliqueCore, List.all_eq_true]
  rw [List.forall_mem_append, List.forall_mem_append, List.forall_mem_append, binComplete_table]
  constructor
  · rintro ⟨⟨⟨hr, hi⟩, hn⟩, he⟩
    have hnd := (binInjective_table hN hr).1 hi
    have hs : Shape sb (binTable α (clog2 G.n) k) := by
      cases sb
      · exact hnd
      · exact sorted_of_le_nodup ((binNondecreasing_table hN hr).1 hn) hnd
    exact ⟨hlen, hr, hs, (binCliqueEdges_table hG hr hs).1 he⟩
  · rintro ⟨_, hr, hs, ha⟩
    have hs' : Shape sb (binTable α (clog2 G.n) k) := hs
    refine ⟨⟨⟨hr, (binInjective_table hN hr).2 hs'.nodup⟩, ?_⟩, (binCliqueEdges_table hG hr hs').2 ha⟩
    cases sb
    · simp
    · exact (binNondecreasing_table hN hr).2 (le_of_sorted hs)

/-- non-vacuity: in the triangle with a pendant vertex (codes 0,1,2,3 on 2 bits) the codes 00, 01, 10 of the
first three mapping positions form the clique `{1,2,3}` -/
example : IsCliqueTable ⟨4, 4, [[], [2, 3], [1, 3], [1, 2, 4], [3]],
    [(4, 3), (3, 4), (3, 2), (2, 3), (3, 1), (1, 3), (2, 1), (1, 2)]⟩ 3 true
    (binTable (encodeB 2 3 [1, 2, 3]) 2 3) := by
  have : binTable (encodeB 2 3 [1, 2, 3]) 2 3 = [1, 2, 3] :=
    binTable_encodeB (N := 4) (by decide) rfl (by decide)
  rw [this]
  exact ⟨rfl, by decide, by decide, by decide⟩

/-- the explicit bijection for the binary encoding: `l ↦ encodeB l` from clique tables to satisfying assignments;
every satisfying assignment is (on the variables `1 … k·bits`) the encoding of its own table `binTable α` -/
theorem binaryCliqueCore_count (G : SimpleG) (hG : GoodGraph G) (k : Nat) (sb : Bool) :
    (∀ l, IsCliqueTable G k sb l → (binaryCliqueCore G k sb).holds (encodeB (clog2 G.n) k l) = true) ∧
    (∀ α, (binaryCliqueCore G k sb).holds α = true →
        ∃ l, IsCliqueTable G k sb l ∧ AgreeOn (k * clog2 G.n) α (encodeB (clog2 G.n) k l)) ∧
    (∀ l l', IsCliqueTable G k sb l → IsCliqueTable G k sb l' →
        AgreeOn (k * clog2 G.n) (encodeB (clog2 G.n) k l) (encodeB (clog2 G.n) k l') → l = l') := by
  have hN := Fam.le_two_pow_clog2 G.n
  refine ⟨?_, ?_, ?_⟩
  · intro l hl
    rw [binaryCliqueCore_holds G hG k sb, binTable_encodeB hN hl.len hl.rng]
    exact hl
  · intro α hα
    exact ⟨_, (binaryCliqueCore_holds G hG k sb α).1 hα, agree_encodeB_binTable α _ k⟩
  · intro l l' hl hl' hag
    have := binTable_congr hag
    rwa [binTable_encodeB hN hl.len hl.rng, binTable_encodeB hN hl'.len hl'.rng] at this

/-- satisfiable iff `G` has a `k`-clique -/
theorem binaryCliqueCore_sat_iff (G : SimpleG) (hG : GoodGraph G) (k : Nat) (sb : Bool) :
    (∃ α, (binaryCliqueCore G k sb).holds α = true) ↔ HasClique G k :=
  (Counts.sat_iff (binaryCliqueCore_count G hG k sb)).trans (exists_cliqueTable_iff G hG k sb)

theorem binaryCliqueCore_unsat_of_gt (G : SimpleG) (hG : GoodGraph G) (k : Nat) (sb : Bool) (h : G.n < k)
    (α : Assign) : (binaryCliqueCore G k sb).holds α = false :=
  Bool.eq_false_iff.2 fun e => not_hasClique_of_gt G k h ((binaryCliqueCore_sat_iff G hG k sb).1 ⟨α, e⟩)

theorem binaryCliqueCore_models_equiv (G : SimpleG) (hG : GoodGraph G) (k : Nat) (sb : Bool) :
    Nonempty (Models (binaryCliqueCore G k sb) ≃ {l : List Nat // IsCliqueTable G k sb l}) :=
  Counts.equiv (binaryCliqueCore_count G hG k sb) (binaryCliqueCore_wf G k sb)

theorem binaryCliqueCore_cnf (G : SimpleG) (k : Nat) (sb : Bool) (α : Assign) :
    (binaryCliqueCore G k sb).toCNF.holds α = (binaryCliqueCore G k sb).holds α :=
  Formula.toCNF_holds α _ (binaryCliqueCore_wf G k sb)

theorem binaryCliqueCore_opb (G : SimpleG) (k : Nat) (sb : Bool) (α : Assign) :
    (binaryCliqueCore G k sb).toOPB.holds α = (binaryCliqueCore G k sb).holds α :=
  Formula.toOPB_holds α _ (binaryCliqueCore_wf G k sb)

/-! ## T-C02.7 subgraph and induced subgraph -/

/-- `l = [f 1, …, f k]` is the table of an embedding `f : V(H) → V(G)`: injective (strictly increasing when
symmetry breaking is on), edges go to edges, and — for the induced version — non-edges go to non-edges -/
structure IsEmbTable (G H : SimpleG) (induced symbreak : Bool) (l : List Nat) : Prop where
  len : l.length = H.n
  rng : ∀ v ∈ l, 1 ≤ v ∧ v ≤ G.n
  shape : if symbreak then l.Pairwise (· < ·) else l.Nodup
  edges : ∀ i i', V H.n i → V H.n i' → adj H i i' = true → adj G (img l i) (img l i') = true
  nonedges : induced = true → ∀ i i', V H.n i → V H.n i' → adj G (img l i) (img l i') = true → adj H i i' = true

theorem subgraphFormula_nvars (G H : SimpleG) (ind sb : Bool) : (subgraphFormula G H ind sb).nvars = H.n * G.n := rfl

theorem subgraphFormula_wf (G H : SimpleG) (ind sb : Bool) : (subgraphFormula G H ind sb).WF :=
  wf_of_consIn (subgraphFormula_consIn G H ind sb)

/-- specification theorem: the formula holds exactly under the assignments that encode an (induced) embedding
of `H` into `G` (increasing when symmetry breaking is on) -/
theorem subgraphFormula_holds (G H : SimpleG) (hG : GoodGraph G) (hH : GoodGraph H) (ind sb : Bool) (α : Assign) :
    (subgraphFormula G H ind sb).holds α = true ↔ ∃ l, IsEmbTable G H ind sb l ∧ EncL 1 H.n G.n α l := by
  simp only [Formula.holds, subgraphFormula, List.all_eq_true]
  rw [List.forall_mem_append, prefix_sym_holds]
  have key : ∀ l : List Nat,
      (∀ i, 1 ≤ i → ∀ i', i < i' → i' ≤ H.n → consistent (adj G (img l i) (img l i')) (adj H i i') ind = true) ↔
      ((∀ i i', V H.n i → V H.n i' → adj H i i' = true → adj G (img l i) (img l i') = true) ∧
       (ind = true → ∀ i i', V H.n i → V H.n i' → adj G (img l i) (img l i') = true → adj H i i' = true)) := by
    intro l
    simp only [consistent_iff]
    rw [forall_lt_iff_forall (P := fun i i' => (adj H i i' = true → adj G (img l i) (img l i') = true) ∧
      (ind = true → adj G (img l i) (img l i') = true → adj H i i' = true))
      (fun i i' h => by rwa [hH.symm i' i, hG.symm (img l i') (img l i)])
      (fun i => by rw [hH.irrefl, hG.irrefl]; exact ⟨id, fun _ => id⟩)]
    exact ⟨fun h => ⟨fun i i' hi hi' => (h i i' hi hi').1, fun hind i i' hi hi' => (h i i' hi hi').2 hind⟩,
      fun h i i' hi hi' => ⟨h.1 i i' hi hi', fun hind => h.2 hind i i' hi hi'⟩⟩
  constructor
  · rintro ⟨⟨l, hl, hs⟩, he⟩
    obtain ⟨e1, e2⟩ := (key l).1 ((subgraphEdges_iff hG hl hs).1 he)
    exact ⟨l, ⟨hl.len, hl.rng, hs, e1, e2⟩, hl⟩
  · rintro ⟨l, ⟨_, _, hs, e1, e2⟩, hl⟩
    exact ⟨⟨l, hl, hs⟩, (subgraphEdges_iff hG hl hs).2 ((key l).2 ⟨e1, e2⟩)⟩

theorem subgraphFormula_tabular (G H : SimpleG) (hG : GoodGraph G) (hH : GoodGraph H) (ind sb : Bool) :
    Tabular (subgraphFormula G H ind sb) H.n G.n (IsEmbTable G H ind sb) :=
  ⟨rfl, subgraphFormula_wf G H ind sb, subgraphFormula_holds G H hG hH ind sb, fun _ hl => ⟨hl.len, hl.rng⟩⟩

/-- non-vacuity: the path `1-2-3` embeds into the triangle, but not as an induced subgraph -/
example : IsEmbTable ⟨3, 3, [[], [2, 3], [1, 3], [1, 2]], [(3, 1), (1, 3), (3, 2), (2, 3), (2, 1), (1, 2)]⟩
    ⟨3, 2, [[], [2], [1, 3], [2]], [(3, 2), (2, 3), (2, 1), (1, 2)]⟩ false true [1, 2, 3] :=
  ⟨rfl, by decide +kernel, by decide +kernel, by
    rintro i i' ⟨a, b⟩ ⟨a', b'⟩
    have : i = 1 ∨ i = 2 ∨ i = 3 := by simp only at b; omega
    have : i' = 1 ∨ i' = 2 ∨ i' = 3 := by simp only at b'; omega
    rcases ‹i = 1 ∨ i = 2 ∨ i = 3› with rfl | rfl | rfl <;>
      rcases ‹i' = 1 ∨ i' = 2 ∨ i' = 3› with rfl | rfl | rfl <;> decide +kernel, by intro h; cases h⟩

/-- satisfiable iff `H` embeds into `G` (as an induced subgraph when `induced`) -/
theorem subgraphFormula_sat_iff (G H : SimpleG) (hG : GoodGraph G) (hH : GoodGraph H) (ind sb : Bool) :
    (∃ α, (subgraphFormula G H ind sb).holds α = true) ↔ ∃ l, IsEmbTable G H ind sb l :=
  (subgraphFormula_tabular G H hG hH ind sb).sat_iff

/-- the explicit bijection between satisfying assignments and (induced) embeddings -/
theorem subgraphFormula_count (G H : SimpleG) (hG : GoodGraph G) (hH : GoodGraph H) (ind sb : Bool) :
    (∀ l, IsEmbTable G H ind sb l → (subgraphFormula G H ind sb).holds (encode 1 H.n G.n l) = true) ∧
    (∀ α, (subgraphFormula G H ind sb).holds α = true →
        ∃ l, IsEmbTable G H ind sb l ∧ AgreeOn (H.n * G.n) α (encode 1 H.n G.n l)) ∧
    (∀ l l', IsEmbTable G H ind sb l → IsEmbTable G H ind sb l' →
        AgreeOn (H.n * G.n) (encode 1 H.n G.n l) (encode 1 H.n G.n l') → l = l') :=
  (subgraphFormula_tabular G H hG hH ind sb).count

theorem subgraphFormula_models_equiv (G H : SimpleG) (hG : GoodGraph G) (hH : GoodGraph H) (ind sb : Bool) :
    Nonempty (Models (subgraphFormula G H ind sb) ≃ {l : List Nat // IsEmbTable G H ind sb l}) :=
  (subgraphFormula_tabular G H hG hH ind sb).equiv

/-- no embedding of more vertices than `G` has: unsatisfiable when `|V(H)| > |V(G)|` -/
theorem subgraphFormula_unsat_of_gt (G H : SimpleG) (hG : GoodGraph G) (hH : GoodGraph H) (ind sb : Bool)
    (h : G.n < H.n) (α : Assign) : (subgraphFormula G H ind sb).holds α = false :=
  (subgraphFormula_tabular G H hG hH ind sb).unsat (fun l hl => by
    have := length_le_of_nodup (Shape.nodup hl.shape) hl.rng
    rw [hl.len] at this
    omega) α

theorem subgraphFormula_cnf (G H : SimpleG) (ind sb : Bool) (α : Assign) :
    (subgraphFormula G H ind sb).toCNF.holds α = (subgraphFormula G H ind sb).holds α :=
  Formula.toCNF_holds α _ (subgraphFormula_wf G H ind sb)

theorem subgraphFormula_opb (G H : SimpleG) (ind sb : Bool) (α : Assign) :
    (subgraphFormula G H ind sb).toOPB.holds α = (subgraphFormula G H ind sb).holds α :=
  Formula.toOPB_holds α _ (subgraphFormula_wf G H ind sb)

/-! ## T-C02.8 Ramsey witness
(`RamseyWitnessFormula(G, k, s)` after the fix of D25: the old code overwrote `s` with the mapping group and
encoded "k-clique or k-independent set"; the repaired code — followed by the model — uses one mapping of
`max k s` rows, of which the first `k` are in use under `C` and the first `s` under `¬C`) -/

/-- variable 1 (`C`) and one mapping of `max k s` rows -/
theorem ramseyWitnessCore_nvars (G : SimpleG) (k s : Nat) (sb : Bool) :
    (ramseyWitnessCore G k s sb).nvars = 1 + max k s * G.n := rfl

theorem ramseyWitnessCore_wf (G : SimpleG) (k s : Nat) (sb : Bool) : (ramseyWitnessCore G k s sb).WF :=
  wf_of_consIn (ramseyWitnessCore_consIn G k s sb)

/-- parameter validation (`non_negative_int(k)`, `non_negative_int(s)`); BOTH sizes reach the formula -/
theorem ramseyWitnessFormula_eq (G : SimpleG) (k s : Int) (sb : Bool) :
    ramseyWitnessFormula G k s sb =
      if k < 0 then .error .valueError else if s < 0 then .error .valueError
      else .ok (ramseyWitnessCore G k.toNat s.toNat sb) := rfl

/-- SPECIFICATION (assignment level).  `C := α 1` selects the alternative and `r := if C then k else s` rows are
in use.  The formula holds exactly when (a) on all `max k s` rows the relation is a partial injection
(increasing with symmetry breaking) — `RamSide` — and (b) the rows in use are total and their table `l` lists
`r` vertices that are pairwise adjacent if `C`, pairwise non-adjacent if `¬C`. -/
theorem ramseyWitness_holds (G : SimpleG) (hG : GoodGraph G) (k s : Nat) (sb : Bool) (α : Assign) :
    (ramseyWitnessCore G k s sb).holds α = true ↔
      RamSide (max k s) G.n sb α ∧
      ∃ l, IsRamseyTable G (ramRows k s (α 1)) sb (α 1) l ∧ EncL 2 (ramRows k s (α 1)) G.n α l := by
  have h2 : 1 ≤ 2 := by omega
  have hrM := ramRows_le_max k s (α 1)
  simp only [Formula.holds, ramseyWitnessCore, List.all_eq_true]
  rw [List.forall_mem_append, List.forall_mem_append, List.forall_mem_append, ramseyCompleteCons_holds,
    forceFunctional_holds α _ _ h2, forceInjective_holds α _ _ h2, ramseyEdgeCons_holds α hG]
  constructor
  · rintro ⟨⟨⟨hc, hf⟩, hi⟩, he⟩
    have htf : TotFun 2 (ramRows k s (α 1)) G.n α :=
      ⟨hc, fun i a b => hf i a (by omega)⟩
    obtain ⟨l, hl⟩ := htf.exists_encL
    have hnd : l.Nodup := hl.injective_iff.1
      (fun j a b i c d i' c' d' => hi j a b i c (by omega) i' c' (by omega))
    obtain ⟨hs, hm⟩ := ramsey_table hl.len hnd
      ((hl.pairs_iff (fun _ i' j j' => (sb = true → ¬ j' < j) ∧ (i' ≤ ramRows k s (α 1) → j ≠ j' → adj G j j' = α 1))).1
        (fun i a i' b c => he i a i' b (by omega)))
    refine ⟨⟨hf, hi, ?_⟩, l, ⟨hl.len, hl.rng, hs, hm⟩, hl⟩
    intro hsb i a i' b c j d e j' d' e' r r'
    have hle := (he i a i' b c j d e j' d' e' r r').1 hsb
    rcases Nat.lt_or_eq_of_le (Nat.le_of_not_lt hle) with hlt | rfl
    · exact hlt
    · have := hi j d e i a (by omega) i' (by omega) c r r'
      omega
  · rintro ⟨⟨hf, hi, hinc⟩, l, ⟨_, _, _, hm⟩, hl⟩
    refine ⟨⟨⟨hl.totFun.1, hf⟩, hi⟩, ?_⟩
    intro i a i' b c j d e j' d' e' r r'
    refine ⟨fun hsb => Nat.not_lt_of_gt (hinc hsb i a i' b c j d e j' d' e' r r'), fun hrow _ => ?_⟩
    rw [← (hl.enc _ a (by omega) _ d e).1 r, ← (hl.enc _ (by omega) hrow _ d' e').1 r']
    exact (pairwise_img_iff hl.len fun a b => adj G a b = α 1).2 hm i a i' b hrow

/-- non-vacuity: in the path `1-2-3` with `k = 2`, `s = 3` two rows are in use under `C`, and `[1, 2]` is the table of
a 2-clique -/
example : IsRamseyTable ⟨3, 2, [[], [2], [1, 3], [2]], [(3, 2), (2, 3), (2, 1), (1, 2)]⟩ (ramRows 2 3 true) true true [1, 2] :=
  ⟨rfl, by decide, by decide, by decide⟩

/-- an independent set of `G` as a set of vertices (strictly increasing list) -/
def IsIndep (G : SimpleG) (S : List Nat) : Prop :=
  S.Pairwise (· < ·) ∧ (∀ v ∈ S, 1 ≤ v ∧ v ≤ G.n) ∧ ∀ u ∈ S, ∀ v ∈ S, u ≠ v → adj G u v = false

def HasIndep (G : SimpleG) (s : Nat) : Prop := ∃ S, IsIndep G S ∧ S.length = s

/-- the assignment with `C = c`, the first `r` rows of the mapping given by the table `l`, all other rows empty -/
def ramseyAssign (r N : Nat) (c : Bool) (l : List Nat) : Assign :=
  fun x => if x = 1 then c else encode 2 r N l x

theorem ramseyAssign_one (r N : Nat) (c : Bool) (l : List Nat) : ramseyAssign r N c l 1 = c := by
  simp [ramseyAssign]

theorem ramseyAssign_encL {r N : Nat} (c : Bool) {l : List Nat} (hlen : l.length = r)
    (hr : ∀ v ∈ l, 1 ≤ v ∧ v ≤ N) : EncL 2 r N (ramseyAssign r N c l) l :=
  (encode_encL (st := 2) hlen hr).congr (fun x h1 _ => by
    have : x ≠ 1 := by omega
    simp [ramseyAssign, this])

theorem ramseyAssign_rel {r N : Nat} (c : Bool) (l : List Nat) {i j : Nat} (hi : 1 ≤ i) (hj1 : 1 ≤ j) (hj : j ≤ N) :
    ramseyAssign r N c l (mapId 2 N i j) = true ↔ i ≤ r ∧ img l i = j := by
  have hne : mapId 2 N i j ≠ 1 := by unfold mapId; omega
  simp only [ramseyAssign, hne, if_false]
  exact encode_rel l hi hj1 hj

theorem ramseyAssign_side {r N M : Nat} (sb c : Bool) {l : List Nat} (hlen : l.length = r)
    (hr : ∀ v ∈ l, 1 ≤ v ∧ v ≤ N) (hs : Shape sb l) : RamSide M N sb (ramseyAssign r N c l) := by
  have hl := ramseyAssign_encL c hlen hr
  refine ⟨?_, ?_, ?_⟩
  · intro i a _ j d e j' d' e' p p'
    rw [ramseyAssign_rel c l a d e] at p
    rw [ramseyAssign_rel c l a d' e'] at p'
    rw [← p.2, ← p'.2]
  · intro j d e i a _ i' a' _ p p'
    have q := (ramseyAssign_rel c l a d e).1 p
    have q' := (ramseyAssign_rel c l a' d e).1 p'
    exact (hl.injective_iff.2 hs.nodup) j d e i a q.1 i' a' q'.1 p p'
  · rintro rfl i a i' b _ j d e j' d' e' p p'
    have q := (ramseyAssign_rel c l a d e).1 p
    have q' := (ramseyAssign_rel c l (by omega) d' e').1 p'
    have := (pairwise_img_iff hlen (· < ·)).2 hs i a i' b q'.1
    rw [q.2, q'.2] at this
    exact this

/-- THE DOCUMENTED STATEMENT ("True if graph contains either k-clique or an s independent set"):
satisfiable iff `G` has a `k`-clique or an independent set of size `s`. -/
def RamseyWitnessDocumented (G : SimpleG) (k s : Nat) (sb : Bool) : Prop :=
  (∃ α, (ramseyWitnessCore G k s sb).holds α = true) ↔ (HasClique G k ∨ HasIndep G s)

/-- satisfiable iff, for one of the two values of the selector, the rows then in use have a table -/
theorem ramseyWitness_sat_iff_table (G : SimpleG) (hG : GoodGraph G) (k s : Nat) (sb : Bool) :
    (∃ α, (ramseyWitnessCore G k s sb).holds α = true) ↔ ∃ C l, IsRamseyTable G (ramRows k s C) sb C l := by
  constructor
  · rintro ⟨α, hα⟩
    obtain ⟨_, l, hl, _⟩ := (ramseyWitness_holds G hG k s sb α).1 hα
    exact ⟨α 1, l, hl⟩
  · rintro ⟨C, l, hl⟩
    refine ⟨ramseyAssign (ramRows k s C) G.n C l, (ramseyWitness_holds G hG k s sb _).2 ?_⟩
    rw [ramseyAssign_one]
    exact ⟨ramseyAssign_side sb C hl.len hl.rng hl.shape, l, hl, ramseyAssign_encL C hl.len hl.rng⟩

/-- the documented statement, at full strength: every graph, EVERY `k` and `s` (equal or not, larger than the graph
or zero), both symmetry modes.  (Before the fix of D25 the statement failed for `k ≠ s`; the two
counterexamples are kept below as `ramseyWitness_regression_twoIsolated`, `ramseyWitness_regression_oneVertex`.) -/
theorem ramseyWitness_sat_iff (G : SimpleG) (hG : GoodGraph G) (k s : Nat) (sb : Bool) :
    (∃ α, (ramseyWitnessCore G k s sb).holds α = true) ↔ (HasClique G k ∨ HasIndep G s) := by
  rw [ramseyWitness_sat_iff_table G hG, Bool.exists_bool, or_comm]
  exact or_congr (exists_ramseyTable_iff G hG k sb true) (exists_ramseyTable_iff G hG s sb false)

/-- non-vacuity with `k ≠ s`: the path `1-2-3` has the 2-clique `{1, 2}` (and no independent set of size 3), so the
formula for `k = 2`, `s = 3` is satisfiable -/
example : ∃ α, (ramseyWitnessCore ⟨3, 2, [[], [2], [1, 3], [2]], [(3, 2), (2, 3), (2, 1), (1, 2)]⟩ 2 3 true).holds α = true :=
  (ramseyWitness_sat_iff _ (goodGraph_of_edgeset _ (by decide)) 2 3 true).2
    (Or.inl ⟨[1, 2], ⟨by decide, by decide, by decide⟩, rfl⟩)

theorem ramseyWitness_documented (G : SimpleG) (hG : GoodGraph G) (k s : Nat) (sb : Bool) :
    RamseyWitnessDocumented G k s sb := ramseyWitness_sat_iff G hG k s sb

/-- the same for the call `RamseyWitnessFormula(G, k, s)` with integer arguments: refused (ValueError) exactly for a
negative size, otherwise a formula that is satisfiable iff `G` has a `k`-clique or an independent set of size `s` -/
theorem ramseyWitnessFormula_sat_iff (G : SimpleG) (hG : GoodGraph G) (k s : Int) (sb : Bool) :
    (k < 0 ∨ s < 0 → ramseyWitnessFormula G k s sb = .error .valueError) ∧
    (0 ≤ k → 0 ≤ s → ∃ F, ramseyWitnessFormula G k s sb = .ok F ∧
      ((∃ α, F.holds α = true) ↔ (HasClique G k.toNat ∨ HasIndep G s.toNat))) := by
  constructor
  · intro h
    unfold ramseyWitnessFormula
    by_cases hk : k < 0
    · simp [hk]
    · have hs : s < 0 := by omega
      simp [hk, hs]
  · intro hk hs
    have a : ¬ k < 0 := by omega
    have b : ¬ s < 0 := by omega
    exact ⟨_, by simp [ramseyWitnessFormula, a, b], ramseyWitness_sat_iff G hG k.toNat s.toNat sb⟩

theorem not_hasIndep_of_gt (G : SimpleG) (s : Nat) (h : G.n < s) : ¬ HasIndep G s := by
  rintro ⟨S, ⟨hs, hr, _⟩, hk⟩
  have := length_le_of_nodup (nodup_of_sorted hs) hr
  omega

/-- no `k`-clique and no independent set of size `s` can exist when both sizes exceed the graph -/
theorem ramseyWitness_unsat_of_gt (G : SimpleG) (hG : GoodGraph G) (k s : Nat) (sb : Bool) (hk : G.n < k) (hs : G.n < s)
    (α : Assign) : (ramseyWitnessCore G k s sb).holds α = false :=
  Bool.eq_false_iff.2 fun e =>
    ((ramseyWitness_sat_iff G hG k s sb).1 ⟨α, e⟩).elim (not_hasClique_of_gt G k hk) (not_hasIndep_of_gt G s hs)

def twoIsolated : SimpleG := ⟨2, 0, [[], [], []], []⟩

theorem twoIsolated_good : GoodGraph twoIsolated := goodGraph_of_edgeset _ (by decide)

/-- regression of D25, witness 1: two isolated vertices, `k = 2`, `s = 3`.  The old formula was satisfied by
`¬C, 1 ↦ 1, 2 ↦ 2` although there is neither a 2-clique nor an independent set of size 3.  Now that assignment
falsifies the formula (`decide`) and the formula is unsatisfiable. -/
theorem ramseyWitness_regression_twoIsolated (sb : Bool) :
    (ramseyWitnessCore twoIsolated 2 3 sb).holds (ramseyAssign 2 2 false [1, 2]) = false ∧
    ¬ ∃ α, (ramseyWitnessCore twoIsolated 2 3 sb).holds α = true := by
  refine ⟨by cases sb <;> decide +kernel, fun h => ?_⟩
  rcases (ramseyWitness_sat_iff twoIsolated twoIsolated_good 2 3 sb).1 h with ⟨S, ⟨hs, _, hm⟩, hk⟩ | hI
  · match S, hk, hs, hm with
    | [a, b], _, hs, hm =>
      have hab : a < b := by simpa using hs
      have := hm a (by simp) b (by simp) (by omega)
      simp [adj_eq_contains, twoIsolated] at this
  · exact not_hasIndep_of_gt twoIsolated 3 (by decide) hI

/-- regression of D25, witness 2: one vertex, `k = 2`, `s = 1`.  `{1}` is an independent set of size 1; the old
formula (two distinct images required in either case) was unsatisfiable.  Now `¬C, 1 ↦ 1` (second row empty)
satisfies it. -/
theorem ramseyWitness_regression_oneVertex (sb : Bool) :
    (ramseyWitnessCore oneVertex 2 1 sb).holds (ramseyAssign 1 1 false [1]) = true ∧
    ¬ HasClique oneVertex 2 ∧ HasIndep oneVertex 1 := by
  refine ⟨by cases sb <;> decide +kernel, not_hasClique_of_gt oneVertex 2 (by decide +kernel), ?_⟩
  exact ⟨[1], ⟨by simp, by simp [oneVertex], by simp⟩, rfl⟩

theorem ramseyWitnessCore_cnf (G : SimpleG) (k s : Nat) (sb : Bool) (α : Assign) :
    (ramseyWitnessCore G k s sb).toCNF.holds α = (ramseyWitnessCore G k s sb).holds α :=
  Formula.toCNF_holds α _ (ramseyWitnessCore_wf G k s sb)

theorem ramseyWitnessCore_opb (G : SimpleG) (k s : Nat) (sb : Bool) (α : Assign) :
    (ramseyWitnessCore G k s sb).toOPB.holds α = (ramseyWitnessCore G k s sb).holds α :=
  Formula.toOPB_holds α _ (ramseyWitnessCore_wf G k s sb)

/-- the documented statement for what the CNF class emits … -/
theorem ramseyWitness_cnf_sat_iff (G : SimpleG) (hG : GoodGraph G) (k s : Nat) (sb : Bool) :
    (∃ α, (ramseyWitnessCore G k s sb).toCNF.holds α = true) ↔ (HasClique G k ∨ HasIndep G s) := by
  simp only [ramseyWitnessCore_cnf]
  exact ramseyWitness_sat_iff G hG k s sb

/-- … and for what the OPB class emits -/
theorem ramseyWitness_opb_sat_iff (G : SimpleG) (hG : GoodGraph G) (k s : Nat) (sb : Bool) :
    (∃ α, (ramseyWitnessCore G k s sb).toOPB.holds α = true) ↔ (HasClique G k ∨ HasIndep G s) := by
  simp only [ramseyWitnessCore_opb]
  exact ramseyWitness_sat_iff G hG k s sb

end Cnfgen.C02
