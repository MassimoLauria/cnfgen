/-
C02 — the model count of the Tseitin formula.

"Where the documented variables are exactly the witness, the number of satisfying assignments
equals the number of witnesses (e.g. 2^(|E|-|V|+components) for a satisfiable Tseitin formula)".

Objects (`Lemmas/FamTseitinCount.lean`; reachability and components in `Lemmas/FamComponents.lean`):
* `EdgeVec G` = assignments of the edge variables `1..|E|` (functions on the subtype
  `{e // e ∈ Finset.Icc 1 G.m}`); `extE` extends one by `false` to an `Assign`, `resE` restricts.
  The formula only reads these variables (`tseitin_reads_edge_variables`).
* `Reach G` = `Relation.ReflTransGen (Step G)`, the reachability relation used by the proof of
  `tseitin_sat_iff`; `rep G v` = the least vertex reachable from `v`; `reps G` = the vertices
  `r ∈ 1..n` with `rep G r = r`; `components G = (reps G).card`.  `components_spec` ties this to
  the reachability relation and to the closed vertex sets of `TseitinSatIff`.
* exponent: `G.m + components G - G.n`, with `G.n ≤ G.m + components G` proved
  (`tseitin_cyclomatic_le`), i.e. `|E| - |V| + c` without truncation.

Proof: two applications of "a xor-linear map has `2^dim = |kernel| · |image|`" —
to the boundary map `bdry` (its image is characterised by `tseitin_sat_iff`) and to the
component-parity map `compPar` (which is onto).
-/
import Lemmas.FamTseitinCount
namespace Cnfgen.C02
open Cnfgen Cnfgen.Fam

/-- the formula only reads the edge variables `1..|E|`: an assignment and its restriction
(extended by `false`) agree on it -/
theorem tseitin_reads_edge_variables (G : SimpleG) (hG : GoodGraph G) (ch : Option (List Bool))
    (α : Assign) :
    (tseitin G ch).holds (extE G (resE G α)) = (tseitin G ch).holds α := by
  rw [Bool.eq_iff_iff, tseitin_holds_iff, tseitin_holds_iff]
  exact spec_resE hG ch α

/-- What `components G` counts.  (1) it is the number of representatives; (2) a representative is
a vertex of `1..n` from which no smaller vertex can be reached; (3) every vertex reaches exactly
one representative, so representatives correspond to the classes of mutual reachability;
(4) reachability is symmetric; (5) the class of a representative, as a vertex set, is closed
under adjacency — one of the sets `C` quantified over in `TseitinSatIff` — and consists exactly
of the vertices reachable from it; (6) every closed set containing `r` contains that class. -/
theorem components_spec (G : SimpleG) (hG : GoodGraph G) :
    components G = (reps G).card ∧
    (∀ r, r ∈ reps G ↔ (1 ≤ r ∧ r ≤ G.n) ∧ ∀ u, Reach G r u → r ≤ u) ∧
    (∀ v, 1 ≤ v → v ≤ G.n → ∃ r, (r ∈ reps G ∧ Reach G v r) ∧
      ∀ r', r' ∈ reps G ∧ Reach G v r' → r' = r) ∧
    (∀ a b, Reach G a b → Reach G b a) ∧
    (∀ r ∈ reps G,
      (∀ v u, compSet G r v = true → u ∈ G.nbrs v → compSet G r u = true) ∧
      (∀ v, compSet G r v = true ↔ Reach G r v)) ∧
    (∀ r, ∀ C : Nat → Bool, (∀ v u, C v = true → u ∈ G.nbrs v → C u = true) → C r = true →
      ∀ v, Reach G r v → C v = true) := by
  refine ⟨rfl, fun r => mem_reps_iff_min, ?_, fun a b h => reach_symm hG h, ?_, ?_⟩
  · intro v h1 h2
    refine ⟨rep G v, ⟨rep_mem_reps hG ⟨h1, h2⟩, rep_reach v⟩, ?_⟩
    rintro r' ⟨hr', hreach⟩
    rw [rep_congr hG hreach]
    exact ((mem_reps.1 hr').2).symm
  · intro r hr
    exact ⟨compSet_closed hG r, compSet_iff_reach hG hr⟩
  · intro r C hC hr v h
    exact closed_reach C hC h hr

/-- `|V| ≤ |E| + c`: the exponent `|E| + c - |V|` below is the cyclomatic number `|E| - |V| + c`,
no truncated subtraction is involved; and `c ≤ |V|` -/
theorem tseitin_cyclomatic_le (G : SimpleG) (hG : GoodGraph G) :
    G.n ≤ G.m + components G ∧ components G ≤ G.n :=
  ⟨vertices_le_edges_add_components hG, components_le G⟩

/-- T-C02.1e the solution set is a coset of the cycle space, as an explicit bijection: if `x₀` is
a model then `x ↦ x xor x₀` maps the models (over the edge variables) onto the edge sets with all
degrees even, and is its own inverse. -/
theorem tseitin_solutions_coset (G : SimpleG) (ch : Option (List Bool)) (x₀ : EdgeVec G)
    (h₀ : (tseitin G ch).holds (extE G x₀) = true) :
    (∀ x : EdgeVec G, (tseitin G ch).holds (extE G x) = true →
      ∀ v, 1 ≤ v → v ≤ G.n → vcount G (extE G (bxor x x₀)) v % 2 = 0) ∧
    (∀ y : EdgeVec G, (∀ v, 1 ≤ v → v ≤ G.n → vcount G (extE G y) v % 2 = 0) →
      (tseitin G ch).holds (extE G (bxor y x₀)) = true) ∧
    (∀ x : EdgeVec G, bxor (bxor x x₀) x₀ = x) := by
  have s₀ := (spec_iff_par ch _).1 ((tseitin_holds_iff G ch _).1 h₀)
  refine ⟨fun x hx v h1 h2 => ?_, fun y hy => ?_, fun x => bxor_cancel x x₀⟩
  · rw [← par_eq_false_iff, extE_bxor, par_hom, bxor, s₀ v h1 h2,
      (spec_iff_par ch _).1 ((tseitin_holds_iff G ch _).1 hx) v h1 h2]
    exact bne_self_eq_false _
  · rw [tseitin_holds_iff, spec_iff_par]
    intro v h1 h2
    rw [extE_bxor, par_hom, bxor, s₀ v h1 h2, (par_eq_false_iff _ v).2 (hy v h1 h2)]
    exact Bool.false_bne _

/-- T-C02.1f the cycle space: the number of edge sets in which every vertex has even degree is
`2^(|E| - |V| + c)` -/
theorem tseitin_cycle_space_count (G : SimpleG) (hG : GoodGraph G) :
    Fintype.card {y : EdgeVec G // ∀ v : VertIdx G, vcount G (extE G y) v.1 % 2 = 0} =
      2 ^ (G.m + components G - G.n) := by
  rw [Fintype.card_subtype, ← kernel_card hG]
  refine congrArg Finset.card (Finset.filter_congr fun y _ => ?_)
  rw [funext_iff]
  exact forall_congr' fun v => (par_eq_false_iff (extE G y) v.1).symm

/-- **T-C02.1g the model count.**  For every good graph and every charge vector for which the
formula is satisfiable, the number of satisfying assignments of the edge variables `1..|E|` is
`2^(|E| - |V| + c)`, `c = components G` the number of connected components. -/
theorem tseitin_model_count (G : SimpleG) (hG : GoodGraph G) (ch : Option (List Bool))
    (hsat : ∃ α, (tseitin G ch).holds α = true) :
    Fintype.card {x : EdgeVec G // (tseitin G ch).holds (extE G x) = true} =
      2 ^ (G.m + components G - G.n) := by
  obtain ⟨α, hα⟩ := hsat
  have h₀ : bdry G (resE G α) = chV G ch :=
    (spec_iff_bdry ch _).1 ((spec_resE hG ch α).2 ((tseitin_holds_iff G ch α).1 hα))
  rw [Fintype.card_subtype, ← fiber_card hG (resE G α)]
  refine congrArg Finset.card (Finset.filter_congr fun x _ => ?_)
  rw [tseitin_holds_iff, spec_iff_bdry, h₀]

/-- the same count with the documented criterion as hypothesis, and `0` otherwise: the number of
models is `2^(|E|-|V|+c)` if every closed vertex set has an even number of odd-charged vertices,
and there is no model if some closed set has an odd number -/
theorem tseitin_model_count_iff (G : SimpleG) (hG : GoodGraph G) (ch : Option (List Bool)) :
    ((∀ C : Nat → Bool, (∀ v u, C v = true → u ∈ G.nbrs v → C u = true) →
        Even ((Finset.Icc 1 G.n).filter (fun v => C v = true ∧ chargeAt G.n ch v = true)).card) →
      Fintype.card {x : EdgeVec G // (tseitin G ch).holds (extE G x) = true} =
        2 ^ (G.m + components G - G.n)) ∧
    ((∃ C : Nat → Bool, (∀ v u, C v = true → u ∈ G.nbrs v → C u = true) ∧
        ¬ Even ((Finset.Icc 1 G.n).filter (fun v => C v = true ∧ chargeAt G.n ch v = true)).card) →
      Fintype.card {x : EdgeVec G // (tseitin G ch).holds (extE G x) = true} = 0) := by
  constructor
  · intro h
    obtain ⟨α, hα⟩ := tseitin_converse hG ch h
    exact tseitin_model_count G hG ch ⟨α, (tseitin_holds_iff G ch α).2 hα⟩
  · rintro ⟨C, hC, hodd⟩
    rw [Fintype.card_eq_zero_iff]
    constructor
    rintro ⟨x, hx⟩
    exact hodd (tseitin_parity G hG ch _ ((tseitin_holds_iff G ch _).1 hx) C hC)

/-- non-vacuity: `exG` (triangle 1-2-3, edge 4-5, isolated 6; 4 edges, 6 vertices, 3 components)
with odd charges on the vertices 1 and 2 is satisfiable (edge variable 1 = the edge 1-2), and has
exactly `2^(4+3-6) = 2` models (the edge 1-2, or the path 1-3-2); with the default charges (odd on
vertex 1 only) it has none -/
example : (∃ α, (tseitin exG (some [true, true])).holds α = true) ∧
    Fintype.card {x : EdgeVec exG // (tseitin exG (some [true, true])).holds (extE exG x) = true} = 2 ∧
    Fintype.card {x : EdgeVec exG // (tseitin exG none).holds (extE exG x) = true} = 0 := by
  have hsat : ∃ α, (tseitin exG (some [true, true])).holds α = true :=
    ⟨fun i => i == 1, by decide⟩
  refine ⟨hsat, ?_, ?_⟩
  · rw [tseitin_model_count exG exG_good _ hsat, exG_components]; rfl
  · apply (tseitin_model_count_iff exG exG_good none).2
    exact ⟨fun v => decide (v ≤ 3), exG_triangle_closed, by decide⟩

end Cnfgen.C02
