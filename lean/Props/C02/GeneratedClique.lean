/-
C02 — `CliqueFormula` (and its helper `non_edges`) as TRANSLATED from cnfgen/families/subgraph.py is `Fam.G2.cliqueFormula` of
the model, for every graph value, every integer `k` and both values of `symbreak`: the translated `new_mapping`,
`force_complete / functional / injective / nondecreasing_mapping`, `to_dict()` (a dictionary comprehension) and the lookups
`s[i, j]`.
-/
import Lemmas.GenFamClique
import Lemmas.GraphInv
import Props.C01.Generated
import Props.C02.Graphs2
set_option linter.unusedSimpArgs false
namespace Cnfgen.C02
open Cnfgen Cnfgen.Vars Cnfgen.PyGen Cnfgen.GenVars Cnfgen.Fam Cnfgen.PyF Cnfgen.GenFam Cnfgen.C11
open Cnfgen.C01 (stateOf formulaOf formulaOf_stateOf gen_non_negative_int_eq)

theorem smap_forceComplete (s k N : Nat) : (SMap.mk (BipG.complete k N) s).forceComplete = G2.forceComplete s k N :=
  SMap.forceComplete_complete s k N

theorem smap_forceFunctional (s k N : Nat) :
    (SMap.mk (BipG.complete k N) s).forceFunctional = G2.forceFunctional s k N :=
  SMap.forceFunctional_complete s k N

theorem smap_forceInjective (s k N : Nat) :
    (SMap.mk (BipG.complete k N) s).forceInjective = G2.forceInjective s k N :=
  SMap.forceInjective_complete s k N

/-- **`CliqueFormula` of the source is `Fam.G2.cliqueFormula` of the model** — every graph value, every integer `k` (negative:
the same ValueError), both values of `symbreak` -/
theorem gen_clique_eq_model (G : SimpleG) (k : Int) (symbreak : Bool) :
    CliqueFormula (absGraph G) k symbreak = (G2.cliqueFormula G k symbreak).map stateOf := by
  unfold CliqueFormula
  rw [cliqueFormula_eq]
  simp only [gen_non_negative_int_eq]
  by_cases hk : k < 0
  · simp [hk]
  · obtain ⟨k, rfl⟩ := Int.eq_ofNat_of_zero_le (by omega : 0 ≤ k)
    have hn : (absGraph G).order = (G.n : Int) := rfl
    have hneg : ¬ ((k : Int) < 0 ∨ (G.n : Int) < 0) := by omega
    simp only [hk, if_false, Py.ok_bind, hn, Py.map_ok, Int.toNat_natCast]
    rw [new_mapping_eq PyF.empty 0 rfl, if_neg hneg]
    simp only [Py.tryExcept, Py.ok_bind, Int.toNat_natCast]
    have hw := BipG.wf_complete k G.n
    rw [force_complete_unary_eq _ 0 hw, Py.ok_bind, force_functional_unary_eq _ 0 hw, Py.ok_bind,
      force_injective_unary_eq _ 0 hw, Py.ok_bind]
    -- with or without the symmetry-breaking block, the loop over the non-edges starts from some state
    simp only [force_nondecreasing_unary_complete, Py.ok_bind]
    rw [← apply_ite Except.ok, Py.ok_bind, to_dict_unary_eq 0 hw, Py.ok_bind, gen_non_edges_eq_model, range_toList_nat,
      combos2_eq_pairs, ints, pairs_map, intPairs, Py.product2_map,
      foldlM_pushAll_map _ _ (Py.product2 (pairs (rangeN 1 (k + 1))) (G2.nonEdges G)) _ (fun x =>
        Con.clause [-(G2.mlit 1 G.n x.1.1 x.2.1), -(G2.mlit 1 G.n x.1.2 x.2.2)] ::
          (if !symbreak then [Con.clause [-(G2.mlit 1 G.n x.1.1 x.2.2), -(G2.mlit 1 G.n x.1.2 x.2.1)]] else [])) ?_ _ rfl,
      Py.ok_bind]
    -- both sides are the same groups of constraints in the same order (complete, functional, injective, nondecreasing
    -- if `symbreak`, the non-edge clauses): `simp` re-spells `SMap.force*` as `G2.force*` and flattens the nested loops
    · cases symbreak <;>
        simp [stateOf, PyF.empty, G2.cliqueCore, smap_forceComplete, smap_forceFunctional, smap_forceInjective,
          G2.cliqueEdgeCons, Py.product2, G2.pairs2_eq_pairs, G2.verts, Fam.idx, List.flatMap_assoc, List.flatMap_map]
    · rintro s ⟨i, j⟩ hx -
      have hi' := mem_pairs_mem _ _ _ (Py.mem_product2.1 hx).1
      have hi1 := mem_rangeN.1 hi'.1
      have hi2 := mem_rangeN.1 hi'.2
      have hj' : j ∈ G2.pairs2 (G2.verts G.n) := (List.mem_filter.1 (Py.mem_product2.1 hx).2).1
      rw [G2.pairs2_eq_pairs] at hj'
      have hj'' := mem_pairs_mem _ _ _ hj'
      have hj1 := mem_rangeN.1 hj''.1
      have hj2 := mem_rangeN.1 hj''.2
      have he : ∀ a b, (1 ≤ a ∧ a < k + 1) → (1 ≤ b ∧ b < G.n + 1) →
          Py.dictGet (unaryDict 0 (BipG.complete k G.n)) ((a : Int), (b : Int)) = Except.ok (G2.mlit 1 G.n a b) := by
        intro a b ha hb
        rw [unaryDict_get 0 hw a b (BipG.mem_complete_edgeset.2 ⟨ha.1, by omega, hb.1, by omega⟩),
          bipId_complete (0 + 1) k G.n a b ⟨ha.1, by omega⟩ ⟨hb.1, by omega⟩]
        rfl
      simp only [Int.ofNat_eq_natCast, he i.1 j.1 hi1 hj1, he i.2 j.2 hi2 hj2, he i.1 j.2 hi1 hj2, he i.2 j.1 hi2 hj1,
        Py.ok_bind, add_clause_nocheck]
      cases symbreak <;> simp [push]

/-- **the k-clique formula of the source is satisfiable exactly when the graph has a `k`-clique** — on the generated
definition, for every graph object with the invariant `add_edge` maintains, with and without symmetry breaking: `k·n`
variables; the formula (abstract constraints, CNF, OPB) has a model iff `G` has a clique of size `k` -/
theorem gen_clique_sat_iff (G : SimpleG) (hG : SimpleG.Inv G) (k : Nat) (sb : Bool) :
    ∃ s : FState, CliqueFormula (absGraph G) (k : Int) sb = Except.ok s ∧ s.numvar = ((k * G.n : Nat) : Int) ∧
      ((∃ α, (formulaOf s).holds α = true) ↔ HasClique G k) ∧
      ((∃ α, (formulaOf s).toCNF.holds α = true) ↔ HasClique G k) ∧
      ((∃ α, (formulaOf s).toOPB.holds α = true) ↔ HasClique G k) := by
  have hgood : G2.GoodGraph G :=
    G2.goodGraph_of_edgeset G (fun e he => ⟨hG.symm e.1 e.2 he, (hG.range e.1 e.2 he).2.2.2.2⟩)
  refine ⟨stateOf (G2.cliqueCore G k sb), ?_, rfl, ?_, ?_, ?_⟩
  · rw [gen_clique_eq_model, cliqueFormula_eq]
    have : ¬ ((k : Int) < 0) := by omega
    simp [this]
  · rw [formulaOf_stateOf]; exact cliqueCore_sat_iff G hgood k sb
  · rw [formulaOf_stateOf, ← cliqueCore_sat_iff G hgood k sb]
    simp only [cliqueCore_cnf]
  · rw [formulaOf_stateOf, ← cliqueCore_sat_iff G hgood k sb]
    simp only [cliqueCore_opb]

end Cnfgen.C02
