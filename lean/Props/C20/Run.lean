/-
C20 — the RESOURCE and CONTROL-FLOW half of the solver bridge:
"a missing, unsupported or failing solver … raises the documented error instead of returning a verdict,
and temporary files are removed" — at EVERY point where the outside world can fail.

Model: `CnfgenModel/Solver/Run.lean` (the three interface functions as programs with the try / except OSError /
finally nesting of solver.py; an interpreter driven by an arbitrary fault schedule; an arbitrary solver
process).  Lemmas: `Lemmas/SolverRun.lean` (the finite enumeration `execAll` of all ends of a program
covers every run under every schedule).

Everything is proved for EVERY fault schedule and EVERY solver behaviour (any stdout bytes, any result file or
none, any exit status, a solver that deletes its input or result file).

Two snapshots of solver.py are modelled.  "The current source" below is `Variant.current`: solver.py with the
defects C20-R1 / C20-R2, as it was before /repo 4ff012e.  "The proposed patch" is `Variant.patched`:
notes/C20_proposed.patch, which /repo 4ff012e applied.  `sourceVariant` says which of the two the regenerated
skeletons are.  The two full statements, `LeakFree` and `OutcomeDocumented`, are FALSE of `.current`
(`current_leaks`, `current_raises_oserror`), proved of it under explicit hypotheses (`…_partial`) with an exact
account of the failing runs (`current_leak_iff`, `current_oserror_iff`), and proved in full of `.patched`.
-/
import Props.C20
import Lemmas.SolverRun
namespace Cnfgen.C20
open Cnfgen Cnfgen.Solver
open Cnfgen.Gen (RSlot ROp RProg)

/-! ## T-C20.5 — the tie to the source -/

/-- T-C20.5a  The resource skeletons that the translator regenerates from the CURRENT
cnfgen/utils/solver.py (order of the calls to tempfile / Popen / communicate / open / read / close /
os.unlink, and their try / `except OSError: pass` / finally nesting) are one of the two reviewed
snapshots: the source with the defects C20-R1 / C20-R2 (`Variant.current`) or the source with the
proposed patch (`Variant.patched`).  Removing a `finally`, moving an `unlink`, reordering two calls,
narrowing or adding a handler changes the generated term and breaks this proof. -/
theorem source_is_a_reviewed_snapshot : sourceVariant.isSome = true := by decide

/-- T-C20.5a'  … and the programs all theorems below speak about (`progOf v`) ARE the regenerated
skeletons, for the variant `v` that `sourceVariant` reports. -/
theorem current_source_is_documented (v : Variant) (h : sourceVariant = some v) :
    Gen.solverProg_satsolve_stdin_stdout = progOf v .stdinStdout ∧
    Gen.solverProg_satsolve_filein_stdout = progOf v .fileInStdout ∧
    Gen.solverProg_satsolve_filein_fileout = progOf v .fileInFileOut := by
  unfold sourceVariant at h
  split at h
  · rename_i hc
    injection h with h; subst h; exact hc
  · split at h
    · rename_i hp
      injection h with h; subst h; exact hp
    · cases h

/-- non-vacuity, and the record of what /repo is today: `some .current` while C20-R1 / C20-R2 are open,
`some .patched` once `notes/C20_proposed.patch` (or an equivalent change) has landed — both are accepted,
the correspondence (`frun 2 …`) follows whichever it is -/
example : sourceVariant = some .current ∨ sourceVariant = some .patched := by decide

/-- T-C20.5b  `CNF.solve` returns `sat_solve(self, …)` unchanged and `CNF.is_satisfiable` returns its
first component (the bodies of the two methods, regenerated from cnfgen/formula/cnfio.py) -/
theorem wrappers_documented :
    Gen.solverWrappers =
      [("is_satisfiable", "return sat_solve(self, cmd=cmd, sameas=sameas, verbose=0)[0]"),
       ("solve", "return sat_solve(self, cmd=cmd, sameas=sameas, verbose=verbose)")] := rfl

/-! ## T-C20.6 — every run is one of finitely many paths -/

/-- T-C20.6a  Whatever the fault schedule and the solver, the run of an interface function ends in
one of the finitely many (faults met, final state, pending exception) triples enumerated by
`execAll`, and the faults met are the entries of the schedule in order (`ok` once it is exhausted).
This is what reduces "for every fault schedule" to a finite check in the theorems below. -/
theorem every_run_is_a_path (v : Variant) (f : Iface) (b : Beh) (sched : List Fault) :
    ∃ path, (path, (exec b.rmIn b.rmOut b.file.isSome (progOf v f) sched RState.init).2)
        ∈ execAll b.rmIn b.rmOut b.file.isSome (progOf v f) RState.init ∧
      Agree path sched (exec b.rmIn b.rmOut b.file.isSome (progOf v f) sched RState.init).1 :=
  exec_sound _ _ _ _ sched RState.init

/-- non-vacuity: `_satsolve_filein_fileout` has 67 ends for a polite solver, its patched version 179 -/
example : (execAll false false true (progOf .current .fileInFileOut) RState.init).length = 67 ∧
    (execAll false false true (progOf .patched .fileInFileOut) RState.init).length = 179 := by
  decide +kernel

/-- T-C20.6b  (a sound finite check for ANY program)  For every program `P` over the resource calls of
solver.py — the current functions, the patch, or any later rewrite that the translator can express —
if the finite enumeration of its paths shows no stray file, then NO fault schedule and no solver
behaviour makes a run of `P` leave a temporary file behind whose removal the OS did not refuse.
(`patched_leak_free` is this theorem applied to the evaluated check; for the current source the check
evaluates to `false`, see `current_leaks`.) -/
theorem leak_check_sound (P : RProg)
    (hcheck : forAllPaths P (fun _ _ _ p => p.left.all p.2.1.refused.contains) = true)
    (rmIn rmOut hasFile : Bool) (sched : List Fault) :
    ∀ p ∈ (exec rmIn rmOut hasFile P sched RState.init).2.1.created.filter
            (exec rmIn rmOut hasFile P sched RState.init).2.1.files.contains,
      p ∈ (exec rmIn rmOut hasFile P sched RState.init).2.1.refused := by
  obtain ⟨path, _, hp⟩ := run_satisfies hcheck rmIn rmOut hasFile sched
  intro p hpl
  simp only [Path.left, List.all_eq_true] at hp
  simpa using hp p hpl

/-- a solver that prints a satisfying assignment / writes `SAT 1 -2 0`, exit status 10, and leaves the
temporary files alone -/
def politeSat : Beh :=
  { stdout := "s SATISFIABLE\nv 1 -2 0\n".toList.map Char.toNat,
    file := some ("SAT\n1 -2 0\n".toList.map Char.toNat), exit := 10, rmIn := false, rmOut := false }

/-- the same solver deleting its input file / its result file -/
def rudeIn : Beh := { politeSat with rmIn := true }
def rudeOut : Beh := { politeSat with rmOut := true }

/-- the call needs nothing from `Beh.exit`: solver.py never reads the exit status -/
theorem exit_status_irrelevant (v : Variant) (f : Iface) (b : Beh) (n : Nat) (sched : List Fault) :
    (runProg v f { b with exit := n } sched).outcome = (runProg v f b sched).outcome ∧
    (runProg v f { b with exit := n } sched).left = (runProg v f b sched).left := ⟨rfl, rfl⟩

/-! ## the finite checks

Each `q… rmIn rmOut hasFile path` below is a property of one end of a program.  `checks v f` lists
those that hold of every end of `progOf v f`; the enumeration is evaluated once, in `all_checks`,
and the theorems of T-C20.7 – T-C20.11 each take the entry they need (`run_check`). -/

/-- the function holds the solver's complete answer when the resource phase is over (else nothing: `b''`, `[]`) -/
def got (f : Iface) (st : RState) : Bool :=
  match f with
  | .fileInFileOut => st.gotFile && st.fileWritten
  | _ => st.gotOutput

/-- an answer is received only from a process that was started -/
def qReceived (f : Iface) (_ _ _ : Bool) (p : Path) : Bool := !got f p.2.1 || p.2.1.proc.isSome

/-- what can be pending after the resource phase: nothing, OSError, or the injected non-OSError
(only if the schedule contains one) — never an exception of solver.py's own making -/
def qKinds (_ _ _ : Bool) (p : Path) : Bool :=
  match p.2.2 with
  | none => true
  | some .osError => true
  | some .other => !osOnly p.1
  | some (.py _) => false

/-- `Popen` is reached only after the formula was written to the input file and the file closed (stdin
convention: nothing to wait for) -/
def qInputReady (_ _ _ : Bool) (p : Path) : Bool := !p.2.1.proc.isSome || p.2.1.inputReady

/-- `_satsolve_stdin_stdout`: no temporary file is ever created, and under OSError faults alone nothing is
pending at the end (its whole body is inside `try … except OSError: pass`) -/
def qStdin (_ _ _ : Bool) (p : Path) : Bool :=
  p.2.1.created.isEmpty && p.2.1.files.isEmpty && (!osOnly p.1 || p.2.2.isNone)

/-- "temporary files are removed": every created file that still exists is one whose `os.unlink` the OS refused -/
def qLeakFree (_ _ _ : Bool) (p : Path) : Bool := p.left.all p.2.1.refused.contains

/-- number of resource calls before the `try` of the current source -/
def prologueLen : Iface → Nat
  | .stdinStdout => 0 | .fileInStdout => 4 | .fileInFileOut => 6

/-- hypotheses of the partial theorem as a check on paths: prologue clean, the solver keeps its
hands off the input file, the removal of the input file (path 0) was not refused -/
def qLeakPartial (k : Nat) (rmIn _ _ : Bool) (p : Path) : Bool :=
  rmIn || !cleanPrefix k p.1 || p.2.1.refused.contains 0 || p.left.all p.2.1.refused.contains

/-- a temporary file is left behind although its removal was not refused (negation of `qLeakFree`) -/
def strayB (p : Path) : Bool := !(p.left.all p.2.1.refused.contains)

/-- the two ways the current source leaks (right-hand side of `current_leak_iff`): a call among the first `k`,
before the `try`, failed after a file existed; or (minisat) the `try` was entered, `os.unlink` of the input file
raised — refused, or the solver had deleted it — and the result file (path 1) is still there -/
def condLeak (k : Nat) (isMinisat rmIn : Bool) (p : Path) : Bool :=
  (!p.2.1.created.isEmpty && decide (p.2.1.trace.length ≤ k)) ||
  (isMinisat && decide (k < p.2.1.trace.length) && (p.2.1.refused.contains 0 || (rmIn && p.2.1.ran)) &&
    p.left.contains 1)

def qLeakIff (f : Iface) (rmIn _ _ : Bool) (p : Path) : Bool :=
  strayB p == condLeak (prologueLen f) (f == .fileInFileOut) rmIn p

/-- patched source: under OSError faults alone no exception is pending after the resource phase, so what comes
out is a verdict or the documented RuntimeError of the pure tail -/
def qNoPending (_ _ _ : Bool) (p : Path) : Bool := p.2.2.isNone || !osOnly p.1

/-- the two ways the current source lets an OSError out (right-hand side of `current_oserror_iff`): the last
call made is among the first `k`, before the `try`, and met an OSError; or the `try` was entered and an
`os.unlink` in `finally` raised — refused, or the solver had deleted the input file (file conventions) or the
result file (minisat) -/
def condOS (k : Nat) (notStdin isMinisat rmIn rmOut : Bool) (p : Path) : Bool :=
  (decide (p.2.1.trace.length ≤ k) && (decide (1 ≤ p.1.length) && p.1.getD (p.1.length - 1) .ok == .os)) ||
  (decide (k < p.2.1.trace.length) &&
    (!p.2.1.refused.isEmpty || ((rmIn && (p.2.1.ran && notStdin)) || (rmOut && (p.2.1.ran && isMinisat)))))

/-- an OSError is pending exactly when `condOS` says so, and every resource call made consumed one entry of the
schedule -/
def qOSErrorIff (f : Iface) (rmIn rmOut _ : Bool) (p : Path) : Bool :=
  ((p.2.2 == some Exn.osError) ==
    condOS (prologueLen f) (f != .stdinStdout) (f == .fileInFileOut) rmIn rmOut p) &&
  p.1.length == p.2.1.trace.length

/-- hypotheses of `current_outcome_documented_partial` as a check on paths: polite solver, nothing refused, the
first `k` calls clean, OSError faults only — then no exception is pending -/
def qOutcomePartial (k : Nat) (rmIn rmOut _ : Bool) (p : Path) : Bool :=
  rmIn || rmOut || p.2.2.isNone || !p.2.1.refused.isEmpty || !cleanPrefix k p.1 || !osOnly p.1

/-- nothing fails and the solver leaves the files alone: no exception, nothing left, and the answer
was received (unless the solver wrote no result file) -/
def qFaultFree (f : Iface) (rmIn rmOut hasFile : Bool) (p : Path) : Bool :=
  rmIn || rmOut || !allOk p.1 ||
    (p.2.2.isNone && p.left.isEmpty && p.2.1.refused.isEmpty &&
      (got f p.2.1 || (f == .fileInFileOut && !hasFile)))

def checks (v : Variant) (f : Iface) : List (Bool → Bool → Bool → Path → Bool) :=
  [qReceived f, qKinds, qInputReady, qFaultFree f] ++
  (match f with
   | .stdinStdout => [qStdin]
   | _ => []) ++
  match v with
  | .patched => [qLeakFree, qNoPending]
  | .current => [qLeakPartial (prologueLen f), qLeakIff f, qOSErrorIff f, qOutcomePartial (prologueLen f)]

/-- the one evaluation of the enumerations: 8 solver behaviours × the 6 cases of `(v, f)` (5 distinct programs,
`progOf _ .stdinStdout` ignores the variant) -/
theorem all_checks (v : Variant) (f : Iface) :
    forAllPaths (progOf v f) (fun a b c p => (checks v f).all (· a b c p)) = true := by
  rw [forAllPaths_eq_allEnds]
  -- the checks as one conjunction: `List.all` over their list, unfolded at every end, is dear in the kernel
  cases v <;> cases f <;>
    simp only [checks, List.cons_append, List.nil_append, List.all_cons, List.all_nil, Bool.and_true] <;>
    decide +kernel

theorem check_holds {v : Variant} {f : Iface} {q : Bool → Bool → Bool → Path → Bool}
    (hq : q ∈ checks v f) : forAllPaths (progOf v f) q = true :=
  forAllPaths_iff.mpr fun a b c p hp =>
    List.all_eq_true.mp (forAllPaths_iff.mp (all_checks v f) a b c p hp) q hq

/-- a call ends in a state and a pending exception that pass the check, having met the faults `path`
of the schedule; callers leave `hq` to its default, membership in the literal list `checks v f` -/
theorem run_check (v : Variant) (f : Iface) (q : Bool → Bool → Bool → Path → Bool) (b : Beh)
    (sched : List Fault) (hq : q ∈ checks v f := by simp [checks]) :
    ∃ path rest st x, Agree path sched rest ∧ runProg v f b sched = observe f b (st, x) ∧
      q b.rmIn b.rmOut b.file.isSome (path, st, x) = true :=
  have ⟨path, hag, hp⟩ := run_satisfies (check_holds hq) b.rmIn b.rmOut b.file.isSome sched
  ⟨path, _, _, _, hag, rfl, hp⟩

/-- non-vacuity: the leak check accepts the patched minisat function and rejects the current one -/
example : forAllPaths (progOf .patched .fileInFileOut) (fun _ _ _ p => p.left.all p.2.1.refused.contains) = true ∧
    forAllPaths (progOf .current .fileInFileOut) (fun _ _ _ p => p.left.all p.2.1.refused.contains) = false :=
  ⟨check_holds (q := qLeakFree) (by simp [checks]), by decide +kernel⟩

/-! ### the pure tail -/

theorem parseBytes_nil (f : Iface) : parseBytes f [] = .error .runtimeError := by
  cases f <;> decide

theorem parsePhase_eq (f : Iface) (b : Beh) (st : RState) :
    parsePhase f b st = if got f st then parseAnswer f b else .error .runtimeError := by
  have hrec : received f b st = if got f st then answerBytes f b else [] := by cases f <;> rfl
  rw [parsePhase, hrec]
  split
  · rfl
  · exact parseBytes_nil f

theorem parseBytes_only_runtimeError (f : Iface) (bytes : List Nat) (e : Err)
    (h : parseBytes f bytes = .error e) : e = .runtimeError := by
  cases f
  · exact parseStdout_only_runtimeError _ e h
  · exact parseStdout_only_runtimeError _ e h
  · exact parseMinisatFile_only_runtimeError _ e h

theorem outcome_error_of_none {f : Iface} {b : Beh} {st : RState} {e : Exn}
    (h : (observe f b (st, none)).outcome = .error e) : e = .py .runtimeError := by
  obtain ⟨e', he', rfl⟩ := liftErr_eq_error.mp h
  rw [parseBytes_only_runtimeError f _ e' he']

/-! ## T-C20.7 — verdicts and exception kinds, for every schedule, both variants -/

/-- T-C20.7a  **No fault schedule fabricates a verdict.**  Whenever an interface function (current
or patched) returns a pair — under ANY schedule of OSError and non-OSError faults, with ANY solver —
a solver process was started and the pair is the parse of its COMPLETE answer (standard output,
or result file) by `parseOutput` / `parseMinisatFile`: exactly the functions about which
`fullStatement`, `wellformed_answer`, `witness_sound`, `minisat_sat` … (Props/C20.lean) speak.
In particular a half-read, empty or missing answer never yields `(False, None)` or `(True, …)`. -/
theorem verdict_justified (v : Variant) (f : Iface) (b : Beh) (sched : List Fault)
    (r : Bool × Option (List Int)) (h : (runProg v f b sched).outcome = .ok r) :
    parseAnswer f b = .ok r ∧ (runProg v f b sched).started = true := by
  obtain ⟨_, _, st, x, _, hrun, hp⟩ := run_check v f (qReceived f) b sched
  rw [hrun] at h ⊢
  cases x with
  | some e => cases h
  | none =>
    have h := liftErr_eq_ok.mp h
    rw [parsePhase_eq] at h
    split at h
    · rename_i hgot
      -- the answer was received, hence a process was started
      simp only [qReceived, hgot, Bool.not_true, Bool.false_or] at hp
      exact ⟨h, hp⟩
    · cases h

/-- non-vacuity: the fault-free run with a polite solver returns the solver's assignment, and the
same run with an OSError at `communicate` returns no verdict -/
example : (run .fileInFileOut politeSat []).outcome = .ok (true, some [1, -2]) ∧
    (run .stdinStdout politeSat []).outcome = .ok (true, some [1, -2]) ∧
    (run .stdinStdout politeSat [.ok, .ok, .os]).outcome = .error (.py .runtimeError) := by
  unfold politeSat
  lit_decide

/-- T-C20.7b  **Exception kinds at every crash point** (current and patched source): what comes out
of an interface function is `RuntimeError` (from the pure tail), an `OSError` of the environment, or
the non-OSError exception that the schedule injected — in particular never an `UnboundLocalError` /
`NameError` for a local that a crash left unbound (the D28 class of defects, here for every fault
point), and a non-OSError only if the environment raised one. -/
theorem error_kinds (v : Variant) (f : Iface) (b : Beh) (sched : List Fault) (e : Exn)
    (h : (runProg v f b sched).outcome = .error e) :
    e = .py .runtimeError ∨ e = .osError ∨ (e = .other ∧ osOnly sched = false) := by
  obtain ⟨path, _, st, x, hag, hrun, hp⟩ := run_check v f qKinds b sched
  rw [hrun] at h
  cases x with
  | none => exact .inl (outcome_error_of_none h)
  | some x =>
    injection h with h; subst h
    -- `qKinds`: a non-OSError is pending only after a path that holds one, and so does the schedule then
    have hos := fun hs => hag.osOnly hs
    cases x <;> simp_all [qKinds]

/-! ## T-C20.7c — the solver is started on the complete formula -/

/-- T-C20.7c  Under every schedule, whenever a solver process is started by a file-input convention,
the formula had been written to its input file and the file closed successfully BEFORE `Popen`
(a failed or skipped write / close never leads to a solver run on a truncated formula); for the
stdin convention the formula is rendered after the start and handed to `communicate`. -/
theorem solver_started_on_complete_input (v : Variant) (f : Iface) (b : Beh) (sched : List Fault)
    (h : (runProg v f b sched).started = true) : (runProg v f b sched).inputReady = true := by
  obtain ⟨_, _, st, x, _, hrun, hp⟩ := run_check v f qInputReady b sched
  rw [hrun] at h ⊢
  simp only [qInputReady, show st.proc.isSome = true from h, Bool.not_true, Bool.false_or] at hp
  exact hp

example : (run .fileInFileOut politeSat []).started = true ∧
    (run .fileInFileOut politeSat [.ok, .ok, .ok, .os]).started = false := by decide +kernel

/-! ## T-C20.8 — `_satsolve_stdin_stdout`: nothing to leak, only the documented error -/

/-- T-C20.8  The stdin/stdout convention creates no temporary file under any schedule, and when the
environment raises only OSErrors (the program cannot be started, the pipe breaks, …) the call ends
in a verdict justified by the solver's output or in the documented `RuntimeError` — full strength,
no hypothesis on the schedule. -/
theorem stdinStdout_clean (v : Variant) (b : Beh) (sched : List Fault) :
    (runProg v .stdinStdout b sched).left = [] ∧
    (osOnly sched = true → ∀ e, (runProg v .stdinStdout b sched).outcome = .error e → e = .py .runtimeError) := by
  obtain ⟨path, _, st, x, hag, hrun, hp⟩ := run_check v .stdinStdout qStdin b sched
  simp only [qStdin, Bool.and_eq_true, Bool.or_eq_true, Bool.not_eq_true', List.isEmpty_iff,
    Option.isNone_iff_eq_none] at hp
  obtain ⟨⟨hcr, _⟩, hx⟩ := hp
  rw [hrun]
  refine ⟨by simp only [observe, hcr, List.filter_nil], fun hs e he => ?_⟩
  -- no exception can be pending: all of the body is inside `try … except OSError: pass`
  rcases hx with hx | hx
  · rw [hag.osOnly hs] at hx; cases hx
  · subst hx; exact outcome_error_of_none he

example : osOnly [.ok, .os, .os] = true := by decide

/-! ## T-C20.9 — temporary files are removed -/

/-- FULL STATEMENT (temporary files): after a call of an interface function — whatever fails and
whatever the solver does — every temporary file created by the call that still exists is one whose
removal was attempted and refused by the operating system. -/
def LeakFree (v : Variant) : Prop :=
  ∀ (f : Iface) (b : Beh) (sched : List Fault),
    ∀ p ∈ (runProg v f b sched).left, p ∈ (runProg v f b sched).refused

/-- T-C20.9a  **The proposed patch is leak-free at every crash point**: for all three conventions,
every schedule of OSError and non-OSError faults (creation of either file, rendering, write, close,
start of the process, communicate, re-opening / reading / closing the result file, either removal)
and every solver (including one that deletes its own files). -/
theorem patched_leak_free : LeakFree .patched := fun f b sched =>
  leak_check_sound (progOf .patched f) (check_holds (q := qLeakFree) (by simp [checks])) _ _ _ sched

/-- T-C20.9b  **The current source is NOT leak-free** — five witnesses, each replayed on
the real code by the harness (suite `fault`, known finding C20-R1 / C20-R2):
 1. the creation of the second temporary file fails → the first one stays;
 2. writing the formula fails (disk full) → both stay;
 3. the removal of the input file fails → the removal of the result file is never attempted;
 4. the solver deletes its input file → `os.unlink` raises FileNotFoundError, the result file stays;
 5. file-in/stdout convention: writing the formula fails → the input file stays. -/
theorem current_leaks :
    ((run .fileInFileOut politeSat [.ok, .os]).left = [0] ∧ (run .fileInFileOut politeSat [.ok, .os]).refused = []) ∧
    ((run .fileInFileOut politeSat [.ok, .ok, .ok, .os]).left = [0, 1] ∧
      (run .fileInFileOut politeSat [.ok, .ok, .ok, .os]).refused = []) ∧
    ((run .fileInFileOut politeSat [.ok, .ok, .ok, .ok, .ok, .ok, .ok, .ok, .ok, .ok, .ok, .os]).left = [0, 1] ∧
      (run .fileInFileOut politeSat [.ok, .ok, .ok, .ok, .ok, .ok, .ok, .ok, .ok, .ok, .ok, .os]).refused = [0]) ∧
    ((run .fileInFileOut rudeIn []).left = [1] ∧ (run .fileInFileOut rudeIn []).refused = []) ∧
    ((run .fileInStdout politeSat [.ok, .ok, .os]).left = [0] ∧ (run .fileInStdout politeSat [.ok, .ok, .os]).refused = []) := by
  decide +kernel

theorem current_not_leak_free : ¬ LeakFree .current := by
  intro h
  have := h .fileInFileOut politeSat [.ok, .os] 0 (by decide +kernel)
  revert this
  decide +kernel

/-- T-C20.9c  (PARTIAL — see `LeakFree` for the full statement, false of the current source.)
The current source removes its temporary files provided that
 * none of the resource calls made BEFORE the `try` fails (`prologueLen`: 4 calls for file-in/stdout,
   6 for minisat — creation of the files, rendering, write, close), and
 * the removal of the input file (path 0, the first file created) does not fail: the solver does
   not delete it and the OS does not refuse it.
Everything else may fail in any way: start of the process, communicate, re-opening, reading and
closing the result file (OSError or not), the removal of the result file, a solver deleting its
result file.  What is missing for the full statement is exactly `current_leaks`. -/
theorem current_leak_free_partial (f : Iface) (b : Beh) (sched : List Fault)
    (hpro : cleanPrefix (prologueLen f) sched = true) (hin : b.rmIn = false)
    (hcnf : 0 ∉ (run f b sched).refused) :
    ∀ p ∈ (run f b sched).left, p ∈ (run f b sched).refused := by
  obtain ⟨path, _, st, x, hag, hrun, hp⟩ :=
    run_check .current f (qLeakPartial (prologueLen f)) b sched
  rw [run, hrun] at hcnf ⊢
  simp only [qLeakPartial, hag.cleanPrefix _ hpro, hin, Bool.not_true, Bool.false_or, Bool.or_eq_true,
    List.all_eq_true, Path.left] at hp
  intro p hpl
  rcases hp with h0 | hall
  · exact absurd (by simpa [observe] using h0) hcnf
  · simpa [observe] using hall p hpl

/-- non-vacuity: the process cannot be started, the result file cannot be read, its removal is
refused — the hypotheses hold and the only file left is the refused one -/
example : cleanPrefix (prologueLen .fileInFileOut) [.ok, .ok, .ok, .ok, .ok, .ok, .os, .ok, .os] = true ∧
    0 ∉ (run .fileInFileOut politeSat [.ok, .ok, .ok, .ok, .ok, .ok, .os, .ok, .os]).refused ∧
    (run .fileInFileOut politeSat [.ok, .ok, .ok, .ok, .ok, .ok, .os, .ok, .os]).left = [1] ∧
    (run .fileInFileOut politeSat [.ok, .ok, .ok, .ok, .ok, .ok, .os, .ok, .os]).refused = [1] := by
  decide +kernel

/-! ### exactly when the current source leaks, exactly when it lets an OSError out -/

/-- T-C20.9d  **Exactly when the current source leaves a temporary file behind** (one that the OS did
not refuse to remove), for every schedule and solver:
 (i)  a resource call made BEFORE the `try` failed after the first file had been created
      (at most `prologueLen f` calls were made: the `try` was never entered) — C20-R1; or
 (ii) minisat convention only: the `try` was entered, the removal of the input file (path 0) raised —
      refused by the OS, or the file had been deleted by the solver — and the result file (path 1)
      was still there: its removal is skipped — C20-R2.
Nothing else leaks: in particular no failure of `Popen`, `communicate`, `open`, `read`, `close` inside
the `try`, of whatever kind. -/
theorem current_leak_iff (f : Iface) (b : Beh) (sched : List Fault) :
    (∃ p ∈ (run f b sched).left, p ∉ (run f b sched).refused) ↔
      ((run f b sched).created ≠ [] ∧ (run f b sched).trace.length ≤ prologueLen f) ∨
      (f = .fileInFileOut ∧ prologueLen f < (run f b sched).trace.length ∧
        (0 ∈ (run f b sched).refused ∨ (b.rmIn = true ∧ (run f b sched).ran = true)) ∧
        1 ∈ (run f b sched).left) := by
  obtain ⟨path, _, st, x, _, hrun, hp⟩ := run_check .current f (qLeakIff f) b sched
  -- the check is an equation between two Booleans; read as an `iff`, its sides unfold to those of the statement
  have := Bool.eq_iff_iff.mp (beq_iff_eq.mp hp)
  rw [run, hrun]
  simpa [strayB, condLeak, Path.left, observe, and_assoc] using this

/-- non-vacuity of both sides: (i) and (ii) happen, and a failing `Popen` does not leak -/
example :
    ((run .fileInFileOut politeSat [.ok, .ok, .ok, .os]).created ≠ [] ∧
      (run .fileInFileOut politeSat [.ok, .ok, .ok, .os]).trace.length ≤ prologueLen .fileInFileOut) ∧
    (prologueLen .fileInFileOut < (run .fileInFileOut rudeIn []).trace.length ∧
      (run .fileInFileOut rudeIn []).ran = true ∧ 1 ∈ (run .fileInFileOut rudeIn []).left) ∧
    (run .fileInFileOut politeSat [.ok, .ok, .ok, .ok, .ok, .ok, .other]).left = [] := by
  decide +kernel

/-! ## T-C20.10 — the documented error instead of a verdict -/

/-- FULL STATEMENT (outcomes): when the environment raises only OSErrors — at any resource call,
any number of them — and whatever the solver does, an interface function either returns the pair
that the parsers read off the solver's complete answer, or raises the documented `RuntimeError`. -/
def OutcomeDocumented (v : Variant) : Prop :=
  ∀ (f : Iface) (b : Beh) (sched : List Fault), osOnly sched = true →
    match (runProg v f b sched).outcome with
    | .ok r => parseAnswer f b = .ok r
    | .error e => e = .py .runtimeError

theorem outcome_of_noPending {v : Variant} {f : Iface} {b : Beh} {sched : List Fault} {st : RState}
    (hrun : runProg v f b sched = observe f b (st, none)) :
    match (runProg v f b sched).outcome with
    | .ok r => parseAnswer f b = .ok r
    | .error e => e = .py .runtimeError := by
  cases hout : (runProg v f b sched).outcome with
  | ok r => exact (verdict_justified v f b sched r hout).1
  | error e => exact outcome_error_of_none (hrun ▸ hout)

/-- T-C20.10a  **The proposed patch raises only the documented error**, at every fault point of all
three conventions and for every solver behaviour. -/
theorem patched_outcome_documented : OutcomeDocumented .patched := by
  intro f b sched hs
  obtain ⟨path, _, st, x, hag, hrun, hp⟩ := run_check .patched f qNoPending b sched
  obtain rfl : x = none := by simpa [qNoPending, hag.osOnly hs] using hp
  exact outcome_of_noPending hrun

/-- T-C20.10b  **The current source lets undocumented exceptions escape**: an OSError at the creation
of a temporary file, at the write, at a removal, and the FileNotFoundError caused by a solver that
deletes its result file (even though in the last case the verdict had been read) come out as they
are. -/
theorem current_raises_oserror :
    (run .fileInStdout politeSat [.os]).outcome = .error .osError ∧
    (run .fileInFileOut politeSat [.ok, .ok, .ok, .os]).outcome = .error .osError ∧
    (run .fileInStdout politeSat [.ok, .ok, .ok, .ok, .ok, .ok, .os]).outcome = .error .osError ∧
    (run .fileInFileOut rudeOut []).outcome = .error .osError ∧
    (run .fileInStdout rudeIn []).outcome = .error .osError := by
  decide +kernel

theorem current_outcome_not_documented : ¬ OutcomeDocumented .current := by
  intro h
  have := h .fileInStdout politeSat [.os] (by decide)
  have hout : (runProg .current .fileInStdout politeSat [.os]).outcome = .error .osError := by
    decide +kernel
  rw [hout] at this
  cases this

/-- T-C20.10d  **Exactly when the current source lets an OSError out** (instead of a verdict or the
documented RuntimeError), for every schedule — non-OSError faults included — and every solver:
 (i)  the LAST resource call made was one of those before the `try` and it raised an OSError
      (the `try` was never entered) — C20-R1; or
 (ii) the `try` was entered and a removal in the `finally` raised: refused by the OS, or the solver
      had deleted its input file (file conventions) or its result file (minisat convention) — C20-R2.
Never otherwise: every OSError raised inside the `try` is turned into RuntimeError, and the
stdin/stdout convention never lets one out at all. -/
theorem current_oserror_iff (f : Iface) (b : Beh) (sched : List Fault) :
    (run f b sched).outcome = .error .osError ↔
      ((run f b sched).trace.length ≤ prologueLen f ∧ 1 ≤ (run f b sched).trace.length ∧
          sched.getD ((run f b sched).trace.length - 1) .ok = .os) ∨
      (prologueLen f < (run f b sched).trace.length ∧
        ((run f b sched).refused ≠ [] ∨
         (b.rmIn = true ∧ (run f b sched).ran = true ∧ f ≠ .stdinStdout) ∨
         (b.rmOut = true ∧ (run f b sched).ran = true ∧ f = .fileInFileOut))) := by
  obtain ⟨path, _, st, x, hag, hrun, hp⟩ := run_check .current f (qOSErrorIff f) b sched
  simp only [qOSErrorIff, Bool.and_eq_true, beq_iff_eq] at hp
  obtain ⟨hp1, hlen⟩ := hp
  have hout : (observe f b (st, x)).outcome = .error .osError ↔ (x == some Exn.osError) = true := by
    cases x with
    | none =>
      simp only [observe]
      cases parsePhase f b st <;> simp [liftErr]
    | some e => cases e <;> simp [observe]
  rw [run, hrun, hout, hp1]
  simp only [observe, condOS, Bool.or_eq_true, Bool.and_eq_true, decide_eq_true_eq, beq_iff_eq,
    Bool.not_eq_true', List.isEmpty_eq_false_iff, bne_iff_ne, ne_eq]
  rw [← hlen]
  -- the two sides differ in where the last fault is read: in the faults met, or in the schedule
  refine or_congr (and_congr_right fun _ => and_congr_right fun h1 => ?_) Iff.rfl
  rw [hag.getD (path.length - 1) (by omega)]

/-- non-vacuity: (i), (ii) refused removal, (ii) result file deleted by the solver; and an OSError at
`communicate` does not come out -/
example :
    (run .fileInStdout politeSat [.ok, .ok, .os]).outcome = .error .osError ∧
    (run .fileInStdout politeSat [.ok, .ok, .ok, .ok, .ok, .ok, .os]).refused ≠ [] ∧
    (run .fileInFileOut rudeOut []).ran = true ∧
    (run .fileInFileOut politeSat [.ok, .ok, .ok, .ok, .ok, .ok, .ok, .os]).outcome = .error (.py .runtimeError) := by
  decide +kernel

/-- T-C20.10c  (PARTIAL — see `OutcomeDocumented`.)  The current source ends in a justified verdict
or in the documented `RuntimeError` provided that the environment raises only OSErrors, none of them
at a resource call before the `try`, no removal is refused, and the solver deletes neither of the
temporary files.  (A process that cannot be started, a broken pipe, an unreadable result file are
covered.)  What is missing is `current_raises_oserror`. -/
theorem current_outcome_documented_partial (f : Iface) (b : Beh) (sched : List Fault)
    (hs : osOnly sched = true) (hpro : cleanPrefix (prologueLen f) sched = true)
    (hin : b.rmIn = false) (hout : b.rmOut = false) (href : (run f b sched).refused = []) :
    match (run f b sched).outcome with
    | .ok r => parseAnswer f b = .ok r
    | .error e => e = .py .runtimeError := by
  obtain ⟨path, _, st, x, hag, hrun, hp⟩ :=
    run_check .current f (qOutcomePartial (prologueLen f)) b sched
  rw [run, hrun] at href
  obtain rfl : x = none := by
    simpa [qOutcomePartial, hag.cleanPrefix _ hpro, hag.osOnly hs, hin, hout,
      show st.refused = [] from href] using hp
  exact outcome_of_noPending hrun

/-- non-vacuity: the solver cannot be started after the probe succeeded (OSError at `Popen`) -/
example : osOnly [.ok, .ok, .ok, .ok, .ok, .ok, .os] = true ∧
    cleanPrefix (prologueLen .fileInFileOut) [.ok, .ok, .ok, .ok, .ok, .ok, .os] = true ∧
    (run .fileInFileOut politeSat [.ok, .ok, .ok, .ok, .ok, .ok, .os]).refused = [] ∧
    (run .fileInFileOut politeSat [.ok, .ok, .ok, .ok, .ok, .ok, .os]).outcome = .error (.py .runtimeError) ∧
    (run .fileInFileOut politeSat [.ok, .ok, .ok, .ok, .ok, .ok, .os]).left = [] := by
  decide +kernel

/-! ## T-C20.11 — `sat_solve`, `CNF.solve`, `CNF.is_satisfiable` over a world with faults -/

/-- T-C20.11a  `is_satisfiable` is the first component of `solve` — in every world, under every
schedule, errors included (the body of the method is `sat_solve(…)[0]`: `wrappers_documented`) -/
theorem isSatisfiableW_eq (v : Variant) (inst : List String) (beh : Iface → String → Beh)
    (sched : List Fault) (cmd sameas : Option String) :
    isSatisfiableW v inst beh sched cmd sameas
      = (solveW v inst beh sched cmd sameas).outcome.map (·.1) := by
  unfold isSatisfiableW
  cases (solveW v inst beh sched cmd sameas).outcome <;> rfl

/-- T-C20.11b  A selection error (unknown `sameas`, unsupported or missing solver: the theorems of
T-C20.3 say which) comes out unchanged, and then NOTHING was touched: no resource call was made, no
temporary file created, no solver started — whatever the schedule. -/
theorem solveW_select_error (v : Variant) (inst : List String) (beh : Iface → String → Beh)
    (sched : List Fault) (cmd sameas : Option String) (e : Err)
    (h : selectInterface cmd sameas inst = .error e) :
    (solveW v inst beh sched cmd sameas).outcome = .error (.py e) ∧
    (solveW v inst beh sched cmd sameas).trace = [] ∧
    (solveW v inst beh sched cmd sameas).left = [] ∧
    (solveW v inst beh sched cmd sameas).started = false := by
  simp [solveW, h]

/-- non-vacuity: an unknown `sameas` under a schedule full of faults — ValueError, nothing touched -/
example : selectInterface (some "minisat") (some "nosuch") ["minisat"] = .error .valueError ∧
    (solveW .current ["minisat"] (fun _ _ => politeSat) [.os, .other] (some "minisat") (some "nosuch")).trace = [] := by
  decide +kernel

theorem parseAnswer_eq_runIface (f : Iface) (beh : Iface → String → Beh) (c : String) :
    parseAnswer f (beh f c) = runIface f (worldOf beh f c) := by
  cases f <;> rfl

/-- T-C20.11c  (composition with selection, every schedule)  Whenever `solve()` returns a pair in a
world with faults, it is the pair that the fault-free `solve` of `Solver/Select.lean` returns for the
same command line, `sameas`, installed programs and solver answers — the function about which
`auto_first_installed`, `named_solver`, `sameas_interface`, `solve_wellformed_stdout`,
`solve_wellformed_minisat`, `witness_sound` are stated. -/
theorem solveW_verdict_justified (v : Variant) (inst : List String) (beh : Iface → String → Beh)
    (sched : List Fault) (cmd sameas : Option String) (r : Bool × Option (List Int))
    (h : (solveW v inst beh sched cmd sameas).outcome = .ok r) :
    solve inst (worldOf beh) cmd sameas = .ok r := by
  unfold solveW at h
  unfold solve
  cases hs : selectInterface cmd sameas inst with
  | error e => rw [hs] at h; cases h
  | ok fc =>
    obtain ⟨f, c⟩ := fc
    rw [hs] at h
    simp only at h ⊢
    rw [← parseAnswer_eq_runIface]
    exact (verdict_justified v f (beh f c) sched r h).1

theorem runProg_fault_free (v : Variant) (f : Iface) (b : Beh) (sched : List Fault)
    (hs : allOk sched = true) (hin : b.rmIn = false) (hout : b.rmOut = false) :
    (runProg v f b sched).outcome = liftErr (parseAnswer f b) ∧
    (runProg v f b sched).left = [] ∧ (runProg v f b sched).refused = [] := by
  obtain ⟨path, _, st, x, hag, hrun, hp⟩ := run_check v f (qFaultFree f) b sched
  simp only [qFaultFree, hag.allOk hs, hin, hout, Bool.not_true, Bool.false_or, Bool.and_eq_true,
    Bool.or_eq_true, Path.left, Option.isNone_iff_eq_none, List.isEmpty_iff, beq_iff_eq,
    Bool.not_eq_true', Option.isSome_eq_false_iff] at hp
  obtain ⟨⟨⟨rfl, hleft⟩, href⟩, hgot⟩ := hp
  rw [hrun]
  refine ⟨congrArg liftErr ?_, hleft, href⟩
  rw [parsePhase_eq]
  rcases hgot with hgot | ⟨rfl, hfile⟩
  · rw [if_pos hgot]
  · -- no result file: the complete answer is empty as well
    rw [parseAnswer, answerBytes, hfile, Option.getD_none, parseBytes_nil, ite_self]

/-- T-C20.11d  (refinement)  When no resource call fails and the solvers leave the temporary files
alone, `solve()` in the world with faults IS the fault-free `solve` of `Solver/Select.lean`, for the
current and for the patched source, and no temporary file is left.  Hence every theorem of
Props/C20.lean holds of the runs in which nothing fails, and **the proposed patch changes no
fault-free behaviour** (`patched_same_when_nothing_fails`). -/
theorem solveW_fault_free (v : Variant) (inst : List String) (beh : Iface → String → Beh)
    (sched : List Fault) (cmd sameas : Option String) (hs : allOk sched = true)
    (hpolite : ∀ f c, (beh f c).rmIn = false ∧ (beh f c).rmOut = false) :
    (solveW v inst beh sched cmd sameas).outcome = liftErr (solve inst (worldOf beh) cmd sameas) ∧
    (solveW v inst beh sched cmd sameas).left = [] ∧
    (solveW v inst beh sched cmd sameas).refused = [] := by
  unfold solveW solve
  cases hsel : selectInterface cmd sameas inst with
  | error e => simp [liftErr]
  | ok fc =>
    obtain ⟨f, c⟩ := fc
    simp only
    rw [← parseAnswer_eq_runIface]
    exact runProg_fault_free v f (beh f c) sched hs (hpolite f c).1 (hpolite f c).2

theorem patched_same_when_nothing_fails (inst : List String) (beh : Iface → String → Beh)
    (sched : List Fault) (cmd sameas : Option String) (hs : allOk sched = true)
    (hpolite : ∀ f c, (beh f c).rmIn = false ∧ (beh f c).rmOut = false) :
    (solveW .patched inst beh sched cmd sameas).outcome = (solveW .current inst beh sched cmd sameas).outcome := by
  rw [(solveW_fault_free .patched inst beh sched cmd sameas hs hpolite).1,
      (solveW_fault_free .current inst beh sched cmd sameas hs hpolite).1]

/-- non-vacuity: minisat installed, a polite solver (`politeSat.rmIn = politeSat.rmOut = false`), no fault -/
example : allOk [] = true ∧ allOk [.ok, .ok] = true ∧ politeSat.rmIn = false ∧ politeSat.rmOut = false := by decide

example : (solveW .current ["minisat"] (fun _ _ => politeSat) [] (some "minisat -no-pre") none).outcome
    = .ok (true, some [1, -2]) := by
  unfold politeSat
  lit_decide

/-- T-C20.11e  **`solve()` with the proposed patch raises only the documented errors**, in every
world whose failures are OSErrors: `ValueError` exactly for an unknown `sameas`, otherwise
`RuntimeError`; and it leaves no temporary file behind that the OS let it remove. -/
theorem solveW_patched_documented (inst : List String) (beh : Iface → String → Beh)
    (sched : List Fault) (cmd sameas : Option String) (hs : osOnly sched = true) :
    (∀ e, (solveW .patched inst beh sched cmd sameas).outcome = .error e →
        (e = .py .valueError ∧ sameasUnknown sameas = true) ∨
        (e = .py .runtimeError ∧ sameasUnknown sameas = false)) ∧
    (∀ p ∈ (solveW .patched inst beh sched cmd sameas).left,
        p ∈ (solveW .patched inst beh sched cmd sameas).refused) := by
  have hknown : selectInterface cmd sameas inst ≠ .error .valueError → sameasUnknown sameas = false :=
    fun hne => Bool.eq_false_iff.mpr (mt (select_valueError_iff cmd sameas inst).mpr hne)
  unfold solveW
  cases hsel : selectInterface cmd sameas inst with
  | error e0 =>
    refine ⟨fun e he => ?_, by simp⟩
    injection he with he; subst he
    rcases select_error_kinds cmd sameas inst e0 hsel with rfl | rfl
    · exact .inl ⟨rfl, (select_valueError_iff cmd sameas inst).mp hsel⟩
    · exact .inr ⟨rfl, hknown (by simp [hsel])⟩
  | ok fc =>
    obtain ⟨f, c⟩ := fc
    refine ⟨fun e he => ?_, patched_leak_free f (beh f c) sched⟩
    have hdoc := patched_outcome_documented f (beh f c) sched hs
    simp only at he
    rw [he] at hdoc
    exact .inr ⟨hdoc, hknown (by simp [hsel])⟩

/-- T-C20.11f  the same for the current source, with the hypotheses of the partial theorems: only
OSErrors, none before the `try`, no removal refused, solvers that keep their hands off the files -/
theorem solveW_current_documented_partial (inst : List String) (beh : Iface → String → Beh)
    (sched : List Fault) (cmd sameas : Option String) (hs : osOnly sched = true)
    (hpro : cleanPrefix 6 sched = true)
    (hpolite : ∀ f c, (beh f c).rmIn = false ∧ (beh f c).rmOut = false)
    (href : (solveW .current inst beh sched cmd sameas).refused = []) :
    (∀ e, (solveW .current inst beh sched cmd sameas).outcome = .error e →
        e = .py .valueError ∨ e = .py .runtimeError) ∧
    (solveW .current inst beh sched cmd sameas).left = [] := by
  unfold solveW at href ⊢
  cases hsel : selectInterface cmd sameas inst with
  | error e0 =>
    refine ⟨fun e he => ?_, rfl⟩
    injection he with he; subst he
    rcases select_error_kinds cmd sameas inst e0 hsel with rfl | rfl
    · exact .inl rfl
    · exact .inr rfl
  | ok fc =>
    obtain ⟨f, c⟩ := fc
    rw [hsel] at href
    simp only at href ⊢
    have hpro' : cleanPrefix (prologueLen f) sched = true :=
      cleanPrefix_of_le sched (by cases f <;> decide) hpro
    refine ⟨fun e he => ?_, ?_⟩
    · have hdoc := current_outcome_documented_partial f (beh f c) sched hs hpro' (hpolite f c).1
        (hpolite f c).2 href
      rw [run, he] at hdoc
      exact .inr hdoc
    · have hl := current_leak_free_partial f (beh f c) sched hpro' (hpolite f c).1
        (by rw [run, href]; exact List.not_mem_nil)
      exact List.eq_nil_iff_forall_not_mem.mpr fun p hp => List.not_mem_nil (href ▸ hl p hp)

end Cnfgen.C20
