/-
C19 — transformations leave their inputs untouched and record provenance.
This file: the PURE model — every transformation is a function, so "the input is unchanged" is automatic; what is
proven here is the provenance logic of the header (on classified keys) and the restore logic of the one place where
the code works in place (the `!=` loop), as arithmetic on lists.
Objects, addresses, aliasing ("a NEW formula", "leaves the input untouched", "mutating the result later cannot change
the input") are stated and proved on the HEAP model: Props/C19/Heap.lean (frame, freshness, non-interference, header on
string keys), Props/C19/Neq.lean (builders and the `!=` loop on caller-owned lists), Props/C19/Refine.lean (the heap
model computes what the pure model computes).
-/
import Props.C05
import Props.C09
import Lemmas.HeapNeq
namespace Cnfgen.C19
open Cnfgen

/-- T-C19.2a (substitutions, lifting, compression, flip): the result's header is the input's header
— every entry kept, in order, `description` included — plus exactly one new entry `transformation i`,
`i ≥ 1` the first number not yet used -/
theorem transformation_header (h : Header.Hdr) (t : Header.T) :
    Header.transform h t = h ++ [(.trans (Header.freeIndex h), Header.descr t)] ∧
    Header.hasKey h (.trans (Header.freeIndex h)) = false ∧ 1 ≤ Header.freeIndex h ∧
    (∀ j, 1 ≤ j → j < Header.freeIndex h → Header.hasKey h (.trans j) = true) ∧
    (∀ k, Header.hasKey h k = true → Header.get? (Header.transform h t) k = Header.get? h k) :=
  C05.header_provenance h t

/-- T-C19.2b a chain of transformations: the input header is a prefix of the result, followed by one
numbered entry per step, in the order of application -/
theorem chain_header (h : Header.Hdr) (ts : List Header.T) :
    ∃ suf : Header.Hdr, Header.transformAll h ts = h ++ suf ∧
      suf.map (·.2) = ts.map Header.descr ∧ ∀ e ∈ suf, ∃ i, 1 ≤ i ∧ e.1 = Header.Key.trans i :=
  C05.header_chain h ts

/-- T-C19.2c Shuffle: old entries in order (the description gets the suffix " (reshuffled)", i.e. the
original description is kept as a prefix), then one new numbered entry -/
theorem shuffle_header (h : Shuffle.Header) :
    ∃ i, 1 ≤ i ∧
      Shuffle.shuffleHeader h =
        h.map (fun p => if p.1 == "description" then (p.1, p.2 ++ " (reshuffled)") else p) ++
          [(Shuffle.tkey i, "Formula reshuffling")] ∧
      Shuffle.hasKey h (Shuffle.tkey i) = false ∧ ∀ j, 1 ≤ j → j < i → Shuffle.hasKey h (Shuffle.tkey j) = true :=
  C09.header_entry h

/-- `for i in flips: lits[i] *= -1` for a set of distinct positions -/
def flipSet (S : List Nat) (l : List Int) : List Int :=
  l.mapIdx (fun j x => if S.contains j then -x else x)

/-- one iteration of the loop: flip, emit a copy, flip back; returns (emitted clause, working list) -/
def neqIteration (S : List Nat) (work : List Int) : Clause × List Int :=
  let flipped := flipSet S work
  (flipped, flipSet S flipped)

/-- the whole loop over the chosen position sets -/
def neqLoop (sets : List (List Nat)) (work : List Int) : List Clause × List Int :=
  sets.foldl (fun acc S => let r := neqIteration S acc.2; (acc.1 ++ [r.1], r.2)) ([], work)

/-- `flipSet` is the `flipAt` of the heap model's loop -/
theorem flipSet_involutive (S : List Nat) (l : List Int) : flipSet S (flipSet S l) = l :=
  Heap.flipAt_involutive S l

/-- T-C19.1 whatever position sets the loop runs over, the working list is back to its initial
content after every iteration and at the end, and every emitted clause is the list with exactly that
set of positions negated -/
theorem neq_loop_restores (sets : List (List Nat)) (work : List Int) :
    (neqLoop sets work).2 = work ∧ (neqLoop sets work).1 = sets.map (fun S => flipSet S work) := by
  unfold neqLoop
  suffices h : ∀ (acc : List Clause),
      (sets.foldl (fun acc S => let r := neqIteration S acc.2; (acc.1 ++ [r.1], r.2)) (acc, work)).2 = work ∧
      (sets.foldl (fun acc S => let r := neqIteration S acc.2; (acc.1 ++ [r.1], r.2)) (acc, work)).1
        = acc ++ sets.map (fun S => flipSet S work) by simpa using h []
  induction sets with
  | nil => intro acc; simp
  | cons S rest ih =>
    intro acc
    have := ih (acc ++ [flipSet S work])
    simp only [List.foldl_cons, neqIteration, flipSet_involutive] at this ⊢
    simpa [List.append_assoc] using this

example : neqLoop [[0, 2], [1]] [1, -2, 3] = ([[-1, -2, -3], [1, 2, 3]], [1, -2, 3]) := by decide +kernel

end Cnfgen.C19
