/-
C03 — `PebblingFormula` as TRANSLATED from cnfgen/families/pebbling.py is `Fam.Pebbling.pebbling` of the model, on every
directed graph object in topological order (`TopoDAG`: what `DirectedGraph` maintains while `is_dag()` holds — C16).
-/
import Lemmas.GenFamRphp
import Lemmas.FamPebbling
import Props.C01.Generated
set_option linter.unusedSimpArgs false
namespace Cnfgen.C03
open Cnfgen Cnfgen.Vars Cnfgen.PyGen Cnfgen.GenVars Cnfgen.Fam Cnfgen.PyF Cnfgen.GenFam Cnfgen.C11 Cnfgen.Fam.Pebbling
open Cnfgen.C01 (stateOf formulaOf formulaOf_stateOf)

theorem verts_eq_idx (n : Nat) : verts n = idx n := by
  simp [verts, idx, rangeN]

theorem x_eq_blockId (n v : Nat) : Pebbling.x n v = ((blockId 1 [n] [v] : Nat) : Int) := rfl

theorem gen_pebbling_eq_model (D : DiG) (h : TopoDAG D) :
    PebblingFormula (absDi D) = (pebbling D).map stateOf := by
  unfold PebblingFormula pebbling
  simp only []
  by_cases hd : D.stillDag = true
  · have h1 : ¬ ¬ ((absDi D).is_dag = true) := by simpa [absDi, DiG.isDag] using hd
    rw [if_neg h1]
    simp only [hd, Bool.not_true, Bool.false_eq_true, if_false, Py.map_ok]
    have hn : (absDi D).number_of_vertices = (D.n : Int) := rfl
    have hlen : Py.len [(D.n : Int)] ≥ 1 := by simp
    rw [hn, if_pos hlen, new_block_one_eq PyF.empty 0 rfl D.n]
    simp only [Py.ok_bind]
    have hverts : Py.Range.toList (absDi D).vertices = ints (idx D.n) := range_toList_nat D.n
    have hnv : ((0 + D.n : Nat) : Int) = (((peb D).nvars : Nat) : Int) := by simp [peb]
    rw [hverts]
    refine addAll_wf (Pebbling.peb_wf D h) hnv ?_
    simp only [peb, verts_eq_idx]
    refine addAll_last (foldlM_addAll_map Int.ofNat _ _ _ ?_ _)
    intro s v hv
    have hv' := mem_idx.1 hv
    have hcall : ∀ p, 1 ≤ p ∧ p ≤ D.n →
        BlockOfVariables.call (blockSelf 0 [D.n]) [some (p : Int)] = Except.ok (Sum.inl (Pebbling.x D.n p)) := by
      intro p hp
      rw [block_call_one 0 D.n p hp]; rfl
    simp only [Int.ofNat_eq_natCast, abs_predecessors D hv', abs_out_degree D hv', Py.ok_bind]
    rw [ints, mapM_map_ok _ _ (fun p => - Pebbling.x D.n p) (D.preds v) (fun p hp => by
      have := h.pred_lt v hv'.1 hv'.2 p hp
      simp only [Int.ofNat_eq_natCast, hcall p ⟨this.1, by omega⟩, Py.ok_bind])]
    simp only [Py.ok_bind, hcall v hv', lits_append_inl]
    by_cases h0 : (D.succs v).length = 0
    · simp only [if_pos (show (((D.succs v).length : Nat) : Int) = 0 by omega),
        if_pos (show ((D.succs v).length == 0) = true by simp [h0]), addAll_cons, addAll_nil, bind_ok_eq]
      rfl
    · simp only [if_neg (show ¬ (((D.succs v).length : Nat) : Int) = 0 by omega),
        if_neg (show ¬ ((D.succs v).length == 0) = true by simp [h0]), addAll_cons, addAll_nil, bind_ok_eq]
      rfl
  · have h1 : ¬ ((absDi D).is_dag = true) := by simpa [absDi, DiG.isDag] using hd
    rw [if_pos h1]
    simp [hd]

/-- **the pebbling formula of the source is unsatisfiable** on every non-empty DAG in topological order that the
generator accepts — stated on the generated definition, for the abstract constraints and both renderings -/
theorem gen_peb_unsat (D : DiG) (h : TopoDAG D) (hd : D.stillDag = true) (hn : 1 ≤ D.n) :
    ∃ s : FState, PebblingFormula (absDi D) = Except.ok s ∧ s.numvar = (D.n : Int) ∧
      (¬ ∃ α, (formulaOf s).holds α = true) ∧
      (¬ ∃ α, (formulaOf s).toCNF.holds α = true) ∧ (¬ ∃ α, (formulaOf s).toOPB.holds α = true) := by
  refine ⟨stateOf (peb D), ?_, rfl, ?_⟩
  · rw [gen_pebbling_eq_model D h]; simp [pebbling, hd]
  · rw [formulaOf_stateOf]
    exact ⟨Pebbling.peb_unsat D h hn, (Pebbling.peb_wf D h).unsat_rendered (Pebbling.peb_unsat D h hn)⟩

end Cnfgen.C03
