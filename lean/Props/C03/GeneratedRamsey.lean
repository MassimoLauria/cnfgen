/-
C03 — the generators of cnfgen/families/ramsey.py as TRANSLATED from the source (`Generated/Funcs.lean`) are the family
models of `Fam/Ramsey.lean`.  `int(sqrt(·))` of `PythagoreanTriples` is an ABSTRACT call of the generated definition
(a parameter `float_isqrt`): the theorems hold for every function that is the exact integer square root on the
arguments the loop produces (`a ≤ 2·N²`); harness/props/C03_ramsey.py compares the real float computation with it.
-/
import Lemmas.GenFamRphp
import Lemmas.GenFamBlock
import Lemmas.GenFamWord
import Props.C03.Generated
import Lemmas.FamRamsey
import Lemmas.C01Combos
import Props.C03.GeneratedPeb
import Props.C03.Ramsey
set_option linter.unusedSimpArgs false
namespace Cnfgen.C03
open Cnfgen Cnfgen.Vars Cnfgen.PyGen Cnfgen.GenVars Cnfgen.Fam Cnfgen.PyF Cnfgen.GenFam Cnfgen.C11
open Cnfgen.C01 (stateOf formulaOf formulaOf_stateOf gen_non_negative_int_eq)
open Cnfgen.FamIter Cnfgen.FamRamsey

theorem pow_two_nat (a : Nat) : Py.pow (a : Int) 2 = ((a ^ 2 : Nat) : Int) := by
  simp [Py.pow]

theorem mem_pairs_rangeN {n : Nat} {p : Nat × Nat} (h : p ∈ pairs (rangeN 1 (n + 1))) :
    1 ≤ p.1 ∧ p.1 < p.2 ∧ p.2 ≤ n := by
  have h2 : [p.1, p.2] ∈ combos (rangeN 1 (n + 1)) 2 := by
    rw [← pairs_eq_combos]; exact List.mem_map.2 ⟨p, h, rfl⟩
  rw [mem_combos, pair_sublist_iff (rangeN_pairwise _ _)] at h2
  simp only [mem_rangeN] at h2
  omega

theorem ptnCons_eq_pairs (n : Nat) :
    Ramsey.ptnCons n = (pairs (rangeN 1 (n + 1))).flatMap (fun p => Ramsey.ptnPair n p.1 p.2) := by
  simp only [Ramsey.ptnCons, ← pairs_eq_combos, List.flatMap_map]

theorem sq_add_sq_le {x y n : Nat} (hx : x ≤ n) (hy : y ≤ n) : x ^ 2 + y ^ 2 ≤ 2 * n ^ 2 := by
  have := Nat.pow_le_pow_left hx 2
  have := Nat.pow_le_pow_left hy 2
  omega

/-- **`PythagoreanTriples` of the source is `Fam.Ramsey.ptn` of the model**, for every integer `N` (negative: the same
ValueError) and every `float_isqrt` that is exact on `0 … 2·N²` -/
theorem gen_ptn_eq_model (N : Int) (f : Int → Except Err Int)
    (hf : ∀ a : Nat, a ≤ 2 * N.toNat ^ 2 → f (a : Int) = Except.ok ((Nat.sqrt a : Nat) : Int)) :
    PythagoreanTriples N f = (Ramsey.ptn N).map stateOf := by
  unfold PythagoreanTriples Ramsey.ptn Ramsey.nonNegInt
  rw [gen_non_negative_int_eq]
  refine guard_bind_map fun hN => ?_
  obtain ⟨n, rfl⟩ := Int.eq_ofNat_of_zero_le (by omega : 0 ≤ N)
  rw [Int.toNat_natCast] at hf
  dsimp only
  rw [if_pos (by simp : Py.len [(n : Int)] ≥ 1), new_block_one_eq PyF.empty 0 rfl n, Py.ok_bind, range_toList_nat,
    combos2_eq_pairs, ints, pairs_map, Int.toNat_natCast]
  refine addAll_wf (ptn_wf n) (show ((0 + n : Nat) : Int) = _ by simp) ?_
  rw [ptnCons_eq_pairs]
  refine addAll_last (foldlM_addAll_map _ _ _ _ ?_ _)
  intro s p hp
  obtain ⟨h1, h2, h3⟩ := mem_pairs_rangeN hp
  simp only [Int.ofNat_eq_natCast, pow_two_nat, ← Int.natCast_add, hf _ (sq_add_sq_le (x := p.1) (by omega) h3), Py.ok_bind,
    Int.ofNat_le, Int.natCast_inj, Ramsey.ptnPair]
  generalize hz : Nat.sqrt (p.1 ^ 2 + p.2 ^ 2) = z
  by_cases hc : z ≤ n ∧ z ^ 2 = p.1 ^ 2 + p.2 ^ 2
  · rw [if_pos hc, if_pos hc]
    have hyz := lt_of_sq_add_sq h1 hc.2.symm
    have hcall : ∀ v, 1 ≤ v ∧ v ≤ n →
        BlockOfVariables.call (blockSelf 0 [n]) [some (v : Int)] = Except.ok (Sum.inl (v : Int)) := by
      intro v hv
      rw [block_call_one 0 n v hv, Nat.zero_add, blockId_one n v hv.1]
    simp only [hcall p.1 ⟨h1, by omega⟩, hcall p.2 ⟨by omega, h3⟩, hcall z ⟨by omega, hc.1⟩, Py.ok_bind, bind_ok_eq,
      addAll_cons, addAll_nil]
    rfl
  · rw [if_neg hc, if_neg hc]
    rfl

theorem isqrt_exact (a : Nat) : Py.isqrt (a : Int) = Except.ok ((Nat.sqrt a : Nat) : Int) := by
  have : ¬ ((a : Int) < 0) := by omega
  simp [Py.isqrt, this]

/-- **the Pythagorean triples formula of the source encodes the triple-free 2-colourings of `1..N`** — stated on the
generated definition with the exact integer square root for `int(sqrt(·))`: `N` variables, and an assignment satisfies
the formula (abstract constraints, CNF rendering, OPB rendering) iff it has no monochromatic triple `x² + y² = z²` -/
theorem gen_ptn_holds_iff (N : Nat) :
    ∃ s : FState, PythagoreanTriples (N : Int) Py.isqrt = Except.ok s ∧ s.numvar = (N : Int) ∧
      ∀ α, ((formulaOf s).holds α = true ↔ TripleFree N α) ∧
        ((formulaOf s).toCNF.holds α = true ↔ TripleFree N α) ∧
        ((formulaOf s).toOPB.holds α = true ↔ TripleFree N α) := by
  refine ⟨stateOf ⟨N, Ramsey.ptnCons N⟩, ?_, rfl, ?_⟩
  · rw [gen_ptn_eq_model _ _ (fun a _ => isqrt_exact a), ptn_eq]; rfl
  · intro α
    rw [formulaOf_stateOf]
    exact ⟨ptn_holds_iff N _ (ptn_eq N) α, (ptn_rendered N _ (ptn_eq N) α).1, (ptn_rendered N _ (ptn_eq N) α).2⟩

/-- non-vacuity: `PythagoreanTriples(5)` succeeds and contains the clause of the triple (3, 4, 5) -/
example : ∃ s, PythagoreanTriples 5 Py.isqrt = Except.ok s ∧ Con.clause [3, 4, 5] ∈ s.cons := by
  refine ⟨stateOf ⟨5, Ramsey.ptnCons 5⟩, ?_, ?_⟩
  · rw [gen_ptn_eq_model _ _ (fun a _ => isqrt_exact a)]
    exact congrArg (Except.map stateOf) (ptn_eq 5)
  · exact (mem_ptnCons 5 _).2 ⟨3, 4, 5, by decide, Or.inl rfl⟩

theorem ints_of_pos (ks : List Int) (h : ¬ (ks.any (· < 1) = true)) :
    ∃ l : List Nat, ks = l.map (fun (x : Nat) => (x : Int)) ∧ ∀ x ∈ l, 1 ≤ x := by
  refine ⟨ks.map Int.toNat, ?_, ?_⟩
  · rw [List.map_map]
    conv => lhs; rw [← List.map_id ks]
    apply List.map_congr_left
    intro x hx
    have : ¬ (x < 1) := by
      intro hlt; exact h (List.any_eq_true.2 ⟨x, hx, by simpa using hlt⟩)
    simp only [id, Function.comp]; omega
  · intro x hx
    simp only [List.mem_map] at hx
    obtain ⟨y, hy, rfl⟩ := hx
    have : ¬ (y < 1) := by
      intro hlt; exact h (List.any_eq_true.2 ⟨y, hy, by simpa using hlt⟩)
    omega

theorem xId_eq_blockId (N C i c : Nat) : ((blockId (0 + 1) [N, C] [i, c] : Nat) : Int) = (Ramsey.xId N C i c : Int) := by
  simp [Ramsey.xId]

theorem index_ints_pred (K : List Nat) (c : Nat) (hc : 1 ≤ c ∧ c ≤ K.length) :
    Py.index (ints K) ((c : Int) - 1) = Except.ok ((K.getD (c - 1) 0 : Nat) : Int) := by
  rw [← Int.natCast_pred_of_pos hc.1, index_ints, List.getD_eq_getElem?_getD,
    List.getElem?_eq_getElem (show c - 1 < K.length by omega)]
  rfl

/-- **`VanDerWaerden` of the source is `Fam.Ramsey.vdw` of the model** for every argument tuple: the same ValueError
(negative `N`, a length `< 1`), the one-row encoding for two colours, the `N × C` block with "exactly one colour"
constraints for more colours; the progressions come from the translated `_vdw_ap_generator` -/
theorem gen_vdw_eq_model (N k1 k2 : Int) (ks : List Int) :
    VanDerWaerden N k1 k2 ks = (Ramsey.vdw N k1 k2 ks).map stateOf := by
  unfold VanDerWaerden Ramsey.vdw Ramsey.nonNegInt Ramsey.positiveInt Ramsey.positiveIntSeq
  rw [gen_non_negative_int_eq, gen_positive_int_eq, gen_positive_int_eq, gen_positive_int_seq_eq]
  refine guard_bind_map fun hN => guard_bind_map fun h1 => guard_bind_map fun h2 => guard_bind_map fun h3 => ?_
  obtain ⟨n, rfl⟩ := Int.eq_ofNat_of_zero_le (by omega : 0 ≤ N)
  obtain ⟨a, rfl⟩ := Int.eq_ofNat_of_zero_le (by omega : 0 ≤ k1)
  obtain ⟨b, rfl⟩ := Int.eq_ofNat_of_zero_le (by omega : 0 ≤ k2)
  obtain ⟨l, rfl, hl⟩ := ints_of_pos ks h3
  have ha : 1 ≤ a := by omega
  have hb : 1 ≤ b := by omega
  dsimp only
  cases l with
  | nil =>
    have hlen : Py.len ([(a : Int), (b : Int)] ++ List.map (fun (x : Nat) => (x : Int)) []) = 2 := by simp [Py.len]
    have hlen1 : Py.len [(n : Int)] ≥ 1 := by simp
    rw [if_pos hlen, if_pos hlen1, new_block_one_eq PyF.empty 0 rfl n]
    simp only [List.map_nil, List.append_nil, Py.ok_bind, Py.index_zero, Py.index_one,
      gen_vdw_ap_generator_eq_model n a ha, gen_vdw_ap_generator_eq_model n b hb, vdw2_eq n a b ha hb, Py.map_ok]
    have hcall : ∀ ap ∈ Ramsey.apGenerator n a ++ Ramsey.apGenerator n b, ∀ v ∈ ap,
        BlockOfVariables.call (blockSelf 0 [n]) [some (Int.ofNat v)] = Except.ok (Sum.inl (v : Int)) := by
      intro ap hap v hv
      have hv' : 1 ≤ v ∧ v ≤ n := (List.mem_append.1 hap).elim
        (fun h => apGenerator_range ha ap h v hv) (fun h => apGenerator_range hb ap h v hv)
      rw [Int.ofNat_eq_natCast, block_call_one 0 n v hv', Nat.zero_add, blockId_one n v hv'.1]
    simp only [bind_assoc, Py.ok_bind]
    refine addAll_wf (vdw2_wf n a b ha hb) (show ((0 + n : Nat) : Int) = _ by simp) ?_
    simp only [Ramsey.vdw2Cons]
    refine addAll_bind (foldlM_adds_map (List.map Int.ofNat) _ _ _ ?_ _) fun F =>
      addAll_last (foldlM_adds_map (List.map Int.ofNat) _ _ _ ?_ _)
    · intro s ap hap
      rw [mapM_map_ok _ _ (fun (i : Nat) => Sum.inl (i : Int)) ap (fun v hv => by
        simp only [hcall ap (List.mem_append.2 (Or.inl hap)) v hv, Py.ok_bind]), Py.ok_bind, lits_inl', Py.ok_bind]
      rfl
    · intro s ap hap
      rw [mapM_map_ok _ _ (fun (i : Nat) => -(i : Int)) ap (fun v hv => by
        simp only [hcall ap (List.mem_append.2 (Or.inr hap)) v hv, Py.ok_bind]), Py.ok_bind]
      rfl
  | cons c0 l' =>
    generalize hK : a :: b :: c0 :: l' = K
    have hKI : [(a : Int), (b : Int)] ++ List.map (fun (x : Nat) => (x : Int)) (c0 :: l') = ints K := by
      rw [← hK]; simp [ints]
    have hKpos : ∀ x ∈ K, 1 ≤ x := by
      rw [← hK]
      intro x hx
      simp only [List.mem_cons] at hx
      rcases hx with rfl | rfl | hx
      · exact ha
      · exact hb
      · exact hl x (by simpa using hx)
    have hClen : K.length = l'.length + 3 := by rw [← hK]; simp
    have hlenK : Py.len (ints K) = (K.length : Int) := by simp [Py.len, ints]
    have hne2 : ¬ (Py.len (ints K) = 2) := by rw [hlenK]; omega
    have hlen2 : Py.len [(n : Int), Py.len (ints K)] ≥ 2 := by simp [Py.len]
    have hKN : List.map Int.toNat ((a : Int) :: (b : Int) :: List.map (fun (x : Nat) => (x : Int)) (c0 :: l')) = K := by
      rw [← hK]; simp [List.map_map, Function.comp_def]
    have hmodel : ∀ X Y : Except Err Formula,
        (if (List.map (fun (x : Nat) => (x : Int)) (c0 :: l')).isEmpty = true then X else Y) = Y := fun _ _ => rfl
    rw [hKI, if_neg hne2, if_pos hlen2, hmodel, hKN, hlenK, Int.toNat_natCast]
    have hr : [(n : Int), (K.length : Int)] = ints [n, K.length] := by simp [ints]
    rw [hr, new_block_eq PyF.empty 0 rfl [n, K.length] (by simp)]
    simp only [Py.ok_bind, Py.map_ok]
    have hbs : blockSize [n, K.length] = n * K.length := by simp [blockSize, List.foldl]
    have hnv : ((0 + blockSize [n, K.length] : Nat) : Int) = ((n * K.length : Nat) : Int) := by
      rw [hbs, Nat.zero_add]
    rw [range_toList_nat, range_toList_nat]
    simp only [bind_assoc, Py.ok_bind]
    refine addAll_wf (vdwMulti_wf n K hKpos) hnv ?_
    simp only [Ramsey.vdwMultiCons]
    -- exactly one colour per number; then the forbidden progressions, colour by colour
    refine addAll_bind (foldlM_adds_map Int.ofNat _ _ _ ?_ _) fun F =>
      addAll_last (foldlM_addAll_map Int.ofNat _ _ _ ?_ _)
    · intro s i hi
      rw [mem_rangeN] at hi
      have hi' : 1 ≤ i ∧ i ≤ n := by omega
      simp only [Int.ofNat_eq_natCast, block_call_row2 0 n K.length i hi', Py.ok_bind, xId_eq_blockId]
      rfl
    · intro s c hc
      rw [mem_rangeN] at hc
      have hc' : 1 ≤ c ∧ c ≤ K.length := by omega
      have hKc : 1 ≤ K.getD (c - 1) 0 := hKpos _ (getD_mem (by omega))
      simp only [Int.ofNat_eq_natCast, index_ints_pred K c hc', Py.ok_bind, gen_vdw_ap_generator_eq_model n _ hKc]
      refine addAll_last (foldlM_adds_map (List.map Int.ofNat) _ _ _ ?_ _)
      intro s ap hap
      rw [mapM_map_ok _ _ (fun i => -(Ramsey.xId n K.length i c : Int)) ap (fun v hv => by
        simp only [Int.ofNat_eq_natCast, block_call_two 0 n K.length _ c (apGenerator_range hKc ap hap v hv) hc',
          Py.ok_bind, xId_eq_blockId]), Py.ok_bind]
      rfl

/-- **the two-colour van der Waerden formula of the source** — on the generated definition: `N` variables (variable `i`
is the colour of `i`), and the satisfying assignments (abstract constraints, CNF, OPB) are exactly the colourings of
`1..N` without a `k1`-progression of the first colour and without a `k2`-progression of the second -/
theorem gen_vdw2_holds_iff (N k1 k2 : Nat) (h1 : 1 ≤ k1) (h2 : 1 ≤ k2) :
    ∃ s : FState, VanDerWaerden (N : Int) (k1 : Int) (k2 : Int) [] = Except.ok s ∧ s.numvar = (N : Int) ∧
      ∀ α, ((formulaOf s).holds α = true ↔ NoMonoAP2 N k1 false α ∧ NoMonoAP2 N k2 true α) ∧
        ((formulaOf s).toCNF.holds α = true ↔ NoMonoAP2 N k1 false α ∧ NoMonoAP2 N k2 true α) ∧
        ((formulaOf s).toOPB.holds α = true ↔ NoMonoAP2 N k1 false α ∧ NoMonoAP2 N k2 true α) := by
  have hm := vdw2_eq N k1 k2 h1 h2
  refine ⟨stateOf ⟨N, Ramsey.vdw2Cons N k1 k2⟩, ?_, rfl, ?_⟩
  · rw [gen_vdw_eq_model, hm]; rfl
  · intro α
    rw [formulaOf_stateOf]
    exact ⟨vdw2_holds_iff N k1 k2 h1 h2 _ hm α, (vdw2_rendered N k1 k2 h1 h2 _ hm α).1,
      (vdw2_rendered N k1 k2 h1 h2 _ hm α).2⟩

/-- **the multi-colour van der Waerden formula of the source** — on the generated definition: `N·C` variables, and
the satisfying assignments are exactly the encodings of the `C`-colourings of `1..N` in which no colour `c` contains a
progression of length `K[c-1]`; the CNF and OPB renderings have the same satisfying assignments -/
theorem gen_vdwMulti_holds_iff (N k1 k2 : Nat) (ks : List Nat) (hne : ks ≠ []) (h1 : 1 ≤ k1) (h2 : 1 ≤ k2)
    (hks : ∀ x ∈ ks, 1 ≤ x) :
    ∃ s : FState, VanDerWaerden (N : Int) (k1 : Int) (k2 : Int) (ks.map (fun (x : Nat) => (x : Int))) = Except.ok s ∧
      s.numvar = ((N * (ks.length + 2) : Nat) : Int) ∧
      ∀ α, ((formulaOf s).holds α = true ↔ ∃ χ, Colouring N (ks.length + 2) χ ∧ Encodes N (ks.length + 2) α χ ∧
          NoMonoAP N (k1 :: k2 :: ks) χ) ∧
        (formulaOf s).toCNF.holds α = (formulaOf s).holds α ∧ (formulaOf s).toOPB.holds α = (formulaOf s).holds α := by
  have hm := vdwMulti_eq N k1 k2 ks hne h1 h2 hks
  refine ⟨stateOf ⟨N * (ks.length + 2), Ramsey.vdwMultiCons N (k1 :: k2 :: ks)⟩, ?_, rfl, ?_⟩
  · rw [gen_vdw_eq_model, hm]; rfl
  · intro α
    rw [formulaOf_stateOf]
    exact ⟨vdwMulti_holds_iff N k1 k2 ks hne h1 h2 hks _ hm α, (vdwMulti_rendered N k1 k2 ks hne h1 h2 hks _ hm α).1,
      (vdwMulti_rendered N k1 k2 ks hne h1 h2 hks _ hm α).2⟩

/-- non-vacuity: `VanDerWaerden(3, 2, 2)`: progressions of length 2 in 1..3 -/
example : VanDerWaerden 3 2 2 [] = Except.ok ⟨3, [.clause [1, 2], .clause [2, 3], .clause [1, 3],
    .clause [-1, -2], .clause [-2, -3], .clause [-1, -3]]⟩ := by rw [gen_vdw_eq_model]; rfl

theorem pairLits_eq_pairs (N : Nat) (S : List Nat) :
    Ramsey.pairLits N S = (pairs S).map (fun p => Ramsey.eId N p.1 p.2) := by
  simp [Ramsey.pairLits, ← pairs_eq_combos, List.map_map, Function.comp_def]

/-- the literals `e(u, v)` for the pairs of a vertex set, through the translated `__call__` of the word group -/
theorem ramsey_pairs_call (n : Nat) {S : List Nat} {m : Nat} (hS : S ∈ combos (rangeN 1 (n + 1)) m) :
    ∀ p ∈ pairs S,
      WordOfIndicesVariables.call (wordSelf 0 n 2 "combinations" (combosSeqs n 2)) [some (p.1 : Int), some (p.2 : Int)] =
        Except.ok (Sum.inl ((Ramsey.eId n p.1 p.2 : Nat) : Int)) := by
  intro p hp
  obtain ⟨hSs, _⟩ := mem_vertexSets.1 hS
  have hp2 : [p.1, p.2] ∈ combos S 2 := by
    rw [← pairs_eq_combos]; exact List.mem_map.2 ⟨p, hp, rfl⟩
  obtain ⟨u, v, huv, hu, hv, hlt⟩ := (combos_two_of_sorted hSs.1 _).1 hp2
  have h1 : p.1 = u := by simpa using (List.cons.inj huv).1
  have h2 : p.2 = v := by simpa using (List.cons.inj (List.cons.inj huv).2).1
  have hmem : [p.1, p.2] ∈ combosSeqs n 2 := by
    rw [h1, h2]; exact mem_pairs.2 ⟨(hSs.2 u hu).1, hlt, (hSs.2 v hv).2⟩
  have := word_call_word 0 (n : Int) 2 "combinations" (pairs_nodup n) [p.1, p.2] (by simp) hmem
  simp only [natPat, List.map_cons, List.map_nil] at this
  simp only [this, Ramsey.eId, Nat.zero_add]

/-- **`RamseyNumber` of the source is `Fam.Ramsey.ramseyNumber` of the model** for all integers: the same ValueError
or one variable per pair (the translated `new_combinations(N, 2)`), a positive clause per `s`-set and a negative clause
per `k`-set, the literals found through the translated word group -/
theorem gen_ramsey_eq_model (s k N : Int) :
    RamseyNumber s k N = (Ramsey.ramseyNumber s k N).map stateOf := by
  unfold RamseyNumber Ramsey.ramseyNumber Ramsey.nonNegInt Ramsey.positiveInt
  rw [gen_non_negative_int_eq, gen_positive_int_eq, gen_positive_int_eq]
  refine guard_bind_map fun hN => guard_bind_map fun h1 => guard_bind_map fun h2 => ?_
  obtain ⟨n, rfl⟩ := Int.eq_ofNat_of_zero_le (by omega : 0 ≤ N)
  obtain ⟨a, rfl⟩ := Int.eq_ofNat_of_zero_le (by omega : 0 ≤ s)
  obtain ⟨b, rfl⟩ := Int.eq_ofNat_of_zero_le (by omega : 0 ≤ k)
  dsimp only
  have h2' : ((2 : Int)) = ((2 : Nat) : Int) := rfl
  rw [h2', new_combinations_eq PyF.empty 0 rfl n 2]
  simp only [Py.ok_bind, Py.itertoolsR_nonneg _ (Int.natCast_nonneg _), Int.toNat_natCast, range_toList_nat, ints,
    combos_map, Nat.cast_ofNat, Int.ofNat_eq_natCast]
  refine addAll_wf (ramsey_wf a b n) (show ((0 + (combosSeqs n 2).length : Nat) : Int) = _ by simp) ?_
  simp only [Ramsey.ramseyCons, pairLits_eq_pairs, List.map_map]
  refine addAll_bind (foldlM_adds_map ints _ _ _ ?_ _) fun F => addAll_last (foldlM_adds_map ints _ _ _ ?_ _)
  · intro s S hS
    rw [combos2_eq_pairs, ints, pairs_map, mapM_map_ok _ _ (fun p => Sum.inl ((Ramsey.eId n p.1 p.2 : Nat) : Int)) (pairs S)
      (fun p hp => by simp only [Int.ofNat_eq_natCast, ramsey_pairs_call n hS p hp, Py.ok_bind]), Py.ok_bind,
      lits_inl', Py.ok_bind]
    rfl
  · intro s S hS
    rw [combos2_eq_pairs, ints, pairs_map, mapM_map_ok _ _ (fun p => -((Ramsey.eId n p.1 p.2 : Nat) : Int)) (pairs S)
      (fun p hp => by simp only [Int.ofNat_eq_natCast, ramsey_pairs_call n hS p hp, Py.ok_bind]), Py.ok_bind]
    rfl

/-- **the Ramsey formula of the source encodes the graphs on `N` vertices without independent set of size `s` and
without clique of size `k`** — on the generated definition: `N(N-1)/2` variables (one per pair, the identifier of
`{u,v}` is `eId`), and an assignment satisfies the formula (abstract constraints, CNF, OPB) iff the graph it encodes has
neither -/
theorem gen_ramsey_holds_iff (s k N : Nat) (hs : 1 ≤ s) (hk : 1 ≤ k) :
    ∃ st : FState, RamseyNumber (s : Int) (k : Int) (N : Int) = Except.ok st ∧
      st.numvar = ((N * (N - 1) / 2 : Nat) : Int) ∧
      ∀ α, ((formulaOf st).holds α = true ↔ NoIndepSet N s α ∧ NoClique N k α) ∧
        ((formulaOf st).toCNF.holds α = true ↔ NoIndepSet N s α ∧ NoClique N k α) ∧
        ((formulaOf st).toOPB.holds α = true ↔ NoIndepSet N s α ∧ NoClique N k α) := by
  have hm := ramsey_eq s k N hs hk
  refine ⟨stateOf ⟨(combosSeqs N 2).length, Ramsey.ramseyCons s k N⟩, ?_, ?_, ?_⟩
  · rw [gen_ramsey_eq_model, hm]; rfl
  · have := (ramsey_nvars_wf s k N hs hk _ hm).1
    simp only [stateOf] at this ⊢
    exact_mod_cast this
  · intro α
    rw [formulaOf_stateOf]
    exact ⟨ramsey_holds_iff s k N hs hk _ hm α, (ramsey_rendered s k N hs hk _ hm α).1,
      (ramsey_rendered s k N hs hk _ hm α).2⟩

/-- non-vacuity: `RamseyNumber(2, 2, 3)`: three pairs, each as a positive and as a negative unit clause -/
example : RamseyNumber 2 2 3 = Except.ok ⟨3, [.clause [1], .clause [2], .clause [3],
    .clause [-1], .clause [-2], .clause [-3]]⟩ := by rw [gen_ramsey_eq_model]; rfl

end Cnfgen.C03
