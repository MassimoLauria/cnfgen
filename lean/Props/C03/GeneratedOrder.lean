/-
C03 — `GraphOrderingPrinciple` and `OrderingPrinciple` as TRANSLATED from cnfgen/families/ordering.py are `Fam.Ordering.gop`
/ `op` of the model, for all four flags and every Knuth variant.  The model's closed forms (`permId`, `combId`, `perm3`,
`comb3`, `comb2`) are proved equal to the itertools enumerations of the translated word groups (Lemmas/GenOrderIter.lean).
-/
import Lemmas.GenFamOrder
import Lemmas.GraphInv
import Lemmas.GraphBuildClosed
import Props.C03.GeneratedPeb
import Props.C03.Order
set_option linter.unusedSimpArgs false
namespace Cnfgen.C03
open Cnfgen Cnfgen.Vars Cnfgen.PyGen Cnfgen.GenVars Cnfgen.Fam Cnfgen.PyF Cnfgen.GenFam Cnfgen.C11 Cnfgen.Fam.Ordering
open Cnfgen.C01 (stateOf formulaOf formulaOf_stateOf gen_non_negative_int_eq)
open Cnfgen.GenOrderIter

/-- the non-minimality loop skips the last vertex when `plant` is set and adds one clause otherwise -/
theorem planted_guard (n v : Nat) (plant : Bool) (s : FState) (c : Con) (A : Except Err FState)
    (hA : ¬ (v = n ∧ plant = true) → A = addAll s [c]) :
    (if ((v : Int) = (n : Int)) ∧ plant = true then Except.ok s else A) =
      addAll s (if (!(v == n && plant)) = true then [c] else []) := by
  by_cases hp : v = n ∧ plant = true
  · rw [if_pos ⟨by omega, hp.2⟩, if_neg (by simp [hp.1, hp.2])]; rfl
  · have hb : (!(v == n && plant)) = true := by simpa [Bool.and_eq_true, beq_iff_eq] using not_and_or.1 hp
    rw [if_neg (fun h => hp ⟨by omega, h.2⟩), if_pos hb, hA hp]

theorem gen_gop_smart (G : SimpleG) (hG : NbrsOK G) (total plant : Bool) (knuth : Int) :
    GraphOrderingPrinciple (absGraph G) total true plant knuth =
      Except.ok (stateOf (gop G total true plant knuth)) := by
  unfold GraphOrderingPrinciple
  have hn : (absGraph G).number_of_vertices = (G.n : Int) := rfl
  simp only [hn, if_true]
  have h2 : (2 : Int) = ((2 : Nat) : Int) := rfl
  have h3 : (3 : Int) = ((3 : Nat) : Int) := rfl
  rw [h2, new_combinations_eq PyF.empty 0 rfl G.n 2]
  simp only [Py.ok_bind]
  have hnv : ((0 + (combosSeqs G.n 2).length : Nat) : Int) = (((gop G total true plant knuth).nvars : Nat) : Int) := by
    have := FamRamsey.two_mul_length_pairs G.n
    rw [gop_smart_nvars, Nat.zero_add, show (combosSeqs G.n 2).length = G.n * (G.n - 1) / 2 by omega]
  rw [range_toList_nat]
  refine addAll_wf (gop_wf G hG total true plant knuth) hnv ?_
  simp only [gop, if_true, nonmin, transSmart, ← rangeN_eq_verts, ← flatMap_ite_keep]
  -- non-minimality
  refine addAll_bind (foldlM_addAll_map Int.ofNat _ _ _ ?_ _) fun gop => ?_
  · intro s v hv
    rw [mem_rangeN] at hv
    have hv' : 1 ≤ v ∧ v ≤ G.n := by omega
    simp only [Int.ofNat_eq_natCast]
    refine planted_guard G.n v plant s _ _ fun hp => ?_
    -- `X(u, v)` for the smaller neighbours, `-X(v, u)` for the larger ones
    rw [abs_neighbors G hv', Py.ok_bind, ints,
      foldlM_append_map_ok _ _ (fun u => Sum.inl (below G.n u v)) (G.nbrs v) (fun acc u hu => by
        have := hG v hv'.1 hv'.2 u hu
        simp only [Int.ofNat_eq_natCast, below]
        by_cases hlt : u < v
        · rw [if_pos (show (u : Int) < v by omega), if_pos hlt, comb_call G.n u v ⟨this.1, hlt, hv'.2⟩]; rfl
        · rw [if_neg (show ¬ (u : Int) < v by omega), if_neg hlt, comb_call G.n v u ⟨hv'.1, by omega, this.2.1⟩]
          rfl),
      Py.ok_bind, Py.ok_bind, List.nil_append, lits_inl', Py.ok_bind]
    rfl
  rw [h3, Py.itertoolsR_nonneg _ (Int.natCast_nonneg _), Py.ok_bind, Int.toNat_natCast]
  rw [show combos (ints (rangeN 1 (G.n + 1))) 3 = (combosSeqs G.n 3).map ints from combos_map _ _ _,
    combosSeqs_three_eq, List.map_map]
  -- transitivity (one third of the instances)
  refine addAll_last (foldlM_addAll_map _ _ _ _ ?_ _)
  rintro s ⟨a, b, c⟩ ht
  obtain ⟨ha1, hab, hbc, hc2⟩ := mem_comb3.1 ht
  simp only [Function.comp, ints, List.map_cons, List.map_nil, Py.unpack3, Py.ok_bind, Int.ofNat_eq_natCast,
    comb_call G.n a b ⟨ha1, hab, by omega⟩, comb_call G.n b c ⟨by omega, hbc, hc2⟩,
    comb_call G.n a c ⟨ha1, by omega, hc2⟩, lits_three]
  rfl

theorem knuthKeep_iff (knuth : Int) (a b c : Nat) :
    knuthKeep knuth a b c = true ↔
      ¬ (knuth = 2 ∧ (((b : Int) < (a : Int)) ∨ ((b : Int) < (c : Int)))) ∧
      ¬ (knuth = 3 ∧ (((c : Int) < (a : Int)) ∨ ((c : Int) < (b : Int)))) := by
  rw [knuthKeep_spec]; omega

theorem gen_gop_plain (G : SimpleG) (hG : NbrsOK G) (total plant : Bool) (knuth : Int) :
    GraphOrderingPrinciple (absGraph G) total false plant knuth =
      Except.ok (stateOf (gop G total false plant knuth)) := by
  unfold GraphOrderingPrinciple
  have hn : (absGraph G).number_of_vertices = (G.n : Int) := rfl
  simp only [hn, Bool.false_eq_true, if_false]
  have hnp := new_permutations_eq PyF.empty 0 rfl G.n 2
  simp only [Nat.cast_ofNat] at hnp
  rw [hnp]
  simp only [Py.ok_bind]
  have hnv : ((0 + (permsSeqs G.n 2).length : Nat) : Int) = (((gop G total false plant knuth).nvars : Nat) : Int) := by
    rw [gop_nvars, length_permsSeqs_two, Nat.zero_add]
  rw [range_toList_nat]
  refine addAll_wf (gop_wf G hG total false plant knuth) hnv ?_
  simp only [gop, Bool.false_eq_true, if_false, nonmin, Fam.Ordering.trans, antisym, totality, ← rangeN_eq_verts,
    ← flatMap_ite_keep, List.append_assoc]
  -- non-minimality
  refine addAll_bind (foldlM_addAll_map Int.ofNat _ _ _ ?_ _) fun gop => ?_
  · intro s v hv
    rw [mem_rangeN] at hv
    have hv' : 1 ≤ v ∧ v ≤ G.n := by omega
    simp only [Int.ofNat_eq_natCast]
    refine planted_guard G.n v plant s _ _ fun hp => ?_
    rw [abs_neighbors G hv', Py.ok_bind]
    rw [ints, mapM_map_ok _ _ (fun u => Sum.inl (X G.n u v)) (G.nbrs v) (fun u hu => by
      have := hG v hv'.1 hv'.2 u hu
      simp only [Int.ofNat_eq_natCast, perm_call G.n u v ⟨this.1, this.2.1⟩ hv' this.2.2, Py.ok_bind]), Py.ok_bind, Py.ok_bind,
      lits_inl', Py.ok_bind]
    rfl
  rw [Py.itertoolsR_nonneg _ (by omega), Py.ok_bind]
  have h3 : (3 : Int).toNat = 3 := rfl
  rw [h3, show permsK 3 (ints (rangeN 1 (G.n + 1))) = (permsSeqs G.n 3).map ints from permsK_map _ _ _,
    permsSeqs_three_eq, List.map_map]
  -- transitivity
  refine addAll_bind (foldlM_addAll_map _ _ _ _ ?_ _) fun gop => ?_
  · rintro s ⟨a, b, c⟩ ht
    obtain ⟨ha, hb, hc, hab, hac, hbc⟩ := mem_perm3.1 ht
    simp only [Function.comp, ints, List.map_cons, List.map_nil, Py.unpack3, Py.ok_bind, Int.ofNat_eq_natCast]
    have hk := knuthKeep_iff knuth a b c
    by_cases hkeep : knuthKeep knuth a b c = true
    · obtain ⟨hk2, hk3⟩ := hk.1 hkeep
      rw [if_neg hk2, if_neg hk3, if_pos hkeep]
      simp only [perm_call G.n a b ha hb hab, perm_call G.n b c hb hc hbc, perm_call G.n a c ha hc hac, Py.ok_bind, lits_three]
      rfl
    · rw [if_neg hkeep]
      by_cases hk2 : knuth = 2 ∧ (((b : Int) < (a : Int)) ∨ ((b : Int) < (c : Int)))
      · rw [if_pos hk2]; rfl
      · rw [if_neg hk2, if_pos (by_contra fun h3 => hkeep (hk.2 ⟨hk2, h3⟩))]; rfl
  rw [combos2_eq_pairs, ints, pairs_map, pairs_verts]
  -- antisymmetry
  refine addAll_bind (foldlM_adds_map _ _ _ _ ?_ _) fun gop => ?_
  · rintro s ⟨a, b⟩ hp
    obtain ⟨ha, hab, hb⟩ := mem_comb2.1 hp
    simp only [Int.ofNat_eq_natCast, perm_call G.n a b ⟨ha, by omega⟩ ⟨by omega, hb⟩ (by omega),
      perm_call G.n b a ⟨by omega, hb⟩ ⟨ha, by omega⟩ (by omega), Py.ok_bind]
    rfl
  -- totality
  cases total
  · rfl
  · refine addAll_last (addAll_last (foldlM_adds_map _ _ _ _ ?_ _))
    rintro s ⟨a, b⟩ hp
    obtain ⟨ha, hab, hb⟩ := mem_comb2.1 hp
    simp only [Int.ofNat_eq_natCast, perm_call G.n a b ⟨ha, by omega⟩ ⟨by omega, hb⟩ (by omega),
      perm_call G.n b a ⟨by omega, hb⟩ ⟨ha, by omega⟩ (by omega), Py.ok_bind, lits_two]
    rfl

/-- **`GraphOrderingPrinciple` of the source is `Fam.Ordering.gop` of the model**, for every simple graph object whose
neighbour lists hold vertices of the graph other than the vertex itself (what `Graph` maintains: C16) and for all values
of `total`, `smart`, `plant`, `knuth` -/
theorem gen_gop_eq_model (G : SimpleG) (hG : NbrsOK G) (total smart plant : Bool) (knuth : Int) :
    GraphOrderingPrinciple (absGraph G) total smart plant knuth =
      Except.ok (stateOf (gop G total smart plant knuth)) := by
  cases smart
  · exact gen_gop_plain G hG total plant knuth
  · exact gen_gop_smart G hG total plant knuth

theorem gop_congr (G G' : SimpleG) (hn : G.n = G'.n) (hnb : ∀ v, 1 ≤ v → v ≤ G.n → G.nbrs v = G'.nbrs v)
    (total smart plant : Bool) (knuth : Int) :
    gop G total smart plant knuth = gop G' total smart plant knuth := by
  have hnm : ∀ sm, nonmin G sm plant = nonmin G' sm plant := by
    intro sm
    simp only [nonmin, ← hn]
    apply List.map_congr_left
    intro v hv
    have hv' := mem_verts.1 (List.mem_filter.1 hv).1
    simp only [nonminClause, hnb v hv'.1 hv'.2, ← hn]
  simp only [gop, hnm, ← hn]

/-- the invariant `add_edge` maintains gives what the ordering formulas need of the neighbour lists -/
theorem nbrsOK_of_inv {G : SimpleG} (hG : SimpleG.Inv G) : NbrsOK G := fun _ _ _ _ hu =>
  have r := hG.nbrs_range hu
  ⟨r.2.2.1, r.2.2.2.1, fun e => r.2.2.2.2 e.symm⟩

/-- the graph `Graph.complete_graph(n)` builds (model of C15): every vertex is adjacent to all the others -/
theorem completeGraph_nbrs (n : Nat) :
    ∃ G, GBuild.completeGraph (n : Int) = Except.ok G ∧ G.n = n ∧ SimpleG.Inv G ∧
      ∀ v, 1 ≤ v → v ≤ n → G.nbrs v = (verts n).filter (· != v) := by
  have hneg : ¬ ((n : Int) < 0) := by omega
  obtain ⟨G, hG, hGn, _, _, hmem⟩ := SimpleG.ofEdges_spec_gb n (GBuild.completeCalls n)
    (fun e he => (GBuild.mem_completeCalls n e).1 he) (GBuild.nodup_completeCalls n)
  have hinv := SimpleG.inv_ofEdges hG
  refine ⟨G, by simp [GBuild.completeGraph, hneg, hG], hGn, hinv, ?_⟩
  intro v hv1 hv2
  apply SortedLt.ext (hinv.nbrs_sorted v) ((verts_sorted n).filter _)
  intro x
  rw [hinv.mem_nbrs, hmem, GBuild.mem_completeCalls, GBuild.mem_completeCalls, List.mem_filter, mem_verts]
  simp only [bne_iff_ne, ne_eq]
  omega

/-- **`OrderingPrinciple` of the source is `Fam.Ordering.op` of the model** for every integer `size` (negative: the same
ValueError) and all flags: the complete graph comes from the model of `Graph.complete_graph` (C15), whose neighbour
lists are those of the closed form `completeG` -/
theorem gen_op_eq_model (size : Int) (total smart plant : Bool) (knuth : Int) :
    OrderingPrinciple size total smart plant knuth = (op size total smart plant knuth).map stateOf := by
  unfold OrderingPrinciple
  simp only [gen_non_negative_int_eq]
  by_cases hs : size < 0
  · simp [hs, op]
  · obtain ⟨n, rfl⟩ := Int.eq_ofNat_of_zero_le (by omega : 0 ≤ size)
    obtain ⟨G, hG, hGn, hinv, hnb⟩ := completeGraph_nbrs n
    simp only [hs, if_false, Py.ok_bind, absCompleteGraph, hG, Py.map_ok, gen_gop_eq_model G (nbrsOK_of_inv hinv), op_eq]
    congr 2
    apply gop_congr G (completeG n) hGn
    intro v h1 h2
    rw [hnb v h1 (by omega), completeG_nbrs n v h1 (by omega)]

/-- **the graph ordering principle of the source is unsatisfiable** on every graph object with the invariant `add_edge`
maintains and at least one vertex — every non-planted variant (plain, total, compact, Knuth 2 and 3), for the abstract
constraints and both renderings; stated on the generated definition -/
theorem gen_gop_unsat (G : SimpleG) (hG : SimpleG.Inv G) (hn : 1 ≤ G.n) (total smart : Bool) (knuth : Int) :
    ∃ s : FState, GraphOrderingPrinciple (absGraph G) total smart false knuth = Except.ok s ∧
      s.numvar = ((if smart then G.n * (G.n - 1) / 2 else G.n * (G.n - 1) : Nat) : Int) ∧
      (¬ ∃ α, (formulaOf s).holds α = true) ∧
      (¬ ∃ α, (formulaOf s).toCNF.holds α = true) ∧ (¬ ∃ α, (formulaOf s).toOPB.holds α = true) := by
  have hok := nbrsOK_of_inv hG
  refine ⟨stateOf (gop G total smart false knuth), gen_gop_eq_model G hok total smart false knuth, ?_, ?_, ?_⟩
  · cases smart <;> rfl
  · rw [formulaOf_stateOf]
    cases smart
    · exact gop_unsat G hok hn total knuth
    · exact gop_smart_unsat G hok hn total knuth
  · rw [formulaOf_stateOf]
    exact gop_unsat_rendered G hok hn total smart knuth

/-- **`OrderingPrinciple(n)` of the source is unsatisfiable for every `n ≥ 1`**, every non-planted variant — on the
generated definition -/
theorem gen_op_unsat (n : Nat) (hn : 1 ≤ n) (total smart : Bool) (knuth : Int) :
    ∃ s : FState, OrderingPrinciple (n : Int) total smart false knuth = Except.ok s ∧
      (¬ ∃ α, (formulaOf s).holds α = true) ∧
      (¬ ∃ α, (formulaOf s).toCNF.holds α = true) ∧ (¬ ∃ α, (formulaOf s).toOPB.holds α = true) := by
  obtain ⟨F, hF, _, h1, h2, h3⟩ := op_unsat n hn total smart knuth
  refine ⟨stateOf F, by rw [gen_op_eq_model, hF]; rfl, ?_, ?_, ?_⟩ <;> rw [formulaOf_stateOf]
  · exact h1
  · exact h2
  · exact h3

end Cnfgen.C03
