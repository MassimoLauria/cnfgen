/-
C03 — contradiction benchmarks have the documented satisfiability:
ordering / graph ordering principle (plain, total, smart, Knuth 2 and 3, planted), pebbling,
stone and sparse stone formulas.  Property theorems only; helper lemmas are in `Lemmas/Fam*.lean`.

A family model returns a `Formula` (abstract constraint list, `Build/Constr.lean`);
`Formula.toCNF` / `Formula.toOPB` are the two renderings that the correspondence harness compares
literally with the real generator.  For every family the file gives
  (i)   `…_wf`, `…_nvars`                    (also used by C08 / C16),
  (ii)  `…_axioms`: `holds α ↔ Spec (relation induced by α)` — exactly the documented axioms,
  (iii) `…_unsat` (for every size / graph / DAG / stone count / availability graph the generator
        accepts, with ≥ 1 vertex), transferred to both renderings in `…_unsat_rendered`;
        planted ordering: `sat ↔` an order with the single allowed minimum exists.
Graph hypotheses (`NbrsOK`, `TopoDAG`, `BipOK`) are the invariants of reachable graph objects
(property C16); each comes with a concrete instance (`example`).
-/
import Lemmas.FamC03aCheck
namespace Cnfgen.C03
open Cnfgen Cnfgen.Fam Cnfgen.FamC03a

section Pebbling
open Cnfgen.Fam.Pebbling

/-- the generator accepts exactly the digraphs whose `is_dag()` flag is set … -/
theorem pebbling_accepts (D : DiG) (hd : D.stillDag = true) : pebbling D = .ok (peb D) :=
  pebbling_ok D hd
/-- … and raises `ValueError` otherwise -/
theorem pebbling_rejects (D : DiG) (hd : D.stillDag = false) : pebbling D = .error .valueError := by
  simp [pebbling, hd]

/-- C03 (i) one variable per vertex -/
theorem peb_nvars (D : DiG) : (peb D).nvars = D.n := rfl

/-- C03 (i) every literal is a non-zero identifier within `1..n` -/
theorem peb_wf (D : DiG) (h : TopoDAG D) : (peb D).WF := Pebbling.peb_wf D h

/-- C03 (ii) exactly the documented axioms: under the assignment `α` the formula says that
a vertex whose predecessors are all pebbled is pebbled (sources unconditionally), and that no sink
is pebbled — nothing else. `x(v)` is variable `v` (`xvar_eq`). -/
theorem peb_axioms (D : DiG) (α : Assign) :
    (peb D).holds α = true ↔ PebSpec D (fun v => α (xvar D.n v) = true) := peb_holds_iff D α

theorem peb_var (n v : Nat) (h : 1 ≤ v) : xvar n v = v := xvar_eq n v h

/-- C03 (iii) unsatisfiable on every DAG in topological order with at least one vertex -/
theorem peb_unsat (D : DiG) (h : TopoDAG D) (hn : 1 ≤ D.n) : ¬ ∃ α, (peb D).holds α = true :=
  Pebbling.peb_unsat D h hn

/-- … and so are the CNF and the OPB rendering of it -/
theorem peb_unsat_rendered (D : DiG) (h : TopoDAG D) (hn : 1 ≤ D.n) :
    (¬ ∃ α, (peb D).toCNF.holds α = true) ∧ (¬ ∃ α, (peb D).toOPB.holds α = true) :=
  (Pebbling.peb_wf D h).unsat_rendered (Pebbling.peb_unsat D h hn)

/-- no vertex: the empty formula (satisfiable); the property's universe is "at least one vertex" -/
theorem peb_empty (D : DiG) (h : D.n = 0) : (peb D).cons = [] := by
  simp [peb, h, Pebbling.verts]

/-- non-vacuity: the pyramid of height 1 (`1 → 3 ← 2`) as built by `add_edge` -/
example : ∃ D, (DiG.ofEdges 3 [(1, 3), (2, 3)]).toOption = some D ∧ D.stillDag = true ∧ TopoDAG D ∧ 1 ≤ D.n :=
  ⟨⟨3, 2, [[], [], [], [1, 2]], [[], [3], [3], []], [(2, 3), (1, 3)], true⟩, by decide +kernel, rfl,
    topoDAG_of_b _ (by decide +kernel), by decide +kernel⟩

end Pebbling

section Stone
open Cnfgen.Fam.Pebbling

/-- acceptance condition of `SparseStoneFormula`: `D.is_dag()` and `|Left(B)| = |V(D)|` … -/
theorem sparseStone_accepts (D : DiG) (B : BipG) (hd : D.stillDag = true) (hl : B.l = D.n) :
    sparseStone D B = .ok (sstone D B) := sparseStone_ok D B hd hl
/-- … `ValueError` otherwise -/
theorem sparseStone_rejects (D : DiG) (B : BipG) (h : D.stillDag = false ∨ B.l ≠ D.n) :
    sparseStone D B = .error .valueError := by
  rcases h with h | h
  · simp [sparseStone, h]
  · cases hd : D.stillDag <;> simp [sparseStone, hd, h]

/-- acceptance condition of `StoneFormula`: `D.is_dag()` and `nstones ≥ 0`; the formula is the sparse
stone formula of the complete availability graph -/
theorem stone_accepts (D : DiG) (k : Nat) (hd : D.stillDag = true) :
    stone D (k : Int) = .ok (sstone D (BipG.complete D.n k)) := stone_ok D k hd
theorem stone_rejects (D : DiG) (k : Int) (h : D.stillDag = false ∨ k < 0) :
    stone D k = .error .valueError := by
  rcases h with h | h
  · simp [stone, h]
  · cases hd : D.stillDag <;> simp [stone, hd, h]

/-- C03 (i) variables: one per stone plus one per edge of the availability graph -/
theorem sstone_nvars (D : DiG) (B : BipG) : (sstone D B).nvars = B.r + B.numberOfEdges := rfl

/-- C03 (i) `StoneFormula(D, k)`: `k + n·k` variables -/
theorem stone_nvars (D : DiG) (k : Nat) : (sstone D (BipG.complete D.n k)).nvars = k + D.n * k := by
  show (BipG.complete D.n k).r + (BipG.complete D.n k).numberOfEdges = k + D.n * k
  rw [BipG.numberOfEdges_complete]; rfl

theorem sstone_wf (D : DiG) (B : BipG) (hD : TopoDAG D) (hl : B.l = D.n) (hB : BipOK B) : (sstone D B).WF :=
  Pebbling.sstone_wf D B hD hl hB

theorem stone_wf (D : DiG) (k : Nat) (hD : TopoDAG D) : (sstone D (BipG.complete D.n k)).WF :=
  Pebbling.sstone_wf D _ hD rfl (complete_ok D.n k)

/-- C03 (ii) exactly the documented axiom groups (`StoneSpec`): every vertex carries an allowed
stone; a stone `j` on `v` is red whenever the predecessors of `v` carry red stones (one clause per
choice of allowed stones other than `j`); stones on sinks are not red. -/
theorem sstone_axioms (D : DiG) (B : BipG) (α : Assign) :
    (sstone D B).holds α = true ↔
      StoneSpec D B (fun v j => α (Pvar B v j) = true) (fun j => α (Rvar B j) = true) :=
  sstone_holds_iff D B α

/-- C03 (iii) unsatisfiable for every DAG in topological order with ≥ 1 vertex and every
availability graph the generator accepts (any number of stones, vertices without an available
stone included) -/
theorem sstone_unsat (D : DiG) (B : BipG) (hD : TopoDAG D) (hl : B.l = D.n) (hn : 1 ≤ D.n) :
    ¬ ∃ α, (sstone D B).holds α = true := Pebbling.sstone_unsat D B hD hl hn

/-- `StoneFormula`: every stone count `k ≥ 0` -/
theorem stone_unsat (D : DiG) (k : Nat) (hD : TopoDAG D) (hn : 1 ≤ D.n) :
    ¬ ∃ α, (sstone D (BipG.complete D.n k)).holds α = true := Pebbling.sstone_unsat D _ hD rfl hn

theorem sstone_unsat_rendered (D : DiG) (B : BipG) (hD : TopoDAG D) (hl : B.l = D.n) (hB : BipOK B)
    (hn : 1 ≤ D.n) :
    (¬ ∃ α, (sstone D B).toCNF.holds α = true) ∧ (¬ ∃ α, (sstone D B).toOPB.holds α = true) :=
  (Pebbling.sstone_wf D B hD hl hB).unsat_rendered (Pebbling.sstone_unsat D B hD hl hn)

theorem stone_unsat_rendered (D : DiG) (k : Nat) (hD : TopoDAG D) (hn : 1 ≤ D.n) :
    (¬ ∃ α, (sstone D (BipG.complete D.n k)).toCNF.holds α = true) ∧
    (¬ ∃ α, (sstone D (BipG.complete D.n k)).toOPB.holds α = true) :=
  (stone_wf D k hD).unsat_rendered (stone_unsat D k hD hn)

/-- no vertex: only the `R` variables, no clause -/
theorem sstone_empty (D : DiG) (B : BipG) (h : D.n = 0) (hl : B.l = 0) : (sstone D B).cons = [] := by
  simp [sstone, h, hl, Pebbling.verts]

/-- non-vacuity: a deficient availability graph (vertex 2 has no stone) on the pyramid of height 1 -/
example : ∃ B, (BipG.ofEdges 3 2 [(1, 1), (1, 2), (3, 2)]).toOption = some B ∧ B.l = 3 ∧ BipOK B :=
  ⟨⟨3, 2, [[], [1, 2], [], [2]], [[], [1], [1, 3]], [(3, 2), (1, 2), (1, 1)]⟩, by decide +kernel, rfl,
    bipOK_of_b _ (by decide +kernel)⟩

end Stone

section Ordering
open Cnfgen.Fam.Ordering

/-- `OrderingPrinciple(size, …)` is the graph ordering principle of the complete graph … -/
theorem op_accepts (n : Nat) (total smart plant : Bool) (knuth : Int) :
    op (n : Int) total smart plant knuth = .ok (gop (completeG n) total smart plant knuth) :=
  op_eq n total smart plant knuth
/-- … and a negative size raises `ValueError` -/
theorem op_rejects (size : Int) (h : size < 0) (total smart plant : Bool) (knuth : Int) :
    op size total smart plant knuth = .error .valueError := op_neg size h total smart plant knuth

/-- the complete graph object satisfies the graph hypothesis -/
theorem completeG_nbrsOK (n : Nat) : NbrsOK (completeG n) := completeG_ok n

/-- C03 (i) `n(n-1)` variables (one per ordered pair), `n(n-1)/2` in the smart encoding -/
theorem gop_nvars (G : SimpleG) (total plant : Bool) (knuth : Int) :
    (gop G total false plant knuth).nvars = G.n * (G.n - 1) := Ordering.gop_nvars G total plant knuth
theorem gop_smart_nvars (G : SimpleG) (total plant : Bool) (knuth : Int) :
    (gop G total true plant knuth).nvars = G.n * (G.n - 1) / 2 := Ordering.gop_smart_nvars G total plant knuth

theorem gop_wf (G : SimpleG) (hG : NbrsOK G) (total smart plant : Bool) (knuth : Int) :
    (gop G total smart plant knuth).WF := Ordering.gop_wf G hG total smart plant knuth

/-- C03 (ii) exactly the documented axioms (plain, total, planted, Knuth variants): the relation
`Rel α n u v := α(x_{u,v})` is antisymmetric, transitive (Knuth 2: only through a largest middle
element, Knuth 3: only into a largest last element — `knuthKeep`), total if requested, and every
vertex except the planted one has a smaller neighbour. -/
theorem gop_axioms (G : SimpleG) (hG : NbrsOK G) (total plant : Bool) (knuth : Int) (α : Assign) :
    (gop G total false plant knuth).holds α = true ↔ OrdSpec G total plant knuth (Rel α G.n) :=
  gop_holds_iff G hG total plant knuth α

/-- the Knuth variants keep exactly these transitivity instances -/
theorem knuthKeep_spec (knuth : Int) (a b c : Nat) :
    knuthKeep knuth a b c = true ↔
      (knuth = 2 → a ≤ b ∧ c ≤ b) ∧ (knuth = 3 → a ≤ c ∧ b ≤ c) := by
  simp only [knuthKeep, Bool.and_eq_true, Bool.not_eq_true', Bool.and_eq_false_iff, Bool.or_eq_false_iff,
    beq_eq_false_iff_ne, decide_eq_false_iff_not, Nat.not_lt, Decidable.imp_iff_not_or]

/-- C03 (ii) smart encoding (`total`, `knuth` are ignored by the code): the relation
`RelS α n u v` (`x_{u,v}` for `u < v`, `¬x_{v,u}` otherwise) — total and antisymmetric by
construction — is transitive and every vertex except the planted one has a smaller neighbour. -/
theorem gop_smart_axioms (G : SimpleG) (total plant : Bool) (knuth : Int) (α : Assign) :
    (gop G total true plant knuth).holds α = true ↔ OrdSpec G true plant 0 (RelS α G.n) :=
  gop_smart_holds_iff G total plant knuth α

/-- C03 (iii) the graph ordering principle — plain, total, **and both Knuth variants** (every
value of `knuth`) — is unsatisfiable on every graph with at least one vertex -/
theorem gop_unsat (G : SimpleG) (hG : NbrsOK G) (hn : 1 ≤ G.n) (total : Bool) (knuth : Int) :
    ¬ ∃ α, (gop G total false false knuth).holds α = true := Ordering.gop_unsat G hG hn total knuth

theorem knuth2_unsat (G : SimpleG) (hG : NbrsOK G) (hn : 1 ≤ G.n) (total : Bool) :
    ¬ ∃ α, (gop G total false false 2).holds α = true := Ordering.gop_unsat G hG hn total 2

theorem knuth3_unsat (G : SimpleG) (hG : NbrsOK G) (hn : 1 ≤ G.n) (total : Bool) :
    ¬ ∃ α, (gop G total false false 3).holds α = true := Ordering.gop_unsat G hG hn total 3

/-- the combinatorial core: no antisymmetric relation on a non-empty finite set of naturals, transitive
at least through largest middle elements (resp. into largest last elements), gives every element a
predecessor -/
theorem no_minimal_free_relation_k2 (N : Nat) (S : Nat → Prop) (R : Nat → Nat → Prop)
    (hb : ∀ v, S v → v ≤ N) (hne : ∃ v, S v)
    (has : ∀ u v, S u → S v → u ≠ v → ¬ (R u v ∧ R v u))
    (htr : ∀ a b c, S a → S b → S c → a ≠ b → b ≠ c → a ≠ c → a < b → c < b → R a b → R b c → R a c)
    (hmin : ∀ v, S v → ∃ u, S u ∧ u ≠ v ∧ R u v) : False := no_order_k2 N S R hb hne has htr hmin

theorem no_minimal_free_relation_k3 (N : Nat) (S : Nat → Prop) (R : Nat → Nat → Prop)
    (hb : ∀ v, S v → v ≤ N) (hne : ∃ v, S v)
    (has : ∀ u v, S u → S v → u ≠ v → ¬ (R u v ∧ R v u))
    (htr : ∀ a b c, S a → S b → S c → a ≠ b → b ≠ c → a ≠ c → a < c → b < c → R a b → R b c → R a c)
    (hmin : ∀ v, S v → ∃ u, S u ∧ u ≠ v ∧ R u v) : False := no_order_k3 N S R hb hne has htr hmin

/-- C03 (iii) smart encoding -/
theorem gop_smart_unsat (G : SimpleG) (hG : NbrsOK G) (hn : 1 ≤ G.n) (total : Bool) (knuth : Int) :
    ¬ ∃ α, (gop G total true false knuth).holds α = true := Ordering.gop_smart_unsat G hG hn total knuth

/-- every non-planted variant, both renderings -/
theorem gop_unsat_rendered (G : SimpleG) (hG : NbrsOK G) (hn : 1 ≤ G.n) (total smart : Bool) (knuth : Int) :
    (¬ ∃ α, (gop G total smart false knuth).toCNF.holds α = true) ∧
    (¬ ∃ α, (gop G total smart false knuth).toOPB.holds α = true) := by
  refine (Ordering.gop_wf G hG total smart false knuth).unsat_rendered ?_
  cases smart
  · exact Ordering.gop_unsat G hG hn total knuth
  · exact Ordering.gop_smart_unsat G hG hn total knuth

/-- `OrderingPrinciple(n)` for every `n ≥ 1`, every variant, both renderings -/
theorem op_unsat (n : Nat) (hn : 1 ≤ n) (total smart : Bool) (knuth : Int) :
    ∃ F, op (n : Int) total smart false knuth = .ok F ∧ F.WF ∧ (¬ ∃ α, F.holds α = true) ∧
      (¬ ∃ α, F.toCNF.holds α = true) ∧ (¬ ∃ α, F.toOPB.holds α = true) := by
  refine ⟨_, op_eq n total smart false knuth, Ordering.gop_wf _ (completeG_ok n) total smart false knuth, ?_,
    gop_unsat_rendered _ (completeG_ok n) hn total smart knuth⟩
  cases smart
  · exact Ordering.gop_unsat _ (completeG_ok n) hn total knuth
  · exact Ordering.gop_smart_unsat _ (completeG_ok n) hn total knuth

/-- C03, planted: satisfiable exactly when a relation with the documented properties exists, i.e.
an order in which only the last vertex may lack a smaller neighbour (stated for both values of
`plant`; with `plant = false` the right-hand side is empty by `gop_unsat`) -/
theorem gop_planted_sat_iff (G : SimpleG) (hG : NbrsOK G) (total plant : Bool) (knuth : Int) :
    (∃ α, (gop G total false plant knuth).holds α = true) ↔ ∃ R, OrdSpec G total plant knuth R :=
  gop_sat_iff G hG total plant knuth

theorem gop_smart_planted_sat_iff (G : SimpleG) (hG : NbrsOK G) (total plant : Bool) (knuth : Int) :
    (∃ α, (gop G total true plant knuth).holds α = true) ↔ ∃ R, OrdSpec G true plant 0 R :=
  gop_smart_sat_iff G hG total plant knuth

/-- the planted `OrderingPrinciple(n)` is satisfiable for every `n` (order `n < n-1 < … < 1`),
every variant, both renderings -/
theorem op_planted_sat (n : Nat) (total smart : Bool) (knuth : Int) :
    ∃ F, op (n : Int) total smart true knuth = .ok F ∧ (∃ α, F.holds α = true) ∧
      (∃ α, F.toCNF.holds α = true) ∧ (∃ α, F.toOPB.holds α = true) :=
  ⟨_, op_eq n total smart true knuth, Ordering.op_planted_sat n total smart knuth,
    (Ordering.gop_wf _ (completeG_ok n) total smart true knuth).sat_rendered
      (Ordering.op_planted_sat n total smart knuth)⟩

/-- no vertex: the empty formula (satisfiable) — outside the property's universe -/
theorem gop_empty (G : SimpleG) (h : G.n = 0) (total smart plant : Bool) (knuth : Int) :
    (gop G total smart plant knuth).cons = [] := by
  cases smart <;> cases total <;>
    simp [gop, h, nonmin, Ordering.trans, antisym, totality, transSmart, perm3, comb3, comb2, Ordering.verts]

/-- identifiers are injective on the index pairs (used for "one assignment per order") -/
theorem permId_injective {n u v u' v' : Nat} (hu : 1 ≤ u) (hun : u ≤ n) (hv : 1 ≤ v) (hvn : v ≤ n) (h : u ≠ v)
    (hu' : 1 ≤ u') (hun' : u' ≤ n) (hv' : 1 ≤ v') (hvn' : v' ≤ n) (h' : u' ≠ v')
    (heq : permId n u v = permId n u' v') : u = u' ∧ v = v' :=
  permId_inj ⟨hu, hun⟩ ⟨hv, hvn⟩ h ⟨hu', hun'⟩ ⟨hv', hvn'⟩ h' heq

theorem combId_injective {n u v u' v' : Nat} (hu : 1 ≤ u) (h : u < v) (hvn : v ≤ n)
    (hu' : 1 ≤ u') (h' : u' < v') (hvn' : v' ≤ n)
    (heq : combId n u v = combId n u' v') : u = u' ∧ v = v' := combId_inj hu h hvn hu' h' hvn' heq

/-- non-vacuity: a path with an isolated vertex, as built by `add_edge` -/
example : ∃ G, (SimpleG.ofEdges 4 [(1, 2), (3, 2)]).toOption = some G ∧ NbrsOK G ∧ 1 ≤ G.n :=
  ⟨⟨4, 2, [[], [2], [1, 3], [2], []], [(3, 2), (2, 3), (2, 1), (1, 2)]⟩, by decide +kernel,
    nbrsOK_of_b _ (by decide +kernel), by decide +kernel⟩

/-- non-vacuity of the planted statement: a concrete satisfying assignment of planted `OP(3)` -/
example : (gop (completeG 3) false false true 0).holds (fun i => i == 3 || i == 5 || i == 6) = true := by
  decide +kernel

end Ordering

end Cnfgen.C03
