/-
C03 — Ramsey-type formulas, CPLS, Pitfall: property theorems only.
Models: `CnfgenModel/Fam/{Ramsey,Cpls,Pitfall,PitfallTseitin}.lean`; helper lemmas: `Lemmas/Fam*.lean`.

Conventions: parameters that the generator accepts are natural numbers cast to `Int` (the
`…_rejects` theorems cover the rest of the integers); `F.holds α` is the arithmetic meaning of the
abstract constraints, and `…_rendered` transfers every statement to the clause list of the CNF
class and to the constraint list of the OPB class.
-/
import Lemmas.FamRamsey
import Lemmas.FamRamseyFinset
import Lemmas.FamCpls
import Lemmas.FamPitfall
import Mathlib.Tactic.Choose
namespace Cnfgen.C03
open Cnfgen Cnfgen.Fam Cnfgen.FamRamsey

/-! ## Pythagorean triples (`PythagoreanTriples(N)`) -/

/-- `x < y < z ≤ N` with `x² + y² = z²` -/
def IsTriple (N x y z : Nat) : Prop := 1 ≤ x ∧ x < y ∧ y < z ∧ z ≤ N ∧ x ^ 2 + y ^ 2 = z ^ 2

/-- a 2-colouring of the numbers without monochromatic Pythagorean triple in `1..N` -/
def TripleFree (N : Nat) (col : Nat → Bool) : Prop :=
  ∀ x y z, IsTriple N x y z → ¬ (col x = col y ∧ col y = col z)

theorem ptn_accepts (N : Nat) : Ramsey.ptn (N : Int) = .ok ⟨N, Ramsey.ptnCons N⟩ := ptn_eq N

theorem ptn_rejects (N : Int) (h : N < 0) : Ramsey.ptn N = .error .valueError := ptn_neg N h

/-- documented variable count (one variable per number: variable `i` *is* the colour of `i`) and
well-formedness -/
theorem ptn_nvars_wf (N : Nat) (F : Formula) (h : Ramsey.ptn (N : Int) = .ok F) : F.nvars = N ∧ F.WF := by
  rw [ptn_eq] at h; cases h; exact ⟨rfl, ptn_wf N⟩

/-- exactly the documented axioms: the two clauses of every triple, nothing else -/
theorem ptn_exact_axioms (N : Nat) (F : Formula) (h : Ramsey.ptn (N : Int) = .ok F) (con : Con) :
    con ∈ F.cons ↔ ∃ x y z : Nat, IsTriple N x y z ∧
      (con = Con.clause [(x : Int), (y : Int), (z : Int)] ∨
       con = Con.clause [-(x : Int), -(y : Int), -(z : Int)]) := by
  rw [ptn_eq] at h; cases h
  exact mem_ptnCons N con

/-- satisfying assignments = triple-free colourings (the assignment of `1..N` is the colouring) -/
theorem ptn_holds_iff (N : Nat) (F : Formula) (h : Ramsey.ptn (N : Int) = .ok F) (α : Assign) :
    F.holds α = true ↔ TripleFree N α := by
  rw [ptn_eq] at h; cases h
  rw [(ptn_colouring N).holds_iff]
  have key : ∀ x y z, ((∃ i ∈ [x, y, z], α i = true) ∧ ∃ i ∈ [x, y, z], α i = false) ↔
      ¬ (α x = α y ∧ α y = α z) := by
    intro x y z
    simp only [List.mem_cons, List.not_mem_nil, or_false, exists_eq_or_imp, exists_eq_left]
    cases α x <;> cases α y <;> cases α z <;> simp
  constructor
  · rintro ⟨h1, h2⟩ x y z ht
    exact (key x y z).1 ⟨h1 (x, y, z) ht, h2 (x, y, z) ht⟩
  · intro h
    exact ⟨fun t ht => ((key _ _ _).2 (h _ _ _ ht)).1, fun t ht => ((key _ _ _).2 (h _ _ _ ht)).2⟩

theorem ptn_rendered (N : Nat) (F : Formula) (h : Ramsey.ptn (N : Int) = .ok F) (α : Assign) :
    (F.toCNF.holds α = true ↔ TripleFree N α) ∧ (F.toOPB.holds α = true ↔ TripleFree N α) := by
  have hwf := (ptn_nvars_wf N F h).2
  rw [Formula.toCNF_holds α F hwf, Formula.toOPB_holds α F hwf]
  exact ⟨ptn_holds_iff N F h α, ptn_holds_iff N F h α⟩

/-- non-vacuity: `(3,4,5)` is a triple for `N = 5`, and a colouring separating 3 from 4 satisfies the
model formula -/
example : IsTriple 5 3 4 5 := ⟨by decide, by decide, by decide, by decide, by decide⟩
example : ∃ F, Ramsey.ptn ((5 : Nat) : Int) = .ok F := ⟨_, ptn_accepts 5⟩
example : TripleFree 5 (fun i => decide (i = 3)) ∧ ¬ TripleFree 5 (fun _ => true) := by
  constructor
  · exact (ptn_holds_iff 5 _ (ptn_eq 5) _).1 (by decide +kernel)
  · intro h
    exact h 3 4 5 ⟨by decide, by decide, by decide, by decide, by decide⟩ ⟨rfl, rfl⟩

/-! ## Ramsey number (`RamseyNumber(s, k, N)`): `s` = independent-set size, `k` = clique size -/

/-- a set of vertices of `1..N`, as a strictly increasing list -/
def VertexSet (N : Nat) (S : List Nat) : Prop := S.Pairwise (· < ·) ∧ ∀ x ∈ S, 1 ≤ x ∧ x ≤ N

/-- adjacency in the graph encoded by `α`: the variable of the pair `{u,v}` (`u < v`) is true -/
def Adj (N : Nat) (α : Assign) (u v : Nat) : Prop := α (Ramsey.eId N (min u v) (max u v)) = true

/-- no independent set of size `s`: every `s`-set of vertices contains an edge -/
def NoIndepSet (N s : Nat) (α : Assign) : Prop :=
  ∀ S, VertexSet N S → S.length = s → ∃ u ∈ S, ∃ v ∈ S, u < v ∧ Adj N α u v
/-- no clique of size `k`: every `k`-set of vertices contains a non-edge -/
def NoClique (N k : Nat) (α : Assign) : Prop :=
  ∀ S, VertexSet N S → S.length = k → ∃ u ∈ S, ∃ v ∈ S, u < v ∧ ¬ Adj N α u v

theorem pairLits_adj {N : Nat} {S : List Nat} (hS : S.Pairwise (· < ·)) (α : Assign) :
    ((∃ e ∈ Ramsey.pairLits N S, α e = true) ↔ ∃ u ∈ S, ∃ v ∈ S, u < v ∧ Adj N α u v) ∧
    ((∃ e ∈ Ramsey.pairLits N S, α e = false) ↔ ∃ u ∈ S, ∃ v ∈ S, u < v ∧ ¬ Adj N α u v) := by
  have key : ∀ b : Bool, (∃ e ∈ Ramsey.pairLits N S, α e = b) ↔
      ∃ u ∈ S, ∃ v ∈ S, u < v ∧ α (Ramsey.eId N (min u v) (max u v)) = b := by
    intro b
    constructor
    · rintro ⟨e, he, hα⟩
      obtain ⟨u, v, hu, hv, huv, rfl⟩ := (mem_pairLits hS e).1 he
      exact ⟨u, hu, v, hv, huv, by rwa [Nat.min_eq_left (by omega), Nat.max_eq_right (by omega)]⟩
    · rintro ⟨u, hu, v, hv, huv, hα⟩
      rw [Nat.min_eq_left (by omega), Nat.max_eq_right (by omega)] at hα
      exact ⟨_, (mem_pairLits hS _).2 ⟨u, v, hu, hv, huv, rfl⟩, hα⟩
  refine ⟨key true, (key false).trans ?_⟩
  simp only [Adj, Bool.not_eq_true]

theorem ramsey_accepts (s k N : Nat) (hs : 1 ≤ s) (hk : 1 ≤ k) :
    Ramsey.ramseyNumber (s : Int) (k : Int) (N : Int) =
      .ok ⟨(Vars.combosSeqs N 2).length, Ramsey.ramseyCons s k N⟩ := ramsey_eq s k N hs hk

theorem ramsey_rejects (s k N : Int) (h : N < 0 ∨ s < 1 ∨ k < 1) :
    Ramsey.ramseyNumber s k N = .error .valueError := ramsey_err s k N h

/-- documented variable count `N(N-1)/2` (one per pair) and well-formedness -/
theorem ramsey_nvars_wf (s k N : Nat) (hs : 1 ≤ s) (hk : 1 ≤ k) (F : Formula)
    (h : Ramsey.ramseyNumber (s : Int) (k : Int) (N : Int) = .ok F) :
    F.nvars = N * (N - 1) / 2 ∧ F.WF := by
  rw [ramsey_eq s k N hs hk] at h; cases h
  refine ⟨?_, ramsey_wf s k N⟩
  have := two_mul_length_pairs N
  show (Vars.combosSeqs N 2).length = _
  omega

theorem ramsey_holds_iff (s k N : Nat) (hs : 1 ≤ s) (hk : 1 ≤ k) (F : Formula)
    (h : Ramsey.ramseyNumber (s : Int) (k : Int) (N : Int) = .ok F) (α : Assign) :
    F.holds α = true ↔ NoIndepSet N s α ∧ NoClique N k α := by
  rw [ramsey_eq s k N hs hk] at h; cases h
  rw [(ramsey_colouring s k N).holds_iff]
  refine and_congr (forall_congr' fun S => ?_) (forall_congr' fun S => ?_) <;>
    rw [mem_vertexSets, and_imp] <;>
    refine imp_congr_right fun hS => imp_congr_right fun _ => ?_
  · exact (pairLits_adj hS.1 α).1
  · exact (pairLits_adj hS.1 α).2

theorem ramsey_rendered (s k N : Nat) (hs : 1 ≤ s) (hk : 1 ≤ k) (F : Formula)
    (h : Ramsey.ramseyNumber (s : Int) (k : Int) (N : Int) = .ok F) (α : Assign) :
    (F.toCNF.holds α = true ↔ NoIndepSet N s α ∧ NoClique N k α) ∧
    (F.toOPB.holds α = true ↔ NoIndepSet N s α ∧ NoClique N k α) := by
  have hwf := (ramsey_nvars_wf s k N hs hk F h).2
  rw [Formula.toCNF_holds α F hwf, Formula.toOPB_holds α F hwf]
  exact ⟨ramsey_holds_iff s k N hs hk F h α, ramsey_holds_iff s k N hs hk F h α⟩

/-- the same with vertex sets as finite sets: the formula holds iff every `s`-element set of vertices of
`1..N` spans an edge and every `k`-element set spans a non-edge of the graph `{uv | α e_uv}` -/
theorem ramsey_holds_iff_finset (s k N : Nat) (hs : 1 ≤ s) (hk : 1 ≤ k) (F : Formula)
    (h : Ramsey.ramseyNumber (s : Int) (k : Int) (N : Int) = .ok F) (α : Assign) :
    F.holds α = true ↔
      (∀ S : Finset Nat, (∀ x ∈ S, 1 ≤ x ∧ x ≤ N) → S.card = s → ∃ u ∈ S, ∃ v ∈ S, u ≠ v ∧ Adj N α u v) ∧
      (∀ S : Finset Nat, (∀ x ∈ S, 1 ≤ x ∧ x ≤ N) → S.card = k → ∃ u ∈ S, ∃ v ∈ S, u ≠ v ∧ ¬ Adj N α u v) := by
  rw [ramsey_holds_iff s k N hs hk F h α]
  have hsym : ∀ u v, Adj N α u v → Adj N α v u := by
    intro u v; simp only [Adj, Nat.min_comm, Nat.max_comm]; exact id
  have hsym' : ∀ u v, ¬ Adj N α u v → ¬ Adj N α v u := fun u v hn hvu => hn (hsym v u hvu)
  exact and_congr (sorted_lists_iff_finsets N s (Adj N α) hsym)
    (sorted_lists_iff_finsets N k (fun u v => ¬ Adj N α u v) hsym')

/-- one assignment per graph, part 1: every graph on `1..N` is encoded by some assignment -/
theorem ramsey_graph_has_assignment (N : Nat) (E : Nat → Nat → Bool) :
    ∃ α : Assign, ∀ u v, 1 ≤ u → u < v → v ≤ N → α (Ramsey.eId N u v) = E u v := by
  obtain ⟨α, hα⟩ := exists_assign_of_inj (fun u v => 1 ≤ u ∧ u < v ∧ v ≤ N) (Ramsey.eId N) (fun u v => E u v = true)
    fun _ _ _ _ h _ e => eId_inj h e
  exact ⟨α, fun u v h1 h2 h3 => Bool.eq_iff_iff.2 (hα u v ⟨h1, h2, h3⟩)⟩

/-- part 2: two assignments encoding the same graph agree on all `N(N-1)/2` variables;
and (`ramsey_var_of_pair`) the variable of a pair is one of them -/
theorem ramsey_assignment_unique (N : Nat) (α β : Assign)
    (h : ∀ u v, 1 ≤ u → u < v → v ≤ N → α (Ramsey.eId N u v) = β (Ramsey.eId N u v)) :
    ∀ x, 1 ≤ x → x ≤ N * (N - 1) / 2 → α x = β x := by
  intro x h1 h2
  have hl := two_mul_length_pairs N
  obtain ⟨u, v, huv, rfl⟩ := eId_surj (N := N) (i := x) h1 (by omega)
  exact h u v huv.1 huv.2.1 huv.2.2

theorem ramsey_var_of_pair (N u v : Nat) (h : 1 ≤ u ∧ u < v ∧ v ≤ N) :
    1 ≤ Ramsey.eId N u v ∧ Ramsey.eId N u v ≤ N * (N - 1) / 2 := by
  have := eId_range h
  have hl := two_mul_length_pairs N
  omega

/-- non-vacuity (`r(3,3) > 5`): the 5-cycle has neither a triangle nor an independent triple.
Its satisfiability is checked on the executable model. -/
example : ∃ F, Ramsey.ramseyNumber 3 3 5 = .ok F ∧
    F.holds (fun x => [1, 4, 5, 8, 10].contains x) = true := ⟨_, rfl, by decide +kernel⟩

/-! ## arithmetic progressions (`_vdw_ap_generator(N, k)`) -/

/-- `ap` is the progression `i, i+d, …, i+(k-1)d` inside `1..N` with gap `d ≥ 1`
(for `k = 1` this is a single number; the gap is immaterial) -/
def IsAP (N k : Nat) (ap : List Nat) : Prop :=
  ∃ i d, 1 ≤ i ∧ 1 ≤ d ∧ i + (k - 1) * d ≤ N ∧ ap = (List.range k).map (fun t => i + d * t)

theorem apGenerator_spec (N k : Nat) (hk : 1 ≤ k) (ap : List Nat) :
    ap ∈ Ramsey.apGenerator N k ↔ IsAP N k ap := mem_apGenerator hk ap

theorem apGenerator_no_repeat (N k : Nat) (hk : 1 ≤ k) : (Ramsey.apGenerator N k).Nodup :=
  apGenerator_nodup hk

/-- length 1: exactly the singletons `[1], …, [N]` -/
theorem apGenerator_one (N : Nat) (ap : List Nat) :
    ap ∈ Ramsey.apGenerator N 1 ↔ ∃ i, 1 ≤ i ∧ i ≤ N ∧ ap = [i] := by
  rw [mem_apGenerator (le_refl 1)]
  constructor
  · rintro ⟨i, d, h1, _, h3, rfl⟩; exact ⟨i, h1, by omega, by simp⟩
  · rintro ⟨i, h1, h2, rfl⟩; exact ⟨i, 1, h1, le_refl _, by omega, by simp⟩

example : IsAP 9 3 [1, 5, 9] := ⟨1, 4, by decide, by decide, by decide, by decide⟩

/-! ## van der Waerden, two colours (`VanDerWaerden(N, k1, k2)`) -/

/-- the colouring `col` has no progression of length `k` inside `1..N` that is entirely of colour `b` -/
def NoMonoAP2 (N k : Nat) (b : Bool) (col : Nat → Bool) : Prop :=
  ∀ ap, IsAP N k ap → ∃ i ∈ ap, col i ≠ b

theorem vdw2_accepts (N k1 k2 : Nat) (h1 : 1 ≤ k1) (h2 : 1 ≤ k2) :
    Ramsey.vdw (N : Int) (k1 : Int) (k2 : Int) [] = .ok ⟨N, Ramsey.vdw2Cons N k1 k2⟩ :=
  vdw2_eq N k1 k2 h1 h2

theorem vdw_rejects (N k1 k2 : Int) (ks : List Int) (h : N < 0 ∨ k1 < 1 ∨ k2 < 1 ∨ ∃ x ∈ ks, x < 1) :
    Ramsey.vdw N k1 k2 ks = .error .valueError := vdw_err N k1 k2 ks h

theorem vdw2_nvars_wf (N k1 k2 : Nat) (h1 : 1 ≤ k1) (h2 : 1 ≤ k2) (F : Formula)
    (h : Ramsey.vdw (N : Int) (k1 : Int) (k2 : Int) [] = .ok F) : F.nvars = N ∧ F.WF := by
  rw [vdw2_eq N k1 k2 h1 h2] at h; cases h; exact ⟨rfl, vdw2_wf N k1 k2 h1 h2⟩

/-- variable `i` is the colour of the number `i` (`false` = first colour, `true` = second colour):
satisfying assignments = colourings without a `k1`-progression of the first colour and without a
`k2`-progression of the second colour; includes progression length 1 -/
theorem vdw2_holds_iff (N k1 k2 : Nat) (h1 : 1 ≤ k1) (h2 : 1 ≤ k2) (F : Formula)
    (h : Ramsey.vdw (N : Int) (k1 : Int) (k2 : Int) [] = .ok F) (α : Assign) :
    F.holds α = true ↔ NoMonoAP2 N k1 false α ∧ NoMonoAP2 N k2 true α := by
  rw [vdw2_eq N k1 k2 h1 h2] at h; cases h
  rw [(vdw2_colouring N k1 k2 h1 h2).holds_iff]
  have key : ∀ k, 1 ≤ k → ∀ b : Bool, (∀ ap ∈ Ramsey.apGenerator N k, ∃ i ∈ ap, α i = !b) ↔ NoMonoAP2 N k b α := by
    intro k hk b
    refine forall_congr' fun ap => ?_
    rw [mem_apGenerator hk]
    refine imp_congr_right fun _ => exists_congr fun i => and_congr_right fun _ => ?_
    cases b <;> simp
  exact and_congr (key k1 h1 false) (key k2 h2 true)

theorem vdw2_rendered (N k1 k2 : Nat) (h1 : 1 ≤ k1) (h2 : 1 ≤ k2) (F : Formula)
    (h : Ramsey.vdw (N : Int) (k1 : Int) (k2 : Int) [] = .ok F) (α : Assign) :
    (F.toCNF.holds α = true ↔ NoMonoAP2 N k1 false α ∧ NoMonoAP2 N k2 true α) ∧
    (F.toOPB.holds α = true ↔ NoMonoAP2 N k1 false α ∧ NoMonoAP2 N k2 true α) := by
  have hwf := (vdw2_nvars_wf N k1 k2 h1 h2 F h).2
  rw [Formula.toCNF_holds α F hwf, Formula.toOPB_holds α F hwf]
  exact ⟨vdw2_holds_iff N k1 k2 h1 h2 F h α, vdw2_holds_iff N k1 k2 h1 h2 F h α⟩

/-- non-vacuity: `vdw(3,3) > 8` — the colouring RRBBRRBB satisfies the model formula -/
example : ∃ F, Ramsey.vdw 8 3 3 [] = .ok F ∧ F.holds (fun x => [3, 4, 7, 8].contains x) = true :=
  ⟨_, rfl, by decide +kernel⟩
/-- … and length 1 is meaningful: with `k1 = 1` no number may have the first colour -/
example : ∃ F, Ramsey.vdw 3 1 4 [] = .ok F ∧ F.holds (fun _ => true) = true ∧ F.holds (fun x => decide (x ≠ 2)) = false :=
  ⟨_, rfl, by decide +kernel, by decide +kernel⟩

/-! ## van der Waerden, `C ≥ 3` colours (`VanDerWaerden(N, k1, k2, *ks)`) -/

/-- `χ` colours `1..N` with the colours `1..C` -/
def Colouring (N C : Nat) (χ : Nat → Nat) : Prop := ∀ i, 1 ≤ i ∧ i ≤ N → 1 ≤ χ i ∧ χ i ≤ C

/-- the assignment `α` encodes the colouring `χ`: `x_{i,c}` is true iff `i` has colour `c` -/
def Encodes (N C : Nat) (α : Assign) (χ : Nat → Nat) : Prop :=
  ∀ i c, 1 ≤ i ∧ i ≤ N → 1 ≤ c ∧ c ≤ C → (α (Ramsey.xId N C i c) = true ↔ χ i = c)

/-- for every colour `c` no progression of length `K[c-1]` inside `1..N` is entirely of colour `c` -/
def NoMonoAP (N : Nat) (K : List Nat) (χ : Nat → Nat) : Prop :=
  ∀ c, 1 ≤ c ∧ c ≤ K.length → ∀ ap, IsAP N (K.getD (c - 1) 0) ap → ∃ i ∈ ap, χ i ≠ c

theorem vdwMulti_accepts (N k1 k2 : Nat) (ks : List Nat) (hne : ks ≠ []) (h1 : 1 ≤ k1) (h2 : 1 ≤ k2)
    (hks : ∀ x ∈ ks, 1 ≤ x) :
    Ramsey.vdw (N : Int) (k1 : Int) (k2 : Int) (ks.map (fun (x : Nat) => (x : Int))) =
      .ok ⟨N * (ks.length + 2), Ramsey.vdwMultiCons N (k1 :: k2 :: ks)⟩ :=
  vdwMulti_eq N k1 k2 ks hne h1 h2 hks

theorem vdwMulti_nvars_wf (N k1 k2 : Nat) (ks : List Nat) (hne : ks ≠ []) (h1 : 1 ≤ k1) (h2 : 1 ≤ k2)
    (hks : ∀ x ∈ ks, 1 ≤ x) (F : Formula)
    (h : Ramsey.vdw (N : Int) (k1 : Int) (k2 : Int) (ks.map (fun (x : Nat) => (x : Int))) = .ok F) :
    F.nvars = N * (ks.length + 2) ∧ F.WF := by
  rw [vdwMulti_eq N k1 k2 ks hne h1 h2 hks] at h; cases h
  refine ⟨rfl, ?_⟩
  have := vdwMulti_wf N (k1 :: k2 :: ks) (List.forall_mem_cons.2 ⟨h1, List.forall_mem_cons.2 ⟨h2, hks⟩⟩)
  simpa using this

/-- satisfying assignments are exactly the encodings of colourings of `1..N` with `C = |K|` colours
that avoid, for every colour `c`, the progressions of length `K[c-1]` -/
theorem vdwMulti_holds_iff (N k1 k2 : Nat) (ks : List Nat) (hne : ks ≠ []) (h1 : 1 ≤ k1) (h2 : 1 ≤ k2)
    (hks : ∀ x ∈ ks, 1 ≤ x) (F : Formula)
    (h : Ramsey.vdw (N : Int) (k1 : Int) (k2 : Int) (ks.map (fun (x : Nat) => (x : Int))) = .ok F)
    (α : Assign) :
    F.holds α = true ↔ ∃ χ, Colouring N (ks.length + 2) χ ∧ Encodes N (ks.length + 2) α χ ∧
      NoMonoAP N (k1 :: k2 :: ks) χ := by
  rw [vdwMulti_eq N k1 k2 ks hne h1 h2 hks] at h; cases h
  have hK : ∀ x ∈ k1 :: k2 :: ks, 1 ≤ x := List.forall_mem_cons.2 ⟨h1, List.forall_mem_cons.2 ⟨h2, hks⟩⟩
  have hlen : (k1 :: k2 :: ks).length = ks.length + 2 := by simp
  have key := FamRamsey.vdwMulti_holds_iff N (k1 :: k2 :: ks) α
  rw [hlen] at key
  rw [key]
  simp only [Colouring, Encodes, NoMonoAP, hlen]
  have hap : ∀ c, 1 ≤ c ∧ c ≤ ks.length + 2 → ∀ ap, IsAP N ((k1 :: k2 :: ks).getD (c - 1) 0) ap ↔
      ap ∈ Ramsey.apGenerator N ((k1 :: k2 :: ks).getD (c - 1) 0) := fun c hc ap =>
    (mem_apGenerator (hK _ (getD_mem (by omega))) ap).symm
  have hin : ∀ c, 1 ≤ c ∧ c ≤ ks.length + 2 → ∀ ap ∈ Ramsey.apGenerator N ((k1 :: k2 :: ks).getD (c - 1) 0),
      ∀ i ∈ ap, 1 ≤ i ∧ i ≤ N := fun c hc => apGenerator_range (hK _ (getD_mem (by omega)))
  constructor
  · rintro ⟨ha, hb⟩
    choose! χ hχ using ha
    refine ⟨χ, fun i hi => (hχ i hi).1.1, fun i c hi hc =>
      ⟨fun hα => ((hχ i hi).2 c hc hα).symm, fun h => h ▸ (hχ i hi).1.2⟩, fun c hc ap h => ?_⟩
    obtain ⟨i, hi, hα⟩ := hb c hc ap ((hap c hc ap).1 h)
    refine ⟨i, hi, fun hcol => ?_⟩
    rw [← hcol, (hχ i (hin c hc ap ((hap c hc ap).1 h) i hi)).1.2] at hα
    exact Bool.noConfusion hα
  · rintro ⟨χ, hcol, henc, hfree⟩
    refine ⟨fun i hi => ⟨χ i, ⟨hcol i hi, (henc i (χ i) hi (hcol i hi)).2 rfl⟩,
      fun c' hc' hα => ((henc i c' hi hc').1 hα).symm⟩, fun c hc ap h => ?_⟩
    obtain ⟨i, hi, hne'⟩ := hfree c hc ap ((hap c hc ap).2 h)
    refine ⟨i, hi, ?_⟩
    rw [← Bool.not_eq_true]
    exact fun hα => hne' ((henc i c (hin c hc ap h i hi) hc).1 hα)

theorem vdwMulti_rendered (N k1 k2 : Nat) (ks : List Nat) (hne : ks ≠ []) (h1 : 1 ≤ k1) (h2 : 1 ≤ k2)
    (hks : ∀ x ∈ ks, 1 ≤ x) (F : Formula)
    (h : Ramsey.vdw (N : Int) (k1 : Int) (k2 : Int) (ks.map (fun (x : Nat) => (x : Int))) = .ok F)
    (α : Assign) :
    F.toCNF.holds α = F.holds α ∧ F.toOPB.holds α = F.holds α := by
  have hwf := (vdwMulti_nvars_wf N k1 k2 ks hne h1 h2 hks F h).2
  exact hwf.rendered α

/-- one assignment per colouring, part 1: every colouring has an encoding -/
theorem colouring_has_assignment (N C : Nat) (χ : Nat → Nat) : ∃ α, Encodes N C α χ := by
  obtain ⟨α, hα⟩ := exists_assign_of_inj (fun i c => (1 ≤ i ∧ i ≤ N) ∧ (1 ≤ c ∧ c ≤ C)) (Ramsey.xId N C) (fun i c => χ i = c)
    fun _ _ _ _ h h' e => xId_inj h.2 h'.2 h.1 h'.1 e
  exact ⟨α, fun i c hi hc => hα i c ⟨hi, hc⟩⟩

/-- part 2: two encodings of the same colouring agree on all `N·C` variables -/
theorem encoding_unique (N C : Nat) (α β : Assign) (χ : Nat → Nat)
    (ha : Encodes N C α χ) (hb : Encodes N C β χ) : ∀ x, 1 ≤ x → x ≤ N * C → α x = β x := by
  intro x h1 h2
  obtain ⟨i, c, hi, hc, rfl⟩ := xId_surj h1 h2
  rw [Bool.eq_iff_iff, ha i c hi hc, hb i c hi hc]

/-- part 3: an assignment encodes at most one colouring of `1..N` -/
theorem colouring_unique (N C : Nat) (α : Assign) (χ χ' : Nat → Nat) (hc : Colouring N C χ)
    (ha : Encodes N C α χ) (hb : Encodes N C α χ') : ∀ i, 1 ≤ i ∧ i ≤ N → χ i = χ' i := by
  intro i hi
  have := (ha i (χ i) hi (hc i hi)).2 rfl
  exact ((hb i (χ i) hi (hc i hi)).1 this).symm

/-- non-vacuity: `vdw(2,2,2) > 3`; three colours, every number its own colour -/
example : ∃ F, Ramsey.vdw 3 2 2 [2] = .ok F ∧ F.holds (fun x => [1, 5, 9].contains x) = true :=
  ⟨_, rfl, by decide +kernel⟩

/-! ## Thapen's CPLS formula (`CPLSFormula(a, b, c)`) -/

/-- the generator accepts `a ≥ 1` levels with `b`, `c` powers of two … -/
theorem cpls_accepts (a p q : Nat) (ha : 1 ≤ a) :
    ∃ F, Cpls.cpls (a : Int) ((2 ^ p : Nat) : Int) ((2 ^ q : Nat) : Int) = .ok F :=
  ⟨_, FamCpls.cpls_ok a p q ha⟩

/-- … and nothing else -/
theorem cpls_accepts_only (a b c : Int) (F : Formula) (h : Cpls.cpls a b c = .ok F) :
    ∃ a' p q : Nat, 1 ≤ a' ∧ a = (a' : Int) ∧ b = ((2 ^ p : Nat) : Int) ∧ c = ((2 ^ q : Nat) : Int) :=
  FamCpls.cpls_accepts_only a b c F h

/-- every other parameter choice raises `ValueError`; in particular the two `assert`s at the end of
the generator (variable and clause count) never fire -/
theorem cpls_ok_or_valueError (a b c : Int) :
    (∃ F, Cpls.cpls a b c = .ok F) ∨ Cpls.cpls a b c = .error .valueError :=
  FamCpls.cpls_ok_or_valueError a b c

/-- the counts the code asserts, `a·b·c + a·b·log b + b·log c` variables and
`c + (a-1)·b²·c + b·c` clauses, and well-formedness -/
theorem cpls_counts_wf (a p q : Nat) (ha : 1 ≤ a) (F : Formula)
    (h : Cpls.cpls (a : Int) ((2 ^ p : Nat) : Int) ((2 ^ q : Nat) : Int) = .ok F) :
    F.nvars = a * 2 ^ p * 2 ^ q + a * (2 ^ p * p) + 2 ^ p * q ∧
    F.cons.length = 2 ^ q + (a - 1) * 2 ^ p * 2 ^ p * 2 ^ q + 2 ^ p * 2 ^ q ∧ F.WF :=
  ⟨FamCpls.cpls_nvars a p q ha F h, FamCpls.cpls_ncons a p q ha F h, FamCpls.cpls_wf a p q ha F h⟩

/-- exactly the three documented axiom groups (`G i x y` is the variable `G_i(x,y)`; `Vars.forbid s bits x j`
is the clause that is false iff the bits of `f(x)` spell `j`):
1. `¬G_1(1,y)`; 2. `f_i(x) = x' ∧ G_{i+1}(x',y) → G_i(x,y)`; 3. `u(x) = y → G_a(x,y)` -/
theorem cpls_exact_axioms (a p q : Nat) (ha : 1 ≤ a) (F : Formula)
    (h : Cpls.cpls (a : Int) ((2 ^ p : Nat) : Int) ((2 ^ q : Nat) : Int) = .ok F) (con : Con) :
    con ∈ F.cons ↔
      (∃ y, 1 ≤ y ∧ y ≤ 2 ^ q ∧ con = Con.clause [-(Cpls.gId a (2 ^ p) (2 ^ q) 1 1 y : Int)]) ∨
      (∃ i x x' y first, (1 ≤ i ∧ i < a) ∧ (1 ≤ x ∧ x ≤ 2 ^ p) ∧ (1 ≤ x' ∧ x' ≤ 2 ^ p) ∧ (1 ≤ y ∧ y ≤ 2 ^ q) ∧
        Vars.forbid (Cpls.fStart a (2 ^ p) (2 ^ q) i) p x (x' - 1) = .ok first ∧
        con = Con.clause (first ++ [-(Cpls.gId a (2 ^ p) (2 ^ q) (i + 1) x' y : Int),
            (Cpls.gId a (2 ^ p) (2 ^ q) i x y : Int)])) ∨
      (∃ x y first, (1 ≤ x ∧ x ≤ 2 ^ p) ∧ (1 ≤ y ∧ y ≤ 2 ^ q) ∧
        Vars.forbid (Cpls.uStart a (2 ^ p) (2 ^ q)) q x (y - 1) = .ok first ∧
        con = Con.clause (first ++ [(Cpls.gId a (2 ^ p) (2 ^ q) a x y : Int)])) := by
  rw [FamCpls.cpls_mem_iff a p q ha F h]
  have hpow : ∀ (n r : Nat), 1 ≤ r ∧ r ≤ 2 ^ n → r - 1 < 2 ^ n := fun n r hr => by omega
  constructor
  · rintro (h1 | ⟨i, x, x', y, hi, hx, hx', hy, rfl⟩ | ⟨x, y, hx, hy, rfl⟩)
    · exact Or.inl h1
    · exact Or.inr (Or.inl ⟨i, x, x', y, _, hi, hx, hx', hy, Vars.forbid_ok (hpow p x' hx'), rfl⟩)
    · exact Or.inr (Or.inr ⟨x, y, _, hx, hy, Vars.forbid_ok (hpow q y hy), rfl⟩)
  · rintro (h1 | ⟨i, x, x', y, first, hi, hx, hx', hy, hf, rfl⟩ | ⟨x, y, first, hx, hy, hf, rfl⟩)
    · exact Or.inl h1
    · rw [Vars.forbid_ok (hpow p x' hx')] at hf; cases hf
      exact Or.inr (Or.inl ⟨i, x, x', y, hi, hx, hx', hy, rfl⟩)
    · rw [Vars.forbid_ok (hpow q y hy)] at hf; cases hf
      exact Or.inr (Or.inr ⟨x, y, hx, hy, rfl⟩)

/-- CPLS is a contradiction for every accepted parameter choice: follow `x₁ = 1`, `x_{i+1} = f_i(x_i)`,
take the colour `u(x_a)` and descend with Axiom 2 to `G_1(1, y)`, which Axiom 1 forbids -/
theorem cpls_unsat (a b c : Int) (F : Formula) (h : Cpls.cpls a b c = .ok F) (α : Assign) :
    F.holds α = false ∧ F.toCNF.holds α = false ∧ F.toOPB.holds α = false := by
  obtain ⟨a', p, q, ha, rfl, rfl, rfl⟩ := FamCpls.cpls_accepts_only a b c F h
  have hwf := FamCpls.cpls_wf a' p q ha F h
  rw [Formula.toCNF_holds α F hwf, Formula.toOPB_holds α F hwf]
  have := FamCpls.cpls_unsat a' p q ha F h α
  exact ⟨this, this, this⟩

/-- non-vacuity: three levels, four nodes, two colours: 52 variables, 74 clauses (as in /repo) -/
example : ∃ F, Cpls.cpls 3 4 2 = .ok F ∧ F.nvars = 52 ∧ F.cons.length = 74 := by
  obtain ⟨F, hF⟩ := cpls_accepts 3 2 1 (by omega)
  have := cpls_counts_wf 3 2 1 (by omega) F hF
  exact ⟨F, hF, by simpa using this.1, by simpa using this.2.1⟩

/-! ## Pitfall formula (`PitfallFormula(v, d, ny, nz, k)`)

The random `d`-regular graph drawn by networkx is the input `g` of the model; the theorems hold for
EVERY graph object `g` (regular or not) with at least one vertex. -/

/-- what every `cnfgen.graphs.Graph` object satisfies: the adjacency lists of the vertices `1..n` are
strictly increasing, stay inside `1..n`, have no loops and are symmetric -/
def GraphOK (g : SimpleG) : Prop :=
  ∀ v, 1 ≤ v → v ≤ g.n →
    (g.nbrs v).Pairwise (· < ·) ∧ ∀ u ∈ g.nbrs v, 1 ≤ u ∧ u ≤ g.n ∧ u ≠ v ∧ v ∈ g.nbrs u

/-- … in particular every graph built by `Graph(n)` + `add_edge` (what `Graph.normalize` does with the
networkx graph, and what the driver does with the graph the harness observed) -/
theorem graph_ok_of_edges (n : Nat) (es : List (Nat × Nat)) (g : SimpleG)
    (h : SimpleG.ofEdges n es = .ok g) : GraphOK g ∧ g.n = n :=
  FamPitfall.ofEdges_ok n es g h

/-- the generator's own parameter check accepts exactly these parameters … -/
theorem pitfall_check_iff (v d ny nz k : Int) :
    Pitfall.check v d ny nz k = .ok () ↔
      1 ≤ v ∧ 1 ≤ d ∧ 1 ≤ ny ∧ 2 ≤ nz ∧ 1 ≤ k ∧ k % 2 = 0 ∧ d < v ∧ v * d % 2 ≠ 1 :=
  FamPitfall.check_iff v d ny nz k

/-- … and answers everything else (odd `k`, `nz < 2`, `d ≥ v`, odd `v·d`, non-positive values) with
`ValueError` -/
theorem pitfall_check_ok_or_valueError (v d ny nz k : Int) :
    Pitfall.check v d ny nz k = .ok () ∨ Pitfall.check v d ny nz k = .error .valueError :=
  FamPitfall.check_ok_or_valueError v d ny nz k

/-- accepted parameters admit a `d`-regular graph on `v` vertices (`d < v`, `v·d` even), i.e. satisfy the
precondition of the third-party generator: no networkx exception can escape (D41, fixed) -/
theorem pitfall_accepted_is_drawable (v d ny nz k : Int) (h : Pitfall.check v d ny nz k = .ok ()) :
    d < v ∧ v * d % 2 = 0 ∧ Pitfall.drawable v d = true := by
  obtain ⟨_, h2, _, _, _, _, h7, h8⟩ := (FamPitfall.check_iff v d ny nz k).1 h
  have h0 : v * d % 2 = 0 := by have := Int.emod_two_eq (v * d); omega
  refine ⟨h7, h0, ?_⟩
  simp only [Pitfall.drawable, decide_eq_true_eq]
  exact ⟨by omega, h7, h0⟩

/-- "parameters for which no `d`-regular graph on `v` vertices exists raise `ValueError`" -/
def UndrawableRaisesValueError : Prop :=
  ∀ v d ny nz k : Int, Pitfall.drawable v d = false → Pitfall.check v d ny nz k = .error .valueError

theorem undrawable_raises_valueError : UndrawableRaisesValueError := by
  intro v d ny nz k h
  rcases FamPitfall.check_ok_or_valueError v d ny nz k with hc | hc
  · have := (pitfall_accepted_is_drawable v d ny nz k hc).2.2
    rw [this] at h; exact Bool.noConfusion h
  · exact hc

example : Pitfall.check 2 2 2 2 2 = .error .valueError ∧ Pitfall.check 4 3 2 2 2 = .ok () := by decide +kernel

/-- the template `TseitinFormula(g, [True])` (odd total charge) is unsatisfiable — double counting -/
theorem tseitin_template_unsat (g : SimpleG) (hg : GraphOK g) (hn : 1 ≤ g.n) (β : Assign) :
    (PitfallTseitin.template g).holds β = false :=
  FamPitfall.template_unsat g hg hn β

/-- each hard clause is a template clause renamed into block `j`, followed by `z_{j,1} … z_{j,nz}` … -/
theorem pitfall_hard_part_is_copy (s : Pitfall.Shape) (T : List Clause) (j : Nat) (con : Con) :
    con ∈ Pitfall.hardCopy s T j ↔
      ∃ cl ∈ T, con = Con.clause (cl.map (Pitfall.shiftLit ((s.xStart j : Int) - 1)) ++ s.zs j) :=
  FamPitfall.pitfall_hard_part_is_copy s T j con

/-- … where "renamed" means: the literal over template variable `a` becomes the literal of the same sign
over variable `a + (j-1)·m` (the `j`-th copy of the edge variables); this is the statement that the
defect D29 falsified -/
theorem pitfall_shift_is_renaming (s : Pitfall.Shape) (j : Nat) (α : Assign) (cl : Clause) :
    clauseHolds α (cl.map (Pitfall.shiftLit ((s.xStart j : Int) - 1))) =
      clauseHolds (fun a => α (a + (j - 1) * s.m)) cl := by
  rw [FamPitfall.xStart_off]; exact FamPitfall.shift_holds α _ cl

theorem pitfall_shift_stays_in_block (s : Pitfall.Shape) (j : Nat) (cl : Clause)
    (h : ∀ l ∈ cl, l ≠ 0 ∧ l.natAbs ≤ s.m) :
    ∀ l ∈ cl.map (Pitfall.shiftLit ((s.xStart j : Int) - 1)),
      l ≠ 0 ∧ s.xStart j ≤ l.natAbs ∧ l.natAbs ≤ s.xStart j + s.m - 1 :=
  FamPitfall.shift_vars_in_block s j cl h

/-- the formula consists of exactly the five documented groups, for the copies `j = 1..k`:
hard copies, pitfall gadgets, pipe gadgets, tail gadgets, and Γ -/
theorem pitfall_axiom_groups (ny nz k : Nat) (g : SimpleG) (con : Con) :
    con ∈ (Pitfall.build ny nz k g).cons ↔
      let s : Pitfall.Shape := ⟨g.edges.length, ny, nz, k⟩
      (∃ j, (1 ≤ j ∧ j ≤ k) ∧ con ∈ Pitfall.hardCopy s (PitfallTseitin.template g).clauses j) ∨
      (∃ j, (1 ≤ j ∧ j ≤ k) ∧ con ∈ Pitfall.pitfallGadget s j) ∨
      (∃ j, (1 ≤ j ∧ j ≤ k) ∧ con ∈ Pitfall.pipeGadget s j) ∨
      (∃ j, (1 ≤ j ∧ j ≤ k) ∧ con ∈ Pitfall.tailGadget s j) ∨
      con ∈ Pitfall.gamma s :=
  FamPitfall.mem_build ny nz k g con

/-- pitfall gadget of copy `j`: `y_{j,i1} ∨ y_{j,i2} ∨ ¬p_{j,t}` for `i1 < i2`, every `t` -/
theorem pitfall_gadget_axioms (s : Pitfall.Shape) (j : Nat) (con : Con) :
    con ∈ Pitfall.pitfallGadget s j ↔
      ∃ i1 i2 t, (1 ≤ i1 ∧ i1 < i2 ∧ i2 ≤ s.ny) ∧ (1 ≤ t ∧ t ≤ s.m + s.nz) ∧
        con = Con.clause [(s.yId j i1 : Int), (s.yId j i2 : Int), -(s.pId j t : Int)] :=
  FamPitfall.mem_pitfallGadget s j con

/-- pipe gadget of copy `j`, for every `y_{j,i}`: with `S = X_j ++ Z_j`, clause `t` is
`y ∨ (P_j without its element m+nz-1-t) ∨ S_0 ∨ … ∨ S_{t-1} ∨ ¬S_t`; the last clause omits `z_{j,1}` -/
theorem pipe_gadget_axioms (s : Pitfall.Shape) (j : Nat) (con : Con) :
    con ∈ Pitfall.pipeGadget s j ↔
      ∃ i t, (1 ≤ i ∧ i ≤ s.ny) ∧ t < s.m + s.nz ∧
        con = Con.clause ([(s.yId j i : Int)] ++ (s.ps j).eraseIdx (s.m + s.nz - 1 - t) ++
          (if t + 1 = s.m + s.nz then ((s.xs j ++ s.zs j).take t).eraseIdx s.m
            else (s.xs j ++ s.zs j).take t) ++
          [-((s.xs j ++ s.zs j).getD t 0)]) :=
  FamPitfall.mem_pipeGadget s j con

/-- tail gadget of copy `j`: four clauses per pair `y_{j,i}`, `z_{j,r}` -/
theorem tail_gadget_axioms (s : Pitfall.Shape) (j : Nat) (con : Con) :
    con ∈ Pitfall.tailGadget s j ↔
      ∃ i r, (1 ≤ i ∧ i ≤ s.ny) ∧ (1 ≤ r ∧ r ≤ s.nz) ∧
        (con = Con.clause [-(s.aId j 1 : Int), (s.aId j 3 : Int), -(s.zId j r : Int)] ∨
         con = Con.clause [-(s.aId j 2 : Int), -(s.aId j 3 : Int), -(s.zId j r : Int)] ∨
         con = Con.clause [(s.aId j 1 : Int), -(s.zId j r : Int), -(s.yId j i : Int)] ∨
         con = Con.clause [(s.aId j 2 : Int), -(s.zId j r : Int), -(s.yId j i : Int)]) :=
  FamPitfall.mem_tailGadget s j con

/-- Γ: for odd `i < ny` the clause `⋁_{j=1..k} (¬y_{j,i} ∨ ¬y_{j,i+1})` -/
theorem gamma_axioms (s : Pitfall.Shape) (con : Con) :
    con ∈ Pitfall.gamma s ↔
      ∃ i, (1 ≤ i ∧ i % 2 = 1 ∧ i < s.ny) ∧
        con = Con.clause ((rangeN 1 (s.k + 1)).flatMap
          (fun j => [-(s.yId j i : Int), -(s.yId j (i + 1) : Int)])) :=
  FamPitfall.mem_gamma s con

/-- documented variable count (`k` copies of: `m` edge, `ny` easy, `nz` safety, `m + nz` pitfall and 3 tail
variables, `m` = number of edges of `g`) and well-formedness -/
theorem pitfall_nvars_wf (ny nz k : Nat) (g : SimpleG) (hg : GraphOK g) :
    (Pitfall.build ny nz k g).nvars =
      k * g.edges.length + k * ny + k * nz + k * (g.edges.length + nz) + k * 3 ∧
    (Pitfall.build ny nz k g).WF :=
  ⟨FamPitfall.build_nvars ny nz k g, FamPitfall.build_wf ny nz k g hg⟩

/-- Pitfall is a contradiction for every accepted parameter choice with at least two easy variables `y`
(`ny ≥ 2`) and EVERY graph that may have been drawn: the Tseitin copy forces some `z_{1,·}` true, the tail
gadget then forces every `y_{1,·}` false, the pitfall gadget every `p_{1,·}` false, and the pipe gadget
every `z_{1,·}` false.  Also for the clauses of the CNF class and the constraints of the OPB class. -/
theorem pitfall_unsat (v d ny nz k : Int) (g : SimpleG) (hg : GraphOK g) (hn : 1 ≤ g.n)
    (hny : 2 ≤ ny) (F : Formula) (h : Pitfall.pitfall v d ny nz k g = .ok F) (α : Assign) :
    F.holds α = false ∧ F.toCNF.holds α = false ∧ F.toOPB.holds α = false := by
  have hu := FamPitfall.pitfall_unsat v d ny nz k g hg hn hny F h α
  have hwf : F.WF := by
    obtain ⟨-, rfl⟩ := FamPitfall.pitfall_ok h
    exact FamPitfall.build_wf _ _ _ g hg
  rw [Formula.toCNF_holds α F hwf, Formula.toOPB_holds α F hwf]
  exact ⟨hu, hu, hu⟩

/-- the same without hypothesis on the graph, for graphs given by their edge list -/
theorem pitfall_unsat_of_edges (n : Nat) (es : List (Nat × Nat)) (g : SimpleG)
    (hg : SimpleG.ofEdges n es = .ok g) (hn : 1 ≤ n) (v d ny nz k : Int) (hny : 2 ≤ ny) (F : Formula)
    (h : Pitfall.pitfall v d ny nz k g = .ok F) (α : Assign) :
    F.holds α = false ∧ F.toCNF.holds α = false ∧ F.toOPB.holds α = false := by
  obtain ⟨hok, hgn⟩ := FamPitfall.ofEdges_ok n es g hg
  exact pitfall_unsat v d ny nz k g hok (by omega) hny F h α

/-- "at least two easy variables" cannot be dropped: `ny = 1` on the 4-cycle is satisfiable -/
theorem pitfall_one_pitfall_variable_sat :
    ∃ g, SimpleG.ofEdges 4 [(1,2),(2,3),(3,4),(1,4)] = .ok g ∧ GraphOK g ∧
      (Pitfall.build 1 2 2 g).holds (fun n => decide (11 ≤ n ∧ n < 27)) = true :=
  FamPitfall.ny1_sat_example

/-- non-vacuity: `pitfall 4 3 2 2 2` on `K4` (the replay of D29) is accepted and unsatisfiable -/
example : ∃ g F, SimpleG.ofEdges 4 [(1,2),(1,3),(1,4),(2,3),(2,4),(3,4)] = .ok g ∧
    Pitfall.pitfall 4 3 2 2 2 g = .ok F ∧ ∀ α, F.holds α = false :=
  ⟨_, _, rfl, rfl, fun α => (pitfall_unsat_of_edges 4 [(1,2),(1,3),(1,4),(2,3),(2,4),(3,4)] _ rfl (by decide)
    4 3 2 2 2 (by decide) _ rfl α).1⟩

end Cnfgen.C03
