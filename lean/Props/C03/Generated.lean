/-
C03 — `_vdw_ap_generator` of cnfgen/families/ramsey.py as TRANSLATED (`Generated/Funcs.lean`, regenerated from the
source on every run) yields exactly the progressions of the hand-written model (`Ramsey.apGenerator`), in the same
order — so `mem_apGenerator`, `apGenerator_nodup` and the van der Waerden theorems of `Props/C03/Ramsey.lean` speak
about what the source computes.  The proof covers `N = 0` (`-1 // (k-1)` is `-1` in Python, `0` in the naturals) and
a negative `N - d*k + d`, where integer and natural arithmetic differ.
-/
import CnfgenModel.Generated.Funcs
import CnfgenModel.Fam.Ramsey
import Lemmas.PyFold
import Lemmas.FamRamsey
set_option linter.unusedSimpArgs false
namespace Cnfgen.C03
open Cnfgen Cnfgen.PyGen Cnfgen.Fam Cnfgen.FamRamsey

theorem gen_vdw_ap_generator_eq_model (N k : Nat) (hk : 1 ≤ k) :
    vdw_ap_generator (N : Int) (k : Int) = Except.ok ((Ramsey.apGenerator N k).map (List.map Int.ofNat)) := by
  unfold vdw_ap_generator Ramsey.apGenerator
  by_cases h1 : k = 1
  · subst h1
    simp only [Int.natCast_one, if_true, Py.foldl_append_map, List.nil_append, Py.range_one_toList, Int.toNat_natCast,
      List.map_map]
    rfl
  · have h1' : ¬ ((k : Int) = 1) := by omega
    rw [if_neg h1', if_neg h1]
    have hkm : ((k : Int) - 1) = ((k - 1 : Nat) : Int) := by omega
    have hq : Py.floordiv ((N : Int) - 1) ((k : Int) - 1) =
        Except.ok (if N = 0 then (-1 : Int) else (((N - 1) / (k - 1) : Nat) : Int)) := by
      rw [hkm]
      by_cases hN : N = 0
      · subst hN
        rw [if_pos rfl]
        exact Py.floordiv_neg_one (k - 1) (by omega)
      · rw [if_neg hN]
        have : ((N : Int) - 1) = ((N - 1 : Nat) : Int) := by omega
        rw [this, Py.floordiv_nat _ _ (by omega)]
    have hmax : (if N = 0 then (-1 : Int) else (((N - 1) / (k - 1) : Nat) : Int)).toNat = (N - 1) / (k - 1) := by
      by_cases hN : N = 0
      · subst hN; simp
      · rw [if_neg hN]; exact Int.toNat_natCast _
    rw [hq]
    simp only [Py.ok_bind, Py.foldl_foldl_append, List.nil_append, Py.range_one_toList, hmax, Py.range_zero_toList,
      List.flatMap_map, List.map_flatMap, List.map_map]
    congr 2
    funext d
    have hmi : ((N : Int) - (Int.ofNat d) * (k : Int) + Int.ofNat d).toNat = N + d - d * k := by
      simp only [Int.ofNat_eq_natCast]
      have : ((d : Int) * (k : Int)) = ((d * k : Nat) : Int) := by push_cast; rfl
      rw [this]
      omega
    rw [hmi]
    apply List.map_congr_left
    intro i _
    simp only [Function.comp, List.map_map]
    apply List.map_congr_left
    intro t _
    simp

/-- **the progressions of the source**, no model in the statement: for `k ≥ 1` the translated generator never
raises, yields no progression twice, and yields exactly the `k`-term progressions `i, i+d, …, i+(k-1)d` with
`d ≥ 1` that fit inside `1..N` (for `k = 1`: the singletons, once each) -/
theorem gen_vdw_ap_generator_spec (N k : Nat) (hk : 1 ≤ k) :
    ∃ aps : List (List Int), vdw_ap_generator (N : Int) (k : Int) = Except.ok aps ∧ aps.Nodup ∧
      ∀ ap : List Nat, ap.map Int.ofNat ∈ aps ↔
        ∃ i d, 1 ≤ i ∧ 1 ≤ d ∧ i + (k - 1) * d ≤ N ∧ ap = (List.range k).map (fun t => i + d * t) := by
  have hinj : Function.Injective (List.map Int.ofNat) :=
    List.map_injective_iff.2 (fun _ _ h => Int.ofNat.inj h)
  refine ⟨_, gen_vdw_ap_generator_eq_model N k hk, (List.nodup_map_iff hinj).2 (apGenerator_nodup hk), ?_⟩
  intro ap
  rw [List.mem_map_of_injective hinj]
  exact mem_apGenerator hk ap

/-- non-vacuity: the 3-term progressions inside 1..5 -/
example : vdw_ap_generator 5 3 = Except.ok [[1, 2, 3], [2, 3, 4], [3, 4, 5], [1, 3, 5]] := by decide +kernel

end Cnfgen.C03
