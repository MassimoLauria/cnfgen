/-
C09 for the TOOL `cnfshuffle`, end to end (text in, text out): the composition of
  * the character-level DIMACS reader and writer (C06: `reader_iff`, `dimacs_text_roundtrip`),
  * the argparse model of the tool's parser on every token list (Cli/ToolArgs.lean),
  * the shuffle theorems of Props/C09.lean (`tool_call`, `holds_iff`, `model_count_eq`, …),
through the process model `cnfshuffleRun` (Cli/Tools.lean; outcome theorems in Props/C18/Tools.lean).
-/
import Props.C18.Tools
namespace Cnfgen.C09
open Cnfgen Cnfgen.IO Cnfgen.Shuffle Cnfgen.Cli.ToolArgs Cnfgen.Cli.Tools Cnfgen.ToolsL

/-- T-C09.5 `cnfshuffle`, text to text.  For every argv, environment and legal draws: if the process ends with exit
status 0 having written the characters `t`, then the input text `s` (stdin, or the file `-i` names) denotes a formula
`F`, the written characters denote a formula `G` (whichever way the newlines are read back), and `G` is
`Shuffle(F, fl, vp, cp)` for the valid arguments the draws determine: same number of variables and clauses, the clauses
of `F` mapped literal by literal by ONE signed bijection `σ` and reordered, same multiset of widths, same number of
satisfying assignments; a switched-off component is the identity. -/
theorem cnfshuffle_end_to_end (env : Env) (argv : List String) (ds : List Draw) (d : Dest) (t : IO.Str)
    (h : cnfshuffleRun env argv ds = .ok d t) (hl : C18.AllLegal env argv ds) (u' : Bool) :
    ∃ st s u n F G fl vp cp,
      parse shuffleSpec (act env) argv {} = .ok st ∧ inputOf env st = (.text s, u, n) ∧
      C06.Denotes (lex u s) F ∧ C06.Denotes (lex u' t) G ∧
      C18.LegalDraws st F ds fl vp cp ∧ Valid F fl vp cp ∧ shuffle F fl vp cp = .ok G ∧
      G.nvars = F.nvars ∧ G.clauses.length = F.clauses.length ∧
      G.clauses.Perm (F.clauses.map (fun c => c.map (sigma fl vp))) ∧
      (G.clauses.map List.length).Perm (F.clauses.map List.length) ∧
      modelCount G = modelCount F ∧ (∀ α, G.holds α = F.holds (pull fl vp α)) ∧
      (st.noFlips = true → fl = List.replicate F.nvars 1) ∧ (st.noVperm = true → vp = iota 1 F.nvars) ∧
      (st.noCperm = true → cp = iota 0 F.clauses.length) := by
  obtain ⟨st, s, u, n, F, G, fl, vp, cp, hp, hi, hF, hleg, hsh, hV, h1, h2, h3, _, ht, hwf, hG, hGp⟩ :=
    C18.cnfshuffle_ok_spec env argv ds d t h hl
  have hback : readDimacsText u' t = .ok G := by
    rw [ht]; exact (C18.written_text_readable G _ hG hGp u').1
  exact ⟨st, s, u, n, F, G, fl, vp, cp, hp, hi, C06.reader_sound _ F hF, C06.reader_sound _ G hback, hleg, hV, hsh,
    nvars_eq hwf hsh, clauses_length_eq hwf hsh, clauses_perm hwf hsh, widths_perm hwf hsh, model_count_eq hwf hsh,
    holds_iff hwf hsh, h1, h2, h3⟩

/-- with all three components switched off nothing is drawn and the formula read is written unchanged -/
theorem shuffleBody_all_off (env : Env) (st : Args) (ds : List Draw) (s : IO.Str) (u : Bool) (n : String) (F : CNF)
    (hin : inputOf env st = (.text s, u, n)) (hF : readDimacsText u s = .ok F)
    (hp : st.noFlips = true) (hv : st.noVperm = true) (hc : st.noCperm = true) :
    shuffleBody env st ds = writeOut st F (C18.shuffleHdr env n) := by
  have hwf := (C18.read_wf_printable u s F hF).1
  unfold shuffleBody
  rw [hin]
  simp only [hF, hp, hv, hc, Cli.Tools.toolArg, if_true]
  rw [run_all_fixed, all_fixed_identity F hwf]
  rfl

/-- T-C09.6 `cnfshuffle -p -v -c` (the three switches given in ANY way the parser accepts: short, long, abbreviated,
clustered `-pvc`, mixed with other options): whatever the draws, the written characters are the rendering of the
formula the input text denotes, and read back as exactly that formula -/
theorem cnfshuffle_switches_identity (env : Env) (argv : List String) (ds : List Draw) (d : Dest) (t : IO.Str)
    (h : cnfshuffleRun env argv ds = .ok d t) (st : Args) (hst : parse shuffleSpec (act env) argv {} = .ok st)
    (hp : st.noFlips = true) (hv : st.noVperm = true) (hc : st.noCperm = true) (u' : Bool) :
    ∃ s u n F, inputOf env st = (.text s, u, n) ∧ C06.Denotes (lex u s) F ∧
      t = renderDimacsText F (if st.verbose then some (toIOHeader (C18.shuffleHdr env n)) else none) none ∧
      readDimacsText u' t = .ok F := by
  unfold cnfshuffleRun at h
  rw [hst] at h
  simp only at h
  rcases C18.shuffleBody_cases env st ds with ⟨u, n, _, hb⟩ | ⟨u, n, _, hb⟩ | ⟨s, u, n, _, _, hb⟩ | ⟨s, u, n, F, hi, hF, _⟩
  · rw [hb] at h; cases h
  · rw [hb] at h; cases h
  · rw [hb] at h; cases h
  · rw [shuffleBody_all_off env st ds s u n F hi hF hp hv hc, writeOut_eq] at h
    cases h
    obtain ⟨hwf, hpr⟩ := C18.read_wf_printable u s F hF
    exact ⟨s, u, n, F, hi, C06.reader_sound _ F hF, rfl, (C18.written_text_readable F _ hwf hpr u').1⟩

/-! ### each switch token does exactly its own assignment (for every rest of the command line) -/

/-- the process started from a namespace `st0` (`cnfshuffleRun` is `… {}`) -/
def runFrom (env : Env) (st0 : Args) (argv : List String) (ds : List Draw) : Cli.Tools.Outcome :=
  match parse shuffleSpec (act env) argv st0 with
  | .error .help => .help
  | .error .error => .cliError .parser "c "
  | .error (.sub _ _ _ _) => .cliError .parser "c "
  | .ok st => shuffleBody env st ds

theorem run_eq_runFrom (env : Env) (argv : List String) (ds : List Draw) :
    cnfshuffleRun env argv ds = runFrom env {} argv ds := rfl

/-- a switch written as one of its exact option strings `t` (the four facts about `t` come from `switch_strings`) -/
theorem flag_head (env : Env) (t : String) (o : Opt)
    (h : t.toList.head? = some '-' ∧ t ≠ "--" ∧ shuffleSpec.find t.toList = some o ∧ o.kind = .flag)
    (st0 st1 : Args) (ha : act env st0 o .flag = some st1) (argv : List String) (ds : List Draw) :
    runFrom env st0 (t :: argv) ds = runFrom env st1 argv ds := by
  obtain ⟨ht, hne, hf, hk⟩ := h
  cases hl : t.toList with
  | nil => rw [hl] at ht; cases ht
  | cons c r =>
    rw [hl, List.head?_cons, Option.some.injEq] at ht
    unfold runFrom
    rw [parse_flag_head shuffleSpec (act env) t o c r hl ht hne hf hk argv st0, ha]

def optP : Opt := ⟨"no_polarity_flips", ["--no-polarity-flips", "-p"], .flag⟩
def optV : Opt := ⟨"no_variables_permutation", ["--no-variables-permutation", "-v"], .flag⟩
def optC : Opt := ⟨"no_clauses_permutation", ["--no-clauses-permutation", "-c"], .flag⟩
def optQ : Opt := ⟨"verbose", ["--quiet", "-q"], .flag⟩

/-- the eight switch strings are option strings of the parser, each of its own flag (one evaluation of the option table) -/
theorem switch_strings : ∀ p ∈ [("-p", optP), ("--no-polarity-flips", optP), ("-v", optV),
      ("--no-variables-permutation", optV), ("-c", optC), ("--no-clauses-permutation", optC), ("-q", optQ),
      ("--quiet", optQ)],
    p.1.toList.head? = some '-' ∧ p.1 ≠ "--" ∧ shuffleSpec.find p.1.toList = some p.2 ∧ p.2.kind = .flag := by
  decide +kernel

/-- `-p` / `--no-polarity-flips` first: the rest of the line is processed as it would be alone, with flips off -/
theorem switch_token_p (env : Env) (st0 : Args) (argv : List String) (ds : List Draw) :
    runFrom env st0 ("-p" :: argv) ds = runFrom env { st0 with noFlips := true } argv ds ∧
    runFrom env st0 ("--no-polarity-flips" :: argv) ds = runFrom env { st0 with noFlips := true } argv ds :=
  ⟨flag_head env "-p" optP (switch_strings ("-p", optP) (by simp)) st0 _ (by simp [act, optP]) argv ds,
   flag_head env "--no-polarity-flips" optP (switch_strings ("--no-polarity-flips", optP) (by simp)) st0 _
     (by simp [act, optP]) argv ds⟩

theorem switch_token_v (env : Env) (st0 : Args) (argv : List String) (ds : List Draw) :
    runFrom env st0 ("-v" :: argv) ds = runFrom env { st0 with noVperm := true } argv ds ∧
    runFrom env st0 ("--no-variables-permutation" :: argv) ds = runFrom env { st0 with noVperm := true } argv ds :=
  ⟨flag_head env "-v" optV (switch_strings ("-v", optV) (by simp)) st0 _ (by simp [act, optV]) argv ds,
   flag_head env "--no-variables-permutation" optV (switch_strings ("--no-variables-permutation", optV) (by simp)) st0 _
     (by simp [act, optV]) argv ds⟩

theorem switch_token_c (env : Env) (st0 : Args) (argv : List String) (ds : List Draw) :
    runFrom env st0 ("-c" :: argv) ds = runFrom env { st0 with noCperm := true } argv ds ∧
    runFrom env st0 ("--no-clauses-permutation" :: argv) ds = runFrom env { st0 with noCperm := true } argv ds :=
  ⟨flag_head env "-c" optC (switch_strings ("-c", optC) (by simp)) st0 _ (by simp [act, optC]) argv ds,
   flag_head env "--no-clauses-permutation" optC (switch_strings ("--no-clauses-permutation", optC) (by simp)) st0 _
     (by simp [act, optC]) argv ds⟩

/-- `-q` / `--quiet` first: only `verbose` changes -/
theorem switch_token_q (env : Env) (st0 : Args) (argv : List String) (ds : List Draw) :
    runFrom env st0 ("-q" :: argv) ds = runFrom env { st0 with verbose := false } argv ds ∧
    runFrom env st0 ("--quiet" :: argv) ds = runFrom env { st0 with verbose := false } argv ds :=
  ⟨flag_head env "-q" optQ (switch_strings ("-q", optQ) (by simp)) st0 _ (by simp [act, optQ]) argv ds,
   flag_head env "--quiet" optQ (switch_strings ("--quiet", optQ) (by simp)) st0 _ (by simp [act, optQ]) argv ds⟩

/-- `cnfshuffle -p -v -c` on ANY standard input: the formula the text denotes comes back with the header of the tool;
a text that denotes no formula is reported — for every environment, text and draw list -/
theorem cnfshuffle_pvc (env : Env) (s : IO.Str) (hs : env.stdin = .text s) (ds : List Draw) :
    cnfshuffleRun env ["-p", "-v", "-c"] ds =
      match readDimacsText env.stdinUniversal s with
      | .ok F => .ok .stdout (renderDimacsText F (some (toIOHeader (C18.shuffleHdr env env.stdinName))) none)
      | .error _ => .cliError .reader "c " := by
  rw [run_eq_runFrom, (switch_token_p env _ _ ds).1, (switch_token_v env _ _ ds).1, (switch_token_c env _ _ ds).1]
  have hparse : parse shuffleSpec (act env) [] ({ noFlips := true, noVperm := true, noCperm := true } : Args) =
      .ok { noFlips := true, noVperm := true, noCperm := true } := rfl
  unfold runFrom
  rw [hparse]
  simp only
  have hin : inputOf env ({ noFlips := true, noVperm := true, noCperm := true } : Args) =
      (.text s, env.stdinUniversal, env.stdinName) := by simp [inputOf, hs]
  cases hF : readDimacsText env.stdinUniversal s with
  | ok F =>
    rw [shuffleBody_all_off env _ ds s _ _ F hin hF rfl rfl rfl]
    rfl
  | error e =>
    have := C18.read_error_is_valueError _ _ e hF
    subst this
    unfold shuffleBody
    rw [hin]
    simp [hF, errOutcome]

/-- legal draws for a concrete run: `-v` off, flips and clause order drawn -/
example : C18.LegalDraws { noVperm := true } ⟨3, [[1, -2], [3]]⟩
    [.choice (-1), .choice 1, .choice 1, .shuffled [1, 0]] [-1, 1, 1] (iota 1 3) [1, 0] := by
  refine ⟨[.choice (-1), .choice 1, .choice 1], [], [.shuffled [1, 0]], rfl, ⟨rfl, rfl, by decide⟩,
    ⟨rfl, rfl⟩, ⟨rfl, ?_⟩⟩
  unfold ValidPerm; decide

example : cnfshuffleRun (C18.demoEnv (.text "p cnf 2 2\n1 0 -2\n-1 0\n".toList)) ["-q", "--no-p", "-vc"] [] =
    .ok .stdout "p cnf 2 2\n1 0\n-2 -1 0\n".toList := by lit_decide

end Cnfgen.C09
