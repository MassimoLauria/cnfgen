/-
C12, LaTeX at CHARACTER level: the characters `_print_latex` writes (`latexBodyText`: the literal
table with its alignment blanks, `\overline`, `&` / `\land` / `\\` framing, `\left( … \right)`,
` \lor ` / ` + ` separators, coefficients glued to their literals, `\geq` / `=`, the page break every
`split_every` rows, `\square`, `\top`), cut into physical lines and split at white space, are exactly
the token rows the theorems of `Props/C12.lean` speak about; hence an independent reader applied to
the CHARACTERS recovers, row by row and in order, every clause resp. every constraint — in snippet form
(`to_latex`) and in the body of the full document (`to_latex_document`, pages of 35 rows).
Model of the characters: `IO/Latex.lean` (compared byte for byte with the real writer by the harness).
Helper lemmas: `Lemmas/IOLatexText.lean`, `Lemmas/IOLatexTextBody.lean`.
-/
import Props.C12
import Lemmas.IOLatexTextBody
namespace Cnfgen.C12
open Cnfgen Cnfgen.IO

/-- what the character-level theorems need beyond `TableOK`: no white space inside a variable name (a
name with a blank is several words on the page), and — for pseudo-Boolean formulas — coefficients and
bounds of at most 4300 digits (CPython's limit for `str(int)`) -/
abbrev LatexPrintable (F : AnyF) (names : List Str) : Prop := IO.LatexPrintable F names

/-- the lexer inverts the printer: the characters of the body, cut at "\n" and split at white space
(a coefficient un-glued from its literal), are the rows of the token-level `align` blocks — every
formula of either class, every page size, both layouts, the empty formula included -/
theorem latex_text_lex (F : AnyF) (names : List Str) (split : Int) (compact : Bool) (hp : LatexPrintable F names)
    (t : Str) (h : latexBodyText F names split compact = .ok t) :
    ∃ blocks, latexBlocks F names split.toNat compact = .ok blocks ∧ lexLatex t = latexBodyRows blocks :=
  lex_latexBodyText F names split compact hp t h

/-- T-C12.2 at CHARACTER level (CNF): the independent reader, applied to the characters `_print_latex`
wrote, returns the clause list — one row per clause, in order, each with exactly its literals (names and
polarities), across page breaks; the empty clause is read from `\square`, the empty formula from `\top` -/
theorem latex_text_rows_cnf (F : CNF) (names : List Str) (hT : TableOK names) (hcl : CleanNames names)
    (split : Int) (compact : Bool) (t : Str) (h : latexBodyText (.cnf F) names split compact = .ok t) :
    readLatexClausesText names t = .ok F.clauses :=
  readLatexRows_text _ (.cnf F) names split compact ⟨hcl, trivial⟩ t h _ fun _ hc =>
    .of_mapM hc fun c _ core hcore => latex_clause_row names hT compact c core hcore

/-- T-C12.2 at CHARACTER level (pseudo-Boolean formulas): coefficients (a `1` is omitted, any other
integer is printed, glued to its literal), literals, relation and bound of every constraint, in order -/
theorem latex_text_rows_opb (G : OPB) (names : List Str) (hT : TableOK names) (hcl : CleanNames names)
    (hop : ∀ c ∈ G.constraints, c.op = .ge ∨ c.op = .eq) (hsm : ∀ c ∈ G.constraints, SmallPBC c)
    (split : Int) (compact : Bool) (t : Str) (h : latexBodyText (.opb G) names split compact = .ok t) :
    readLatexConstraintsText names t = .ok G.constraints :=
  readLatexRows_text _ (.opb G) names split compact ⟨hcl, hsm⟩ t h _ fun _ hc =>
    .of_mapM hc fun c hm core hcore => latex_constraint_row names hT c (hop c hm) core hcore

/-- `to_latex()` (snippet form: no page split, compact layout) -/
theorem latex_string_rows_cnf (F : CNF) (names : List Str) (hT : TableOK names) (hcl : CleanNames names) (t : Str)
    (h : latexString (.cnf F) names = .ok t) : readLatexClausesText names t = .ok F.clauses :=
  latex_text_rows_cnf F names hT hcl (-1) true t h

theorem latex_string_rows_opb (G : OPB) (names : List Str) (hT : TableOK names) (hcl : CleanNames names)
    (hop : ∀ c ∈ G.constraints, c.op = .ge ∨ c.op = .eq) (hsm : ∀ c ∈ G.constraints, SmallPBC c) (t : Str)
    (h : latexString (.opb G) names = .ok t) : readLatexConstraintsText names t = .ok G.constraints :=
  latex_text_rows_opb G names hT hcl hop hsm (-1) true t h

/-- `to_latex_document()`: the document is a prologue (preamble, title, header listing, extra text,
the line announcing the counts), then verbatim the body `_print_latex` writes with pages of
`clauses_per_page` rows in the non-compact layout, then `\end{document}` — so `latex_text_rows_cnf` /
`latex_text_rows_opb` apply to the body of the full document, page splits included -/
theorem latex_document_body (F : AnyF) (names : List Str) (hdr : Header) (exportHeader : Bool) (extra t : Str)
    (h : latexDocumentText F names hdr exportHeader extra = .ok t) :
    ∃ prologue body, t = prologue ++ body ++ "\n\\end{document}".toList ∧
      latexBodyText F names clausesPerPage false = .ok body := by
  unfold latexDocumentText at h
  split at h
  · cases h
  · split at h
    · cases h
    · rename_i body hbody
      have h := (Except.ok.inj h).symm
      exact ⟨_, body, h, hbody⟩

/-- the empty formula and the empty clause stay distinct on the page: the body of the empty formula is
exactly `\begin{align}` / `\top` / `\end{align}`, and no body of a non-empty formula lexes to these rows -/
theorem latex_text_top (F : AnyF) (names : List Str) (split : Int) (compact : Bool) (hp : LatexPrintable F names)
    (t : Str) (h : latexBodyText F names split compact = .ok t) :
    lexLatex t = [[W "\\begin{align}"], [W "\\top"], [W "\\end{align}"]] ↔ F.len = 0 := by
  obtain ⟨blocks, hb, hl⟩ := latex_text_lex F names split compact hp t h
  rw [hl]
  by_cases h0 : F.len = 0
  · obtain rfl := (latex_top F names split.toNat compact blocks hb).2 h0
    exact ⟨fun _ => h0, fun _ => rfl⟩
  · obtain ⟨cores, -, rfl⟩ := latexBlocks_ok h0 hb
    -- without the delimiter lines the two sides are framed rows (each starts with `&`) and the row `\top`
    refine ⟨fun e => ?_, fun e => absurd e h0⟩
    have e' := congrArg (List.filter fun r => !isAlignRow r) e
    rw [filter_pageRows] at e'
    exact absurd (e'.trans filter_topRows) (blocks_framed _ _ cores).ne_top

/-! ### non-vacuity -/

/-- names of the shapes cnfgen produces are clean, and a formula with them is printable -/
example : CleanNames ["x_{1,2}".toList, "{x_{1,2}}^1".toList, "e[1]_{1,3}".toList, "y".toList, "_u".toList] :=
  fun nm h => noWS_lit nm (by revert nm; lit_decide)

example : SmallPBC ⟨[(2, 1), (0, -3), (-7, 2)], .ge, -2⟩ := by
  unfold SmallPBC; decide +kernel

set_option maxRecDepth 8000 in
/-- the characters of `to_latex()` for a three-clause formula with an empty clause, kernel-evaluated,
and what the character-level reader makes of them -/
example : (latexString (.cnf ⟨3, [[-1, 2], [], [3]]⟩) ["x_1".toList, "y".toList, "z^2".toList]).toOption =
    some ("\\begin{align}\n&       \\left( {\\overline{x}_1} \\lor            {y} \\right) \\\\\n" ++
          "& \\land \\square \\\\\n& \\land \\left(            {z^2} \\right)\n\\end{align}").toList := by
  rw [latexString_sample]; rfl

set_option maxRecDepth 8000 in
example : (readLatexClausesText ["x_1".toList, "y".toList, "z^2".toList]
    ("\\begin{align}\n&       \\left( {\\overline{x}_1} \\lor            {y} \\right) \\\\\n" ++
     "& \\land \\square \\\\\n& \\land \\left(            {z^2} \\right)\n\\end{align}").toList).toOption =
    some [[-1, 2], [], [3]] := by
  rw [latex_string_rows_cnf ⟨3, [[-1, 2], [], [3]]⟩ _ (by unfold TableOK; lit_decide)
    (fun nm h => noWS_lit nm (by revert nm; lit_decide)) _ latexString_sample]
  rfl

/-- a page break after two rows, glued coefficients, an empty sum, an equality -/
example : ((latexBodyText (.opb ⟨2, [⟨[(2, 1), (1, -2)], .ge, 2⟩, ⟨[], .eq, 0⟩, ⟨[(-3, 2)], .ge, -1⟩]⟩)
      ["a".toList, "b_1".toList] 2 false).toOption.bind
    (fun t => (readLatexConstraintsText ["a".toList, "b_1".toList] t).toOption)) =
    some [⟨[(2, 1), (1, -2)], .ge, 2⟩, ⟨[], .eq, 0⟩, ⟨[(-3, 2)], .ge, -1⟩] := by
  -- only the writer is evaluated (it succeeds); what the reader makes of its output is `latex_text_rows_opb`
  have hs : (latexBodyText (.opb ⟨2, [⟨[(2, 1), (1, -2)], .ge, 2⟩, ⟨[], .eq, 0⟩, ⟨[(-3, 2)], .ge, -1⟩]⟩)
      ["a".toList, "b_1".toList] 2 false).toOption.isSome = true := by lit_decide
  generalize h : latexBodyText _ _ _ _ = r at hs ⊢
  cases r with
  | error e => cases hs
  | ok t =>
    rw [show (Except.ok t : Except Err Str).toOption = some t from rfl, Option.bind_some,
      latex_text_rows_opb _ _ (by unfold TableOK; lit_decide) (fun nm h => noWS_lit nm (by revert nm; lit_decide))
        (by decide) (by simp only [SmallPBC]; decide +kernel) 2 false t h]
    rfl

/-- a full document exists with or without a description in the header (regression of D46: a missing `description`
used to be a KeyError; it is an empty title since the fix 41a4c01 in /repo) -/
example : (latexDocumentText (.cnf ⟨1, [[1]]⟩) ["x".toList] [("description".toList, "a_b".toList)] false []).toOption.isSome = true ∧
    (latexDocumentText (.cnf ⟨1, [[1]]⟩) ["x".toList] [] false []).toOption.isSome = true := by lit_decide

/-- the hypothesis on names is a real restriction: a name with a blank is several words, and the reader
cannot find the literal -/
example : (readLatexClausesText ["a b".toList] "\\begin{align}\n&       \\left(            {a b} \\right)\n\\end{align}".toList).toOption
    = none := by lit_decide

end Cnfgen.C12
