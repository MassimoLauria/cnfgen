/-
C12 at CHARACTER level (OPB writer → strict reader): the text `to_opb_file` writes, character by
character (`* #variable= n #constraint= m`, comment lines, `{:+} x{}` / `{:+} ~x{}` terms,
`>=` / `=`, degree), is lexed (`readlines()`, `split()`, `int()`, `x<digits>` tokens) into exactly
the token rows the theorems of `Props/C12.lean` speak about, and hence read back as the
formula.  Helper lemmas: `Lemmas/IOText*.lean`.  The LaTeX writer at character level is in
`Props/C12/LatexText.lean`.
-/
import Props.C12
import Lemmas.IOTextOpb
namespace Cnfgen.C12
open Cnfgen Cnfgen.IO

/-- every number the writer prints besides the literals — the two counts, the coefficients, the
degrees — has at most `maxStrDigits` (= 4300) decimal digits: beyond that CPython refuses both
`str(n)` / `'{:+}'.format(n)` and `int(s)`.  (Literals are bounded by `nvars` in a well-formed formula:
`opbPrintable_of_wf` gives `IO.OpbPrintable`, the form with the bound on the literals that the lexer lemmas use.) -/
def PrintableOpb (G : OPB) : Prop :=
  G.nvars < 10 ^ maxStrDigits ∧ G.constraints.length < 10 ^ maxStrDigits ∧
  ∀ c ∈ G.constraints, c.rhs.natAbs < 10 ^ maxStrDigits ∧ ∀ t ∈ c.terms, t.1.natAbs < 10 ^ maxStrDigits

/-- for a CNF only the two counts matter (the same predicate as `C06.Printable`, whose file is not imported here) -/
def PrintableCNF (F : CNF) : Prop := F.nvars < 10 ^ maxStrDigits ∧ F.clauses.length < 10 ^ maxStrDigits

/-- the lexer inverts the printer: lexing the written characters gives the token rows of the
token-level writer — every header dictionary, every label list, both media -/
theorem opb_text_lex (u : Bool) (G : OPB) (hdr : Option Header) (names : Option (List Str))
    (hG : WFOpb G) (hp : PrintableOpb G) :
    lex u (renderOpbText G hdr names) = renderOpb u G hdr names :=
  lex_renderOpbText u G hdr names (opbPrintable_of_wf G hG hp.1 hp.2.1 hp.2.2)

theorem opb_text_lex_cnf (u : Bool) (F : CNF) (hdr : Option Header) (names : Option (List Str))
    (hF : F.WF) (hp : PrintableCNF F) :
    lex u (renderOpbTextCNF F hdr names) = renderOpbCNF u F hdr names :=
  lex_renderOpbTextCNF u F hdr names (dimacsPrintable_of_wf F hF hp.1 hp.2)

/-- T-C12.1 at character level (OPB formulas): the strict reader, applied to the characters the
writer wrote, returns the declared number of variables and, constraint by constraint, the same
coefficients, literals, relation and degree — equalities, empty constraints, any integer
coefficients (up to CPython's own digit limit), with or without header and variable names,
whatever characters the header fields, values and labels contain. -/
theorem opb_text_roundtrip (u : Bool) (G : OPB) (hdr : Option Header) (names : Option (List Str))
    (hG : WFOpb G) (hp : PrintableOpb G) :
    readOpbText u (renderOpbText G hdr names) = .ok (G.nvars, G.constraints) := by
  unfold readOpbText
  rw [opb_text_lex u G hdr names hG hp]
  exact opb_roundtrip u G hdr names hG

/-- T-C12.1 at character level (CNF formulas): every clause is read back as `Σ lits ≥ 1` -/
theorem opb_text_roundtrip_cnf (u : Bool) (F : CNF) (hdr : Option Header) (names : Option (List Str))
    (hF : F.WF) (hp : PrintableCNF F) :
    readOpbText u (renderOpbTextCNF F hdr names) = .ok (F.nvars, F.clauses.map PBC.ofClause) := by
  unfold readOpbText
  rw [opb_text_lex_cnf u F hdr names hF hp]
  exact opb_roundtrip_cnf u F hdr names hF

/-- the CNF branch of the writer writes, character for character, what the OPB branch writes for
the constraints `Σ lits ≥ 1` -/
theorem opb_text_cnf_as_opb (F : CNF) (hdr : Option Header) (names : Option (List Str)) :
    renderOpbTextCNF F hdr names = renderOpbText ⟨F.nvars, F.clauses.map PBC.ofClause⟩ hdr names :=
  renderOpbTextCNF_eq F hdr names

/-- the bound is necessary: a declared number of variables of more than `maxStrDigits` digits is
not read as a number (real CPython raises ValueError inside the writer, in `format`) -/
theorem opb_text_limit (u : Bool) (G : OPB) (hdr : Option Header) (names : Option (List Str))
    (hn : 10 ^ maxStrDigits ≤ G.nvars) :
    readOpbText u (renderOpbText G hdr names) = .error .valueError := by
  unfold readOpbText
  rw [lex_renderOpbText_lines, lexLine_opbSpecLine, classify_natStr_big _ hn]
  simp [readOpb]

/-- the round trip without the digit bound, as a statement … -/
def OpbTextRoundtripUnbounded : Prop :=
  ∀ (u : Bool) (G : OPB) (hdr : Option Header) (names : Option (List Str)),
    WFOpb G → readOpbText u (renderOpbText G hdr names) = .ok (G.nvars, G.constraints)

/-- … is false of the model (and of CPython): no constraints over `10^4300` variables -/
theorem opb_text_roundtrip_unbounded_false : ¬ OpbTextRoundtripUnbounded := by
  intro h
  have hwf : WFOpb ⟨10 ^ maxStrDigits, []⟩ := by intro c hc; simp at hc
  have h1 := h false ⟨10 ^ maxStrDigits, []⟩ none none hwf
  rw [opb_text_limit false ⟨10 ^ maxStrDigits, []⟩ none none (Nat.le_refl _)] at h1
  cases h1

/-! ### non-vacuity -/

/-- a printable well-formed pseudo-Boolean formula: coefficient > 1, coefficient 0, negative
coefficient, negative literal in an equality, an empty constraint with negative degree -/
example : WFOpb ⟨3, [⟨[(2, 1), (0, -3), (-1, 2)], .ge, 2⟩, ⟨[(5, -1)], .eq, 5⟩, ⟨[], .ge, -1⟩]⟩ ∧
    PrintableOpb ⟨3, [⟨[(2, 1), (0, -3), (-1, 2)], .ge, 2⟩, ⟨[(5, -1)], .eq, 5⟩, ⟨[], .ge, -1⟩]⟩ := by
  unfold WFOpb GoodPBC PrintableOpb; decide +kernel

/-- the characters written for it (multi-line header value whose second line looks like a
constraint, label with a line break), and what the strict reader makes of them -/
example : renderOpbText ⟨3, [⟨[(2, 1), (0, -3), (-1, 2)], .ge, 2⟩, ⟨[(5, -1)], .eq, 5⟩, ⟨[], .ge, -1⟩]⟩
      (some [("d".toList, "g\n+1 x1 >= 1".toList)]) (some ["x\ny".toList]) =
    "* #variable= 3 #constraint= 3\n* d: g\n* +1 x1 >= 1\n*\n* varname x1 x y\n*\n+2 x1 +0 ~x3 -1 x2 >= 2\n+5 ~x1 = 5\n>= -1\n".toList :=
  renderOpbText_sample

set_option maxRecDepth 4096 in
example : readOpbText true
    "* #variable= 3 #constraint= 3\n* d: g\n* +1 x1 >= 1\n*\n* varname x1 x y\n*\n+2 x1 +0 ~x3 -1 x2 >= 2\n+5 ~x1 = 5\n>= -1\n".toList =
    .ok (3, [⟨[(2, 1), (0, -3), (-1, 2)], .ge, 2⟩, ⟨[(5, -1)], .eq, 5⟩, ⟨[], .ge, -1⟩]) := by
  rw [← renderOpbText_sample]
  exact opb_text_roundtrip true _ _ _ (by unfold WFOpb GoodPBC; decide) (by unfold PrintableOpb; decide +kernel)

end Cnfgen.C12
