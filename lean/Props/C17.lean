/-
C17 — a command line builds the same formula as the library call it stands for.
Theorems over the tables regenerated from the current source on every run
(CnfgenModel/Generated/Tables.lean) and over the model of the `-T` chain.
-/
import CnfgenModel.Cli.TableChecks
import CnfgenModel.Cli.Chain
import CnfgenModel.Cli.Phases
namespace Cnfgen.C17
open Cnfgen.Cli Cnfgen.Gen

/-- T-C17.3 every formula helper forwards the formula class to every generator that takes one
(so `pbgen <family>` builds a pseudo-Boolean formula and `cnfgen <family>` a CNF) -/
theorem every_helper_forwards_class : helpers.all helperForwardsClass = true := by decide +kernel

/-- T-C17.1a every attribute a helper reads is defined by one of its options, by a custom action of
its module or by the main parser: no option value can be silently ignored through a name mismatch -/
theorem every_read_is_defined : helpers.all helperReadsDefined = true := by decide +kernel

/-- T-C17.1b every option a helper declares is read when it builds / transforms the formula -/
theorem every_option_is_used : helpers.all helperDestsUsed = true := by decide +kernel

/-- T-C17.1c every option of the four tools' own parsers is read by the tool -/
theorem every_tool_option_is_used : tools.all toolDestsUsed = true := by decide +kernel

/-- non-vacuity: the tables are not empty and contain the sub-commands the documentation lists -/
theorem tables_nonempty :
    40 ≤ helpers.length ∧ tools.length = 4 ∧
    (["php", "tseitin", "iso", "parity", "kcolor", "peb"].all
      (fun n => helpers.any (fun h => h.name == n && h.kind == "formula"))) = true ∧
    (["xor", "shuffle", "lift", "flip"].all
      (fun n => helpers.any (fun h => h.name == n && h.kind == "transformation"))) = true := by
  decide +kernel

def counterGen17 : Gen Nat := ⟨fun s => s.natAbs * 1000, fun st => (st + 1, st)⟩

/-- T-C17.2a splitting the command line around `-T` loses nothing: re-joining the chunks with `-T`
gives the command line back -/
theorem split_join (argv : List String) : joinT (splitT argv) = argv := splitT_joinT argv

/-- T-C17.2b no chunk contains `-T` -/
theorem split_chunks_clean (argv : List String) : ∀ c ∈ splitT argv, "-T" ∉ c := splitT_clean argv

/-- T-C17.2c the number of transformations applied is the number of `-T` tokens -/
theorem split_length (argv : List String) : (splitT argv).length = argv.count "-T" + 1 :=
  splitT_length argv

/-- T-C17.2d a chain of transformations is applied left to right: the result for `ts ++ [t]` is `t`
applied to the result for `ts` (so it is the left fold of the steps, in command-line order) -/
theorem chain_snoc {F E : Type} (apply : F → String → Except E F) (f : F) (ts : List String) (t : String) :
    applyChain apply f (ts ++ [t]) = (applyChain apply f ts).bind (fun g => apply g t) :=
  applyChain_snoc apply f ts t

/-- T-C17.4 with a seed, the random choices of the formula generator and of the transformations do not
depend on how many draws the graph arguments made while the command line was parsed: `cnfgen -S s kcolor 3
gnp 6 .5 save G.gml -T shuffle` and `cnfgen -S s kcolor 3 G.gml -T shuffle` make the same choices (the generator
is re-seeded just before the formula is built) -/
theorem build_choices_independent_of_graph_source {S : Type} (g : Gen S) (s : Int) (p₁ p₂ b : Nat)
    (env₁ env₂ : Env S) :
    (run g current ⟨some s, p₁, b, false⟩ env₁).buildVals = (run g current ⟨some s, p₂, b, false⟩ env₂).buildVals := by
  simp [run, current, effective]

/-- without the second seeding the statement is false: the parse-time draws shift the stream -/
theorem no_reseed_shifts_stream :
    (run counterGen17 ⟨true, true, false⟩ ⟨some 5, 2, 1, false⟩ ⟨7, 0, 0⟩).buildVals ≠
    (run counterGen17 ⟨true, true, false⟩ ⟨some 5, 0, 1, false⟩ ⟨7, 0, 0⟩).buildVals := by decide +kernel

example : splitT ["cnfgen", "php", "5", "4", "-T", "shuffle", "-T", "xor", "3"] =
    [["cnfgen", "php", "5", "4"], ["shuffle"], ["xor", "3"]] := by decide +kernel

end Cnfgen.C17
