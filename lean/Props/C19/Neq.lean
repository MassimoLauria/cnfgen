/-
C19 on the heap model — "passing lists of literals … leaves those arguments unchanged": the constraint builders
that receive a list OBJECT of the caller (`CNFLinear.add_linear` with every operator, `BaseOPB.add_clause`,
`add_constraint`, `cardinality_*`, `cardinality_neq`), including the in-place sign-flip loop of `!=`.
The only cells a builder overwrites are formula objects (the variable counter) and lists of objects (`_clauses.append`).

Exceptional exits between a flip and its un-flip: in the code the only statement between them is
`self.add_clause(lits, check=False)`, i.e. `list(clause)` and `self._clauses.append(data)`; neither can raise for a
list, so there is none — and since the working list is private (`lits = list(lits)`), no exit could expose a
half-flipped list to the caller.  (Before the repair D21 the loop ran on the caller's list itself.)
-/
import Lemmas.HeapNeq
namespace Cnfgen.C19
open Cnfgen Cnfgen.Heap
local notation "Addr" => Nat

/-- the calls covered: the receiver `x`, the caller's object `l`, the remaining arguments -/
inductive BuilderCall where
  | addClause (check : Bool)                          -- `F.add_clause(L, check)`
  | addLinear (op : Op) (k : Int) (check : Bool)      -- `F.add_linear(L, op, k, check)`, all six operators
  | opbAddClause (check : Bool)                       -- `O.add_clause(L, check)`
  | opbAddConstraint (check : Bool)                   -- `O.add_constraint(C, check)`
  | opbCard (op : Op) (k : Int) (check : Bool)        -- `O.cardinality_leq/geq/eq(L, k)` (also `<`, `>`)
  | opbCardNeq (k : Int) (check : Bool)               -- `O.cardinality_neq(L, k, check)`

def BuilderCall.run (s : Store) (x l : Addr) : BuilderCall → Store × Except Err Unit
  | .addClause c => addClauseFrom s x l c
  | .addLinear op k c => addLinearFrom s x l op k c
  | .opbAddClause c => opbAddClauseFrom s x l c
  | .opbAddConstraint c => opbAddConstraintFrom s x l c
  | .opbCard op k c => opbCardFrom s x l op k c
  | .opbCardNeq k c => opbCardNeqFrom s x l k c

/-- T-C19.N1 whatever the store, the receiver, the argument object and the call, and whether it returns or raises:
every cell that existed before and is not a formula object or a list of objects — every list of integers (the caller's
literals, every clause already stored anywhere), every constraint list, every header, every graph — keeps its content. -/
theorem builder_leaves_caller_objects (call : BuilderCall) (s : Store) (x l : Addr) :
    s.size ≤ (call.run s x l).1.size ∧
      ∀ a, a < s.size → ∀ c, s[a]? = some c → c.isContainer = false → (call.run s x l).1[a]? = some c := by
  have h : PresB s.size s (call.run s x l).1 := by
    cases call with
    | addClause c => exact presB_addClauseFrom ..
    | addLinear op k c => exact presB_addLinearFrom ..
    | opbAddClause c => exact presB_opbAddClauseFrom ..
    | opbAddConstraint c => exact presB_opbAddConstraintFrom ..
    | opbCard op k c => exact presB_opbCardFrom ..
    | opbCardNeq k c => exact presB_opbCardNeqFrom ..
  exact ⟨h.size_le, h.keep⟩

/-- in particular the caller's list of literals reads the same after the call -/
theorem caller_list_unchanged (call : BuilderCall) (s : Store) (x l : Addr) (xs : List Int)
    (h : readInts s l = some xs) : readInts (call.run s x l).1 l = some xs := by
  have hc := readInts_eq_some.1 h
  have := (builder_leaves_caller_objects call s x l).2 l (lt_size_of_getElem? hc) _ hc rfl
  simp [readInts, this]

/-- … and so does a constraint list handed to `add_constraint` -/
theorem caller_constraint_unchanged (call : BuilderCall) (s : Store) (x l : Addr) (pc : PBC)
    (h : readPBC s l = some pc) : readPBC (call.run s x l).1 l = some pc := by
  have hc : s[l]? = some (.pbc pc) := by
    unfold readPBC at h; split at h
    · rename_i ys heq; cases h; exact heq
    · cases h
  have := (builder_leaves_caller_objects call s x l).2 l (lt_size_of_getElem? hc) _ hc rfl
  simp [readPBC, this]

/-! non-vacuity: a store with a formula at 3 and a caller's list at 4 -/
def storeNeq : Store :=
  let (s, _) := newCNF ⟨[]⟩ #[] none
  (alloc s (.ints [1, -2, 3])).1

example : readInts storeNeq 4 = some [1, -2, 3] := by decide +kernel
example : ((BuilderCall.addLinear .ne 1 true).run storeNeq 3 4).2.toOption = some () ∧
    (snap ((BuilderCall.addLinear .ne 1 true).run storeNeq 3 4).1 3).map (·.clauses) =
      some [[-1, -2, 3], [1, 2, 3], [1, -2, -3]] ∧
    readInts ((BuilderCall.addLinear .ne 1 true).run storeNeq 3 4).1 4 = some [1, -2, 3] := by decide +kernel
/-- an exceptional exit: a literal 0 is refused by the check; the theorem covers it -/
example : ((BuilderCall.addLinear .ne 1 true).run (alloc storeNeq (.ints [1, 0])).1 3 5).2.toOption = none := by decide +kernel

/-- T-C19.N2 the list that the `!=` loop of `add_linear` flips in place is allocated by the call (`lits = list(lits)`):
its address did not exist before — so it is not the caller's list, nor any other object the caller can hold.
Stated on the definition: the loop is started on `(alloc s1 (.ints xs)).2`, which is `s1.size ≥ s.size`. -/
theorem neq_works_on_private_copy (s1 : Store) (xs : List Int) :
    (alloc s1 (.ints xs)).2 = s1.size ∧ readInts (alloc s1 (.ints xs)).1 (alloc s1 (.ints xs)).2 = some xs := by
  refine ⟨rfl, ?_⟩
  simp [readInts, alloc]

/-- T-C19.N3 (CNF) the loop over ANY sequence of position sets: if it ends normally, the working list has its
initial content again; by induction on the iterations, it has it at the end of every iteration. -/
theorem neq_loop_restores_working_list (x w : Addr) (sets : List (List Nat)) (s : Store) (xs : List Int)
    (h : readInts s w = some xs)
    (hok : (neqLoop (fun s a => addClauseFrom s x a false) w s sets).2 = .ok ()) :
    readInts (neqLoop (fun s a => addClauseFrom s x a false) w s sets).1 w = some xs :=
  neqLoop_restores (fun s a => addClauseFrom s x a false) w (addClauseFrom_keeps x w) sets s xs h hok

/-- the same for `BaseOPB.cardinality_neq` -/
theorem opb_neq_loop_restores_working_list (x w : Addr) (sets : List (List Nat)) (s : Store) (xs : List Int)
    (h : readInts s w = some xs)
    (hok : (neqLoop (fun s a => opbAddClauseFrom s x a false) w s sets).2 = .ok ()) :
    readInts (neqLoop (fun s a => opbAddClauseFrom s x a false) w s sets).1 w = some xs := by
  refine neqLoop_restores (fun s a => opbAddClauseFrom s x a false) w ?_ sets s xs h hok
  intro s ys hy
  have hc := readInts_eq_some.1 hy
  have := (presB_opbAddClauseFrom (b := s.size) s x w false).keep w (lt_size_of_getElem? hc) _ hc rfl
  simp [readInts, this]

example : readInts (neqLoop (fun s a => addClauseFrom s 3 a false) 4 storeNeq [[0, 2], [1], []]).1 4 = some [1, -2, 3] ∧
    (snap (neqLoop (fun s a => addClauseFrom s 3 a false) 4 storeNeq [[0, 2], [1], []]).1 3).map (·.clauses) =
      some [[-1, -2, -3], [1, 2, 3], [1, -2, 3]] := by decide +kernel

end Cnfgen.C19
