/-
C19 on the HEAP model (lean/CnfgenModel/Heap/*): "applying any transformation returns a NEW formula and leaves
the input formula exactly as it was" — stated about objects, addresses and aliasing, for every store,
every input object, every transformation of the library (`Heap.Tr`: FlipPolarity, the six arity-k substitutions,
LinearSubstitution and its four aliases, IfThenElse, FormulaLifting, VariableCompression, Shuffle) with every
argument, for the normal and for every exceptional exit: frame, freshness, non-interference under later mutations,
and `add_description` on the real string keys.  The `!=` loop and the builders are in Props/C19/Neq.lean; that the
returned object, observed deeply, is what the pure models of C05 / C09 compute is in Props/C19/Refine.lean.

The proofs go through ONE discipline (`Lemmas/HeapActs.lean: Acts`, `acts_runActs`): after `newF = CNF()` the code only
executes statements that write through `newF`; each transformation is an instance (`Lemmas/HeapTrans.lean: disciplined_apply`).
-/
import Lemmas.HeapResult
import Lemmas.HeapHeader
namespace Cnfgen.C19
open Cnfgen Cnfgen.Heap
local notation "Addr" => Nat

/-- the entries `BaseCNF.__init__` adds after `description` (values shortened) -/
def cfgEx : Cfg := ⟨[("generator", "CNFgen"), ("copyright", "(C)"), ("url", "https://…")]⟩

/-- a store holding one formula object at address 3 (`CNF([[1,-2],[2,3]], description="d")`) -/
def storeEx : Store :=
  let (s, f) := newCNF cfgEx #[] (some "d")
  (addAllVals s f true [[1, -2], [2, 3]]).1

example : snap storeEx 3 =
    some ⟨3, [[1, -2], [2, 3]], [("description", "d"), ("generator", "CNFgen"), ("copyright", "(C)"), ("url", "https://…")], []⟩ := by
  decide +kernel

/-- T-C19.H1 FRAME.  Whatever the store, the input address (even a dangling one), the transformation and its
arguments, and whether the call returns or raises: no object that existed before the call is modified,
and none disappears. -/
theorem frame (cfg : Cfg) (t : Tr) (s : Store) (f : Addr) :
    s.size ≤ (t.apply cfg s f).1.size ∧ ∀ a, a < s.size → (t.apply cfg s f).1[a]? = s[a]? :=
  ⟨(disciplined_apply cfg t s f).1.size_le, (disciplined_apply cfg t s f).1.frame⟩

example : (Tr.apply cfgEx (.xor 2) storeEx 3).1.size = 19 ∧ storeEx.size = 6 := by decide +kernel

/-- T-C19.H1' the input formula is exactly as it was: its clauses (every literal of every clause, in order),
its variable count, its header, its variable groups — hence its names (`all_variable_labels`) — and the very
objects it consists of -/
theorem input_untouched (cfg : Cfg) (t : Tr) (s : Store) (f : Addr) :
    snap (t.apply cfg s f).1 f = snap s f ∧ footprint (t.apply cfg s f).1 f = footprint s f ∧
      (snap (t.apply cfg s f).1 f).map Snap.names = (snap s f).map Snap.names := by
  obtain ⟨e1, e2⟩ := snap_apply cfg t s f
  exact ⟨e1, e2, by rw [e1]⟩

example : snap (Tr.apply cfgEx (.lift 2) storeEx 3).1 3 = snap storeEx 3 ∧
    (Tr.apply cfgEx (.lift 2) storeEx 3).2.toOption = some 9 := by decide +kernel

/-- an exceptional exit (`k = 0` is refused) — the theorem covers it -/
example : (Tr.apply cfgEx (.or 0) storeEx 3).2.toOption = none := by decide +kernel

/-- T-C19.H2 FRESHNESS.  Every object reachable from the returned formula (the formula object, its header
dictionary, its list of clauses, every clause, its list of groups) was allocated during the call. -/
theorem fresh (cfg : Cfg) (t : Tr) (s : Store) (f : Addr) (r : Addr) (hr : (t.apply cfg s f).2 = .ok r) :
    ∀ y, Reach (t.apply cfg s f).1 r y → s.size ≤ y ∧ y < (t.apply cfg s f).1.size := by
  intro y hy
  obtain ⟨hg, hge⟩ := disciplined_apply cfg t s f
  have h1 := hge r hr
  exact ⟨reach_closed hg.closed hy h1.1, reach_inbounds hg.closed hy h1.1 h1.2⟩

/-- T-C19.H2' NO SHARING.  The result is a well-typed formula, and it has no object in common with ANY formula
`y` that existed before the call — the input `f` (`y := f`), an earlier result of the same input, the input of
the call that produced `f`, …; and each of those looks exactly as before. -/
theorem no_sharing (cfg : Cfg) (t : Tr) (s : Store) (f r y : Addr) (hr : (t.apply cfg s f).2 = .ok r)
    (hy : WT s y) : Sep (t.apply cfg s f).1 r y ∧ snap (t.apply cfg s f).1 y = snap s y :=
  sep_apply_any cfg t s f r y hr hy

/-- the hypothesis of `no_sharing` for `y := f` comes for free: a call that returns had a well-typed input -/
theorem input_well_typed (cfg : Cfg) (t : Tr) (s : Store) (f r : Addr) (hr : (t.apply cfg s f).2 = .ok r) :
    WT s f := wt_input_of_ok cfg t s f r hr

example : WT storeEx 3 := wt_iff_snap.mpr ⟨⟨3, [[1, -2], [2, 3]], [("description", "d"), ("generator", "CNFgen"), ("copyright", "(C)"), ("url", "https://…")], []⟩, by decide +kernel⟩
example : footprint (Tr.apply cfgEx .flip storeEx 3).1 9 = [9, 7, 10, 8, 11, 12] ∧
    footprint (Tr.apply cfgEx .flip storeEx 3).1 3 = [3, 1, 0, 2, 4, 5] := by decide +kernel

/-- T-C19.H3 one mutation (`Heap.Mut`: add a clause, overwrite a literal of a stored clause through the alias that
iteration hands out, set a header entry, raise the variable count, create a variable group, add a description) of
a formula `x` is invisible in a formula `y` that shares no object with it, and the two still share no object. -/
theorem mutation_invisible {s : Store} {x y : Addr} (h : Sep s x y) (m : Mut) :
    snap (m.run s x).1 y = snap s y ∧ Sep (m.run s x).1 x y :=
  sep_step h (step_mut m h.wtx)

/-- any history of mutations of `x` -/
theorem mutations_invisible {s : Store} {x y : Addr} (h : Sep s x y) (ms : List Mut) :
    snap (runMuts x s ms) y = snap s y ∧ Sep (runMuts x s ms) x y :=
  sep_runMuts h ms

/-- T-C19.H3a mutating the RESULT later — in any way, any number of times — cannot change the input
(nor any other formula that existed before the call) -/
theorem result_mutations_invisible (cfg : Cfg) (t : Tr) (s : Store) (f r : Addr)
    (hr : (t.apply cfg s f).2 = .ok r) (ms : List Mut) :
    snap (runMuts r (t.apply cfg s f).1 ms) f = snap s f := by
  obtain ⟨hsep, e⟩ := no_sharing cfg t s f r f hr (input_well_typed cfg t s f r hr)
  rw [(mutations_invisible hsep ms).1, e]

/-- T-C19.H3b … and vice versa: mutating the INPUT after the call cannot change the result -/
theorem input_mutations_invisible (cfg : Cfg) (t : Tr) (s : Store) (f r : Addr)
    (hr : (t.apply cfg s f).2 = .ok r) (ms : List Mut) :
    snap (runMuts f (t.apply cfg s f).1 ms) r = snap (t.apply cfg s f).1 r := by
  obtain ⟨hsep, _⟩ := no_sharing cfg t s f r f hr (input_well_typed cfg t s f r hr)
  exact (mutations_invisible hsep.symm ms).1

example : snap (runMuts 9 (Tr.apply cfgEx .flip storeEx 3).1
      [.addClause [5] true, .setLit 0 0 7, .hdrSet "k" "v", .describe "x", .updVar 9, .newGroup (.variable none)]) 3
    = snap storeEx 3 := by decide +kernel
/-- the mutations of the example do change the formula they are applied to -/
example : (snap (runMuts 9 (Tr.apply cfgEx .flip storeEx 3).1 [.addClause [5] true, .setLit 0 0 7]) 9).map (·.clauses)
    = some [[7, 2], [-2, -3], [5]] := by decide +kernel

/-- an interleaved history: `(true, m)` mutates `x`, `(false, m)` mutates `y` -/
def runHist (x y : Addr) : Store → List (Bool × Mut) → Store
  | s, [] => s
  | s, (true, m) :: ops => runHist x y (m.run s x).1 ops
  | s, (false, m) :: ops => runHist x y (m.run s y).1 ops

/-- along the history, every step leaves the OTHER formula's snapshot unchanged -/
def Quiet (x y : Addr) : Store → List (Bool × Mut) → Prop
  | _, [] => True
  | s, (true, m) :: ops => snap (m.run s x).1 y = snap s y ∧ Quiet x y (m.run s x).1 ops
  | s, (false, m) :: ops => snap (m.run s y).1 x = snap s x ∧ Quiet x y (m.run s y).1 ops

/-- T-C19.H3c any interleaving of mutations of two separate formulas: no step of one is ever visible in the other,
and they are still separate at the end -/
theorem history_quiet {x y : Addr} : ∀ (ops : List (Bool × Mut)) (s : Store), Sep s x y →
    Quiet x y s ops ∧ Sep (runHist x y s ops) x y
  | [], _, h => ⟨trivial, h⟩
  | (true, m) :: ops, s, h => by
    obtain ⟨e, h'⟩ := mutation_invisible h m
    obtain ⟨q, h''⟩ := history_quiet ops _ h'
    exact ⟨⟨e, q⟩, h''⟩
  | (false, m) :: ops, s, h => by
    obtain ⟨e, h'⟩ := mutation_invisible h.symm m
    obtain ⟨q, h''⟩ := history_quiet ops _ h'.symm
    exact ⟨⟨e, q⟩, h''⟩

/-- T-C19.H4 the same formula transformed twice: the two results share nothing with each other nor with the input,
and the first result is not affected by the second call -/
theorem twice_separate (cfg : Cfg) (t1 t2 : Tr) (s : Store) (f r1 r2 : Addr)
    (h1 : (t1.apply cfg s f).2 = .ok r1) (h2 : (t2.apply cfg (t1.apply cfg s f).1 f).2 = .ok r2) :
    let s1 := (t1.apply cfg s f).1
    let s2 := (t2.apply cfg s1 f).1
    Sep s2 r2 r1 ∧ Sep s2 r2 f ∧ Sep s2 r1 f ∧ snap s2 r1 = snap s1 r1 ∧ snap s2 f = snap s f := by
  intro s1 s2
  have hf := input_well_typed cfg t1 s f r1 h1
  obtain ⟨sep1, e1⟩ := no_sharing cfg t1 s f r1 f h1 hf
  obtain ⟨sep21, e21⟩ := no_sharing cfg t2 s1 f r2 r1 h2 sep1.wtx
  obtain ⟨sep2f, e2f⟩ := no_sharing cfg t2 s1 f r2 f h2 sep1.wty
  refine ⟨sep21, sep2f, ?_, e21, by rw [e2f, e1]⟩
  -- r1 and f are still separate: the second call changed no cell of either
  have hg := (disciplined_apply cfg t2 s1 f).1
  exact ⟨sep21.wty, sep2f.wty, fun a h1 h2 =>
    sep1.disj a ((hg.keeps sep1.wtx).2 ▸ h1) ((hg.keeps sep1.wty).2 ▸ h2)⟩

/-- T-C19.H4' a transformation of a transformation's result (`-T a -T b`): the final result shares nothing with the
intermediate one nor with the original input; both are as they were -/
theorem chain_separate (cfg : Cfg) (t1 t2 : Tr) (s : Store) (f r1 r2 : Addr)
    (h1 : (t1.apply cfg s f).2 = .ok r1) (h2 : (t2.apply cfg (t1.apply cfg s f).1 r1).2 = .ok r2) :
    let s1 := (t1.apply cfg s f).1
    let s2 := (t2.apply cfg s1 r1).1
    Sep s2 r2 r1 ∧ Sep s2 r2 f ∧ snap s2 r1 = snap s1 r1 ∧ snap s2 f = snap s f := by
  intro s1 s2
  have hf := input_well_typed cfg t1 s f r1 h1
  obtain ⟨sep1, e1⟩ := no_sharing cfg t1 s f r1 f h1 hf
  obtain ⟨sep21, e21⟩ := no_sharing cfg t2 s1 r1 r2 r1 h2 sep1.wtx
  obtain ⟨sep2f, e2f⟩ := no_sharing cfg t2 s1 r1 r2 f h2 sep1.wty
  exact ⟨sep21, sep2f, e21, by rw [e2f, e1]⟩

example : (Tr.apply cfgEx (.or 2) (Tr.apply cfgEx .flip storeEx 3).1 9).2.toOption = some 16 := by decide +kernel

/-- T-C19.H5 `add_description(F, text)` for ANY header — arbitrary string keys: gaps in the numbering
(`transformation 1`, `transformation 3`), keys that are not numbered at all, keys that only look numbered
(`transformation 01`, `transformation 2 `): every old entry keeps its place and value, ONE entry is added at
the end, its key is `'transformation {}'.format(i)` for the least `i ≥ 1` whose key is not in the header. -/
theorem description_entry (h : Hdr) (text : String) :
    addDescription h text = h ++ [(Shuffle.tkey (Shuffle.firstFree h), text)] ∧ 1 ≤ Shuffle.firstFree h ∧
      hasKey h (Shuffle.tkey (Shuffle.firstFree h)) = false ∧
      ∀ j, 1 ≤ j → j < Shuffle.firstFree h → hasKey h (Shuffle.tkey j) = true :=
  addDescription_spec h text

example : addDescription [("description", "d"), ("transformation 1", "a"), ("transformation 3", "c"),
      ("transformation 02", "x"), ("note", "n")] "new" =
    [("description", "d"), ("transformation 1", "a"), ("transformation 3", "c"), ("transformation 02", "x"),
      ("note", "n"), ("transformation 2", "new")] := by decide +kernel

/-- T-C19.H5' a chain of any length: the original header is a prefix of the result; then one entry per step, in
the order of application, with the given texts; the numbers picked are ≥ 1, were free in the original header, and
are strictly increasing along the chain (so the header always tells the order of the steps). -/
theorem description_chain (h : Hdr) (texts : List String) :
    describeAll h texts = h ++ List.zipWith (fun i t => (Shuffle.tkey i, t)) (pickedIdx h texts) texts ∧
      (pickedIdx h texts).length = texts.length ∧ (pickedIdx h texts).Pairwise (· < ·) ∧
      ∀ i ∈ pickedIdx h texts, 1 ≤ i ∧ hasKey h (Shuffle.tkey i) = false := by
  refine ⟨describeAll_eq texts h, pickedIdx_length texts h, pickedIdx_increasing texts h, ?_⟩
  intro i hi
  have := pickedIdx_lower texts h i hi
  have := (addDescription_spec h "").2.1
  exact ⟨by omega, pickedIdx_free texts h i hi⟩

example : pickedIdx [("transformation 1", "a"), ("transformation 3", "c")] ["p", "q", "r"] = [2, 4, 5] := by decide +kernel

end Cnfgen.C19
