/-
C19 on the heap model — REFINEMENT: the object a transformation returns, observed deeply (clauses, variable count,
header), is exactly what the PURE models of the transformations (C05: `Subst.*`, proved to compose with the input's
semantics there) compute from the deep observation of the input — outcome included (same exception or same formula).
So the heap model adds objects, addresses and aliasing to the pure model without changing what is computed, and the
header of the returned OBJECT is the input's header plus the numbered entry of `description_entry`.

Covered: every transformation of `Heap.Tr`, Shuffle with fixed / explicit arguments.  For the transformations that name
the new variables after the input's labels the hypothesis is that the input yields one label per variable (C11 `labels_aligned`); a derived label that `new_block`
refuses makes the call raise exactly that exception (first disjunct) — no such label exists in the harness runs.
-/
import Lemmas.HeapRefineTr
namespace Cnfgen.C19
open Cnfgen Cnfgen.Heap
local notation "Addr" => Nat

def cfgRef : Cfg := ⟨[("generator", "g")]⟩
/-- one formula object at address 3: `CNF([[1,-2]])` -/
def storeRef : Store :=
  let (s, f) := newCNF cfgRef #[] none
  (addAllVals s f true [[1, -2]]).1

/-- what is claimed of a call whose pure counterpart is `pure`, whose header text is `text`: same outcome; on success
the returned object's snapshot has the pure formula as its clauses / variable count, and the provenance header -/
def Refines (F : Snap) (text : String) (pure : Except Err CNF) (res : Store × Except Err Addr) : Prop :=
  match pure with
  | .ok G => ∃ r R, res.2 = .ok r ∧ snap res.1 r = some R ∧ R.cnf = G ∧ R.header = addDescription F.header text
  | .error e => res.2 = .error e

/-- from the statement-level refinement `hb` to `Refines`, once the pure statements are known to end in the engine
run `run` with the provenance header -/
theorem Refines.intro {F : Snap} {text : String} {run : Except Err CNF} {res : Store × Except Err Addr}
    {X : Except Err Snap} {gs : List Vars.Group}
    (hb : match X with
      | .ok R' => ∃ r, res.2 = .ok r ∧ snap res.1 r = some R'
      | .error e => res.2 = .error e)
    (hX : X = match run with
      | .error e => .error e
      | .ok G => .ok ⟨G.nvars, G.clauses, addDescription F.header text, gs⟩) : Refines F text run res := by
  subst hX
  unfold Refines
  cases run with
  | error e => exact hb
  | ok G => obtain ⟨r, e1, e2⟩ := hb; exact ⟨r, _, e1, e2, rfl, rfl⟩

/-- T-C19.R1 FlipPolarity -/
theorem flip_refines (cfg : Cfg) (s : Store) (f : Addr) (F : Snap) (hF : snap s f = some F) :
    Refines F (Header.descr .flip) (Subst.flip F.cnf) (Tr.flip.apply cfg s f) := by
  unfold Tr.apply
  simp only [hF]
  have hb := build_refines cfg s f F
    [.copyHeader f, .describe (Header.descr .flip), .updVar F.numvar, .substFrom f Subst.flipLit] hF
    (by intro a ha; simp at ha; rcases ha with rfl | rfl | rfl | rfl <;> simp [Act.Covered])
  have hn : ¬ ((F.numvar : Int) < 0) := by omega
  simp only [runActsPure, Act.pure, hn, if_false, snap0, Snap.cnf, Int.toNat_natCast, Nat.zero_max] at hb
  apply Refines.intro hb
  unfold Subst.flip
  simp only [Snap.cnf]
  cases Subst.run ⟨F.numvar, []⟩ F.numvar Subst.flipLit F.clauses <;> rfl

/-- the substitutions that name new variables after the input's labels: `newF.header = copy(F.header)`, the `new_block` /
`new_variable` calls `G` (`w` variables each), the description, statements `mid` that only add the clauses `init`, the substituted clauses -/
theorem groups_subst_refines (cfg : Cfg) (s : Store) (f : Addr) (F : Snap) (G mid : List Act) (w : Nat) (text : String)
    (enc : Int → List Clause) (init : List Clause) (hF : snap s f = some F)
    (hG : ∀ a ∈ G, ∃ spec, a = .newGroup spec ∧ ∀ nv gs m g,
      Vars.newGroup ⟨nv, gs, []⟩ spec = (m, .ok g) → m.numvar = nv + w)
    (hcm : ∀ a ∈ mid, a.Covered f)
    (hmid : ∀ gs, runActsPure F mid ⟨w * G.length, [], addDescription F.header text, gs⟩ =
      .ok ⟨w * G.length, init, addDescription F.header text, gs⟩) :
    (∃ e, runActsPure F G ⟨0, [], F.header, []⟩ = .error e ∧
        (build cfg s ([.copyHeader f] ++ G ++ ([.describe text] ++ mid ++ [.substFrom f enc]))).2 = .error e) ∨
      Refines F text (Subst.run ⟨w * G.length, init⟩ F.numvar enc F.clauses)
        (build cfg s ([.copyHeader f] ++ G ++ ([.describe text] ++ mid ++ [.substFrom f enc]))) := by
  have hcov : ∀ a ∈ [Act.copyHeader f] ++ G ++ ([.describe text] ++ mid ++ [.substFrom f enc]), a.Covered f := by
    intro a ha
    simp only [List.mem_append, List.mem_cons, List.mem_nil_iff, or_false] at ha
    rcases ha with (rfl | hg) | (rfl | hm) | rfl
    · rfl
    · obtain ⟨spec, rfl, _⟩ := hG a hg; trivial
    · trivial
    · exact hcm a hm
    · rfl
  have hb := build_refines cfg s f F _ hF hcov
  rw [List.append_assoc, runActsPure_append] at hb
  simp only [runActsPure, Act.pure, snap0] at hb
  rw [runActsPure_append] at hb
  cases hg : runActsPure F G ⟨0, [], F.header, []⟩ with
  | error e => left; simp only [hg] at hb; exact ⟨e, rfl, hb⟩
  | ok R1 =>
    right
    simp only [hg] at hb
    obtain ⟨h1, h2, h3⟩ := runActsPure_groups F w G _ R1 hG hg
    obtain ⟨nv, cl, hd, gs⟩ := R1
    simp only [Nat.zero_add] at h1 h2 h3
    subst h1 h2 h3
    rw [List.append_assoc, runActsPure_append] at hb
    simp only [runActsPure, Act.pure] at hb
    rw [runActsPure_append, hmid gs] at hb
    simp only [runActsPure, Act.pure, Snap.cnf] at hb
    apply Refines.intro hb
    cases Subst.run ⟨w * G.length, init⟩ F.numvar enc F.clauses <;> rfl

theorem kSubst_refines (cfg : Cfg) (s : Store) (f : Addr) (F : Snap) (k : Int) (text : String)
    (enc : Nat → Int → List Clause) (labels : List String) (hF : snap s f = some F)
    (hl : inputLabels s f = .ok labels) (hn : labels.length = F.numvar) :
    (∃ e, runActsPure F (blockActs k labels) ⟨0, [], F.header, []⟩ = .error e ∧ 1 ≤ k ∧
        (kSubst cfg s f k text enc).2 = .error e) ∨
      Refines F text (Subst.kSubst F.cnf k enc) (kSubst cfg s f k text enc) := by
  unfold kSubst Subst.kSubst
  by_cases hk : k < 1
  · right; simp only [hk, if_true]; exact rfl
  · simp only [hk, if_false, hl]
    have h := groups_subst_refines cfg s f F (blockActs k labels) [] k.toNat text (enc k.toNat) [] hF
      (fun a ha => by
        simp only [blockActs, List.mem_map] at ha
        obtain ⟨nm, _, rfl⟩ := ha
        exact ⟨_, rfl, fun nv gs m g h => newGroup_block_numvar nv gs k _ (by omega) m g h⟩)
      (fun _ h => absurd h List.not_mem_nil) (fun _ => rfl)
    rw [show (blockActs k labels).length = F.numvar by rw [blockActs, List.length_map, hn]] at h
    rcases h with ⟨e, h1, h2⟩ | h
    · exact .inl ⟨e, h1, by omega, h2⟩
    · exact .inr h

/-- the arity-`k` substitutions: arity, header text, gadget encoder -/
def kParams : Tr → Option (Int × String × (Nat → Int → List Clause))
  | .xor k => some (k, Header.descr (.xor k), Subst.xorify)
  | .or k => some (k, Header.descr (.or k), Subst.orify)
  | .maj k => some (k, Header.descr (.maj k), Subst.majorify)
  | .allEqual k => some (k, Header.descr (.allEqual k), Subst.aesubst false)
  | .notAllEqual k => some (k, Header.descr (.notAllEqual k), Subst.aesubst true)
  | .exactlyOne k => some (k, Header.descr (.exactlyOne k), Subst.oneify)
  | .linear k o C => some (k, Header.descr (.linear k o C), Subst.linear o C)
  | _ => none

/-- the pure model of C05 for each covered transformation (`B`: the graph object's content for compression) -/
def pureModel (B : BipG) : Tr → CNF → Except Err CNF
  | .flip, F => Subst.flip F
  | .xor k, F => Subst.xorSubst F k
  | .or k, F => Subst.orSubst F k
  | .maj k, F => Subst.majSubst F k
  | .allEqual k, F => Subst.allEqual F k
  | .notAllEqual k, F => Subst.notAllEqual F k
  | .exactlyOne k, F => Subst.exactlyOne F k
  | .linear k o C, F => Subst.linearSubst F k o C
  | .ite, F => Subst.ifThenElse F
  | .compress _ fn, F => Subst.compress F B fn
  | .lift k, F => Subst.lifting F k
  | .shuffle _ _ _, _ => .error modelErr

theorem pureModel_kSubst (B : BipG) (t : Tr) (k : Int) (text : String) (enc : Nat → Int → List Clause)
    (ht : kParams t = some (k, text, enc)) (F : CNF) : pureModel B t F = Subst.kSubst F k enc := by
  cases t <;> simp only [kParams, Option.some.injEq, Prod.mk.injEq, reduceCtorEq] at ht
  all_goals (obtain ⟨rfl, rfl, rfl⟩ := ht)
  -- `not_all_equal` tests `k < 1` itself before `all_equal` does; the other six are `kSubst` by definition
  case notAllEqual => simp only [pureModel, Subst.notAllEqual, Subst.allEqual, Subst.kSubst]; split <;> rfl
  all_goals rfl

theorem apply_kSubst (cfg : Cfg) (t : Tr) (k : Int) (text : String) (enc : Nat → Int → List Clause)
    (ht : kParams t = some (k, text, enc)) (s : Store) (f : Addr) (F : Snap) (hF : snap s f = some F) :
    t.apply cfg s f = kSubst cfg s f k text enc := by
  cases t <;> simp only [kParams, Option.some.injEq, Prod.mk.injEq, reduceCtorEq] at ht
  all_goals (obtain ⟨rfl, rfl, rfl⟩ := ht)
  all_goals (unfold Tr.apply; simp only [hF])

/-- T-C19.R2 the seven arity-`k` substitutions (XorSubstitution, OrSubstitution, MajoritySubstitution,
AllEqualSubstitution, NotAllEqualSubstitution, ExactlyOneSubstitution, LinearSubstitution = AtLeastK / AtMostK /
ExactlyK / AnythingButK), for an input whose `all_variable_labels()` yields one label per variable (C11
`labels_aligned`: every formula built through the interface): either `new_block` refuses one of the derived labels
(then the call raises exactly that exception), or the call refines the pure model. -/
theorem substitution_refines (cfg : Cfg) (B : BipG) (t : Tr) (k : Int) (text : String) (enc : Nat → Int → List Clause)
    (ht : kParams t = some (k, text, enc)) (s : Store) (f : Addr) (F : Snap) (labels : List String)
    (hF : snap s f = some F) (hl : inputLabels s f = .ok labels) (hn : labels.length = F.numvar) :
    (∃ e, runActsPure F (blockActs k labels) ⟨0, [], F.header, []⟩ = .error e ∧ 1 ≤ k ∧
        (t.apply cfg s f).2 = .error e) ∨
      Refines F text (pureModel B t F.cnf) (t.apply cfg s f) := by
  rw [apply_kSubst cfg t k text enc ht s f F hF, pureModel_kSubst B t k text enc ht]
  exact kSubst_refines cfg s f F k text enc labels hF hl hn

/-- non-vacuity: the label refusal does not happen on the example, the refinement does -/
example : (Tr.apply cfgRef (.xor 2) storeRef 3).2.toOption = some 8 ∧
    (snap (Tr.apply cfgRef (.xor 2) storeRef 3).1 8).map (·.cnf) = (Subst.xorSubst ⟨2, [[1, -2]]⟩ 2).toOption := by
  decide +kernel

/-- the three rounds of `new_variable` of IfThenElseSubstitution -/
def iteGroupActs (labels : List String) : List Act :=
  labels.map (fun nm => .newGroup (.variable (some (wrapLabel "" nm "^{i}"))))
    ++ labels.map (fun nm => .newGroup (.variable (some (wrapLabel "" nm "^{t}"))))
    ++ labels.map (fun nm => .newGroup (.variable (some (wrapLabel "" nm "^{e}"))))

/-- T-C19.R3 IfThenElseSubstitution (`new_variable` never refuses a name, so there is no label alternative) -/
theorem ite_refines (cfg : Cfg) (s : Store) (f : Addr) (F : Snap) (labels : List String)
    (hF : snap s f = some F) (hl : inputLabels s f = .ok labels) (hn : labels.length = F.numvar) :
    Refines F (Header.descr .ite) (Subst.ifThenElse F.cnf) (Tr.ite.apply cfg s f) := by
  unfold Tr.apply
  simp only [hF, hl]
  have hvar : ∀ a ∈ iteGroupActs labels, ∃ lbl, a = .newGroup (.variable lbl) := by
    intro a ha
    simp only [iteGroupActs, List.mem_append, List.mem_map] at ha
    rcases ha with (⟨nm, _, rfl⟩ | ⟨nm, _, rfl⟩) | ⟨nm, _, rfl⟩ <;> exact ⟨_, rfl⟩
  -- `new_variable` cannot fail
  have hok : ∀ (acts : List Act) (R : Snap), (∀ a ∈ acts, ∃ lbl, a = .newGroup (.variable lbl)) →
      ∃ R', runActsPure F acts R = .ok R' := by
    intro acts
    induction acts with
    | nil => intro R _; exact ⟨R, rfl⟩
    | cons a as ih =>
      intro R hall
      obtain ⟨lbl, rfl⟩ := hall a (by simp)
      simp only [runActsPure, Act.pure, Vars.newGroup, Vars.mkGroup, Vars.addGroup, Vars.Group.len,
        Vars.Group.start, Nat.one_ne_zero, if_false]
      have : ¬ (R.numvar + 1 ≤ R.numvar) := by omega
      simp only [this, if_false]
      exact ih _ (fun a' ha' => hall a' (by simp [ha']))
  have e : 1 * (iteGroupActs labels).length = 3 * F.numvar := by
    simp only [iteGroupActs, List.length_append, List.length_map, hn]; omega
  have h := groups_subst_refines cfg s f F (iteGroupActs labels) [] 1 (Header.descr .ite) (Subst.ite F.numvar) [] hF
    (fun a ha => by
      obtain ⟨lbl, rfl⟩ := hvar a ha
      exact ⟨_, rfl, fun nv gs m g h => newGroup_variable_numvar nv gs _ m g h⟩)
    (fun _ h => absurd h List.not_mem_nil) (fun _ => rfl)
  rw [e] at h
  rw [show ([Act.copyHeader f]
      ++ labels.map (fun nm => Act.newGroup (.variable (some (wrapLabel "" nm "^{i}"))))
      ++ labels.map (fun nm => Act.newGroup (.variable (some (wrapLabel "" nm "^{t}"))))
      ++ labels.map (fun nm => Act.newGroup (.variable (some (wrapLabel "" nm "^{e}"))))
      ++ [Act.describe (Header.descr .ite), Act.substFrom f (Subst.ite F.numvar)]) =
      [Act.copyHeader f] ++ iteGroupActs labels ++
        ([Act.describe (Header.descr .ite)] ++ [] ++ [Act.substFrom f (Subst.ite F.numvar)]) by
    simp [iteGroupActs, List.append_assoc]]
  rcases h with ⟨e', h1, _⟩ | h
  · obtain ⟨R1, hR1⟩ := hok (iteGroupActs labels) ⟨0, [], F.header, []⟩ hvar
    rw [hR1] at h1; cases h1
  · exact h

/-- T-C19.R4 VariableCompression with the graph OBJECT `b` of the caller (content `B`): same argument checks in the
same order, same formula; the graph object is only read (FRAME) -/
theorem compress_refines (cfg : Cfg) (s : Store) (f b : Addr) (fn : Int) (F : Snap) (B : BipG)
    (hF : snap s f = some F) (hB : readBipG s b = some B) :
    Refines F (Header.descr (.compress fn B.l B.r)) (Subst.compress F.cnf B fn) ((Tr.compress b fn).apply cfg s f) := by
  unfold Tr.apply Subst.compress
  simp only [hF, hB]
  by_cases h1 : fn ≠ 0 ∧ fn ≠ 1
  · rw [if_pos h1, if_pos h1]; exact rfl
  · rw [if_neg h1, if_neg h1]
    by_cases h2 : B.l ≠ F.numvar
    · have h2' : B.l ≠ F.cnf.nvars := h2
      rw [if_pos h2', if_pos h2]; exact rfl
    · have h2' : ¬ B.l ≠ F.cnf.nvars := h2
      rw [if_neg h2', if_neg h2]
      have hb := build_refines cfg s f F
        [.copyHeader f, .updVar B.r, .describe (Header.descr (.compress fn B.l B.r)),
          .substFrom f (if fn = 0 then Subst.applyxor B else Subst.applymaj B)] hF
        (by intro a ha; simp at ha; rcases ha with rfl | rfl | rfl | rfl <;> simp [Act.Covered])
      have hn : ¬ ((B.r : Int) < 0) := by omega
      simp only [runActsPure, Act.pure, hn, if_false, snap0, Snap.cnf, Int.toNat_natCast, Nat.zero_max] at hb
      apply Refines.intro hb
      simp only [Snap.cnf]
      cases Subst.run ⟨B.r, []⟩ F.numvar (if fn = 0 then Subst.applyxor B else Subst.applymaj B) F.clauses <;> rfl

/-- the two `new_block` calls per original variable of FormulaLifting -/
def liftGroupActs (k : Int) (labels : List String) : List Act :=
  labels.flatMap (fun nm => [.newGroup (.block [k] (some (wrapLabel "X_" nm "^{}"))),
                             .newGroup (.block [k] (some (wrapLabel "Y_" nm "^{}")))])

theorem liftGroupActs_length (k : Int) : ∀ labels : List String, (liftGroupActs k labels).length = 2 * labels.length
  | [] => rfl
  | a :: as => by
    have ih := liftGroupActs_length k as
    simp only [liftGroupActs, List.flatMap_cons, List.length_append, List.length_cons, List.length_nil] at ih ⊢
    omega

/-- T-C19.R6 FormulaLifting: the blocks, the selector constraints (which read the variable count of the half-built
result and do not raise it), the lifted clauses -/
theorem lift_refines (cfg : Cfg) (s : Store) (f : Addr) (F : Snap) (k : Int) (labels : List String)
    (hF : snap s f = some F) (hl : inputLabels s f = .ok labels) (hn : labels.length = F.numvar) :
    (∃ e, runActsPure F (liftGroupActs k labels) ⟨0, [], F.header, []⟩ = .error e ∧ 1 ≤ k ∧
        ((Tr.lift k).apply cfg s f).2 = .error e) ∨
      Refines F (Header.descr (.lift k)) (Subst.lifting F.cnf k) ((Tr.lift k).apply cfg s f) := by
  unfold Tr.apply Subst.lifting
  simp only [hF]
  by_cases hk : k < 1
  · right; rw [if_pos hk, if_pos hk]; exact rfl
  · rw [if_neg hk, if_neg hk]
    simp only [hl]
    have e : k.toNat * (liftGroupActs k labels).length = 2 * k.toNat * F.numvar := by
      rw [liftGroupActs_length, hn, Nat.mul_comm 2 k.toNat, Nat.mul_assoc]
    have h := groups_subst_refines cfg s f F (liftGroupActs k labels) [.liftSelectors k.toNat] k.toNat
      (Header.descr (.lift k)) (Subst.lift k.toNat) (Subst.selectors k.toNat F.numvar) hF
      (fun a ha => by
        simp only [liftGroupActs, List.mem_flatMap, List.mem_cons, List.mem_nil_iff, or_false] at ha
        obtain ⟨nm, _, rfl | rfl⟩ := ha <;>
          exact ⟨_, rfl, fun nv gs m g h => newGroup_block_numvar nv gs k _ (by omega) m g h⟩)
      (fun a ha => by rw [List.mem_singleton.1 ha]; trivial)
      (fun gs => by
        rw [e]
        simp only [runActsPure, Act.pure]
        rw [addLinearAllPure_bounded .eq 1 _ _ (selectorLists_bounded k.toNat F.numvar (by omega)), List.nil_append,
          ← selectors_eq])
    rw [e] at h
    rcases h with ⟨e', h1, h2⟩ | h
    · exact .inl ⟨e', h1, by omega, h2⟩
    · exact .inr h

/-- the pure model of `Shuffle(F, fl, vp, cp)` for arguments that are `'fixed'` (`none`) or explicit sequences:
the three argument blocks in the code's order, then `Shuffle.core` (C09) -/
def shufflePure (F : CNF) (fl vp cp : Option (List Int)) : Except Err CNF :=
  match resolveFlips F.nvars fl with
  | .error e => .error e
  | .ok fl' =>
    match resolveVperm F.nvars vp with
    | .error e => .error e
    | .ok vp' =>
      match resolveCperm F.clauses.length cp with
      | .error e => .error e
      | .ok mapping => Shuffle.core F fl' vp' mapping

def argOf : Option (List Int) → Shuffle.Arg
  | none => .fixed
  | some l => .explicit l

theorem resolveFlips_argOf (N : Nat) (fl : Option (List Int)) (ds : List Shuffle.Draw) :
    Shuffle.resolveFlips N (argOf fl) ds = some (resolveFlips N fl, ds) := by
  cases fl with
  | none => rfl
  | some l => simp only [argOf, Shuffle.resolveFlips, resolveFlips]; cases Shuffle.checkFlips N l <;> rfl

theorem resolveVperm_argOf (N : Nat) (vp : Option (List Int)) (ds : List Shuffle.Draw) :
    Shuffle.resolveVperm N (argOf vp) ds = some (resolveVperm N vp, ds) := by
  cases vp with
  | none => rfl
  | some l => simp only [argOf, Shuffle.resolveVperm, resolveVperm]; cases Shuffle.checkPerm 1 N l <;> rfl

theorem resolveCperm_argOf (M : Nat) (cp : Option (List Int)) (ds : List Shuffle.Draw) :
    Shuffle.resolveCperm M (argOf cp) ds = some (resolveCperm M cp, ds) := by
  cases cp with
  | none => rfl
  | some l => simp only [argOf, Shuffle.resolveCperm, resolveCperm]; cases Shuffle.checkPerm 0 M l <;> rfl

/-- it is the general model of C09 run without draws -/
theorem shufflePure_eq_run (F : CNF) (fl vp cp : Option (List Int)) :
    Shuffle.run F (argOf fl) (argOf vp) (argOf cp) [] = some (shufflePure F fl vp cp, []) := by
  unfold Shuffle.run shufflePure
  rw [resolveFlips_argOf]
  cases resolveFlips F.nvars fl with
  | error e => rfl
  | ok fl' =>
    dsimp only
    rw [resolveVperm_argOf]
    cases resolveVperm F.nvars vp with
    | error e => rfl
    | ok vp' =>
      dsimp only
      rw [resolveCperm_argOf]
      cases resolveCperm F.clauses.length cp <;> rfl

/-- the four statements `Shuffle` executes on `out` before it looks at its arguments never fail -/
theorem shuffle_pre_pure (cfg : Cfg) (F : Snap) (f : Addr) :
    runActsPure F [.copyHeader f, .reshuffled, .describe "Formula reshuffling", .updVar F.numvar] (snap0 cfg) =
      .ok ⟨F.numvar, [], Shuffle.shuffleHeader F.header, []⟩ := by
  have hn : ¬ ((F.numvar : Int) < 0) := by omega
  simp only [runActsPure, Act.pure, hn, if_false, snap0, Int.toNat_natCast, Nat.zero_max]
  congr 2
  rw [(addDescription_spec _ _).1]
  rfl

/-- the statement list `Shuffle` puts together and the deferred argument error, against the pure model: lists only -/
theorem shuffleActs_pure (cfg : Cfg) (F : Snap) (f : Addr) (fl vp cp : Option (List Int)) :
    (∀ a ∈ (shuffleActs f F.numvar F.clauses.length fl vp cp).1, a.Covered f) ∧
    outcome (runActsPure F (shuffleActs f F.numvar F.clauses.length fl vp cp).1 (snap0 cfg))
        (shuffleActs f F.numvar F.clauses.length fl vp cp).2 =
      match shufflePure F.cnf fl vp cp with
      | .error e => .error e
      | .ok G => .ok ⟨G.nvars, G.clauses, Shuffle.shuffleHeader F.header, []⟩ := by
  have hpre := shuffle_pre_pure cfg F f
  have hcpre : ∀ a ∈ [Act.copyHeader f, .reshuffled, .describe "Formula reshuffling", .updVar F.numvar],
      a.Covered f := by
    intro a ha; simp at ha; rcases ha with rfl | rfl | rfl | rfl <;> simp [Act.Covered]
  unfold shufflePure shuffleActs
  simp only [Snap.cnf]
  cases resolveFlips F.numvar fl with
  | error e => exact ⟨hcpre, by simp only [hpre, outcome]⟩
  | ok fl' =>
    cases resolveVperm F.numvar vp with
    | error e => exact ⟨hcpre, by simp only [hpre, outcome]⟩
    | ok vp' =>
      cases resolveCperm F.clauses.length cp with
      | error e => exact ⟨hcpre, by simp only [hpre, outcome]⟩
      | ok mapping =>
        simp only [Shuffle.core]
        cases Shuffle.substTable F.numvar fl' vp' with
        | error e => exact ⟨hcpre, by simp only [hpre, outcome]⟩
        | ok tbl =>
          refine ⟨?_, ?_⟩
          · intro a ha
            rcases List.mem_append.1 ha with ha | ha
            · exact hcpre a ha
            · simp only [List.mem_singleton] at ha; subst ha; rfl
          · rw [runActsPure_append, hpre]
            simp only [runActsPure, Act.pure, Snap.cnf]
            cases Shuffle.foldE (Shuffle.loadStep ⟨F.numvar, F.clauses⟩ tbl) ⟨F.numvar, []⟩ mapping <;> rfl

/-- T-C19.R5 Shuffle with each argument `'fixed'` or an explicit list OBJECT of the caller (`'shuffle'` draws a new
list and then behaves like an explicit one — C09 `general_call`): same outcome as the pure model of C09, the returned
object's clauses / variable count are the pure result, its header is `shuffleHeader` of the input's (C09
`header_entry`), it has no variable groups. -/
theorem shuffle_refines (cfg : Cfg) (s : Store) (f : Addr) (F : Snap) (fl vp cp : Option Addr)
    (fl' vp' cp' : Option (List Int)) (hF : snap s f = some F)
    (h1 : readArg s fl = some fl') (h2 : readArg s vp = some vp') (h3 : readArg s cp = some cp') :
    match shufflePure F.cnf fl' vp' cp' with
    | .ok G => ∃ r R, ((Tr.shuffle fl vp cp).apply cfg s f).2 = .ok r ∧
        snap ((Tr.shuffle fl vp cp).apply cfg s f).1 r = some R ∧ R.cnf = G ∧
        R.header = Shuffle.shuffleHeader F.header ∧ R.groups = []
    | .error e => ((Tr.shuffle fl vp cp).apply cfg s f).2 = .error e := by
  have happ : (Tr.shuffle fl vp cp).apply cfg s f =
      buildChk cfg s (shuffleActs f F.numvar F.clauses.length fl' vp' cp').1
        (shuffleActs f F.numvar F.clauses.length fl' vp' cp').2 := by
    unfold Tr.apply; simp only [hF, h1, h2, h3]; rfl
  obtain ⟨hcov, hpure⟩ := shuffleActs_pure cfg F f fl' vp' cp'
  have := buildChk_refines cfg s f F _ (shuffleActs f F.numvar F.clauses.length fl' vp' cp').2 hF hcov
  rw [hpure, ← happ] at this
  generalize shufflePure F.cnf fl' vp' cp' = P at this ⊢
  cases P with
  | error e => exact this
  | ok G => obtain ⟨r, e1, e2⟩ := this; exact ⟨r, _, e1, e2, rfl, rfl, rfl⟩

end Cnfgen.C19
