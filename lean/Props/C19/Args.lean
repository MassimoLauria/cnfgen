/-
C19 — "building a formula from a graph or passing lists of literals, patterns or charges leaves those arguments unchanged":
the arguments of the GENERATORS on the heap model (Heap/Args.lean).  Three parts: what the source applies to its graph names (table
`Generated.graphUses`, regenerated by tools/extract_graph_uses.py from the current source on every run); FRAME for every family
program — no cell that existed before the call is written, the returned formula is a new object; and O1, the one place where a
reference to the caller's graph is KEPT (`BipartiteEdgesVariables.__init__`; replay: notes/C19.md, harness suite `args_o1`).
-/
import CnfgenModel.Heap.Args
import CnfgenModel.Heap.Prog
import CnfgenModel.Generated.GraphUses
import Lemmas.HeapTrans
import Lemmas.HeapMut
namespace Cnfgen.C19
open Cnfgen Cnfgen.Heap Cnfgen.Generated
local notation "Addr" => Nat

/-! ### 1. what the generators apply to their graph objects (regenerated table) -/

/-- reviewed: methods of graphs.py that read only (none of them assigns an attribute, calls `append` / `insert` / `remove` /
`sort` / `add` on an attribute, or hands out an internal list: generators yield integers, `*_neighbors` return `[:]`) -/
def readOnlyMethods : List String :=
  ["order", "number_of_vertices", "number_of_edges", "vertices", "edges", "has_edge", "neighbors", "degree",
   "predecessors", "successors", "in_degree", "out_degree", "is_dag", "is_bipartite", "parts", "left_order", "right_order",
   "left_neighbors", "right_neighbors", "left_degree", "right_degree"]

/-- reviewed: attributes read (immutable values) -/
def readOnlyAttrs : List String := ["name"]

/-- reviewed: callables a graph object may be handed to.  Each is either a builtin that reads (`isinstance`), or a function /
class whose own uses are rows of the same table (checked by `passCalleesAnalysed`). -/
def passCallees : List String :=
  ["isinstance", "new_graph_edges", "new_digraph_edges", "new_bipartite_edges", "new_sparse_mapping",
   "GraphEdgesVariables", "DiGraphEdgesVariables", "BipartiteEdgesVariables", "UnaryMappingVariables", "__init__",
   "TseitinFormula", "GraphIsomorphism", "SparseStoneFormula", "non_edges", "unique_neighborhoods"]

def normClasses : List String := ["Graph", "DirectedGraph", "BipartiteGraph"]

/-- is this use read-only?  `keep` (a stored reference) is allowed in one place only, see `refKeptOnlyByBipartiteGroup` -/
def useOK : GUse → Bool
  | .call m => readOnlyMethods.contains m
  | .attr a => readOnlyAttrs.contains a
  | .pass_ f _ => passCallees.contains f
  | .passKw _ _ => false
  | .norm c => normClasses.contains c
  | .bind => true
  | .store _ => false
  | .keep s => s == "self.G"
  | .item => false
  | .other _ => false

/-- the rows in which something is not read-only (printed in the goal when the proof breaks) -/
def offending : List (String × String × List GUse) :=
  (graphUses.map (fun r => (r.1, r.2.1, r.2.2.filter (fun u => !useOK u)))).filter (fun r => !r.2.2.isEmpty)

/-- T-C19.A1 — every function of cnfgen/families/*.py, `VariableCompression` and every variable-group class uses its graph
objects ONLY through the reviewed read-only methods / attributes / callees.  A family that starts calling `G.add_edge`,
`G.remove_edge`, `G.update_vertex_number`, touching `G.adjlist[…]`, assigning `G.name = …`, storing the graph somewhere or
passing it to an unreviewed function makes `offending` non-empty: the build, hence the check, fails. -/
theorem families_use_graphs_read_only : offending = [] := by decide +kernel

/-- the functions of the table -/
def analysed : List String := graphUses.map (fun r => r.2.1)

/-- a callee name is analysed if it is a row, a class whose `__init__` is a row, or a method `<Class>.<name>` that is a row -/
def calleeAnalysed (f : String) : Bool :=
  f == "isinstance" || f == "__init__" || analysed.contains f || analysed.contains (f ++ ".__init__") ||
    analysed.any (fun q => q.endsWith ("." ++ f))

/-- T-C19.A2 — every callable that receives a graph object is itself analysed by the table (so A1 covers what it does) -/
theorem passCalleesAnalysed : passCallees.all calleeAnalysed = true := by decide +kernel

/-- where a reference to the caller's graph is kept in a new object -/
def keepers : List String :=
  (graphUses.filter (fun r => r.2.2.any (fun u => match u with | .keep _ => true | _ => false))).map (fun r => r.2.1)

/-- T-C19.A3 (O1, located) — the only statement that keeps a reference to the caller's graph is `self.G = G` in
`BipartiteEdgesVariables.__init__` (inherited by `UnaryMappingVariables`): the groups made by `new_bipartite_edges` and
`new_sparse_mapping`.  `GraphEdgesVariables` / `DiGraphEdgesVariables` keep nothing. -/
theorem refKeptOnlyByBipartiteGroup : keepers = ["BipartiteEdgesVariables.__init__"] := by decide +kernel

/-- the table is not empty: the families with graph arguments are all there -/
theorem table_covers_families :
    ["TseitinFormula", "GraphPigeonholePrinciple", "PebblingFormula", "SubsetCardinalityFormula", "GraphColoringFormula",
     "GraphOrderingPrinciple", "CliqueFormula", "SubgraphFormula", "GraphIsomorphism", "DominatingSet", "Tiling",
     "PerfectMatchingPrinciple", "StoneFormula", "SparseStoneFormula", "PitfallFormula", "EvenColoringFormula",
     "RamseyWitnessFormula", "BinaryCliqueFormula", "GraphAutomorphism", "VariableCompression"].all analysed.contains = true := by
  decide +kernel

/-! ### 2. frame, for every family program -/

theorem runFam_inv (P : Store → Prop) (r : Addr) (args : List Addr)
    (hact : ∀ s a, P s → P (runAct s r a).1) (hcl : ∀ s xs c, P s → P (addClauseVals s r xs c).1)
    (hlin : ∀ s xs op c, P s → P (addLinear s r xs op c).1) (hgrp : ∀ s a n, P s → P (alloc s (.bgroup a n)).1) :
    ∀ (p : FamProg) (s : Store), P s → P (runFam r args s p).1 := by
  intro p
  induction p with
  | ret => intro s h; exact h
  | raise e => intro s h; exact h
  | readG i k ih | readL i k ih | readLL i k ih =>
    intro s h; rw [runFam]; split
    · exact h
    · split
      · exact h
      · exact ih _ s h
  | act a k ih =>
    intro s h; rw [runFam]
    have h1 := hact s a h
    split
    · rename_i s1 e heq; rw [heq] at h1; exact h1
    · rename_i s1 u heq; rw [heq] at h1; exact ih s1 h1
  | clause xs c k ih =>
    intro s h; rw [runFam]
    have h1 := hcl s xs c h
    split
    · rename_i s1 e heq; rw [heq] at h1; exact h1
    · rename_i s1 u heq; rw [heq] at h1; exact ih s1 h1
  | linear xs op c k ih =>
    intro s h; rw [runFam]
    have h1 := hlin s xs op c h
    split
    · rename_i s1 e heq; rw [heq] at h1; exact h1
    · rename_i s1 u heq; rw [heq] at h1; exact ih s1 h1
  | keepRef i k ih =>
    intro s h; rw [runFam]; split
    · exact h
    · exact ih _ _ (hgrp s _ _ h)

/-- THE GENERIC DISCIPLINE for generators: whatever a family reads from its arguments and however its continuation depends
on it, the body writes only through the new formula `r` -/
theorem acts_runFam {s0 : Store} {r : Addr} (args : List Addr) :
    ∀ (p : FamProg) (s : Store), Acts r s0 s → Acts r s0 (runFam r args s p).1 :=
  runFam_inv (Acts r s0) r args (fun _ a h => acts_runAct a h) (fun _ xs c h => acts_addClauseVals xs c h)
    (fun _ xs op c h => acts_addLinear xs op c h) (fun _ _ _ h => h.leaf _ rfl)

theorem good_runFam {s0 : Store} {r : Addr} (args : List Addr) (hr : s0.size ≤ r) :
    ∀ (p : FamProg) (s : Store), Good s0 s → Good s0 (runFam r args s p).1 :=
  fun p s h => (acts_runFam args p s .refl).good h hr

theorem good_allocConv {s0 s : Store} (h : Good s0 s) (c : Except Err Cell)
    (hc : ∀ c', c = .ok c' → c'.refsOf = []) : Good s0 (allocConv s c).1 := by
  unfold allocConv
  split
  · rename_i c' ; exact good_alloc h (by rw [hc c' rfl]; simp)
  · exact h

theorem good_normalize {s0 s : Store} (cls : GKind) (a : Addr) (h : Good s0 s) : Good s0 (normalize s cls a).1 := by
  unfold normalize
  split
  · exact h
  · exact h
  · exact h
  · apply good_allocConv h
    intro c' hc'
    simp only [Except.map] at hc'
    split at hc' <;> cases hc'
    rfl
  · apply good_allocConv h
    intro c' hc'
    simp only [Except.map] at hc'
    split at hc' <;> cases hc'
    rfl
  · split
    · apply good_allocConv h
      intro c' hc'; cases hc'; rfl
    · exact h
  · exact h

theorem good_normAll {s0 : Store} : ∀ (ns : List (Nat × GKind)) (s : Store) (args : List Addr), Good s0 s →
    Good s0 (normAll s args ns).1
  | [], s, args, h => by simpa [normAll] using h
  | (i, cls) :: ns, s, args, h => by
    rw [normAll]
    split
    · exact h
    · rename_i a _
      have h1 := good_normalize cls a h
      split
      · rename_i s1 e heq; rw [heq] at h1; exact h1
      · rename_i s1 b heq; rw [heq] at h1; exact good_normAll ns s1 _ h1

/-- every call of every family: the discipline, and the returned formula is a new object -/
theorem disciplined_famCall (cfg : Cfg) (s : Store) (args : List Addr) (norms : List (Nat × GKind)) (d : Option String)
    (body : FamProg) : Disciplined s (famCall cfg s args norms d body) := by
  unfold Disciplined famCall
  have h1 := good_normAll norms s args (Good.refl s)
  split
  · rename_i s1 e heq; rw [heq] at h1; exact ⟨h1, by intro r hr; cases hr⟩
  · rename_i s1 args1 heq
    rw [heq] at h1
    obtain ⟨h2, hr⟩ := good_newCNF cfg d h1
    have hlt := newCNF_addr_lt cfg s1 d
    have ha := acts_runFam (r := (newCNF cfg s1 d).2) args1 body (newCNF cfg s1 d).1 .refl
    have h3 := ha.good h2 hr
    have hsz := ha.size_le
    simp only []
    split
    · rename_i s2 e heq2; rw [heq2] at h3; exact ⟨h3, by intro r hr'; cases hr'⟩
    · rename_i s2 u heq2
      rw [heq2] at h3 hsz
      refine ⟨h3, ?_⟩
      intro r' hr'
      cases hr'
      dsimp only at hlt hsz hr ⊢
      exact ⟨hr, by omega⟩

/-- T-C19.A4 FRAME for generators.  For every family program (arbitrary continuations), every store, every argument list,
every list of normalisations, at the normal exit and at every exceptional exit (TypeError / ValueError of a normalisation,
any exception of the body): no object that existed before the call is modified. -/
theorem args_frame (cfg : Cfg) (s : Store) (args : List Addr) (norms : List (Nat × GKind)) (d : Option String)
    (body : FamProg) :
    s.size ≤ (famCall cfg s args norms d body).1.size ∧
      ∀ a, a < s.size → (famCall cfg s args norms d body).1[a]? = s[a]? :=
  ⟨(disciplined_famCall cfg s args norms d body).1.size_le, (disciplined_famCall cfg s args norms d body).1.frame⟩

/-- T-C19.A5 the ARGUMENTS are exactly as they were — at every exit:
graph objects (cnfgen and networkx) keep their value, lists of integers (charges, literals, permutations) their content,
lists of lists (planted assignments) their deep content and the very objects they consist of. -/
theorem arguments_untouched (cfg : Cfg) (s : Store) (args : List Addr) (norms : List (Nat × GKind)) (d : Option String)
    (body : FamProg) (a : Addr) (ha : a < s.size) :
    let s' := (famCall cfg s args norms d body).1
    readGraph s' a = readGraph s a ∧ readInts s' a = readInts s a ∧ readRefs s' a = readRefs s a ∧
      s'[a]? = s[a]? ∧ (∀ v, readNested s a = some v → readNested s' a = some v) := by
  intro s'
  have hf := (args_frame cfg s args norms d body).2
  have e : s'[a]? = s[a]? := hf a ha
  refine ⟨by unfold readGraph; rw [e], by unfold readInts; rw [e], by unfold readRefs; rw [e], e, ?_⟩
  intro v hv
  unfold readNested at hv ⊢
  have e2 : readRefs s' a = readRefs s a := by unfold readRefs; rw [e]
  rw [e2]
  cases h1 : readRefs s a with
  | none => simp [h1] at hv
  | some as =>
    simp only [h1] at hv ⊢
    -- a deep read that succeeded touches old cells only
    rw [readIntsAll_congr fun b hb => hf b (readIntsAll_inbounds hv b hb)]
    exact hv

/-- T-C19.A6 the returned formula is a NEW object: it is none of the arguments, nor anything else that existed -/
theorem result_is_new (cfg : Cfg) (s : Store) (args : List Addr) (norms : List (Nat × GKind)) (d : Option String)
    (body : FamProg) (r : Addr) (hr : (famCall cfg s args norms d body).2 = .ok r) : s.size ≤ r :=
  ((disciplined_famCall cfg s args norms d body).2 r hr).1

/-- T-C19.A7 `normalize` on a cnfgen graph of the class: the SAME object, nothing allocated, nothing written -/
theorem normalize_same_object (s : Store) (a : Addr) :
    (∀ G, s[a]? = some (.graph G) → normalize s .simple a = (s, .ok a)) ∧
    (∀ D, s[a]? = some (.dig D) → normalize s .directed a = (s, .ok a)) ∧
    (∀ B, s[a]? = some (.bipg B) → normalize s .bipartite a = (s, .ok a)) := by
  refine ⟨?_, ?_, ?_⟩ <;> intro G h <;> simp [normalize, h]

/-- T-C19.A8 `normalize` on a networkx object: when it succeeds the result is a FRESH object (the next address), the
networkx object is still there unchanged; at every exit no old cell is written -/
theorem normalize_nx_fresh (s : Store) (cls : GKind) (a : Addr) (dir : Bool) (n : Nat) (es : List (Nat × Nat))
    (h : s[a]? = some (.nx dir n es)) :
    (∀ b, (normalize s cls a).2 = .ok b → b = s.size ∧ b ≠ a) ∧ (normalize s cls a).1[a]? = some (.nx dir n es) ∧
      ∀ x, x < s.size → (normalize s cls a).1[x]? = s[x]? := by
  have hg := good_normalize cls a (Good.refl s)
  have ha := lt_size_of_getElem? h
  refine ⟨?_, by rw [hg.frame a ha]; exact h, hg.frame⟩
  intro b hb
  have key : ∀ c : Except Err Cell, (allocConv s c).2 = .ok b → b = s.size := by
    intro c hc
    unfold allocConv at hc
    split at hc
    · simp [alloc] at hc; exact hc.symm
    · cases hc
  have : b = s.size := by
    unfold normalize at hb
    rw [h] at hb
    cases cls <;> cases dir <;> simp only [] at hb
    · exact key _ hb
    · exact key _ hb
    · cases hb
    · exact key _ hb
    · split at hb
      · exact key _ hb
      · cases hb
    · split at hb
      · exact key _ hb
      · cases hb
  exact ⟨this, by omega⟩

/-! ### 3. O1: the group keeps a reference to the caller's graph -/

/-- T-C19.A9 whatever is done to a formula `x` through its own interface (any history of `Mut`s: add_clause, writes through
iteration aliases, header entries, update_variable_number, new groups, add_description) NEVER writes an object outside the
formula's footprint — in particular never the caller's graph `g` a group of the formula refers to, nor the group object -/
theorem formula_never_writes_graph {s : Store} {x g : Addr} (hx : WT s x) (hg : g < s.size) (hsep : g ∉ footprint s x)
    (ms : List Mut) : (runMuts x s ms)[g]? = s[g]? ∧ readGraph (runMuts x s ms) g = readGraph s g := by
  have st := step_runMuts ms s hx
  have e := st.touch g hg hsep
  exact ⟨e, by unfold readGraph; rw [e]⟩

/-- T-C19.A10 what the live group object enumerates is a function of the CURRENT content of the graph object it refers to:
after the caller's `B.add_edge(u, v)` it enumerates the edges of the edited graph -/
theorem group_follows_graph {s : Store} {a g first : Addr} {B B' : BipG} (ha : s[a]? = some (.bgroup g first))
    (hg : s[g]? = some (.bipg B)) (u v : Int) (hadd : B.addEdge u v = .ok B') :
    bgroupEdges s a = some B.edges ∧
      bgroupEdges (graphAddEdge s g u v).1 a = some B'.edges := by
  have hne : g ≠ a := by intro e; rw [e, ha] at hg; cases hg
  have hgs := lt_size_of_getElem? hg
  refine ⟨by simp [bgroupEdges, ha, hg], ?_⟩
  unfold graphAddEdge
  rw [hg]
  simp only [hadd]
  unfold bgroupEdges
  rw [get_write_ne hne, ha]
  simp only []
  rw [get_write_eq hgs]

/-- while the graph is as it was when the group was made, the live group answers exactly what the by-value group of the
heap model answers: `liveNames1` is `all_variable_labels` -/
theorem liveNames1_unchanged (numvar st : Nat) (B : BipG) (fmt : String) (un : Bool) (cl : List Clause) :
    liveNames1 numvar st B B fmt un = Vars.allLabels ⟨numvar, [.bip st B fmt un], cl⟩ := by
  unfold liveNames1 Vars.allLabels
  by_cases h0 : B.numberOfEdges = 0
  · simp [h0, Vars.allLabelsLoop, Vars.Group.len]
  · simp only [h0, if_false, Vars.allLabelsLoop, Vars.Group.len, Vars.groupNames, Vars.Group.start]
    cases Vars.defaultNames "x{}" 1 st with
    | error e => rfl
    | ok gap =>
      cases (Vars.Group.bip st B fmt un).allLabels with
      | error e => rfl
      | ok ls => simp [bind, Except.bind, pure, Except.pure]

/-- T-C19.A10' as long as the caller has not edited the graph, the names of the formula read through the live group are
the names of its snapshot (so every theorem about `snap` / `Snap.names` speaks about the real answer); the reference
matters only after an edit by the caller -/
theorem liveNames_unchanged {s : Store} {f g first st : Addr} {S : Snap} {B : BipG} {fmt : String} {un : Bool}
    (hS : snap s f = some S) (hgr : S.groups = [.bip st B fmt un]) (hp : s[f + 1]? = some (.bgroup g first))
    (hg : s[g]? = some (.bipg B)) : liveNames s f = some S.names := by
  unfold liveNames
  rw [hS]
  simp only [hp, hgr, hg]
  rw [liveNames1_unchanged _ _ _ _ _ S.clauses, Snap.names, hgr]

/-- the replay of notes/C19.md on the model: `B = BipartiteGraph(2,2)` with the edges (1,1), (2,2);
`F = GraphPigeonholePrinciple(B)`; `p` = the group object; then the caller's `B.add_edge(1,2)` -/
def o1Prog : List Instr :=
  [.mkBip ((BipG.ofEdges 2 2 [(1, 1), (2, 2)]).toOption.getD (BipG.init 0 0)),
   .gphp 0 false false "Graph pigeonhole principle formula on a bipartite graph",
   .liveGroup 1,
   .gAddEdge 0 1 2]

/-- the observations of T-C19.A11 (O1, the documented behaviour, NOT a violation of C19: the ARGUMENT is left unchanged by the call; the
RESULT is not independent of what the caller does to the graph afterwards).  On the replay: the call leaves the graph cell
as it was; the group object holds the address of the caller's graph (same alias class); before the edit it enumerates the
two edges, after the edit three — while the formula still has two variables; `all_variable_labels` has two labels before
and THREE after (for two variables). -/
def o1Obs : Option (Bool × Bool × Option (List (Nat × Nat)) × Option (List (Nat × Nat)) × Option Nat × Option Nat ×
    Option Nat × Option Nat) :=
    (do let m1 ← runProg ⟨[]⟩ Machine.init (o1Prog.take 1)
        let m3 ← runProg ⟨[]⟩ Machine.init (o1Prog.take 3)
        let m4 ← runProg ⟨[]⟩ Machine.init o1Prog
        let g ← m3.reg 0; let f ← m3.reg 1; let p ← m3.reg 2
        pure (m3.store[g]? == m1.store[g]?,
              slots m3.store p == [p, g],
              bgroupEdges m3.store p, bgroupEdges m4.store p,
              (snap m3.store f).map (·.cnf.nvars), (snap m4.store f).map (·.cnf.nvars),
              (liveNames m3.store f).bind (fun r => r.toOption.map List.length),
              (liveNames m4.store f).bind (fun r => r.toOption.map List.length)))

/-- T-C19.A11: what the replay shows, evaluated -/
theorem o1_replay : o1Obs
      = some (true, true, some [(1, 1), (2, 2)], some [(1, 1), (1, 2), (2, 2)], some 2, some 2, some 2, some 3) := by
  rfl

/-! ### non-vacuity -/

def storeA : Store :=
  #[.graph ((SimpleG.ofEdges 3 [(1, 2), (2, 3), (1, 3)]).toOption.getD (SimpleG.init 0)), .ints [1, 0, 1],
    .nx false 3 [(1, 2), (2, 3)], .ints [1, -2], .ints [-1, 2], .refs [3, 4]]

example : (famCall ⟨[]⟩ storeA [0, 1] [(0, .simple)] (some "T") (tseitinProg true)).2.toOption = some 9 ∧
    (snap (famCall ⟨[]⟩ storeA [0, 1] [(0, .simple)] (some "T") (tseitinProg true)).1 9).map (·.cnf.clauses.length)
      = some 6 := by decide +kernel

/-- a networkx argument: converted into the fresh cell 6, the formula is cell 10 -/
example : (famCall ⟨[]⟩ storeA [2] [(0, .simple)] (some "T") (tseitinProg false)).2.toOption = some 10 ∧
    (normalize storeA .simple 2).2.toOption = some 6 := by decide +kernel

/-- an exceptional exit inside a normalisation (a list is not a graph): TypeError, store unchanged -/
example : (famCall ⟨[]⟩ storeA [1] [(0, .simple)] none (tseitinProg false)).1 = storeA ∧
    (famCall ⟨[]⟩ storeA [1] [(0, .simple)] none (tseitinProg false)).2.toOption = none := by
  decide +kernel

/-- planted assignments: a list of lists is read, the clauses not satisfied by all of them are rejected -/
example : (snap (famCall ⟨[]⟩ storeA [5] [] none (plantedProg 2 2 2 [[1, 2], [-1, -2], [1, -2], [-1, 2]] [])).1 9).map
    (·.cnf.clauses) = some [[1, 2], [-1, -2]] := by decide +kernel

example : (0 : Nat) ∉ footprint (famCall ⟨[]⟩ storeA [0] [(0, .simple)] none (tseitinProg false)).1 9 := by
  decide +kernel

/-- hypotheses of `formula_never_writes_graph`: a well-typed formula made from the graph at address 0, which is outside its footprint -/
example : WT (famCall ⟨[]⟩ storeA [0] [(0, .simple)] none (tseitinProg false)).1 9 :=
  wt_iff_snap.mpr (Option.isSome_iff_exists.mp (by decide +kernel))

/-- hypotheses of `group_follows_graph` / `liveNames_unchanged`: a group object referring to a graph object -/
example : ∃ (s : Store) (a g first : Nat) (B : BipG), s[a]? = some (.bgroup g first) ∧ s[g]? = some (.bipg B) :=
  ⟨#[.bipg (BipG.init 1 1), .bgroup 0 0], 1, 0, 0, _, rfl, rfl⟩

end Cnfgen.C19
