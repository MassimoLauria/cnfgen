/-
C16 bridge → C03 (share "order": pebbling, stone / sparse stone, graph ordering principle).
The hypotheses `TopoDAG` (a `DirectedGraph` whose `is_dag()` answers True), `BipOK`, `NbrsOK` follow
from C16's representation invariants, hence hold after EVERY history of updates.
-/
import Props.C16.BridgeBase
import Props.C03.Order
namespace Cnfgen.C16
open Cnfgen Cnfgen.Fam Cnfgen.FamC03a Cnfgen.Fam.Pebbling Cnfgen.Fam.Ordering

/-- a consistent `DirectedGraph` whose `is_dag()` is True is a DAG in topological order with all
adjacency entries inside `1..n` (through `di_isDag_iff`: the flag says every stored edge is
increasing) -/
theorem topoDAG_of_inv (D : DiG) (h : DiG.Inv D) (hd : D.isDag = true) : TopoDAG D := by
  have inc : ∀ e ∈ D.edgeset, e.1 < e.2 := (di_isDag_iff D ⟨D.n, D.edgeset⟩ h.refines).1 hd
  constructor
  · intro v _ _ p hp
    have he := h.mem_preds.1 hp
    exact ⟨(h.range p v he).1, inc _ he⟩
  · intro v _ _ s hs
    have he := h.mem_succs.1 hs
    exact ⟨inc _ he, (h.range v s he).2.2.2⟩

/-- every history of a `DirectedGraph(n)` after which `is_dag()` answers True -/
theorem topoDAG_history (n : Nat) (ops : List GOp) (hd : ((DiG.init n).run ops).isDag = true) :
    TopoDAG ((DiG.init n).run ops) :=
  topoDAG_of_inv _ (di_inv_history n ops) hd

/-- the same, with the flag read off the history: every accepted insertion was increasing -/
theorem topoDAG_history' (n : Nat) (ops : List GOp) (hinc : ∀ e ∈ DiG.inserted n ops, e.1 < e.2) :
    TopoDAG ((DiG.init n).run ops) :=
  topoDAG_history n ops ((di_isDag_history n ops).2 hinc)

theorem bipOK_of_inv (B : BipG) (h : BipG.Inv B) : BipOK B := bipOK_of_wf (BipG.wf_iff_inv.2 h)

theorem bipOK_history (l r : Nat) (ops : List GOp) : BipOK ((BipG.init l r).run ops) :=
  bipOK_of_inv _ (bip_inv_history l r ops)

theorem nbrsOK_of_inv (G : SimpleG) (h : SimpleG.Inv G) : NbrsOK G := by
  intro v _ _ u hu
  have r := h.nbrs_range hu
  exact ⟨r.2.2.1, r.2.2.2.1, fun e => r.2.2.2.2 e.symm⟩

theorem nbrsOK_history (n : Nat) (ops : List GOp) : NbrsOK ((SimpleG.init n).run ops) :=
  nbrsOK_of_inv _ (simple_inv_history n ops)

/-- every `DirectedGraph` with at least one vertex, after any history that leaves `is_dag()` True:
the generator accepts it, the pebbling formula is well formed and unsatisfiable, in both renderings -/
theorem peb_unsat_reachable (n : Nat) (ops : List GOp) (hn : 1 ≤ n)
    (hd : ((DiG.init n).run ops).isDag = true) :
    let D := (DiG.init n).run ops
    pebbling D = .ok (peb D) ∧ (peb D).WF ∧ (¬ ∃ α, (peb D).holds α = true) ∧
    (¬ ∃ α, (peb D).toCNF.holds α = true) ∧ (¬ ∃ α, (peb D).toOPB.holds α = true) :=
  have hD := topoDAG_history n ops hd
  have hn' : 1 ≤ ((DiG.init n).run ops).n := by rw [di_history_n]; exact hn
  ⟨C03.pebbling_accepts _ hd, C03.peb_wf _ hD, C03.peb_unsat _ hD hn', C03.peb_unsat_rendered _ hD hn'⟩

/-- … and when `is_dag()` is False the generator raises `ValueError` -/
theorem peb_rejects_reachable (n : Nat) (ops : List GOp) (hd : ((DiG.init n).run ops).isDag = false) :
    pebbling ((DiG.init n).run ops) = .error .valueError :=
  C03.pebbling_rejects _ hd

/-- sparse stone formula: any reachable DAG on `n ≥ 1` vertices, any reachable availability graph
`BipartiteGraph(n, r)` (any number of stones) -/
theorem sstone_unsat_reachable (n r : Nat) (opsD opsB : List GOp) (hn : 1 ≤ n)
    (hd : ((DiG.init n).run opsD).isDag = true) :
    let D := (DiG.init n).run opsD
    let B := (BipG.init n r).run opsB
    (sstone D B).WF ∧ (¬ ∃ α, (sstone D B).holds α = true) ∧
    (¬ ∃ α, (sstone D B).toCNF.holds α = true) ∧ (¬ ∃ α, (sstone D B).toOPB.holds α = true) :=
  have hD := topoDAG_history n opsD hd
  have hB := bipOK_history n r opsB
  have hl : ((BipG.init n r).run opsB).l = ((DiG.init n).run opsD).n := by
    rw [di_history_n, (bip_history_lr n r opsB).1]
  have hn' : 1 ≤ ((DiG.init n).run opsD).n := by rw [di_history_n]; exact hn
  ⟨C03.sstone_wf _ _ hD hl hB, C03.sstone_unsat _ _ hD hl hn', C03.sstone_unsat_rendered _ _ hD hl hB hn'⟩

/-- stone formula, every stone count -/
theorem stone_unsat_reachable (n k : Nat) (ops : List GOp) (hn : 1 ≤ n)
    (hd : ((DiG.init n).run ops).isDag = true) :
    let D := (DiG.init n).run ops
    (¬ ∃ α, (sstone D (BipG.complete D.n k)).toCNF.holds α = true) ∧
    (¬ ∃ α, (sstone D (BipG.complete D.n k)).toOPB.holds α = true) :=
  C03.stone_unsat_rendered _ k (topoDAG_history n ops hd) (by rw [di_history_n]; exact hn)

/-- graph ordering principle — plain, total, smart, every Knuth variant — on every reachable `Graph`
with at least one vertex: well formed and unsatisfiable in both renderings -/
theorem gop_unsat_reachable (n : Nat) (ops : List GOp) (hn : 1 ≤ n) (total smart : Bool) (knuth : Int) :
    let G := (SimpleG.init n).run ops
    (gop G total smart false knuth).WF ∧
    (¬ ∃ α, (gop G total smart false knuth).toCNF.holds α = true) ∧
    (¬ ∃ α, (gop G total smart false knuth).toOPB.holds α = true) :=
  have hG := nbrsOK_history n ops
  ⟨C03.gop_wf _ hG total smart false knuth,
   C03.gop_unsat_rendered _ hG (Nat.le_trans hn (simple_history_n_le n ops)) total smart knuth⟩

/-- planted variant: satisfiable iff an order with the documented properties exists -/
theorem gop_planted_sat_iff_reachable (n : Nat) (ops : List GOp) (total plant : Bool) (knuth : Int) :
    let G := (SimpleG.init n).run ops
    (∃ α, (gop G total false plant knuth).holds α = true) ↔ ∃ R, OrdSpec G total plant knuth R :=
  C03.gop_planted_sat_iff _ (nbrsOK_history n ops) total plant knuth

/-- non-vacuity: a history with a rejected and a duplicate call keeps `is_dag()` True; one
decreasing insertion turns it off for good -/
example : ((DiG.init 3).run [.addEdge 1 3, .addEdge 0 1, .addEdge 1 3, .addEdgesFrom [(2, 3)]]).isDag = true ∧
    ((DiG.init 3).run [.addEdge 1 3, .addEdge 3 2, .addEdge 2 3]).isDag = false := by decide +kernel

end Cnfgen.C16
