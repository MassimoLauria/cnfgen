/-
C16 bridge → C02 (first share: Tseitin, colouring, even colouring, dominating set, tiling).
The hypothesis `Fam.GoodGraph` of those family theorems follows from C16's representation
invariant, hence holds after EVERY history of `add_edge` / `remove_edge` /
`update_vertex_number` / `add_edges_from` calls with arbitrary arguments, from every size.
The corollaries restate the headline theorems of `Props/C02/Graphs1.lean` without any graph
hypothesis, for every reachable `Graph` object.
-/
import Props.C16
import Props.C02.Graphs1
import Lemmas.FamGraphInv
namespace Cnfgen.C16
open Cnfgen Cnfgen.Fam

/-- `Fam.GoodGraph` is a consequence of the representation invariant (`Fam.goodGraph_of_inv`),
hence of every history -/
theorem goodGraph_history (n : Nat) (ops : List GOp) : Fam.GoodGraph ((SimpleG.init n).run ops) :=
  goodGraph_of_inv _ (simple_inv_history n ops)

/-- … and of every `ofEdges` result -/
theorem goodGraph_ofEdges (n : Nat) (es : List (Nat × Nat)) (G : SimpleG)
    (h : SimpleG.ofEdges n es = .ok G) : Fam.GoodGraph G :=
  goodGraph_of_inv _ (SimpleG.inv_ofEdges h)

/-- non-vacuity: a history with a removal, a growth and rejected calls -/
example : ((SimpleG.init 3).run [.addEdge 1 2, .addEdge 3 1, .addEdge 0 1, .removeEdge 2 1,
    .updateVertexNumber 5, .addEdgesFrom [(5, 1), (9, 9)]]).edges = [(1, 3), (1, 5)] := by decide +kernel

/-- Tseitin on every reachable graph, every charge vector: well formed, `|E|` variables, both
renderings mean the parity specification -/
theorem tseitin_holds_reachable (n : Nat) (ops : List GOp) (ch : Option (List Bool)) (α : Assign) :
    let G := (SimpleG.init n).run ops
    (tseitin G ch).WF ∧ (tseitin G ch).nvars = G.numberOfEdges ∧
    ((tseitin G ch).toCNF.holds α = true ↔ TseitinSpec G ch α) ∧
    ((tseitin G ch).toOPB.holds α = true ↔ TseitinSpec G ch α) :=
  have hG := goodGraph_history n ops
  ⟨(C02.tseitin_wf _ hG ch).1, (C02.tseitin_wf _ hG ch).2, C02.tseitin_cnf _ hG ch α,
   C02.tseitin_opb _ hG ch α⟩

/-- the documented satisfiability criterion of Tseitin formulas, on every reachable graph -/
theorem tseitin_sat_iff_reachable (n : Nat) (ops : List GOp) (ch : Option (List Bool)) :
    C02.TseitinSatIff ((SimpleG.init n).run ops) ch :=
  C02.tseitin_sat_iff _ (goodGraph_history n ops) ch

/-- `k`-colouring formula satisfiable iff a proper `k`-colouring exists, on every reachable graph -/
theorem coloring_sat_iff_reachable (n : Nat) (ops : List GOp) (k : Nat) (fn : Bool) :
    let G := (SimpleG.init n).run ops
    (coloringF G k fn).WF ∧
    ((∃ α, (coloringF G k fn).holds α = true) ↔ ∃ col, ProperColoring G k col) :=
  have hG := goodGraph_history n ops
  ⟨(C02.coloring_wf _ hG k fn).1, C02.coloring_sat_iff _ hG k fn⟩

/-- even colouring: well formed, and the formula means its specification, on every reachable graph -/
theorem evenColoring_holds_reachable (n : Nat) (ops : List GOp) (α : Assign) :
    let G := (SimpleG.init n).run ops
    (evenColoringF G).WF ∧ ((evenColoringF G).holds α = true ↔ EvenColoringSpec G α) :=
  have hG := goodGraph_history n ops
  ⟨(C02.evenColoring_wf _ hG).1, C02.evenColoring_holds _ hG α⟩

/-- dominating set (both encodings) satisfiable iff a dominating set of size ≤ d exists -/
theorem domset_sat_iff_reachable (n : Nat) (ops : List GOp) (d : Nat) (alt : Bool) :
    let G := (SimpleG.init n).run ops
    (domsetF G d alt).WF ∧
    ((∃ α, (domsetF G d alt).holds α = true) ↔ ∃ S, Dominating G S ∧ S.length ≤ d) :=
  have hG := goodGraph_history n ops
  ⟨(C02.domset_wf _ hG d alt).1, C02.domset_sat_iff _ hG d alt⟩

/-- tiling satisfiable iff a perfect dominating set exists -/
theorem tiling_sat_iff_reachable (n : Nat) (ops : List GOp) :
    let G := (SimpleG.init n).run ops
    (tiling G).WF ∧ ((∃ α, (tiling G).holds α = true) ↔ ∃ S, IsTiling G S) :=
  have hG := goodGraph_history n ops
  ⟨(C02.tiling_wf _ hG).1, C02.tiling_sat_iff _ hG⟩

end Cnfgen.C16
