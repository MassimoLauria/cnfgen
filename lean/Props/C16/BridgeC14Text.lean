/-
C16 bridge → C14 at CHARACTER level.  C14's hypothesis `InvAny` is C16's representation invariant,
which holds after EVERY history of updates; so the character-level round trip of `Props/C14/Text.lean`
(write the graph as text, read the characters back) applies to every reachable graph object of every
class — the only remaining hypothesis is that the numbers fit CPython's `str()` / `int()` (`Printable`).
-/
import Props.C16.BridgeC14
import Props.C14.Text
namespace Cnfgen.C16
open Cnfgen GraphFmt GraphLex

/-- simple graphs: every history of `add_edge` / `remove_edge` / `update_vertex_number` … -/
theorem graph_text_roundtrip_simple_reachable (u : Bool) (name : Str) (fmt : Fmt) (hin : C14.InHouse fmt)
    (hsup : fmt ∈ supported .simple) (n : Nat) (ops : List GOp)
    (hp : C14.Printable (.simple ((SimpleG.init n).run ops))) :
    let G := AnyG.simple ((SimpleG.init n).run ops)
    ∃ t G', writeText name .simple fmt G = .ok t ∧ readText u .simple fmt t = .ok G' ∧ C14.SameAny G G' :=
  C14.graph_text_roundtrip u name .simple fmt _ hin hsup trivial (invAny_simple_history n ops) hp

theorem graph_text_roundtrip_digraph_reachable (u : Bool) (name : Str) (fmt : Fmt) (hin : C14.InHouse fmt)
    (hsup : fmt ∈ supported .digraph) (n : Nat) (ops : List GOp)
    (hp : C14.Printable (.di ((DiG.init n).run ops))) :
    let G := AnyG.di ((DiG.init n).run ops)
    ∃ t G', writeText name .digraph fmt G = .ok t ∧ readText u .digraph fmt t = .ok G' ∧ C14.SameAny G G' :=
  C14.graph_text_roundtrip u name .digraph fmt _ hin hsup trivial (invAny_di_history n ops) hp

/-- type `'dag'`: every history after which `is_dag()` answers True -/
theorem graph_text_roundtrip_dag_reachable (u : Bool) (name : Str) (fmt : Fmt) (hin : C14.InHouse fmt)
    (hsup : fmt ∈ supported .dag) (n : Nat) (ops : List GOp) (hd : ((DiG.init n).run ops).isDag = true)
    (hp : C14.Printable (.di ((DiG.init n).run ops))) :
    let G := AnyG.di ((DiG.init n).run ops)
    ∃ t G', writeText name .dag fmt G = .ok t ∧ readText u .dag fmt t = .ok G' ∧ C14.SameAny G G' :=
  C14.graph_text_roundtrip u name .dag fmt _ hin hsup hd (invAny_di_history n ops) hp

theorem graph_text_roundtrip_bipartite_reachable (u : Bool) (name : Str) (fmt : Fmt) (hin : C14.InHouse fmt)
    (hsup : fmt ∈ supported .bipartite) (l r : Nat) (ops : List GOp)
    (hp : C14.Printable (.bip ((BipG.init l r).run ops))) :
    let G := AnyG.bip ((BipG.init l r).run ops)
    ∃ t G', writeText name .bipartite fmt G = .ok t ∧ readText u .bipartite fmt t = .ok G' ∧ C14.SameAny G G' :=
  C14.graph_text_roundtrip u name .bipartite fmt _ hin hsup trivial (invAny_bip_history l r ops) hp

/-- non-vacuity: a printable reachable object (updates never change the order of a bipartite graph) -/
example : C14.Printable (.bip ((BipG.init 3 11).run [])) := IO.lt_limit_of_le (by decide +kernel)

end Cnfgen.C16
