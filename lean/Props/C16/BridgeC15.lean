/-
C16 bridge → C15 (random modifications of a graph: `split_random_edges`, planted clique /
biclique).  The hypotheses `GRand.ViewOK`, `SimpleG.Sym`, `BipG.InvGB` follow from C16's
representation invariants, hence hold after EVERY history of updates.
-/
import Props.C16.BridgeBase
import Props.C15
namespace Cnfgen.C16
open Cnfgen Cnfgen.GRand

theorem viewOK_of_inv (G : SimpleG) (h : SimpleG.Inv G) : GRand.ViewOK G where
  view e he := by
    have r := h.edges_range (u := e.1) (v := e.2) he
    exact ⟨r.1, r.2.1, (h.mem_edges'.1 he).2⟩
  inside e he := by
    have r := h.range e.1 e.2 he
    exact ⟨r.2.1, r.2.2.2.1⟩

theorem viewOK_history (n : Nat) (ops : List GOp) : GRand.ViewOK ((SimpleG.init n).run ops) :=
  viewOK_of_inv _ (simple_inv_history n ops)

theorem sym_of_inv (G : SimpleG) (h : SimpleG.Inv G) : G.Sym := h.symm

theorem sym_history (n : Nat) (ops : List GOp) : ((SimpleG.init n).run ops).Sym :=
  sym_of_inv _ (simple_inv_history n ops)

/-- a sorted row has as many entries as the edge set has pairs at that vertex -/
theorem length_row_eq_countP {es : List (Nat × Nat)} (hes : es.Nodup) {row : List Nat}
    (hrow : row.Nodup) (mk : Nat → Nat × Nat) (p : Nat × Nat → Bool)
    (hinj : ∀ a b, mk a = mk b → a = b) (hmem : ∀ e, e ∈ row.map mk ↔ e ∈ es ∧ p e = true) :
    row.length = es.countP p := by
  have hn : (row.map mk).Nodup := nodup_map_inj mk hinj hrow
  have hp : (row.map mk).Perm (es.filter p) :=
    (List.perm_ext_iff_of_nodup hn (hes.filter p)).2 (fun e => by rw [hmem, List.mem_filter])
  rw [List.countP_eq_length_filter, ← hp.length_eq, List.length_map]

theorem invGB_of_inv (G : BipG) (h : BipG.Inv G) : G.InvGB where
  lrows := h.ladj_length
  rrows := h.radj_length
  inside e he := h.range e.1 e.2 he
  nodup := h.nodup
  ldeg u := by
    refine length_row_eq_countP h.nodup (h.rnbrs_nodup u) (fun v => (u, v)) _
      (fun a b e => (Prod.mk.inj e).2) (fun e => ?_)
    simp only [List.mem_map, beq_iff_eq]
    constructor
    · rintro ⟨v, hv, rfl⟩; exact ⟨h.mem_rnbrs.1 hv, rfl⟩
    · rintro ⟨he, rfl⟩; exact ⟨e.2, h.mem_rnbrs.2 he, rfl⟩
  rdeg v := by
    refine length_row_eq_countP h.nodup (h.lnbrs_nodup v) (fun u => (u, v)) _
      (fun a b e => (Prod.mk.inj e).1) (fun e => ?_)
    simp only [List.mem_map, beq_iff_eq]
    constructor
    · rintro ⟨u, hu, rfl⟩; exact ⟨h.mem_lnbrs.1 hu, rfl⟩
    · rintro ⟨he, rfl⟩; exact ⟨e.1, h.mem_lnbrs.2 he, rfl⟩

theorem invGB_history (l r : Nat) (ops : List GOp) : ((BipG.init l r).run ops).InvGB :=
  invGB_of_inv _ (bip_inv_history l r ops)

/-- `split_random_edges(G, k)` on every reachable `Graph`, every outcome of the random generator:
whenever it returns, exactly `k` vertices and `k` edges were added -/
theorem splitedges_exact_reachable (n : Nat) (ops : List GOp) (G' : SimpleG) (k : Int)
    (ds rest : List Draw) (h : splitEdges ((SimpleG.init n).run ops) k ds = .ok G' rest) :
    let G := (SimpleG.init n).run ops
    G'.n = G.n + k.toNat ∧ G'.m = G.m + k.toNat ∧ 0 ≤ k ∧ k ≤ G.m :=
  C15.splitedges_exact _ G' k ds rest (viewOK_history n ops) h

/-- planted clique on every reachable `Graph` -/
theorem plantclique_leaves_clique_reachable (n : Nat) (ops : List GOp) (G' : SimpleG) (k : Int)
    (ds rest : List Draw) (h : plantClique ((SimpleG.init n).run ops) k ds = .ok G' rest) :
    let G := (SimpleG.init n).run ops
    G'.n = G.n ∧ (∀ e ∈ G.edgeset, e ∈ G'.edgeset) ∧
    ∃ clique : List Nat, (clique.length : Int) = k ∧ clique.Nodup ∧ (∀ v ∈ clique, 1 ≤ v ∧ v ≤ G.n) ∧
      ∀ v ∈ clique, ∀ w ∈ clique, v ≠ w → (v, w) ∈ G'.edgeset :=
  C15.plantclique_leaves_clique _ G' k ds rest (sym_history n ops) h

/-- planted biclique on every reachable `BipartiteGraph` -/
theorem plantbiclique_leaves_biclique_reachable (l r : Nat) (ops : List GOp) (G' : BipG) (a b : Int)
    (ds rest : List Draw) (h : plantBiclique ((BipG.init l r).run ops) a b ds = .ok G' rest) :
    let G := (BipG.init l r).run ops
    G'.InvGB ∧ G'.l = G.l ∧ G'.r = G.r ∧ (∀ e ∈ G.edgeset, e ∈ G'.edgeset) ∧
    ∃ left right : List Nat, (left.length : Int) = a ∧ (right.length : Int) = b ∧ left.Nodup ∧ right.Nodup ∧
      (∀ v ∈ left, 1 ≤ v ∧ v ≤ G.l) ∧ (∀ w ∈ right, 1 ≤ w ∧ w ≤ G.r) ∧
      ∀ v ∈ left, ∀ w ∈ right, (v, w) ∈ G'.edgeset :=
  C15.plantbiclique_leaves_biclique _ G' a b ds rest (invGB_history l r ops) h

end Cnfgen.C16
