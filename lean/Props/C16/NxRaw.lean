/-
C16, `from_networkx` on a RAW edge listing.

A networkx object handed to `Graph.from_networkx` / `DirectedGraph.from_networkx` /
`BipartiteGraph.from_networkx` need not be the image of a cnfgen graph: a `MultiGraph` reports an
edge several times, a `DiGraph` reports both orientations, any class may hold loops, a coloured
graph may hold an edge inside one side.  The model (`fromNx`) inserts whatever listing it is given,
one pair at a time; the driver request `gfromnx` (suite `nxraw` of harness/props/C16.py) compares
it with the real classmethods on networkx objects of every class.

What is proved here, for EVERY listing (no hypothesis on it):
* the result is either an object satisfying the representation invariant (hence all views agree,
  `*_views` of Props/C16.lean) or `ValueError` — nothing else, and never an inconsistent object;
* exactly which listings are refused (simple: a loop or a vertex out of range; directed: a vertex
  out of range; bipartite: in particular every listing with a pair inside one side);
* the edge set of an accepted conversion is the set of pairs of the listing (normalised for simple
  graphs), however often and in whichever orientation they are reported.
-/
import Props.C16
namespace Cnfgen.C16
open Cnfgen

/-- T-C16.4 (raw listing, simple): `Graph.from_networkx` either builds a consistent object whose
edges are exactly the normalised pairs of the listing, or refuses with `ValueError`; it refuses
iff some pair is a loop or leaves `1..n`. -/
theorem simple_fromNx_raw (n : Nat) (es : List (Nat × Nat)) :
    (∀ G, SimpleG.fromNx (n, es) = .ok G → G.Inv) ∧
    ((∀ e ∈ es, 1 ≤ e.1 ∧ e.1 ≤ n ∧ 1 ≤ e.2 ∧ e.2 ≤ n ∧ e.1 ≠ e.2) →
      ∃ G, SimpleG.fromNx (n, es) = .ok G ∧ G.n = n ∧ ∀ p, p ∈ G.abs ↔ ∃ e ∈ es, p = SimpleG.norm e.1 e.2) ∧
    ((¬ ∀ e ∈ es, 1 ≤ e.1 ∧ e.1 ≤ n ∧ 1 ≤ e.2 ∧ e.2 ≤ n ∧ e.1 ≠ e.2) →
      SimpleG.fromNx (n, es) = .error .valueError) :=
  simple_ofEdges n es

/-- a multigraph listing (an edge three times, in both orientations) is one edge; a loop is refused -/
example : (SimpleG.fromNx (3, [(1, 2), (2, 1), (1, 2), (2, 3)])).map (fun G => (G.m, G.edges)) =
    .ok (2, [(1, 2), (2, 3)]) := rfl
example : SimpleG.fromNx (3, [(1, 2), (2, 2)]) = .error .valueError := rfl

/-- T-C16.4 (raw listing, directed): consistent object with exactly the listed pairs, or `ValueError`
(iff a vertex leaves `1..n`); loops and 2-cycles are legal. -/
theorem di_fromNx_raw (n : Nat) (es : List (Nat × Nat)) :
    (∀ G, DiG.fromNx (n, es) = .ok G → G.Inv) ∧
    ((∀ e ∈ es, 1 ≤ e.1 ∧ e.1 ≤ n ∧ 1 ≤ e.2 ∧ e.2 ≤ n) →
      ∃ G, DiG.fromNx (n, es) = .ok G ∧ G.n = n ∧ ∀ p, p ∈ G.edgeset ↔ p ∈ es) ∧
    ((¬ ∀ e ∈ es, 1 ≤ e.1 ∧ e.1 ≤ n ∧ 1 ≤ e.2 ∧ e.2 ≤ n) → DiG.fromNx (n, es) = .error .valueError) :=
  di_ofEdges n es

example : (DiG.fromNx (3, [(2, 1), (2, 1), (2, 2)])).map (fun G => (G.m, G.edges, G.isDag)) =
    .ok (2, [(2, 1), (2, 2)], false) := rfl

/-- one step of the loop of `BipartiteGraph.from_networkx` -/
def bipNxStep (l : Nat) (g : BipG) (e : Nat × Nat) : Except Err BipG := do
  let p ← BipG.fromNxEdge l e; g.addEdge p.1 p.2

theorem bip_fromNx_fold (l r : Nat) (es : List (Nat × Nat)) :
    BipG.fromNx (l, r, es) = es.foldlM (bipNxStep l) (BipG.init l r) := rfl

theorem fromNxEdge_error {l : Nat} {e : Nat × Nat} {x : Err} (h : BipG.fromNxEdge l e = .error x) :
    x = .valueError := by
  unfold BipG.fromNxEdge at h
  simp only at h
  split at h
  · cases h; rfl
  · split at h <;> cases h

/-- both ends on the same side (in particular a loop): the pair is refused -/
theorem fromNxEdge_same_side {l : Nat} {e : Nat × Nat} (h : e.1 ≤ l ↔ e.2 ≤ l) :
    BipG.fromNxEdge l e = .error .valueError := by
  unfold BipG.fromNxEdge
  simp only
  by_cases h1 : e.1 ≤ l
  · have h2 : ¬ l < e.2 := by have := h.1 h1; omega
    simp [h1, h2]
  · have h2 : l < e.2 := by
      have : ¬ e.2 ≤ l := fun c => h1 (h.2 c)
      omega
    simp [h1, h2]

theorem bipNxStep_error {l : Nat} {g : BipG} {e : Nat × Nat} {x : Err} (h : bipNxStep l g e = .error x) :
    x = .valueError := by
  unfold bipNxStep at h
  cases hp : BipG.fromNxEdge l e with
  | error y =>
    rw [hp] at h
    have : y = x := by injection h
    exact this ▸ fromNxEdge_error hp
  | ok p =>
    rw [hp] at h
    change g.addEdge p.1 p.2 = .error x at h
    rcases BipG.addEdge_cases g p.1 p.2 with ⟨_, h1⟩ | ⟨_, _, h1⟩ | ⟨_, _, h1⟩ <;> rw [h1] at h <;> cases h
    rfl

theorem bipNxStep_ok {l : Nat} {g g' : BipG} {e : Nat × Nat} (hi : g.Inv) (h : bipNxStep l g e = .ok g') :
    g'.Inv ∧ g'.l = g.l ∧ g'.r = g.r := by
  unfold bipNxStep at h
  cases hp : BipG.fromNxEdge l e with
  | error y => rw [hp] at h; cases h
  | ok p =>
    rw [hp] at h
    change g.addEdge p.1 p.2 = .ok g' at h
    exact ⟨BipG.inv_addEdge hi h, BipG.addEdge_lr h⟩

theorem bip_fold_refuses {l : Nat} (es : List (Nat × Nat)) (g : BipG)
    (hb : ∃ e ∈ es, (e.1 ≤ l ↔ e.2 ≤ l)) : es.foldlM (bipNxStep l) g = .error .valueError := by
  induction es generalizing g with
  | nil => obtain ⟨e, he, _⟩ := hb; cases he
  | cons e es ih =>
    simp only [List.foldlM_cons]
    cases hs : bipNxStep l g e with
    | error y => rw [bipNxStep_error hs]; rfl
    | ok g1 =>
      obtain ⟨b, hb1, hb2⟩ := hb
      rcases List.mem_cons.1 hb1 with rfl | hb1
      · unfold bipNxStep at hs
        rw [fromNxEdge_same_side hb2] at hs
        cases hs
      · exact ih g1 ⟨b, hb1, hb2⟩

/-- T-C16.4 (raw listing, bipartite): whatever pairs the coloured networkx object reports,
`BipartiteGraph.from_networkx` returns an object with the invariant and the sides of the colouring,
or raises `ValueError` — nothing else; a listing with a pair inside one side (a loop included) is
always refused.  (Accepted listings of cross pairs: `bip_nx_any_listing`.) -/
theorem bip_fromNx_raw (l r : Nat) (es : List (Nat × Nat)) :
    (∀ G, BipG.fromNx (l, r, es) = .ok G → G.Inv ∧ G.l = l ∧ G.r = r) ∧
    (∀ x, BipG.fromNx (l, r, es) = .error x → x = .valueError) ∧
    ((∃ e ∈ es, (e.1 ≤ l ↔ e.2 ≤ l)) → BipG.fromNx (l, r, es) = .error .valueError) := by
  refine ⟨fun G h => ?_, fun x h => ?_, fun hb => ?_⟩
  · rw [bip_fromNx_fold] at h
    exact foldlM_keeps (I := fun g => g.Inv ∧ g.l = l ∧ g.r = r)
      (fun ⟨hi, hl, hr⟩ e => have ⟨a, b, c⟩ := bipNxStep_ok hi e; ⟨a, b.trans hl, c.trans hr⟩)
      ⟨BipG.inv_init l r, rfl, rfl⟩ h
  · rw [bip_fromNx_fold] at h
    exact foldlM_error (P := (· = .valueError)) bipNxStep_error h
  · rw [bip_fromNx_fold]
    exact bip_fold_refuses es _ hb

/-- a multigraph report of two cross edges (one of them twice, in both orientations) -/
example : (BipG.fromNx (2, 2, [(1, 3), (3, 1), (4, 2)])).map (fun G => (G.numberOfEdges, G.edges)) =
    .ok (2, [(1, 1), (2, 2)]) := rfl
/-- an edge inside the left side, a loop on the right side -/
example : BipG.fromNx (2, 2, [(1, 3), (1, 2)]) = .error .valueError := rfl
example : BipG.fromNx (2, 2, [(3, 3)]) = .error .valueError := rfl

end Cnfgen.C16
