/-
C16 bridge → C14 (graph files round-trip).  C14's hypothesis `InvAny` IS C16's representation
invariant (by cases on the class), so it holds after EVERY history of updates; C14's round-trip
statement applies to every reachable graph object of every class.
-/
import Props.C16.BridgeBase
import Props.C14
namespace Cnfgen.C16
open Cnfgen GraphFmt GraphLex

theorem invAny_simple_history (n : Nat) (ops : List GOp) :
    C14.InvAny (.simple ((SimpleG.init n).run ops)) := simple_inv_history n ops

theorem invAny_di_history (n : Nat) (ops : List GOp) :
    C14.InvAny (.di ((DiG.init n).run ops)) := di_inv_history n ops

theorem invAny_bip_history (l r : Nat) (ops : List GOp) :
    C14.InvAny (.bip ((BipG.init l r).run ops)) := bip_inv_history l r ops

/-! write-then-read returns the same graph, for every reachable object -/

theorem roundtrip_simple_reachable (name : Str) (fmt : Fmt) (hin : C14.InHouse fmt)
    (hsup : fmt ∈ supported .simple) (n : Nat) (ops : List GOp) :
    let G := AnyG.simple ((SimpleG.init n).run ops)
    ∃ rows G', writeGraph name .simple fmt G = .ok rows ∧ readGraph .simple rows = .ok G' ∧
      C14.SameAny G G' :=
  C14.roundtrip name .simple fmt _ hin hsup trivial (invAny_simple_history n ops)

theorem roundtrip_digraph_reachable (name : Str) (fmt : Fmt) (hin : C14.InHouse fmt)
    (hsup : fmt ∈ supported .digraph) (n : Nat) (ops : List GOp) :
    let G := AnyG.di ((DiG.init n).run ops)
    ∃ rows G', writeGraph name .digraph fmt G = .ok rows ∧ readGraph .digraph rows = .ok G' ∧
      C14.SameAny G G' :=
  C14.roundtrip name .digraph fmt _ hin hsup trivial (invAny_di_history n ops)

/-- type `'dag'`: every history after which `is_dag()` answers True -/
theorem roundtrip_dag_reachable (name : Str) (fmt : Fmt) (hin : C14.InHouse fmt)
    (hsup : fmt ∈ supported .dag) (n : Nat) (ops : List GOp)
    (hd : ((DiG.init n).run ops).isDag = true) :
    let G := AnyG.di ((DiG.init n).run ops)
    ∃ rows G', writeGraph name .dag fmt G = .ok rows ∧ readGraph .dag rows = .ok G' ∧
      C14.SameAny G G' :=
  C14.roundtrip name .dag fmt _ hin hsup hd (invAny_di_history n ops)

theorem roundtrip_bipartite_reachable (name : Str) (fmt : Fmt) (hin : C14.InHouse fmt)
    (hsup : fmt ∈ supported .bipartite) (l r : Nat) (ops : List GOp) :
    let G := AnyG.bip ((BipG.init l r).run ops)
    ∃ rows G', writeGraph name .bipartite fmt G = .ok rows ∧ readGraph .bipartite rows = .ok G' ∧
      C14.SameAny G G' :=
  C14.roundtrip name .bipartite fmt _ hin hsup trivial (invAny_bip_history l r ops)

end Cnfgen.C16
