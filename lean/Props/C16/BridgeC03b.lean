/-
C16 bridge → C03 (share "ramsey": the Pitfall formula and its Tseitin template).
The hypothesis `C03.GraphOK` (= `FamPitfall.GraphOK`: rows of the vertices `1..n` strictly increasing,
within `1..n`, loop-free, symmetric) follows from C16's representation invariant, hence holds after
EVERY history of updates.
-/
import Props.C16.BridgeBase
import Props.C03.Ramsey
namespace Cnfgen.C16
open Cnfgen Cnfgen.Fam

theorem graphOK_of_inv (g : SimpleG) (h : SimpleG.Inv g) : C03.GraphOK g :=
  FamPitfall.graphOK_of_inv h

/-- the lemma-level copy of the hypothesis is the same proposition -/
theorem famGraphOK_of_inv (g : SimpleG) (h : SimpleG.Inv g) : FamPitfall.GraphOK g :=
  graphOK_of_inv g h

theorem graphOK_history (n : Nat) (ops : List GOp) : C03.GraphOK ((SimpleG.init n).run ops) :=
  graphOK_of_inv _ (simple_inv_history n ops)

/-- the Tseitin template with odd total charge is unsatisfiable on every reachable graph with at
least one vertex -/
theorem tseitin_template_unsat_reachable (n : Nat) (ops : List GOp) (hn : 1 ≤ n) (β : Assign) :
    (PitfallTseitin.template ((SimpleG.init n).run ops)).holds β = false :=
  C03.tseitin_template_unsat _ (graphOK_history n ops)
    (Nat.le_trans hn (simple_history_n_le n ops)) β

/-- Pitfall is a contradiction whatever reachable `Graph` object stands for the drawn regular
graph (every history, every size ≥ 1), in the abstract formula and both renderings -/
theorem pitfall_unsat_reachable (n : Nat) (ops : List GOp) (hn : 1 ≤ n) (v d ny nz k : Int)
    (hny : 2 ≤ ny) (F : Formula)
    (h : Pitfall.pitfall v d ny nz k ((SimpleG.init n).run ops) = .ok F) (α : Assign) :
    F.holds α = false ∧ F.toCNF.holds α = false ∧ F.toOPB.holds α = false :=
  C03.pitfall_unsat v d ny nz k _ (graphOK_history n ops)
    (Nat.le_trans hn (simple_history_n_le n ops)) hny F h α

/-- … its variable count is the documented one, and it is well formed -/
theorem pitfall_nvars_wf_reachable (n : Nat) (ops : List GOp) (ny nz k : Nat) :
    let g := (SimpleG.init n).run ops
    (Pitfall.build ny nz k g).nvars =
      k * g.numberOfEdges + k * ny + k * nz + k * (g.numberOfEdges + nz) + k * 3 ∧
    (Pitfall.build ny nz k g).WF := by
  have h := C03.pitfall_nvars_wf ny nz k _ (graphOK_history n ops)
  have hm : ((SimpleG.init n).run ops).numberOfEdges = ((SimpleG.init n).run ops).edges.length :=
    (simple_inv_history n ops).m_eq_length_edges
  intro g
  exact ⟨by rw [hm]; exact h.1, h.2⟩

end Cnfgen.C16
