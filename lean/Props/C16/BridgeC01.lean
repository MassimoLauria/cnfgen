/-
C16 bridge → C01 (graph pigeonhole principle, perfect matching, subset cardinality).
The hypotheses `Fam.GoodBip` (= `C01.GoodBip`) and `Fam.GoodSimple` (= `C01.GoodSimple`) of those
family theorems follow from C16's representation invariants, hence hold after EVERY history of
updates with arbitrary arguments, from every size.
-/
import Props.C16
import Props.C01.Gphp
import Props.C01.Matching
import Props.C01.SubsetCard
namespace Cnfgen.C16
open Cnfgen Cnfgen.Fam

theorem goodBip_history (l r : Nat) (ops : List GOp) : Fam.GoodBip ((BipG.init l r).run ops) :=
  goodBip_of_inv _ (bip_inv_history l r ops)

/-- `CompleteBipartiteGraph(l, r)` as consumed by the families -/
theorem goodBip_complete (l r : Nat) : Fam.GoodBip (BipG.complete l r) :=
  goodBip_of_inv _ (BipG.inv_complete l r)

theorem goodSimple_history (n : Nat) (ops : List GOp) : Fam.GoodSimple ((SimpleG.init n).run ops) :=
  goodSimple_of_inv _ (simple_inv_history n ops)

/-- T-C01.1 on every reachable `BipartiteGraph`: both flags, every assignment, the abstract
formula and both renderings -/
theorem gphp_spec_reachable (l r : Nat) (ops : List GOp) (f o : Bool) (α : Assign) :
    let B := (BipG.init l r).run ops
    (gphp B f o).WF ∧
    ((gphp B f o).holds α = true ↔ C01.GPHPSpec B f o (C01.gphpRel B α)) ∧
    ((gphp B f o).toCNF.holds α = true ↔ C01.GPHPSpec B f o (C01.gphpRel B α)) ∧
    ((gphp B f o).toOPB.holds α = true ↔ C01.GPHPSpec B f o (C01.gphpRel B α)) :=
  have hB := goodBip_history l r ops
  ⟨C01.gphp_wf _ hB f o, C01.gphp_spec _ hB f o α, C01.gphp_cnf_spec _ hB f o α,
   C01.gphp_opb_spec _ hB f o α⟩

/-- "satisfiable iff the graph has a matching of size |L|", on every reachable `BipartiteGraph` -/
theorem gphp_sat_iff_matching_reachable (l r : Nat) (ops : List GOp) (f : Bool) :
    let B := (BipG.init l r).run ops
    (∃ α, (gphp B f false).holds α = true) ↔
      ∃ g : Nat → Nat, (∀ u, 1 ≤ u → u ≤ B.l → g u ∈ B.rnbrs u) ∧
        (∀ u, 1 ≤ u → u ≤ B.l → ∀ u', 1 ≤ u' → u' ≤ B.l → g u = g u' → u = u') :=
  C01.gphp_sat_iff_matching _ (goodBip_history l r ops) f

/-- perfect matching principle on every reachable `Graph` -/
theorem pm_spec_reachable (n : Nat) (ops : List GOp) (α : Assign) :
    let G := (SimpleG.init n).run ops
    (pmF G).WF ∧ ((pmF G).holds α = true ↔ C01.PMSpec G (C01.pmRel G α)) ∧
    ((pmF G).toCNF.holds α = true ↔ C01.PMSpec G (C01.pmRel G α)) ∧
    ((pmF G).toOPB.holds α = true ↔ C01.PMSpec G (C01.pmRel G α)) :=
  have hG := goodSimple_history n ops
  ⟨C01.pm_wf _ hG, C01.pm_spec _ hG α, C01.pm_cnf_spec _ hG α, C01.pm_opb_spec _ hG α⟩

/-- subset cardinality formula on every reachable `BipartiteGraph` -/
theorem sc_spec_reachable (l r : Nat) (ops : List GOp) (eq : Bool) (α : Assign) :
    let B := (BipG.init l r).run ops
    (subsetCardF B eq).WF ∧
    ((subsetCardF B eq).holds α = true ↔ C01.SCSpec B eq (C01.scLabel B α)) ∧
    ((subsetCardF B eq).toCNF.holds α = true ↔ C01.SCSpec B eq (C01.scLabel B α)) ∧
    ((subsetCardF B eq).toOPB.holds α = true ↔ C01.SCSpec B eq (C01.scLabel B α)) :=
  have hB := goodBip_history l r ops
  ⟨C01.sc_wf _ hB eq, C01.sc_spec _ hB eq α, C01.sc_cnf_spec _ hB eq α, C01.sc_opb_spec _ hB eq α⟩

/-- non-vacuity -/
example : ((BipG.init 2 3).run [.addEdge 1 2, .addEdge 1 2, .addEdge 9 9, .removeEdge 1 2,
    .addEdgesFrom [(2, 3), (2, 1), (0, 1), (1, 1)]]).edges = [(1, 2), (2, 1), (2, 3)] := by decide +kernel

end Cnfgen.C16
