/-
C16 bridge → C05 (variable compression through a bipartite graph).
The hypothesis `Subst.BipWF` (recorded right neighbours are right vertices) follows from C16's
representation invariant, hence holds after EVERY history of updates of a `BipartiteGraph`.
-/
import Props.C16.BridgeBase
import Props.C05
namespace Cnfgen.C16
open Cnfgen Cnfgen.Subst

theorem bipWF_history (l r : Nat) (ops : List GOp) : BipWF ((BipG.init l r).run ops) :=
  BipWF.of_inv (bip_inv_history l r ops)

theorem bipWF_complete (l r : Nat) : BipWF (BipG.complete l r) :=
  BipWF.of_inv (BipG.inv_complete l r)

/-- XOR compression composes for every well-formed CNF and EVERY reachable `BipartiteGraph` whose
left side has one vertex per variable (any history, any number `r` of new variables) -/
theorem xorCompression_composes_reachable (F : CNF) (hF : F.WF) (r : Nat) (ops : List GOp) :
    let B := (BipG.init F.nvars r).run ops
    ∃ G, compress F B 0 = .ok G ∧
      C05.Composes F G r (fun β v => decide (C05.nbCount B β v % 2 = 1)) := by
  have h := C05.xorCompression_composes F _ (bipWF_history F.nvars r ops)
    (bip_history_lr F.nvars r ops).1 hF
  rw [(bip_history_lr F.nvars r ops).2] at h
  exact h

/-- majority compression, likewise -/
theorem majCompression_composes_reachable (F : CNF) (hF : F.WF) (r : Nat) (ops : List GOp) :
    let B := (BipG.init F.nvars r).run ops
    ∃ G, compress F B 1 = .ok G ∧
      C05.Composes F G r (fun β v => decide ((B.rnbrs v).length ≤ 2 * C05.nbCount B β v)) := by
  have h := C05.majCompression_composes F _ (bipWF_history F.nvars r ops)
    (bip_history_lr F.nvars r ops).1 hF
  rw [(bip_history_lr F.nvars r ops).2] at h
  exact h

end Cnfgen.C16
