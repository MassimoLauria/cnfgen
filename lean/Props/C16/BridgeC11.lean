/-
C16 bridge → C04 (mapping part) and C11 (variable groups over graph edges).
* the hypothesis `BipG.WF` of `Lemmas/BipWF.lean` is C16's `BipG.Inv` field by field, so it holds
  after EVERY history of updates of a `BipartiteGraph`;
* the hypotheses `graphAux G = .ok B` / `digraphAux D succ = .ok B` of C11 (the construction of
  the auxiliary bipartite graph inside `GraphEdgesVariables` / `DiGraphEdgesVariables` did not
  raise) are always fulfilled on a consistent `Graph` / `DirectedGraph`: every listed edge is
  inside the graph, so no `add_edge` of the construction can fail.
-/
import Props.C16.BridgeBase
import Props.C04.Mapping
import Props.C11
namespace Cnfgen.C16
open Cnfgen Cnfgen.Vars

theorem bipGWF_history (l r : Nat) (ops : List GOp) : ((BipG.init l r).run ops).WF :=
  BipG.wf_iff_inv.2 (bip_inv_history l r ops)

theorem graphAux_ok_history (n : Nat) (ops : List GOp) :
    ∃ B, graphAux ((SimpleG.init n).run ops) = .ok B :=
  graphAux_ok _ (simple_inv_history n ops)

theorem digraphAux_ok_history (n : Nat) (ops : List GOp) (succ : Bool) :
    ∃ B, digraphAux ((DiG.init n).run ops) succ = .ok B :=
  digraphAux_ok _ (di_inv_history n ops) succ

/-- C11: the edge variables of every reachable `BipartiteGraph` are numbered consecutively in
`edges()` order, and `to_index` inverts `__call__` without ever raising anything but `ValueError` -/
theorem bip_bijection_reachable (l r : Nat) (ops : List GOp) (s : Nat) :
    let G := (BipG.init l r).run ops
    G.edges.map (fun e => bipId G s e.1 e.2) = List.range' s G.numberOfEdges ∧
    (∀ u v, (u, v) ∈ G.edgeset →
      bipIndex G s (bipId G s u v : Int) = .ok (u, v) ∧ bipIndex G s (-(bipId G s u v : Int)) = .ok (u, v)) ∧
    (∀ lit u v, bipIndex G s lit = .ok (u, v) → (u, v) ∈ G.edgeset ∧ bipId G s u v = lit.natAbs) ∧
    (∀ lit e, bipIndex G s lit = .error e → e = .valueError) :=
  C11.bip_bijection (bipGWF_history l r ops) s

/-- C11: `new_graph_edges(G)` on every reachable `Graph`: the group exists and is well formed for
every legal first identifier -/
theorem graph_edges_reachable (n : Nat) (ops : List GOp) (s : Nat) (hs : 1 ≤ s) (f : String) :
    ∃ B, graphAux ((SimpleG.init n).run ops) = .ok B ∧ (Group.graph s B f).WF := by
  obtain ⟨B, hB⟩ := graphAux_ok_history n ops
  exact ⟨B, hB, (C11.graph_wf_iff hB s f).2 hs⟩

/-- C11: `new_digraph_edges(D, sortby)` on every reachable `DirectedGraph` -/
theorem digraph_edges_reachable (n : Nat) (ops : List GOp) (succ : Bool) (s : Nat) (hs : 1 ≤ s)
    (f : String) :
    let D := (DiG.init n).run ops
    ∃ B, digraphAux D succ = .ok B ∧ (Group.digraph s B succ f).WF ∧
      (∀ a b, (a, b) ∈ B.edgeset ↔ (if succ then (b, a) else (a, b)) ∈ D.edges) := by
  obtain ⟨B, hB⟩ := digraphAux_ok_history n ops succ
  exact ⟨B, hB, C11.digraph_edges hB s f hs⟩

/-- C04: `force_complete_mapping` on a sparse unary mapping over every reachable `BipartiteGraph` means
"every domain element is mapped somewhere" -/
theorem mapping_unary_complete_reachable (α : Assign) (l r : Nat) (ops : List GOp) {s : Nat}
    (hs : 1 ≤ s) :
    let G := (BipG.init l r).run ops
    ∃ cons, forceComplete (.unary s G) = .ok cons ∧
      Means α cons (∀ u, 1 ≤ u → u ≤ G.l → ∃ v ∈ G.rnbrs u, atom α G s u v) :=
  C04.mapping_unary_complete α (bipGWF_history l r ops) hs

end Cnfgen.C16
