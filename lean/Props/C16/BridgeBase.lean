/-
C16 bridges, common part: the order of a reachable object.  `DirectedGraph` and
`BipartiteGraph` have no update that changes the number of vertices; `Graph` can only grow.
(Used by the bridge corollaries whose family theorems relate the sizes of two graph arguments.)
-/
import Props.C16
namespace Cnfgen.C16
open Cnfgen

theorem di_step_n (G : DiG) (op : GOp) : (G.step op).1.n = G.n :=
  DiG.step_keeps (I := fun G' => G'.n = G.n) (fun h e => (DiG.addEdge_n e).trans h) rfl op

/-- a `DirectedGraph(n)` has `n` vertices after every history -/
theorem di_run_n (G : DiG) (ops : List GOp) : (G.run ops).n = G.n :=
  run_keeps (step := DiG.step) (I := fun G' => G'.n = G.n) (fun h op => (di_step_n _ op).trans h) rfl ops

theorem di_history_n (n : Nat) (ops : List GOp) : ((DiG.init n).run ops).n = n := di_run_n _ ops

theorem bip_step_lr (G : BipG) (op : GOp) : (G.step op).1.l = G.l ∧ (G.step op).1.r = G.r :=
  BipG.step_keeps (I := fun G' => G'.l = G.l ∧ G'.r = G.r)
    (fun h e => ⟨(BipG.addEdge_lr e).1.trans h.1, (BipG.addEdge_lr e).2.trans h.2⟩) ⟨rfl, rfl⟩ op

/-- a `BipartiteGraph(l, r)` keeps its two sides after every history -/
theorem bip_run_lr (G : BipG) (ops : List GOp) : (G.run ops).l = G.l ∧ (G.run ops).r = G.r :=
  run_keeps (step := BipG.step) (I := fun G' => G'.l = G.l ∧ G'.r = G.r)
    (fun h op => ⟨(bip_step_lr _ op).1.trans h.1, (bip_step_lr _ op).2.trans h.2⟩) ⟨rfl, rfl⟩ ops

theorem bip_history_lr (l r : Nat) (ops : List GOp) :
    ((BipG.init l r).run ops).l = l ∧ ((BipG.init l r).run ops).r = r := bip_run_lr _ ops

theorem simple_step_n_le (G : SimpleG) (op : GOp) : G.n ≤ (G.step op).1.n :=
  SimpleG.step_keeps (I := fun G' => G.n ≤ G'.n) (fun h e => (SimpleG.addEdge_n e).symm ▸ h)
    (fun u v h => (SimpleG.removeEdge_n _ u v).symm ▸ h)
    (fun {G₁ G₂ k} h e => by
      rcases SimpleG.updateVertexNumber_cases G₁ k with ⟨_, he⟩ | ⟨_, G', he, hn, _⟩
      · rw [he] at e; cases e
      · rw [he] at e; cases e; omega)
    (Nat.le_refl _) op

/-- a `Graph(n)` never loses vertices -/
theorem simple_run_n_le (G : SimpleG) (ops : List GOp) : G.n ≤ (G.run ops).n :=
  run_keeps (step := SimpleG.step) (I := fun G' => G.n ≤ G'.n) (fun h op => Nat.le_trans h (simple_step_n_le _ op))
    (Nat.le_refl _) ops

theorem simple_history_n_le (n : Nat) (ops : List GOp) : n ≤ ((SimpleG.init n).run ops).n :=
  simple_run_n_le (SimpleG.init n) ops

example : ((SimpleG.init 2).run [.updateVertexNumber 5, .updateVertexNumber 3]).n = 5 := by decide +kernel

end Cnfgen.C16
