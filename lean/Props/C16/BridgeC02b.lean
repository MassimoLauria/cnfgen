/-
C16 bridge → C02 (second share: isomorphism / automorphism, subgraph, clique, Ramsey witness).
The hypothesis `Fam.G2.GoodGraph` (`has_edge` symmetric and irreflexive) follows from C16's
representation invariant, hence holds after every history of updates.
-/
import Props.C16
import Props.C02.Graphs2
namespace Cnfgen.C16
open Cnfgen Cnfgen.Fam.G2

theorem g2GoodGraph_of_inv (G : SimpleG) (h : SimpleG.Inv G) : Fam.G2.GoodGraph G :=
  goodGraph_of_edgeset G (fun e he => ⟨h.symm e.1 e.2 he, (h.range e.1 e.2 he).2.2.2.2⟩)

theorem g2GoodGraph_history (n : Nat) (ops : List GOp) :
    Fam.G2.GoodGraph ((SimpleG.init n).run ops) :=
  g2GoodGraph_of_inv _ (simple_inv_history n ops)

theorem g2GoodGraph_ofEdges (n : Nat) (es : List (Nat × Nat)) (G : SimpleG)
    (h : SimpleG.ofEdges n es = .ok G) : Fam.G2.GoodGraph G :=
  g2GoodGraph_of_inv _ (SimpleG.inv_ofEdges h)

/-- the isomorphism formula of two reachable graphs (any two histories, any sizes) means
"`α` encodes an isomorphism" … -/
theorem graphIsomorphism_holds_reachable (n1 n2 : Nat) (ops1 ops2 : List GOp) (α : Assign) :
    let G1 := (SimpleG.init n1).run ops1
    let G2 := (SimpleG.init n2).run ops2
    (graphIsomorphism G1 G2).holds α = true ↔ C02.IsoSpec G1 G2 α :=
  C02.graphIsomorphism_holds _ _ (g2GoodGraph_history n1 ops1) (g2GoodGraph_history n2 ops2) α

/-- … and is satisfiable iff the two graphs are isomorphic -/
theorem graphIsomorphism_sat_iff_reachable (n1 n2 : Nat) (ops1 ops2 : List GOp) :
    let G1 := (SimpleG.init n1).run ops1
    let G2 := (SimpleG.init n2).run ops2
    (∃ α, (graphIsomorphism G1 G2).holds α = true) ↔ ∃ f, C02.IsIsomorphism G1 G2 f :=
  C02.graphIsomorphism_sat_iff _ _ (g2GoodGraph_history n1 ops1) (g2GoodGraph_history n2 ops2)

theorem graphAutomorphism_sat_iff_reachable (n : Nat) (ops : List GOp) :
    let G := (SimpleG.init n).run ops
    (∃ α, (graphAutomorphism G).holds α = true) ↔ ∃ l, C02.IsIsoTable G G l ∧ l ≠ verts G.n :=
  C02.graphAutomorphism_sat_iff _ (g2GoodGraph_history n ops)

theorem cliqueCore_sat_iff_reachable (n : Nat) (ops : List GOp) (k : Nat) (sb : Bool) :
    let G := (SimpleG.init n).run ops
    (∃ α, (cliqueCore G k sb).holds α = true) ↔ C02.HasClique G k :=
  C02.cliqueCore_sat_iff _ (g2GoodGraph_history n ops) k sb

theorem binaryCliqueCore_sat_iff_reachable (n : Nat) (ops : List GOp) (k : Nat) (sb : Bool) :
    let G := (SimpleG.init n).run ops
    (∃ α, (binaryCliqueCore G k sb).holds α = true) ↔ C02.HasClique G k :=
  C02.binaryCliqueCore_sat_iff _ (g2GoodGraph_history n ops) k sb

theorem subgraphFormula_sat_iff_reachable (n m : Nat) (opsG opsH : List GOp) (ind sb : Bool) :
    let G := (SimpleG.init n).run opsG
    let H := (SimpleG.init m).run opsH
    (∃ α, (subgraphFormula G H ind sb).holds α = true) ↔ ∃ l, C02.IsEmbTable G H ind sb l :=
  C02.subgraphFormula_sat_iff _ _ (g2GoodGraph_history n opsG) (g2GoodGraph_history m opsH) ind sb

/-- the Ramsey-witness formula of a reachable graph is satisfiable iff the graph has a `k`-clique or an independent
set of size `s` — every `k`, `s` (D25 fixed), both symmetry modes -/
theorem ramseyWitness_sat_iff_reachable (n : Nat) (ops : List GOp) (k s : Nat) (sb : Bool) :
    let G := (SimpleG.init n).run ops
    (∃ α, (ramseyWitnessCore G k s sb).holds α = true) ↔ (C02.HasClique G k ∨ C02.HasIndep G s) :=
  C02.ramseyWitness_sat_iff _ (g2GoodGraph_history n ops) k s sb

end Cnfgen.C16
