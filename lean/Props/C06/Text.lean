/-
C06 at CHARACTER level (writer → reader): the text `to_dimacs_file` writes, character by
character (`renderDimacsText`: `str(lit)+" "` … `"0\n"`, `p cnf n m`, comment lines), is lexed
(`readlines()`, `split()`, `int()`) into exactly the token rows the theorems of `Props/C06.lean`
speak about, and hence read back as the formula.  Helper lemmas: `Lemmas/IOText*.lean`.
-/
import Props.C06
import Lemmas.IOTextDimacs
namespace Cnfgen.C06
open Cnfgen Cnfgen.IO

/-- the two numbers of the problem line have at most `maxStrDigits` (= 4300) decimal digits:
beyond that CPython refuses both `str(n)` and `int(s)` (`sys.get_int_max_str_digits`).
For a well-formed formula every literal is then printable too: `dimacsPrintable_of_wf` gives `IO.DimacsPrintable`,
the form with the bound on the literals that the lexer lemmas use.  (`C12.PrintableCNF` is this predicate again,
stated where the OPB writer is applied to a CNF.) -/
def Printable (F : CNF) : Prop := F.nvars < 10 ^ maxStrDigits ∧ F.clauses.length < 10 ^ maxStrDigits

/-- the lexer inverts the printer: lexing the written characters gives the token rows of the
token-level writer — for every formula whose numbers are printable, every header dictionary and
every label list, in text-mode (`u = true`: universal newlines) and in `StringIO` mode -/
theorem dimacs_text_lex (u : Bool) (F : CNF) (hdr : Option Header) (names : Option (List Str))
    (hF : F.WF) (hp : Printable F) :
    lex u (renderDimacsText F hdr names) = renderDimacs u F hdr names :=
  lex_renderDimacsText u F hdr names (dimacsPrintable_of_wf F hF hp.1 hp.2)

/-- T-C06.1 at character level: reading back the characters the writer wrote gives the same
formula — for every well-formed formula (all sizes up to the digit limit of CPython itself),
with or without header and variable names, whatever characters (line breaks, `c`/`p` at line
start, digits, blanks of any kind, non-ASCII) the header fields, values and labels contain. -/
theorem dimacs_text_roundtrip (u : Bool) (F : CNF) (hdr : Option Header) (names : Option (List Str))
    (hF : F.WF) (hp : Printable F) :
    readDimacsText u (renderDimacsText F hdr names) = .ok F := by
  unfold readDimacsText
  rw [dimacs_text_lex u F hdr names hF hp]
  exact roundtrip u F hdr names hF

/-- the written text, as a text, denotes the formula (`Denotes` is the format's definition) -/
theorem dimacs_text_denotes (u : Bool) (F : CNF) (hdr : Option Header) (names : Option (List Str))
    (hF : F.WF) (hp : Printable F) :
    Denotes (lex u (renderDimacsText F hdr names)) F :=
  reader_sound _ F (dimacs_text_roundtrip u F hdr names hF hp)

/-- the bound is necessary: when one of the two counts has more than `maxStrDigits` digits, the
reader rejects the digits the model's writer lays out (real CPython already raises ValueError
inside the writer, at `"p cnf {0} {1}".format(n, m)`) -/
theorem dimacs_text_limit (u : Bool) (F : CNF) (hdr : Option Header) (names : Option (List Str))
    (hp : ¬ Printable F) :
    readDimacsText u (renderDimacsText F hdr names) = .error .valueError := by
  have hbig : 10 ^ maxStrDigits ≤ F.nvars ∨ 10 ^ maxStrDigits ≤ F.clauses.length := by
    unfold Printable at hp; omega
  have hskip : ∀ r ∈ dimacsCommentRows u hdr names, Skip r := by
    intro r hr
    obtain ⟨rest, rfl⟩ := dimacsCommentRows_c u hdr names r hr
    right; simp [Row.cls]
  -- one of the two numbers is lexed as a word, not as a number
  have hspec : parseSpec [Tok.word ['p'], Tok.word ['c', 'n', 'f'], classify (natStr F.nvars),
      classify (natStr F.clauses.length)] = .error .valueError := by
    rcases hbig with h | h
    · rw [classify_natStr_big _ h]; simp [parseSpec]
    · rw [classify_natStr_big _ h]; cases classify (natStr F.nvars) <;> simp [parseSpec]
  have hstep : rowStep PState.init [Tok.word ['p'], Tok.word ['c', 'n', 'f'], classify (natStr F.nvars),
      classify (natStr F.clauses.length)] = .error .valueError := by
    simp [rowStep, Row.cls, PState.init, hspec]
  unfold readDimacsText parseDimacs runGenerator
  rw [lex_renderDimacsText_lines, lexLine_dimacsSpecLine, List.foldlM_append, rows_skip PState.init _ hskip]
  simp only [except_bind_ok, List.foldlM_cons, hstep, except_bind_error]

/-- the round trip without the digit bound, as a statement … -/
def TextRoundtripUnbounded : Prop :=
  ∀ (u : Bool) (F : CNF) (hdr : Option Header) (names : Option (List Str)),
    F.WF → readDimacsText u (renderDimacsText F hdr names) = .ok F

/-- … is false of the model (and of CPython): the empty formula over `10^4300` variables -/
theorem text_roundtrip_unbounded_false : ¬ TextRoundtripUnbounded := by
  intro h
  have hwf : (CNF.mk (10 ^ maxStrDigits) []).WF := by intro c hc; simp at hc
  have h1 := h false ⟨10 ^ maxStrDigits, []⟩ none none hwf
  have h2 := dimacs_text_limit false ⟨10 ^ maxStrDigits, []⟩ none none
    (by intro hp; exact Nat.lt_irrefl _ hp.1)
  rw [h2] at h1
  cases h1

/-! ### non-vacuity -/

/-- a printable well-formed formula -/
example : (CNF.mk 5 [[1, -2], [], [3, 3, -1]]).WF ∧ Printable (CNF.mk 5 [[1, -2], [], [3, 3, -1]]) :=
  ⟨by unfold CNF.WF; decide, lt_limit_of_le (by decide), lt_limit_of_le (by decide)⟩

/-- the characters written for it with a multi-line header value whose second line starts with `p`
and a label containing a line break (the D14 witnesses), and what the reader makes of them -/
example : renderDimacsText ⟨2, [[1, -2], []]⟩ (some [("d".toList, "g\np cnf 9 9".toList)]) (some ["x\ny".toList, "b".toList]) =
    "c d: g\nc p cnf 9 9\nc\nc varname 1 x y\nc varname 2 b\nc\np cnf 2 2\n1 -2 0\n0\n".toList := renderDimacsText_sample

example : readDimacsText true
    "c d: g\nc p cnf 9 9\nc\nc varname 1 x y\nc varname 2 b\nc\np cnf 2 2\n1 -2 0\n0\n".toList =
    .ok ⟨2, [[1, -2], []]⟩ := by
  rw [← renderDimacsText_sample]
  exact dimacs_text_roundtrip true _ _ _ (by unfold CNF.WF; decide) ⟨lt_limit_of_le (by decide), lt_limit_of_le (by decide)⟩

/-- `int(str(z)) == z` on a concrete number, by the general lemma -/
example : pyInt? (intStr (-1234567890123456789)) = some (-1234567890123456789) :=
  pyInt_intStr _ (lt_limit_of_lt_pow 19 (by decide) (by decide))

end Cnfgen.C06
