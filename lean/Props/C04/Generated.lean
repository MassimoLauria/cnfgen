/-
C04 — `normalize_opb` of cnfgen/formula/baseopb.py as TRANSLATED (`Generated/Funcs.lean`, regenerated from the source
on every run) computes the hand-written model's `PB.normalize` — for every constraint.  Hence `normalize_sem`,
`normalize_form`, `normalize_pos` of `Props/C04.lean` speak about what the source says.
-/
import Lemmas.GenOpb
import Lemmas.OPB
import Props.C04
set_option linter.unusedSimpArgs false
namespace Cnfgen.C04
open Cnfgen Cnfgen.PyGen Cnfgen.GenOpb

/-- the index loop + final filter of the translated function, on any terms and degree -/
theorem gen_normalize_opb_tail (ts : List (Int × Int)) (op : String) (v : Int) :
    ((List.foldlM step (v, ts) (Py.Range.toList (Py.Range.mk 0 (Py.len ts)))) >>= fun st18 =>
      Except.ok (List.map (fun (z : Int × Int) => (z.1, z.2)) (List.filter (fun (z : Int × Int) => decide (z.1 ≠ 0)) st18.2),
        op, st18.1)) =
    Except.ok ((PB.normTerms ts v).1, op, (PB.normTerms ts v).2) := by
  have h := loop_eq ts [] v
  simp only [List.length_nil, Nat.zero_add, List.nil_append] at h
  rw [Py.len_eq, Py.range_zero_toList]
  show (List.foldlM step (v, ts) ((List.range ts.length).map fun (i : Nat) => (i : Int)) >>= _) = _
  rw [h, Py.ok_bind, normTerms_eq]
  simp only [Prod.mk.eta, List.map_id']

/-- **`normalize_opb` of the source is `PB.normalize` of the model** (operators as their Python strings) -/
theorem gen_normalize_opb_eq_model (c : PBC) :
    normalize_opb (c.terms, c.op.str, c.rhs) =
      Except.ok ((PB.normalize c).terms, (PB.normalize c).op.str, (PB.normalize c).rhs) := by
  obtain ⟨ts, op, v⟩ := c
  -- both sides compute the branches taken for the given operator; what is left is the loop
  cases op <;> exact gen_normalize_opb_tail _ _ _

/-- **normalisation on the translated source**, the model only in the vocabulary (`PBC.holds` = the arithmetic meaning
of a constraint): `normalize_opb` never raises; what it returns has the same satisfying assignments (all six
operators, any integer coefficients, literals non-zero), strictly positive coefficients only, and — for the five
operators `add_constraint` documents — the operator `>=` or `==` -/
theorem gen_normalize_opb_spec (c : PBC) :
    ∃ c' : PBC, normalize_opb (c.terms, c.op.str, c.rhs) = Except.ok (c'.terms, c'.op.str, c'.rhs) ∧
      (∀ α, NonZeroTerms c.terms → c'.holds α = c.holds α) ∧
      (∀ t ∈ c'.terms, 0 < t.1) ∧
      (c.op ≠ .ne → c'.op = .ge ∨ c'.op = .eq) :=
  ⟨PB.normalize c, gen_normalize_opb_eq_model c, fun α h => normalize_sem c α h, normalize_pos c,
    fun h => (normalize_form c h).1⟩

/-- non-vacuity: the docstring's examples -/
example : normalize_opb ([(1, 3), (-2, 2), (1, 4)], ">", 3) = Except.ok ([(1, 3), (2, -2), (1, 4)], ">=", 6) := by decide +kernel
example : normalize_opb ([(2, -3)], "<", 1) = Except.ok ([(2, 3)], ">=", 2) := by decide +kernel

end Cnfgen.C04
