/-
C04 (mapping part, T-C04.6) — `force_{complete,functional,surjective,injective,nondecreasing}_mapping`
of unary (`new_mapping`), sparse (`new_sparse_mapping`) and binary (`new_binary_mapping`) mappings
constrain to exactly the functional condition they are named after, for the clause encoding (class
CNF) and the pseudo-Boolean encoding (class OPB) alike; `forbid(i, j)` is false exactly when the
bits of `i` encode `j`.
Model: `CnfgenModel/Vars/Mapping.lean`.  Property theorems only; lemmas in `Lemmas/VarsMapping.lean`,
`Lemmas/VarsBinary.lean`.
Unary mappings `new_mapping(n, m)` are the case `G = BipG.complete n m` (`BipG.wf_complete`).
-/
import Lemmas.VarsMapping
namespace Cnfgen.C04
open Cnfgen Cnfgen.Vars

/-- complete ↔ every `u` of the domain is mapped to some admissible `v` -/
theorem mapping_unary_complete (α : Assign) {G : BipG} (h : G.WF) {s : Nat} (hs : 1 ≤ s) :
    ∃ cons, forceComplete (.unary s G) = .ok cons ∧
      Means α cons (∀ u, 1 ≤ u → u ≤ G.l → ∃ v ∈ G.rnbrs u, atom α G s u v) :=
  ⟨_, rfl, means_rows fun u => row_clause α _ (bipId_row_pos h hs u)⟩

/-- functional ↔ every `u` is mapped to at most one `v` -/
theorem mapping_unary_functional (α : Assign) {G : BipG} (h : G.WF) {s : Nat} (hs : 1 ≤ s) :
    ∃ cons, forceFunctional (.unary s G) = .ok cons ∧
      Means α cons (∀ u, 1 ≤ u → u ≤ G.l → ∀ v ∈ G.rnbrs u, ∀ v' ∈ G.rnbrs u,
        atom α G s u v → atom α G s u v' → v = v') :=
  ⟨_, rfl, means_rows fun u => row_atMostOne α (SortedLt.nodup (h.row_sorted u)) _ (bipId_row_pos h hs u)⟩

/-- surjective ↔ every `v` of the range has some admissible `u` mapped to it -/
theorem mapping_unary_surjective (α : Assign) {G : BipG} (h : G.WF) {s : Nat} (hs : 1 ≤ s) :
    ∃ cons, forceSurjective (.unary s G) = .ok cons ∧
      Means α cons (∀ v, 1 ≤ v → v ≤ G.r → ∃ u ∈ G.lnbrs v, atom α G s u v) :=
  ⟨_, rfl, means_rows fun v => row_clause α _ (bipId_col_pos h hs v)⟩

/-- injective ↔ every `v` has at most one `u` mapped to it -/
theorem mapping_unary_injective (α : Assign) {G : BipG} (h : G.WF) {s : Nat} (hs : 1 ≤ s) :
    ∃ cons, forceInjective (.unary s G) = .ok cons ∧
      Means α cons (∀ v, 1 ≤ v → v ≤ G.r → ∀ u ∈ G.lnbrs v, ∀ u' ∈ G.lnbrs v,
        atom α G s u v → atom α G s u' v → u = u') :=
  ⟨_, rfl, means_rows fun v => row_atMostOne α (SortedLt.nodup (h.col_sorted v)) _ (bipId_col_pos h hs v)⟩

/-- non-decreasing ↔ no `u₁ < u₂` mapped to `v₁ > v₂` -/
theorem mapping_unary_nondecreasing (α : Assign) {G : BipG} (h : G.WF) {s : Nat} (hs : 1 ≤ s) :
    ∃ cons, forceNondecreasing (.unary s G) = .ok cons ∧
      Means α cons (∀ u₁ u₂, 1 ≤ u₁ → u₁ < u₂ → u₂ ≤ G.l → ∀ v₁ ∈ G.rnbrs u₁, ∀ v₂ ∈ G.rnbrs u₂,
        v₂ < v₁ → ¬ (atom α G s u₁ v₁ ∧ atom α G s u₂ v₂)) := by
  refine ⟨_, rfl, means_of ?_ ⟨?_, ?_⟩⟩
  · intro c hc l hl
    obtain ⟨u₁, u₂, -, v₁, h1, v₂, h2, -, rfl⟩ := (mem_forceNondecreasing_unary rfl).1 hc
    rcases List.mem_pair.1 hl with rfl | rfl
    · exact negLit_ne_zero (bipId_row_pos h hs u₁ v₁ h1)
    · exact negLit_ne_zero (bipId_row_pos h hs u₂ v₂ h2)
  · intro hh u₁ u₂ hu1 hlt hu2 v₁ hv1 v₂ hv2 hv
    exact (clauseHolds_two_neg α).1 (hh _ ((mem_forceNondecreasing_unary rfl).2
      ⟨u₁, u₂, ⟨hu1, hlt, Nat.lt_succ_of_le hu2⟩, v₁, hv1, v₂, hv2, hv, rfl⟩))
  · intro hh c hc
    obtain ⟨u₁, u₂, ⟨hu1, hlt, hu2⟩, v₁, hv1, v₂, hv2, hv, rfl⟩ := (mem_forceNondecreasing_unary rfl).1 hc
    exact (clauseHolds_two_neg α).2 (hh u₁ u₂ hu1 hlt (Nat.le_of_lt_succ hu2) v₁ hv1 v₂ hv2 hv)

/-- non-vacuity: a sparse mapping with an isolated domain element, and `new_mapping(3, 2)` -/
example : ∀ G, BipG.ofEdges 3 3 [(1, 2), (1, 3), (3, 1)] = .ok G → G.WF :=
  fun _ h => (BipG.wf_ofEdges h).1
example : (BipG.ofEdges 3 3 [(1, 2), (1, 3), (3, 1)]).isOk = true := by decide +kernel
example : (BipG.complete 3 2).WF := BipG.wf_complete 3 2

/-- `forbid(i, j)`, `0 ≤ j < 2^bits`: a clause of non-zero literals that is false exactly when the
bits of `i` encode `j`; for `j ≥ 2^bits` the code raises ValueError -/
theorem mapping_forbid (α : Assign) {s bits i j : Nat} (hs : 1 ≤ s) (hi : 1 ≤ i) :
    (j < 2 ^ bits → ∃ c, forbid s bits i j = .ok c ∧ (∀ l ∈ c, l ≠ 0) ∧
      (clauseHolds α c = false ↔ binVal α s bits i = j)) ∧
    (2 ^ bits ≤ j → forbid s bits i j = .error .valueError) :=
  ⟨fun hj => forbid_spec α hs hi hj, fun hj => forbid_error hj⟩

/-- binary complete ↔ every element encodes a value of the range `0 … m-1` -/
theorem mapping_binary_complete (α : Assign) {s n m : Nat} (hs : 1 ≤ s) :
    ∃ cons, forceComplete (.binary s n m) = .ok cons ∧
      Means α cons (∀ i, 1 ≤ i → i ≤ n → binVal α s (clog2 m) i < m) := by
  refine means_mapM (Q := fun i j => ¬ binVal α s (clog2 m) i = j)
    (fun i hi j hj => forbid_one α hs hi (mem_rangeN.1 hj).2) ⟨?_, ?_⟩
  · intro hh i h1 h2
    refine Nat.lt_of_not_le fun hle => ?_
    exact hh i (mem_rangeN.2 ⟨h1, Nat.lt_succ_of_le h2⟩) _ (mem_rangeN.2 ⟨hle, binVal_lt α s (clog2 m) i⟩) rfl
  · intro hh i hi j hj he
    have := hh i (mem_rangeN.1 hi).1 (Nat.le_of_lt_succ (mem_rangeN.1 hi).2)
    exact Nat.not_le_of_lt (he ▸ this) (mem_rangeN.1 hj).1

/-- binary functional: nothing is added (a bit string encodes exactly one value) -/
theorem mapping_binary_functional (s n m : Nat) : forceFunctional (.binary s n m) = .ok [] :=
  rfl

/-- binary surjective: not offered by the code ("works only for unary") — ValueError -/
theorem mapping_binary_surjective (s n m : Nat) : forceSurjective (.binary s n m) = .error .valueError :=
  rfl

/-- binary injective ↔ no two elements encode the same value of the range -/
theorem mapping_binary_injective (α : Assign) {s n m : Nat} (hs : 1 ≤ s) :
    ∃ cons, forceInjective (.binary s n m) = .ok cons ∧
      Means α cons (∀ i j, 1 ≤ i → i < j → j ≤ n → ∀ y, y < m →
        ¬ (binVal α s (clog2 m) i = y ∧ binVal α s (clog2 m) j = y)) := by
  refine means_mapM (L' := pairs2 (rangeN 1 (n + 1)))
    (Q := fun y p => ¬ (binVal α s (clog2 m) p.1 = y ∧ binVal α s (clog2 m) p.2 = y))
    (fun y hy p hp => forbid_pair α hs hp (mem_rangeN.1 hy).2 (mem_rangeN.1 hy).2) ⟨?_, ?_⟩
  · intro hh i j h1 h2 h3 y hy
    exact hh y (mem_rangeN.2 ⟨Nat.zero_le y, hy⟩) (i, j) (mem_pairs2_rangeN.2 ⟨h1, h2, Nat.lt_succ_of_le h3⟩)
  · rintro hh y hy ⟨i, j⟩ hp
    obtain ⟨h1, h2, h3⟩ := mem_pairs2_rangeN.1 hp
    exact hh i j h1 h2 (Nat.le_of_lt_succ h3) y (mem_rangeN.1 hy).2

/-- binary non-decreasing ↔ no `i < j` encoding values of the range in decreasing order -/
theorem mapping_binary_nondecreasing (α : Assign) {s n m : Nat} (hs : 1 ≤ s) :
    ∃ cons, forceNondecreasing (.binary s n m) = .ok cons ∧
      Means α cons (∀ i j, 1 ≤ i → i < j → j ≤ n → ∀ v₁ v₂, v₁ < v₂ → v₂ < m →
        ¬ (binVal α s (clog2 m) i = v₂ ∧ binVal α s (clog2 m) j = v₁)) := by
  refine means_mapM (L := pairs2 (rangeN 1 (n + 1))) (L' := pairs2 (rangeN 0 m))
    (Q := fun p q => ¬ (binVal α s (clog2 m) p.1 = q.2 ∧ binVal α s (clog2 m) p.2 = q.1))
    (fun p hp q hq => forbid_pair α hs hp (mem_pairs2_rangeN.1 hq).2.2
      (Nat.lt_trans (mem_pairs2_rangeN.1 hq).2.1 (mem_pairs2_rangeN.1 hq).2.2)) ⟨?_, ?_⟩
  · intro hh i j h1 h2 h3 v₁ v₂ hv hv2
    exact hh (i, j) (mem_pairs2_rangeN.2 ⟨h1, h2, Nat.lt_succ_of_le h3⟩) (v₁, v₂)
      (mem_pairs2_rangeN.2 ⟨Nat.zero_le v₁, hv, hv2⟩)
  · rintro hh ⟨i, j⟩ hp ⟨v₁, v₂⟩ hq
    obtain ⟨h1, h2, h3⟩ := mem_pairs2_rangeN.1 hp
    obtain ⟨-, hv, hv2⟩ := mem_pairs2_rangeN.1 hq
    exact hh i j h1 h2 (Nat.le_of_lt_succ h3) v₁ v₂ hv hv2

/-- together with completeness the last two are the plain conditions on `binVal` -/
theorem mapping_binary_total_injective (α : Assign) {s n m : Nat}
    (hc : ∀ i, 1 ≤ i → i ≤ n → binVal α s (clog2 m) i < m) :
    (∀ i j, 1 ≤ i → i < j → j ≤ n → ∀ y, y < m →
        ¬ (binVal α s (clog2 m) i = y ∧ binVal α s (clog2 m) j = y)) ↔
    (∀ i j, 1 ≤ i → i < j → j ≤ n → binVal α s (clog2 m) i ≠ binVal α s (clog2 m) j) := by
  constructor
  · intro h i j h1 h2 h3 he
    exact h i j h1 h2 h3 _ (hc i h1 (Nat.le_trans (Nat.le_of_lt h2) h3)) ⟨rfl, he.symm⟩
  · intro h i j h1 h2 h3 y _ ⟨e1, e2⟩
    exact h i j h1 h2 h3 (e1.trans e2.symm)

theorem mapping_binary_total_nondecreasing (α : Assign) {s n m : Nat}
    (hc : ∀ i, 1 ≤ i → i ≤ n → binVal α s (clog2 m) i < m) :
    (∀ i j, 1 ≤ i → i < j → j ≤ n → ∀ v₁ v₂, v₁ < v₂ → v₂ < m →
        ¬ (binVal α s (clog2 m) i = v₂ ∧ binVal α s (clog2 m) j = v₁)) ↔
    (∀ i j, 1 ≤ i → i < j → j ≤ n → binVal α s (clog2 m) i ≤ binVal α s (clog2 m) j) := by
  constructor
  · intro h i j h1 h2 h3
    by_contra hlt
    exact h i j h1 h2 h3 _ _ (Nat.lt_of_not_le hlt) (hc i h1 (Nat.le_trans (Nat.le_of_lt h2) h3)) ⟨rfl, rfl⟩
  · intro h i j h1 h2 h3 v₁ v₂ hv _ ⟨e1, e2⟩
    exact Nat.not_le_of_lt hv (e1 ▸ e2 ▸ h i j h1 h2 h3)

example : forbid 1 3 2 0 = .ok [4, 5, 6] := by decide +kernel

end Cnfgen.C04
