/-
C04 — `CNFLinear.add_linear` of cnfgen/formula/linear.py as TRANSLATED (`Generated/Funcs.lean`): a recursive procedure
on the formula object.  The translation keeps what it does to the object: the clauses it appends with
`add_clause(…, check=False)`, in order (the log), the call `_check_and_update(lits)` as an abstract call that may raise, and the
recursion (bounded by `fuel`; Python's limit is 1000, three levels are used).  The log is the model's `Linear.add`.
-/
import Lemmas.GenLinear
import Props.C04
set_option linter.unusedSimpArgs false
namespace Cnfgen.C04
open Cnfgen Cnfgen.PyGen Cnfgen.GenLinear

/-- the `>=` base case: nothing for `k ≤ 0`, the empty clause for `k > n`, else the `(n-k+1)`-subsets -/
theorem gen_add_linear_geq (fuel : Nat) (log : List (List Int)) (lits : List Int) (k : Int)
    (chk : List Int → Except Err Unit) :
    CNFLinear.add_linear (fuel + 1) ((), log) lits ">=" k false chk = Except.ok ((), log ++ Linear.geq lits k) := by
  unfold CNFLinear.add_linear
  -- `decide := true` (here and below): `op in operators` and the dispatch `if op == "!=" … elif op == …` compare string
  -- literals, and `simp` settles each comparison by evaluation
  simp (config := { decide := true }) only [if_true, if_false, Py.ok_bind, Py.len_eq, Linear.geq]
  split
  · rw [List.append_nil]
  · split
    · rfl
    next h0 h1 =>
      obtain ⟨m, rfl⟩ := Int.eq_ofNat_of_zero_le (Int.le_of_lt (Int.not_le.1 h0))
      have hm : m ≤ lits.length := Int.ofNat_le.1 (Int.not_lt.1 h1)
      rw [← Int.ofNat_sub hm, Py.itertoolsR_nonneg _ (Int.le_add_one (Int.natCast_nonneg _)), Py.ok_bind,
        Int.toNat_natCast_add_one, Int.toNat_natCast, emit_loop]

/-- `<=`: the literals are negated and the threshold complemented, then `>=` -/
theorem gen_add_linear_leq (fuel : Nat) (log : List (List Int)) (lits : List Int) (k : Int)
    (chk : List Int → Except Err Unit) :
    CNFLinear.add_linear (fuel + 2) ((), log) lits "<=" k false chk = Except.ok ((), log ++ Linear.leq lits k) := by
  unfold CNFLinear.add_linear
  simp (config := { decide := true }) only [if_true, if_false, Py.ok_bind, Py.len_eq, Linear.leq]
  rw [gen_add_linear_geq]
  simp

/-- `!=`: for every `k`-subset of positions (in `combinations` order) the literals at those positions are negated in
place, the list is emitted, and the positions are negated back — the model's `neqClauses` -/
theorem gen_add_linear_neq (fuel : Nat) (log : List (List Int)) (lits : List Int) (k : Int)
    (chk : List Int → Except Err Unit) :
    CNFLinear.add_linear (fuel + 1) ((), log) lits "!=" k false chk = Except.ok ((), log ++ Linear.neq lits k) := by
  unfold CNFLinear.add_linear
  simp (config := { decide := true }) only [if_true, if_false, Py.ok_bind, Py.len_eq, Linear.neq]
  split
  · rw [List.append_nil]
  next hk =>
    rw [Py.itertoolsR_nonneg _ (Int.not_lt.1 fun h0 => hk (Or.inl h0)), Py.ok_bind]
    rw [Py.foldlM_ext _ neqStepM (by intro s a; rfl)]
    have hl : combos (Py.Range.toList (Py.Range.mk 0 (lits.length : Int))) k.toNat =
        (combos (List.range lits.length) k.toNat).map (fun f => f.map (fun (i : Nat) => (i : Int))) := by
      rw [Py.range_zero_toList, combos_map]
      rfl
    rw [hl, neq_loop lits k.toNat _ (fun f hf => hf), Py.ok_bind, map_flipSeq_combos]

theorem gen_add_linear_nocheck (fuel : Nat) (log : List (List Int)) (lits : List Int) (op : Op) (k : Int)
    (chk : List Int → Except Err Unit) :
    CNFLinear.add_linear (fuel + 3) ((), log) lits op.str k false chk =
      Except.ok ((), log ++ Linear.add lits op k) := by
  cases op
  · exact gen_add_linear_leq (fuel + 1) log lits k chk
  · exact gen_add_linear_geq (fuel + 2) log lits k chk
  · -- <
    unfold CNFLinear.add_linear
    simp (config := { decide := true }) only [Op.str, if_true, if_false, Py.ok_bind, Linear.add]
    rw [gen_add_linear_leq fuel]
    rfl
  · -- >
    unfold CNFLinear.add_linear
    simp (config := { decide := true }) only [Op.str, if_true, if_false, Py.ok_bind, Linear.add]
    rw [gen_add_linear_geq (fuel + 1)]
    rfl
  · -- ==
    unfold CNFLinear.add_linear
    simp (config := { decide := true }) only [Op.str, if_true, if_false, Py.ok_bind, Linear.add]
    rw [gen_add_linear_leq fuel, Py.ok_bind, gen_add_linear_geq (fuel + 1), Py.ok_bind, List.append_assoc]
  · exact gen_add_linear_neq (fuel + 2) log lits k chk

/-- the validation, the `_check_and_update` call, then — whatever the operator — the model's clauses appended to
the formula; three levels of recursion suffice (`==` → `<=` → `>=`) -/
theorem gen_add_linear_eq_model (fuel : Nat) (log : List (List Int)) (lits : List Int) (op : Op) (k : Int)
    (check : Bool) (chk : List Int → Except Err Unit) :
    CNFLinear.add_linear (fuel + 3) ((), log) lits op.str k check chk =
      (if check = true then chk lits else Except.ok ()) >>= fun _ => Except.ok ((), log ++ Linear.add lits op k) := by
  cases check
  · rw [gen_add_linear_nocheck]; rfl
  · -- `check` only decides whether `_check_and_update(lits)` runs before the body, which is the same term
    rw [← gen_add_linear_nocheck fuel log lits op k chk]
    have hmem : ¬ ¬ op.str ∈ ["<=", ">=", "<", ">", "==", "!="] := by cases op <;> decide
    unfold CNFLinear.add_linear
    dsimp only
    rw [ite_self, if_neg hmem, if_neg hmem]
    cases chk lits <;> rfl

/-- an operator that is not one of the six is refused before anything else happens -/
theorem gen_add_linear_bad_operator (fuel : Nat) (s : Unit × List (List Int)) (lits : List Int) (op : String) (k : Int)
    (check : Bool) (chk : List Int → Except Err Unit) (h : op ∉ ["<=", ">=", "<", ">", "==", "!="]) :
    CNFLinear.add_linear (fuel + 1) s lits op k check chk = Except.error Err.valueError := by
  unfold CNFLinear.add_linear
  exact if_pos h

/-- **`add_linear` on the translated source** (the model only in the vocabulary `clauseHolds` / `count`): with Python's
recursion limit as fuel, on a formula holding the clauses `log`, for non-zero literals and any of the six operators the
call succeeds, keeps the old clauses, and the clauses it appends hold under an assignment exactly when the number of true
literal positions satisfies `op k` — repeated and opposite literals, any integer `k` -/
theorem gen_add_linear_spec (log : List (List Int)) (lits : List Int) (op : Op) (k : Int) (h : NonZero lits) :
    ∃ new : List (List Int),
      CNFLinear.add_linear 1000 ((), log) lits op.str k false (fun _ => Except.ok ()) = Except.ok ((), log ++ new) ∧
      ∀ α : Assign, (∀ c ∈ new, clauseHolds α c = true) ↔ op.denote (count α lits) k = true :=
  ⟨Linear.add lits op k, by simpa using gen_add_linear_eq_model 997 log lits op k false _,
    fun α => linear_holds α lits op k h⟩

/-- non-vacuity: the docstring's examples -/
example : CNFLinear.add_linear 1000 ((), []) [-1, 2, -3] "<" 2 true (fun _ => Except.ok ()) =
    Except.ok ((), [[1, -2], [1, 3], [-2, 3]]) := by decide +kernel
example : CNFLinear.add_linear 1000 ((), []) [1, 2, 3] "<=" (-1) true (fun _ => Except.ok ()) =
    Except.ok ((), [[]]) := by decide +kernel
example : CNFLinear.add_linear 1000 ((), []) [1, 2] "!=" 1 true (fun _ => Except.ok ()) =
    Except.ok ((), [[-1, 2], [1, -2]]) := by decide +kernel

end Cnfgen.C04
