/-
C14 — Graph files round-trip in every supported format; bad files are rejected.

Model: `CnfgenModel/IO/GraphFmt.lean` (readers / writers over rows), lexer
`CnfgenModel/IO/GraphLex.lean` (compared with Python by the harness).  This file is at row level;
`Props/C14/Text.lean` composes it with the lexer (characters of the in-house formats), and
`Props/C14/Gml.lean` treats the gml format through a model of networkx's writer and reader.
The graph objects are `SimpleG / DiG / BipG`; the hypothesis `InvAny G` is the representation
invariant of `Lemmas/GraphInv.lean` (adjacency tables sorted and consistent with the edge set),
which C16 proves for every reachable object.
-/
import Lemmas.GraphIOKth
import Lemmas.GraphIODimacs
import Lemmas.GraphIOBip
import Lemmas.GraphIORelabel
import Lemmas.GraphIORead
namespace Cnfgen.C14
open Cnfgen GraphFmt GraphLex

/-- the representation invariant of the object, whatever its class -/
def InvAny : AnyG → Prop
  | .simple G => SimpleG.Inv G
  | .di G => DiG.Inv G
  | .bip G => BipG.Inv G

/-- the object is of the class `readGraph` / `writeGraph` use for the graph type; a graph
written as `'dag'` is acyclic in cnfgen's sense (`is_dag()`) -/
def HasType : GType → AnyG → Prop
  | .simple, .simple _ => True
  | .digraph, .di _ => True
  | .dag, .di G => G.stillDag = true
  | .bipartite, .bip _ => True
  | _, _ => False

/-- equal in everything a caller can observe: class, order (and left/right split), edge
counter, every adjacency table (hence numbering, neighbour views and the edge listing), the
`is_dag` flag, and the edge set as a set (Python's `set` has no order) -/
def SameAny : AnyG → AnyG → Prop
  | .simple G, .simple G' => SimpleG.Same G G'
  | .di G, .di G' => DiG.Same G G'
  | .bip G, .bip G' => BipG.Same G G'
  | _, _ => False

/-- the formats implemented in cnfgen itself (gml and dot go through networkx / pydot) -/
def InHouse (fmt : Fmt) : Prop := fmt = .kthlist ∨ fmt = .dimacs ∨ fmt = .matrix

/-- T-C14.1 Writing a graph of any of the four types in any in-house format supported for the
type and reading the rows back returns the same graph: same order / split, same numbering,
same edges (every adjacency table is identical), isolated vertices and empty sides included,
no bound on the number of vertices. -/
theorem roundtrip (name : Str) (ty : GType) (fmt : Fmt) (G : AnyG) (hin : InHouse fmt) (hsup : fmt ∈ supported ty)
    (hty : HasType ty G) (hinv : InvAny G) :
    ∃ rows G', writeGraph name ty fmt G = .ok rows ∧ readGraph ty rows = .ok G' ∧ SameAny G G' := by
  have hc : checkArgs ty fmt = .ok () := by
    unfold checkArgs
    rw [if_pos (List.contains_iff_mem.2 hsup)]
  cases G with
  | simple g =>
    cases ty <;> simp only [HasType] at hty
    rcases hin with rfl | rfl | rfl
    · obtain ⟨g', h1, h2⟩ := roundtrip_kth_simple (nameLines name).length hinv
      exact ⟨_, .simple g', rfl, congrArg (Except.map AnyG.simple) h1, h2⟩
    · obtain ⟨g', h1, h2⟩ := roundtrip_dimacs_simple (nameLines name).length hinv
      exact ⟨_, .simple g', rfl, congrArg (Except.map AnyG.simple) h1, h2⟩
    · simp [supported] at hsup
  | di g =>
    cases ty <;> simp only [HasType] at hty
    · -- digraph
      rcases hin with rfl | rfl | rfl
      · obtain ⟨g', h1, h2⟩ := roundtrip_kth_di (nameLines name).length hinv
        exact ⟨_, .di g', rfl, congrArg (Except.map AnyG.di) h1, h2⟩
      · obtain ⟨g', h1, h2⟩ := roundtrip_dimacs_di (nameLines name).length hinv
        exact ⟨_, .di g', rfl, congrArg (Except.map AnyG.di) h1, h2⟩
      · simp [supported] at hsup
    · -- dag
      rcases hin with rfl | rfl | rfl
      · obtain ⟨g', h1, h2⟩ := roundtrip_kth_di (nameLines name).length hinv
        have hd : g'.stillDag = true := by rw [h2.stillDag]; exact hty
        exact ⟨.kth (writeKthDi (nameLines name).length g), .di g', by simp [writeGraph, hc], by simp [readGraph, Rows.fmt, hc, h1, hd], h2⟩
      · obtain ⟨g', h1, h2⟩ := roundtrip_dimacs_di (nameLines name).length hinv
        have hd : g'.stillDag = true := by rw [h2.stillDag]; exact hty
        exact ⟨.dimacs (writeDimacsDi (nameLines name).length g), .di g', by simp [writeGraph, hc], by simp [readGraph, Rows.fmt, hc, h1, hd], h2⟩
      · simp [supported] at hsup
  | bip g =>
    cases ty <;> simp only [HasType] at hty
    rcases hin with rfl | rfl | rfl
    · obtain ⟨g', h1, h2⟩ := roundtrip_kth_bip (nameLines name).length hinv
      exact ⟨_, .bip g', rfl, congrArg (Except.map AnyG.bip) h1, h2⟩
    · simp [supported] at hsup
    · obtain ⟨g', h1, h2⟩ := roundtrip_matrix hinv
      exact ⟨_, .bip g', rfl, congrArg (Except.map AnyG.bip) h1, h2⟩


/-- what `SameAny` means for the views, spelled out for simple graphs: same order, same
`number_of_edges()`, same `edges()` listing, same `neighbors(u)` for every `u`, same `has_edge` -/
theorem same_simple_views {G G' : SimpleG} (h : SameAny (.simple G) (.simple G')) :
    G'.n = G.n ∧ G'.m = G.m ∧ G'.edges = G.edges ∧ (∀ u, G'.nbrs u = G.nbrs u) ∧
      ∀ u v : Int, G'.hasEdge u v = G.hasEdge u v := by
  have h : SimpleG.Same G G' := h
  refine ⟨h.n, h.m, h.edges, fun u => by simp [SimpleG.nbrs, h.adj], fun u v => ?_⟩
  rw [Bool.eq_iff_iff, SimpleG.hasEdge_iff, SimpleG.hasEdge_iff, h.edgeset]

/-- … for directed graphs (and DAGs: the `is_dag` flag too) -/
theorem same_di_views {G G' : DiG} (h : SameAny (.di G) (.di G')) :
    G'.n = G.n ∧ G'.m = G.m ∧ G'.edges = G.edges ∧ G'.stillDag = G.stillDag ∧
      (∀ u, G'.preds u = G.preds u) ∧ (∀ u, G'.succs u = G.succs u) := by
  have h : DiG.Same G G' := h
  exact ⟨h.n, h.m, h.edges, h.stillDag, fun u => by simp [DiG.preds, h.pred], fun u => by simp [DiG.succs, h.succ]⟩

/-- … for bipartite graphs: the left/right split, the edge listing, both neighbour views -/
theorem same_bip_views {G G' : BipG} (h : SameAny (.bip G) (.bip G')) :
    G'.l = G.l ∧ G'.r = G.r ∧ G'.edges = G.edges ∧ G'.numberOfEdges = G.numberOfEdges ∧
      (∀ u, G'.rnbrs u = G.rnbrs u) ∧ (∀ v, G'.lnbrs v = G.lnbrs v) := by
  have h : BipG.Same G G' := h
  exact ⟨h.l, h.r, h.edges, h.card, fun u => by simp [BipG.rnbrs, h.ladj], fun v => by simp [BipG.lnbrs, h.radj]⟩

/-- non-vacuity: a 12-vertex simple graph with isolated vertices and two-digit vertex numbers,
a 11-vertex DAG, a bipartite graph with an isolated left vertex, one with an empty side -/
example : ∃ G, SimpleG.ofEdges 12 [(1, 2), (10, 11), (3, 12), (12, 1)] = .ok G ∧ InvAny (.simple G) ∧
    HasType .simple (.simple G) ∧ G.n = 12 := by
  obtain ⟨G, h1, h2, h3, _⟩ := SimpleG.ofEdges_spec (n := 12) (es := [(1, 2), (10, 11), (3, 12), (12, 1)]) (by decide)
  exact ⟨G, h1, h2, trivial, h3⟩
example : ∃ G, DiG.ofEdges 11 [(1, 10), (10, 11), (2, 3)] = .ok G ∧ InvAny (.di G) ∧ HasType .dag (.di G) := by
  obtain ⟨G, h1, h2, _, h4⟩ := DiG.ofEdges_spec (n := 11) (es := [(1, 10), (10, 11), (2, 3)]) (by decide)
  refine ⟨G, h1, h2, h2.dag.2 (fun e he => ?_)⟩
  have hm := (h4 e).1 he
  clear he
  revert hm; revert e; decide
example : ∃ G, BipG.ofEdges 3 11 [(1, 10), (3, 1), (3, 11)] = .ok G ∧ InvAny (.bip G) ∧ HasType .bipartite (.bip G) := by
  obtain ⟨G, h1, h2, _⟩ := BipG.ofEdges_spec (l := 3) (r := 11) (es := [(1, 10), (3, 1), (3, 11)]) (by decide)
  exact ⟨G, h1, h2, trivial⟩
example : InvAny (.bip (BipG.init 4 0)) ∧ InvAny (.bip (BipG.init 0 0)) ∧ InvAny (.simple (SimpleG.init 0)) :=
  ⟨BipG.inv_init 4 0, BipG.inv_init 0 0, SimpleG.inv_init 0⟩
example : Fmt.kthlist ∈ supported .dag ∧ Fmt.dimacs ∈ supported .dag ∧ Fmt.matrix ∈ supported .bipartite := by decide

/-- T-C14.2a Reading ANY rows either succeeds or raises ValueError — no other exception.
(Full strength since the fixes 97bcab4, ea21017 of /repo: an empty kthlist file used to raise
StopIteration, a blank line in a DIMACS file IndexError.) -/
theorem reader_raises_only_valueError (ty : GType) (rows : Rows) (e : Err)
    (h : readGraph ty rows = .error e) : e = .valueError := by
  unfold readGraph at h
  split at h
  · rename_i x hc
    cases h
    unfold checkArgs at hc
    split at hc <;> cases hc
    rfl
  · rename_i hc
    cases ty <;> cases rows
    · exact ((readKth_reads simpleSem _).map _).err h
    · exact ((readDimacs_reads simpleSem _).map _).err h
    · cases hc
    · exact ((readKth_reads diSem _).map _).err h
    · exact ((readDimacs_reads diSem _).map _).err h
    · cases hc
    · exact (readKth_reads diSem _).dag.err h
    · exact (readDimacs_reads diSem _).dag.err h
    · cases hc
    · exact ((readBipKth_reads _).map _).err h
    · cases hc
    · exact ((readMatrix_reads _).map _).err h


/-! T-C14.2b an accepted text yields a graph consistent with the text: the declared order, and
exactly the edges its edge rows state (`kthPairs`, `dimacsPairs`: the integer pairs of the
well-formed edge rows; `kthSize`, `dimacsProbs`: the declarations).  One theorem per reader. -/

/-- kthlist read as a simple graph: `n` is the declared size, every stated pair is a legal edge
of an `n`-vertex simple graph, and `{a, b}` is an edge iff some line states it (in either list,
the liberal reading of www/graphformats.org) -/
theorem kthlist_simple_consistent (rows : List KRow) (G : AnyG) (h : readGraph .simple (.kth rows) = .ok G) :
    ∃ g, G = .simple g ∧ SimpleG.Inv g ∧ kthSize rows = some (g.n : Int) ∧
      (∀ x ∈ kthPairs rows, 1 ≤ x.1 ∧ x.1 ≤ g.n ∧ 1 ≤ x.2 ∧ x.2 ≤ g.n ∧ x.1 ≠ x.2) ∧
      ∀ a b : Nat, (a, b) ∈ g.edgeset ↔
        (((a : Int), (b : Int)) ∈ kthPairs rows ∨ ((b : Int), (a : Int)) ∈ kthPairs rows) := by
  obtain ⟨g, rfl, hi, hs, hv, hm⟩ := ((readKth_reads simpleSem rows).map _).ok h
  exact ⟨g, rfl, hi, hs, hv, simpleSem_edges hv hm⟩

/-- kthlist read as a directed graph (`digraph` or `dag`): `a → b` is an edge iff the line of
`b` lists `a` as a predecessor -/
theorem kthlist_directed_consistent (ty : GType) (hty : ty = .digraph ∨ ty = .dag) (rows : List KRow) (G : AnyG)
    (h : readGraph ty (.kth rows) = .ok G) :
    ∃ g, G = .di g ∧ DiG.Inv g ∧ kthSize rows = some (g.n : Int) ∧
      (∀ x ∈ kthPairs rows, 1 ≤ x.1 ∧ x.1 ≤ g.n ∧ 1 ≤ x.2 ∧ x.2 ≤ g.n) ∧
      ∀ a b : Nat, (a, b) ∈ g.edgeset ↔ ((a : Int), (b : Int)) ∈ kthPairs rows := by
  rcases hty with rfl | rfl
  · obtain ⟨g, rfl, hi, hs, hv, hm⟩ := ((readKth_reads diSem rows).map _).ok h
    exact ⟨g, rfl, hi, hs, hv, diSem_edges hv hm⟩
  · obtain ⟨g, rfl, ⟨hi, hs, hv, hm⟩, _⟩ := (readKth_reads diSem rows).dag.ok h
    exact ⟨g, rfl, hi, hs, hv, diSem_edges hv hm⟩

/-- kthlist read as a bipartite graph: the text declares `l + r` vertices, lists only left
vertices (`≤ l`; `l` itself is listed unless `l = 0`), names only right vertices (`> l`) as
neighbours, and `(a, b)` is an edge iff some line of `a` names `b + l`.  (Before fix db71920 a
repeated left vertex made the reader drop the earlier list: the statement was false.) -/
theorem kthlist_bipartite_consistent (rows : List KRow) (G : AnyG) (h : readGraph .bipartite (.kth rows) = .ok G) :
    ∃ g, G = .bip g ∧ BipG.Inv g ∧ kthSize rows = some ((g.l + g.r : Nat) : Int) ∧
      (∀ x ∈ kthLefts rows, 1 ≤ x ∧ x ≤ (g.l : Int)) ∧ (g.l = 0 ∨ (g.l : Int) ∈ kthLefts rows) ∧
      (∀ x ∈ kthPairs rows, (g.l : Int) + 1 ≤ x.1 ∧ x.1 ≤ ((g.l + g.r : Nat) : Int)) ∧
      ∀ a b : Nat, (a, b) ∈ g.edgeset ↔ (((b + g.l : Nat) : Int), (a : Int)) ∈ kthPairs rows := by
  exact ((readBipKth_reads rows).map _).ok h

/-- DIMACS read as a simple graph: exactly one problem line `p edge n m`, `m` is the number of
edge lines, every stated pair is a legal edge, `{a, b}` is an edge iff some edge line states it -/
theorem dimacs_simple_consistent (rows : List DRow) (G : AnyG) (h : readGraph .simple (.dimacs rows) = .ok G) :
    ∃ g, G = .simple g ∧ SimpleG.Inv g ∧
      dimacsProbs rows = [some ((g.n : Int), ((dimacsEdges rows).length : Int))] ∧
      (∀ x ∈ dimacsPairs rows, 1 ≤ x.1 ∧ x.1 ≤ g.n ∧ 1 ≤ x.2 ∧ x.2 ≤ g.n ∧ x.1 ≠ x.2) ∧
      ∀ a b : Nat, (a, b) ∈ g.edgeset ↔
        (((a : Int), (b : Int)) ∈ dimacsPairs rows ∨ ((b : Int), (a : Int)) ∈ dimacsPairs rows) := by
  obtain ⟨g, rfl, hp, hi, hv, hm⟩ := ((readDimacs_reads simpleSem rows).map _).ok h
  exact ⟨g, rfl, hi, hp, hv, simpleSem_edges hv hm⟩

/-- DIMACS read as a directed graph (`digraph` or `dag`) -/
theorem dimacs_directed_consistent (ty : GType) (hty : ty = .digraph ∨ ty = .dag) (rows : List DRow) (G : AnyG)
    (h : readGraph ty (.dimacs rows) = .ok G) :
    ∃ g, G = .di g ∧ DiG.Inv g ∧
      dimacsProbs rows = [some ((g.n : Int), ((dimacsEdges rows).length : Int))] ∧
      (∀ x ∈ dimacsPairs rows, 1 ≤ x.1 ∧ x.1 ≤ g.n ∧ 1 ≤ x.2 ∧ x.2 ≤ g.n) ∧
      ∀ a b : Nat, (a, b) ∈ g.edgeset ↔ ((a : Int), (b : Int)) ∈ dimacsPairs rows := by
  rcases hty with rfl | rfl
  · obtain ⟨g, rfl, hp, hi, hv, hm⟩ := ((readDimacs_reads diSem rows).map _).ok h
    exact ⟨g, rfl, hi, hp, hv, diSem_edges hv hm⟩
  · obtain ⟨g, rfl, ⟨hp, hi, hv, hm⟩, _⟩ := (readDimacs_reads diSem rows).dag.ok h
    exact ⟨g, rfl, hi, hp, hv, diSem_edges hv hm⟩

/-- matrix: the numbers of the text are `l`, `r` and exactly `l·r` entries, each 0 or 1, and
`(i, j)` is an edge iff the entry of row `i`, column `j` is 1 -/
theorem matrix_consistent (rows : List MRow) (G : AnyG) (h : readGraph .bipartite (.matrix rows) = .ok G) :
    ∃ g bits, G = .bip g ∧ BipG.Inv g ∧
      matrixStream rows = (((g.l : Int) :: (g.r : Int) :: bits).map some) ∧ bits.length = g.l * g.r ∧
      (∀ b ∈ bits, b = 0 ∨ b = 1) ∧
      ∀ p, p ∈ g.edgeset ↔ (p, (1 : Int)) ∈ (matrixCells g.l g.r).zip bits := by
  obtain ⟨g, rfl, bits, h1, h2, h3, h4, h5⟩ := ((readMatrix_reads rows).map _).ok h
  exact ⟨g, bits, rfl, h4, h1, h2, h3, h5⟩

/-- non-vacuity of the reader contract: a text with comment, blank line, 12 vertices -/
example : ∃ G, readGraph .bipartite (.kth [.comment, .spec (some 12), .blank,
    .adj (some (1, [11, 12, 0])), .adj (some (3, [10, 0]))]) = .ok G := ⟨_, rfl⟩
example : ∃ G, readGraph .dag (.dimacs [.comment, .prob (some (12, 2)), .blank, .edge (some (1, 12)),
    .other, .edge (some (10, 11))]) = .ok G := ⟨_, rfl⟩
/-- the former defects, on the model of the current code, one `example` each: an empty kthlist file and one without a
size line raise ValueError, a blank DIMACS line is skipped, a repeated and an out-of-order left vertex are rejected -/
example : readGraph .simple (.kth []) = .error .valueError := rfl
example : readGraph .bipartite (.kth [.comment]) = .error .valueError := rfl
example : ∃ G, readGraph .simple (.dimacs [.prob (some (2, 1)), .blank, .edge (some (1, 2))]) = .ok G := ⟨_, rfl⟩
example : readGraph .bipartite (.kth [.spec (some 4), .adj (some (1, [3, 0])), .adj (some (1, [4, 0]))])
    = .error .valueError := rfl
example : readGraph .bipartite (.kth [.spec (some 4), .adj (some (2, [3, 0])), .adj (some (1, [4, 0]))])
    = .error .valueError := rfl

/-- T-C14.3 the object returned for `'dag'` has only increasing edges -/
theorem dag_edges_increasing (rows : Rows) (G : AnyG) (h : readGraph .dag rows = .ok G) :
    ∃ g, G = .di g ∧ DiG.Inv g ∧ g.stillDag = true ∧ ∀ e ∈ g.edges, e.1 < e.2 := by
  cases rows with
  | kth r =>
    obtain ⟨g, rfl, ⟨hi, _⟩, hd⟩ := (readKth_reads diSem r).dag.ok h
    exact ⟨g, rfl, hi, hd, fun e he => (hi.dag.1 hd) e (hi.mem_edges.1 he)⟩
  | dimacs r =>
    obtain ⟨g, rfl, ⟨_, hi, _⟩, hd⟩ := (readDimacs_reads diSem r).dag.ok h
    exact ⟨g, rfl, hi, hd, fun e he => (hi.dag.1 hd) e (hi.mem_edges.1 he)⟩
  | matrix r =>
    simp [readGraph, Rows.fmt, checkArgs, supported] at h

/-- T-C14.3 on the text: a kthlist file is accepted as a `'dag'` only if every stated
predecessor is smaller than its vertex -/
theorem dag_kthlist_only_increasing (rows : List KRow) (G : AnyG) (h : readGraph .dag (.kth rows) = .ok G) :
    ∀ x ∈ kthPairs rows, x.1 < x.2 := by
  obtain ⟨g, hG, hi, _, hv, hm⟩ := kthlist_directed_consistent .dag (Or.inr rfl) rows G h
  obtain ⟨g', hG', _, hd, _⟩ := dag_edges_increasing (.kth rows) G h
  obtain rfl : g' = g := by rw [hG] at hG'; cases hG'; rfl
  exact hi.pairs_increasing hd hv hm

/-- … and a DIMACS file only if every edge line `e u v` has `u < v` -/
theorem dag_dimacs_only_increasing (rows : List DRow) (G : AnyG) (h : readGraph .dag (.dimacs rows) = .ok G) :
    ∀ x ∈ dimacsPairs rows, x.1 < x.2 := by
  obtain ⟨g, hG, hi, _, hv, hm⟩ := dimacs_directed_consistent .dag (Or.inr rfl) rows G h
  obtain ⟨g', hG', _, hd, _⟩ := dag_edges_increasing (.dimacs rows) G h
  obtain rfl : g' = g := by rw [hG] at hG'; cases hG'; rfl
  exact hi.pairs_increasing hd hv hm

/-- a backward edge and a self-loop are rejected, the same files are fine as `'digraph'` -/
example : readGraph .dag (.kth [.spec (some 3), .adj (some (1, [2, 0]))]) = .error .valueError := rfl
example : readGraph .dag (.dimacs [.prob (some (3, 1)), .edge (some (2, 2))]) = .error .valueError := rfl
example : ∃ G, readGraph .digraph (.kth [.spec (some 3), .adj (some (1, [2, 0]))]) = .ok G := ⟨_, rfl⟩

/-- T-C14.4a labels that compare numerically, listed in increasing order (gml: the ids `0..n-1`
that `write_gml` assigns in the order `1..n`; any networkx graph with nodes `1..n`): the `i`-th
node becomes vertex `i + 1`, i.e. the numbering is preserved -/
theorem relabel_numeric (nodes : List Int) (edges : List (Int × Int)) (h : nodes.Pairwise (· < ·)) :
    relabelInts nodes edges =
      (nodes.length, edges.map (fun e => (nodes.idxOf e.1 + 1, nodes.idxOf e.2 + 1))) :=
  relabelInts_increasing nodes edges h

/-- T-C14.4b gml round trip, modulo the third-party writer/parser (ids `v - 1` in order, edges
as pairs of ids): `normalize` + `from_networkx` + the dag test give back the same graph -/
theorem gml_relabel_roundtrip_simple {G : SimpleG} (h : SimpleG.Inv G) :
    ∃ G', readNx .simple (relabelInts (consecutive 0 G.n)
        (G.edges.map (fun e => ((e.1 : Int) - 1, (e.2 : Int) - 1)))) = .ok (.simple G') ∧
      SameAny (.simple G) (.simple G') := by
  rw [relabelInts_gml G.n G.edges (fun e he => by
    have := h.edges_range (u := e.1) (v := e.2) he; omega)]
  exact readNx_simple_self h

theorem gml_relabel_roundtrip_directed (ty : GType) (hty : ty = .digraph ∨ ty = .dag) {G : DiG} (h : DiG.Inv G)
    (hd : ty = .dag → G.stillDag = true) :
    ∃ G', readNx ty (relabelInts (consecutive 0 G.n)
        (G.edges.map (fun e => ((e.1 : Int) - 1, (e.2 : Int) - 1)))) = .ok (.di G') ∧
      SameAny (.di G) (.di G') := by
  rw [relabelInts_gml G.n G.edges (fun e he => by
    have := h.range e.1 e.2 (h.mem_edges.1 he); omega)]
  exact readNx_directed_self ty hty h hd

/-- T-C14.4b' bipartite graphs, gml and dot (modulo the third-party writer/parser, which must
keep the node order, the `bipartite` attribute and the edges): `BipartiteGraph.from_networkx` does
NOT sort labels, it numbers each side in node order, and gives back the same graph — also
for ten or more vertices -/
theorem bipartite_nx_roundtrip {G : BipG} (h : BipG.Inv G) :
    ∃ G', bipOfNx (bipToNx G).1 (bipToNx G).2 = .ok G' ∧ SameAny (.bip G) (.bip G') :=
  bipOfNx_bipToNx h

/-- T-C14.4c dot: pydot returns the node names as decimal STRINGS.  Since fix 8f27729 the dot
branch of `readGraph` turns all-digit names into integers before `normalize` (`relabelDot`), and
the relabelling of the names `"1", …, "n"` is the identity for EVERY `n` (full strength; with the
old code, which sorted the strings, this held only up to `n = 9`: former defect D15). -/
theorem dot_relabel_identity (n : Nat) (edges : List (Nat × Nat))
    (h : ∀ e ∈ edges, (1 ≤ e.1 ∧ e.1 ≤ n) ∧ 1 ≤ e.2 ∧ e.2 ≤ n) :
    relabelDot (decLabels n) (edges.map (fun e => (natStr e.1, natStr e.2))) = (n, edges) :=
  relabelDot_decLabels n edges h

/-- T-C14.4c' dot round trip, modulo the third-party writer/parser (names `str(v)` in order, edges
as pairs of names): the same graph comes back, the dag test included, for any number of vertices -/
theorem dot_relabel_roundtrip_simple {G : SimpleG} (h : SimpleG.Inv G) :
    ∃ G', readNx .simple (relabelDot (decLabels G.n)
        (G.edges.map (fun e => (natStr e.1, natStr e.2)))) = .ok (.simple G') ∧
      SameAny (.simple G) (.simple G') := by
  rw [relabelDot_decLabels G.n G.edges (fun e he => by
    have := h.edges_range (u := e.1) (v := e.2) he; omega)]
  exact readNx_simple_self h

theorem dot_relabel_roundtrip_directed (ty : GType) (hty : ty = .digraph ∨ ty = .dag) {G : DiG} (h : DiG.Inv G)
    (hd : ty = .dag → G.stillDag = true) :
    ∃ G', readNx ty (relabelDot (decLabels G.n)
        (G.edges.map (fun e => (natStr e.1, natStr e.2)))) = .ok (.di G') ∧
      SameAny (.di G) (.di G') := by
  rw [relabelDot_decLabels G.n G.edges (fun e he => by
    have := h.range e.1 e.2 (h.mem_edges.1 he); omega)]
  exact readNx_directed_self ty hty h hd

/-- regression examples about the OLD behaviour (labels sorted as strings, `relabelStrs`): the
sort is the identity only up to nine labels; with ten, "10" lands before "2"; an 11-vertex path
read as `'dag'` was rejected.  `relabelDot` on the same inputs is the identity. -/
example : ∀ n, n ≤ 9 → ∀ u, u < n → rank (sortBy strLe (decLabels n)) (natStr (u + 1)) = u + 1 := by decide +kernel
example : relabelStrs (decLabels 10) [(natStr 1, natStr 2), (natStr 9, natStr 10)] = (10, [(1, 3), (10, 2)]) := by
  decide +kernel
example : readNx .dag (relabelStrs (decLabels 11)
    ((List.range 10).map (fun i => (natStr (i + 1), natStr (i + 2))))) = .error .valueError := rfl
example : relabelDot (decLabels 10) [(natStr 1, natStr 2), (natStr 9, natStr 10)] = (10, [(1, 2), (9, 10)]) := by
  decide +kernel
/-- names that are not all digits are still sorted as strings; `"01"` and `"1"` are merged -/
example : relabelDot [['b'], ['1', '0'], ['a']] [(['b'], ['a'])] = (3, [(3, 2)]) := by decide
example : relabelDot [['0', '1'], ['1'], ['2']] [(['0', '1'], ['2'])] = (2, [(1, 2)]) := by decide

end Cnfgen.C14
