/-
C12 — OPB and LaTeX renderings denote the formula held in memory.
Property theorems only; helper lemmas are in `Lemmas/IOOpb.lean`, `Lemmas/IOLatex.lean`,
`Lemmas/IOLatexNames.lean`, `Lemmas/IOComments.lean`.  Token level (see C06): the characters → token-row step is the lexer,
compared with Python on every harness case; it is composed with these theorems in
`Props/C12/Text.lean` (OPB) and `Props/C12/LatexText.lean` (LaTeX).  `readOpb`, `readClauseRow`, `readConstraintRow`
are specification-side readers written in the model (cnfgen has no reader for these formats).
-/
import Lemmas.IOOpb
import Lemmas.IOLatex
import Lemmas.IOLatexNames
namespace Cnfgen.C12
open Cnfgen Cnfgen.IO

/-- a pseudo-Boolean formula as `BaseOPB` holds it: every relation is `>=` or `==`, every literal
is non-zero and within `nvars`.  Coefficients are arbitrary integers (so "arbitrary positive
coefficients" is covered with room to spare). -/
def WFOpb (G : OPB) : Prop := ∀ c ∈ G.constraints, GoodPBC G.nvars c

/-- T-C12.2-shape for OPB: the file starts with the row declaring the true number of variables
and of constraints; then come comment rows — each starts with the word `*` —, then one row per
constraint, in order.  For every header dictionary and label list. -/
theorem opb_shape (u : Bool) (G : OPB) (hdr : Option Header) (names : Option (List Str)) :
    ∃ comments : List Row,
      renderOpb u G hdr names =
        [Tok.word ['*'], Tok.word "#variable=".toList, Tok.int (G.nvars : Int),
          Tok.word "#constraint=".toList, Tok.int (G.constraints.length : Int)] ::
        (comments ++ G.constraints.map opbConstraintRow) ∧
      ∀ r ∈ comments, ∃ rest, r = Tok.word ['*'] :: rest :=
  ⟨opbCommentRows u hdr names, rfl, opbCommentRows_star u hdr names⟩

/-- T-C12.1 (OPB formulas): the strict reader, applied to what the writer wrote, returns the
declared number of variables and, constraint by constraint, the same coefficients, literals,
relation and degree — equalities, empty constraints, any integer coefficients, with or without
header and variable names, whatever the header values and labels contain. -/
theorem opb_roundtrip (u : Bool) (G : OPB) (hdr : Option Header) (names : Option (List Str)) (hG : WFOpb G) :
    readOpb (renderOpb u G hdr names) = .ok (G.nvars, G.constraints) := by
  have hfilter : (opbCommentRows u hdr names ++ G.constraints.map opbConstraintRow).filter (fun r => !opbIsComment r) =
      G.constraints.map opbConstraintRow := by
    rw [List.filter_append]
    have h1 : (opbCommentRows u hdr names).filter (fun r => !opbIsComment r) = [] := by
      rw [List.filter_eq_nil_iff]
      intro r hr
      obtain ⟨rest, rfl⟩ := opbCommentRows_star u hdr names r hr
      simp [opbIsComment]
    have h2 : (G.constraints.map opbConstraintRow).filter (fun r => !opbIsComment r) = G.constraints.map opbConstraintRow := by
      rw [List.filter_eq_self]
      intro r hr
      obtain ⟨c, _, rfl⟩ := List.mem_map.1 hr
      simp [opbConstraintRow_notComment]
    rw [h1, h2]; rfl
  -- the first row is the declaration with two non-negative counts; of the other rows the reader keeps the constraint
  -- rows (`hfilter`), reads each back (`mapM_readConstraint`) and finds as many as were declared
  simp only [renderOpb, opbSpecRow, readOpb, hfilter, Int.toNat_natCast,
    mapM_readConstraint G.nvars G.constraints hG]
  simp

/-- T-C12.1 (CNF formulas): every clause is read back as the constraint `Σ lits ≥ 1` -/
theorem opb_roundtrip_cnf (u : Bool) (F : CNF) (hdr : Option Header) (names : Option (List Str)) (hF : F.WF) :
    readOpb (renderOpbCNF u F hdr names) = .ok (F.nvars, F.clauses.map PBC.ofClause) := by
  rw [renderOpbCNF_eq]
  apply opb_roundtrip u ⟨F.nvars, F.clauses.map PBC.ofClause⟩ hdr names
  intro c hc
  obtain ⟨cl, hcl, rfl⟩ := List.mem_map.1 hc
  refine ⟨Or.inl rfl, ?_⟩
  intro t ht
  simp only [PBC.ofClause, List.mem_map] at ht
  obtain ⟨l, hl, rfl⟩ := ht
  exact hF cl hcl l hl

/-- T-C12.2 (row fidelity, CNF): the content of a row, framed in any way the writer frames it
(`&`, optional `\land`, optional `\\`), is read back as exactly that clause — its literals with
their names and polarities, in order; names only need pairwise distinct literal texts. -/
theorem latex_clause_row (names : List Str) (hT : TableOK names) (compact : Bool) (c : Clause) (core : Row)
    (h : clauseCore names compact c = .ok core) (land last : Bool) :
    readClauseRow names (frame land last core) = .ok c :=
  clauseCore_read names hT compact c core h land last

/-- T-C12.2 (row fidelity, OPB): coefficients (a `1` is omitted, every other integer is printed),
literals, relation and bound are read back exactly -/
theorem latex_constraint_row (names : List Str) (hT : TableOK names) (c : PBC) (hop : c.op = .ge ∨ c.op = .eq)
    (core : Row) (h : constraintCore names c = .ok core) (land last : Bool) :
    readConstraintRow names (frame land last core) = .ok c :=
  constraintCore_read names hT c hop core h land last

/-- T-C12.2 (names): pairwise distinct names, none starting with `\overline{` and none with a `}`
before the point where it is split for `\overline` (first `_`/`^` at a positive index), have pairwise
distinct literal texts — so the two theorems above apply to them -/
theorem latex_names_ok (names : List Str) (hd : names.Nodup) (hok : ∀ nm ∈ names, NameOK nm) : TableOK names :=
  tableOK_of_names names hd hok

/-- T-C12.2 (one row per clause, in order, across pages): reading the rows of all `align` blocks
in order gives back the clause list — for every page size and both layouts. -/
theorem latex_rows_cnf (F : CNF) (names : List Str) (hT : TableOK names) (split : Nat) (compact : Bool)
    (blocks : List (List Row)) (hne : F.clauses ≠ [])
    (h : latexBlocks (.cnf F) names split compact = .ok blocks) :
    blocks.flatten.mapM (readClauseRow names) = .ok F.clauses := by
  obtain ⟨cores, hc, rfl⟩ := latexBlocks_ok (by simpa [AnyF.len] using hne) h
  exact blocks_read _ _ split (.of_mapM hc fun c _ core hcore => latex_clause_row names hT compact c core hcore)

theorem latex_rows_opb (G : OPB) (names : List Str) (hT : TableOK names) (split : Nat) (compact : Bool)
    (blocks : List (List Row)) (hne : G.constraints ≠ []) (hop : ∀ c ∈ G.constraints, c.op = .ge ∨ c.op = .eq)
    (h : latexBlocks (.opb G) names split compact = .ok blocks) :
    blocks.flatten.mapM (readConstraintRow names) = .ok G.constraints := by
  obtain ⟨cores, hc, rfl⟩ := latexBlocks_ok (by simpa [AnyF.len] using hne) h
  exact blocks_read _ _ split (.of_mapM hc fun c hm core hcore => latex_constraint_row names hT c (hop c hm) core hcore)

/-- T-C12.2 (page splitting): the blocks partition the row list — concatenated they are the
original list, none is empty, and with a positive page size none exceeds it — for any length. -/
theorem latex_pages {α} (split : Nat) (rows : List α) :
    (pageBlocks split 0 rows).flatten = rows ∧
    (∀ b ∈ pageBlocks split 0 rows, b ≠ []) ∧
    (0 < split → ∀ b ∈ pageBlocks split 0 rows, b.length ≤ split) :=
  ⟨pageBlocks_flatten split rows 0, pageBlocks_nonempty split rows 0,
   fun h => (pageBlocks_length split h rows 0).1⟩

/-- T-C12.2 (`\square`): a row's content is `\square` exactly for the empty clause -/
theorem latex_square (names : List Str) (compact : Bool) (c : Clause) (core : Row)
    (h : clauseCore names compact c = .ok core) : core = [W "\\square"] ↔ c = [] :=
  square_iff names compact c core h

/-- T-C12.2 (`\top`): the body is the single row `\top` exactly for the empty formula; it is
distinct from every rendering of a non-empty formula (whose rows all start with `&`) -/
theorem latex_top (F : AnyF) (names : List Str) (split : Nat) (compact : Bool) (blocks : List (List Row))
    (h : latexBlocks F names split compact = .ok blocks) : blocks = [[[W "\\top"]]] ↔ F.len = 0 :=
  top_iff F names split compact blocks h

/-! ### format selection (T-C12.3) -/

/-- an explicit request wins, whatever the file is -/
theorem guess_explicit (f : FileArg) :
    guessOutputFormat f (some "latex".toList) = .ok .latex ∧
    guessOutputFormat f (some "dimacs".toList) = .ok .dimacs ∧
    guessOutputFormat f (some "opb".toList) = .ok .opb := by
  refine ⟨by simp [guessOutputFormat], ?_, ?_⟩
  · simp [guessOutputFormat]
  · simp [guessOutputFormat]

/-- any other request is a `ValueError` -/
theorem guess_unknown (f : FileArg) (r : Str) (h1 : r ≠ "latex".toList) (h2 : r ≠ "dimacs".toList)
    (h3 : r ≠ "opb".toList) : guessOutputFormat f (some r) = .error .valueError := by
  show (if r = "latex".toList then _ else if r = "dimacs".toList then _ else if r = "opb".toList then _ else _) = _
  rw [if_neg h1, if_neg h2, if_neg h3]

/-- without a request the extension decides, and guessing never fails: `.tex` ↦ latex,
`.opb` ↦ opb, anything else (no name, non-string name, other extension) ↦ dimacs -/
theorem guess_default (f : FileArg) :
    guessOutputFormat f none =
      .ok (if fileExt f = some "tex".toList then .latex else if fileExt f = some "opb".toList then .opb else .dimacs) := by
  simp only [guessOutputFormat]
  split
  · rfl
  · split <;> rfl

/-- the writer `to_file` runs: CNF objects write what was guessed; OPB objects write LaTeX when
latex was guessed and OPB otherwise (never DIMACS) -/
theorem writer_table (f : FileArg) (request : Option Str) (g : Fmt) (h : guessOutputFormat f request = .ok g) :
    toFileWriter false f request = .ok g ∧
    toFileWriter true f request = .ok (if g = .latex then .latex else .opb) := by
  cases g <;> simp [toFileWriter, h]

/-! ### non-vacuity -/

/-- a well-formed pseudo-Boolean formula: coefficient > 1, coefficient 0, negative literal in an
equality, an empty constraint -/
example : WFOpb ⟨3, [⟨[(2, 1), (0, -3), (1, 2)], .ge, 2⟩, ⟨[(5, -1)], .eq, 5⟩, ⟨[], .ge, -1⟩]⟩ := by
  unfold WFOpb GoodPBC; decide +kernel

/-- the OPB round trip evaluated by the kernel, with a multi-line header value (D14 witness) -/
example : readOpb (renderOpb true ⟨2, [⟨[(2, 1), (1, -2)], .ge, 2⟩, ⟨[], .eq, 0⟩]⟩
    (some [("description".toList, "graph\nname\n".toList)]) (some ["x\ny".toList, "b".toList])) =
    .ok (2, [⟨[(2, 1), (1, -2)], .ge, 2⟩, ⟨[], .eq, 0⟩]) := by lit_decide

/-- names of the shape cnfgen produces have pairwise distinct literal texts -/
example : TableOK ["x_{1,2}".toList, "{x_{1,2}}^1".toList, "e[1]_{1,3}".toList, "y".toList, "_u".toList] := by
  unfold TableOK; lit_decide

/-- `NameOK` on names of the shapes cnfgen produces -/
example : ∀ nm ∈ ["x_{1,2}".toList, "{x_{1,2}}^1".toList, "e[1]_{1,3}".toList, "y".toList, "_u".toList], NameOK nm := by
  unfold NameOK; lit_decide

/-- the excluded region of `TableOK` is real: a variable *named* `\overline{x}_1` next to `x_1` -/
example : ¬ TableOK ["x_1".toList, "\\overline{x}_1".toList] := by unfold TableOK; lit_decide

/-- a row read back, kernel-evaluated: `& \land \left( {\overline{x}_1} \lor {x_2} \right) \\` -/
example : readClauseRow ["x_1".toList, "x_2".toList]
    [W "&", W "\\land", W "\\left(", W "{\\overline{x}_1}", W "\\lor", W "{x_2}", W "\\right)", W "\\\\"] = .ok [-1, 2] := by
  simp only [W]; lit_decide

/-- `& 2{x_3} + {\overline{x}_1} \geq 2` -/
example : readConstraintRow ["x_1".toList, "x_2".toList, "x_3".toList]
    [W "&", .int 2, W "{x_3}", W "+", W "{\\overline{x}_1}", W "\\geq", .int 2] = .ok ⟨[(2, 3), (1, -1)], .ge, 2⟩ := by
  simp only [W]; lit_decide

/-- 71 rows with page size 35 give blocks of 35, 35 and 1 rows -/
example : (pageBlocks 35 0 (List.range 71)).map List.length = [35, 35, 1] := by decide +kernel

/-- extensions as `os.path.splitext` sees them -/
example : fileExt (.path "out.tex".toList) = some "tex".toList ∧ fileExt (.path "a.tex/out".toList) = some [] ∧
    fileExt (.path ".tex".toList) = some [] ∧ fileExt (.named "dir/f.opb".toList) = some "opb".toList ∧
    fileExt .fdNamed = none := by lit_decide

end Cnfgen.C12
