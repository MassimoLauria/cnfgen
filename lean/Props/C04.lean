/-
C04 — Linear, parity and mapping constraint builders mean what their names say.
Property theorems only; helper lemmas are in `Lemmas/`.
-/
import Lemmas.Linear
import Lemmas.OPB
namespace Cnfgen.C04
open Cnfgen Linear

/-- every literal of the list is a legal (non-zero) DIMACS literal — what
`_check_and_update` enforces when `check=True` -/
def NonZero (ls : List Int) : Prop := ∀ l ∈ ls, l ≠ 0

/-- T-C04.1 `add_linear(lits, op, k)` constrains exactly to `count op k`, for every
literal list (repeats, opposite literals), every operator and every integer `k`. -/
theorem linear_holds (α : Assign) (ls : List Int) (o : Op) (k : Int) (h : NonZero ls) :
    (∀ c ∈ Linear.add ls o k, clauseHolds α c = true) ↔ o.denote (count α ls) k = true := by
  cases o <;> simp only [Linear.add, Op.denote, decide_eq_true_eq]
  · exact leq_holds α ls k h
  · exact geq_holds α ls k
  · exact (leq_holds α ls (k - 1) h).trans Int.le_sub_one_iff
  · exact (geq_holds α ls (k + 1)).trans Int.add_one_le_iff
  · rw [List.forall_mem_append, leq_holds α ls k h, geq_holds α ls k]
    exact Int.le_antisymm_iff.symm
  · exact neq_holds α ls k h

/-- non-vacuity: a list with a repeated and an opposite literal -/
example : NonZero [1, -1, 2, 2] := by
  unfold NonZero
  decide

/-- T-C04.2 parity: constant 1 ↔ odd number of true literals, constant 0 ↔ even -/
theorem parity_holds (α : Assign) (ls : List Int) (b : Bool) (h : NonZero ls) :
    (∀ c ∈ Linear.parity ls (if b then 1 else 0), clauseHolds α c = true) ↔
      (count α ls % 2 = (if b then 1 else 0)) := by
  rw [parity_holds_const α ls _ h]
  cases b <;> rfl

/-- T-C04.3 majorities / minorities (CNF encoding) -/
theorem looseMajority_holds (α : Assign) (ls : List Int) (h : NonZero ls) :
    (∀ c ∈ looseMajority ls, clauseHolds α c = true) ↔ ls.length ≤ 2 * count α ls := by
  rw [looseMajority, linear_holds α ls _ _ h]
  simp only [Op.denote, decide_eq_true_eq, ge_iff_le, Int.ofNat_le]
  rw [Nat.div_le_iff_le_mul_add_pred Nat.two_pos]
  exact Nat.add_le_add_iff_right

theorem looseMinority_holds (α : Assign) (ls : List Int) (h : NonZero ls) :
    (∀ c ∈ looseMinority ls, clauseHolds α c = true) ↔ 2 * count α ls ≤ ls.length := by
  rw [looseMinority, linear_holds α ls _ _ h]
  simp only [Op.denote, decide_eq_true_eq, Int.ofNat_le]
  rw [Nat.le_div_iff_mul_le Nat.two_pos, Nat.mul_comm]

theorem strictMajority_holds (α : Assign) (ls : List Int) (h : NonZero ls) :
    (∀ c ∈ strictMajority ls, clauseHolds α c = true) ↔ ls.length < 2 * count α ls := by
  rw [strictMajority, linear_holds α ls _ _ h]
  simp only [Op.denote, decide_eq_true_eq, ge_iff_le, Int.ofNat_le]
  rw [Nat.succ_le_iff, Nat.div_lt_iff_lt_mul Nat.two_pos, Nat.mul_comm]

theorem strictMinority_holds (α : Assign) (ls : List Int) (h : NonZero ls) :
    (∀ c ∈ strictMinority ls, clauseHolds α c = true) ↔ 2 * count α ls < ls.length := by
  rw [strictMinority, linear_holds α ls _ _ h]
  simp only [Op.denote, decide_eq_true_eq]
  rw [Int.le_ediv_iff_mul_le (by decide), Int.le_sub_one_iff, Nat.mul_comm]
  exact Int.ofNat_lt (n := count α ls * 2)

def NonZeroTerms (ts : List (Int × Int)) : Prop := ∀ t ∈ ts, t.2 ≠ 0

/-- T-C04.4a normalisation never changes the set of satisfying assignments
(arbitrary integer coefficients, every operator) -/
theorem normalize_sem (c : PBC) (α : Assign) (h : NonZeroTerms c.terms) :
    (PB.normalize c).holds α = c.holds α := by
  obtain ⟨ts, o, v⟩ := c
  have hm : ∀ t ∈ ts.map (fun t => (-t.1, t.2)), t.2 ≠ 0 := List.forall_mem_map.2 fun t ht => h t ht
  -- `<=` and `<` are turned round first: `-Σ ≥ -v`
  have hle : ∀ v', Op.ge.denote (pbSum α (PB.normTerms (ts.map fun t => (-t.1, t.2)) (-v')).1)
      (PB.normTerms (ts.map fun t => (-t.1, t.2)) (-v')).2 = Op.le.denote (pbSum α ts) v' := by
    intro v'
    rw [normTerms_denote α _ _ _ hm, pbSum_map_neg]
    exact decide_eq_decide.2 Int.neg_le_neg_iff
  cases o
  · exact hle v
  · exact normTerms_denote α ts .ge v h
  · exact (hle (v - 1)).trans (decide_eq_decide.2 Int.le_sub_one_iff)
  · exact (normTerms_denote α ts .ge (v + 1) h).trans (decide_eq_decide.2 Int.add_one_le_iff)
  · exact normTerms_denote α ts .eq v h
  · exact normTerms_denote α ts .ne v h

/-- T-C04.4c "leaves only positive coefficients": every coefficient of the normal form is
strictly positive (terms with coefficient zero are dropped — since the repair of D27) -/
theorem normalize_pos (c : PBC) : ∀ t ∈ (PB.normalize c).terms, 0 < t.1 := by
  obtain ⟨ts, o, v⟩ := c
  cases o <;> exact normTerms_pos _ _

/-- T-C04.4b the result uses only `>=` or `==` (for the five operators `add_constraint`
documents) and has no negative coefficient -/
theorem normalize_form (c : PBC) (hop : c.op ≠ .ne) :
    ((PB.normalize c).op = .ge ∨ (PB.normalize c).op = .eq) ∧
    ∀ t ∈ (PB.normalize c).terms, 0 ≤ t.1 := by
  refine ⟨?_, fun t ht => Int.le_of_lt (normalize_pos c t ht)⟩
  obtain ⟨ts, o, v⟩ := c
  cases o
  · exact .inl rfl
  · exact .inl rfl
  · exact .inl rfl
  · exact .inl rfl
  · exact .inr rfl
  · exact absurd rfl hop

/-- T-C04.5 the OPB cardinality builders constrain to the same arithmetic -/
theorem opb_linear_holds (α : Assign) (ls : List Int) (o : Op) (k : Int) (h : NonZero ls) :
    (∀ c ∈ PB.add ls o k, c.holds α = true) ↔ o.denote (count α ls) k = true := by
  have hu : NonZeroTerms (PB.unit ls) := List.forall_mem_map.2 fun l hl => h l hl
  have card : ∀ o', (PB.card ls o' k).holds α = o'.denote (count α ls) k := by
    intro o'
    rw [PB.card, normalize_sem _ α hu]
    exact congrArg (o'.denote · k) (pbSum_unit α ls)
  cases o
  case ne =>
    simp only [PB.add, List.forall_mem_map, ofClause_holds]
    exact linear_holds α ls .ne k h
  all_goals exact List.forall_mem_singleton.trans (by rw [card])

theorem opb_parity_holds (α : Assign) (ls : List Int) (b : Bool) (h : NonZero ls) :
    (∀ c ∈ PB.parity ls (if b then 1 else 0), c.holds α = true) ↔
      (count α ls % 2 = (if b then 1 else 0)) := by
  simp only [PB.parity, List.forall_mem_map, ofClause_holds]
  exact parity_holds α ls b h

/-- CNF and OPB encodings of the same constraint have the same satisfying assignments
(the builder-level core of C08) -/
theorem cnf_opb_linear_equiv (α : Assign) (ls : List Int) (o : Op) (k : Int) (h : NonZero ls) :
    (∀ c ∈ Linear.add ls o k, clauseHolds α c = true) ↔ (∀ c ∈ PB.add ls o k, c.holds α = true) := by
  rw [linear_holds α ls o k h, opb_linear_holds α ls o k h]

theorem opb_looseMajority_holds (α : Assign) (ls : List Int) (h : NonZero ls) :
    (∀ c ∈ PB.looseMajority ls, c.holds α = true) ↔ ls.length ≤ 2 * count α ls :=
  (cnf_opb_linear_equiv α ls .ge _ h).symm.trans (looseMajority_holds α ls h)

theorem opb_looseMinority_holds (α : Assign) (ls : List Int) (h : NonZero ls) :
    (∀ c ∈ PB.looseMinority ls, c.holds α = true) ↔ 2 * count α ls ≤ ls.length :=
  (cnf_opb_linear_equiv α ls .le _ h).symm.trans (looseMinority_holds α ls h)

theorem opb_strictMajority_holds (α : Assign) (ls : List Int) (h : NonZero ls) :
    (∀ c ∈ PB.strictMajority ls, c.holds α = true) ↔ ls.length < 2 * count α ls := by
  refine (opb_linear_holds α ls .gt (ls.length / 2 : Nat) h).trans ?_
  simp only [Op.denote, decide_eq_true_eq, gt_iff_lt, Int.ofNat_lt]
  rw [Nat.div_lt_iff_lt_mul Nat.two_pos, Nat.mul_comm]

theorem opb_strictMinority_holds (α : Assign) (ls : List Int) (h : NonZero ls) :
    (∀ c ∈ PB.strictMinority ls, c.holds α = true) ↔ 2 * count α ls < ls.length := by
  refine (opb_linear_holds α ls .lt ((ls.length + 1) / 2 : Nat) h).trans ?_
  simp only [Op.denote, decide_eq_true_eq, Int.ofNat_lt]
  rw [Nat.lt_iff_add_one_le, Nat.le_div_iff_mul_le Nat.two_pos, Nat.succ_mul, Nat.mul_comm]
  exact Nat.add_le_add_iff_right (n := 1)

end Cnfgen.C04
