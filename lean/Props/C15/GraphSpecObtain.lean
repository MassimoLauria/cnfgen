/-
C15 (graph specifications, TOKEN level) — composition of the parser with `obtain_graph`:
`make_graph_from_spec` from the words of the command line.
-/
import Lemmas.GraphBuildCli
import Props.C15.GraphSpec
import CnfgenModel.Cli.GraphSpecObtain
namespace Cnfgen.C15
open Cnfgen Cnfgen.GRand Cnfgen.GCli Cnfgen.GSpec

/-- `finish` is the tail of `obtain_graph` -/
theorem obtainGraph_eq_finish (gt : GType) (p : GCli.Parsed) (e : Option CG) (fuel : Nat) :
    obtainGraph gt p e fuel = construct p.cons p.args e fuel >>= finish gt p := rfl

/-- what the proofs use of the tables: every graph type has a class, every construction of the type has its
`obtain_*` function and that function builds the class of the type; `splitedges` is offered for simple
graphs only -/
def obtainTablesOK : Bool :=
  typeNames.all (fun ty =>
    match gtypeOf ty with
    | none => false
    | some gt =>
      (consL ty).all (fun c => match consOf gt c with
        | some k => decide (k.gtype = gt) && (decide (k = .regular) == decide (c = "regular"))
        | none => false) &&
      (decide (gt = .simple) || !(optL ty).contains "splitedges"))

theorem obtain_tables_ok : obtainTablesOK = true := by decide +kernel

theorem finish_only (gt : GType) (p : GCli.Parsed) (G0 : CG) (hk0 : kindOK gt G0)
    (hsplit : gt ≠ .simple → p.splitedges = none) : Only VE (finish gt p G0) :=
  (finish_run gt p G0).only.mono fun _ he => he.elim id fun h => by
    have := h.2.1
    rw [hsplit (h.2.2 hk0)] at this
    cases this

theorem finish_noForeign (gt : GType) (p : GCli.Parsed) (G0 : CG) : NoForeign (finish gt p G0) :=
  (finish_run gt p G0).noForeign

theorem parse_construction_head {ty : String} (h : Known ty) (dot : Bool) (toks : List String) (p : GSpec.Parsed)
    (hp : parseGraphArgument ty toks dot = .ok p) (c : String) (hc : p.construction = some c) :
    toks.head? = some c := by
  rcases parse_cases h dot toks with hr | ⟨s0, rest, rfl, ⟨_, hr⟩ | ⟨_, _, _, _, _, hr⟩ | ⟨_, _, _, _, hr⟩⟩
  · rw [hr] at hp; cases hp
  all_goals
    rw [hr] at hp
    have := (loop_invariant h dot _ _ p (optsOK_start dot ty _ rfl rfl) hp).2.2.1
    rw [hc] at this
  · exact congrArg _ (Option.some.inj this).symm
  · cases this
  · cases this

theorem known_obtain {ty : String} (h : Known ty) : ∃ gt, gtypeOf ty = some gt ∧
    (∀ c ∈ consL ty, ∃ k, consOf gt c = some k ∧ k.gtype = gt ∧ (k = .regular ↔ c = "regular")) ∧
    (gt ≠ .simple → "splitedges" ∉ optL ty) := by
  have ht := List.all_eq_true.mp obtain_tables_ok ty h
  cases hgt : gtypeOf ty with
  | none => rw [hgt] at ht; cases ht
  | some gt =>
    rw [hgt] at ht
    simp only [Bool.and_eq_true, Bool.or_eq_true, List.all_eq_true, decide_eq_true_eq, Bool.not_eq_true',
      List.contains_eq_mem, decide_eq_false_iff_not] at ht
    refine ⟨gt, rfl, fun c hc => ?_, ht.2.resolve_left⟩
    have hcc := ht.1 c hc
    cases hk : consOf gt c with
    | none => rw [hk] at hcc; cases hcc
    | some k =>
      rw [hk] at hcc
      simp only [Bool.and_eq_true, decide_eq_true_eq, beq_iff_eq, decide_eq_decide] at hcc
      exact ⟨k, rfl, hcc⟩

theorem request_split {ty : String} (h : Known ty) (w : World) (toks : List String) (p : GSpec.Parsed)
    (hp : parseGraphArgument ty toks w.dot = .ok p) (k : Cons) (as : List String) (hno : "splitedges" ∉ optL ty) :
    (request w k as p).splitedges = none := by
  have : List.lookup "splitedges" p.opts = none := by
    rw [List.lookup_eq_none_iff]
    intro o ho
    rw [bne_iff_ne]
    intro e
    exact hno (e ▸ ((parse_wellFormed h w.dot toks p hp).opts.names o ho).1)
  simp [request, this]

/-- the request handed to `obtain_graph` is one "as the parser produces it" (`FromParser` of Lemmas/GraphBuildCli.lean) -/
theorem request_fromParser {ty : String} (h : Known ty) (w : World) (toks : List String) (p : GSpec.Parsed)
    (hp : parseGraphArgument ty toks w.dot = .ok p) (gt : GType) (hsplit : gt ≠ .simple → "splitedges" ∉ optL ty)
    (k : Cons) (as : List String) (hk : k.gtype = gt) (hext : ∀ g, w.ext = some g → kindOK .simple g) :
    FromParser gt (request w k as p) w.ext :=
  ⟨hk, fun hns => request_split h w toks p hp k as (hsplit hns), hext⟩

theorem readSource_cases (w : World) (ty fn ff : String) :
    (∃ e, readSource w ty fn ff = RM.raise e ∧
      (w.openFile = .error e ∨ formatsOf w.dot ty = .error e ∨ e = .valueError)) ∨
    readSource w ty fn ff = w.readGraph := by
  unfold readSource
  split
  · exact .inl ⟨_, rfl, .inl ‹_›⟩
  · split
    · exact .inl ⟨_, rfl, .inr (.inl ‹_›)⟩
    · split
      · exact .inl ⟨_, rfl, .inr (.inr rfl)⟩
      · exact .inr rfl

/-- (d) COMPOSITION — `obtain_graph_clean` from TOKENS.  For every graph type of the tables, EVERY token list,
every value of the numerals, every result of the third-party generators (objects of class `Graph`), every
outcome of opening / reading a file (`S` = the exceptions `open` and the reader can raise; the reader returns an
object of the class of the graph type), all random draws and every recursion budget:
`make_graph_from_spec` returns a graph, or raises `ValueError`, or

* `RecursionError` — only for the construction `regular` (`regular_restart_budget_witness`),
* an exception of `S` (an `OSError` of `open`, which the argparse actions turn into a usage error).

No `IndexError` (C15-S1 is fixed: `parse_only_valueError`), `TypeError`, `KeyError`, `AssertionError`,
`ZeroDivisionError`, no third-party exception. -/
theorem make_graph_clean {ty : String} (h : Known ty) (w : World) (toks : List String) (S : Err → Prop)
    (hext : ∀ g, w.ext = some g → kindOK .simple g)
    (hopen : ∀ e, w.openFile = .error e → S e)
    (hread : ∀ ds e, w.readGraph ds = .exc e → S e)
    (hkind : ∀ gt, gtypeOf ty = some gt → Returns (kindOK gt) w.readGraph)
    (ds : List Draw) (err : Err) (herr : makeGraphFromSpec w ty toks ds = .exc err) :
    err = .valueError ∨ (err = .recursion ∧ toks.head? = some "regular") ∨ S err := by
  unfold makeGraphFromSpec at herr
  cases hp : parseGraphArgument ty toks w.dot with
  | error e =>
    rw [hp] at herr
    simp only [raise_exc] at herr
    subst herr
    exact Or.inl (parse_only_valueError h w.dot toks e hp)
  | ok p =>
    rw [hp] at herr
    obtain ⟨gt, hgt, hcons, hsplit⟩ := known_obtain h
    simp only [hgt] at herr
    -- a file: the exception is one of `read_graph_from_input`, or the reader returned and it is one of the modifications
    have file : ∀ fn ff, (readSource w ty fn ff >>= finish gt (request w default [] p)) ds = .exc err →
        err = .valueError ∨ S err := by
      intro fn ff herr
      rw [bind_exc] at herr
      rcases readSource_cases w ty fn ff with ⟨e, hr, he⟩ | hr <;> rw [hr] at herr
      · rcases herr with herr | ⟨_, _, h0, _⟩
        · cases herr
          rcases he with he | he | he
          · exact Or.inr (hopen _ he)
          · rw [(known_tables h w.dot).2.1] at he; cases he
          · exact Or.inl he
        · cases h0
      · rcases herr with herr | ⟨G0, mid, h0, herr⟩
        · exact Or.inr (hread _ _ herr)
        · exact Or.inl (finish_only gt _ G0 (hkind gt hgt _ _ _ h0)
            (fun hns => request_split h w toks p hp _ _ (hsplit hns)) _ _ herr)
    cases (parse_wellFormed h w.dot toks p hp).source with
    | construction c as hc h1 h2 h3 h4 h5 =>
      obtain ⟨k, hk, hkg, hreg⟩ := hcons c hc
      rw [h1, h4] at herr
      simp only [hk] at herr
      rcases obtainGraph_only_parsed gt _ w.ext w.fuel (request_fromParser h w toks p hp gt hsplit k as hkg hext)
        ds err herr with h6 | ⟨h6, h7⟩
      · exact Or.inl h6
      · exact Or.inr (Or.inl ⟨h7, by rw [parse_construction_head h w.dot toks p hp c h1, hreg.mp h6]⟩)
    | fileWithFormat f fn hc hf h1 h2 h3 h4 =>
      rw [h1, h2, h3] at herr
      exact (file fn f herr).imp_right Or.inr
    | fileByName fn hc hf ha hb h1 h2 h3 h4 =>
      rw [h1, h2, h3] at herr
      exact (file fn "autodetect" herr).imp_right Or.inr

/-- (d) … and no exception class of a third-party library escapes (the reader of graph files is C14's) -/
theorem make_graph_noForeign (w : World) (ty : String) (toks : List String) (hread : NoForeign w.readGraph) :
    NoForeign (makeGraphFromSpec w ty toks) := by
  unfold makeGraphFromSpec
  split
  · exact NoForeign.raise _
  · split
    · exact NoForeign.raise _
    · split
      · split
        · exact obtainGraph_noForeign _ _ _ _
        · exact NoForeign.raise _
      · split
        · refine NoForeign.bind ?_ (fun G0 => finish_noForeign _ _ G0)
          rcases readSource_cases w ty _ _ with ⟨e, hr, _⟩ | hr <;> rw [hr]
          · exact NoForeign.raise e
          · exact hread
        · exact NoForeign.raise _

/-- a world for the examples: the numeral `1`, no third-party generator, no file -/
def exampleWorld : World :=
  { interp := fun s => if s = "1" then ⟨some 1, some (1, 1)⟩ else ⟨none, none⟩
    ext := none, openFile := .error .valueError, readGraph := RM.raise .valueError, fuel := 1, dot := true }

/-- non-vacuity: `pyramid 1 save f.kthlist` builds the pyramid and hands THAT graph to `writeGraph`;
`pyramid 1 save f.txt` is refused (no format can be guessed); `pyramid 1 ''` is refused (C15-S1 regression) -/
example : (∃ G, makeGraphFromSpec exampleWorld "dag" ["pyramid", "1", "save", "f.kthlist"] [] = .ok (G, some G) []) ∧
    makeGraphFromSpec exampleWorld "dag" ["pyramid", "1", "save", "f.txt"] [] = .exc .valueError ∧
    makeGraphFromSpec exampleWorld "dag" ["pyramid", "1", ""] [] = .exc .valueError ∧
    makeGraphFromSpec exampleWorld "dag" ["pyramid", "x"] [] = .exc .valueError := by
  exact ⟨⟨_, rfl⟩, rfl, rfl, rfl⟩

end Cnfgen.C15
