/-
C15 — the networkx-backed constructions FROM THE WORDS of the command line:
`make_graph_from_spec('simple', [name, tok₁, …])` = `parse_graph_argument` (Cli/GraphSpec.lean, over the
tables regenerated from the source) followed by `obtain_graph` (Cli/GraphArgs.lean), with the third-party
part computed by the model of networkx (`GCli.nxExt`).  Combines `parse_render` (Props/C15/GraphSpec.lean)
with the `cli_*` theorems (Props/C15/NetworkxCli.lean).

`World.interp tok` = the pair (`int(tok)`, `float(tok)`) of a numeral; the statements hold for every
interpretation of the numerals (the lexer of numbers is Python's).
-/
import Props.C15.GraphSpec
import Props.C15.NetworkxCli
import CnfgenModel.Cli.GraphSpecObtain
namespace Cnfgen.C15
open Cnfgen Cnfgen.GRand Cnfgen.GCli Cnfgen.GSpec Cnfgen.Nx

theorem obtainGraph_plain (k : Cons) (args : List Arg) (e : Option CG) (fuel : Nat) (ds : List Draw) :
    obtainGraph .simple ⟨k, args, none, none, none, none, none⟩ e fuel ds =
      match construct k args e fuel ds with
      | .ok G rest => .ok (G, none) rest
      | .exc x => .exc x
      | .foreign => .foreign
      | .stuck => .stuck := by
  simp only [obtainGraph, applyOpt, bind_apply, pure_apply]
  cases construct k args e fuel ds <;> rfl

theorem obtainGraph_plain_clean {k : Cons} {args : List Arg} {e : Option CG} {fuel : Nat} {ds : List Draw}
    {P : CG → List Draw → Prop} (h : (construct k args e fuel ds).Sat P VE) :
    (obtainGraph .simple ⟨k, args, none, none, none, none, none⟩ e fuel ds).Sat
      (fun R rest => ∃ G, R = (G, none) ∧ P G rest) VE := by
  rw [obtainGraph_plain]
  cases hc : construct k args e fuel ds <;> rw [hc] at h
  · exact ⟨_, rfl, h⟩
  · exact h
  · exact h
  · exact trivial

/-- the words `name tok₁ … tok_k` (`name` a construction of simple graphs, every `tok_i` a numeral)
are parsed to the plain request for that construction, and `make_graph_from_spec` is `obtain_graph` of it -/
theorem makeGraph_plain_construction (w : World) (name : String) (k : Cons) (toks : List String)
    (hname : name ∈ consL "simple") (hk : consOf .simple name = some k) (hnum : ∀ t ∈ toks, isFloat t = true) :
    makeGraphFromSpec w "simple" (name :: toks) =
      obtainGraph .simple ⟨k, toks.map w.interp, none, none, none, none, none⟩ w.ext w.fuel := by
  have hwf : WellFormed w.dot "simple" ⟨"simple", some name, none, none, some (some toks), [], none⟩ :=
    ⟨(show "simple" ∈ typeNames by decide +kernel), rfl, SourceOK.construction name toks hname rfl rfl rfl rfl hnum,
      ⟨by simp, by simp, by simp⟩⟩
  have hp := parse_render w.dot _ hwf
  have hr : renderSpec ⟨"simple", some name, none, none, some (some toks), [], none⟩ w.dot = name :: toks := by
    simp [renderSpec, renderSave]
  rw [hr] at hp
  unfold makeGraphFromSpec
  rw [hp]
  simp only [gtypeOf, hk, request, List.lookup, Option.map_none]

/-- `grid d1 … dk` / `torus d1 … dk` FROM WORDS: numerals whose integer values lie in the documented
domain give the grid / torus of `grid_torus_spec` (returned, nothing saved, no draw consumed); any other
numerals give `ValueError` -/
theorem make_graph_grid_torus_from_tokens (w : World) (p : Bool) (toks : List String)
    (hnum : ∀ t ∈ toks, isFloat t = true) (nx : List NxDraw)
    (hext : w.ext = nxExt (if p then .torus else .grid) (toks.map w.interp) nx) (ds : List Draw) :
    (∃ dims S, intsOf (toks.map w.interp) = some dims ∧ GridAccepts p dims ∧
      gridSimple (dims.map Int.toNat) p = .ok S ∧ S.n = prodL (dims.map Int.toNat) ∧ SimpleG.Inv S ∧
      makeGraphFromSpec w "simple" ((if p then "torus" else "grid") :: toks) ds = .ok (.simple S, none) ds) ∨
    ((¬ ∃ dims, intsOf (toks.map w.interp) = some dims ∧ GridAccepts p dims) ∧
      makeGraphFromSpec w "simple" ((if p then "torus" else "grid") :: toks) ds = .exc .valueError) := by
  have hmk : makeGraphFromSpec w "simple" ((if p then "torus" else "grid") :: toks) =
      obtainGraph .simple ⟨if p then .torus else .grid, toks.map w.interp, none, none, none, none, none⟩ w.ext w.fuel := by
    cases p
    · exact makeGraph_plain_construction w "grid" .grid toks (by decide +kernel) rfl hnum
    · exact makeGraph_plain_construction w "torus" .torus toks (by decide +kernel) rfl hnum
  rw [hmk, obtainGraph_plain]
  have hc : construct (if p then .torus else .grid) (toks.map w.interp) w.ext w.fuel ds =
      constructNx (if p then .torus else .grid) (toks.map w.interp) nx none w.fuel ds := by
    rw [hext]; cases p <;> rfl
  rw [hc]
  rcases cli_grid_torus p (toks.map w.interp) nx none w.fuel ds with
    ⟨dims, S, h1, h2, h3, h4, h5, _, h7⟩ | ⟨h1, h2⟩
  · left; exact ⟨dims, S, h1, h2, h3, h4, h5, by rw [h7]⟩
  · right; exact ⟨h1, by rw [h2]⟩

/-- `gnm N m` FROM WORDS, for every interpretation of the two numerals and EVERY list of draws of
networkx: a run that returns gives a graph on `N` vertices with EXACTLY `m` edges (C16 invariant), nothing
saved; an exception is `ValueError`; no third-party exception escapes -/
theorem make_graph_gnm_from_tokens (w : World) (ta tb : String) (ha : isFloat ta = true) (hb : isFloat tb = true)
    (nx : List NxDraw) (hext : w.ext = nxExt .gnm [w.interp ta, w.interp tb] nx) (ds : List Draw) :
    (∀ R rest, makeGraphFromSpec w "simple" ["gnm", ta, tb] ds = .ok R rest →
      ∃ n m S, (w.interp ta).int? = some n ∧ (w.interp tb).int? = some m ∧ R = (.simple S, none) ∧ rest = ds ∧
        S.n = n.toNat ∧ S.m = m.toNat ∧ S.edges.length = m.toNat ∧ SimpleG.Inv S) ∧
    (∀ x, makeGraphFromSpec w "simple" ["gnm", ta, tb] ds = .exc x → x = .valueError) ∧
    makeGraphFromSpec w "simple" ["gnm", ta, tb] ds ≠ .foreign := by
  have hmk := makeGraph_plain_construction w "gnm" .gnm [ta, tb] (by decide +kernel) rfl
    (by intro t ht; rcases List.mem_pair.1 ht with rfl | rfl; exacts [ha, hb])
  have hc : construct .gnm ([ta, tb].map w.interp) w.ext w.fuel ds =
      constructNx .gnm [w.interp ta, w.interp tb] nx none w.fuel ds := by rw [hext]; rfl
  have hcli := (Out.Sat.iff _).2 (hc ▸ cli_gnm (w.interp ta) (w.interp tb) nx none w.fuel ds)
  rw [hmk]
  refine (Out.Sat.iff _).1 ((obtainGraph_plain_clean hcli).mono ?_ fun _ h => h)
  rintro R rest ⟨G, rfl, n, m, S, h1, h2, _, h4, rfl, h6, h7, h8, h9⟩
  exact ⟨n, m, S, h1, h2, rfl, h4, h6, h7, h8, h9⟩

/-- `gnd N d` FROM WORDS, for every interpretation of the two numerals and EVERY list of shuffles of
networkx: a run that returns gives a `d`-REGULAR graph on `N` vertices (C16 invariant), nothing saved; an
exception is `ValueError`; no `NetworkXError` escapes -/
theorem make_graph_gnd_from_tokens (w : World) (ta tb : String) (ha : isFloat ta = true) (hb : isFloat tb = true)
    (nx : List NxDraw) (hext : w.ext = nxExt .gnd [w.interp ta, w.interp tb] nx) (ds : List Draw) :
    (∀ R rest, makeGraphFromSpec w "simple" ["gnd", ta, tb] ds = .ok R rest →
      ∃ n d S, (w.interp ta).int? = some n ∧ (w.interp tb).int? = some d ∧ R = (.simple S, none) ∧ rest = ds ∧
        S.n = n.toNat ∧ SimpleG.Inv S ∧ (∀ v : Nat, 1 ≤ v → v ≤ n.toNat → (S.nbrs v).length = d.toNat) ∧
        2 * S.m = n.toNat * d.toNat) ∧
    (∀ x, makeGraphFromSpec w "simple" ["gnd", ta, tb] ds = .exc x → x = .valueError) ∧
    makeGraphFromSpec w "simple" ["gnd", ta, tb] ds ≠ .foreign := by
  have hmk := makeGraph_plain_construction w "gnd" .gnd [ta, tb] (by decide +kernel) rfl
    (by intro t ht; rcases List.mem_pair.1 ht with rfl | rfl; exacts [ha, hb])
  have hc : construct .gnd ([ta, tb].map w.interp) w.ext w.fuel ds =
      constructNx .gnd [w.interp ta, w.interp tb] nx none w.fuel ds := by rw [hext]; rfl
  have hcli := (Out.Sat.iff _).2 (hc ▸ cli_gnd (w.interp ta) (w.interp tb) nx none w.fuel ds)
  rw [hmk]
  refine (Out.Sat.iff _).1 ((obtainGraph_plain_clean hcli).mono ?_ fun _ h => h)
  rintro R rest ⟨G, rfl, n, d, S, h1, h2, _, _, h4, rfl, h6, h7, h8, h9⟩
  exact ⟨n, d, S, h1, h2, rfl, h4, h6, h7, h8, h9⟩

/-- non-vacuity: the words `torus 3 4` with Python's reading of the numerals -/
example : ∃ S, makeGraphFromSpec
      ⟨fun t => if t = "3" then ⟨some 3, some (3, 1)⟩ else ⟨some 4, some (4, 1)⟩,
        nxExt .torus [⟨some 3, some (3, 1)⟩, ⟨some 4, some (4, 1)⟩] [], .ok (), fun _ => .stuck, 0, true⟩
      "simple" ["torus", "3", "4"] [] = .ok (.simple S, none) [] ∧ S.n = 12 := by
  rcases make_graph_grid_torus_from_tokens
      ⟨fun t => if t = "3" then ⟨some 3, some (3, 1)⟩ else ⟨some 4, some (4, 1)⟩,
        nxExt .torus [⟨some 3, some (3, 1)⟩, ⟨some 4, some (4, 1)⟩] [], .ok (), fun _ => .stuck, 0, true⟩
      true ["3", "4"] (by decide +kernel) [] rfl [] with ⟨dims, S, h1, _, _, h4, _, h6⟩ | ⟨h, _⟩
  · have : dims = [3, 4] := by
      have : intsOf [⟨some 3, some (3, 1)⟩, ⟨some 4, some (4, 1)⟩] = some dims := h1
      simp only [intsOf] at this; cases this; rfl
    subst this
    exact ⟨S, h6, h4⟩
  · exfalso; apply h
    refine ⟨[3, 4], rfl, by simp, ?_, by simp⟩
    intro d hd; simp at hd; omega

/-- non-vacuity: the words `gnm 4 2` and `gnd 4 2` with draws of networkx on which the runs return -/
example : ∃ S, makeGraphFromSpec
      ⟨fun t => if t = "4" then ⟨some 4, some (4, 1)⟩ else ⟨some 2, some (2, 1)⟩,
        nxExt .gnm [⟨some 4, some (4, 1)⟩, ⟨some 2, some (2, 1)⟩] [.choice 0, .choice 0, .choice 1, .choice 2, .choice 3, .choice 0],
        .ok (), fun _ => .stuck, 0, true⟩
      "simple" ["gnm", "4", "2"] [] = .ok (.simple S, none) [] := ⟨_, rfl⟩

example : ∃ S, makeGraphFromSpec
      ⟨fun t => if t = "4" then ⟨some 4, some (4, 1)⟩ else ⟨some 2, some (2, 1)⟩,
        nxExt .gnd [⟨some 4, some (4, 1)⟩, ⟨some 2, some (2, 1)⟩] [.shuffle [0, 1, 2, 3, 0, 1, 2, 3] [0, 1, 1, 2, 2, 3, 3, 0]],
        .ok (), fun _ => .stuck, 0, true⟩
      "simple" ["gnd", "4", "2"] [] = .ok (.simple S, none) [] := ⟨_, rfl⟩

end Cnfgen.C15
