/-
C15 — the closed-form constructions of cnfgen/graphs.py (`dag_path`, `dag_complete_binary_tree`, `dag_pyramid`,
`bipartite_shift`) as TRANSLATED from the source: the translation keeps what the code does to its graph object — the
number of vertices it is created with and the `add_edge` calls in order — and that is exactly the model's `…Order` /
`…Calls` (`Graph/Build.lean`); replaying the log on the model's graph object gives the model's construction.
-/
import Lemmas.GenDag
namespace Cnfgen.C15
open Cnfgen Cnfgen.PyGen Cnfgen.GBuild Cnfgen.GenVars Cnfgen.GenDag

/-- a fresh `DirectedGraph(n)` to which the logged `add_edge` calls are applied in order -/
def replayDi (D : Int × List (Int × Int)) : Except Err DiG :=
  (DiG.initI D.1) >>= fun G => G.addEdgesFrom D.2

theorem replayDi_nat (n : Nat) (calls : List (Nat × Nat)) :
    replayDi ((n : Int), intPairs calls) = DiG.ofEdges n calls := by
  have h : ¬ ((n : Int) < 0) := by omega
  simp [replayDi, DiG.initI, DiG.ofEdges, intPairs, h]

/-- `dag_path(length)`: `length + 1` vertices, the calls `add_edge(i, i+1)` for `i = 1 … length` -/
theorem gen_dag_path_eq_model (length : Int) :
    dag_path length = if length < 0 then Except.error Err.valueError
      else Except.ok (((length.toNat + 1 : Nat) : Int), intPairs (pathCalls length.toNat)) := by
  simp only [dag_path]
  by_cases h : length < 0
  · rw [if_pos h, if_pos h]
  · rw [if_neg h, if_neg h]
    have hl : length = (length.toNat : Int) := by omega
    rw [path_loop]
    congr 2
    · omega
    · rw [List.nil_append, Py.range_one_toList]
      simp only [pathCalls, intPairs, List.map_map]
      apply List.map_congr_left
      intro i _
      simp

theorem gen_dag_path_replay (length : Int) : (dag_path length) >>= replayDi = GBuild.path length := by
  rw [gen_dag_path_eq_model]
  unfold GBuild.path
  by_cases h : length < 0
  · rw [if_pos h, if_pos h]; rfl
  · rw [if_neg h, if_neg h, Py.ok_bind, replayDi_nat]

/-- `dag_complete_binary_tree(height)`: `2·2^h − 1` vertices, for each inner vertex the two edges from its children -/
theorem gen_dag_tree_eq_model (height : Int) :
    dag_complete_binary_tree height = if height < 0 then Except.error Err.valueError
      else Except.ok (((treeOrder height.toNat : Nat) : Int), intPairs (treeCalls height.toNat)) := by
  simp only [dag_complete_binary_tree, treeCalls, treeOrder]
  by_cases h : height < 0
  · rw [if_pos h, if_pos h]
  · rw [if_neg h, if_neg h]
    have hN : (2 : Int) * Py.pow 2 height = ((2 * 2 ^ height.toNat : Nat) : Int) := by
      simp [Py.pow]
    rw [hN, Py.floordiv_two, Py.ok_bind, Py.foldl_ext _ treeStep (by intro s a; rfl), ← Int.natCast_succ,
      range_nat_toList, rangeN_eq_range', ← Int.natCast_one, tree_loop,
      ← Int.ofNat_sub (Nat.mul_pos Nat.two_pos (Nat.pow_pos Nat.two_pos))]
    rfl

theorem gen_dag_tree_replay (height : Int) :
    (dag_complete_binary_tree height) >>= replayDi = GBuild.tree height := by
  rw [gen_dag_tree_eq_model]
  unfold GBuild.tree
  by_cases h : height < 0
  · rw [if_pos h, if_pos h]; rfl
  · rw [if_neg h, if_neg h, Py.ok_bind, replayDi_nat]

/-- `dag_pyramid(height)`: `(h+1)(h+2)/2` vertices, layer by layer the two edges into each vertex of the next layer -/
theorem gen_dag_pyramid_eq_model (height : Int) :
    dag_pyramid height = if height < 0 then Except.error Err.valueError
      else Except.ok (((pyramidOrder height.toNat : Nat) : Int), intPairs (pyramidCalls height.toNat)) := by
  simp only [dag_pyramid]
  by_cases h : height < 0
  · rw [if_pos h, if_pos h]
  · rw [if_neg h, if_neg h]
    have hh : height = (height.toNat : Int) := by omega
    generalize height.toNat = k at hh
    subst hh
    have hn : ((k : Int) + 1) * ((k : Int) + 2) = (((k + 1) * (k + 2) : Nat) : Int) := by push_cast; rfl
    rw [hn, Py.floordiv_two, Py.ok_bind, Py.foldl_ext _ (layerStep (k : Int)) (by intro s a; rfl), range_toList_nat,
      rangeN_eq_range']
    have := layers_loop ((((k + 1) * (k + 2) / 2 : Nat)) : Int) k k [] 1 (k + 2) (Nat.le_refl k)
    rw [Nat.sub_self] at this
    exact congrArg Except.ok this

theorem gen_dag_pyramid_replay (height : Int) : (dag_pyramid height) >>= replayDi = GBuild.pyramid height := by
  rw [gen_dag_pyramid_eq_model]
  unfold GBuild.pyramid
  by_cases h : height < 0
  · rw [if_pos h, if_pos h]; rfl
  · rw [if_neg h, if_neg h, Py.ok_bind, replayDi_nat]

/-- a fresh `BipartiteGraph(L, R)` to which the logged `add_edge` calls are applied in order -/
def replayBip (B : (Int × Int) × List (Int × Int)) : Except Err BipG :=
  (BipG.initI B.1.1 B.1.2) >>= fun G => G.addEdgesFrom B.2

/-- `bipartite_shift(N, M, pattern)`: `BipartiteGraph(N, M)`, then for every left vertex and every offset of the SORTED
pattern the call `add_edge(u, 1 + (u - 1 + offset) % M)` (Python's `%`; `M ≥ 1`, so no ZeroDivisionError) -/
theorem gen_bipartite_shift_eq_model (N M : Int) (pattern : List Int) :
    bipartite_shift N M pattern = if N < 1 ∨ M < 1 then Except.error Err.valueError
      else Except.ok ((N, M), shiftCalls N.toNat M.toNat (sortInt pattern)) := by
  simp only [bipartite_shift]
  by_cases h : N < 1 ∨ M < 1
  · rw [if_pos h, if_pos h]
  · rw [if_neg h, if_neg h]
    have hN : N = (N.toNat : Int) := by omega
    have hM : M = (M.toNat : Int) := by omega
    have hMpos : 0 < M.toNat := by omega
    have hL : Py.Range.toList (Py.Range.mk 1 (N + 1)) = ints (rangeN 1 (N.toNat + 1)) := by
      rw [Py.range_one_toList]
    rw [hL, sorted_eq]
    conv_lhs => rw [hM]
    rw [Py.foldlM_ext _ _ (fun s a => rfl), shift_outer M.toNat hMpos, Py.ok_bind]
    simp only [List.nil_append, shiftCalls]
    rw [← hM]

theorem gen_bipartite_shift_replay (N M : Int) (pattern : List Int) :
    (bipartite_shift N M pattern) >>= replayBip = (GBuild.shift N M pattern).map (·.2) := by
  rw [gen_bipartite_shift_eq_model]
  unfold GBuild.shift
  by_cases h : N < 1 ∨ M < 1
  · rw [if_pos h, if_pos h]; rfl
  · rw [if_neg h, if_neg h, Py.ok_bind]
    have hN : ¬ (N < 0 ∨ M < 0) := by omega
    simp only [replayBip, BipG.initI, hN, if_false, bind, Except.bind]
    cases (BipG.init N.toNat M.toNat).addEdgesFrom (shiftCalls N.toNat M.toNat (sortInt pattern)) <;> rfl

/-- non-vacuity -/
example : bipartite_shift 2 3 [2, 0] = Except.ok ((2, 3), [(1, 1), (1, 3), (2, 2), (2, 1)]) := by decide +kernel
example : dag_path 3 = Except.ok (4, [(1, 2), (2, 3), (3, 4)]) := by decide +kernel
example : dag_pyramid 2 = Except.ok (6, [(1, 4), (2, 4), (2, 5), (3, 5), (4, 6), (5, 6)]) := by decide +kernel
example : dag_complete_binary_tree 1 = Except.ok (3, [(1, 3), (2, 3)]) := by decide +kernel

end Cnfgen.C15
