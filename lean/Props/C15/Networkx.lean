/-
C15 — graph constructions on the command line deliver the structure they name:
the networkx-backed constructions `grid`, `torus`, `complete N B`, `gnp`, `gnm`, `gnd`.

Their result is not an input of the model: the model computes it
(`CnfgenModel/Graph/NxBuild.lean`: networkx.Graph as insertion-ordered adjacency, path / cycle /
cartesian product / relabelling copy / complete multipartite; `CnfgenModel/Rand/NxDraws.lean`: the
draw loops of `gnp_random_graph`, `gnm_random_graph` and `random_regular_graph`; `Nx.fromNetworkx`: cnfgen's
`Graph.from_networkx` as the exact sequence of `add_edge` calls through the model's own `SimpleG.addEdge`),
and the theorems below say which graph object comes out — for ALL dimension vectors / block sizes /
draw lists.  The tie to the installed networkx (3.6.1) is the correspondence of
`harness/props/C15_nx.py` (node order, `G.edges()`, every adjacency row, every `add_edge` call, every
recorded draw).

Reading guide.
* `prodL ds` = `d_1 · … · d_k`; `coords ds r` = the mixed-radix digits of `r`, FIRST dimension least
  significant: vertex `v` of `grid d_1 … d_k` is the node `(x_k, …, x_1)` of networkx with
  `[x_1, …, x_k] = coords ds (v - 1)`.
* `LineAdj p d a b`: `a`, `b` are neighbours on the path (`p = false`) or cycle (`p = true`) of length `d`.
* `GridAdj p ds x y`: the vectors differ in exactly one coordinate, by a `LineAdj` step there
  (`gridAdj_iff_index`).
* `SimpleG.Inv` is the representation invariant of C16 (adjacency rows sorted and duplicate-free, edge
  set symmetric, in range, loop-free, counter = number of edges).
* a sampler outcome `.ok r rest`: the run consumed a prefix of the draw list and left `rest`; `.stuck`:
  the list is not a legal record of a run.  "For every legal draw list" = for every list whose run is `.ok`.
-/
import Lemmas.C15NxGrid
import Lemmas.C15NxMulti
import Lemmas.C15NxRand
import Lemmas.C15NxRegular
namespace Cnfgen.C15
open Cnfgen Cnfgen.Nx

/-- `grid d_1 … d_k` (`p = false`) / `torus d_1 … d_k` (`p = true`, no dimension equal to 1):
`d_1 ⋯ d_k` vertices; `u ~ v` iff the coordinate vectors of `u - 1`, `v - 1` differ by one step in exactly
one coordinate; the edge counter is `Σ_i e(d_i) · Π_{j≠i} d_j` (`e(d) = d - 1` on a path, `d` on a cycle of
length ≥ 3, `1` on the "cycle" of length 2); the object satisfies the invariant of C16. -/
theorem grid_torus_spec (p : Bool) (ds : List Nat) (hne : ds ≠ []) (h1 : ¬ (p = true ∧ 1 ∈ ds)) :
    ∃ S, gridSimple ds p = .ok S ∧ S.n = prodL ds ∧ SimpleG.Inv S ∧
      (∀ u v, (u, v) ∈ S.edgeset ↔ 1 ≤ u ∧ u ≤ prodL ds ∧ 1 ≤ v ∧ v ≤ prodL ds ∧
        GridAdj p ds (coords ds (u - 1)) (coords ds (v - 1))) ∧
      S.m = gridEdgeCount p ds := by
  obtain ⟨S, s1, s2, s3, s4, s5⟩ := gridSimple_of_product p ds hne h1
  refine ⟨S, s1, s2, s3, fun u v => ?_, s5.trans (gridProduct_edges_length p ds hne h1)⟩
  rw [s4, (gridProduct_spec p ds hne).2.2]
  constructor
  · rintro ⟨a1, a2, a3, a4, a5⟩; exact ⟨a1, by omega, a2, by omega, a5⟩
  · rintro ⟨a1, a2, a3, a4, a5⟩; exact ⟨a1, a3, by omega, by omega, a5⟩

example : ∃ S, gridSimple [2, 3] false = .ok S ∧ S.n = 6 ∧ S.m = 7 := by
  obtain ⟨S, h1, h2, _, _, h5⟩ := grid_torus_spec false [2, 3] (by simp) (by simp)
  exact ⟨S, h1, h2, h5⟩

/-- the same adjacency, coordinate by coordinate: `u ~ v` iff for exactly one index `i` the digits
`(u-1) / (d_1⋯d_i) % d_{i+1}` and `(v-1) / (d_1⋯d_i) % d_{i+1}` are neighbours on the path / cycle of
length `d_{i+1}`, all other digits being equal -/
theorem grid_torus_adjacent_iff (p : Bool) (ds : List Nat) (hne : ds ≠ []) (h1 : ¬ (p = true ∧ 1 ∈ ds))
    {S : SimpleG} (hS : gridSimple ds p = .ok S) (u v : Nat) :
    (u, v) ∈ S.edgeset ↔ 1 ≤ u ∧ u ≤ prodL ds ∧ 1 ≤ v ∧ v ≤ prodL ds ∧
      ∃ i, i < ds.length ∧
        LineAdj p (ds.getD i 0) ((u - 1) / prodL (ds.take i) % ds.getD i 0) ((v - 1) / prodL (ds.take i) % ds.getD i 0) ∧
        ∀ j, j < ds.length → j ≠ i →
          (u - 1) / prodL (ds.take j) % ds.getD j 0 = (v - 1) / prodL (ds.take j) % ds.getD j 0 := by
  obtain ⟨S', s1, _, _, s4, _⟩ := grid_torus_spec p ds hne h1
  rw [hS] at s1; cases s1
  rw [s4, gridAdj_iff_index p ds _ _ (length_coords _ _) (length_coords _ _)]
  constructor
  · rintro ⟨a1, a2, a3, a4, i, hi, h2, h3⟩
    refine ⟨a1, a2, a3, a4, i, hi, ?_, ?_⟩
    · rwa [coords_getD _ _ _ hi, coords_getD _ _ _ hi] at h2
    · intro j hj hne'
      have := h3 j hj hne'
      rwa [coords_getD _ _ _ hj, coords_getD _ _ _ hj] at this
  · rintro ⟨a1, a2, a3, a4, i, hi, h2, h3⟩
    refine ⟨a1, a2, a3, a4, i, hi, ?_, ?_⟩
    · rwa [coords_getD _ _ _ hi, coords_getD _ _ _ hi]
    · intro j hj hne'
      rw [coords_getD _ _ _ hj, coords_getD _ _ _ hj]
      exact h3 j hj hne'

example : ∃ S, gridSimple [2, 3] false = .ok S ∧ (1, 3) ∈ S.edgeset ∧ (1, 4) ∉ S.edgeset := by
  obtain ⟨S, h1, _⟩ := grid_torus_spec false [2, 3] (by simp) (by simp)
  refine ⟨S, h1, ?_, ?_⟩
  · rw [grid_torus_adjacent_iff false [2, 3] (by simp) (by simp) h1]; decide +kernel
  · rw [grid_torus_adjacent_iff false [2, 3] (by simp) (by simp) h1]; decide +kernel

/-- the torus with all dimensions ≥ 3 is `2k`-regular (what the documentation of `torus` promises):
every neighbour row has `2k` entries, `degree(v)` answers `2k` -/
theorem torus_regular (ds : List Nat) (hne : ds ≠ []) (h3 : ∀ d ∈ ds, 3 ≤ d) :
    ∃ S, gridSimple ds true = .ok S ∧ ∀ v : Nat, 1 ≤ v → v ≤ prodL ds →
      (S.nbrs v).length = 2 * ds.length ∧ S.degree (v : Int) = .ok (2 * ds.length) := by
  have h1 : ¬ (true = true ∧ 1 ∈ ds) := fun h => by have := h3 1 h.2; omega
  obtain ⟨S, s1, s2, s3, s4, _⟩ := gridSimple_of_product true ds hne h1
  refine ⟨S, s1, fun v hv1 hv2 => ?_⟩
  have hdeg : (S.nbrs v).length = 2 * ds.length := by
    have := fromNetworkx_degree (gridProduct_spec true ds hne).2.1 s3 s4 (v - 1)
    rw [show v - 1 + 1 = v by omega] at this
    rw [this]
    exact torus_deg ds hne h3 (v - 1) (by omega)
  exact ⟨hdeg, by rw [SimpleG.degree_natCast hv1 (s2 ▸ hv2), hdeg]⟩

example : ∃ S, gridSimple [3, 4, 3] true = .ok S ∧ (S.nbrs 17).length = 6 := by
  obtain ⟨S, h1, h2⟩ := torus_regular [3, 4, 3] (by simp) (by simp)
  exact ⟨S, h1, (h2 17 (by omega) (by simp [prodL])).1⟩

/-- the number of edges of such a torus: `k · d_1 ⋯ d_k` -/
theorem torus_edge_count (ds : List Nat) (h3 : ∀ d ∈ ds, 3 ≤ d) : gridEdgeCount true ds = ds.length * prodL ds := by
  induction ds with
  | nil => simp [gridEdgeCount]
  | cons d ds ih =>
    have hd : 3 ≤ d := h3 d (by simp)
    simp only [gridEdgeCount, lineEdges, hd, and_self, ↓reduceIte, ih (fun x hx => h3 x (by simp [hx])), prodL,
      List.length_cons]
    ring

example : gridEdgeCount true [3, 4, 5] = 3 * 60 := torus_edge_count [3, 4, 5] (by intro d hd; simp at hd; omega)

/-- `torus` with a dimension equal to 1 (all dimensions positive): networkx's cycle on one node is a
self-loop, `Graph.add_edge` refuses it — `ValueError`, a clean refusal -/
theorem torus_dimension_one_refused (ds : List Nat) (h1 : 1 ∈ ds) (hpos : ∀ d ∈ ds, 0 < d) :
    gridSimple ds true = .error .valueError := by
  have hne : ds ≠ [] := by intro h; rw [h] at h1; cases h1
  obtain ⟨hn, hW, _⟩ := gridProduct_spec true ds hne
  have hloop := gridProduct_loop ds h1 hpos
  have h0 : (0, 0) ∈ (gridGraph ds true).tedges := by
    show (0, 0) ∈ (gridProduct true ds).edges
    rw [NxG.mem_edges]
    exact ⟨by rw [hn]; exact prodL_pos hpos, Nat.le_refl _, hloop⟩
  exact fromNetworkx_loop (NxG.relabelCopy_WF hW) h0

example : gridSimple [3, 1, 2] true = .error .valueError :=
  torus_dimension_one_refused [3, 1, 2] (by simp) (by intro d hd; simp at hd; omega)

/-- `complete_multipartite_graph(*sizes)` through `Graph.from_networkx`: `Σ sizes` vertices, `u ~ v` iff
they lie in different blocks (blocks laid out in order), `Σ_{i<j} s_i s_j` edges, invariant of C16 -/
theorem multipartite_spec (sizes : List Nat) :
    ∃ S, multipartiteSimple sizes = .ok S ∧ S.n = sizes.sum ∧ SimpleG.Inv S ∧
      (∀ u v, (u, v) ∈ S.edgeset ↔ 1 ≤ u ∧ u ≤ sizes.sum ∧ 1 ≤ v ∧ v ≤ sizes.sum ∧
        blockOf sizes (u - 1) ≠ blockOf sizes (v - 1)) ∧
      S.m = multiEdgeCount sizes := by
  obtain ⟨S, s1, s2, s3, s4, s5⟩ := fromNetworkx_spec (completeMultipartite_WF sizes)
    (completeMultipartite_oriented sizes).loopless
  refine ⟨S, s1, s2, s3, ?_, by rw [s5, completeMultipartite_edges_length]⟩
  intro u v
  rw [s4, completeMultipartite_E]
  omega

/-- `complete N B` on the command line: `B·N` vertices, `u ~ v` iff `(u-1)/N ≠ (v-1)/N`,
`N²·B(B-1)/2` edges -/
theorem complete_blocks_spec (n b : Nat) :
    ∃ S, completeBlocksSimple n b = .ok S ∧ S.n = b * n ∧ SimpleG.Inv S ∧
      (∀ u v, (u, v) ∈ S.edgeset ↔ 1 ≤ u ∧ u ≤ b * n ∧ 1 ≤ v ∧ v ≤ b * n ∧ (u - 1) / n ≠ (v - 1) / n) ∧
      2 * S.m = n * n * (b * (b - 1)) := by
  obtain ⟨S, s1, s2, s3, s4, s5⟩ := multipartite_spec (List.replicate b n)
  rw [List.sum_replicate_nat] at s2 s4
  refine ⟨S, s1, s2, s3, ?_, by rw [s5, multiEdgeCount_replicate]⟩
  intro u v
  rw [s4]
  constructor
  · rintro ⟨a1, a2, a3, a4, h⟩
    rw [blockOf_replicate (by omega), blockOf_replicate (by omega)] at h
    exact ⟨a1, a2, a3, a4, h⟩
  · rintro ⟨a1, a2, a3, a4, h⟩
    refine ⟨a1, a2, a3, a4, ?_⟩
    rw [blockOf_replicate (by omega), blockOf_replicate (by omega)]
    exact h

example : ∃ S, completeBlocksSimple 2 3 = .ok S ∧ S.n = 6 ∧ 2 * S.m = 24 := by
  obtain ⟨S, h1, h2, _, _, h5⟩ := complete_blocks_spec 2 3
  exact ⟨S, h1, h2, h5⟩

/-- `gnp N p` with `0 < p < 1` (`p = pn/pd` exactly), for EVERY draw list: a run that is not stuck has
consumed exactly one legal `random()` value per pair of `combinations(range(N), 2)`, in that order; the
result has `N` vertices, satisfies the invariant of C16 (so its edges are pairs of distinct vertices in
range), pair number `k` is an edge IFF draw number `k` is `< p`, and the edge counter is the number of
draws below `p` -/
theorem gnp_spec (n : Nat) (pn : Int) (pd : Nat) (h0 : 0 < pn) (h1 : pn < pd) (ds : List NxDraw)
    (r : Except Err SimpleG) (rest : List NxDraw) (h : gnpSimple n pn pd ds = .ok r rest) :
    ∃ (S : SimpleG) (nums : List Nat), r = .ok S ∧ S.n = n ∧ SimpleG.Inv S ∧
      ds = nums.map NxDraw.unit ++ rest ∧ (∀ x ∈ nums, x < unitDen) ∧
      ∃ hlen : nums.length = (allPairs n).length,
      (∀ k (hk : k < (allPairs n).length),
        (((allPairs n)[k]).1 + 1, ((allPairs n)[k]).2 + 1) ∈ S.edgeset ↔ unitLt (nums[k]'(by omega)) pn pd = true) ∧
      S.m = (nums.filter (fun x => unitLt x pn pd)).length := by
  unfold gnpSimple gnpGraph at h
  rw [if_neg (by omega), if_neg (by omega)] at h
  split at h
  · rename_i G rest' hG
    split at hG
    · rename_i l rest'' hloop
      cases hG; cases h
      obtain ⟨nums, n1, n2, n3, n4⟩ := gnpLoop_ok hloop
      have hsub := keep_sublist pn pd (allPairs n) nums
      have hW : NxG.WF ⟨n, l⟩ := by
        rintro ⟨u, v⟩ he
        have := mem_allPairs.1 (hsub.subset (n4 ▸ he))
        simp only; omega
      have hO : NxG.Oriented ⟨n, l⟩ := by
        rintro ⟨u, v⟩ he
        exact (mem_allPairs.1 (hsub.subset (n4 ▸ he))).1
      have hN : l.Nodup := n4 ▸ hsub.nodup (nodup_allPairs n)
      obtain ⟨S, s1, s2, s3, s4, s5⟩ := fromNetworkx_spec hW hO.loopless
      refine ⟨S, nums, s1, s2, s3, n2, n3, n1, ?_, ?_⟩
      · intro k hk
        rw [s4]
        simp only [Nat.add_sub_cancel, NxG.E]
        rw [← mem_keep (nodup_allPairs n) n1 k hk, ← n4]
        have hp := (mem_allPairs (n := n) (u := ((allPairs n)[k]).1) (v := ((allPairs n)[k]).2)).1 (List.getElem_mem hk)
        constructor
        · rintro ⟨_, _, h | h⟩
          · exact h
          · have := hO _ h; simp only at this; omega
        · intro h; exact ⟨by omega, by omega, Or.inl h⟩
      · rw [s5, NxG.length_edges hW hO hN, n4, length_keep pn pd _ _ n1]
    · cases hG
  · cases h

/-- conversely EVERY list of `N(N-1)/2` legal `random()` values is a run of `gnp N p` -/
theorem gnp_accepts (n : Nat) (pn : Int) (pd : Nat) (h0 : 0 < pn) (h1 : pn < pd) (nums : List Nat) (rest : List NxDraw)
    (hlen : nums.length = (allPairs n).length) (hleg : ∀ x ∈ nums, x < unitDen) :
    ∃ r, gnpSimple n pn pd (nums.map NxDraw.unit ++ rest) = .ok r rest := by
  unfold gnpSimple gnpGraph
  rw [if_neg (by omega), if_neg (by omega), gnpLoop_complete pn pd _ nums rest hlen hleg]
  exact ⟨_, rfl⟩

example : ∃ S, gnpSimple 3 1 2 [.unit 0, .unit (unitDen - 1), .unit 5] = .ok (.ok S) [] ∧ S.m = 2 := by
  refine ⟨_, rfl, ?_⟩; decide +kernel

example : ∃ r, gnpSimple 3 1 2 ([0, unitDen - 1, 5].map NxDraw.unit ++ [.choice 1]) = .ok r [.choice 1] :=
  gnp_accepts 3 1 2 (by decide +kernel) (by decide +kernel) [0, unitDen - 1, 5] [.choice 1] (by decide +kernel) (by decide +kernel)

/-- `p ≥ 1`: the complete graph, no draw -/
theorem gnp_one (n : Nat) (pn : Int) (pd : Nat) (h : (pd : Int) ≤ pn) (ds : List NxDraw) :
    ∃ S, gnpSimple n pn pd ds = .ok (.ok S) ds ∧ S.n = n ∧ SimpleG.Inv S ∧ 2 * S.m = n * (n - 1) ∧
      ∀ u v, (u, v) ∈ S.edgeset ↔ 1 ≤ u ∧ u ≤ n ∧ 1 ≤ v ∧ v ≤ n ∧ u ≠ v := by
  obtain ⟨S, s1, s2, s3, s4, s5⟩ := fromNetworkx_spec (completeGraph_WF n) (completeGraph_oriented n).loopless
  refine ⟨S, ?_, s2, s3, by rw [s5]; exact completeGraph_edges_length n, ?_⟩
  · unfold gnpSimple gnpGraph; rw [if_pos h]; simp only; rw [s1]
  · intro u v; rw [s4, completeGraph_E]; omega

example : ∃ S, gnpSimple 4 1 1 [] = .ok (.ok S) [] ∧ 2 * S.m = 12 := by
  obtain ⟨S, h1, _, _, h4, _⟩ := gnp_one 4 1 1 (by decide +kernel) []
  exact ⟨S, h1, h4⟩

/-- `p ≤ 0`: the empty graph, no draw -/
theorem gnp_zero (n : Nat) (pn : Int) (pd : Nat) (h0 : pn ≤ 0) (hd : 0 < pd) (ds : List NxDraw) :
    ∃ S, gnpSimple n pn pd ds = .ok (.ok S) ds ∧ S.n = n ∧ S.m = 0 ∧ S.edgeset = [] := by
  refine ⟨SimpleG.init n, ?_, rfl, rfl, rfl⟩
  unfold gnpSimple gnpGraph
  rw [if_neg (by omega), if_pos h0]
  simp only [fromNetworkx, fromNxCalls, NxG.relabelCopy]
  have : (emptyGraph n).edges = [] := emptyGraph_edges n
  have h2 : NxG.edges ⟨(emptyGraph n).n, []⟩ = [] := emptyGraph_edges n
  rw [this, h2]
  rfl

example : ∃ S, gnpSimple 4 0 1 [.unit 3] = .ok (.ok S) [.unit 3] ∧ S.m = 0 := by
  obtain ⟨S, h1, _, h3, _⟩ := gnp_zero 4 0 1 (by decide +kernel) (by decide +kernel) [.unit 3]
  exact ⟨S, h1, h3⟩

/-- `gnm N m` with `m ≤ N(N-1)/2` (cnfgen's guard), for EVERY draw list: a run that is not stuck returns
a graph object on `N` vertices satisfying the invariant of C16 — edges are pairs of distinct vertices in
range, none twice — with EXACTLY `m` edges (counter and edge view), whichever of the three branches of
networkx is taken (`n == 1`, `m >= n(n-1)/2`: the complete graph without a draw, or the rejection loop
with any number of repeated / loop draws); the run consumed a prefix of the draws -/
theorem gnm_spec (n m : Nat) (hm : 2 * m ≤ n * (n - 1)) (ds : List NxDraw)
    (r : Except Err SimpleG) (rest : List NxDraw) (h : gnmSimple n m ds = .ok r rest) :
    ∃ S, r = .ok S ∧ S.n = n ∧ SimpleG.Inv S ∧ S.m = m ∧ S.edges.length = m ∧ ∃ used, ds = used ++ rest := by
  unfold gnmSimple at h
  split at h
  · rename_i G rest' hG
    cases h
    obtain ⟨g1, g2, g3, g4, g5⟩ := gnmGraph_ok hm hG
    obtain ⟨S, s1, s2, s3, _, s5⟩ := fromNetworkx_spec g2 g3
    exact ⟨S, s1, by rw [s2, g1], s3, by rw [s5, g4], by rw [← s3.m_eq_length_edges, s5, g4], g5⟩
  · cases h

example : ∃ S, gnmSimple 4 2 [.choice 0, .choice 0, .choice 1, .choice 2, .choice 2, .choice 1, .choice 3, .choice 0] =
    .ok (.ok S) [] ∧ S.m = 2 := by
  refine ⟨_, rfl, ?_⟩; decide +kernel

/-- `gnd N d` with `N·d` even and `d < N` (what cnfgen's guards leave), for EVERY list of shuffles: a run
of `networkx.random_regular_graph` that ends — after any number of pairing rounds and any number of
restarts, whatever `_suitable` answered — gives, through `Graph.normalize`, a graph object on `N` vertices
satisfying the invariant of C16 in which EVERY vertex has exactly `d` neighbours (`degree(v) = d`), with
`N·d/2` edges; no `NetworkXError`; the run consumed a prefix of the draws.
(The order in which networkx hands the edges over — the iteration order of a Python set — is not modelled;
the object `S` does not depend on it except for the internal order of the list `S.edgeset`, which stands for a set.) -/
theorem gnd_spec (n d : Nat) (heven : (n * d) % 2 = 0) (hd : d < n) (ds : List NxDraw)
    (r : Option (Except Err SimpleG)) (rest : List NxDraw) (h : gndSimple n d ds = .ok r rest) :
    ∃ S, r = some (.ok S) ∧ S.n = n ∧ SimpleG.Inv S ∧
      (∀ v : Nat, 1 ≤ v → v ≤ n → (S.nbrs v).length = d ∧ S.degree (v : Int) = .ok d) ∧
      2 * S.m = n * d ∧ ∃ used, ds = used ++ rest := by
  unfold gndSimple at h
  split at h
  · rename_i G rest' hG
    cases h
    obtain ⟨G', g0, g1, g2, g3, g4, g5, g6⟩ := regularGraph_ok heven hd hG
    cases g0
    obtain ⟨S, s1, s2, s3, s4, s5⟩ := fromNetworkx_spec g2 g3
    refine ⟨S, by rw [s1], by rw [s2, g1], s3, ?_, by rw [s5]; exact g5, g6⟩
    intro v hv1 hv2
    have hdeg : (S.nbrs v).length = d := by
      have := fromNetworkx_degree g2 s3 s4 (v - 1)
      rw [show v - 1 + 1 = v by omega] at this
      rw [this]; exact g4 (v - 1) (by omega)
    exact ⟨hdeg, by rw [SimpleG.degree_natCast hv1 (by rw [s2, g1]; exact hv2), hdeg]⟩
  · rename_i rest' hG
    obtain ⟨G', g0, _⟩ := regularGraph_ok heven hd hG
    cases g0
  · cases h

example : ∃ S, gndSimple 4 2 [.shuffle [0, 1, 2, 3, 0, 1, 2, 3] [0, 1, 1, 2, 2, 3, 3, 0]] = .ok (some (.ok S)) [] ∧
    (S.nbrs 3).length = 2 := by
  refine ⟨_, rfl, ?_⟩; decide +kernel

/-- a run with two rounds: the first shuffle pairs `0,1` twice and `2` with itself, the left-over stubs
`0,1,2,2` are shuffled again and resolved (runs with restarts are exercised by the correspondence suite
`nx_gnd`, class `gnd:restarted`) -/
example : ∃ S, gndSimple 3 2 [.shuffle [0, 1, 2, 0, 1, 2] [0, 1, 0, 1, 2, 2], .shuffle [0, 1, 2, 2] [0, 2, 1, 2]] =
    .ok (some (.ok S)) [] ∧ S.m = 3 := by
  refine ⟨_, rfl, ?_⟩; decide +kernel

end Cnfgen.C15
