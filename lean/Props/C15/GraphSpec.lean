/-
C15 (graph specifications, TOKEN level) — theorems about `Cnfgen.GSpec.parseGraphArgument`, the model of
`parse_graph_argument(graphtype, spec)` of cnfgen/clitools/graph_args.py.
-/
import CnfgenModel.Cli.GraphSpec
namespace Cnfgen.C15
open Cnfgen Cnfgen.GSpec

/-- `constructions[ty]`, `formats[ty]`, `options[ty]` as total functions (`[]` where the key is missing) -/
def consL (ty : String) : List String := match constructionsOf ty with | .ok l => l | .error _ => []
def fmtL (dot : Bool) (ty : String) : List String := match formatsOf dot ty with | .ok l => l | .error _ => []
def optL (ty : String) : List String := match optionsOf ty with | .ok l => l | .error _ => []

/-- the keys every `parsed` dictionary has besides the options -/
def reservedKeys : List String := ["graphtype", "construction", "filename", "fileformat", "args"]

/-- what the proofs use of the generated tables: every graph type has its three rows; no option word
is a numeral, a graph type name, a reserved key or empty; `autodetect` is not a format name -/
def tablesOK : Bool :=
  typeNames.all (fun ty =>
    (constructionsOf ty).toBool && (formatsOf true ty).toBool && (formatsOf false ty).toBool && (optionsOf ty).toBool &&
    (optL ty).all (fun o => !isFloat o && !typeNames.contains o && !reservedKeys.contains o && o != "") &&
    !(fmtL true ty).contains "autodetect" && !(fmtL false ty).contains "autodetect")

/-- re-checked by the kernel against the tables regenerated from the source on every run -/
theorem tables_ok : tablesOK = true := by decide +kernel

example : typeNames = ["simple", "dag", "digraph", "bipartite"] := by decide +kernel

/-- a graph type of the tables -/
def Known (ty : String) : Prop := ty ∈ typeNames

theorem ok_of_toBool {α : Type} {x : Except Err α} (h : x.toBool = true) : ∃ a, x = .ok a := by
  cases x with
  | ok a => exact ⟨a, rfl⟩
  | error e => cases h

theorem known_tables {ty : String} (h : Known ty) (dot : Bool) :
    constructionsOf ty = .ok (consL ty) ∧ formatsOf dot ty = .ok (fmtL dot ty) ∧ optionsOf ty = .ok (optL ty) ∧
    (∀ o ∈ optL ty, isFloat o = false ∧ o ∉ typeNames ∧ o ∉ reservedKeys ∧ o ≠ "") ∧ "autodetect" ∉ fmtL dot ty := by
  have h1 := List.all_eq_true.mp tables_ok ty h
  simp only [Bool.and_eq_true, Bool.not_eq_true', List.all_eq_true, bne_iff_ne, ne_eq, List.contains_eq_mem,
    decide_eq_false_iff_not] at h1
  obtain ⟨⟨⟨⟨⟨⟨hc, hf1⟩, hf0⟩, ho⟩, hw⟩, ha1⟩, ha0⟩ := h1
  obtain ⟨_, hc⟩ := ok_of_toBool hc
  obtain ⟨_, hf1⟩ := ok_of_toBool hf1
  obtain ⟨_, hf0⟩ := ok_of_toBool hf0
  obtain ⟨_, ho⟩ := ok_of_toBool ho
  refine ⟨by rw [consL, hc], ?_, by rw [optL, ho], fun o hmem => ?_, ?_⟩
  · cases dot
    · rw [fmtL, hf0]
    · rw [fmtL, hf1]
  · have := hw o hmem
    exact ⟨this.1.1.1, this.1.1.2, this.1.2, this.2⟩
  · cases dot
    · exact ha0
    · exact ha1

theorem unknown_tables {ty : String} (h : ¬ Known ty) : constructionsOf ty = .error .keyError := by
  unfold constructionsOf getTab
  have : List.lookup ty Gen.graphConstructions.reverse = none := by
    rw [List.lookup_eq_none_iff]
    intro p hp
    have hp' : p ∈ Gen.graphConstructions := List.mem_reverse.mp hp
    rw [bne_iff_ne]
    intro heq
    apply h
    unfold Known typeNames
    exact heq ▸ List.mem_map_of_mem hp'
  rw [this]; rfl

theorem badOption_known {ty : String} (h : Known ty) (dot : Bool) (name : String) :
    badOption dot ty name = .valueError := by
  obtain ⟨hc, hf, _, _, _⟩ := known_tables h dot
  unfold badOption
  simp only [hf, hc]
  split <;> rfl

/-- one round of the loop for a graph type of the tables: the dictionary with the option `name` entered,
and the tokens that are left -/
def round (dot : Bool) (ty : String) (res : Parsed) (name : String) (rest : List String) :
    Except Err (Parsed × List String) :=
  if name ∉ optL ty then .error .valueError
  else if name ∈ res.keys then .error .valueError
  else if name = "save" then
    match rest with
    | [] => .error .valueError
    | t :: rest' =>
      if t ∈ fmtL dot ty then
        match rest' with
        | [] => .error .valueError
        | fn :: rest'' => .ok ({ res with save := some [t, fn] }, rest'')
      else .ok ({ res with save := some ["autodetect", t] }, rest')
  else .ok ({ res with opts := res.opts ++ [(name, rest.takeWhile isFloat)] }, rest.dropWhile isFloat)

section round
variable {dot : Bool} {ty : String} {res : Parsed} {name : String} {rest : List String}

theorem round_option (h2 : name ∈ optL ty) (h3 : name ∉ res.keys) (h4 : name ≠ "save") :
    round dot ty res name rest =
      .ok ({ res with opts := res.opts ++ [(name, rest.takeWhile isFloat)] }, rest.dropWhile isFloat) := by
  rw [round.eq_def, if_neg (not_not_intro h2), if_neg h3, if_neg h4]

theorem round_save {t fn : String} (h2 : "save" ∈ optL ty) (h3 : "save" ∉ res.keys)
    (ht : t ∈ fmtL dot ty) :
    round dot ty res "save" (t :: fn :: rest) = .ok ({ res with save := some [t, fn] }, rest) := by
  rw [round.eq_def, if_neg (not_not_intro h2), if_neg h3, if_pos rfl]
  exact if_pos ht

theorem round_save_auto {t : String} (h2 : "save" ∈ optL ty) (h3 : "save" ∉ res.keys)
    (ht : t ∉ fmtL dot ty) :
    round dot ty res "save" (t :: rest) = .ok ({ res with save := some ["autodetect", t] }, rest) := by
  rw [round.eq_def, if_neg (not_not_intro h2), if_neg h3, if_pos rfl]
  exact if_neg ht

theorem round_cases (dot : Bool) (ty : String) (res : Parsed) (name : String) (rest : List String) :
    round dot ty res name rest = .error .valueError ∨
    name ∈ optL ty ∧ name ∉ res.keys ∧
      ((name = "save" ∧ ∃ f fn rest', round dot ty res name rest = .ok ({ res with save := some [f, fn] }, rest') ∧
          (f ∈ fmtL dot ty ∧ rest = f :: fn :: rest' ∨ f = "autodetect" ∧ fn ∉ fmtL dot ty ∧ rest = fn :: rest')) ∨
       (name ≠ "save" ∧ round dot ty res name rest =
          .ok ({ res with opts := res.opts ++ [(name, rest.takeWhile isFloat)] }, rest.dropWhile isFloat))) := by
  by_cases h2 : name ∈ optL ty
  case neg => exact .inl (by rw [round.eq_def, if_pos h2])
  by_cases h3 : name ∈ res.keys
  · exact .inl (by rw [round.eq_def, if_neg (not_not_intro h2), if_pos h3])
  by_cases h4 : name = "save"
  case neg => exact .inr ⟨h2, h3, .inr ⟨h4, round_option h2 h3 h4⟩⟩
  subst h4
  have hr := round.eq_def dot ty res "save" rest
  rw [if_neg (not_not_intro h2), if_neg h3, if_pos rfl] at hr
  cases rest with
  | nil => exact .inl hr
  | cons t rest' =>
    by_cases ht : t ∈ fmtL dot ty
    case neg =>
      exact .inr ⟨h2, h3, .inl ⟨rfl, "autodetect", t, rest', round_save_auto h2 h3 ht, .inr ⟨rfl, ht, rfl⟩⟩⟩
    cases rest' with
    | nil => exact .inl (hr.trans (if_pos ht))
    | cons fn rest'' => exact .inr ⟨h2, h3, .inl ⟨rfl, t, fn, rest'', round_save h2 h3 ht, .inl ⟨ht, rfl⟩⟩⟩

theorem round_only {e : Err} (he : round dot ty res name rest = .error e) : e = .valueError := by
  rcases round_cases dot ty res name rest with hr | ⟨_, _, ⟨_, _, _, _, hr, _⟩ | ⟨_, hr⟩⟩
  all_goals rw [hr] at he; cases he
  rfl

theorem round_length {s : Parsed × List String} (hs : round dot ty res name rest = .ok s) :
    s.2.length ≤ rest.length := by
  rcases round_cases dot ty res name rest with hr | ⟨_, _, ⟨_, f, fn, rest', hr, hrest⟩ | ⟨_, hr⟩⟩
  all_goals rw [hr] at hs; cases hs
  · rcases hrest with ⟨_, rfl⟩ | ⟨_, _, rfl⟩
    · exact Nat.le_add_right _ 2
    · exact Nat.le_succ _
  · exact (List.dropWhile_suffix _).length_le

end round

theorem optionLoop_succ {ty : String} (h : Known ty) (dot : Bool) (f : Nat) (res : Parsed) (name : String)
    (rest : List String) :
    optionLoop dot ty (f + 1) res (name :: rest) =
      (round dot ty res name rest).bind fun s => optionLoop dot ty f s.1 s.2 := by
  obtain ⟨_, hf, ho, hw, _⟩ := known_tables h dot
  rw [optionLoop, round.eq_def]
  simp only [ho, badOption_known h, consumeNumbers]
  -- the first test of the loop is subsumed by the second: an option word is no graph type name
  by_cases h1 : name ∈ typeNames
  · rw [if_pos h1, if_pos fun h2 => (hw name h2).2.1 h1]; rfl
  rw [if_neg h1]
  by_cases h2 : name ∉ optL ty
  · rw [if_pos h2, if_pos h2]; rfl
  rw [if_neg h2, if_neg h2]
  by_cases h3 : name ∈ res.keys
  · rw [if_pos h3, if_pos h3]; rfl
  rw [if_neg h3, if_neg h3]
  by_cases h4 : name = "save"
  case neg => rw [if_neg h4, if_neg h4]; rfl
  rw [if_pos h4, if_pos h4]
  cases rest with
  | nil => rfl
  | cons t rest' =>
    simp only [consumeSaveInfo, hf]
    by_cases ht : t ∈ fmtL dot ty
    case neg => rw [if_neg ht, if_neg ht]; rfl
    rw [if_pos ht, if_pos ht]
    cases rest' <;> rfl

theorem loop_induction (dot : Bool) (ty : String) {motive : Parsed → List String → Prop}
    (nil : ∀ res, motive res [])
    (cons : ∀ res name rest, (∀ s, round dot ty res name rest = .ok s → motive s.1 s.2) → motive res (name :: rest))
    (res : Parsed) (toks : List String) : motive res toks := by
  induction hn : toks.length using Nat.strongRecOn generalizing res toks with
  | ind n ih =>
    subst hn
    cases toks with
    | nil => exact nil res
    | cons name rest =>
      exact cons res name rest fun s hs =>
        ih s.2.length (Nat.lt_succ_of_le (round_length hs)) s.1 s.2 rfl

theorem optionLoop_fuel {ty : String} (h : Known ty) (dot : Bool) (res : Parsed) (toks : List String) :
    ∀ f, toks.length ≤ f → optionLoop dot ty f res toks = optionLoop dot ty toks.length res toks := by
  induction res, toks using loop_induction dot ty with
  | nil res => intro f _; cases f <;> rfl
  | cons res name rest ih =>
    intro f hl
    obtain ⟨f, rfl⟩ : ∃ g, f = g + 1 := ⟨f - 1, by simp at hl; omega⟩
    rw [List.length_cons, optionLoop_succ h, optionLoop_succ h]
    cases hs : round dot ty res name rest with
    | error e => rfl
    | ok s =>
      have hlen := round_length hs
      exact (ih s hs f (by simp at hl; omega)).trans (ih s hs _ hlen).symm

/-- the loop with exactly the fuel the parser gives it -/
def loop (dot : Bool) (ty : String) (res : Parsed) (toks : List String) : Except Err Parsed :=
  optionLoop dot ty toks.length res toks

theorem loop_nil (dot : Bool) (ty : String) (res : Parsed) : loop dot ty res [] = .ok res := rfl

theorem loop_cons {ty : String} (h : Known ty) (dot : Bool) (res : Parsed) (name : String) (rest : List String) :
    loop dot ty res (name :: rest) = (round dot ty res name rest).bind fun s => loop dot ty s.1 s.2 := by
  unfold loop
  rw [List.length_cons, optionLoop_succ h]
  cases hs : round dot ty res name rest with
  | error e => rfl
  | ok s => exact optionLoop_fuel h dot _ _ _ (round_length hs)

theorem parse_cons {ty : String} (h : Known ty) (dot : Bool) (s0 : String) (rest : List String) :
    parseGraphArgument ty (s0 :: rest) dot =
      if s0 ∈ consL ty then
        loop dot ty { graphtype := ty, construction := some s0, filename := none, fileformat := none,
                      args := some (some (rest.takeWhile isFloat)) } (rest.dropWhile isFloat)
      else if s0 ∈ fmtL dot ty then
        match rest with
        | [] => .error .valueError
        | fn :: rest' =>
          loop dot ty { graphtype := ty, construction := none, filename := some fn, fileformat := some s0,
                        args := some none } rest'
      else if formatForAnotherType dot s0 ty = true then .error .valueError
      else if constructionForAnotherType s0 ty = true then .error .valueError
      else loop dot ty { graphtype := ty, construction := none, filename := some s0,
                         fileformat := some "autodetect", args := none } rest := by
  obtain ⟨hc, hf, _, _, _⟩ := known_tables h dot
  unfold parseGraphArgument loop
  simp only [hc, hf, consumeNumbers]
  by_cases h1 : s0 ∈ consL ty
  · rw [if_pos h1, if_pos h1]
  rw [if_neg h1, if_neg h1]
  by_cases h2 : s0 ∈ fmtL dot ty
  · rw [if_pos h2, if_pos h2]; cases rest <;> rfl
  rw [if_neg h2, if_neg h2]
  by_cases h3 : formatForAnotherType dot s0 ty = true
  · rw [if_pos h3, if_pos h3]; rfl
  rw [if_neg h3, if_neg h3]
  by_cases h4 : constructionForAnotherType s0 ty = true
  · rw [if_pos h4, if_pos h4]; rfl
  · rw [if_neg h4, if_neg h4]

theorem parse_nil (ty : String) (dot : Bool) : parseGraphArgument ty [] dot = .error .valueError := rfl

theorem parse_cases {ty : String} (h : Known ty) (dot : Bool) (toks : List String) :
    parseGraphArgument ty toks dot = .error .valueError ∨
    ∃ s0 rest, toks = s0 :: rest ∧
      ((s0 ∈ consL ty ∧ parseGraphArgument ty toks dot =
          loop dot ty { graphtype := ty, construction := some s0, filename := none, fileformat := none,
                        args := some (some (rest.takeWhile isFloat)) } (rest.dropWhile isFloat)) ∨
       (s0 ∉ consL ty ∧ s0 ∈ fmtL dot ty ∧ ∃ fn rest', rest = fn :: rest' ∧ parseGraphArgument ty toks dot =
          loop dot ty { graphtype := ty, construction := none, filename := some fn, fileformat := some s0,
                        args := some none } rest') ∨
       (s0 ∉ consL ty ∧ s0 ∉ fmtL dot ty ∧ formatForAnotherType dot s0 ty = false ∧
          constructionForAnotherType s0 ty = false ∧ parseGraphArgument ty toks dot =
          loop dot ty { graphtype := ty, construction := none, filename := some s0,
                        fileformat := some "autodetect", args := none } rest)) := by
  cases toks with
  | nil => exact .inl rfl
  | cons s0 rest =>
    rw [parse_cons h]
    by_cases h1 : s0 ∈ consL ty
    · exact .inr ⟨s0, rest, rfl, .inl ⟨h1, if_pos h1⟩⟩
    rw [if_neg h1]
    by_cases h2 : s0 ∈ fmtL dot ty
    · rw [if_pos h2]
      cases rest with
      | nil => exact .inl rfl
      | cons fn rest' => exact .inr ⟨s0, _, rfl, .inr (.inl ⟨h1, h2, fn, rest', rfl, rfl⟩)⟩
    rw [if_neg h2]
    by_cases h3 : formatForAnotherType dot s0 ty = true
    · exact .inl (if_pos h3)
    rw [if_neg h3]
    by_cases h4 : constructionForAnotherType s0 ty = true
    · exact .inl (if_pos h4)
    · exact .inr ⟨s0, rest, rfl, .inr (.inr ⟨h1, h2, Bool.eq_false_iff.mpr h3, Bool.eq_false_iff.mpr h4, if_neg h4⟩)⟩

theorem loop_only {ty : String} (h : Known ty) (dot : Bool) (res : Parsed) (toks : List String) (e : Err) :
    loop dot ty res toks = .error e → e = .valueError := by
  induction res, toks using loop_induction dot ty with
  | nil res => intro he; cases he
  | cons res name rest ih =>
    rw [loop_cons h]
    cases hs : round dot ty res name rest with
    | error e' => intro he; cases he; exact round_only hs
    | ok s => exact ih s hs

/-- (a) CLEANLINESS, full strength.  For a graph type of the tables and EVERY token list,
`parse_graph_argument` returns a dictionary or raises `ValueError`; nothing else.
(False before the fix 4e949d4 of finding C15-S1: the empty word in option position raised `IndexError`;
see `parse_empty_word_regression`.) -/
theorem parse_only_valueError {ty : String} (h : Known ty) (dot : Bool) (toks : List String) (e : Err)
    (he : parseGraphArgument ty toks dot = .error e) : e = .valueError := by
  rcases parse_cases h dot toks with hr | ⟨_, _, _, ⟨_, hr⟩ | ⟨_, _, _, _, _, hr⟩ | ⟨_, _, _, _, hr⟩⟩
  · rw [hr] at he; cases he; rfl
  all_goals rw [hr] at he; exact loop_only h dot _ _ e he

/-- regression of C15-S1: the token lists on which the old code (`optionname[0]`) raised `IndexError`
are refused with `ValueError` -/
theorem parse_empty_word_regression :
    parseGraphArgument "simple" ["x", ""] = .error .valueError ∧
    parseGraphArgument "simple" ["gnp", ""] = .error .valueError ∧
    parseGraphArgument "bipartite" ["glrd", "1", "2", "3", "addedges", "", "save", "x"] = .error .valueError ∧
    parseGraphArgument "dag" ["x", ""] false = .error .valueError := by decide +kernel

/-- a graph type that is not a key of the tables: `ValueError` for the empty list, otherwise the
`KeyError` of `constructions[graphtype]` (the command line only uses `simple`, `bipartite`, `dag`) -/
theorem parse_unknown_type {ty : String} (h : ¬ Known ty) (dot : Bool) (toks : List String) :
    parseGraphArgument ty toks dot = .error (if toks = [] then .valueError else .keyError) := by
  cases toks with
  | nil => rfl
  | cons s0 rest => unfold parseGraphArgument; rw [unknown_tables h]; rfl

/-- all outcomes, any graph type: a dictionary, `ValueError`, or — unknown graph type only — `KeyError`;
in particular the fuel guard of the model (`RuntimeError`) is never the answer -/
theorem parse_total (ty : String) (dot : Bool) (toks : List String) :
    (∃ p, parseGraphArgument ty toks dot = .ok p) ∨ parseGraphArgument ty toks dot = .error .valueError ∨
    (¬ Known ty ∧ parseGraphArgument ty toks dot = .error .keyError) := by
  by_cases h : Known ty
  · cases hp : parseGraphArgument ty toks dot with
    | ok p => exact Or.inl ⟨p, rfl⟩
    | error e => rw [parse_only_valueError h dot toks e hp]; exact Or.inr (Or.inl rfl)
  · rw [parse_unknown_type h]
    by_cases ht : toks = []
    · simp [ht]
    · simp [ht, h]

def HeadNotNumeral (ext : List String) : Prop := ∀ t, ext.head? = some t → isFloat t = false

/-- `consumenumbers` does not look past a word that is no numeral -/
theorem span_append_head {ext : List String} (hx : HeadNotNumeral ext) :
    ∀ rest : List String, (rest ++ ext).takeWhile isFloat = rest.takeWhile isFloat ∧
      (rest ++ ext).dropWhile isFloat = rest.dropWhile isFloat ++ ext
  | [] => by
    cases ext with
    | nil => exact ⟨rfl, rfl⟩
    | cons t ext' => have := hx t rfl; simp [this]
  | a :: rest => by
    simp only [List.cons_append, List.takeWhile_cons, List.dropWhile_cons]
    split
    · rw [(span_append_head hx rest).1, (span_append_head hx rest).2]
      exact ⟨rfl, rfl⟩
    · exact ⟨rfl, rfl⟩

theorem round_append {dot : Bool} {ty : String} {res : Parsed} {name : String} {rest ext : List String}
    {s : Parsed × List String} (hx : HeadNotNumeral ext) (hs : round dot ty res name rest = .ok s) :
    round dot ty res name (rest ++ ext) = .ok (s.1, s.2 ++ ext) := by
  rcases round_cases dot ty res name rest with hr | ⟨h2, h3, ⟨rfl, f, fn, rest', hr, hrest⟩ | ⟨h4, hr⟩⟩
  all_goals rw [hr] at hs; cases hs
  · rcases hrest with ⟨hf, rfl⟩ | ⟨rfl, hfn, rfl⟩
    · exact round_save h2 h3 hf
    · exact round_save_auto h2 h3 hfn
  · rw [round_option h2 h3 h4, (span_append_head hx rest).1, (span_append_head hx rest).2]

theorem loop_append {ty : String} (h : Known ty) (dot : Bool) {ext : List String} (hx : HeadNotNumeral ext)
    (pre : List String) (res p : Parsed) :
    loop dot ty res pre = .ok p → loop dot ty res (pre ++ ext) = loop dot ty p ext := by
  induction res, pre using loop_induction dot ty with
  | nil res => intro hp; cases hp; rfl
  | cons res name rest ih =>
    rw [List.cons_append, loop_cons h, loop_cons h]
    cases hs : round dot ty res name rest with
    | error e => intro hp; cases hp
    | ok s => rw [round_append hx hs]; exact ih s hs

theorem span_numerals {tail : List String} (hx : HeadNotNumeral tail) (as : List String)
    (h : ∀ a ∈ as, isFloat a = true) :
    (as ++ tail).takeWhile isFloat = as ∧ (as ++ tail).dropWhile isFloat = tail := by
  rw [List.takeWhile_append_of_pos h, List.dropWhile_append_of_pos h]
  exact ⟨(congrArg (as ++ ·) (span_append_head hx []).1).trans (List.append_nil as), (span_append_head hx []).2⟩

theorem headNotNumeral_empty_word (post : List String) : HeadNotNumeral ("" :: post) := by
  intro t ht
  simp at ht
  subst ht; decide +kernel

theorem loop_empty_word {ty : String} (h : Known ty) (dot : Bool) (res : Parsed) (post : List String) :
    loop dot ty res ("" :: post) = .error .valueError := by
  obtain ⟨_, _, _, hw, _⟩ := known_tables h dot
  rw [loop_cons h, round.eq_def, if_pos (fun hm => (hw "" hm).2.2.2 rfl)]
  rfl

/-- CONTINUATION for the parser: an accepted list followed by words that do not start with a numeral is
parsed by continuing the option loop from the accepted request -/
theorem parse_append {ty : String} (h : Known ty) (dot : Bool) {ext : List String} (hx : HeadNotNumeral ext)
    (pre : List String) (p : Parsed) (hp : parseGraphArgument ty pre dot = .ok p) :
    parseGraphArgument ty (pre ++ ext) dot = loop dot ty p ext := by
  rcases parse_cases h dot pre with hr | ⟨s0, rest, rfl, ⟨h1, hr⟩ | ⟨h1, h2, fn, rest', rfl, hr⟩ | ⟨h1, h2, h3, h4, hr⟩⟩
  · rw [hr] at hp; cases hp
  all_goals rw [hr] at hp; rw [List.cons_append, parse_cons h]
  · rw [if_pos h1, (span_append_head hx rest).1, (span_append_head hx rest).2]
    exact loop_append h dot hx _ _ _ hp
  · rw [if_neg h1, if_pos h2]
    exact loop_append h dot hx _ _ _ hp
  · rw [if_neg h1, if_neg h2, if_neg (Bool.eq_false_iff.mp h3), if_neg (Bool.eq_false_iff.mp h4)]
    exact loop_append h dot hx _ _ _ hp

/-- regression of C15-S1, in general: an ACCEPTED list followed by the empty word and anything (exactly the
lists on which the old code raised `IndexError`) is refused with `ValueError` -/
theorem parse_empty_word_refused {ty : String} (h : Known ty) (dot : Bool) (pre post : List String) (p : Parsed)
    (hp : parseGraphArgument ty pre dot = .ok p) :
    parseGraphArgument ty (pre ++ "" :: post) dot = .error .valueError := by
  rw [parse_append h dot (headNotNumeral_empty_word post) pre p hp]
  exact loop_empty_word h dot p post

/-- exactly one source: a construction of the graph type with its numerals, or a file with a format of
the graph type, or a file whose format is to be guessed from its name (then the name is no keyword) -/
inductive SourceOK (dot : Bool) (ty : String) (p : Parsed) : Prop
  | construction (c : String) (as : List String) (hc : c ∈ consL ty)
      (h1 : p.construction = some c) (h2 : p.filename = none) (h3 : p.fileformat = none)
      (h4 : p.args = some (some as)) (h5 : ∀ a ∈ as, isFloat a = true)
  | fileWithFormat (f fn : String) (hc : f ∉ consL ty) (hf : f ∈ fmtL dot ty)
      (h1 : p.construction = none) (h2 : p.filename = some fn) (h3 : p.fileformat = some f) (h4 : p.args = some none)
  | fileByName (fn : String) (hc : fn ∉ consL ty) (hf : fn ∉ fmtL dot ty)
      (ha : formatForAnotherType dot fn ty = false) (hb : constructionForAnotherType fn ty = false)
      (h1 : p.construction = none) (h2 : p.filename = some fn) (h3 : p.fileformat = some "autodetect")
      (h4 : p.args = none)

/-- the options: each at most once, only words of `options[ty]`, numerals only; `save` has a format
(one of the graph type, or `autodetect` when the word after `save` is not a format) and a file name -/
structure OptsOK (dot : Bool) (ty : String) (p : Parsed) : Prop where
  nodup : (p.opts.map (·.1)).Nodup
  names : ∀ o ∈ p.opts, o.1 ∈ optL ty ∧ o.1 ≠ "save" ∧ ∀ a ∈ o.2, isFloat a = true
  save : ∀ l, p.save = some l → "save" ∈ optL ty ∧
    ∃ f fn, l = [f, fn] ∧ (f ∈ fmtL dot ty ∨ (f = "autodetect" ∧ fn ∉ fmtL dot ty))

structure WellFormed (dot : Bool) (ty : String) (p : Parsed) : Prop where
  known : Known ty
  gtype : p.graphtype = ty
  source : SourceOK dot ty p
  opts : OptsOK dot ty p

theorem mem_keys (p : Parsed) (x : String) :
    x ∈ p.keys ↔ x ∈ ["graphtype", "construction", "filename", "fileformat"] ∨ (p.args.isSome = true ∧ x = "args") ∨
      x ∈ p.opts.map (·.1) ∨ (p.save.isSome = true ∧ x = "save") := by
  unfold Parsed.keys
  simp only [List.mem_append]
  constructor
  · rintro (((h | h) | h) | h)
    · exact Or.inl h
    · split at h
      · rename_i ha; exact Or.inr (Or.inl ⟨ha, by simpa using h⟩)
      · simp at h
    · exact Or.inr (Or.inr (Or.inl h))
    · split at h
      · rename_i ha; exact Or.inr (Or.inr (Or.inr ⟨ha, by simpa using h⟩))
      · simp at h
  · rintro (h | ⟨ha, h⟩ | h | ⟨ha, h⟩)
    · exact Or.inl (Or.inl (Or.inl h))
    · exact Or.inl (Or.inl (Or.inr (by rw [if_pos ha, h]; simp)))
    · exact Or.inl (Or.inr h)
    · exact Or.inr (by rw [if_pos ha, h]; simp)

/-- an option word is no reserved key: it is a key only as an option entered so far, or as `save` -/
theorem mem_keys_of_option {ty : String} (h : Known ty) {x : String} (hx : x ∈ optL ty) (p : Parsed) :
    x ∈ p.keys ↔ x ∈ p.opts.map (·.1) ∨ (p.save.isSome = true ∧ x = "save") := by
  have hr : x ∉ ["graphtype", "construction", "filename", "fileformat"] ++ ["args"] :=
    ((known_tables h true).2.2.2.1 x hx).2.2.1
  rw [List.mem_append, not_or] at hr
  rw [mem_keys]
  constructor
  · rintro (h1 | ⟨_, h1⟩ | h1)
    · exact absurd h1 hr.1
    · exact absurd (List.mem_singleton.2 h1) hr.2
    · exact h1
  · exact fun h1 => .inr (.inr h1)

theorem round_invariant {dot : Bool} {ty : String} {res : Parsed} {name : String} {rest : List String}
    {s : Parsed × List String} (hres : OptsOK dot ty res) (hs : round dot ty res name rest = .ok s) :
    OptsOK dot ty s.1 ∧ s.1.graphtype = res.graphtype ∧ s.1.construction = res.construction ∧
    s.1.filename = res.filename ∧ s.1.fileformat = res.fileformat ∧ s.1.args = res.args := by
  rcases round_cases dot ty res name rest with hr | ⟨h2, h3, ⟨rfl, f, fn, rest', hr, hrest⟩ | ⟨h4, hr⟩⟩
  all_goals rw [hr] at hs; cases hs
  · refine ⟨⟨hres.nodup, hres.names, fun l hl => ⟨h2, f, fn, (Option.some.inj hl).symm, ?_⟩⟩, rfl, rfl, rfl, rfl, rfl⟩
    exact hrest.imp And.left fun h => ⟨h.1, h.2.1⟩
  · refine ⟨⟨?_, ?_, hres.save⟩, rfl, rfl, rfl, rfl, rfl⟩
    · simp only [List.map_append, List.map_cons, List.map_nil]
      rw [List.nodup_append]
      refine ⟨hres.nodup, by simp, ?_⟩
      intro a ha b hb
      simp only [List.mem_singleton] at hb
      subst hb
      intro hab; subst hab
      exact h3 ((mem_keys res _).2 (.inr (.inr (.inl ha))))
    · intro o ho
      rcases List.mem_append.mp ho with ho | ho
      · exact hres.names o ho
      · simp only [List.mem_singleton] at ho
        subst ho
        exact ⟨h2, h4, List.all_eq_true.1 List.all_takeWhile⟩

theorem loop_invariant {ty : String} (h : Known ty) (dot : Bool) (toks : List String) (res p : Parsed) :
    OptsOK dot ty res → loop dot ty res toks = .ok p →
      OptsOK dot ty p ∧ p.graphtype = res.graphtype ∧ p.construction = res.construction ∧
      p.filename = res.filename ∧ p.fileformat = res.fileformat ∧ p.args = res.args := by
  induction res, toks using loop_induction dot ty with
  | nil res => intro hres hp; cases hp; exact ⟨hres, rfl, rfl, rfl, rfl, rfl⟩
  | cons res name rest ih =>
    intro hres
    rw [loop_cons h]
    cases hs : round dot ty res name rest with
    | error e => intro hp; cases hp
    | ok s =>
      intro hp
      obtain ⟨h0, h1, h2, h3, h4, h5⟩ := round_invariant hres hs
      obtain ⟨k0, k1, k2, k3, k4, k5⟩ := ih s hs h0 hp
      exact ⟨k0, k1.trans h1, k2.trans h2, k3.trans h3, k4.trans h4, k5.trans h5⟩

theorem optsOK_start (dot : Bool) (ty : String) (p : Parsed) (h1 : p.opts = []) (h2 : p.save = none) :
    OptsOK dot ty p :=
  ⟨by rw [h1]; simp, by rw [h1]; simp, by rw [h2]; simp⟩

/-- (b) SHAPE.  Every request the parser accepts is well formed: the graph type is recorded, there is
exactly one source, every option occurs at most once and is an option of the graph type with numerals
only, `save` has a format and a file name -/
theorem parse_wellFormed {ty : String} (h : Known ty) (dot : Bool) (toks : List String) (p : Parsed)
    (hp : parseGraphArgument ty toks dot = .ok p) : WellFormed dot ty p := by
  rcases parse_cases h dot toks with hr | ⟨s0, rest, rfl, ⟨h1, hr⟩ | ⟨h1, h2, fn, rest', rfl, hr⟩ | ⟨h1, h2, h3, h4, hr⟩⟩
  · rw [hr] at hp; cases hp
  all_goals
    rw [hr] at hp
    obtain ⟨ho, e1, e2, e3, e4, e5⟩ := loop_invariant h dot _ _ p (optsOK_start dot ty _ rfl rfl) hp
  · exact ⟨h, e1, .construction s0 _ h1 e2 e3 e4 e5 (List.all_eq_true.1 List.all_takeWhile), ho⟩
  · exact ⟨h, e1, .fileWithFormat s0 fn h1 h2 e2 e3 e4 e5, ho⟩
  · exact ⟨h, e1, .fileByName s0 h1 h2 h3 h4 e2 e3 e4 e5, ho⟩

/-- each modifier belongs to the graph types the documentation names (re-checked against the
`options` table of the current source) -/
theorem modifier_graph_types : ∀ ty ∈ typeNames,
    ("plantclique" ∈ optL ty → ty = "simple") ∧ ("splitedges" ∈ optL ty → ty = "simple") ∧
    ("plantbiclique" ∈ optL ty → ty = "bipartite") ∧ ("addedges" ∈ optL ty → ty = "simple" ∨ ty = "bipartite") ∧
    "save" ∈ optL ty ∧ ∀ o ∈ optL ty, o ≠ "save" → ty ≠ "dag" ∧ ty ≠ "digraph" := by decide +kernel

/-- (b, corollary) a directed graph request carries no modifier at all; `plantclique` / `splitedges` are
accepted for simple graphs only, `plantbiclique` for bipartite graphs only -/
theorem accepted_modifiers {ty : String} (h : Known ty) (dot : Bool) (toks : List String) (p : Parsed)
    (hp : parseGraphArgument ty toks dot = .ok p) (o : String × List String) (ho : o ∈ p.opts) :
    (o.1 = "plantclique" → ty = "simple") ∧ (o.1 = "splitedges" → ty = "simple") ∧
    (o.1 = "plantbiclique" → ty = "bipartite") ∧ (o.1 = "addedges" → ty = "simple" ∨ ty = "bipartite") ∧
    ty ≠ "dag" ∧ ty ≠ "digraph" ∧ (p.opts.map (·.1)).count o.1 = 1 := by
  have hw := parse_wellFormed h dot toks p hp
  have hm := (hw.opts.names o ho).1
  have hns := (hw.opts.names o ho).2.1
  have ht := modifier_graph_types ty h
  refine ⟨fun e => ht.1 (e ▸ hm), fun e => ht.2.1 (e ▸ hm), fun e => ht.2.2.1 (e ▸ hm),
    fun e => ht.2.2.2.1 (e ▸ hm), (ht.2.2.2.2.2 _ hm hns).1, (ht.2.2.2.2.2 _ hm hns).2, ?_⟩
  rw [hw.opts.nodup.count, if_pos (List.mem_map_of_mem ho)]

theorem renderSave_known {ty : String} (h : Known ty) (dot : Bool) (f fn : String) :
    renderSave dot ty (some [f, fn]) = if f ∈ fmtL dot ty then ["save", f, fn] else ["save", fn] := by
  obtain ⟨_, hf, _, _, _⟩ := known_tables h dot
  unfold renderSave
  simp only [hf]

theorem render_tail_head {ty : String} (h : Known ty) (dot : Bool) (opts : List (String × List String))
    (sv : Option (List String)) (hn : ∀ o ∈ opts, o.1 ∈ optL ty ∧ o.1 ≠ "save" ∧ ∀ a ∈ o.2, isFloat a = true)
    (hs : ∀ l, sv = some l → "save" ∈ optL ty ∧
      ∃ f fn, l = [f, fn] ∧ (f ∈ fmtL dot ty ∨ (f = "autodetect" ∧ fn ∉ fmtL dot ty))) :
    HeadNotNumeral (opts.flatMap (fun o => o.1 :: o.2) ++ renderSave dot ty sv) := by
  obtain ⟨_, _, _, hw, _⟩ := known_tables h dot
  intro t ht
  cases opts with
  | cons o opts' =>
    simp at ht; subst ht
    exact (hw _ (hn o (by simp)).1).1
  | nil =>
    cases sv with
    | none => simp [renderSave] at ht
    | some l =>
      obtain ⟨hsv, f, fn, hl, _⟩ := hs l rfl
      subst hl
      rw [renderSave_known h] at ht
      have : t = "save" := by split at ht <;> simp at ht <;> exact ht.symm
      subst this
      exact (hw _ hsv).1

/-- the loop on the printed options and `save`, started from a dictionary without `save` whose option
names, with those to come, are distinct -/
theorem loop_render {ty : String} (h : Known ty) (dot : Bool) (sv : Option (List String))
    (hs : ∀ l, sv = some l → "save" ∈ optL ty ∧
      ∃ f fn, l = [f, fn] ∧ (f ∈ fmtL dot ty ∨ (f = "autodetect" ∧ fn ∉ fmtL dot ty))) :
    ∀ (opts : List (String × List String)) (res : Parsed), res.save = none → "save" ∉ res.opts.map (·.1) →
      (∀ o ∈ opts, o.1 ∈ optL ty ∧ o.1 ≠ "save" ∧ ∀ a ∈ o.2, isFloat a = true) →
      (res.opts.map (·.1) ++ opts.map (·.1)).Nodup →
      loop dot ty res (opts.flatMap (fun o => o.1 :: o.2) ++ renderSave dot ty sv) =
        .ok { res with opts := res.opts ++ opts, save := sv } := by
  have fresh : ∀ {x} (res : Parsed), x ∈ optL ty → res.save = none → x ∉ res.opts.map (·.1) → x ∉ res.keys :=
    fun res hx hrs hn hk => ((mem_keys_of_option h hx res).1 hk).elim hn fun hsv => by simp [hrs] at hsv
  intro opts
  induction opts with
  | nil =>
    intro res hrs hsk _ _
    simp only [List.flatMap_nil, List.nil_append, List.append_nil]
    cases sv with
    | none =>
      simp only [renderSave, loop_nil]
      cases res
      cases hrs
      rfl
    | some l =>
      obtain ⟨hsv, f, fn, hl, hcase⟩ := hs l rfl
      subst hl
      rw [renderSave_known h]
      by_cases hf : f ∈ fmtL dot ty
      · rw [if_pos hf, loop_cons h, round_save hsv (fresh res hsv hrs hsk) hf]; rfl
      · rcases hcase with hc | ⟨hc, hfn⟩
        · exact absurd hc hf
        · rw [if_neg hf, loop_cons h, round_save_auto hsv (fresh res hsv hrs hsk) hfn, hc]; rfl
  | cons o opts ih =>
    intro res hrs hsk hnames hnd
    have ho := hnames o (by simp)
    have hrest := fun o' ho' => hnames o' (List.mem_cons_of_mem o ho')
    have hsp := span_numerals (render_tail_head h dot opts sv hrest hs) o.2 ho.2.2
    rw [List.map_cons, List.append_cons] at hnd
    have hnew : o.1 ∉ res.opts.map (·.1) := fun hm =>
      (List.nodup_append.1 (List.nodup_append.1 hnd).1).2.2 _ hm _ (List.mem_singleton_self _) rfl
    simp only [List.flatMap_cons, List.cons_append, List.append_assoc]
    rw [loop_cons h, round_option ho.1 (fresh res ho.1 hrs hnew) ho.2.1, hsp.1, hsp.2]
    show loop dot ty { res with opts := res.opts ++ [(o.1, o.2)] } _ = _
    rw [ih { res with opts := res.opts ++ [(o.1, o.2)] } hrs
      (fun hm => by
        rw [List.map_append] at hm
        exact (List.mem_append.1 hm).elim hsk fun h1 => ho.2.1 (List.mem_singleton.1 h1).symm)
      hrest (by rw [List.map_append]; exact hnd)]
    simp only [List.append_assoc, List.singleton_append]

/-- (c) ROUND TRIP.  The canonical printer (source, options in their order, `save`) is inverted by the parser
on every well-formed request -/
theorem parse_render {ty : String} (dot : Bool) (p : Parsed) (hwf : WellFormed dot ty p) :
    parseGraphArgument ty (renderSpec p dot) dot = .ok p := by
  obtain ⟨h, hg, hsrc, hopts⟩ := hwf
  obtain ⟨_, _, _, hw, hauto⟩ := known_tables h dot
  have hx : HeadNotNumeral (p.opts.flatMap (fun o => o.1 :: o.2) ++ renderSave dot ty p.save) :=
    render_tail_head h dot p.opts p.save hopts.names hopts.save
  have run : ∀ res : Parsed, res.opts = [] → res.save = none →
      loop dot ty res (p.opts.flatMap (fun o => o.1 :: o.2) ++ renderSave dot ty p.save) =
        .ok { res with opts := res.opts ++ p.opts, save := p.save } := by
    intro res h1 h2
    exact loop_render h dot p.save hopts.save p.opts res h2 (by simp [h1]) hopts.names (by rw [h1]; exact hopts.nodup)
  obtain ⟨g, c0, fn0, ff0, a0, opts, sv⟩ := p
  cases hg
  unfold renderSpec
  cases hsrc with
  | construction c as hc h1 h2 h3 h4 h5 =>
    cases h1; cases h2; cases h3; cases h4
    have hsp := span_numerals hx as h5
    simp only [List.cons_append, List.append_assoc]
    rw [parse_cons h, if_pos hc, hsp.1, hsp.2, run _ rfl rfl]
    rfl
  | fileWithFormat f fn hc hf h1 h2 h3 h4 =>
    cases h1; cases h2; cases h3; cases h4
    have hne : f ≠ "autodetect" := fun e => hauto (e ▸ hf)
    simp only [hne, if_false, List.cons_append, List.nil_append]
    rw [parse_cons h, if_neg hc, if_pos hf]
    exact run _ rfl rfl
  | fileByName fn hc hf ha hb h1 h2 h3 h4 =>
    cases h1; cases h2; cases h3; cases h4
    simp only [if_true, List.cons_append, List.nil_append]
    rw [parse_cons h, if_neg hc, if_neg hf, if_neg (Bool.eq_false_iff.mp ha), if_neg (Bool.eq_false_iff.mp hb)]
    exact run _ rfl rfl

/-- (c) IDEMPOTENCE.  Printing an accepted request and parsing the print gives the same request: the
canonical form of a token list is a fixed point -/
theorem render_parse_idempotent {ty : String} (h : Known ty) (dot : Bool) (toks : List String) (p : Parsed)
    (hp : parseGraphArgument ty toks dot = .ok p) :
    parseGraphArgument ty (renderSpec p dot) dot = .ok p :=
  parse_render dot p (parse_wellFormed h dot toks p hp)

/-- … and the printer is a normal form: printing the re-parsed request prints the same words -/
theorem render_canonical {ty : String} (h : Known ty) (dot : Bool) (toks : List String) (p q : Parsed)
    (hp : parseGraphArgument ty toks dot = .ok p) (hq : parseGraphArgument ty (renderSpec p dot) dot = .ok q) :
    renderSpec q dot = renderSpec p dot := by
  rw [render_parse_idempotent h dot toks p hp] at hq
  cases hq; rfl

/-- well-formed requests exist for every kind of source (non-vacuity of `parse_render`) -/
example : WellFormed true "simple"
    ⟨"simple", some "gnm", none, none, some (some ["10", "15"]), [("addedges", ["4"])], some ["kthlist", "out.txt"]⟩ :=
  parse_wellFormed (show "simple" ∈ typeNames by decide +kernel) true
    ["gnm", "10", "15", "addedges", "4", "save", "kthlist", "out.txt"] _ (by decide +kernel)

example : parseGraphArgument "simple" ["gnm", "10", "15", "save", "kthlist", "out.txt", "addedges", "4"] =
      .ok ⟨"simple", some "gnm", none, none, some (some ["10", "15"]), [("addedges", ["4"])], some ["kthlist", "out.txt"]⟩ ∧
    renderSpec ⟨"simple", some "gnm", none, none, some (some ["10", "15"]), [("addedges", ["4"])], some ["kthlist", "out.txt"]⟩ =
      ["gnm", "10", "15", "addedges", "4", "save", "kthlist", "out.txt"] ∧
    parseGraphArgument "bipartite" ["dot", "file"] = .ok ⟨"bipartite", none, some "file", some "dot", some none, [], none⟩ ∧
    parseGraphArgument "dag" ["file.gml", "save", "copy"] =
      .ok ⟨"dag", none, some "file.gml", some "autodetect", none, [], some ["autodetect", "copy"]⟩ := by decide +kernel

theorem resolveFormat_known {ty : String} (h : Known ty) (dot : Bool) (f fn : String) :
    resolveFormat dot ty f fn =
      if (if f = "autodetect" then extension fn else f) ∈ fmtL dot ty
      then some (if f = "autodetect" then extension fn else f) else none := by
  unfold resolveFormat
  simp only [(known_tables h dot).2.1]

/-- `_process_graph_io_arguments`: the format that is used is one of the graph type; an explicit format is
taken as it is, `autodetect` means the extension of the file name -/
theorem resolveFormat_supported {ty : String} (h : Known ty) (dot : Bool) (f fn g : String)
    (hr : resolveFormat dot ty f fn = some g) :
    g ∈ fmtL dot ty ∧ (f ≠ "autodetect" → g = f) ∧ (f = "autodetect" → g = extension fn) := by
  rw [resolveFormat_known h] at hr
  by_cases hm : (if f = "autodetect" then extension fn else f) ∈ fmtL dot ty
  · rw [if_pos hm] at hr
    cases hr
    exact ⟨hm, fun hne => if_neg hne, fun he => if_pos he⟩
  · rw [if_neg hm] at hr
    cases hr

/-- the `save` of an accepted request with an explicit format is never refused by `writeGraph`; with
`autodetect` it is refused exactly when the extension of the file name is not a format of the graph type -/
theorem accepted_save_resolves {ty : String} (h : Known ty) (dot : Bool) (toks : List String) (p : Parsed)
    (hp : parseGraphArgument ty toks dot = .ok p) (l : List String) (hs : p.save = some l) :
    ∃ f fn, l = [f, fn] ∧
      (f ≠ "autodetect" → resolveFormat dot ty f fn = some f) ∧
      (f = "autodetect" → (resolveFormat dot ty f fn = none ↔ extension fn ∉ fmtL dot ty)) := by
  obtain ⟨_, f, fn, hl, hcase⟩ := (parse_wellFormed h dot toks p hp).opts.save l hs
  refine ⟨f, fn, hl, fun hne => ?_, fun he => ?_⟩
  · rw [resolveFormat_known h, if_neg hne, if_pos (hcase.resolve_right fun hc => hne hc.1)]
  · rw [resolveFormat_known h, if_pos he]
    constructor
    · intro hx hm; rw [if_pos hm] at hx; cases hx
    · exact fun hx => if_neg hx

example : extension "out.kthlist" = "kthlist" ∧ extension "a.b/c" = "" ∧ extension ".gml" = "" ∧
    extension "dir/..gml" = "" ∧ extension "a..gml" = "gml" ∧
    resolveFormat true "bipartite" "autodetect" "g.dimacs" = none ∧
    resolveFormat true "simple" "autodetect" "g.dimacs" = some "dimacs" ∧
    resolveFormat false "simple" "autodetect" "g.dot" = none := by decide +kernel

end Cnfgen.C15
