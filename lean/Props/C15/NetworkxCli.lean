/-
C15 — the networkx-backed constructions THROUGH cnfgen's own argument checks:
`obtain_grid_or_torus`, `obtain_complete_simple`, `obtain_gnp`, `obtain_gnm`, `obtain_gnd` (Cli/GraphArgs.lean),
with the third-party result computed by the model of networkx (`GCli.nxExt`,
`GCli.constructNx`, Cli/GraphArgsNx.lean; compared with the real `obtain_graph`, modifiers and `save`
included, by the correspondence suite `nx_cli`).

Each statement is for EVERY list of numeric tokens (`grid`, `torus`) or EVERY two tokens (the others): the request
is accepted and the graph that comes back is the one characterised in `Props/C15/Networkx.lean` (`grid_torus_spec`,
`complete_blocks_spec`, `gnp_spec`, `gnm_spec`, `gnd_spec` apply to it), or it is refused with `ValueError` — never a
third-party exception, never a graph of another shape.  `intsOf args = some dims`: every token has an integer value
(`int(tok)` succeeded).
-/
import Lemmas.C15NxCli
import Lemmas.GraphRun
import Props.C15.Networkx
namespace Cnfgen.C15
open Cnfgen Cnfgen.GRand Cnfgen.GCli Cnfgen.Nx

/-- the documented domain of `grid` / `torus`: at least one dimension, all positive; for the torus no
dimension equal to 1 (a cycle of length 1 is not a simple graph) -/
def GridAccepts (p : Bool) (dims : List Int) : Prop :=
  dims ≠ [] ∧ (∀ d ∈ dims, 0 < d) ∧ ¬ (p = true ∧ (1 : Int) ∈ dims)

/-- the documented domain is what the three guards of `obtain_grid_or_torus` let through -/
theorem gridAccepts_iff (p : Bool) (dims : List Int) :
    GridAccepts p dims ↔ gridDimsGiven dims = true ∧ gridGuard dims = true ∧ ¬ (p = true ∧ torusPre dims = false) := by
  simp [GridAccepts, gridDimsGiven, gridGuard, torusPre]

/-- `grid d1 … dk` / `torus d1 … dk` on the command line: inside the documented domain the answer is the
grid / torus of `grid_torus_spec` (no draw is consumed); outside it is `ValueError` -/
theorem cli_grid_torus (p : Bool) (args : List Arg) (nx : List NxDraw) (e : Option CG) (fuel : Nat) (ds : List Draw) :
    (∃ dims S, intsOf args = some dims ∧ GridAccepts p dims ∧ gridSimple (dims.map Int.toNat) p = .ok S ∧
      S.n = prodL (dims.map Int.toNat) ∧ SimpleG.Inv S ∧ S.m = gridEdgeCount p (dims.map Int.toNat) ∧
      constructNx (if p then .torus else .grid) args nx e fuel ds = .ok (.simple S) ds) ∨
    ((¬ ∃ dims, intsOf args = some dims ∧ GridAccepts p dims) ∧
      constructNx (if p then .torus else .grid) args nx e fuel ds = .exc .valueError) := by
  have hc : constructNx (if p then .torus else .grid) args nx e fuel ds = obtainGridOrTorus args p (gridExt args p) ds := by
    cases p <;> rfl
  rw [hc, obtainGridOrTorus_apply]
  cases hI : intsOf args with
  | none => right; exact ⟨(by rintro ⟨d, h, _⟩; cases h), rfl⟩
  | some dims =>
    simp only
    by_cases hacc : GridAccepts p dims
    · left
      obtain ⟨a1, a2, a3⟩ := hacc
      have hne : dims.map Int.toNat ≠ [] := by simpa using a1
      have h1 : ¬ (p = true ∧ 1 ∈ dims.map Int.toNat) := by
        rw [mem_map_toNat_one a2]; exact a3
      obtain ⟨S, s1, s2, s3, _, s5⟩ := grid_torus_spec p _ hne h1
      refine ⟨dims, S, rfl, ⟨a1, a2, a3⟩, s1, s2, s3, s5, ?_⟩
      rw [if_pos ((gridAccepts_iff p dims).1 ⟨a1, a2, a3⟩), ext_apply]
      simp only [gridExt, hI, s1, simpleOf]
    · right
      exact ⟨(by rintro ⟨d, h, hd⟩; cases h; exact hacc hd), if_neg (mt (gridAccepts_iff p dims).2 hacc)⟩

example : ∃ S, constructNx .torus [⟨some 3, some (3, 1)⟩, ⟨some 4, some (4, 1)⟩] [] none 0 [] = .ok (.simple S) [] ∧ S.n = 12 := by
  rcases cli_grid_torus true [⟨some 3, some (3, 1)⟩, ⟨some 4, some (4, 1)⟩] [] none 0 [] with
    ⟨dims, S, h1, _, _, h4, _, _, h7⟩ | ⟨h, _⟩
  · simp only [intsOf] at h1
    cases h1
    exact ⟨S, h7, h4⟩
  · exfalso; apply h
    refine ⟨[3, 4], rfl, by simp, ?_, by simp⟩
    intro d hd; simp at hd; omega

/-- `complete N B` on the command line: for `N > 0`, `B > 0` the complete `B`-partite graph of
`complete_blocks_spec`; otherwise `ValueError` -/
theorem cli_complete_blocks (a b : Arg) (nx : List NxDraw) (e : Option CG) (fuel : Nat) (ds : List Draw) :
    (∃ n k S, a.int? = some n ∧ b.int? = some k ∧ 0 < n ∧ 0 < k ∧ completeBlocksSimple n.toNat k.toNat = .ok S ∧
      S.n = k.toNat * n.toNat ∧ SimpleG.Inv S ∧ 2 * S.m = n.toNat * n.toNat * (k.toNat * (k.toNat - 1)) ∧
      constructNx .completeS [a, b] nx e fuel ds = .ok (.simple S) ds) ∨
    ((¬ ∃ n k, a.int? = some n ∧ b.int? = some k ∧ 0 < n ∧ 0 < k) ∧
      constructNx .completeS [a, b] nx e fuel ds = .exc .valueError) := by
  have hc : constructNx .completeS [a, b] nx e fuel ds = obtainCompleteSimple [a, b] (nxExt .completeS [a, b] nx) ds := rfl
  rw [hc]
  simp only [obtainCompleteSimple, bind_apply, argInt_apply, guard_apply, nxExt]
  cases ha : a.int? with
  | none => right; exact ⟨(by rintro ⟨n, k, h, _⟩; cases h), rfl⟩
  | some n =>
    cases hb : b.int? with
    | none => right; exact ⟨(by rintro ⟨n, k, _, h, _⟩; cases h), rfl⟩
    | some k =>
      simp only
      by_cases hg : 0 < n ∧ 0 < k
      · left
        obtain ⟨S, s1, s2, s3, _, s5⟩ := complete_blocks_spec n.toNat k.toNat
        refine ⟨n, k, S, rfl, rfl, hg.1, hg.2, s1, s2, s3, s5, ?_⟩
        have : completeMultiGuard n k = true := by simp [completeMultiGuard, hg.1, hg.2]
        simp only [this, ↓reduceIte, ext_apply, s1, simpleOf]
      · right
        refine ⟨(by rintro ⟨n', k', h1, h2, h3⟩; cases h1; cases h2; exact hg h3), ?_⟩
        have : completeMultiGuard n k = false := by
          simp only [completeMultiGuard, Bool.and_eq_false_iff, decide_eq_false_iff_not]
          omega
        simp [this]

example : ∃ S, constructNx .completeS [⟨some 2, some (2, 1)⟩, ⟨some 3, some (3, 1)⟩] [] none 0 [] = .ok (.simple S) [] ∧
    S.n = 6 := by
  rcases cli_complete_blocks ⟨some 2, some (2, 1)⟩ ⟨some 3, some (3, 1)⟩ [] none 0 [] with
    ⟨n, k, S, h1, h2, _, _, _, h6, _, _, h9⟩ | ⟨h, _⟩
  · cases h1; cases h2; exact ⟨S, h9, h6⟩
  · exact absurd ⟨2, 3, rfl, rfl, by decide +kernel, by decide +kernel⟩ h

theorem gnmGuard_nat {n m : Int} (h : gnmGuard n m = true) :
    0 < n ∧ 0 ≤ m ∧ 2 * m.toNat ≤ n.toNat * (n.toNat - 1) := by
  simp only [gnmGuard, Bool.and_eq_true, decide_eq_true_eq] at h
  obtain ⟨⟨h1, h2⟩, h3⟩ := h
  refine ⟨h1, h2, ?_⟩
  obtain ⟨N, rfl⟩ : ∃ N : Nat, n = (N : Int) := ⟨n.toNat, by omega⟩
  obtain ⟨M, rfl⟩ : ∃ M : Nat, m = (M : Int) := ⟨m.toNat, by omega⟩
  simp only [Int.toNat_natCast]
  have hN : 1 ≤ N := by omega
  have hcast : ((N : Int) * ((N : Int) - 1)) = ((N * (N - 1) : Nat) : Int) := by
    rw [Int.natCast_mul, Int.natCast_sub hN]; rfl
  rw [hcast] at h3
  omega

example : gnmGuard 5 10 = true := by decide +kernel

/-- `gnm N m` on the command line, for EVERY pair of tokens and EVERY draw list of networkx: a run that
returns has `N > 0`, `0 ≤ m ≤ N(N-1)/2`, consumed none of cnfgen's own draws, and returns a graph object
on `N` vertices with EXACTLY `m` edges satisfying the invariant of C16; an exception is `ValueError`; no
third-party exception escapes -/
theorem cli_gnm (a b : Arg) (nx : List NxDraw) (e : Option CG) (fuel : Nat) (ds : List Draw) :
    (∀ G rest, constructNx .gnm [a, b] nx e fuel ds = .ok G rest →
      ∃ n m S, a.int? = some n ∧ b.int? = some m ∧ gnmGuard n m = true ∧ rest = ds ∧ G = .simple S ∧
        S.n = n.toNat ∧ S.m = m.toNat ∧ S.edges.length = m.toNat ∧ SimpleG.Inv S) ∧
    (∀ x, constructNx .gnm [a, b] nx e fuel ds = .exc x → x = .valueError) ∧
    constructNx .gnm [a, b] nx e fuel ds ≠ .foreign := by
  have hc : constructNx .gnm [a, b] nx e fuel ds = _ :=
    twoInts_apply a b gnmGuard (fun _ _ => ext (nxExt .gnm [a, b] nx)) ds
  refine (Out.Sat.iff _).1 ?_
  rw [hc]
  cases ha : a.int? with
  | none => exact rfl
  | some n =>
    cases hb : b.int? with
    | none => exact rfl
    | some m =>
      dsimp only
      cases hg : gnmGuard n m with
      | false => exact rfl
      | true =>
        obtain ⟨g1, g2, g3⟩ := gnmGuard_nat hg
        have hx : nxExt .gnm [a, b] nx = outOf (gnmSimple n.toNat m.toNat nx) := by simp only [nxExt, ha, hb]
        simp only [↓reduceIte, ext_apply, hx]
        cases hs : gnmSimple n.toNat m.toNat nx with
        | stuck => exact trivial
        | ok r rest' =>
          obtain ⟨S, rfl, s2, s3, s4, s5, _⟩ := gnm_spec n.toNat m.toNat g3 nx r rest' hs
          exact ⟨n, m, S, rfl, rfl, hg, rfl, rfl, s2, s4, s5, s3⟩

example : ∃ S, constructNx .gnm [⟨some 4, some (4, 1)⟩, ⟨some 2, some (2, 1)⟩]
    [.choice 0, .choice 0, .choice 1, .choice 2, .choice 2, .choice 1, .choice 3, .choice 0] none 0 [] = .ok (.simple S) [] :=
  ⟨_, rfl⟩

/-- `gnp N p` on the command line (two tokens: `t = 1`), for EVERY pair of tokens and EVERY draw list of
networkx: a run that returns has `N > 0`, `0 ≤ p ≤ 1`, and returns the value of
`Graph.normalize(networkx.gnp_random_graph(N, p))` as modelled — the object of `gnp_spec` (`0 < p < 1`),
`gnp_one` (`p = 1`) or `gnp_zero` (`p = 0`); an exception is `ValueError`; no third-party exception escapes -/
theorem cli_gnp (a p : Arg) (nx : List NxDraw) (e : Option CG) (fuel : Nat) (ds : List Draw) :
    (∀ G rest, constructNx .gnp [a, p] nx e fuel ds = .ok G rest →
      ∃ n pn pd S nxrest, a.int? = some n ∧ p.flt? = some (pn, pd) ∧ gnpGuard n pn pd 1 = true ∧ rest = ds ∧
        G = .simple S ∧ gnpSimple n.toNat pn pd nx = .ok (.ok S) nxrest) ∧
    (∀ x, constructNx .gnp [a, p] nx e fuel ds = .exc x → x = .valueError) ∧
    constructNx .gnp [a, p] nx e fuel ds ≠ .foreign := by
  have hc : constructNx .gnp [a, p] nx e fuel ds = obtainGnp [a, p] (nxExt .gnp [a, p] nx) ds := rfl
  refine (Out.Sat.iff _).1 ?_
  rw [hc]
  simp only [obtainGnp, obtainGnpGo, bind_apply, argInt_apply]
  cases ha : a.int? with
  | none => exact rfl
  | some n =>
    cases hp : p.flt? with
    | none => exact rfl
    | some q =>
      obtain ⟨pn, pd⟩ := q
      simp only [bind_apply, pure_apply, guard_apply]
      cases hg : gnpGuard n pn pd 1 with
      | false => exact rfl
      | true =>
        have hx : nxExt .gnp [a, p] nx = outOf (gnpSimple n.toNat pn pd nx) := by simp only [nxExt, ha, hp]
        simp only [↓reduceIte, ext_apply, hx]
        cases hs : gnpSimple n.toNat pn pd nx with
        | stuck => exact trivial
        | ok r rest' =>
          cases r with
          | error x => exact trivial
          | ok S => exact ⟨n, pn, pd, S, rest', rfl, rfl, hg, rfl, rfl, hs⟩

example : ∃ S, constructNx .gnp [⟨some 3, some (3, 1)⟩, ⟨none, some (1, 2)⟩]
    [.unit 0, .unit (Nx.unitDen - 1), .unit 5] none 0 [] = .ok (.simple S) [] :=
  ⟨_, rfl⟩

theorem gndGuard_nat {n d : Int} (h : gndGuard n d = true) (ho : gndOdd n d = false) :
    0 < d ∧ d < n ∧ (n.toNat * d.toNat) % 2 = 0 ∧ nxRegularPre d n = true := by
  simp only [gndGuard, Bool.and_eq_true, decide_eq_true_eq] at h
  simp only [gndOdd, beq_eq_false_iff_ne, ne_eq] at ho
  obtain ⟨⟨h1, h2⟩, h3⟩ := h
  obtain ⟨N, rfl⟩ : ∃ N : Nat, n = (N : Int) := ⟨n.toNat, by omega⟩
  obtain ⟨D, rfl⟩ : ∃ D : Nat, d = (D : Int) := ⟨d.toNat, by omega⟩
  have hcast : ((N : Int) * (D : Int)) = ((N * D : Nat) : Int) := by rw [Int.natCast_mul]
  rw [hcast] at ho
  refine ⟨h2, h3, ?_, ?_⟩
  · simp only [Int.toNat_natCast]; omega
  · simp only [nxRegularPre, Bool.and_eq_true, beq_iff_eq, decide_eq_true_eq]
    rw [hcast]; omega

example : gndGuard 6 3 = true ∧ gndOdd 6 3 = false := by decide +kernel

/-- `gnd N d` on the command line, for EVERY pair of tokens and EVERY list of shuffles networkx asks
for: a run that returns has `N > d > 0`, `N·d` even, consumed none of cnfgen's own draws, and returns a
`d`-REGULAR graph object on `N` vertices (every neighbour row has `d` entries) with `N·d/2` edges
satisfying the invariant of C16; an exception is `ValueError`; no `NetworkXError` escapes -/
theorem cli_gnd (a b : Arg) (nx : List NxDraw) (e : Option CG) (fuel : Nat) (ds : List Draw) :
    (∀ G rest, constructNx .gnd [a, b] nx e fuel ds = .ok G rest →
      ∃ n d S, a.int? = some n ∧ b.int? = some d ∧ 0 < d ∧ d < n ∧ rest = ds ∧ G = .simple S ∧
        S.n = n.toNat ∧ SimpleG.Inv S ∧ (∀ v : Nat, 1 ≤ v → v ≤ n.toNat → (S.nbrs v).length = d.toNat) ∧
        2 * S.m = n.toNat * d.toNat) ∧
    (∀ x, constructNx .gnd [a, b] nx e fuel ds = .exc x → x = .valueError) ∧
    constructNx .gnd [a, b] nx e fuel ds ≠ .foreign := by
  have hc : constructNx .gnd [a, b] nx e fuel ds = _ :=
    twoInts_apply a b gndGuard (fun n d => (if gndOdd n d then valueError
      else if !nxRegularPre d n then (fun _ => .foreign) else ext (nxExt .gnd [a, b] nx) : RM CG)) ds
  refine (Out.Sat.iff _).1 ?_
  rw [hc]
  cases ha : a.int? with
  | none => exact rfl
  | some n =>
    cases hb : b.int? with
    | none => exact rfl
    | some d =>
      dsimp only
      cases hg : gndGuard n d with
      | false => exact rfl
      | true =>
        cases ho : gndOdd n d with
        | true => exact rfl
        | false =>
          obtain ⟨g1, g2, g3, g4⟩ := gndGuard_nat hg ho
          simp only [↓reduceIte, Bool.false_eq_true, g4, Bool.not_true, ext_apply, nxExt, ha, hb]
          cases hs : gndSimple n.toNat d.toNat nx with
          | stuck => exact trivial
          | ok r rest' =>
            obtain ⟨S, rfl, s2, s3, s4, s5, _⟩ := gnd_spec n.toNat d.toNat g3 (by omega) nx r rest' hs
            exact ⟨n, d, S, rfl, rfl, g1, g2, rfl, rfl, s2, s3, fun v h1 h2 => (s4 v h1 h2).1, s5⟩

example : ∃ S, constructNx .gnd [⟨some 4, some (4, 1)⟩, ⟨some 2, some (2, 1)⟩]
    [.shuffle [0, 1, 2, 3, 0, 1, 2, 3] [0, 1, 1, 2, 2, 3, 3, 0]] none 0 [] = .ok (.simple S) [] :=
  ⟨_, rfl⟩

end Cnfgen.C15
