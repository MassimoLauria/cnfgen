/-
C10 — the constraint builders only mention the variables of the literals they are given, so the single
`_check_and_update(lits)` they perform (with `check=True`) is enough to keep "every literal within the declared
number of variables", although the clauses themselves are appended unchecked.
-/
import Lemmas.Linear
import Lemmas.Subst
import CnfgenModel.Build.Constr
namespace Cnfgen.C10
open Cnfgen Linear

def varsOf (ls : List Int) : List Nat := ls.map Int.natAbs

/-- "mentions only variables of `ls`" is `Subst.Uses`: a literal or its negation is among `ls` -/
theorem vars_of_uses {ls : List Int} {cs : List Clause} (h : Subst.Uses ls cs) :
    ∀ c ∈ cs, ∀ l ∈ c, l.natAbs ∈ varsOf ls := fun c hc l hl =>
  (h c hc l hl).elim List.mem_map_of_mem fun h' => Int.natAbs_neg l ▸ List.mem_map_of_mem h'

/-- T-C10.3 every clause `add_linear(lits, op, k)` appends mentions only variables of `lits`,
for all six operators and every integer `k` -/
theorem linear_mentions_only_given (ls : List Int) (o : Op) (k : Int) :
    ∀ c ∈ Linear.add ls o k, ∀ l ∈ c, l.natAbs ∈ varsOf ls :=
  vars_of_uses (Subst.add_uses ls o k)

/-- the same for every abstract constraint rendered as clauses (clause, linear, parity, majorities) -/
theorem constraint_mentions_only_given (c : Con) : ∀ cl ∈ c.toCNF, ∀ l ∈ cl, l.natAbs ∈ varsOf c.lits := by
  cases c with
  | clause cl => exact vars_of_uses .self
  | lin ls o k => exact linear_mentions_only_given ls o k
  | parity ls b => exact vars_of_uses (Subst.parity_uses ls b)
  | maj kind ls =>
    cases kind <;> simp only [Con.toCNF, Con.lits, looseMajority, looseMinority, strictMajority, strictMinority] <;>
      exact linear_mentions_only_given ls _ _

/-- hence: once the variable count covers the given literals (what the single `_check_and_update(lits)` of a
checked builder call establishes), every clause the builder appends is within the declared variables -/
theorem checked_builder_keeps_invariant (c : Con) (numvar : Nat) (h : ∀ l ∈ c.lits, l.natAbs ≤ numvar) :
    ∀ cl ∈ c.toCNF, ∀ l ∈ cl, l.natAbs ≤ numvar := by
  intro cl hcl l hl
  obtain ⟨l', hl', he⟩ := List.mem_map.1 (constraint_mentions_only_given c cl hcl l hl)
  rw [← he]; exact h l' hl'

example : ∀ cl ∈ (Con.lin [3, -1, 2] .ne 2).toCNF, ∀ l ∈ cl, l.natAbs ≤ 3 :=
  checked_builder_keeps_invariant _ 3 (by decide)

end Cnfgen.C10
