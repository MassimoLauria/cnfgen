/-
C11 — Variable groups map indices to identifiers bijectively, with names aligned.
Property theorems only; helper lemmas are in `Lemmas/Vars*.lean`.

Model: `CnfgenModel/Vars/{Groups,Patterns,Labels,Manager}.lean` (every group class of
cnfgen/formula/variables.py, `VariablesManager`, `all_variable_labels`).
`Group.WF` is what every group handed out by the manager satisfies (`reachable_groups_wf`).
-/
import Lemmas.VarsCall
import Lemmas.VarsLabels
namespace Cnfgen.C11
open Cnfgen Cnfgen.Vars

/-! ## All group classes at once (single variable, block, words, edges, mappings) -/

/-- Every group occupies a contiguous range of identifiers and `indices()` enumerates its legal
indices in identifier order: the k-th index has identifier `start + k`. -/
theorem ids_contiguous {g : Group} (h : g.WF) :
    ∃ idxs, g.indices [] = .ok idxs ∧ idxs.length = g.len ∧
      idxs.map g.unsafeId = List.range' g.start g.len := by
  obtain ⟨idxs, h1, h2⟩ := Group.indices_nil h
  exact ⟨idxs, h1, Group.length_indices h h1, h2⟩

/-- index → identifier → index without loss, for the positive and the negative literal -/
theorem index_id_index {g : Group} (h : g.WF) {idxs : List (List Nat)} (hi : g.indices [] = .ok idxs)
    {idx : List Nat} (hm : idx ∈ idxs) :
    g.toIndex (g.unsafeId idx : Int) = .ok idx ∧ g.toIndex (-(g.unsafeId idx : Int)) = .ok idx :=
  Group.toIndex_unsafeId h hi hm

/-- identifier → index → identifier: every literal of the group converts to a legal index whose
identifier is the variable of the literal -/
theorem id_index_id {g : Group} (h : g.WF) {lit : Int}
    (hr : g.start ≤ lit.natAbs ∧ lit.natAbs < g.start + g.len) :
    ∃ idxs idx, g.indices [] = .ok idxs ∧ idx ∈ idxs ∧ g.toIndex lit = .ok idx ∧ g.unsafeId idx = lit.natAbs :=
  Group.toIndex_ok h hr

/-- literals outside the group's range are rejected with ValueError (also `0`) -/
theorem foreign_literal_rejected {g : Group} (h : g.WF) {lit : Int}
    (hr : ¬ (g.start ≤ lit.natAbs ∧ lit.natAbs < g.start + g.len)) :
    g.toIndex lit = .error .valueError :=
  Group.toIndex_reject h hr

/-- a projection pattern (no argument, or some `None`) yields the identifiers of the indices it
selects, in the order of `indices(*pattern)` — for every class using `BaseVariableGroup.__call__` -/
theorem call_projection {g : Group} {pat : Pattern} (hp : isProjection pat = true) :
    g.baseCall pat = (g.indices pat).map (fun L => Res.many (L.map g.unsafeId)) :=
  baseCall_of_projection hp

/-- non-vacuity: a 2×0×3 block (empty), a single variable -/
example : (Group.block 4 [2, 0, 3] "X({},{},{})").WF := by simp [Group.WF]
example : (Group.single 1 none).WF := by simp [Group.WF]

/-! ## T-C11.1 blocks: mixed-radix indices, any arity, any ranges (0 included) -/

/-- the legal indices of a block are the tuples `1 ≤ iⱼ ≤ rangesⱼ`, enumerated by `indices()` in
lexicographic order, with consecutive identifiers from `start` -/
theorem block_contiguous (s : Nat) (ranges : List Nat) (f : String) :
    (Group.block s ranges f).indices [] = .ok (blockAll ranges) ∧
    (∀ idx, idx ∈ blockAll ranges ↔ LegalIdx ranges idx) ∧
    (blockAll ranges).map (blockId s ranges) = List.range' s (blockSize ranges) :=
  ⟨by simp [Group.indices, blockIndices_nil], fun _ => mem_blockAll, blockAll_ids s ranges⟩

/-- `to_index(±p(idx)) = idx` for every legal index -/
theorem block_index_id_index (s : Nat) {ranges idx : List Nat} (h : LegalIdx ranges idx) :
    blockIndex s ranges (blockId s ranges idx : Int) = .ok idx ∧
    blockIndex s ranges (-(blockId s ranges idx : Int)) = .ok idx :=
  blockIndex_blockId s h

/-- `p(to_index(±v)) = v` for every variable of the block, and the index is legal -/
theorem block_id_index_id {s : Nat} {ranges idx : List Nat} {lit : Int}
    (h : blockIndex s ranges lit = .ok idx) : LegalIdx ranges idx ∧ blockId s ranges idx = lit.natAbs :=
  blockId_blockIndex h

/-- a full index: its identifier if it is legal, ValueError if not (wrong arity, 0, above the range) -/
theorem block_call (s : Nat) (ranges : List Nat) (f : String) {idx : List Nat} (hne : idx ≠ []) :
    (LegalIdx ranges idx → (Group.block s ranges f).call (natPat idx) = .ok (.one (blockId s ranges idx))) ∧
    (¬ LegalIdx ranges idx → (Group.block s ranges f).call (natPat idx) = .error .valueError) :=
  block_call_full s ranges f hne

/-- wildcard patterns: a pattern of the right arity whose fixed entries are within their ranges
enumerates exactly the matching indices, in identifier order; every other pattern is a ValueError -/
theorem block_pattern (s : Nat) {ranges : List Nat} (f : String) {pat : Pattern} (hp : pat ≠ []) :
    (LegalPat ranges pat →
      (Group.block s ranges f).indices pat = .ok ((blockAll ranges).filter (patMatches pat)) ∧
      (((blockAll ranges).filter (patMatches pat)).map (blockId s ranges)).Pairwise (· < ·)) ∧
    (¬ LegalPat ranges pat → (Group.block s ranges f).indices pat = .error .valueError) :=
  ⟨fun hl => ⟨(blockIndices_pattern hp).1 hl, (block_enumerates s ranges).filter_sorted _⟩,
   fun hl => (blockIndices_pattern hp).2 hl⟩

example : LegalIdx [3, 5, 4, 3] [3, 5, 4, 2] := by simp [LegalIdx]
example : LegalPat [3, 5] [none, some 5] := by simp [LegalPat]

/-! ## T-C11.2 words: combinations, combinations with replacement, permutations, words -/

/-- the four enumerations are duplicate-free … -/
theorem words_nodup (n k : Nat) :
    (combosSeqs n k).Nodup ∧ (combosReplSeqs n k).Nodup ∧ (permsSeqs n k).Nodup ∧ (wordsSeqs n k).Nodup :=
  ⟨combosSeqs_nodup n k, combosReplSeqs_nodup n k, permsSeqs_nodup n k, wordsSeqs_nodup n k⟩

/-- … and their members are the documented index sets (strictly increasing / non-decreasing /
injective / arbitrary `k`-tuples over `1..n`) -/
theorem words_indices {n k : Nat} {w : List Nat} :
    (w ∈ combosSeqs n k ↔ w.length = k ∧ w.Pairwise (· < ·) ∧ ∀ x ∈ w, 1 ≤ x ∧ x ≤ n) ∧
    (w ∈ combosReplSeqs n k ↔ w.length = k ∧ w.Pairwise (· ≤ ·) ∧ ∀ x ∈ w, 1 ≤ x ∧ x ≤ n) ∧
    (w ∈ permsSeqs n k ↔ w.length = k ∧ w.Nodup ∧ ∀ x ∈ w, 1 ≤ x ∧ x ≤ n) ∧
    (w ∈ wordsSeqs n k ↔ w.length = k ∧ ∀ x ∈ w, 1 ≤ x ∧ x ≤ n) :=
  ⟨mem_combosSeqs, mem_combosReplSeqs, mem_permsSeqs, mem_wordsSeqs⟩

/-- hence `seq2vid` (a dictionary filled in enumeration order) and `vid2seq` are inverse, and the
identifiers are contiguous in enumeration order -/
theorem word_bijection {seqs : List (List Nat)} (h : seqs.Nodup) (s : Nat) :
    seqs.map (fun w => (seq2vid s seqs w).getD 0) = List.range' s seqs.length ∧
    (∀ w v, seq2vid s seqs w = some v →
      wordIndex s seqs (v : Int) = .ok w ∧ wordIndex s seqs (-(v : Int)) = .ok w) ∧
    (∀ lit w, wordIndex s seqs lit = .ok w → w ∈ seqs ∧ seq2vid s seqs w = some lit.natAbs) :=
  ⟨word_ids h s, fun _ _ hv => (wordIndex_seq2vid h s hv).2.2, fun _ _ hw => seq2vid_wordIndex h hw⟩

/-- a full index: its identifier if it is one of the enumerated words, ValueError if not; a
pattern with `None` is never accepted (word groups only support "all") -/
theorem word_call {s : Nat} {seqs : List (List Nat)} (f : String) (hnd : seqs.Nodup) (w : List Nat) (hne : w ≠ []) :
    (w ∈ seqs → (Group.word s seqs f).call (natPat w) = .ok (.one (s + seqs.idxOf w))) ∧
    (w ∉ seqs → (Group.word s seqs f).call (natPat w) = .error .valueError) :=
  word_call_full f hnd w hne

example : [1, 3, 4] ∈ combosSeqs 5 3 := by decide +kernel
example : (Group.word 1 (combosReplSeqs 3 2) "p_{{{}}}").WF := ⟨by omega, combosReplSeqs_nodup 3 2⟩

/-! ## T-C11.3 edges of bipartite, simple and directed graphs -/

/-- offsets are prefix sums of the right degrees -/
theorem bip_offsets_prefix_sums (G : BipG) (s : Nat) :
    bipOffsets G s = 0 :: (List.range G.l).map (fun i => s + degSum G i) :=
  bipOffsets_eq G s

/-- bipartite edges (also unary and sparse mappings): the edges in the order of `indices()` get
consecutive identifiers; `to_index` (through `bisect_right`) inverts `__call__` on both
polarities and never raises IndexError / AssertionError; and conversely -/
theorem bip_bijection {G : BipG} (h : G.WF) (s : Nat) :
    G.edges.map (fun e => bipId G s e.1 e.2) = List.range' s G.numberOfEdges ∧
    (∀ u v, (u, v) ∈ G.edgeset →
      bipIndex G s (bipId G s u v : Int) = .ok (u, v) ∧ bipIndex G s (-(bipId G s u v : Int)) = .ok (u, v)) ∧
    (∀ lit u v, bipIndex G s lit = .ok (u, v) → (u, v) ∈ G.edgeset ∧ bipId G s u v = lit.natAbs) ∧
    (∀ lit e, bipIndex G s lit = .error e → e = .valueError) :=
  ⟨bip_ids h s, fun _ _ he => bipIndex_bipId h s he, fun _ _ _ hi => bipId_bipIndex h hi,
   fun _ _ he => bipIndex_error h he⟩

/-- patterns `(u, None)`, `(None, v)`, `(u, v)`: the matching edges in identifier order, ValueError
for a vertex outside the graph, a non-edge, or a wrong number of arguments -/
theorem bip_patterns {G : BipG} (h : G.WF) (s : Nat) (u v : Int) :
    bipIndices G [some u, none] =
      (if 1 ≤ u ∧ u ≤ G.l then .ok (G.edges.filter (edgeMatches [some u, none])) else .error .valueError) ∧
    bipIndices G [none, some v] =
      (if 1 ≤ v ∧ v ≤ G.r then .ok (G.edges.filter (edgeMatches [none, some v])) else .error .valueError) ∧
    bipIndices G [some u, some v] =
      (if 0 ≤ u ∧ 0 ≤ v ∧ (u.toNat, v.toNat) ∈ G.edgeset then .ok [(u.toNat, v.toNat)] else .error .valueError) ∧
    (∀ pat : Pattern, pat.length ≠ 0 ∧ pat.length ≠ 2 → bipIndices G pat = .error .valueError) ∧
    (∀ p, ((G.edges.filter p).map (fun e => bipId G s e.1 e.2)).Pairwise (· < ·)) :=
  ⟨bipIndices_row h u, bipIndices_col h v, bipIndices_edge G u v, fun _ hp => bipIndices_arity G hp,
   (bip_enumerates h s).filter_sorted⟩

/-- simple graphs: whatever the representation of `G`, the auxiliary graph is a well-formed
bipartite graph on `V × V` holding each edge once as `(min, max)`, so the group over it is well formed from any
`s ≥ 1`; it is then a bipartite edge group (all of the above applies), and `graph_patterns` says how pairs and
single vertices are read -/
theorem graph_wf_iff {G : SimpleG} {B : BipG} (h : graphAux G = .ok B) (s : Nat) (f : String) :
    (Group.graph s B f).WF ↔ 1 ≤ s := by
  have hs := graphAux_spec h
  simp only [Group.WF]
  constructor
  · exact fun hh => hh.1
  · exact fun h1 => ⟨h1, hs.1, by rw [hs.2.1, hs.2.2.1], graphAux_le h⟩

theorem graph_patterns {G : SimpleG} {B : BipG} (h : graphAux G = .ok B) (s : Nat) (f : String) (u v w : Int) :
    (Group.graph s B f).call [some u, some v] = (Group.graph s B f).call [some v, some u] ∧
    graphIndices B [some w, none] =
      (if 1 ≤ w ∧ w ≤ B.l then .ok (B.edges.filter (graphMatches [some w, none])) else .error .valueError) ∧
    graphIndices B [none, some w] = graphIndices B [some w, none] := by
  have hs := graphAux_spec h
  have := graphIndices_one hs.1 (by rw [hs.2.1, hs.2.2.1]) (graphAux_le h) w
  exact ⟨(graph_call_sym s B f u v).1, this.1, this.2⟩

/-- directed graphs, both `sortby`: the auxiliary graph holds `(u,v)` (pred) resp. `(v,u)` (succ)
for every edge `(u,v)`; the group is well formed, so contiguity and both round trips hold -/
theorem digraph_edges {D : DiG} {succ : Bool} {B : BipG} (h : digraphAux D succ = .ok B) (s : Nat) (f : String)
    (hs : 1 ≤ s) :
    (Group.digraph s B succ f).WF ∧
    (∀ a b, (a, b) ∈ B.edgeset ↔ (if succ then (b, a) else (a, b)) ∈ D.edges) :=
  ⟨⟨hs, (digraphAux_spec h).1⟩, (digraphAux_spec h).2.2.2⟩

/-- patterns of a directed-edge group: as for the auxiliary bipartite graph with `sortby='pred'`;
with `sortby='succ'` the pattern is read in reverse and the resulting pairs are swapped back -/
theorem digraph_patterns (B : BipG) (pat : Pattern) :
    digraphIndices B false pat = bipIndices B pat ∧
    digraphIndices B true pat = (bipIndices B pat.reverse).map (fun l => l.map (fun e => (e.2, e.1))) :=
  ⟨digraphIndices_pred B pat, digraphIndices_succ B pat⟩

example : (BipG.ofEdges 2 3 [(2, 1), (1, 3), (2, 2)]).isOk = true := by decide +kernel

/-! ## T-C11.4 binary mappings: `(i, b) ↔ start - 1 + i·bits − b` -/

theorem binary_bijection {s : Nat} (hs : 1 ≤ s) (n bits : Nat) :
    (binAll n bits).map (fun p => binId s bits p.1 p.2) = List.range' s (n * bits) ∧
    (∀ i b, 1 ≤ i ∧ i ≤ n → b < bits →
      binIndex s n bits (binId s bits i b : Int) = .ok (i, b) ∧
      binIndex s n bits (-(binId s bits i b : Int)) = .ok (i, b)) ∧
    (∀ lit i b, binIndex s n bits lit = .ok (i, b) →
      (1 ≤ i ∧ i ≤ n) ∧ b < bits ∧ binId s bits i b = lit.natAbs) :=
  ⟨binAll_ids hs n bits, fun _ _ hi hb => binIndex_binId hs hi hb, fun _ _ _ h => binId_binIndex hs h⟩

/-- the number of bits is the least `b` with `m ≤ 2^b` -/
theorem binary_bits (m : Nat) : m ≤ 2 ^ clog2 m ∧ ∀ b, m ≤ 2 ^ b → clog2 m ≤ b := clog2_spec m

/-- patterns `(i, None)`, `(None, b)`, `(i, b)`, `()`: the matching pairs in identifier order
(`i` ascending, bits from the most significant); ValueError outside `1..n × 0..bits-1` -/
theorem binary_pattern (n bits : Nat) (pat : Pattern) :
    (BinLegalPat n bits pat → binIndices n bits pat = .ok ((binAll n bits).filter (pairMatches pat))) ∧
    (¬ BinLegalPat n bits pat → binIndices n bits pat = .error .valueError) :=
  binIndices_pattern n bits pat

example : binId 1 3 2 0 = 6 := by decide

/-! ## T-C11.5 names aligned, for every manager history -/

/-- every group of a state reached by any history (from the empty formula) is well formed, and the
groups are disjoint, increasing and inside `1 … numvar` -/
theorem reachable_groups_wf (ops : List MOp) (hw : ∀ op ∈ ops, OpWF op) :
    SInv (run MState.init ops) :=
  run_sinv sinv_init hw

/-- **names aligned**: for every history interleaving group creation (every kind, also failing
ones), clause insertion and raises of the variable count, `all_variable_labels` reports exactly
`numvar` names and the i-th is the name of variable i: the label of its index in the group that
owns it (the default name for a single variable created without a name), the default name if no
group owns it. -/
theorem labels_aligned (ops : List MOp) (hw : ∀ op ∈ ops, OpWF op) (dfmt : String)
    {names : List (Option String)} (h : allLabels (run MState.init ops) dfmt = .ok names) :
    names.length = (run MState.init ops).numvar ∧
    ∀ i (hi : i < names.length), varName (run MState.init ops).groups dfmt (i + 1) = .ok names[i] :=
  allLabels_aligned (run_sinv sinv_init hw) h

/-- … and it does report them: on every reachable state, `all_variable_labels` succeeds as soon as
every variable has a name (its label / the default name can be formatted); in particular the
`assert varid == end+1` at its end never fires -/
theorem labels_defined (ops : List MOp) (hw : ∀ op ∈ ops, OpWF op) (dfmt : String)
    (hn : ∀ v, 1 ≤ v → v ≤ (run MState.init ops).numvar →
      ∃ n, varName (run MState.init ops).groups dfmt v = .ok n) :
    ∃ names, allLabels (run MState.init ops) dfmt = .ok names :=
  allLabels_defined (run_sinv sinv_init hw) hn

/-- non-vacuity, and the two histories on which the code used to be wrong (D23, fixed): a single
variable after anonymous variables, an unnamed variable -/
example : allLabels (run MState.init [.updateVarNum 3, .newGroup (.variable (some "X"))]) =
    .ok [some "x1", some "x2", some "x3", some "X"] := by decide +kernel
example : allLabels (run MState.init [.newGroup (.variable none),
    .newGroup (.block [2, 2] none), .addClause [9] true]) =
    .ok [some "x1", some "X(1,1)", some "X(1,2)", some "X(2,1)", some "X(2,2)",
         some "x6", some "x7", some "x8", some "x9"] := by decide +kernel

end Cnfgen.C11
