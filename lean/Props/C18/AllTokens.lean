/-
C18 (end to end, EVERY list of tokens) — `op`, `tseitin`, `php`, `subsetcard`: whatever is typed after the sub-command —
abbreviations, `--opt=v`, clusters, `--`, unknown options, `-h`, any number of tokens — and whatever the graph arguments
and the random choices of the helper turn out to be, the run ends in a formula, in a command-line error, or in the help
exit.  Then `cli_never_escapes_all`: 30 of the 33 formula sub-commands, those with standard options on the token lists
of the argparse fragment.

`cliOutcomeX` (CnfgenModel/Cli/OutcomeX.lean) = CPython's argparse on every token list (`parseX`, C17) ▸ the helper's
method over the regenerated call templates ▸ graphs (`GraphEnv`) and the helper's own random choices (`RandEnv`) ▸
family model ▸ `shield`.  Proofs: Lemmas/ArgparseWorlds.lean (every namespace of the parser belongs to a world),
Lemmas/OutcomeX.lean (abstract interpretation of the helper's method over the worlds, a kind invariant of the parsing
engine), C17's `parser_total_all_tokens`.
-/
import Lemmas.OutcomeX
import Props.C18.Graphs
import Props.C17.Argparse
import Props.C18.EndToEnd
namespace Cnfgen.C18
open Cnfgen Cnfgen.Cli Cnfgen.Gen Cnfgen.GCli Cnfgen.GRand Cnfgen.Cli.AP

/-- the run ends in the help exit, a formula, or a command-line error -/
def EndsWell (r : Option EndX) : Prop :=
  r = some .help ∨ r = some (.done .ok) ∨ r = some (.done .cliError)

/-- T-C18.X1 every build step `evalCallX` maps — the random paths included — ends in a formula or a command-line error:
a refused graph argument and the ValueError of `bipartite_random_left_regular` are CLIErrors, the generators raise
nothing but ValueError -/
theorem mapped_x_steps_clean (re : RandEnv) (env : GraphEnv) (g : SimpleG) (ns : Ns) (c : Call) (bt : Cli.Built)
    (h : evalCallX re env g ns c = some bt) : bt.outcome = .ok ∨ bt.outcome = .cliError := by
  unfold evalCallX at h
  cases ha : evalCallAny env g ns c with
  | some b => rw [ha] at h; cases h; exact mapped_any_steps_clean env g ns c _ ha
  | none =>
    rw [ha] at h
    dsimp only at h
    -- the four `if`s of `evalCallR` in order: tseitin, `php M N D`, subsetcard, `stone --sparse`
    unfold evalCallR at h
    split at h
    · split at h
      · cases h
        split
        · exact Or.inr rfl
        · exact Or.inl rfl
      · cases h
    · split at h
      · split at h
        · cases h
          split
          · exact Or.inr rfl
          · exact Or.inl rfl
        · cases h
      · split at h
        · split at h
          · cases h; exact withB_clean _ _ (fun B => ok_clean _)
          · cases h
        · split at h
          · split at h
            · cases h
              refine withD_clean _ _ (fun D => ?_)
              split
              · intro e he; cases he; rfl
              · exact clean_of_dich (sparseStone_dich D _)
            · cases h
          · cases h

/-- the inline helpers with a hand-written model of the formula they build -/
def inlineCovered (s : CliSpec) : Bool :=
  s.inline && (s.cls == "AND" || s.cls == "OR" || s.cls == "TRUE" || s.cls == "FALSE")

/-- the formula sub-commands of `cli_never_escapes_all` -/
def coveredAll (s : CliSpec) : Bool :=
  s.kind == "formula" && s.supportedX &&
  (inlineCovered s || outcomeCovered s || graphCovered s || !(s.standard || s.inline) || s.name == "stone" ||
   s.name == "vdw")

/-- Three facts about the formula sub-commands, from ONE evaluation of the table (evaluated together the kernel computes
`standard`, `inline`, `supportedX` of each sub-command once; they are the dear part of every one of these predicates).

* the sub-commands whose parser is not made of standard options only: `php` (custom action) and the ones that go through
  `compose_two_parsers`.  For all four: the option tables have the shape the derivation of the worlds assumes, and in every
  world the helper takes a path that raises a shielded exception or makes a call `evalCallX` maps, with arguments of the
  right sort at every position (checked over the regenerated tables);
* the formula sub-commands, split by `coveredAll`;
* `op` and `tseitin` are among the first. -/
theorem formula_tables :
    (cliSpecs.filter (fun s => s.kind == "formula" && s.supportedX && !(s.standard || s.inline))).map
        (fun s => (s.name, worldTablesOK s && mappedWorldsOK s)) =
      [("op", true), ("php", true), ("subsetcard", true), ("tseitin", true)] ∧
    ((cliSpecs.filter (·.kind == "formula")).partition coveredAll).map (·.map (·.name)) (·.map (·.name)) =
      (["and", "bphp", "cliquecoloring", "count", "cpls", "domset", "ec", "false", "iso", "kclique", "kcliquebin",
        "kcolor", "matching", "op", "or", "parity", "peb", "php", "pitfall", "ptn", "ram", "ramlb", "rphp", "stone",
        "subgraph", "subsetcard", "tiling", "true", "tseitin", "vdw"],
       ["dimacs", "randkcnf", "randkxor"]) ∧
    ∀ s ∈ cliSpecs, s.kind = "formula" → (s.name = "op" ∨ s.name = "tseitin") →
      s.supportedX = true ∧ s.standard = false ∧ s.inline = false := by decide +kernel

theorem special_formula_commands :
    (cliSpecs.filter (fun s => s.kind == "formula" && s.supportedX && !(s.standard || s.inline))).map (·.name) =
      ["op", "php", "subsetcard", "tseitin"] := by
  have h := congrArg (List.map Prod.fst) formula_tables.1
  rw [List.map_map] at h
  exact h

theorem special_worlds_mapped :
    (cliSpecs.filter (fun s => s.kind == "formula" && s.supportedX && !(s.standard || s.inline))).all
      (fun s => worldTablesOK s && mappedWorldsOK s) = true := by
  have h := congrArg (List.all · Prod.snd) formula_tables.1
  rw [List.all_map] at h
  exact h

theorem runCallX_world (re : RandEnv) (env : GraphEnv) (g : SimpleG) (ord : List String → Nat) (s : CliSpec)
    (b : Ns) (w : World) (hw : w ∈ worlds s) (hg : gamW w (namespaceOf s b)) (hk : GKns s (namespaceOf s b))
    (hmw : mappedWorldsOK s = true) :
    (runCallX re env g ord s b = some (.done .ok) ∨ runCallX re env g ord s b = some (.done .cliError)) ∧
    (runCallX re env g ord s b = some (.done .ok) ↔
      ∃ t c bt, selectTemplate (namespaceOf s b) (s.templates.map (fixTemplate ord (namespaceOf s b))) = .ok t ∧
        instantiate (namespaceOf s b) t = .ok c ∧ evalCallX re env g (namespaceOf s b) c = some bt ∧
        bt.outcome = .ok) := by
  have hrun : arunG (callOK s) w s.templates [] = true := by
    unfold mappedWorldsOK at hmw
    exact (List.all_eq_true.1 hmw) w hw
  obtain ⟨t0, _, hsel, hP⟩ := arunG_sound ord w (namespaceOf s b) hg (callOK s)
    (PathOK re env g ord (namespaceOf s b))
    (fun w' t hw' hok => callOK_sound re env g ord s (namespaceOf s b) hk w' t hw' hok)
    s.templates [] (by intro p hp; simp at hp) hrun
  unfold runCallX
  dsimp only
  rw [hsel]
  dsimp only
  rcases hP with hc | ⟨c, hc, hsome⟩
  · rw [hc]
    refine ⟨Or.inr rfl, ?_⟩
    constructor
    · intro hh; cases hh
    · rintro ⟨t, c, bt, h1, h2, _⟩
      cases h1
      rw [hc] at h2; cases h2
  · rw [hc]
    dsimp only
    obtain ⟨bt, hbt⟩ := Option.isSome_iff_exists.1 hsome
    rw [hbt]
    dsimp only
    constructor
    · rcases mapped_x_steps_clean re env g _ c bt hbt with h1 | h1 <;> rw [h1] <;> simp
    · constructor
      · intro hh
        simp only [Option.some.injEq, EndX.done.injEq] at hh
        exact ⟨_, c, bt, rfl, hc, hbt, hh⟩
      · rintro ⟨t, c', bt', h1, h2, h3, h4⟩
        cases h1
        rw [hc] at h2; cases h2
        rw [hbt] at h3; cases h3
        rw [h4]

/-- `hasQuirk`: a single-argument option holds the empty list (CPython's removal of a lone `--`) -/
theorem runCallX_quirk (re : RandEnv) (env : GraphEnv) (g : SimpleG) (ord : List String → Nat) (s : CliSpec)
    (b : Ns) (hq : hasQuirk s b = true)
    (hraise : ∀ t ∈ s.templates, (t.raises == "" || shielded t.raises) = true) :
    runCallX re env g ord s b = some (.done .ok) ∨ runCallX re env g ord s b = some (.done .cliError) := by
  unfold runCallX
  simp only [hq, if_true]
  cases hsel : selectTemplate (namespaceOf s b) (s.templates.map (fixTemplate ord (namespaceOf s b))) with
  | error e => exact Or.inr rfl
  | ok t =>
    dsimp only
    have htm := ((selectTemplate_ends _ _).ok hsel).1
    obtain ⟨t0, ht0, rfl⟩ := List.mem_map.1 htm
    have hr : ((fixTemplate ord (namespaceOf s b) t0).raises == "" ||
        shielded (fixTemplate ord (namespaceOf s b) t0).raises) = true := hraise t0 ht0
    rcases instantiate_class (namespaceOf s b) _ hr with ⟨c, hc⟩ | hc | ⟨w, hc⟩
    · rw [hc]
      dsimp only
      cases hx : evalCallX re env g (namespaceOf s b) c with
      | none => exact Or.inr rfl
      | some bt =>
        dsimp only
        rcases mapped_x_steps_clean re env g _ c bt hx with h1 | h1 <;> rw [h1] <;> simp
    · rw [hc]; exact Or.inr rfl
    · rw [hc]; exact Or.inr rfl

/-- T-C18.X2 end to end on every list of tokens — `op`, `php`, `subsetcard`, `tseitin`.  For either tool, EVERY list
of tokens after the sub-command (no fragment hypothesis), every graph environment, every outcome of the helper's random
choices (`RandEnv`: the bits of the random charges, the graph or ValueError of `bipartite_random_left_regular`), every
order of a graph file: the run ends in the help exit, in a formula, or in a command-line error. -/
theorem end_to_end_special_all_tokens (re : RandEnv) (env : GraphEnv) (g : SimpleG) (tool : String)
    (ord : List String → Nat) (s : CliSpec) (hs : s ∈ cliSpecs) (hkind : s.kind = "formula")
    (hsx : s.supportedX = true) (hns : s.standard = false) (hni : s.inline = false) (argv : List String) :
    EndsWell (cliOutcomeX re env g tool ord s argv) := by
  have hchk := (List.all_eq_true.1 special_worlds_mapped) s
    (List.mem_filter.2 ⟨hs, by simp [hkind, hsx, hns, hni]⟩)
  simp only [Bool.and_eq_true] at hchk
  obtain ⟨htab, hmw⟩ := hchk
  obtain ⟨sp, ht⟩ := worldTables_of s htab
  unfold cliOutcomeX
  simp only [hsx, hni, Bool.not_true, Bool.false_eq_true, if_false]
  split
  · exact Or.inr (Or.inr rfl)
  · rcases C17.parser_total_all_tokens s hs hsx argv with ⟨b, hb⟩ | hb | hb
    · rw [hb]
      dsimp only
      by_cases hq : hasQuirk s b = true
      · rcases runCallX_quirk re env g ord s b hq ht.hraise with h | h <;> rw [h]
        · exact Or.inr (Or.inl rfl)
        · exact Or.inr (Or.inr rfl)
      · have hq' : hasQuirk s b = false := by simpa using hq
        obtain ⟨w, hw, hg⟩ := parseX_in_world s sp ht argv b hb hq'
        have hk := parseX_kind s htab sp ht argv b hb
        rcases (runCallX_world re env g ord s b w hw hg hk hmw).1 with h | h <;> rw [h]
        · exact Or.inr (Or.inl rfl)
        · exact Or.inr (Or.inr rfl)
    · rw [hb]; exact Or.inr (Or.inr rfl)
    · rw [hb]; exact Or.inl rfl

/-- … in particular `op` and `tseitin` (the two sub-commands `never_escapes_any_partial` left open), by name -/
theorem never_escapes_op_tseitin (re : RandEnv) (env : GraphEnv) (g : SimpleG) (tool : String)
    (ord : List String → Nat) (s : CliSpec) (hs : s ∈ cliSpecs) (hkind : s.kind = "formula")
    (hname : s.name = "op" ∨ s.name = "tseitin") (argv : List String) :
    EndsWell (cliOutcomeX re env g tool ord s argv) ∧
    cliOutcomeX re env g tool ord s argv ≠ some (.done .internalBug) ∧
    ∀ e, cliOutcomeX re env g tool ord s argv ≠ some (.done (.escaped e)) := by
  obtain ⟨h1, h2, h3⟩ := formula_tables.2.2 s hs hkind hname
  have := end_to_end_special_all_tokens re env g tool ord s hs hkind h1 h2 h3 argv
  refine ⟨this, ?_, ?_⟩
  · rcases this with h | h | h <;> rw [h] <;> simp
  · intro e
    rcases this with h | h | h <;> rw [h] <;> simp

/-- `ok` exactly when the helper's path is a library call whose build step returns a formula (no quirk of `--`) -/
theorem special_ok_iff (re : RandEnv) (env : GraphEnv) (g : SimpleG) (tool : String)
    (ord : List String → Nat) (s : CliSpec) (hs : s ∈ cliSpecs) (hkind : s.kind = "formula")
    (hsx : s.supportedX = true) (hns : s.standard = false) (hni : s.inline = false) (argv : List String) (b : Ns)
    (htop : topAmbiguous tool s.kind argv = false) (hb : parseX s argv = .ok b) (hq : hasQuirk s b = false) :
    cliOutcomeX re env g tool ord s argv = some (.done .ok) ↔
      ∃ t c bt, selectTemplate (namespaceOf s b) (s.templates.map (fixTemplate ord (namespaceOf s b))) = .ok t ∧
        instantiate (namespaceOf s b) t = .ok c ∧ evalCallX re env g (namespaceOf s b) c = some bt ∧
        bt.outcome = .ok := by
  have hchk := (List.all_eq_true.1 special_worlds_mapped) s
    (List.mem_filter.2 ⟨hs, by simp [hkind, hsx, hns, hni]⟩)
  simp only [Bool.and_eq_true] at hchk
  obtain ⟨htab, hmw⟩ := hchk
  obtain ⟨sp, ht⟩ := worldTables_of s htab
  obtain ⟨w, hw, hg⟩ := parseX_in_world s sp ht argv b hb hq
  have hk := parseX_kind s htab sp ht argv b hb
  have := (runCallX_world re env g ord s b w hw hg hk hmw).2
  unfold cliOutcomeX
  simp only [hsx, hni, htop, hb, Bool.not_true, Bool.false_eq_true, if_false]
  exact this

def specNamed (n : String) : Option CliSpec := cliSpecs.find? (fun s => s.kind == "formula" && s.name == n)

/-- the hypotheses of `end_to_end_special_all_tokens` are satisfiable -/
example : ∃ s ∈ cliSpecs, s.kind = "formula" ∧ s.supportedX = true ∧ s.standard = false ∧ s.inline = false :=
  ⟨(specNamed "op").get (by decide +kernel), by decide +kernel⟩

example : (specNamed "tseitin").bind (fun s => cliOutcomeX {} detEnv ⟨1, 0, [[], []], []⟩ "cnfgen" (fun _ => 3) s
    ["randomodd", "complete", "4"]) = some (.done .ok) := by decide +kernel
example : (specNamed "tseitin").bind (fun s => cliOutcomeX {} detEnv ⟨1, 0, [[], []], []⟩ "cnfgen" (fun _ => 3) s
    ["first", "complete", "4", "-h"]) = some .help := by decide +kernel
example : (specNamed "tseitin").bind (fun s => cliOutcomeX {} detEnv ⟨1, 0, [[], []], []⟩ "cnfgen" (fun _ => 3) s
    ["5", "3"]) = some (.done .cliError) := by decide +kernel
example : (specNamed "op").bind (fun s => cliOutcomeX {} detEnv ⟨1, 0, [[], []], []⟩ "cnfgen" (fun _ => 3) s
    ["--tot", "-p", "complete", "3"]) = some (.done .ok) := by decide +kernel
/-- `--total` and `--smart` exclude each other -/
example : (specNamed "op").bind (fun s => cliOutcomeX {} detEnv ⟨1, 0, [[], []], []⟩ "cnfgen" (fun _ => 3) s
    ["--tot", "-sp", "complete", "3"]) = some (.done .cliError) := by decide +kernel
example : (specNamed "op").bind (fun s => cliOutcomeX {} detEnv ⟨1, 0, [[], []], []⟩ "cnfgen" (fun _ => 3) s
    ["3", "--knuth2", "--knuth3"]) = some (.done .cliError) := by decide +kernel
example : (specNamed "php").bind (fun s => cliOutcomeX { lreg := fun l r _ => some (BipG.complete l.toNat r.toNat) }
    detEnv ⟨1, 0, [[], []], []⟩ "cnfgen" (fun _ => 3) s ["4", "3", "2", "--onto"]) = some (.done .ok) := by
  decide +kernel
example : (specNamed "php").bind (fun s => cliOutcomeX {} detEnv ⟨1, 0, [[], []], []⟩ "cnfgen" (fun _ => 3) s
    ["4", "3", "2"]) = some (.done .cliError) := by decide +kernel
example : (specNamed "subsetcard").bind (fun s => cliOutcomeX {} detEnv ⟨1, 0, [[], []], []⟩ "cnfgen" (fun _ => 3) s
    ["complete", "2", "3", "--eq"]) = some (.done .ok) := by decide +kernel

/-! ## `cli_never_escapes_all`

For 30 of the 33 formula sub-commands of `cnfgen` / `pbgen`, whatever the graph environment, the random choices of the
helper and the order of a graph file: the run (`cliOutcomeX`, CnfgenModel/Cli/OutcomeX.lean: CPython's argparse, the
helper's method over the regenerated templates, the family models, `shield`) ends in the help exit, in a formula or in a
command-line error.
  * `op php subsetcard tseitin` and the inline `and or true false`: EVERY list of tokens;
  * the 22 sub-commands with standard options (the path lemmas behind `end_to_end` and `end_to_end_graph` — `covered_run`,
    `og_path` — transported to the extended interpreter by `parseX_refines`, see `standard_endsWell`; `stone` with its
    `--sparse` path and `vdw` proved here): every token list of the argparse fragment of Cli/Dispatch.lean (exact option
    strings).
Excluded, and why (`excluded_formula_commands`): `dimacs` (reads a file: the outcome is that of the DIMACS reader, C06 /
C14), `randkcnf` `randkxor` (random formulas: C13 / C07 — `Cli/Run.lean`).
-/

theorem inlineEnd_total (cls : String) (hcls : cls = "AND" ∨ cls = "OR" ∨ cls = "TRUE" ∨ cls = "FALSE") (ns : Ns)
    (h : Answers (inlineBuild cls ns)) : EndsWell (inlineEnd cls ns) := by
  unfold inlineEnd
  rcases h with ⟨bt, hb⟩ | hb | hb
  · rw [hb]
    have : ∃ n cs, bt = .formula n cs := by
      unfold inlineBuild at hb
      rcases hcls with rfl | rfl | rfl | rfl
      · simp only [beq_self_eq_true, if_true] at hb
        split at hb <;> simp at hb
        exact ⟨_, _, hb.symm⟩
      · simp only [show ("OR" == "AND") = false by decide, Bool.false_eq_true, if_false, beq_self_eq_true,
          if_true] at hb
        split at hb <;> simp at hb
        exact ⟨_, _, hb.symm⟩
      · simp only [show ("TRUE" == "AND") = false by decide, show ("TRUE" == "OR") = false by decide,
          Bool.false_eq_true, if_false, beq_self_eq_true, if_true] at hb
        simp at hb
        exact ⟨_, _, hb.symm⟩
      · simp only [show ("FALSE" == "AND") = false by decide, show ("FALSE" == "OR") = false by decide,
          show ("FALSE" == "TRUE") = false by decide, Bool.false_eq_true, if_false, beq_self_eq_true,
          if_true] at hb
        simp at hb
        exact ⟨_, _, hb.symm⟩
    obtain ⟨n, cs, rfl⟩ := this
    exact Or.inr (Or.inl rfl)
  · rw [hb]; exact Or.inr (Or.inr rfl)
  · rw [hb]; exact Or.inl rfl

theorem end_to_end_inline_all_tokens (re : RandEnv) (env : GraphEnv) (g : SimpleG) (tool : String)
    (ord : List String → Nat) (s : CliSpec) (hs : s ∈ cliSpecs) (hc : inlineCovered s = true) (argv : List String) :
    EndsWell (cliOutcomeX re env g tool ord s argv) := by
  unfold inlineCovered at hc
  simp only [Bool.and_eq_true, Bool.or_eq_true, beq_iff_eq] at hc
  obtain ⟨hin, hcls⟩ := hc
  have hsx : s.supportedX = true := by unfold CliSpec.supportedX; simp [hin]
  have ht := C17.dispatch_total_all_tokens tool ord s hs (Or.inr hin) argv
  unfold dispatchSpecX at ht
  unfold cliOutcomeX
  simp only [hsx, Bool.not_true, Bool.false_eq_true, if_false] at ht ⊢
  split
  · exact Or.inr (Or.inr rfl)
  · rename_i htop
    simp only [htop, Bool.false_eq_true, if_false] at ht
    rcases C17.parser_total_all_tokens s hs hsx argv with ⟨b, hb⟩ | hb | hb
    · rw [hb] at ht ⊢
      simp only [hin, if_true] at ht ⊢
      exact inlineEnd_total s.cls (by
        rcases hcls with ((h | h) | h) | h
        · exact Or.inl h
        · exact Or.inr (Or.inl h)
        · exact Or.inr (Or.inr (Or.inl h))
        · exact Or.inr (Or.inr (Or.inr h))) _ ht
    · rw [hb]; exact Or.inr (Or.inr rfl)
    · rw [hb]; exact Or.inl rfl

theorem standard_endsWell (re : RandEnv) (env : GraphEnv) (g : SimpleG) (tool : String) (ord : List String → Nat)
    (s : CliSpec) (hs : s ∈ cliSpecs) (hstd : s.standard = true) (argv : List String)
    (hf : inFragment s argv = true)
    (hpath : ∀ b, parseArgs s argv = .ok b → ∃ t, selectTemplate (namespaceOf s b) s.templates = .ok t ∧
      (instantiate (namespaceOf s b) t = .error .cliError ∨
        ∃ c, instantiate (namespaceOf s b) t = .ok c ∧ (evalCallX re env g (namespaceOf s b) c).isSome = true)) :
    EndsWell (cliOutcomeX re env g tool ord s argv) := by
  have h := (List.all_eq_true.1 C17.standard_tables_comparable) s (List.mem_filter.2 ⟨hs, hstd⟩)
  simp only [Bool.and_eq_true, Bool.not_eq_true'] at h
  obtain ⟨⟨hfrag, hof⟩, hni⟩ := h
  have hsx := supportedX_of_supported s (supported_of_standard s hstd)
  unfold cliOutcomeX
  simp only [hsx, hni, Bool.not_true, Bool.false_eq_true, if_false]
  split
  · exact Or.inr (Or.inr rfl)
  · rw [parseX_refines s hstd hfrag argv hf]
    rcases parseArgs_total_supported s (supported_of_standard s hstd) argv hf with ⟨b, hb⟩ | hb
    · rw [hb]
      simp only [liftE]
      obtain ⟨t, hsel, hins⟩ := hpath b hb
      unfold runCallX
      dsimp only
      rw [map_fixTemplate_id ord _ _ hof, hsel]
      dsimp only
      rcases hins with hi | ⟨c, hi, hsome⟩
      · rw [hi]; exact Or.inr (Or.inr rfl)
      · rw [hi]
        dsimp only
        obtain ⟨bt, hbt⟩ := Option.isSome_iff_exists.1 hsome
        rw [hbt]
        dsimp only
        rcases mapped_x_steps_clean re env g _ c bt hbt with h1 | h1 <;> rw [h1]
        · exact Or.inr (Or.inl rfl)
        · exact Or.inr (Or.inr rfl)
    · rw [hb]
      simp only [liftE, liftErr]
      exact Or.inr (Or.inr rfl)

theorem graph_endsWell (re : RandEnv) (env : GraphEnv) (g : SimpleG) (tool : String) (ord : List String → Nat)
    (s : CliSpec) (hs : s ∈ cliSpecs) (hc : graphCovered s = true) (argv : List String)
    (hf : inFragment s argv = true) : EndsWell (cliOutcomeX re env g tool ord s argv) := by
  have hc' := hc
  unfold graphCovered at hc'
  simp only [Bool.and_eq_true] at hc'
  obtain ⟨hstd, hall⟩ := hc'
  refine standard_endsWell re env g tool ord s hs hstd argv hf (fun b hb => ?_)
  obtain ⟨t, htm, hsel, -, hor⟩ := og_path s hstd hs argv b hb env
  refine ⟨t, hsel, ?_⟩
  rcases hor ((List.all_eq_true.1 hall) t htm) with ⟨_, hi⟩ | ⟨c, hi, hsome⟩
  · exact Or.inl hi
  · refine Or.inr ⟨c, hi, evalCallX_isSome_of_any re env g _ c ?_⟩
    unfold evalCallAny
    obtain ⟨bt, hbt⟩ := Option.isSome_iff_exists.1 hsome
    rw [hbt]; rfl

theorem numeric_endsWell (re : RandEnv) (env : GraphEnv) (g : SimpleG) (tool : String) (ord : List String → Nat)
    (h : HelperSpec) (s : CliSpec) (hspec : specOf h = some s) (hc : outcomeCovered s = true) (argv : List String)
    (hf : inFragment s argv = true) : EndsWell (cliOutcomeX re env g tool ord s argv) := by
  have hs := specOf_mem h s hspec
  have hstd := outcomeCovered_standard s hs hc
  refine standard_endsWell re env g tool ord s hs hstd argv hf (fun b hb => ?_)
  rcases covered_run h s hspec hc argv hf with hd | ⟨t, ns, hd, hi⟩
  · unfold dispatchTemplate at hd
    simp only [supported_of_standard s hstd, hb, Bool.not_true, Bool.false_eq_true, if_false] at hd
    cases hsel : selectTemplate (namespaceOf s b) s.templates with
    | error e =>
      obtain ⟨w, rfl⟩ := selectTemplate_error _ _ _ hsel
      rw [hsel] at hd
      cases hd
    | ok t => rw [hsel] at hd; cases hd
  · obtain ⟨b', hb', rfl, hsel⟩ := dispatchTemplate_ok s argv t ns hd
    rw [hb] at hb'
    cases hb'
    refine ⟨t, hsel, ?_⟩
    rcases hi with hi | ⟨c, r, hi, hev⟩
    · exact Or.inl hi
    · obtain ⟨r', hF, -⟩ := ctext_evalCallF_some g c r hev
      refine Or.inr ⟨c, hi, evalCallX_isSome_of_any re env g _ c ?_⟩
      unfold evalCallAny
      cases evalCallG env (namespaceOf s b) c with
      | some bt => rfl
      | none => rw [hF]; rfl

/-- T-C18.X3 `stone`, EVERY path (`--sparse d` with `d ≤ s` included: the graph — or the ValueError — of
`bipartite_random_left_regular` comes from `RandEnv.lreg`): every token list of the fragment ends in a formula or a
command-line error -/
theorem end_to_end_stone_x (re : RandEnv) (env : GraphEnv) (g : SimpleG) (tool : String) (ord : List String → Nat)
    (s : CliSpec) (hs : s ∈ cliSpecs) (hname : s.name = "stone") (argv : List String)
    (hf : inFragment s argv = true) : EndsWell (cliOutcomeX re env g tool ord s argv) := by
  obtain ⟨hstd, hall⟩ := stone_paths_x s hs hname
  refine standard_endsWell re env g tool ord s hs hstd argv hf (fun b hb => ?_)
  obtain ⟨t, htm, hsel, -, hor⟩ := og_path s hstd hs argv b hb env
  refine ⟨t, hsel, ?_⟩
  rcases hall t htm with hcov | hsp
  · rcases hor hcov with ⟨_, hi⟩ | ⟨c, hi, hsome⟩
    · exact Or.inl hi
    · refine Or.inr ⟨c, hi, evalCallX_isSome_of_any re env g _ c ?_⟩
      unfold evalCallAny
      obtain ⟨bt, hbt⟩ := Option.isSome_iff_exists.1 hsome
      rw [hbt]; rfl
  · unfold sparseShape at hsp
    simp only [Bool.and_eq_true, beq_iff_eq] at hsp
    obtain ⟨⟨⟨⟨⟨⟨⟨hr, hfn⟩, hpos⟩, hkw⟩, hgd⟩, hD⟩, hS⟩, hSp⟩ := hsp
    have hg := ((selectTemplate_ends _ _).ok hsel).2
    obtain ⟨toks, hDv⟩ := og_graphBound_val s hstd argv b hb "dag" "D" hD
    have hok := nsOK_of_parseArgs s hstd argv b hb
    obtain ⟨i, hSv⟩ := nsOK_intBound_val s hstd b hok "s" hS
    obtain ⟨v, hv, hvor⟩ := nsOK_intOrNone_val s hstd b hok "sparse" hSp
    obtain ⟨guard, raises, fn, pos, kw, eff⟩ := t
    dsimp only at hr hfn hpos hkw hgd hg
    subst hr hfn
    -- the guard says `args.sparse is not None`
    have hint : ∃ j, v = .int j := by
      rcases hvor with rfl | h
      · split at hgd
        · exact absurd rfl (dtot_facts_sound _ _ hg "sparse" (by simp [dtot_facts]) _ hv)
        · cases hgd
      · exact h
    obtain ⟨j, rfl⟩ := hint
    split at hpos
    · rename_i src ds
      split at hkw
      · rename_i nm
        right
        refine ⟨⟨"SparseStoneFormula", [.graph "dag" toks, .opaque src], [("formula_class", .param nm)]⟩, ?_, ?_⟩
        · simp [instantiate, evalPos, evalKw, evalE, hDv]
        · apply evalCallX_isSome_of_R
          simp [evalCallR, hSv, hv]
      · cases hkw
    · cases hpos

/-- the one call of `vdw`: a `nargs='*'` positional passed on as `*args.ks` -/
def vdwShape (s : CliSpec) (t : CallTemplate) : Bool :=
  t.raises == "" && t.fn == "VanDerWaerden" &&
  (match t.pos with | [.arg "N", .arg "k1", .arg "k2", .star (.arg "ks")] => true | _ => false) &&
  (match t.kw with | [("formula_class", .name _)] => true | _ => false) &&
  dtot_intBound s "N" && dtot_intBound s "k1" && dtot_intBound s "k2" && dtot_starDest s "ks"

theorem vdw_paths_x : ∀ s ∈ cliSpecs, s.name = "vdw" →
    s.standard = true ∧ ∀ t ∈ s.templates, vdwShape s t = true := by decide +kernel

/-- T-C18.X4 `vdw N k1 k2 [k3 …]`: every token list of the fragment ends in a formula or a command-line error -/
theorem end_to_end_vdw_x (re : RandEnv) (env : GraphEnv) (g : SimpleG) (tool : String) (ord : List String → Nat)
    (s : CliSpec) (hs : s ∈ cliSpecs) (hname : s.name = "vdw") (argv : List String)
    (hf : inFragment s argv = true) : EndsWell (cliOutcomeX re env g tool ord s argv) := by
  obtain ⟨hstd, hall⟩ := vdw_paths_x s hs hname
  refine standard_endsWell re env g tool ord s hs hstd argv hf (fun b hb => ?_)
  obtain ⟨t, htm, hsel, -, -⟩ := og_path s hstd hs argv b hb env
  refine ⟨t, hsel, ?_⟩
  have hsp := hall t htm
  unfold vdwShape at hsp
  simp only [Bool.and_eq_true, beq_iff_eq] at hsp
  obtain ⟨⟨⟨⟨⟨⟨⟨hr, hfn⟩, hpos⟩, hkw⟩, hN⟩, hk1⟩, hk2⟩, hks⟩ := hsp
  have hok := nsOK_of_parseArgs s hstd argv b hb
  obtain ⟨n, hNv⟩ := nsOK_intBound_val s hstd b hok "N" hN
  obtain ⟨k1, hk1v⟩ := nsOK_intBound_val s hstd b hok "k1" hk1
  obtain ⟨k2, hk2v⟩ := nsOK_intBound_val s hstd b hok "k2" hk2
  obtain ⟨l, hlv⟩ := nsOK_starDest_val s hstd b hok "ks" hks
  obtain ⟨guard, raises, fn, pos, kw, eff⟩ := t
  dsimp only at hr hfn hpos hkw
  subst hr hfn
  split at hpos
  · split at hkw
    · rename_i nm
      right
      refine ⟨⟨"VanDerWaerden", .int n :: .int k1 :: .int k2 :: l.map Val.int, [("formula_class", .param nm)]⟩, ?_, ?_⟩
      · simp [instantiate, evalPos, evalKw, evalE, hNv, hk1v, hk2v, hlv]
      · apply evalCallX_isSome_of_any
        have : allInts (Val.int n :: Val.int k1 :: Val.int k2 :: l.map Val.int) = some (n :: k1 :: k2 :: l) := by
          simp [allInts, dout_allInts_map]
        simp [evalCallAny, evalCallG, gHandlers, List.lookup, evalCallF, this]
    · cases hkw
  · cases hpos

theorem covered_formula_commands :
    (cliSpecs.filter coveredAll).map (·.name) =
      ["and", "bphp", "cliquecoloring", "count", "cpls", "domset", "ec", "false", "iso", "kclique", "kcliquebin",
       "kcolor", "matching", "op", "or", "parity", "peb", "php", "pitfall", "ptn", "ram", "ramlb", "rphp", "stone",
       "subgraph", "subsetcard", "tiling", "true", "tseitin", "vdw"] := by
  have h := congrArg Prod.fst formula_tables.2.1
  simp only [Prod.map_fst, List.partition_eq_filter_filter, List.filter_filter] at h
  refine Eq.trans (congrArg _ (List.filter_congr fun s _ => ?_)) h
  cases hk : s.kind == "formula" <;> simp only [coveredAll, hk, Bool.false_and, Bool.and_false, Bool.and_true]

/-- the formula sub-commands outside `cli_never_escapes_all` (the reasons: section comment above) -/
theorem excluded_formula_commands :
    (cliSpecs.filter (fun s => s.kind == "formula" && !coveredAll s)).map (·.name) =
      ["dimacs", "randkcnf", "randkxor"] := by
  have h := congrArg Prod.snd formula_tables.2.1
  simp only [Prod.map_snd, List.partition_eq_filter_filter, List.filter_filter] at h
  exact Eq.trans (congrArg _ (List.filter_congr fun s _ => Bool.and_comm ..)) h

/-- the token lists the theorem speaks about: ALL of them for the inline helpers and for `op php subsetcard tseitin`;
those of the argparse fragment (exact option strings) for a sub-command with standard options -/
def tokensCovered (s : CliSpec) (argv : List String) : Bool := !s.standard || inFragment s argv

/-- T-C18.ALL.  For every tool, every covered formula sub-command (30 of 33: `covered_formula_commands`), every covered
token list, every graph environment, every outcome of the helper's random choices and every order of a graph file: the
run ends in the help exit, in a formula, or in a command-line error — no exception escapes, `cli()` reports no internal
bug, and the model always answers. -/
theorem cli_never_escapes_all (re : RandEnv) (env : GraphEnv) (g : SimpleG) (tool : String)
    (ord : List String → Nat) (h : HelperSpec) (s : CliSpec) (hspec : specOf h = some s)
    (hc : coveredAll s = true) (argv : List String) (hf : tokensCovered s argv = true) :
    cliOutcomeX re env g tool ord s argv = some .help ∨
    cliOutcomeX re env g tool ord s argv = some (.done .ok) ∨
    cliOutcomeX re env g tool ord s argv = some (.done .cliError) := by
  have hs := specOf_mem h s hspec
  unfold coveredAll at hc
  simp only [Bool.and_eq_true, Bool.or_eq_true, beq_iff_eq, Bool.not_eq_true'] at hc
  obtain ⟨⟨hkind, hsx⟩, hcls⟩ := hc
  have hfr : s.standard = true → inFragment s argv = true := by
    intro hstd
    unfold tokensCovered at hf
    simpa [hstd] using hf
  rcases hcls with ((((hi | hn) | hg) | hsp) | hst) | hvd
  · exact end_to_end_inline_all_tokens re env g tool ord s hs hi argv
  · exact numeric_endsWell re env g tool ord h s hspec hn argv (hfr (outcomeCovered_standard s hs hn))
  · have hstd : s.standard = true := by
      unfold graphCovered at hg
      simp only [Bool.and_eq_true] at hg
      exact hg.1
    exact graph_endsWell re env g tool ord s hs hg argv (hfr hstd)
  · simp only [Bool.or_eq_false_iff] at hsp
    exact end_to_end_special_all_tokens re env g tool ord s hs hkind hsx hsp.1 hsp.2 argv
  · exact end_to_end_stone_x re env g tool ord s hs hst argv (hfr (stone_paths_x s hs hst).1)
  · exact end_to_end_vdw_x re env g tool ord s hs hvd argv (hfr (vdw_paths_x s hs hvd).1)

/-- … in particular: the model answers, `cli()` reports no internal bug, no exception escapes -/
theorem cli_never_escapes_all' (re : RandEnv) (env : GraphEnv) (g : SimpleG) (tool : String)
    (ord : List String → Nat) (h : HelperSpec) (s : CliSpec) (hspec : specOf h = some s)
    (hc : coveredAll s = true) (argv : List String) (hf : tokensCovered s argv = true) :
    cliOutcomeX re env g tool ord s argv ≠ none ∧
    cliOutcomeX re env g tool ord s argv ≠ some (.done .internalBug) ∧
    ∀ e, cliOutcomeX re env g tool ord s argv ≠ some (.done (.escaped e)) := by
  rcases cli_never_escapes_all re env g tool ord h s hspec hc argv hf with h1 | h1 | h1 <;> rw [h1] <;> simp

/-- the hypotheses are satisfiable: a standard sub-command on a line of the fragment, a composed one on any line -/
example : ∃ h s, specOf h = some s ∧ coveredAll s = true ∧ tokensCovered s ["3", "complete", "4"] = true :=
  have ⟨h, s, _, hs⟩ := exists_spec_of_find (·.name == "kcolor") coveredAll (tokensCovered · ["3", "complete", "4"]) (by decide +kernel)
  ⟨h, s, hs⟩
example : ∃ h s, specOf h = some s ∧ coveredAll s = true ∧ tokensCovered s ["--he", "-x=3", "--", "-h"] = true :=
  have ⟨h, s, _, hs⟩ := exists_spec_of_find (·.name == "tseitin") coveredAll (tokensCovered · ["--he", "-x=3", "--", "-h"]) (by decide +kernel)
  ⟨h, s, hs⟩

end Cnfgen.C18
