/-
C18 (end to end, `-T` chains) — a command line `<formula> <args> -T <transformation> <args> -T …` ends in a usable
formula or a clean, shielded error.

`cliOutcomeLine` (CnfgenModel/Cli/OutcomeT.lean) = `splitT` ▸ formula part (`dispatch`, graphs, family model) ▸ every
chunk through the transformation parser ▸ the transformations of Trans/Subst.lean applied left to right ▸ `shield`.
The transformations are the models of C05; their "returns a well-formed formula or raises ValueError" comes from the
composition theorems of Props/C05.lean.
-/
import Lemmas.OutcomeG
import CnfgenModel.Cli.OutcomeT
import Props.C18.Graphs
import Props.C05
import Props.C18.Text
import Props.C18.EndToEnd
import Props.C17.Dispatch
namespace Cnfgen.C18
open Cnfgen Cnfgen.Cli Cnfgen.Gen Cnfgen.Subst

def StepClean (r : Except Err CNF) : Prop := (∃ G, r = .ok G ∧ G.WF) ∨ r = .error .valueError

theorem composes_wf {F : CNF} {r : Except Err CNF} {M : Nat} {ind : Assign → Assign}
    (h : ∃ G, r = .ok G ∧ C05.Composes F G M ind) : ∃ G, r = .ok G ∧ G.WF :=
  let ⟨G, h1, h2⟩ := h
  ⟨G, h1, h2.wf⟩

theorem kstep (F : CNF) (k : Int) (f : CNF → Int → Except Err CNF)
    (hrej : ∀ k, k < 1 → f F k = .error .valueError) (hok : ∀ n : Nat, 1 ≤ n → ∃ G, f F n = .ok G ∧ G.WF) :
    StepClean (f F k) := by
  by_cases hk : k < 1
  · exact Or.inr (hrej k hk)
  · have : k = ((k.toNat : Nat) : Int) := by omega
    rw [this]
    exact Or.inl (hok k.toNat (by omega))

/-- T-C18.T1 every transformation step on a well-formed CNF returns a well-formed CNF or raises ValueError — all
thirteen substitutions / liftings and the two compressions, for every argument value and every bipartite graph object -/
theorem trans_step_clean (env : GraphEnv) (henv : ∀ i t B, env.bip i t = some B → BipWF B)
    (F : CNF) (hF : F.WF) (c : Call) (r : Except Err CNF) (h : evalTrans env F c = some r) : StepClean r := by
  unfold evalTrans at h
  split at h
  · obtain ⟨-, ⟨⟩⟩ | h := ite_eq_some h
    · exact Or.inl (composes_wf (C05.ite_composes F hF))
    obtain ⟨-, ⟨⟩⟩ | h := ite_eq_some h
    · obtain ⟨G, h1, h2, _⟩ := C05.flip_composes F hF
      exact Or.inl ⟨G, h1, h2.wf⟩
    cases h
  · rename_i k _
    obtain ⟨-, ⟨⟩⟩ | h := ite_eq_some h
    · exact kstep F k xorSubst (fun k hk => C05.kSubst_rejects F k hk _)
        (fun n hn => composes_wf (C05.xor_composes F n hn hF))
    obtain ⟨-, ⟨⟩⟩ | h := ite_eq_some h
    · exact kstep F k orSubst (fun k hk => C05.kSubst_rejects F k hk _)
        (fun n hn => composes_wf (C05.or_composes F n hn hF))
    obtain ⟨-, ⟨⟩⟩ | h := ite_eq_some h
    · exact kstep F k majSubst (fun k hk => C05.kSubst_rejects F k hk _)
        (fun n hn => composes_wf (C05.maj_composes F n hn hF))
    obtain ⟨-, ⟨⟩⟩ | h := ite_eq_some h
    · exact kstep F k (fun F k => allEqual F k) (fun k hk => C05.kSubst_rejects F k hk _)
        (fun n hn => composes_wf (C05.allEqual_composes F n hn hF))
    obtain ⟨-, ⟨⟩⟩ | h := ite_eq_some h
    · exact kstep F k notAllEqual (fun k hk => by simp [notAllEqual, hk])
        (fun n hn => composes_wf (C05.notAllEqual_composes F n hn hF))
    obtain ⟨-, ⟨⟩⟩ | h := ite_eq_some h
    · exact kstep F k exactlyOne (fun k hk => C05.kSubst_rejects F k hk _)
        (fun n hn => composes_wf (C05.exactlyOne_composes F n hn hF))
    obtain ⟨-, ⟨⟩⟩ | h := ite_eq_some h
    · exact kstep F k lifting (fun k hk => C05.lifting_rejects F k hk)
        (fun n hn => by obtain ⟨G, h1, h2⟩ := C05.lifting_composes F n hn hF; exact ⟨G, h1, h2.2.1⟩)
    cases h
  · rename_i n k _
    obtain ⟨-, ⟨⟩⟩ | h := ite_eq_some h
    · exact kstep F n (fun F n => exactly F n k) (fun n hn => C05.kSubst_rejects F n hn _)
        (fun m hm => composes_wf (C05.exactly_composes F m k hm hF))
    obtain ⟨-, ⟨⟩⟩ | h := ite_eq_some h
    · exact kstep F n (fun F n => atLeast F n k) (fun n hn => C05.kSubst_rejects F n hn _)
        (fun m hm => composes_wf (C05.atLeast_composes F m k hm hF))
    obtain ⟨-, ⟨⟩⟩ | h := ite_eq_some h
    · exact kstep F n (fun F n => atMost F n k) (fun n hn => C05.kSubst_rejects F n hn _)
        (fun m hm => composes_wf (C05.atMost_composes F m k hm hF))
    obtain ⟨-, ⟨⟩⟩ | h := ite_eq_some h
    · exact kstep F n (fun F n => anythingBut F n k) (fun n hn => C05.kSubst_rejects F n hn _)
        (fun m hm => composes_wf (C05.anythingBut_composes F m k hm hF))
    cases h
  · rename_i t _
    split at h
    · split at h
      · rename_i fn hfn
        split at h
        · cases h; exact Or.inr rfl
        · rename_i B hB
          cases h
          have hwf := henv 0 t B hB
          by_cases hl : B.l = F.nvars
          · have hfn' : fn = 0 ∨ fn = 1 := by
              -- `compFn` answers `some 0` for "xor", `some 1` for "maj", and `none` on every other branch
              unfold compFn at hfn
              repeat' split at hfn
              all_goals simp_all
            rcases hfn' with rfl | rfl
            · exact Or.inl (composes_wf (C05.xorCompression_composes F B hwf hl hF))
            · exact Or.inl (composes_wf (C05.majCompression_composes F B hwf hl hF))
          · exact Or.inr (C05.compress_rejects F B fn (Or.inr hl))
      · cases h
    · cases h
  · cases h

/-- T-C18.T2 a whole chain of transformations on a well-formed CNF returns a well-formed CNF or raises ValueError
(which `cli()` shields) — never anything else, whatever the chain -/
theorem chain_clean (env : GraphEnv) (henv : ∀ i t B, env.bip i t = some B → BipWF B) :
    ∀ (ts : List TCall) (F : CNF), F.WF → ∀ r, runChain env F ts = some r → StepClean r := by
  intro ts
  induction ts with
  | nil => intro F hF r h; simp only [runChain, Option.some.injEq] at h; subst h; exact Or.inl ⟨F, rfl, hF⟩
  | cons t rest ih =>
    intro F hF r h
    cases t with
    | identity => exact ih F hF r h
    | call c =>
      simp only [runChain] at h
      cases he : evalTrans env F c with
      | none => rw [he] at h; cases h
      | some r1 =>
        rw [he] at h
        rcases trans_step_clean env henv F hF c r1 he with ⟨G, rfl, hG⟩ | rfl
        · exact ih G hG r h
        · simp only [Option.some.injEq] at h; subst h; exact Or.inr rfl

theorem shield_valueError : shield (Except.error .valueError : Except Err Unit) = .cliError := rfl

/-- T-C18.T3 (partial: what is missing is that the model ANSWERS on every command line of the fragment, and the
well-formedness of the base formula is a hypothesis — proved for the numeric generators by `mapped_formula_wf`, for the
graph generators by the `…_wf` theorems of C01–C03 under the graph invariants C16 derives for every graph object).
For every line `<formula> … -T … -T …`, every graph environment with well-formed bipartite graphs: whenever the model
gives an outcome it is `ok` or `cliError` — the transformation parser refuses with a CLIError, every transformation
returns a formula or raises ValueError, nothing escapes at any step of the chain. -/
theorem line_never_escapes_partial (env : GraphEnv) (henv : ∀ i t B, env.bip i t = some B → BipWF B)
    (line : List String) (o : Outcome) (ho : cliOutcomeLine env line = some o)
    (hbase : ∀ fcmd tcmds F, splitT line = fcmd :: tcmds →
      buildFormula env ⟨1, 0, [[], []], []⟩ fcmd = some (.ok (.result (.ok F))) → F.WF)
    (hform : ∀ fcmd tcmds e, splitT line = fcmd :: tcmds →
      buildFormula env ⟨1, 0, [[], []], []⟩ fcmd = some (.ok (.result (.error e))) → e = .valueError) :
    o = .ok ∨ o = .cliError := by
  unfold cliOutcomeLine cliLineCNF at ho
  cases hs : splitT line with
  | nil => rw [hs] at ho; cases ho
  | cons fcmd tcmds =>
    rw [hs] at ho
    dsimp only at ho
    -- every way the formula part and the chain parser can end; only two of them reach the chain
    rcases hb : buildFormula env ⟨1, 0, [[], []], []⟩ fcmd with _ | ⟨u | (_ | ⟨e | F⟩)⟩ <;>
      rcases hp : parseChain tcmds with _ | ⟨u | ts⟩ <;> rw [hb, hp] at ho <;> try cases ho
    any_goals exact Or.inr rfl
    · obtain rfl := hform fcmd tcmds e hs hb
      exact Or.inr rfl
    · dsimp only at ho
      have hwf := ctext_toCNF_wf F (hbase fcmd tcmds F hs hb)
      cases hr : runChain env F.toCNF ts with
      | none => rw [hr] at ho; cases ho
      | some rc =>
        rw [hr] at ho
        rcases chain_clean env henv ts F.toCNF hwf rc hr with ⟨G, rfl, _⟩ | rfl <;> cases ho
        · exact Or.inl rfl
        · exact Or.inr rfl

/-- the run ends in `ok` exactly when the formula part builds a formula, every chunk is accepted by the
transformation parser, and every transformation of the chain, applied left to right, returns a formula -/
theorem line_ok_iff (env : GraphEnv) (line : List String) :
    cliOutcomeLine env line = some .ok ↔
      ∃ fcmd tcmds F ts G, splitT line = fcmd :: tcmds ∧
        buildFormula env ⟨1, 0, [[], []], []⟩ fcmd = some (.ok (.result (.ok F))) ∧
        parseChain tcmds = some (.ok ts) ∧ runChain env F.toCNF ts = some (.ok G) := by
  unfold cliOutcomeLine cliLineCNF
  constructor
  · intro ho
    cases hs : splitT line with
    | nil => rw [hs] at ho; cases ho
    | cons fcmd tcmds =>
      rw [hs] at ho
      dsimp only at ho
      rcases hb : buildFormula env ⟨1, 0, [[], []], []⟩ fcmd with _ | ⟨u | (_ | ⟨e | F⟩)⟩ <;>
        rcases hp : parseChain tcmds with _ | ⟨u | ts⟩ <;> rw [hb, hp] at ho <;> try cases ho
      · cases e <;> cases ho
      · dsimp only at ho
        rcases hr : runChain env F.toCNF ts with _ | ⟨e | G⟩ <;> rw [hr] at ho
        · cases ho
        · cases e <;> cases ho
        · exact ⟨fcmd, tcmds, F, ts, G, rfl, hb, hp, hr⟩
  · rintro ⟨fcmd, tcmds, F, ts, G, hs, hb, hp, hr⟩
    rw [hs]
    dsimp only
    rw [hb, hp]
    dsimp only
    rw [hr]
    rfl

example : cliOutcomeLine detEnv ["php", "3", "2", "-T", "xor", "2"] = some .ok := by decide +kernel
example : cliOutcomeLine detEnv ["php", "3", "2", "-T", "xor", "0"] = some .cliError := by decide +kernel
example : cliOutcomeLine detEnv ["php", "3", "2", "-T"] = some .cliError := by decide +kernel
example : cliOutcomeLine detEnv ["php", "2", "1", "-T", "xor", "2", "-T", "flip", "-T", "none"] = some .ok := by
  decide +kernel
example : cliOutcomeLine detEnv ["php", "2", "1", "-T", "xorcomp", "complete", "2", "3"] = some .ok := by decide +kernel
/-- the left side of the compression graph is not the number of variables: the library's ValueError, shielded -/
example : cliOutcomeLine detEnv ["php", "2", "1", "-T", "xorcomp", "complete", "3", "3"] = some .cliError := by
  decide +kernel
example : cliOutcomeLine detEnv ["kcolor", "2", "complete", "3", "-T", "lift", "2"] = some .ok := by decide +kernel
example : cliOutcomeLine detEnv ["php", "3", "2", "-T", "shuffle"] = none := by decide +kernel

/-- the substitutions `evalTrans` maps, by number of integer arguments -/
def transFns : Nat → List String
  | 0 => ["IfThenElseSubstitution", "FlipPolarity"]
  | 1 => ["XorSubstitution", "OrSubstitution", "MajoritySubstitution", "AllEqualSubstitution",
          "NotAllEqualSubstitution", "ExactlyOneSubstitution", "FormulaLifting"]
  | 2 => ["ExactlyKSubstitution", "AtLeastKSubstitution", "AtMostKSubstitution", "AnythingButKSubstitution"]
  | _ => []

theorem transFns_no_empty_name (n : Nat) : (transFns n).contains "" = false := by
  unfold transFns
  split <;> decide

def isIntArg (s : CliSpec) : Expr → Bool
  | .arg d => dtot_intBound s d
  | _ => false

/-- a transformation sub-command with standard options whose single path is `Gen(F, <typed positionals>)`, `Gen` one of
the thirteen substitutions of Trans/Subst.lean -/
def transCovered (s : CliSpec) : Bool :=
  s.kind == "transformation" && s.standard && s.name != "none" &&
  s.templates.all (fun t => t.raises == "" && t.kw.isEmpty &&
    (match t.pos with
     | .name "F" :: rest => rest.all (isIntArg s) && (transFns rest.length).contains t.fn
     | _ => false))

/-- both lists below, from one evaluation of the table (the kernel then computes `transCovered` of a sub-command once) -/
theorem trans_commands_split :
    (cliSpecs.filter transCovered).map (·.name) =
      ["anybut", "atleast", "atmost", "eq", "exact", "flip", "ite", "lift", "maj", "neq", "one", "or", "xor"] ∧
    (cliSpecs.filter (fun s => s.kind == "transformation" && !transCovered s)).map (·.name) =
      ["", "majcomp", "none", "shuffle", "xorcomp"] := by decide +kernel

theorem trans_covered_commands :
    (cliSpecs.filter transCovered).map (·.name) =
      ["anybut", "atleast", "atmost", "eq", "exact", "flip", "ite", "lift", "maj", "neq", "one", "or", "xor"] :=
  trans_commands_split.1

/-- the transformation sub-commands outside: `majcomp` `xorcomp` (composed parsers, a bipartite graph or a random one),
`shuffle` (random), `none` (handled by `parseTrans` itself), and the abstract base class -/
theorem trans_excluded_commands :
    (cliSpecs.filter (fun s => s.kind == "transformation" && !transCovered s)).map (·.name) =
      ["", "majcomp", "none", "shuffle", "xorcomp"] :=
  trans_commands_split.2

theorem evalPos_ints (s : CliSpec) (hstd : s.standard = true) (argv : List String) (b : Ns)
    (h : parseArgs s argv = .ok b) (es : List Expr) (hall : es.all (isIntArg s) = true) :
    ∃ is : List Int, evalPos (namespaceOf s b) es = some (is.map Val.int) ∧ is.length = es.length :=
  evalPos_ints_of _ es fun e he =>
    og_isI_eval s hstd argv b h e (by have := List.all_eq_true.1 hall e he; cases e <;> first | exact this | cases this)

theorem evalTrans_mapped (env : GraphEnv) (F : CNF) (fn : String) (is : List Int)
    (hfn : (transFns is.length).contains fn = true) :
    (evalTrans env F ⟨fn, .param "F" :: is.map Val.int, []⟩).isSome = true := by
  match is, hfn with
  | [], hfn =>
    simp only [transFns, List.length_nil, List.contains_eq_mem, List.mem_cons, List.not_mem_nil, or_false,
      decide_eq_true_eq] at hfn
    rcases hfn with rfl | rfl <;> simp [evalTrans]
  | [a], hfn =>
    simp only [transFns, List.length_cons, List.length_nil, List.contains_eq_mem, List.mem_cons, List.not_mem_nil,
      or_false, decide_eq_true_eq] at hfn
    rcases hfn with rfl | rfl | rfl | rfl | rfl | rfl | rfl <;> simp [evalTrans]
  | [a, b], hfn =>
    simp only [transFns, List.length_cons, List.length_nil, List.contains_eq_mem, List.mem_cons, List.not_mem_nil,
      or_false, decide_eq_true_eq] at hfn
    rcases hfn with rfl | rfl | rfl | rfl <;> simp [evalTrans]
  | _ :: _ :: _ :: _, hfn => simp [transFns] at hfn

def _root_.Cnfgen.Cli.TCall.mapped : TCall → Prop
  | .identity => True
  | .call c => ∀ (env : GraphEnv) (F : CNF), (evalTrans env F c).isSome = true

/-- T-C18.T4 totality of the transformation parser.  For the thirteen substitution sub-commands and EVERY list of tokens
of the fragment after the name: the parser refuses the chunk (CLIError) or hands over a call `evalTrans` maps — never
"outside the model". -/
theorem parseTrans_total (name : String) (args : List String) (h : HelperSpec) (s : CliSpec)
    (hfind : helpers.find? (fun h => h.kind == "transformation" && h.name == name) = some h)
    (hspec : specOf h = some s) (hc : transCovered s = true) (hf : inFragment s args = true) :
    parseTrans (name :: args) = some (.error ()) ∨
    ∃ t, parseTrans (name :: args) = some (.ok t) ∧ t.mapped := by
  have hs := specOf_mem h s hspec
  unfold transCovered at hc
  simp only [Bool.and_eq_true, beq_iff_eq, bne_iff_ne, ne_eq] at hc
  obtain ⟨⟨⟨_, hstd⟩, hnone⟩, hall⟩ := hc
  have hname : name = s.name := by
    have h1 := List.find?_some hfind
    simp only [Bool.and_eq_true, beq_iff_eq] at h1
    unfold specOf at hspec
    have h2 := List.find?_some hspec
    simp only [Bool.and_eq_true, beq_iff_eq] at h2
    rw [← h1.2, h2.1.2]
  have hnn : (name == "none") = false := by rw [hname]; simpa using hnone
  unfold parseTrans
  simp only [hfind, hnn, Bool.false_eq_true, if_false]
  rcases C17.dispatch_total h s hspec hs hstd args hf with ⟨c, hc⟩ | he
  · rw [hc]
    right
    refine ⟨.call c, rfl, ?_⟩
    unfold dispatch at hc
    rw [hspec] at hc
    dsimp only at hc
    unfold dispatchSpec at hc
    cases hd : dispatchTemplate s args with
    | error e => rw [hd] at hc; cases hc
    | ok tn =>
      obtain ⟨t, ns⟩ := tn
      rw [hd] at hc
      dsimp only at hc
      have htm := dispatchTemplate_mem s args t ns hd
      have hsh := (List.all_eq_true.1 hall) t htm
      simp only [Bool.and_eq_true, beq_iff_eq] at hsh
      obtain ⟨⟨hr, hkw⟩, hpos⟩ := hsh
      obtain ⟨b, hb, rfl, -⟩ := dispatchTemplate_ok s args t ns hd
      obtain ⟨guard, raises, fn, pos, kw, eff⟩ := t
      dsimp only at hr hkw hpos
      subst hr
      have hkw' : kw = [] := by simpa using hkw
      subst hkw'
      split at hpos
      · rename_i rest
        simp only [Bool.and_eq_true] at hpos
        obtain ⟨is, his, hlen⟩ := evalPos_ints s hstd args b hb rest hpos.1
        have hfne : (fn == "") = false := by
          refine beq_eq_false_iff_ne.2 fun hfe => ?_
          have h2 := hpos.2
          rw [hfe, transFns_no_empty_name] at h2
          cases h2
        have hc' : c = ⟨fn, .param "F" :: is.map Val.int, []⟩ := by
          simp [instantiate, hfne, evalPos, evalE, his, evalKw] at hc
          exact hc.symm
        subst hc'
        intro env F
        exact evalTrans_mapped env F fn is (by rw [hlen]; exact hpos.2)
      · cases hpos
  · rw [he]; exact Or.inl rfl

/-- a chunk the totality theorem speaks about: empty (`-T` without a transformation), `none`, or one of the thirteen
substitutions followed by tokens of the fragment -/
def ChunkCovered (ch : List String) : Prop :=
  ch = [] ∨ ch = ["none"] ∨
  ∃ name args h s, ch = name :: args ∧
    helpers.find? (fun h => h.kind == "transformation" && h.name == name) = some h ∧
    specOf h = some s ∧ transCovered s = true ∧ inFragment s args = true

theorem parseTrans_covered (ch : List String) (hc : ChunkCovered ch) :
    parseTrans ch = some (.error ()) ∨ ∃ t, parseTrans ch = some (.ok t) ∧ t.mapped := by
  rcases hc with rfl | rfl | ⟨name, args, h, s, rfl, hfind, hspec, hcov, hf⟩
  · exact Or.inl rfl
  · right
    refine ⟨.identity, ?_, trivial⟩
    have hsome : (helpers.find? (fun h => h.kind == "transformation" && h.name == "none")).isSome = true := by
      decide +kernel
    obtain ⟨h0, hh0⟩ := Option.isSome_iff_exists.1 hsome
    simp [parseTrans, hh0]
  · exact parseTrans_total name args h s hfind hspec hcov hf

/-- T-C18.T5 totality of the chain parser: a CLIError, or a list of calls every one of which `evalTrans` maps -/
theorem parseChain_total : ∀ (chunks : List (List String)), (∀ ch ∈ chunks, ChunkCovered ch) →
    parseChain chunks = some (.error ()) ∨
    ∃ ts, parseChain chunks = some (.ok ts) ∧ ∀ t ∈ ts, t.mapped := by
  intro chunks
  induction chunks with
  | nil => intro _; exact Or.inr ⟨[], rfl, fun t ht => by simp at ht⟩
  | cons ch rest ih =>
    intro hall
    have h1 := parseTrans_covered ch (hall ch (List.mem_cons_self ..))
    have h2 := ih (fun c hc => hall c (List.mem_cons_of_mem _ hc))
    unfold parseChain
    rcases h1 with h1 | ⟨t, h1, ht⟩ <;> rcases h2 with h2 | ⟨ts, h2, hts⟩ <;> rw [h1, h2]
    · exact Or.inl rfl
    · exact Or.inl rfl
    · exact Or.inl rfl
    · refine Or.inr ⟨t :: ts, rfl, fun x hx => ?_⟩
      rcases List.mem_cons.1 hx with rfl | hx
      · exact ht
      · exact hts x hx

/-- … and such a chain runs to the end on every formula -/
theorem runChain_total (env : GraphEnv) : ∀ (ts : List TCall) (F : CNF), (∀ t ∈ ts, t.mapped) →
    ∃ r, runChain env F ts = some r := by
  intro ts
  induction ts with
  | nil => intro F _; exact ⟨_, rfl⟩
  | cons t rest ih =>
    intro F hall
    have hrest : ∀ x ∈ rest, x.mapped := fun x hx => hall x (List.mem_cons_of_mem _ hx)
    cases t with
    | identity => exact ih F hrest
    | call c =>
      have hm := hall (.call c) (List.mem_cons_self ..)
      obtain ⟨r1, hr1⟩ := Option.isSome_iff_exists.1 (hm env F)
      simp only [runChain, hr1]
      cases r1 with
      | error e => exact ⟨_, rfl⟩
      | ok G => exact ih G hrest

theorem numeric_not_graph : ∀ fn ∈ evalFns, (gHandlers.lookup fn).isNone = true := by decide +kernel

theorem shield_cliError_valueError {α : Type} (e : Err) (h : shield (Except.error e : Except Err α) = .cliError) :
    e = .valueError := by
  cases e <;> simp [shield] at h ⊢

theorem buildFormula_numeric (env : GraphEnv) (g : SimpleG) (name : String) (fargs : List String) (h : HelperSpec)
    (s : CliSpec) (hfind : helpers.find? (fun h => h.kind == "formula" && h.name == name) = some h)
    (hspec : specOf h = some s) (hc : outcomeCovered s = true) (hf : inFragment s fargs = true) :
    buildFormula env g (name :: fargs) = some (.error ()) ∨
    ∃ r c, buildFormula env g (name :: fargs) = some (.ok (.result r)) ∧ evalCallF g c = some r := by
  unfold buildFormula
  simp only [hfind, hspec]
  rcases covered_run h s hspec hc fargs hf with hd | ⟨t, ns, hd, hi | ⟨c, r0, hi, hev⟩⟩
  · rw [hd]; exact Or.inl rfl
  · rw [hd]; dsimp only; rw [hi]; exact Or.inl rfl
  · rw [hd]; dsimp only; rw [hi]; dsimp only
    obtain ⟨r, hF, -⟩ := ctext_evalCallF_some g c r0 hev
    have hG : evalCallG env ns c = none := by
      unfold evalCallG
      have := numeric_not_graph c.fn (evalCallF_fn_mem g c r hF)
      cases hl : gHandlers.lookup c.fn with
      | none => rfl
      | some f => rw [hl] at this; simp at this
    right
    refine ⟨r, c, ?_, hF⟩
    unfold evalCallAny
    rw [hG, hF]
    rfl

/-- T-C18.T6 a whole line, no hypothesis on the base formula.  `<numeric sub-command> <tokens> -T <chunk> -T …` with the
formula part one of the nine numeric sub-commands of `end_to_end` on ANY tokens of the fragment, and every chunk empty,
`none`, or one of the thirteen substitutions on ANY tokens of the fragment: the model answers, and the run ends in `ok` or
in a `cliError`.  The well-formedness of the base formula is derived (`mapped_formula_wf`), the totality of the chain
parser and of the chain is `parseChain_total` / `runChain_total`.  (`henv`: the bipartite graphs of the environment
are well formed — not used by these chunks, a hypothesis of `chain_clean`.) -/
theorem line_never_escapes_numeric (env : GraphEnv) (henv : ∀ i t B, env.bip i t = some B → BipWF B)
    (line : List String) (name : String) (fargs : List String) (tcmds : List (List String))
    (hsplit : splitT line = (name :: fargs) :: tcmds) (h : HelperSpec) (s : CliSpec)
    (hfind : helpers.find? (fun h => h.kind == "formula" && h.name == name) = some h)
    (hspec : specOf h = some s) (hc : outcomeCovered s = true) (hf : inFragment s fargs = true)
    (hch : ∀ ch ∈ tcmds, ChunkCovered ch) :
    cliOutcomeLine env line = some .ok ∨ cliOutcomeLine env line = some .cliError := by
  have hbf := buildFormula_numeric env ⟨1, 0, [[], []], []⟩ name fargs h s hfind hspec hc hf
  have hpc := parseChain_total tcmds hch
  have htot : ∃ o, cliOutcomeLine env line = some o := by
    unfold cliOutcomeLine cliLineCNF
    rw [hsplit]
    dsimp only
    rcases hbf with hb | ⟨r, c, hb, _⟩ <;> rcases hpc with hp | ⟨ts, hp, hts⟩ <;> rw [hb, hp]
    · exact ⟨_, rfl⟩
    · exact ⟨_, rfl⟩
    · exact ⟨_, rfl⟩
    · dsimp only
      cases r with
      | error e => exact ⟨_, rfl⟩
      | ok F =>
        dsimp only
        obtain ⟨rc, hrc⟩ := runChain_total env ts F.toCNF hts
        rw [hrc]
        cases rc <;> exact ⟨_, rfl⟩
  obtain ⟨o, ho⟩ := htot
  have := line_never_escapes_partial env henv line o ho
    (fun fcmd' tcmds' F hs' hb' => by
      rw [hsplit] at hs'
      simp only [List.cons.injEq] at hs'
      obtain ⟨rfl, _⟩ := hs'
      rcases hbf with hb | ⟨r, c, hb, hF⟩
      · rw [hb] at hb'; cases hb'
      · rw [hb] at hb'
        simp only [Option.some.injEq, Except.ok.injEq, Built.result.injEq] at hb'
        subst hb'
        exact mapped_formula_wf _ graphOK_one c F hF)
    (fun fcmd' tcmds' e hs' hb' => by
      rw [hsplit] at hs'
      simp only [List.cons.injEq] at hs'
      obtain ⟨rfl, _⟩ := hs'
      rcases hbf with hb | ⟨r, c, hb, hF⟩
      · rw [hb] at hb'; cases hb'
      · rw [hb] at hb'
        simp only [Option.some.injEq, Except.ok.injEq, Built.result.injEq] at hb'
        subst hb'
        have h1 : evalCall c = some (forget (Except.error e : Except Err Formula)) := by
          rw [evalCall_eq_forget ⟨1, 0, [[], []], []⟩ c, hF]; rfl
        rcases evalCall_clean c _ h1 with h2 | h2
        · simp [forget, Except.map] at h2
        · simpa [forget, Except.map] using h2)
  rcases this with rfl | rfl
  · exact Or.inl ho
  · exact Or.inr ho

/-- the hypotheses are satisfiable, and the conclusion is what the model computes -/
example : cliOutcomeLine detEnv ["php", "x", "-T", "xor", "2"] = some .cliError := by decide +kernel
example : cliOutcomeLine detEnv ["bphp", "3", "2", "-T", "xor", "2", "-T", "none", "-T", "lift", "0"] =
    some .cliError := by decide +kernel
example : cliOutcomeLine detEnv ["bphp", "3", "2", "-T", "xor", "2", "-T", "none", "-T", "flip"] = some .ok := by
  decide +kernel
example : ChunkCovered ["xor", "2"] :=
  have ⟨h, s, hf, hs, hc, hi⟩ := exists_spec_of_find (fun h => h.kind == "transformation" && h.name == "xor")
    transCovered (inFragment · ["2"]) (by decide +kernel)
  Or.inr (Or.inr ⟨"xor", ["2"], h, s, rfl, hf, hs, hc, hi⟩)

end Cnfgen.C18
