/-
C18 / C17 — `php` (custom argparse action `PHPArgs`), end to end, and `dispatch` total on it.

`php <bipartite graph>`, `php N`, `php M N`, `php M N D`.  Proofs: Lemmas/OutcomePhp.lean (the action binds `B`, or
`degree`, `holes`, `pigeons` together; the three paths of `PHPCmdHelper.build_formula`).
-/
import Lemmas.OutcomePhp
import Props.C18.Graphs
namespace Cnfgen.C18
open Cnfgen Cnfgen.Cli Cnfgen.Gen

/-- the `php` sub-command the translator regenerates from the CURRENT source is the one the proofs below speak about
(a changed option, guard or argument of `PHPCmdHelper` breaks this) -/
theorem current_php_is_documented :
    cliSpecs.find? (fun s => s.name == "php" && s.kind == "formula") = some phpS :=
  rfl  -- not `decide`: the kernel then compares the string literals of the two entries as literals

/-- T-C17.5c′ TOTALITY for `php` (the sub-command `C17.dispatch_total` leaves out: its options are not standard).
For EVERY command line of the fragment `dispatch` returns a library call or a CLIError — never `unsupported`, never
another exception. -/
theorem dispatch_total_php (h : HelperSpec) (hspec : specOf h = some phpS) (argv : List String)
    (hf : inFragment phpS argv = true) :
    (∃ c, dispatch h argv = .ok c) ∨ dispatch h argv = .error .cliError := by
  unfold dispatch
  rw [hspec]
  dsimp only
  unfold dispatchSpec
  rcases parseArgs_total_supported phpS (by decide) argv hf with ⟨b, hb⟩ | he
  · obtain ⟨x, y, hp⟩ := oph_paths argv b hb
    rcases hp with ⟨toks, _, h1, h2⟩ | ⟨pp, hh, _, _, h1, h2⟩ | ⟨h1, h2⟩ <;>
    · rw [h1]; dsimp only; rw [h2]; exact Or.inl ⟨_, rfl⟩
  · right
    rw [dispatchTemplate_parse_err phpS (by decide) argv _ he]

/-- T-C18.G6 END TO END for `php`.  For EVERY token list of the fragment and EVERY graph environment the run

* ends in `ok` or in a `cliError`, or
* takes the path `php M N D` with `D ≠ N` (the helper draws a random left-regular bipartite graph itself: the model
  gives no outcome — observed by the correspondence of C17 and the oracle of C18);

and it ends in `ok` exactly when the parser accepts the tokens and either the argument is a bipartite graph that
`make_graph_from_spec` built, or the numbers select the plain principle (`php N`, `php M N`, `php M N N`) and are not
negative (the action refuses negative numbers itself, so this always holds — the theorem does not need it). -/
theorem end_to_end_php (env : GraphEnv) (h : HelperSpec) (hspec : specOf h = some phpS) (argv : List String)
    (hf : inFragment phpS argv = true) :
    (cliOutcomeG env h argv = some .ok ∨ cliOutcomeG env h argv = some .cliError ∨
      (cliOutcomeG env h argv = none ∧ ∃ ns, dispatchTemplate phpS argv = .ok (phpT3, ns))) ∧
    (cliOutcomeG env h argv = some .ok ↔
      (∃ ns toks, dispatchTemplate phpS argv = .ok (phpT1, ns) ∧
        ns.lookup "B" = some (.graph "bipartite" toks) ∧ (env.bip 0 toks).isSome = true) ∨
      (∃ ns pp hh, dispatchTemplate phpS argv = .ok (phpT2, ns) ∧ ns.lookup "pigeons" = some (.int pp) ∧
        ns.lookup "holes" = some (.int hh) ∧ 0 ≤ pp ∧ 0 ≤ hh)) := by
  rcases parseArgs_total_supported phpS (by decide) argv hf with ⟨b, hb⟩ | he
  · obtain ⟨x, y, hp⟩ := oph_paths argv b hb
    rcases hp with ⟨toks, hlook, h1, h2⟩ | ⟨pp, hh, hl1, hl2, h1, h2⟩ | ⟨h1, h2⟩
    · -- the graph form
      rw [oph_outcome env h phpS hspec argv _ _ _ h1 h2, oph_eval_graph]
      cases hg : env.bip 0 toks with
      | none =>
        refine ⟨Or.inr (Or.inl rfl), ?_⟩
        constructor
        · intro hh; cases hh
        · rintro (⟨ns, toks', hd, hl, hs⟩ | ⟨ns, _, _, hd, _⟩)
          · rw [h1] at hd
            cases hd
            rw [hlook] at hl
            cases hl
            rw [hg] at hs; cases hs
          · rw [h1] at hd; cases hd
      | some B =>
        refine ⟨Or.inl rfl, ?_⟩
        constructor
        · intro _
          exact Or.inl ⟨_, toks, h1, hlook, by rw [hg]; rfl⟩
        · intro _; rfl
    · -- the plain principle
      rw [oph_outcome env h phpS hspec argv _ _ _ h1 h2, oph_eval_numbers]
      simp only [Option.map_some, Option.some.injEq]
      rcases php_dich pp hh x y with ⟨he, hnot⟩ | ⟨⟨F, hF⟩, hpre⟩
      · rw [he]
        refine ⟨Or.inr (Or.inl rfl), ?_⟩
        constructor
        · intro hc; cases hc
        · rintro (⟨ns, toks', hd, _⟩ | ⟨ns, pp', hh', hd, hl1', hl2', hpos⟩)
          · rw [h1] at hd; cases hd
          · rw [h1] at hd
            cases hd
            rw [hl1] at hl1'; rw [hl2] at hl2'
            cases hl1'; cases hl2'
            exact absurd hpos hnot
      · rw [hF]
        refine ⟨Or.inl rfl, ?_⟩
        constructor
        · intro _
          exact Or.inr ⟨_, pp, hh, h1, hl1, hl2, hpre⟩
        · intro _; rfl
    · -- `php M N D`, D ≠ N
      rw [oph_outcome env h phpS hspec argv _ _ _ h1 h2, oph_eval_random]
      refine ⟨Or.inr (Or.inr ⟨rfl, _, h1⟩), ?_⟩
      constructor
      · intro hh; cases hh
      · rintro (⟨ns, toks', hd, _⟩ | ⟨ns, _, _, hd, _⟩) <;> (rw [h1] at hd; cases hd)
  · have hd := dispatchTemplate_parse_err phpS (by decide) argv _ he
    rw [oph_outcome_err env h phpS hspec argv hd]
    refine ⟨Or.inr (Or.inl rfl), ?_⟩
    constructor
    · intro hh; cases hh
    · rintro (⟨ns, toks', hd', _⟩ | ⟨ns, _, _, hd', _⟩) <;> (rw [hd] at hd'; cases hd')

/-- the hypotheses are satisfiable: the helper of `php` has exactly this specification, and `3 2 --functional` is in the
fragment -/
example : (helpers.find? (fun h => h.kind == "formula" && h.name == "php")).bind specOf = some phpS ∧
    inFragment phpS ["3", "2", "--functional"] = true := by decide +kernel

example : (helpers.find? (fun h => h.name == "php")).bind (fun h => cliOutcomeG detEnv h ["3", "2"]) = some .ok := by
  decide +kernel
example : (helpers.find? (fun h => h.name == "php")).bind (fun h => cliOutcomeG detEnv h ["3", "2", "1"]) = none := by
  decide +kernel
example : (helpers.find? (fun h => h.name == "php")).bind (fun h => cliOutcomeG detEnv h ["3", "-2"]) =
    some .cliError := by decide +kernel

end Cnfgen.C18
