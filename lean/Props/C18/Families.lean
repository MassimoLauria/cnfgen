/-
C18 — the generators can fail only with ValueError, which `cli()` shields (`C18.shield_total`):
for every family model and every argument tuple (also out-of-range ones) the outcome of the build step is
a formula or a command-line error, never an escaped exception.
-/
import Props.C18
import Lemmas.Dich
import CnfgenModel.Fam.Php
import CnfgenModel.Fam.Counting
import CnfgenModel.Fam.CliqueColoring
import CnfgenModel.Fam.Coloring
import CnfgenModel.Fam.DomSet
import CnfgenModel.Fam.Ordering
import CnfgenModel.Fam.Pebbling
import CnfgenModel.Fam.Subgraph
import CnfgenModel.Fam.Ramsey
namespace Cnfgen.C18
open Cnfgen Cnfgen.Cli Cnfgen.Fam

/-- a build step is *clean* when it can only fail with ValueError.  (`Clean` of Props/C18/Tools.lean, on the outcomes of the
two small tools, is another notion under the same name; the two files are never imported together.) -/
def Clean {α : Type} (r : Except Err α) : Prop := ∀ e, r = .error e → e = .valueError

theorem clean_of_dich {α : Type} {x : Except Err α} {P : Prop} (h : Dich x P) : Clean x := by
  rintro e rfl
  rcases h with ⟨he, _⟩ | ⟨⟨F, hF⟩, _⟩
  · exact (Except.error.inj he)
  · cases hF

theorem dich_shielded {α : Type} {x : Except Err α} {P : Prop} (h : Dich x P) :
    shield x = .ok ∨ shield x = .cliError :=
  shield_total _ (clean_of_dich h)

theorem bphp_clean (m n : Int) : Clean (bphp m n) := clean_of_dich (bphp_dich m n)

theorem rphp_clean (m r n : Int) : Clean (rphp m r n) := clean_of_dich (rphp_dich m r n)

theorem cliqueColoring_clean (n k c : Int) : Clean (cliqueColoring n k c) := clean_of_dich (cliqueColoring_dich n k c)

theorem ramseyWitness_clean (G : SimpleG) (k s : Int) (sb : Bool) : Clean (G2.ramseyWitnessFormula G k s sb) :=
  clean_of_dich (ramseyWitness_dich G k s sb)

/-- the build step of every sub-command modelled here ends in a formula or a command-line error -/
theorem families_shielded :
    (∀ m n f o, shield (php m n f o) = .ok ∨ shield (php m n f o) = .cliError) ∧
    (∀ M p, shield (counting M p) = .ok ∨ shield (counting M p) = .cliError) ∧
    (∀ D, shield (Pebbling.pebbling D) = .ok ∨ shield (Pebbling.pebbling D) = .cliError) ∧
    (∀ D k, shield (Pebbling.stone D k) = .ok ∨ shield (Pebbling.stone D k) = .cliError) ∧
    (∀ n t s p k, shield (Ordering.op n t s p k) = .ok ∨ shield (Ordering.op n t s p k) = .cliError) :=
  ⟨fun m n f o => dich_shielded (php_dich m n f o), fun M p => dich_shielded (counting_dich M p),
   fun D => dich_shielded (pebbling_dich D), fun D k => dich_shielded (stone_dich D k),
   fun n t s p k => dich_shielded (op_dich n t s p k)⟩

example : shield (php (-1) 3 false false) = .cliError := by decide
example : shield (counting 4 0) = .cliError := by decide

end Cnfgen.C18
