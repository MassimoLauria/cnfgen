/-
C18 (end to end, GRAPH arguments) — a command line with graph arguments ends in a usable formula or a clean, shielded
error.

`cliOutcomeG env` (CnfgenModel/Cli/OutcomeG.lean) = `dispatch` ▸ the graphs named by the graph arguments (`env`: the
result of `make_graph_from_spec` on the tokens of each graph argument — object, or refusal) ▸ family model ▸ `shield`.
Proofs: Lemmas/OutcomeG.lean.  `make_graph_from_spec` itself — every construction, modifier, file, random draws as
explicit draw lists — is the subject of `C15.make_graph_clean`; `graph_argument_outcomes` below says what a `GraphEnv`
abstracts from its runs.
-/
import Lemmas.OutcomeG
import Props.C18.Families
import Props.C15.GraphSpecObtain
namespace Cnfgen.C18
open Cnfgen Cnfgen.Cli Cnfgen.Gen Cnfgen.GCli Cnfgen.GRand

/-- the sub-commands of `end_to_end_graph`: standard options, every path of the helper raises a shielded exception or
calls a generator with graph arguments that `evalCallG` maps, with arguments of the right sort at every position -/
theorem graph_covered_commands :
    (cliSpecs.filter graphCovered).map (fun s => s.name) =
      ["domset", "ec", "iso", "kclique", "kcliquebin", "kcolor", "matching", "peb", "ramlb", "subgraph", "tiling"] := by
  decide +kernel

/-- `stone`: the paths `degree > stones` (the helper's own ValueError) and `StoneFormula(D, s)` are covered; the path
`--sparse d` with `d ≤ s` draws a random bipartite graph inside the helper and is not mapped by `evalCallG` -/
theorem stone_paths :
    (cliSpecs.filter (fun s => s.name == "stone")).map (fun s => s.templates.map (fun t =>
      pathCovered s t)) = [[true, false, true]] := by decide +kernel

theorem withS_clean (g : Option SimpleG) (f : SimpleG → Except Err Formula) (hf : ∀ G, Clean (f G)) :
    (withS g f).outcome = .ok ∨ (withS g f).outcome = .cliError := by
  cases g; exacts [Or.inr rfl, shield_total _ (hf _)]

theorem withD_clean (g : Option DiG) (f : DiG → Except Err Formula) (hf : ∀ G, Clean (f G)) :
    (withD g f).outcome = .ok ∨ (withD g f).outcome = .cliError := by
  cases g; exacts [Or.inr rfl, shield_total _ (hf _)]

theorem withB_clean (g : Option BipG) (f : BipG → Except Err Formula) (hf : ∀ G, Clean (f G)) :
    (withB g f).outcome = .ok ∨ (withB g f).outcome = .cliError := by
  cases g; exacts [Or.inr rfl, shield_total _ (hf _)]

theorem ok_clean {α : Type} (a : α) : Clean (Except.ok a : Except Err α) := by
  intro e h; cases h

/-- T-C18.G1 every build step with graph arguments that `evalCallG` maps ends in a formula or a command-line error —
whatever the graph environment, the namespace and the call: a refused graph argument is a CLIError, the generators
raise nothing but ValueError -/
theorem mapped_graph_steps_clean (env : GraphEnv) (ns : Ns) (c : Call) (bt : Built)
    (h : evalCallG env ns c = some bt) : bt.outcome = .ok ∨ bt.outcome = .cliError := by
  unfold evalCallG at h
  cases hl : gHandlers.lookup c.fn with
  | none => rw [hl] at h; cases h
  | some f =>
    rw [hl] at h
    dsimp only at h
    have hm := dtot_lookup_mem gHandlers c.fn f hl
    simp only [gHandlers, List.mem_cons, List.not_mem_nil, or_false, Prod.mk.injEq] at hm
    rcases hm with ⟨_, rfl⟩ | ⟨_, rfl⟩ | ⟨_, rfl⟩ | ⟨_, rfl⟩ | ⟨_, rfl⟩ | ⟨_, rfl⟩ | ⟨_, rfl⟩ | ⟨_, rfl⟩ | ⟨_, rfl⟩ |
      ⟨_, rfl⟩ | ⟨_, rfl⟩ | ⟨_, rfl⟩ | ⟨_, rfl⟩ | ⟨_, rfl⟩ | ⟨_, rfl⟩ | ⟨_, rfl⟩
    -- every handler is a `match` on the arguments whose only answering branch wraps a clean generator; the sixteen
    -- goals below come in the order of `gHandlers`, which is the order of the `dsimp only` list
    all_goals
      dsimp only [gClique, gBinClique, gRamseyWitness, gColoring, gEvenColoring, gDomset, gTiling, gMatching,
        gAutomorphism, gIsomorphism, gSubgraph, gPebbling, gStone, gGraphPhp, gGraphOrdering, gTseitin] at h
    all_goals split at h <;> try cases h
    · exact withS_clean _ _ (fun G => clean_of_dich (cliqueFormula_dich G _ _))
    · exact withS_clean _ _ (fun G => clean_of_dich (binaryCliqueFormula_dich G _ _))
    · exact withS_clean _ _ (fun G => ramseyWitness_clean G _ _ _)
    · exact withS_clean _ _ (fun G => clean_of_dich (coloring_dich G _ _))
    · exact withS_clean _ _ (fun G => clean_of_dich (evenColoring_dich G))
    · exact withS_clean _ _ (fun G => clean_of_dich (domset_dich G _ _))
    · exact withS_clean _ _ (fun G => ok_clean _)
    · exact withS_clean _ _ (fun G => ok_clean _)
    · exact withS_clean _ _ (fun G => ok_clean _)
    · split
      · exact Or.inl rfl
      · exact Or.inr rfl
    · split
      · exact Or.inl rfl
      · exact Or.inr rfl
    · exact withD_clean _ _ (fun D => clean_of_dich (pebbling_dich D))
    · exact withD_clean _ _ (fun D => clean_of_dich (stone_dich D _))
    · exact withB_clean _ _ (fun B => ok_clean _)
    · split at h <;> cases h
      exact withS_clean _ _ (fun G => ok_clean _)
    · split at h
      · cases h; exact Or.inr rfl
      · split at h <;> cases h
        exact Or.inl rfl

/-- … and so is every numeric one, hence every build step of `evalCallAny` -/
theorem mapped_any_steps_clean (env : GraphEnv) (g : SimpleG) (ns : Ns) (c : Call) (bt : Built)
    (h : evalCallAny env g ns c = some bt) : bt.outcome = .ok ∨ bt.outcome = .cliError := by
  unfold evalCallAny at h
  cases hg : evalCallG env ns c with
  | some b => rw [hg] at h; cases h; exact mapped_graph_steps_clean env ns c _ hg
  | none =>
    rw [hg] at h
    cases hf : evalCallF g c with
    | none => rw [hf] at h; cases h
    | some r =>
      rw [hf] at h
      obtain rfl := Option.some.inj h
      have h1 : evalCall c = some (forget r) := by rw [evalCall_eq_forget g c, hf]; rfl
      rcases evalCall_clean c _ h1 with h2 | h2
      · obtain ⟨F, rfl⟩ := (dout_forget_ok r).1 h2
        exact Or.inl rfl
      · obtain rfl := (dout_forget_err r .valueError).1 h2
        exact Or.inr rfl

theorem shield_ok_iff {α : Type} (r : Except Err α) : shield r = .ok ↔ ∃ F, r = .ok F := by
  cases r with
  | ok F => simp [shield]
  | error e => cases e <;> simp [shield]

/-- T-C18.G2 a step with one graph argument is `ok` exactly when the graph was built and the generator accepts it -/
theorem withS_ok_iff (g : Option SimpleG) (f : SimpleG → Except Err Formula) :
    (withS g f).outcome = .ok ↔ ∃ G, g = some G ∧ ∃ F, f G = .ok F := by
  cases g <;> simp [withS, Built.outcome, shield_ok_iff]

theorem withD_ok_iff (g : Option DiG) (f : DiG → Except Err Formula) :
    (withD g f).outcome = .ok ↔ ∃ G, g = some G ∧ ∃ F, f G = .ok F := by
  cases g <;> simp [withD, Built.outcome, shield_ok_iff]

/-- the preconditions of the generators with graph arguments, on graph OBJECTS: what remains to hold once every graph
argument has been built -/
theorem graph_generator_preconditions :
    (∀ G k sb, (∃ F, Fam.G2.cliqueFormula G k sb = .ok F) ↔ 0 ≤ k) ∧
    (∀ G k sb, (∃ F, Fam.G2.binaryCliqueFormula G k sb = .ok F) ↔ 0 ≤ k) ∧
    (∀ G k s sb, (∃ F, Fam.G2.ramseyWitnessFormula G k s sb = .ok F) ↔ 0 ≤ k ∧ 0 ≤ s) ∧
    (∀ G k fn, (∃ F, Fam.coloring G k fn = .ok F) ↔ 0 ≤ k) ∧
    (∀ G, (∃ F, Fam.evenColoring G = .ok F) ↔ ∀ v ∈ rangeN 1 (G.n + 1), (G.nbrs v).length % 2 = 0) ∧
    (∀ G d alt, (∃ F, Fam.domset G d alt = .ok F) ↔ 1 ≤ d) ∧
    (∀ D, (∃ F, Fam.Pebbling.pebbling D = .ok F) ↔ D.stillDag = true) ∧
    (∀ D s, (∃ F, Fam.Pebbling.stone D s = .ok F) ↔ D.stillDag = true ∧ 0 ≤ s) :=
  ⟨fun G k sb => dich_ok_iff (cliqueFormula_dich G k sb), fun G k sb => dich_ok_iff (binaryCliqueFormula_dich G k sb),
   fun G k s sb => dich_ok_iff (ramseyWitness_dich G k s sb), fun G k fn => dich_ok_iff (coloring_dich G k fn),
   fun G => dich_ok_iff (evenColoring_dich G), fun G d alt => dich_ok_iff (domset_dich G d alt),
   fun D => dich_ok_iff (pebbling_dich D), fun D s => dich_ok_iff (stone_dich D s)⟩

theorem specOf_mem (h : HelperSpec) (s : CliSpec) (hspec : specOf h = some s) : s ∈ cliSpecs :=
  dout_specOf_mem h s hspec

/-- T-C18.G3 END TO END with graph arguments, path by path.  For every sub-command with standard options, EVERY token
list of the argparse fragment and EVERY graph environment: the parser refuses the tokens (CLIError), or the helper takes a
path `t` (`dispatchTemplate`); when that path is covered (`pathCovered`: it raises a shielded exception, or calls a
mapped generator with arguments of the right sort) the run ends in `ok` or in a `cliError` — never an escaped
exception, never an internal bug, never outside the model — and it ends in `ok` EXACTLY when the path is a library
call `c` whose build step — graphs from `env`, then the family model — returns a formula. -/
theorem end_to_end_graph_path (env : GraphEnv) (h : HelperSpec) (s : CliSpec) (hspec : specOf h = some s)
    (hstd : s.standard = true) (argv : List String) (hf : inFragment s argv = true)
    (hpath : ∀ t ns, dispatchTemplate s argv = .ok (t, ns) → pathCovered s t = true) :
    (cliOutcomeG env h argv = some .ok ∨ cliOutcomeG env h argv = some .cliError) ∧
    (cliOutcomeG env h argv = some .ok ↔
      ∃ t ns c bt, dispatchTemplate s argv = .ok (t, ns) ∧ instantiate ns t = .ok c ∧
        evalCallG env ns c = some bt ∧ bt.outcome = .ok) := by
  have hs := specOf_mem h s hspec
  unfold cliOutcomeG
  rw [hspec]
  dsimp only
  rcases parseArgs_total_supported s (supported_of_standard s hstd) argv hf with ⟨b, hb⟩ | he
  · obtain ⟨t, _, _, hd, hor⟩ := og_path s hstd hs argv b hb env
    have hor := hor (hpath t _ hd)
    rw [hd]
    dsimp only
    rcases hor with ⟨_, hi⟩ | ⟨c, hi, hsome⟩
    · rw [hi]
      refine ⟨Or.inr rfl, ?_⟩
      constructor
      · intro hh; cases hh
      · rintro ⟨t', ns', c', bt, h1, h2, _⟩
        cases h1
        rw [hi] at h2; cases h2
    · rw [hi]
      dsimp only
      obtain ⟨bt, hbt⟩ := Option.isSome_iff_exists.1 hsome
      have hany : evalCallAny env ⟨1, 0, [[], []], []⟩ (namespaceOf s b) c = some bt := by
        unfold evalCallAny; rw [hbt]
      rw [hany]
      simp only [Option.map_some, Option.some.injEq]
      refine ⟨mapped_graph_steps_clean env _ c bt hbt, ?_⟩
      constructor
      · intro hh
        exact ⟨t, _, c, bt, rfl, hi, hbt, hh⟩
      · rintro ⟨t', ns', c', bt', h1, h2, h3, h4⟩
        cases h1
        rw [hi] at h2; cases h2
        rw [hbt] at h3; cases h3
        exact h4
  · have hd := dispatchTemplate_parse_err s (supported_of_standard s hstd) argv _ he
    rw [hd]
    refine ⟨Or.inr rfl, ?_⟩
    constructor
    · intro hh; cases hh
    · rintro ⟨t', ns', c', bt, h1, _⟩
      cases h1

/-- the path a command line takes is one of the paths of the helper -/
theorem dispatchTemplate_mem (s : CliSpec) (argv : List String) (t : CallTemplate) (ns : Ns)
    (h : dispatchTemplate s argv = .ok (t, ns)) : t ∈ s.templates :=
  Cli.dispatchTemplate_mem s argv t ns h

/-- T-C18.G3′ END TO END with graph arguments: for the covered sub-commands (`graph_covered_commands`: every path is
covered) the conclusion of `end_to_end_graph_path` holds for EVERY token list of the fragment. -/
theorem end_to_end_graph (env : GraphEnv) (h : HelperSpec) (s : CliSpec) (hspec : specOf h = some s)
    (hc : graphCovered s = true) (argv : List String) (hf : inFragment s argv = true) :
    (cliOutcomeG env h argv = some .ok ∨ cliOutcomeG env h argv = some .cliError) ∧
    (cliOutcomeG env h argv = some .ok ↔
      ∃ t ns c bt, dispatchTemplate s argv = .ok (t, ns) ∧ instantiate ns t = .ok c ∧
        evalCallG env ns c = some bt ∧ bt.outcome = .ok) := by
  unfold graphCovered at hc
  simp only [Bool.and_eq_true] at hc
  exact end_to_end_graph_path env h s hspec hc.1 argv hf
    (fun t ns hd => List.all_eq_true.1 hc.2 t (dispatchTemplate_mem s argv t ns hd))

/-- the path `SparseStoneFormula(D, bipartite_random_left_regular(D.order(), s, sparse))` as the proof reads it: taken
only when `args.sparse is not None`; `D` a DAG argument that is always bound, `s` a typed positional, `sparse` a typed
option whose default is `None` -/
def sparseShape (s : CliSpec) (t : CallTemplate) : Bool :=
  t.raises == "" && t.fn == "SparseStoneFormula" &&
  (match t.pos with | [.arg "D", .opaque _ _] => true | _ => false) &&
  (match t.kw with | [("formula_class", .name _)] => true | _ => false) &&
  (match t.guard with | .and (.and (.hasattr "sparse") (.isNotNone (.arg "sparse"))) _ => true | _ => false) &&
  og_graphBound s "dag" "D" && dtot_intBound s "s" && dtot_intOrNone s "sparse"

theorem stone_paths_x : ∀ s ∈ cliSpecs, s.name = "stone" →
    s.standard = true ∧ ∀ t ∈ s.templates, pathCovered s t = true ∨ sparseShape s t = true := by decide +kernel

/-- `stone`: every command line that does not take the path `--sparse d` with `d ≤ stones` (the helper then draws a
random bipartite graph itself: not mapped) ends in `ok` or in a `cliError` -/
theorem end_to_end_stone (env : GraphEnv) (h : HelperSpec) (s : CliSpec) (hspec : specOf h = some s)
    (hname : s.name = "stone") (argv : List String) (hf : inFragment s argv = true)
    (hpath : ∀ t ns, dispatchTemplate s argv = .ok (t, ns) → t.fn ≠ "SparseStoneFormula") :
    cliOutcomeG env h argv = some .ok ∨ cliOutcomeG env h argv = some .cliError := by
  have hs := specOf_mem h s hspec
  obtain ⟨hstd, hcov⟩ := stone_paths_x s hs hname
  exact (end_to_end_graph_path env h s hspec hstd argv hf
    (fun t ns hd => (hcov t (dispatchTemplate_mem s argv t ns hd)).resolve_right fun hsp => by
      unfold sparseShape at hsp
      simp only [Bool.and_eq_true, beq_iff_eq] at hsp
      exact hpath t ns hd hsp.1.1.1.1.1.1.2)).1

/-- … in particular no exception escapes and `cli()` never reports an internal bug -/
theorem never_escapes_graph (env : GraphEnv) (h : HelperSpec) (s : CliSpec) (hspec : specOf h = some s)
    (hc : graphCovered s = true) (argv : List String) (hf : inFragment s argv = true) :
    cliOutcomeG env h argv ≠ some .internalBug ∧ ∀ e, cliOutcomeG env h argv ≠ some (.escaped e) := by
  rcases (end_to_end_graph env h s hspec hc argv hf).1 with h1 | h1 <;> rw [h1] <;> simp

theorem selectTemplate_error (ns : Ns) (ts : List CallTemplate) (e : CliErr) (h : selectTemplate ns ts = .error e) :
    ∃ why, e = .unsupported why :=
  (selectTemplate_ends ns ts).err h

/-- every path of every formula helper that raises, raises an exception `cli()` shields (ValueError / CLIError) -/
theorem formula_helpers_raise_shielded :
    (cliSpecs.filter (fun s => s.kind == "formula")).all
      (fun s => s.templates.all (fun t => t.raises == "" || shielded t.raises)) = true := by decide +kernel

/-- T-C18.G4 (partial for `php`, `op`, `tseitin`, `subsetcard`, `stone --sparse`: what is missing is that the model
ANSWERS on every command line of the fragment — proved for the sub-commands of `end_to_end`, `end_to_end_graph`,
`end_to_end_stone` and, but for the path `php M N D`, `end_to_end_php` (Props/C18/Php.lean); the interpreter
`cliOutcomeX` (theorems: Props/C18/AllTokens.lean) answers on all of them).  For EVERY formula sub-command the model
handles, every token list of the fragment and every graph environment: whenever the model gives an outcome, it is `ok`
or `cliError` — no path of `dispatch`, no mapped generator and no graph argument produces an escaping exception or an
internal bug. -/
theorem never_escapes_any_partial (env : GraphEnv) (h : HelperSpec) (s : CliSpec) (hspec : specOf h = some s)
    (hkind : s.kind = "formula") (argv : List String) (hf : inFragment s argv = true) (o : Outcome)
    (ho : cliOutcomeG env h argv = some o) : o = .ok ∨ o = .cliError := by
  have hs := specOf_mem h s hspec
  have hr : ∀ t ∈ s.templates, (t.raises == "" || shielded t.raises) = true := by
    have := List.all_eq_true.1 formula_helpers_raise_shielded s
      (List.mem_filter.2 ⟨hs, by simp [hkind]⟩)
    exact List.all_eq_true.1 this
  unfold cliOutcomeG at ho
  rw [hspec] at ho
  dsimp only at ho
  cases hd : dispatchTemplate s argv with
  | error e =>
    rw [hd] at ho
    unfold dispatchTemplate at hd
    split at hd
    · cases hd; cases ho
    · rename_i hsup
      have hsup' : s.supported = true := by simpa using hsup
      rcases parseArgs_total_supported s hsup' argv hf with ⟨b, hb⟩ | hb
      · rw [hb] at hd
        dsimp only at hd
        split at hd
        · rename_i e' hsel
          obtain ⟨why, rfl⟩ := selectTemplate_error _ _ _ hsel
          cases hd; cases ho
        · cases hd
      · rw [hb] at hd
        cases hd
        cases ho
        exact Or.inr rfl
  | ok tn =>
    obtain ⟨t, ns⟩ := tn
    rw [hd] at ho
    dsimp only at ho
    have htm := dispatchTemplate_mem s argv t ns hd
    cases hi : instantiate ns t with
    | error e =>
      rw [hi] at ho
      rcases instantiate_class ns t (hr t htm) with ⟨c, hc⟩ | hc | ⟨w, hc⟩ <;> rw [hc] at hi <;> cases hi
      · cases ho; exact Or.inr rfl
      · cases ho
    | ok c =>
      rw [hi] at ho
      dsimp only at ho
      cases ha : evalCallAny env ⟨1, 0, [[], []], []⟩ ns c with
      | none => rw [ha] at ho; cases ho
      | some bt =>
        rw [ha] at ho
        simp only [Option.map_some, Option.some.injEq] at ho
        subst ho
        exact mapped_any_steps_clean env _ ns c bt ha

/-- T-C18.G5 for every graph type, EVERY token list, every world (values of the numerals, results of the third-party
generators, outcome of opening and reading a file — exceptions of the class `isOSError`, the reader returning an
object of the class of the graph type and raising no third-party exception), every draw list and recursion budget: the
argparse action (`except ValueError` / `except OSError` → `parser.error`) sees a graph or turns the exception into a
CLIError — `graphOfRun` is `some _` — unless the draw list does not fit the run (`stuck`) or the construction
`regular` exhausts the recursion budget (`C15.regular_restart_budget_witness`): the only exception of a graph
argument that can escape. -/
theorem graph_argument_outcomes {ty : String} (hk : C15.Known ty) (w : GSpec.World) (toks : List String)
    (isOSError : Err → Bool)
    (hext : ∀ g, w.ext = some g → kindOK .simple g)
    (hopen : ∀ e, w.openFile = .error e → isOSError e = true)
    (hread : ∀ ds e, w.readGraph ds = .exc e → isOSError e = true)
    (hkind : ∀ gt, GSpec.gtypeOf ty = some gt → Returns (kindOK gt) w.readGraph)
    (hnf : NoForeign w.readGraph) (ds : List Draw) :
    (∃ r, graphOfRun isOSError (GSpec.makeGraphFromSpec w ty toks ds) = some r) ∨
    GSpec.makeGraphFromSpec w ty toks ds = .stuck ∨
    (GSpec.makeGraphFromSpec w ty toks ds = .exc .recursion ∧ toks.head? = some "regular") := by
  cases hr : GSpec.makeGraphFromSpec w ty toks ds with
  | ok a rest => obtain ⟨G, sv⟩ := a; exact Or.inl ⟨some G, rfl⟩
  | stuck => exact Or.inr (Or.inl rfl)
  | foreign => exact absurd hr (C15.make_graph_noForeign w ty toks hnf ds)
  | exc e =>
    rcases C15.make_graph_clean hk w toks (fun e => isOSError e = true) hext hopen hread hkind ds e hr with
      h1 | ⟨h1, h2⟩ | h1
    · subst h1; exact Or.inl ⟨none, rfl⟩
    · subst h1; exact Or.inr (Or.inr ⟨rfl, h2⟩)
    · exact Or.inl ⟨none, by simp [graphOfRun, h1]⟩

example : cliOutcomeNamed "formula" "kcolor" ["3", "complete", "4"] = none := by decide +kernel
example : (helpers.find? (fun h => h.name == "kcolor")).bind (fun h => cliOutcomeG detEnv h ["3", "complete", "4"]) =
    some .ok := by decide +kernel
example : (helpers.find? (fun h => h.name == "kcolor")).bind (fun h => cliOutcomeG detEnv h ["3", "complete", "0"]) =
    some .cliError := by decide +kernel
example : (helpers.find? (fun h => h.name == "kcolor")).bind (fun h => cliOutcomeG detEnv h ["0", "complete", "3"]) =
    some .cliError := by decide +kernel
example : (helpers.find? (fun h => h.name == "peb")).bind (fun h => cliOutcomeG detEnv h ["pyramid", "2"]) =
    some .ok := by decide +kernel
example : (helpers.find? (fun h => h.name == "peb")).bind (fun h => cliOutcomeG detEnv h ["pyramid", "2", ""]) =
    some .cliError := by decide +kernel
example : (helpers.find? (fun h => h.name == "iso")).bind
    (fun h => cliOutcomeG detEnv h ["complete", "3", "-e", "empty", "3"]) = some .ok := by decide +kernel
example : (helpers.find? (fun h => h.name == "stone")).bind
    (fun h => cliOutcomeG detEnv h ["2", "pyramid", "1", "--sparse", "3"]) = some .cliError := by decide +kernel
example : (helpers.find? (fun h => h.name == "php")).bind
    (fun h => cliOutcomeG detEnv h ["complete", "3", "2", "--functional"]) = some .ok := by decide +kernel
example : (helpers.find? (fun h => h.name == "tseitin")).bind
    (fun h => cliOutcomeG detEnv h ["first", "complete", "4"]) = some .ok := by decide +kernel
example : (helpers.find? (fun h => h.name == "op")).bind
    (fun h => cliOutcomeG detEnv h ["--total", "complete", "3"]) = some .ok := by decide +kernel
/-- the hypotheses of `end_to_end_graph` are satisfiable -/
example : ∃ h s, specOf h = some s ∧ graphCovered s = true ∧ inFragment s ["3", "complete", "4"] = true :=
  have ⟨h, s, _, hs⟩ := exists_spec_of_find (·.name == "kclique") graphCovered (inFragment · ["3", "complete", "4"]) (by decide +kernel)
  ⟨h, s, hs⟩

end Cnfgen.C18
