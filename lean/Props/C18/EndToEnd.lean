/-
C18 (end to end) — a command line ends in a usable formula or a clean, shielded error.

`cliOutcome` (CnfgenModel/Cli/Outcome.lean) = `dispatch` (the command line → library call interpreter of C17, over
the call templates regenerated from the helpers' source on every run) ▸ `evalCall` (the family models) ▸ `shield`
(the try/except of `cli()`).  Proofs: Lemmas/Outcome.lean.
-/
import Lemmas.Outcome
import Props.C18.Families
namespace Cnfgen.C18
open Cnfgen Cnfgen.Cli Cnfgen.Gen

/-- the sub-commands covered by the end-to-end theorem: the numeric sub-commands WITHOUT options whose single
unguarded path is one library call that `evalCall` maps to a family model (`outcomeCovered`) — a subset of the class
of `C17.positional_tokens_no_swap` (`randkcnf`, `randkxor` and the transformations are numeric too, but their calls
are not mapped) -/
theorem covered_commands :
    (cliSpecs.filter outcomeCovered).map (fun s => (s.kind, s.name)) =
      [("formula", "bphp"), ("formula", "cliquecoloring"), ("formula", "count"), ("formula", "cpls"),
       ("formula", "parity"), ("formula", "pitfall"), ("formula", "ptn"), ("formula", "ram"),
       ("formula", "rphp")] := by
  have h := congrArg (List.map Prod.fst) dout_covered_table
  rw [List.map_map] at h
  exact h

/-- for the covered sub-commands every positional has an integer validator, the call template takes the positionals
(and integer constants) at the number of arguments the family model expects, keywords are constants -/
theorem covered_calls_evaluate : (cliSpecs.filter outcomeCovered).all dout_shapeOK = true := dout_covered_shapeOK

/-- T-C18.E1 every build step `evalCall` maps succeeds or raises ValueError — nothing else — and it succeeds exactly
when the generator's documented precondition `GenPre` holds -/
theorem mapped_build_steps_clean (c : Call) (r : Except Err Unit) (h : evalCall c = some r) :
    (r = .ok () ∨ r = .error .valueError) ∧ (r = .ok () ↔ GenPre c) :=
  ⟨evalCall_clean c r h, evalCall_ok_iff c r h⟩

/-- T-C18.E2 END TO END.  For every covered sub-command and EVERY token list of the argparse fragment, the run ends in
`ok` or in a `cliError` — never an escaped exception, never an internal bug, never outside the model — and it ends in
`ok` EXACTLY when the number of tokens is the number of positionals, the i-th token passes the validator of the i-th
positional (value `vᵢ`), and the call made with `v₁ … vₙ` satisfies the generator's own precondition. -/
theorem end_to_end (h : HelperSpec) (s : CliSpec) (hspec : specOf h = some s)
    (hc : outcomeCovered s = true) (argv : List String) (hf : inFragment s argv = true) :
    (cliOutcome h argv = some .ok ∨ cliOutcome h argv = some .cliError) ∧
    (cliOutcome h argv = some .ok ↔
      ∃ vals : List Int, ∃ c : Call,
        (argTokens s argv).length = (positionals s).length ∧ vals.length = (positionals s).length ∧
        (∀ p ∈ ((positionals s).zip (argTokens s argv)).zip vals, validate p.1.1.ty p.1.2 = some p.2) ∧
        callOfVals s vals = some c ∧ GenPre c) :=
  cliOutcome_covered h s hspec hc argv hf

/-- … in particular no exception escapes and `cli()` never reports an internal bug -/
theorem never_escapes (h : HelperSpec) (s : CliSpec) (hspec : specOf h = some s)
    (hc : outcomeCovered s = true) (argv : List String) (hf : inFragment s argv = true) :
    cliOutcome h argv ≠ some .internalBug ∧ ∀ e, cliOutcome h argv ≠ some (.escaped e) := by
  rcases (end_to_end h s hspec hc argv hf).1 with h1 | h1 <;> rw [h1] <;> simp

theorem ptn_clean (N : Int) : Clean (Fam.Ramsey.ptn N) := clean_of_dich (ptn_dich N)

theorem ramseyNumber_clean (s k N : Int) : Clean (Fam.Ramsey.ramseyNumber s k N) := clean_of_dich (ramseyNumber_dich s k N)

theorem vdw_clean (N k1 k2 : Int) (ks : List Int) : Clean (Fam.Ramsey.vdw N k1 k2 ks) :=
  clean_of_dich (vdw_dich N k1 k2 ks)

theorem cpls_clean (a b c : Int) : Clean (Fam.Cpls.cpls a b c) := clean_of_dich (cpls_dich a b c)

theorem pitfall_check_clean (v d ny nz k : Int) : Clean (Fam.Pitfall.check v d ny nz k) := by
  rintro e he
  rcases FamPitfall.check_ok_or_valueError v d ny nz k with h | h <;> rw [h] at he <;> cases he
  rfl

example : cliOutcomeNamed "formula" "pitfall" ["2", "2", "2", "2", "2"] = some .cliError := by decide +kernel
example : cliOutcomeNamed "formula" "pitfall" ["4", "3", "1", "2", "2"] = some .ok := by decide +kernel
example : cliOutcomeNamed "formula" "pitfall" ["4", "3", "1", "2", "x"] = some .cliError := by decide +kernel
example : cliOutcomeNamed "formula" "cpls" ["2", "3", "4"] = some .cliError := by decide +kernel
example : cliOutcomeNamed "formula" "bphp" ["0", "3"] = some .cliError := by decide +kernel
example : cliOutcomeNamed "formula" "count" ["4", "0"] = some .cliError := by decide +kernel
example : cliOutcomeNamed "formula" "ram" ["3", "3", "5"] = some .ok := by decide +kernel
example : cliOutcomeNamed "formula" "php" ["-1"] = some .cliError := by decide +kernel
example : cliOutcomeNamed "formula" "op" ["--total", "4"] = some .ok := by decide +kernel
example : cliOutcomeNamed "formula" "kcolor" ["3", "complete", "4"] = none := by decide +kernel
/-- the hypotheses of `end_to_end` are satisfiable -/
example : ∃ h s, specOf h = some s ∧ outcomeCovered s = true ∧ inFragment s ["5", "3"] = true :=
  have ⟨h, s, _, hs⟩ := exists_spec_of_find (·.name == "bphp") outcomeCovered (inFragment · ["5", "3"]) (by decide +kernel)
  ⟨h, s, hs⟩

end Cnfgen.C18
