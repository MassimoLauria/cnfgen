/-
C18 (output text) — what a successful run writes is a complete formula that the strict reader of the chosen format
accepts: header counts matching the body, nothing but comments around it.

`cliText` (CnfgenModel/Cli/Text.lean) = the writer of the output format applied to the rendering (CNF for `cnfgen`,
OPB for `pbgen`) of the formula of the family model reached by `dispatch`, under the header `cli()` completes and the
variable names — both arbitrary.  `cli_output_strictly_readable` rests on the character-level round trips
`C06.dimacs_text_roundtrip`, `C12.opb_text_roundtrip`, `C12.opb_text_roundtrip_cnf`; `text_or_nothing` composes it with
`C18.end_to_end`.
-/
import Lemmas.CliText
import Lemmas.Tools
import Props.C18.EndToEnd
import Props.C06.Text
import Props.C12.Text
import Props.C01.Php
import Props.C01.Bphp
import Props.C01.Rphp
import Props.C01.Counting
import Props.C01.CliqueColoring
import Props.C03.Ramsey
import Props.C03.Order
namespace Cnfgen.C18
open Cnfgen Cnfgen.Cli Cnfgen.Gen Cnfgen.IO

theorem php_ok_wf (m n : Int) (f o : Bool) (F : Formula) (h : Fam.php m n f o = .ok F) : F.WF := by
  unfold Fam.php at h
  split at h
  · cases h
  · cases h; exact C01.php_wf _ _ f o

theorem bphp_ok_wf (m n : Int) (F : Formula) (h : Fam.bphp m n = .ok F) : F.WF := by
  unfold Fam.bphp at h
  split at h
  · cases h
  · cases h; exact C01.bphp_wf _ _

theorem rphp_ok_wf (m r n : Int) (F : Formula) (h : Fam.rphp m r n = .ok F) : F.WF := by
  unfold Fam.rphp at h
  split at h
  · cases h
  · cases h; exact C01.rphp_wf _ _ _

theorem counting_ok_wf (m p : Int) (F : Formula) (h : Fam.counting m p = .ok F) : F.WF := by
  unfold Fam.counting at h
  split at h
  · cases h
  · split at h
    · cases h
    · cases h; exact C01.counting_wf _ _

theorem cliqueColoring_ok_wf (n k c : Int) (F : Formula) (h : Fam.cliqueColoring n k c = .ok F) : F.WF := by
  unfold Fam.cliqueColoring at h
  split at h
  · cases h
  · cases h; exact C01.cc_wf _ _ _

theorem op_ok_wf (n : Int) (t s p : Bool) (k : Int) (F : Formula) (h : Fam.Ordering.op n t s p k = .ok F) :
    F.WF := by
  unfold Fam.Ordering.op at h
  split at h
  · cases h
  · cases h; exact Fam.Ordering.gop_wf _ (Fam.Ordering.completeG_ok _) t s p k

theorem ptn_ok_wf (n : Int) (F : Formula) (h : Fam.Ramsey.ptn n = .ok F) : F.WF := by
  have hp := dich_ok (ptn_dich n) h
  have hn : n = ((n.toNat : Nat) : Int) := by omega
  rw [hn] at h
  exact (C03.ptn_nvars_wf n.toNat F h).2

theorem ramseyNumber_ok_wf (s k n : Int) (F : Formula) (h : Fam.Ramsey.ramseyNumber s k n = .ok F) : F.WF := by
  have hp := dich_ok (ramseyNumber_dich s k n) h
  have hs : s = ((s.toNat : Nat) : Int) := by omega
  have hk : k = ((k.toNat : Nat) : Int) := by omega
  have hn : n = ((n.toNat : Nat) : Int) := by omega
  rw [hs, hk, hn] at h
  exact (C03.ramsey_nvars_wf s.toNat k.toNat n.toNat (by omega) (by omega) F h).2

theorem map_toNat_cast (ks : List Int) (h : ∀ x ∈ ks, 1 ≤ x) :
    (ks.map Int.toNat).map (fun (x : Nat) => (x : Int)) = ks := by
  induction ks with
  | nil => rfl
  | cons a r ih =>
    have := h a (by simp)
    simp only [List.map_cons, List.cons.injEq]
    exact ⟨by omega, ih (fun x hx => h x (by simp [hx]))⟩

theorem vdw_ok_wf (n k1 k2 : Int) (ks : List Int) (F : Formula) (h : Fam.Ramsey.vdw n k1 k2 ks = .ok F) :
    F.WF := by
  obtain ⟨h0, h1, h2, h3⟩ := dich_ok (vdw_dich n k1 k2 ks) h
  have e1 : k1 = ((k1.toNat : Nat) : Int) := by omega
  have e2 : k2 = ((k2.toNat : Nat) : Int) := by omega
  have en : n = ((n.toNat : Nat) : Int) := by omega
  cases ks with
  | nil =>
    rw [en, e1, e2] at h
    exact (C03.vdw2_nvars_wf n.toNat k1.toNat k2.toNat (by omega) (by omega) F h).2
  | cons a r =>
    rw [en, e1, e2, ← map_toNat_cast (a :: r) h3] at h
    refine (C03.vdwMulti_nvars_wf n.toNat k1.toNat k2.toNat ((a :: r).map Int.toNat) (by simp) (by omega) (by omega)
      ?_ F h).2
    intro x hx
    obtain ⟨y, hy, rfl⟩ := List.mem_map.1 hx
    have := h3 y hy
    omega

theorem cpls_ok_wf (a b c : Int) (F : Formula) (h : Fam.Cpls.cpls a b c = .ok F) : F.WF := by
  obtain ⟨a', p, q, rfl, rfl, rfl, ha⟩ := dich_ok (cpls_dich a b c) h
  exact (C03.cpls_counts_wf a' p q ha F h).2.2

theorem pitfall_ok_wf (v d ny nz k : Int) (g : SimpleG) (hg : FamPitfall.GraphOK g) (F : Formula)
    (h : Fam.Pitfall.pitfall v d ny nz k g = .ok F) : F.WF := by
  obtain ⟨-, rfl⟩ := FamPitfall.pitfall_ok h
  exact (C03.pitfall_nvars_wf _ _ _ g hg).2

/-- T-C18.W1 every formula a mapped generator returns is well formed: literals non-zero and within the number of
variables (`g`: the graph drawn for Pitfall, any graph object) -/
theorem mapped_formula_wf (g : SimpleG) (hg : FamPitfall.GraphOK g) (c : Call) (F : Formula)
    (h : evalCallF g c = some (.ok F)) : F.WF :=
  evalCallF_cases g (fun _ _ r => ∀ F, r = .ok F → F.WF) php_ok_wf bphp_ok_wf rphp_ok_wf counting_ok_wf
    cliqueColoring_ok_wf (fun n t s p _ k _ => op_ok_wf n t s p k) ptn_ok_wf ramseyNumber_ok_wf
    (fun _ n k1 k2 ks _ => vdw_ok_wf n k1 k2 ks) cpls_ok_wf (fun v d ny nz k => pitfall_ok_wf v d ny nz k g hg)
    c _ h F rfl

/-- T-C18.W2 the run ends in `ok` exactly when `cliFormula` is a formula: `cliOutcome` is `cliFormula` with the
formula forgotten -/
theorem outcome_ok_iff_formula (g : SimpleG) (h : HelperSpec) (argv : List String) :
    cliOutcome h argv = some .ok ↔ ∃ F, cliFormula g h argv = some (.ok F) := by
  unfold cliOutcome cliFormula
  cases hd : dispatch h argv with
  | error e => cases e <;> simp
  | ok c =>
    simp only [evalCall_eq_forget g c]
    cases hr : evalCallF g c with
    | none => simp
    | some r => cases r with
      | ok F => simp [shield, forget, Except.map]
      | error e => cases e <;> simp [shield, forget, Except.map]

/-- the numbers the writer prints fit CPython's limit on `str(int)` / `int(str)` (4300 digits): for `cnfgen` the
two counts; for `pbgen` the counts, the coefficients and the degrees.  Necessary: `C06.dimacs_text_limit`,
`C12.opb_text_limit` (beyond it CPython raises ValueError inside the writer). -/
def PrintableOut (gl : Global) (F : Formula) : Prop :=
  match gl.tool with
  | .cnfgen => C06.Printable F.toCNF
  | .pbgen => C12.PrintableOpb F.toOPB

/-- what the strict reader of the output format returns on a text: `cnfgen` + DIMACS: cnfgen's own reader
(`from_dimacs_file`); OPB: the strict specification-side reader `readOpb` (cnfgen has none) -/
def StrictlyRead (gl : Global) (u : Bool) (text : Str) (F : Formula) : Prop :=
  match gl.tool, gl.fmt with
  | .cnfgen, .dimacs => readDimacsText u text = .ok F.toCNF
  | .cnfgen, .opb => readOpbText u text = .ok (F.nvars, F.toCNF.clauses.map PBC.ofClause)
  | .pbgen, _ => readOpbText u text = .ok (F.nvars, F.toOPB.constraints)

/-- the physical lines of the text, lexed: comment rows (each starts with the comment marker word), ONE problem
line stating the true counts, one row per clause / constraint in order — nothing else.  DIMACS: comments, `p cnf n m`,
clauses.  OPB: `* #variable= n #constraint= m`, comments, constraints. -/
def ShapeOK (gl : Global) (u : Bool) (text : Str) (F : Formula) : Prop :=
  match gl.tool, gl.fmt with
  | .cnfgen, .dimacs =>
    ∃ comments : List Row,
      lex u text = comments ++ [Tok.word ['p'], Tok.word "cnf".toList, Tok.int (F.nvars : Int),
          Tok.int (F.toCNF.clauses.length : Int)] :: F.toCNF.clauses.map (fun c => c.map Tok.int ++ [Tok.int 0]) ∧
      ∀ r ∈ comments, ∃ rest, r = Tok.word ['c'] :: rest
  | .cnfgen, .opb =>
    ∃ comments : List Row,
      lex u text = [Tok.word ['*'], Tok.word "#variable=".toList, Tok.int (F.nvars : Int),
          Tok.word "#constraint=".toList, Tok.int (F.toCNF.clauses.length : Int)] ::
        (comments ++ (F.toCNF.clauses.map PBC.ofClause).map opbConstraintRow) ∧
      ∀ r ∈ comments, ∃ rest, r = Tok.word ['*'] :: rest
  | .pbgen, _ =>
    ∃ comments : List Row,
      lex u text = [Tok.word ['*'], Tok.word "#variable=".toList, Tok.int (F.nvars : Int),
          Tok.word "#constraint=".toList, Tok.int (F.toOPB.constraints.length : Int)] ::
        (comments ++ F.toOPB.constraints.map opbConstraintRow) ∧
      ∀ r ∈ comments, ∃ rest, r = Tok.word ['*'] :: rest

theorem text_of_wf_formula (gl : Global) (u : Bool) (famHdr : Header) (names : List Str) (F : Formula)
    (hF : F.WF) (hp : PrintableOut gl F) :
    StrictlyRead gl u (cliText gl famHdr names F) F ∧ ShapeOK gl u (cliText gl famHdr names F) F := by
  obtain ⟨tool, fmt, verbose, varnames, seed, cmdline⟩ := gl
  have hcnf := ctext_toCNF_wf F hF
  have hopb : C12.WFOpb F.toOPB := ctext_toOPB_good F hF
  cases tool with
  | cnfgen =>
    have hp' : C06.Printable F.toCNF := hp
    cases fmt with
    | dimacs =>
      refine ⟨C06.dimacs_text_roundtrip u _ _ _ hcnf hp', ?_⟩
      simp only [ShapeOK, cliText]
      rw [C06.dimacs_text_lex u _ _ _ hcnf hp']
      obtain ⟨comments, h1, h2⟩ := C06.render_shape u F.toCNF
        (if verbose then some (cliHeader ⟨.cnfgen, .dimacs, verbose, varnames, seed, cmdline⟩ famHdr) else none)
        (if varnames then some names else none)
      exact ⟨comments, h1, fun r hr => (h2 r hr).2⟩
    | opb =>
      refine ⟨C12.opb_text_roundtrip_cnf u _ _ _ hcnf hp', ?_⟩
      simp only [ShapeOK, cliText]
      rw [C12.opb_text_lex_cnf u _ _ _ hcnf hp', renderOpbCNF_eq]
      obtain ⟨comments, h1, h2⟩ := C12.opb_shape u ⟨F.toCNF.nvars, F.toCNF.clauses.map PBC.ofClause⟩
        (if verbose then some (cliHeader ⟨.cnfgen, .opb, verbose, varnames, seed, cmdline⟩ famHdr) else none)
        (if varnames then some names else none)
      refine ⟨comments, ?_, h2⟩
      rw [h1]
      simp [Formula.toCNF]
  | pbgen =>
    have hp' : C12.PrintableOpb F.toOPB := hp
    have hr := C12.opb_text_roundtrip u F.toOPB
    have hl := C12.opb_text_lex u F.toOPB
    have hs := C12.opb_shape u F.toOPB
    cases fmt <;>
    · refine ⟨hr _ _ hopb hp', ?_⟩
      simp only [ShapeOK, cliText]
      rw [hl _ _ hopb hp']
      obtain ⟨comments, h1, h2⟩ := hs
        (if verbose then some (cliHeader ⟨.pbgen, _, verbose, varnames, seed, cmdline⟩ famHdr) else none)
        (if varnames then some names else none)
      exact ⟨comments, h1, h2⟩

/-- T-C18.W3 THE WRITTEN TEXT IS STRICTLY READABLE.  For every covered sub-command (`covered_commands`), both
tools, both formats, `-q` or not, `--varnames` or not, any seed, EVERY token list of the fragment, every header the
generator may have made, every list of variable names, every graph Pitfall may have drawn: whenever the run ends in
`ok` there is a formula `F` of the family model such that the text written for it

* is accepted by the strict reader of the chosen format, which returns exactly `F` in the tool's rendering
  (the variable count, and every clause / constraint in order);
* consists of comment lines (each starting with the comment marker), ONE problem line stating the true number of
  variables and of clauses / constraints, and one line per clause / constraint — nothing else

(up to CPython's 4300-digit limit on the printed counts, `PrintableOut`: beyond it the real writer raises). -/
theorem cli_output_strictly_readable (gl : Global) (g : SimpleG) (hg : FamPitfall.GraphOK g)
    (h : HelperSpec) (argv : List String) (hok : cliOutcome h argv = some .ok)
    (u : Bool) (famHdr : Header) (names : List Str) :
    ∃ F : Formula, cliFormula g h argv = some (.ok F) ∧ F.WF ∧
      (PrintableOut gl F →
        StrictlyRead gl u (cliText gl famHdr names F) F ∧ ShapeOK gl u (cliText gl famHdr names F) F) := by
  obtain ⟨F, hF⟩ := (outcome_ok_iff_formula g h argv).1 hok
  have hwf : F.WF := by
    unfold cliFormula at hF
    cases hd : dispatch h argv with
    | error e => rw [hd] at hF; cases hF
    | ok c => rw [hd] at hF; exact mapped_formula_wf g hg c F hF
  exact ⟨F, hF, hwf, fun hp => text_of_wf_formula gl u famHdr names F hwf hp⟩

/-- … with `end_to_end`: for the covered sub-commands the run ends in `ok` (and writes that text) or in a CLIError
(and writes nothing: `cliFormula` is then not a formula) — for every token list -/
theorem text_or_nothing (g : SimpleG) (h : HelperSpec) (s : CliSpec) (hspec : specOf h = some s)
    (hc : outcomeCovered s = true) (argv : List String) (hf : inFragment s argv = true) :
    (∃ F, cliFormula g h argv = some (.ok F)) ∨
    (cliOutcome h argv = some .cliError ∧ ∀ F, cliFormula g h argv ≠ some (.ok F)) := by
  rcases (end_to_end h s hspec hc argv hf).1 with h1 | h1
  · exact Or.inl ((outcome_ok_iff_formula g h argv).1 h1)
  · refine Or.inr ⟨h1, fun F hF => ?_⟩
    have := (outcome_ok_iff_formula g h argv).2 ⟨F, hF⟩
    rw [h1] at this
    cases this

/-- the graph on one vertex is a graph object -/
theorem graphOK_one : FamPitfall.GraphOK ⟨1, 0, [[], []], []⟩ := by
  intro v h1 h2
  have : v = 1 := by simpa using Nat.le_antisymm h2 h1
  subst this
  simp [SimpleG.nbrs]

/-- `cnfgen -q php 2 1`: the formula, the text, and what the reader makes of it -/
example : (cliFormulaNamed ⟨1, 0, [[], []], []⟩ "formula" "php" ["2", "1"]).map (fun r => r.map Formula.toCNF) =
    some (.ok ⟨2, [[1], [2], [-1, -2]]⟩) := by decide +kernel

example : cliText ⟨.cnfgen, .dimacs, false, false, none, ["-q", "php", "2", "1"]⟩ [] []
    ⟨2, [.clause [1], .clause [2], .clause [-1, -2]]⟩ = "p cnf 2 3\n1 0\n2 0\n-1 -2 0\n".toList := by lit_decide

example : cliText ⟨.pbgen, .opb, true, false, some 7, ["-S", "7", "php", "2", "1"]⟩ [("d".toList, "x".toList)] []
    ⟨2, [.clause [1], .clause [2], .clause [-1, -2]]⟩ =
    ("* #variable= 2 #constraint= 3\n* d: x\n* random seed: 7\n* command line: pbgen -S 7 php 2 1\n*\n" ++
     "+1 x1 >= 1\n+1 x2 >= 1\n+1 ~x1 +1 ~x2 >= 1\n").toList :=
  ToolsL.eq_of_chars (fun t => t) (by decide +kernel)

/-- the hypotheses of `cli_output_strictly_readable` are satisfiable: `cnfgen bphp 3 2` ends in `ok` -/
example : cliOutcomeNamed "formula" "bphp" ["3", "2"] = some .ok := by decide +kernel

end Cnfgen.C18
