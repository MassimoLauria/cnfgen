/-
C18 for the two small tools, end to end: `cnfshuffle` and `kthlist2pebbling` as processes
(model `CnfgenModel/Cli/Tools.lean`: argparse on every token list ▸ open ▸ read with the character-level reader ▸
Shuffle / PebblingFormula ▸ `to_dimacs_file`).  Quantified over EVERY argv token list, EVERY environment
(`Env`: stdin content, file system as a function, header strings) and EVERY input text: (a) how a run can end,
(b) what a successful run wrote (for kthlist2pebbling also `C17.tool_output_readable_k2p`), and that every report
carries the comment marker.

The composition with C09 (the written formula is the shuffle of the formula read) is in Props/C09/Tools.lean, the one
with C03 / C14 / C17 (pebbling formula of the DAG read, unsatisfiable, same call as `cnfgen peb`) in
Props/C17/Tools.lean.

Three defects found with this model are FIXED in /repo; the model follows the fixed code and the former failing inputs are
kept as regression statements (notes/C18_tools.md):
  C18-T1 (3772171)  an option written `-o=--` / `-o--` / `--output=--` / `-i=--` stored `[]` (argparse quirk) and the tool died
                    with AttributeError; now a reported error                → `dashdash_value_regression`
  C18-T2 (e014bd6)  an input that opens but cannot be read (OSError) was swallowed by `main()`: exit status 0, nothing
                    written; now a reported error                            → `unreadable_input_regression`
  C18-T3 (0ec5c04)  the reports of the two tools did not carry the comment marker; now every one does
                                                                             → `report_prefix_cnfshuffle`, `report_prefix_k2p`
-/
import Props.C06.Text
import Props.C09
import Props.C14
import Lemmas.Tools
import Props.C18
namespace Cnfgen.C18
open Cnfgen Cnfgen.IO Cnfgen.Cli.ToolArgs Cnfgen.Cli.Tools Cnfgen.ToolsL

/-- the three ways the property allows a run to end.  (`Clean` of Props/C18/Families.lean is another notion under the same
name — a build step that fails with ValueError only; the two files are never imported together.) -/
def Clean : Cli.Tools.Outcome → Prop
  | .ok _ _ => True
  | .help => True
  | .cliError _ _ => True
  | _ => False

/-- a formula read from ANY text is well formed and both its counts have at most 4300 digits (they were
returned by `int()`), so `to_dimacs_file` can print it and the strict reader reads it back -/
theorem read_wf_printable (u : Bool) (s : IO.Str) (F : CNF) (h : readDimacsText u s = .ok F) :
    F.WF ∧ C06.Printable F := by
  obtain ⟨pre, post, a, b, m, hrows, _, _, _, _, hwf, hm⟩ := C06.reader_sound (lex u s) F h
  have hr : [a, b, Tok.int (F.nvars : Int), Tok.int (m : Int)] ∈ lex u s := by rw [hrows]; simp
  have h1 := lex_int_bound u s _ hr (F.nvars : Int) (by simp)
  have h2 := lex_int_bound u s _ hr (m : Int) (by simp)
  refine ⟨hwf, ?_, ?_⟩
  · simpa using h1
  · rw [hm]; simpa using h2

/-- the reader fails with ValueError only (restating `C06.reader_total` on texts) -/
theorem read_error_is_valueError (u : Bool) (s : IO.Str) (e : Err) (h : readDimacsText u s = .error e) :
    e = .valueError := by
  rcases C06.reader_total (lex u s) with ⟨F, hF⟩ | hE
  · unfold readDimacsText at h; rw [hF] at h; cases h
  · unfold readDimacsText at h; rw [hE] at h; cases h; rfl

/-- THE OUTPUT IS A COMPLETE FORMULA: the characters `to_dimacs_file` writes for a well-formed printable formula,
with or without header, are read back by the strict reader as that formula (in both newline modes); lexed, they are
comment rows (first token `c`), then the problem row with the TRUE counts, then one row per clause. -/
theorem written_text_readable (G : CNF) (hdr : Option Header) (hwf : G.WF) (hp : C06.Printable G) (u : Bool) :
    readDimacsText u (renderDimacsText G hdr none) = .ok G ∧
    ∃ comments : List Row,
      lex u (renderDimacsText G hdr none) =
        comments ++ [Tok.word ['p'], Tok.word "cnf".toList, Tok.int (G.nvars : Int), Tok.int (G.clauses.length : Int)] ::
          G.clauses.map (fun c => c.map Tok.int ++ [Tok.int 0]) ∧
      ∀ r ∈ comments, r.cls = .comment ∧ ∃ rest, r = Tok.word ['c'] :: rest := by
  refine ⟨C06.dimacs_text_roundtrip u G hdr none hwf hp, ?_⟩
  rw [C06.dimacs_text_lex u G hdr none hwf hp]
  exact C06.render_shape u G hdr none

open Cnfgen.Shuffle in
/-- the draws are a legal answer of the `random` module to the calls `Shuffle` makes on `F` with the switches
of the namespace: one `choice` in `{-1, 1}` per variable unless `-p`, one shuffled `[1..N]` unless `-v`, one
shuffled `[0..M-1]` unless `-c`, nothing else; `fl vp cp` are the arguments they determine -/
def LegalDraws (st : Args) (F : CNF) (ds : List Draw) (fl vp cp : List Int) : Prop :=
  Resolves F (toolArg st.noFlips) (toolArg st.noVperm) (toolArg st.noCperm) ds fl vp cp

theorem toolArg_eq_C09 (b : Bool) : Cli.Tools.toolArg b = C09.toolArg b := rfl

/-- the header cnfshuffle writes (unless `-q`) -/
def shuffleHdr (env : Env) (name : String) : Shuffle.Header :=
  Shuffle.shuffleHeader (baseHeader env ("Formula from DIMACS file " ++ name))

/-- everything `cnfshuffle` does after a successful parse, case by case (`st` = the namespace) -/
theorem shuffleBody_cases (env : Env) (st : Args) (ds : List Shuffle.Draw) :
    (∃ u n, inputOf env st = (.unreadable, u, n) ∧ shuffleBody env st ds = .cliError .parser "c ") ∨
    (∃ u n, inputOf env st = (.undecodable, u, n) ∧ shuffleBody env st ds = .cliError .reader "c ") ∨
    (∃ s u n, inputOf env st = (.text s, u, n) ∧ readDimacsText u s = .error .valueError ∧
      shuffleBody env st ds = .cliError .reader "c ") ∨
    (∃ s u n F, inputOf env st = (.text s, u, n) ∧ readDimacsText u s = .ok F ∧
      shuffleBody env st ds =
        match Shuffle.run F (toolArg st.noFlips) (toolArg st.noVperm) (toolArg st.noCperm) ds with
        | none => .badDraws
        | some (.error e, _) => errOutcome "" e
        | some (.ok G, _) => writeOut st G (shuffleHdr env n)) := by
  unfold shuffleBody
  rcases hin : inputOf env st with ⟨c, u, n⟩
  cases c with
  | unreadable => left; exact ⟨u, n, rfl, rfl⟩
  | undecodable => right; left; exact ⟨u, n, rfl, rfl⟩
  | text s =>
    right; right
    cases hr : readDimacsText u s with
    | error e =>
      left
      have := read_error_is_valueError u s e hr
      subst this
      exact ⟨s, u, n, rfl, hr, by simp [hr, errOutcome]⟩
    | ok F =>
      right
      refine ⟨s, u, n, F, rfl, hr, ?_⟩
      simp only [hr, shuffleHdr]
      rcases Shuffle.run F (toolArg st.noFlips) (toolArg st.noVperm) (toolArg st.noCperm) ds with _ | ⟨⟨e | G⟩, r⟩ <;> rfl

theorem shuffleBody_legal (env : Env) (st : Args) (ds : List Shuffle.Draw) (s : IO.Str) (u : Bool) (n : String)
    (F : CNF) (hin : inputOf env st = (.text s, u, n)) (hF : readDimacsText u s = .ok F)
    (fl vp cp : List Int) (hl : LegalDraws st F ds fl vp cp) :
    ∃ G, Shuffle.shuffle F fl vp cp = .ok G ∧ Shuffle.Valid F fl vp cp ∧
      (st.noFlips = true → fl = List.replicate F.nvars 1) ∧ (st.noVperm = true → vp = Shuffle.iota 1 F.nvars) ∧
      (st.noCperm = true → cp = Shuffle.iota 0 F.clauses.length) ∧
      shuffleBody env st ds = writeOut st G (shuffleHdr env n) := by
  have hwf := (read_wf_printable u s F hF).1
  obtain ⟨G, hrun, hsh, hV, h1, h2, h3⟩ := C09.tool_call F hwf st.noFlips st.noVperm st.noCperm ds fl vp cp hl
  refine ⟨G, hsh, hV, h1, h2, h3, ?_⟩
  unfold shuffleBody
  rw [hin]
  simp only [hF]
  rw [toolArg_eq_C09, toolArg_eq_C09, toolArg_eq_C09, hrun]
  rfl

/-- whatever formula the command line makes the tool read, the draws are legal for it -/
def AllLegal (env : Env) (argv : List String) (ds : List Shuffle.Draw) : Prop :=
  ∀ st s u n F, parse shuffleSpec (act env) argv {} = .ok st → inputOf env st = (.text s, u, n) →
    readDimacsText u s = .ok F → ∃ fl vp cp, LegalDraws st F ds fl vp cp

/-- (a) for cnfshuffle, COMPLETE: every run ends in one of four ways — or the draws are not legal -/
theorem cnfshuffle_outcome (env : Env) (argv : List String) (ds : List Shuffle.Draw) :
    cnfshuffleRun env argv ds = .help ∨
    cnfshuffleRun env argv ds = .cliError .parser "c " ∨
    cnfshuffleRun env argv ds = .cliError .reader "c " ∨
    (∃ d t, cnfshuffleRun env argv ds = .ok d t) ∨
    (∃ st s u n F, parse shuffleSpec (act env) argv {} = .ok st ∧ inputOf env st = (.text s, u, n) ∧
      readDimacsText u s = .ok F ∧ ¬ ∃ fl vp cp, LegalDraws st F ds fl vp cp) := by
  unfold cnfshuffleRun
  cases hp : parse shuffleSpec (act env) argv {} with
  | error x =>
    cases x with
    | help => left; rfl
    | error => right; left; rfl
    | sub a b c d => right; left; rfl
  | ok st =>
    simp only
    rcases shuffleBody_cases env st ds with ⟨u, n, _, hb⟩ | ⟨u, n, _, hb⟩ | ⟨s, u, n, _, _, hb⟩ | ⟨s, u, n, F, hi, hF, hb⟩
    · right; left; exact hb
    · right; right; left; exact hb
    · right; right; left; exact hb
    · by_cases hl : ∃ fl vp cp, LegalDraws st F ds fl vp cp
      · obtain ⟨fl, vp, cp, hl⟩ := hl
        obtain ⟨G, _, _, _, _, _, hw⟩ := shuffleBody_legal env st ds s u n F hi hF fl vp cp hl
        right; right; right; left; exact ⟨_, _, by rw [hw, writeOut_eq]⟩
      · right; right; right; right; exact ⟨st, s, u, n, F, rfl, hi, hF, hl⟩

/-- (a) `tool_never_escapes` for cnfshuffle, FULL STRENGTH: for every argv token list, every environment (every stdin
content and file system: missing, undecodable and unreadable files included) and all legal draws, the run ends in a written
formula, the help, or a reported error.  (Full since the fixes 3772171 and e014bd6 of /repo; `AllLegal` is the only
assumption on Python's `random`: `choice([-1,1])` answers -1 or 1, `shuffle` permutes its list.) -/
theorem tool_never_escapes_cnfshuffle (env : Env) (argv : List String) (ds : List Shuffle.Draw)
    (hl : AllLegal env argv ds) : Clean (cnfshuffleRun env argv ds) := by
  rcases cnfshuffle_outcome env argv ds with h | h | h | ⟨d, t, h⟩ | ⟨st, s, u, n, F, hp, hi, hF, hno⟩
  · rw [h]; trivial
  · rw [h]; trivial
  · rw [h]; trivial
  · rw [h]; trivial
  · exact absurd (hl st s u n F hp hi hF) hno

/-- a small environment: the given content on stdin, no files -/
def demoEnv (stdin : Content) : Env :=
  { stdin := stdin, stdinUniversal := true, stdinName := "<stdin>", file := fun _ => none, writable := fun _ => true,
    generator := "CNFgen", copyright := "(C)", url := "https://massimolauria.net/cnfgen" }

/-- regression (C18-T1, fixed by 3772171): `cnfshuffle -p -v -c -o=--` used to die with AttributeError; the explicit value
`--` is now a reported command-line error, in every spelling -/
theorem dashdash_value_regression :
    cnfshuffleRun (demoEnv (.text "p cnf 2 1\n1 -2 0\n".toList)) ["-p", "-v", "-c", "-o=--"] [] = .cliError .parser "c " ∧
    cnfshuffleRun (demoEnv (.text "p cnf 2 1\n1 -2 0\n".toList)) ["-o--"] [] = .cliError .parser "c " ∧
    cnfshuffleRun (demoEnv (.text "p cnf 2 1\n1 -2 0\n".toList)) ["--input=--"] [] = .cliError .parser "c " ∧
    cnfshuffleRun (demoEnv (.text "p cnf 2 1\n1 -2 0\n".toList)) ["-qS--"] [] = .cliError .parser "c " := by
  decide +kernel

/-- regression (C18-T2, fixed by e014bd6): an input that cannot be read used to end the tool silently with exit status 0;
it is now a reported error with status 255 -/
theorem unreadable_input_regression :
    cnfshuffleRun (demoEnv .unreadable) [] [] = .cliError .parser "c " ∧ exitStatus (.cliError .parser "c ") = 255 := by
  decide +kernel

/-- (b) for cnfshuffle: when the run ends with exit status 0 and a text `t` written to `d` (legal draws), `t` is the
DIMACS rendering of a well-formed formula `G` with printable counts — hence the strict reader accepts the written
CHARACTERS and returns `G`, the problem line states the true counts of `G`, every row before it is a comment and
every row after it a clause — and `G` is the shuffle of the formula `F` the input text denotes by the arguments
`fl vp cp` the draws determine (the input text is the one the command line names: stdin or the `-i` file). -/
theorem cnfshuffle_ok_spec (env : Env) (argv : List String) (ds : List Shuffle.Draw) (d : Dest) (t : IO.Str)
    (h : cnfshuffleRun env argv ds = .ok d t) (hl : AllLegal env argv ds) :
    ∃ st s u n F G fl vp cp,
      parse shuffleSpec (act env) argv {} = .ok st ∧ inputOf env st = (.text s, u, n) ∧
      readDimacsText u s = .ok F ∧ LegalDraws st F ds fl vp cp ∧
      Shuffle.shuffle F fl vp cp = .ok G ∧ Shuffle.Valid F fl vp cp ∧
      (st.noFlips = true → fl = List.replicate F.nvars 1) ∧ (st.noVperm = true → vp = Shuffle.iota 1 F.nvars) ∧
      (st.noCperm = true → cp = Shuffle.iota 0 F.clauses.length) ∧
      destOf st.output = d ∧
      t = renderDimacsText G (if st.verbose then some (toIOHeader (shuffleHdr env n)) else none) none ∧
      F.WF ∧ G.WF ∧ C06.Printable G := by
  unfold cnfshuffleRun at h
  cases hp : parse shuffleSpec (act env) argv {} with
  | error x => rw [hp] at h; cases x <;> cases h
  | ok st =>
    rw [hp] at h
    simp only at h
    rcases shuffleBody_cases env st ds with ⟨u, n, _, hb⟩ | ⟨u, n, _, hb⟩ | ⟨s, u, n, _, _, hb⟩ | ⟨s, u, n, F, hi, hF, _⟩
    · rw [hb] at h; cases h
    · rw [hb] at h; cases h
    · rw [hb] at h; cases h
    · obtain ⟨fl, vp, cp, hleg⟩ := hl st s u n F hp hi hF
      obtain ⟨G, hsh, hV, h1, h2, h3, hw⟩ := shuffleBody_legal env st ds s u n F hi hF fl vp cp hleg
      rw [hw, writeOut_eq] at h
      cases h
      obtain ⟨hwf, hpr⟩ := read_wf_printable u s F hF
      have hGwf : G.WF := C09.result_wf hwf hsh
      have hGp : C06.Printable G := by
        unfold C06.Printable
        rw [C09.nvars_eq hwf hsh, C09.clauses_length_eq hwf hsh]
        exact hpr
      exact ⟨st, s, u, n, F, G, fl, vp, cp, rfl, hi, hF, hleg, hsh, hV, h1, h2, h3, rfl, rfl, hwf, hGwf, hGp⟩

/-- (b) `tool_output_readable` for cnfshuffle -/
theorem tool_output_readable_cnfshuffle (env : Env) (argv : List String) (ds : List Shuffle.Draw) (d : Dest)
    (t : IO.Str) (h : cnfshuffleRun env argv ds = .ok d t) (hl : AllLegal env argv ds) (u : Bool) :
    ∃ G : CNF, readDimacsText u t = .ok G ∧ G.WF ∧
      ∃ comments : List Row,
        lex u t = comments ++ [Tok.word ['p'], Tok.word "cnf".toList, Tok.int (G.nvars : Int), Tok.int (G.clauses.length : Int)] ::
          G.clauses.map (fun c => c.map Tok.int ++ [Tok.int 0]) ∧
        ∀ r ∈ comments, r.cls = .comment ∧ ∃ rest, r = Tok.word ['c'] :: rest := by
  obtain ⟨st, s, u', n, F, G, fl, vp, cp, _, _, _, _, _, _, _, _, _, _, ht, _, hG, hGp⟩ :=
    cnfshuffle_ok_spec env argv ds d t h hl
  subst ht
  obtain ⟨h1, h2⟩ := written_text_readable G _ hG hGp u
  exact ⟨G, h1, hG, h2⟩

theorem errOutcome_prefix (p : String) (e : Err) (src : ErrSrc) (pfx : String)
    (h : errOutcome p e = .cliError src pfx) : pfx = p := by
  unfold errOutcome at h
  split at h <;> cases h
  rfl

/-- C18's "prefixed with the comment marker", FULL STRENGTH for cnfshuffle (since fix 0ec5c04): whatever makes the run end in
a report — a refused command line, a file that cannot be opened, an unreadable or undecodable input, a text that denotes no
formula — every line of the report starts with the comment marker of the output format (legal draws: `Shuffle` itself
then raises nothing) -/
theorem report_prefix_cnfshuffle (env : Env) (argv : List String) (ds : List Shuffle.Draw) (src : ErrSrc)
    (pfx : String) (hl : AllLegal env argv ds) (h : cnfshuffleRun env argv ds = .cliError src pfx) :
    pfx = Cli.prefixOf "dimacs" := by
  rw [prefix_table.1]
  rcases cnfshuffle_outcome env argv ds with h' | h' | h' | ⟨d, t, h'⟩ | ⟨st, s, u, n, F, hp, hi, hF, hno⟩
  · rw [h'] at h; cases h
  · rw [h'] at h; cases h; rfl
  · rw [h'] at h; cases h; rfl
  · rw [h'] at h; cases h
  · exact absurd (hl st s u n F hp hi hF) hno

/-- `cnfshuffle -q -c` on a 3-variable formula with comments and odd layout; draws: three flips, the variable order -/
example : cnfshuffleRun (demoEnv (.text "c hi\np cnf 3 2\n1 -2\n 0 3 0\n".toList)) ["-q", "-c"]
    [.choice (-1), .choice 1, .choice 1, .shuffled [2, 3, 1]] = .ok .stdout "p cnf 3 2\n-2 -3 0\n1 0\n".toList := by
  lit_decide

example : cnfshuffleRun (demoEnv (.text "p cnf 1 1\n1 0\n".toList)) ["-pvc"] [] =
    .ok .stdout ("c description: Formula from DIMACS file <stdin> (reshuffled)\nc generator: CNFgen\nc copyright: (C)\n" ++
      "c url: https://massimolauria.net/cnfgen\nc transformation 1: Formula reshuffling\nc\np cnf 1 1\n1 0\n").toList :=
  eq_of_chars (Cli.Tools.Outcome.ok .stdout) (by decide +kernel)

example : cnfshuffleRun (demoEnv (.text "p cnf 1 1\n2 0\n".toList)) [] [] = .cliError .reader "c " := by lit_decide
example : cnfshuffleRun (demoEnv (.text [])) ["-i", "missing"] [] = .cliError .parser "c " := by decide +kernel
example : cnfshuffleRun (demoEnv (.text [])) ["-i", "missing", "-h"] [] = .cliError .parser "c " := by decide +kernel
example : cnfshuffleRun (demoEnv (.text [])) ["-h", "-i", "missing"] [] = .help := by decide +kernel
example : cnfshuffleRun (demoEnv (.text [])) ["--no"] [] = .cliError .parser "c " := by decide +kernel
example : cnfshuffleRun (demoEnv (.text [])) ["-h", "--no"] [] = .cliError .parser "c " := by decide +kernel

/-- the DAG a text denotes for the tool: lexed (after newline translation if the stream translates) and read by the
`dag` kthlist reader of C14 -/
def readDag (u : Bool) (s : IO.Str) : Except Err GraphFmt.AnyG :=
  GraphFmt.readGraph .dag (.kth (GraphLex.lexKth (if u then GraphLex.universalNL s else s)))

/-- the header kthlist2pebbling writes (unless `-q`) -/
def k2pHdr (env : Env) (u : Bool) (s : IO.Str) : Shuffle.Header :=
  baseHeader env ("Pebbling formula for " ++
    String.ofList (kthName (GraphLex.readlines (if u then GraphLex.universalNL s else s))))

theorem readDag_error (u : Bool) (s : IO.Str) (e : Err) (h : readDag u s = .error e) : e = .valueError :=
  C14.reader_raises_only_valueError .dag _ e h

theorem readDag_ok (u : Bool) (s : IO.Str) (G : GraphFmt.AnyG) (h : readDag u s = .ok G) :
    ∃ D, G = .di D ∧ DiG.Inv D ∧ D.stillDag = true ∧ ∀ e ∈ D.edges, e.1 < e.2 :=
  C14.dag_edges_increasing _ G h

/-- everything `kthlist2pebbling` (without a transformation) does after a successful parse, case by case -/
theorem k2pBody_cases (env : Env) (st : Args) :
    (∃ u n, inputOf env st = (.unreadable, u, n) ∧ k2pBody env st = .cliError .parser "c ") ∨
    (∃ u n, inputOf env st = (.undecodable, u, n) ∧ k2pBody env st = .cliError .reader "c ") ∨
    (∃ s u n, inputOf env st = (.text s, u, n) ∧ readDag u s = .error .valueError ∧
      k2pBody env st = .cliError .reader "c ") ∨
    (∃ s u n D, inputOf env st = (.text s, u, n) ∧ readDag u s = .ok (.di D) ∧ DiG.Inv D ∧ D.stillDag = true ∧
      k2pBody env st = writeOut st (Fam.Pebbling.peb D).toCNF (k2pHdr env u s)) := by
  unfold k2pBody
  rcases hin : inputOf env st with ⟨c, u, n⟩
  cases c with
  | unreadable => left; exact ⟨u, n, rfl, rfl⟩
  | undecodable => right; left; exact ⟨u, n, rfl, rfl⟩
  | text s =>
    right; right
    cases hr : readDag u s with
    | error e =>
      left
      have := readDag_error u s e hr
      subst this
      refine ⟨s, u, n, rfl, hr, ?_⟩
      unfold readDag at hr
      simp only [hr, errOutcome_valueError]
    | ok G =>
      right
      obtain ⟨D, rfl, hinv, hd, _⟩ := readDag_ok u s G hr
      refine ⟨s, u, n, D, rfl, hr, hinv, hd, ?_⟩
      unfold readDag at hr
      simp only [hr, Fam.Pebbling.pebbling, hd, k2pHdr]
      rfl

/-- (a) for kthlist2pebbling, COMPLETE: the command line selects a transformation sub-command (outside this model), or
the run ends in one of four ways -/
theorem k2p_outcome (env : Env) (argv : List String) :
    (k2pRun env argv = none ∧ ∃ name rest st ex, parse k2pSpec (act env) argv {} = .error (.sub name rest st ex) ∧
        name ∈ transformationNames) ∨
    k2pRun env argv = some .help ∨
    k2pRun env argv = some (.cliError .parser "c ") ∨
    k2pRun env argv = some (.cliError .reader "c ") ∨
    (∃ d t, k2pRun env argv = some (.ok d t)) := by
  unfold k2pRun
  cases hp : parse k2pSpec (act env) argv {} with
  | error x =>
    cases x with
    | help => right; left; rfl
    | error => right; right; left; rfl
    | sub a b c d =>
      left
      refine ⟨rfl, a, b, c, d, rfl, ?_⟩
      exact sub_name_mem k2pSpec (act env) argv {} a b c d hp transformationNames rfl
  | ok st =>
    simp only
    rcases k2pBody_cases env st with ⟨u, n, _, hb⟩ | ⟨u, n, _, hb⟩ | ⟨s, u, n, _, _, hb⟩ | ⟨s, u, n, D, _, _, _, _, hb⟩
    · right; right; left; rw [hb]
    · right; right; right; left; rw [hb]
    · right; right; right; left; rw [hb]
    · right; right; right; right; exact ⟨_, _, by rw [hb, writeOut_eq]⟩

/-- (a) `tool_never_escapes` for kthlist2pebbling: for every argv token list and every environment (missing, undecodable,
unreadable inputs included), a run the model covers ends in a written formula, the help, or a reported error — with NO
hypothesis (full since the fixes 3772171 and e014bd6 of /repo).  `k2pRun = none` exactly when the command line selects one
of the 17 transformation sub-commands (`k2p_outcome`): their sub-parsers and `transform_cnf` are outside this model, and
that is the only thing missing. -/
theorem tool_never_escapes_k2p (env : Env) (argv : List String) (o : Cli.Tools.Outcome)
    (h : k2pRun env argv = some o) : Clean o := by
  rcases k2p_outcome env argv with ⟨h', _⟩ | h' | h' | h' | ⟨d, t, h'⟩ <;> rw [h'] at h <;> cases h <;> trivial

/-- (b) for kthlist2pebbling: when the run ends with exit status 0 and a text `t` written to `d`, the input text denotes a
DAG `D` (the `dag` kthlist reader accepted it: every edge increasing) and `t` is the DIMACS rendering of the pebbling
formula of `D`, with the header unless `-q` -/
theorem k2p_ok_spec (env : Env) (argv : List String) (d : Dest) (t : IO.Str) (h : k2pRun env argv = some (.ok d t)) :
    ∃ st s u n D,
      parse k2pSpec (act env) argv {} = .ok st ∧ inputOf env st = (.text s, u, n) ∧
      readDag u s = .ok (.di D) ∧ DiG.Inv D ∧ D.stillDag = true ∧ destOf st.output = d ∧
      t = renderDimacsText (Fam.Pebbling.peb D).toCNF (if st.verbose then some (toIOHeader (k2pHdr env u s)) else none) none := by
  unfold k2pRun at h
  cases hp : parse k2pSpec (act env) argv {} with
  | error x => rw [hp] at h; cases x <;> simp at h
  | ok st =>
    rw [hp] at h
    simp only [Option.some.injEq] at h
    rcases k2pBody_cases env st with ⟨u, n, _, hb⟩ | ⟨u, n, _, hb⟩ | ⟨s, u, n, _, _, hb⟩ |
        ⟨s, u, n, D, hi, hr, hinv, hd, hb⟩
    · rw [hb] at h; cases h
    · rw [hb] at h; cases h
    · rw [hb] at h; cases h
    · rw [hb, writeOut_eq] at h
      cases h
      exact ⟨st, s, u, n, D, rfl, hi, hr, hinv, hd, rfl, rfl⟩

/-- C18's "prefixed with the comment marker", FULL STRENGTH for kthlist2pebbling (since fix 0ec5c04): every report — refused
command line, file that cannot be opened, unreadable / undecodable input, text that is not a DAG in increasing order —
carries the comment marker of the output format -/
theorem report_prefix_k2p (env : Env) (argv : List String) (src : ErrSrc) (pfx : String)
    (h : k2pRun env argv = some (.cliError src pfx)) : pfx = Cli.prefixOf "dimacs" := by
  rw [prefix_table.1]
  rcases k2p_outcome env argv with ⟨h', _⟩ | h' | h' | h' | ⟨d, t, h'⟩ <;> rw [h'] at h <;> cases h <;> rfl

example : k2pRun (demoEnv (.text "c pyramid\n3\n1 : 0\n2 : 0\n3 : 1 2 0\n".toList)) ["-q"] =
    some (.ok .stdout "p cnf 3 4\n1 0\n2 0\n-1 -2 3 0\n-3 0\n".toList) := by lit_decide

example : k2pRun (demoEnv (.text "c pyramid\r\n1\r\n".toList)) [] =
    some (.ok .stdout ("c description: Pebbling formula for pyramid\nc generator: CNFgen\nc copyright: (C)\n" ++
      "c url: https://massimolauria.net/cnfgen\nc\np cnf 1 2\n1 0\n-1 0\n").toList) :=
  eq_of_chars (fun t => some (Cli.Tools.Outcome.ok .stdout t)) (by decide +kernel)

/-- not in increasing order: refused, with the prefixed report -/
example : k2pRun (demoEnv (.text "2\n1 : 2 0\n2 : 0\n".toList)) [] = some (.cliError .reader "c ") := by lit_decide
example : k2pRun (demoEnv (.text "2\n".toList)) ["--bogus"] = some (.cliError .parser "c ") := by decide +kernel
example : k2pRun (demoEnv (.text "2\n".toList)) ["nosuch"] = some (.cliError .parser "c ") := by decide +kernel
example : k2pRun (demoEnv (.text "2\n".toList)) ["xor", "2"] = none := by decide +kernel
/-- regressions (C18-T1, C18-T2): reported errors now -/
example : k2pRun (demoEnv (.text "2\n".toList)) ["-i--"] = some (.cliError .parser "c ") := by decide +kernel
example : k2pRun (demoEnv .unreadable) [] = some (.cliError .parser "c ") := by decide +kernel

end Cnfgen.C18

namespace Cnfgen.C18
open Cnfgen Cnfgen.Cli.ToolArgs Cnfgen.Cli.Tools

/-! ## the tie of the two hand-written parsers to the source

`Gen.tools` is regenerated from `cnfshuffle.py` / `kthlist2pebbling.py` on every run (tools/extract_tables.py): every
`add_argument` with its option strings, `type=`, `action=`, default.  The option tables of the model ARE the generated
ones (plus the `-h`, `--help` of argparse itself); a new, renamed or re-typed option breaks this proof. -/

/-- what the model assumes about each option's `type=` / `action=` -/
def argSpecOK (a : Gen.ArgSpec) : Bool :=
  (a.dest == "output" && a.ty == "argparse.FileType('w')" && a.action == "" && a.default == "-") ||
  (a.dest == "input" && a.ty == "argparse.FileType('r')" && a.action == "" && a.default == "-") ||
  (a.dest == "seed" && a.ty == "str" && a.action == "store" && a.default == "None") ||
  ((a.dest == "no_polarity_flips" || a.dest == "no_variables_permutation" || a.dest == "no_clauses_permutation") &&
    a.ty == "" && a.action == "store_true") ||
  (a.dest == "verbose" && a.ty == "" && a.action == "store_false" && (a.default == "" || a.default == "True"))

theorem tool_parsers_match_source :
    shuffleSpec.opts = generatedOpts "cnfshuffle" ∧ k2pSpec.opts = generatedOpts "kthlist2pebbling" ∧
    (Gen.tools.all (fun t => (t.tool != "cnfshuffle" && t.tool != "kthlist2pebbling") ||
      t.args.all (fun a => argSpecOK a && a.nargs == "" && a.choices.isEmpty))) = true ∧
    shuffleSpec.noNegativeOptions = true ∧ k2pSpec.noNegativeOptions = true ∧
    shuffleSpec.subs = none ∧ k2pSpec.subs = some transformationNames ∧ transformationNames.length = 17 ∧
    "--" ∉ transformationNames := by
  decide +kernel

end Cnfgen.C18

namespace Cnfgen.C18
open Cnfgen Cnfgen.IO Cnfgen.Cli.ToolArgs Cnfgen.Cli.Tools Cnfgen.ToolsL

/-- `AllLegal`, the hypothesis of `tool_never_escapes_cnfshuffle`, is satisfiable: with the three switches on the command
line the only legal draw list is the empty one, for whatever is read -/
example (s : IO.Str) : AllLegal (demoEnv (.text s)) ["-p", "-v", "-c"] [] := by
  intro st s' u n F hp _ _
  have : parse shuffleSpec (act (demoEnv (.text s))) ["-p", "-v", "-c"] {} =
      .ok { noFlips := true, noVperm := true, noCperm := true } := rfl
  rw [this] at hp; cases hp
  exact ⟨List.replicate F.nvars 1, Shuffle.iota 1 F.nvars, Shuffle.iota 0 F.clauses.length,
    [], [], [], rfl, ⟨rfl, rfl⟩, ⟨rfl, rfl⟩, ⟨rfl, rfl⟩⟩

/-- a command line that the parser refuses makes `AllLegal` hold for every draw list: the theorem applies to all of them -/
example (c : Content) (ds : List Shuffle.Draw) : Clean (cnfshuffleRun (demoEnv c) ["-o=--"] ds) := by
  apply tool_never_escapes_cnfshuffle
  intro st s u n F hp _ _
  have : parse shuffleSpec (act (demoEnv c)) ["-o=--"] {} = .error .error := rfl
  rw [this] at hp; cases hp

end Cnfgen.C18
