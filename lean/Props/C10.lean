/-
C10 — Every formula mentions only variables it owns, and allocates them freshly.
This file: the manager part (T-C10.2) — the history invariant of the `VariablesManager` /
`BaseCNF` state machine (`CnfgenModel/Vars/Manager.lean`): operations `add_clause(c, check)`,
`update_variable_number(n)`, `new_*(…)`.  Family theorems (T-C10.1) are in the family files.
Property theorems only; helper lemmas are in `Lemmas/VarsManager.lean`.
-/
import Lemmas.VarsManager
namespace Cnfgen.C10
open Cnfgen Cnfgen.Vars

/-- the invariant: the largest variable mentioned by a stored clause is within the declared number
of variables; equivalently every stored literal is -/
theorem inv_meaning (s : MState) : Inv s ↔ ∀ c ∈ s.clauses, ∀ l ∈ c, l.natAbs ≤ s.numvar := inv_iff s

/-- T-C10.2a it holds initially and is preserved by every checked clause insertion — accepted
(the count is raised to the largest variable of the clause) or rejected (a clause containing 0
raises ValueError and leaves the formula unchanged) —, by `update_variable_number` (also when it
raises), and by every `new_*` (successful or failing) -/
theorem inv_preserved {s : MState} (h : Inv s) :
    (∀ c, Inv (addClause s c true).1) ∧ (∀ n, Inv (updateVarNum s n).1) ∧ (∀ spec, Inv (newGroup s spec).1) :=
  ⟨fun c => addClause_checked_inv c h, fun n => updateVarNum_inv n h, fun spec => newGroup_inv spec h⟩

theorem inv_initial : Inv MState.init := inv_init

/-- a rejected insertion does not leave the clause behind (D32, fixed in /repo) -/
theorem rejected_clause_not_stored {s : MState} {c : Clause} {check : Bool} {e : Err}
    (h : (addClause s c check).2 = .error e) : (addClause s c check).1 = s ∧ e = .valueError ∧ check = true :=
  addClause_rejected h

/-- T-C10.2b an unchecked insertion (`check=False`, the mode every family uses) preserves the
invariant **iff** the clause is within the declared variables — the obligation each family
discharges (T-C10.1) -/
theorem unchecked_inv_iff {s : MState} (c : Clause) (h : Inv s) :
    Inv (addClause s c false).1 ↔ maxAbs c ≤ s.numvar :=
  addClause_unchecked_inv c h

/-- T-C10.2c a new group is exactly `[numvar+1, numvar+len]`, the count becomes `numvar+len`,
nothing else changes; the count never decreases -/
theorem new_group_range {s : MState} {spec : GroupSpec} {g : Group} (h : (newGroup s spec).2 = .ok (some g)) :
    g.start = s.numvar + 1 ∧ g.ids = List.range' (s.numvar + 1) g.len ∧
    (newGroup s spec).1.numvar = s.numvar + g.len ∧
    (newGroup s spec).1.groups = s.groups ++ [g] ∧ (newGroup s spec).1.clauses = s.clauses :=
  newGroup_ok h

theorem numvar_monotone (s : MState) (ops : List MOp) : s.numvar ≤ (run s ops).numvar := run_numvar_mono s ops

/-- T-C10.2d freshness: under the invariant, no identifier of a new group was mentioned by an
earlier clause -/
theorem new_group_fresh {s : MState} {spec : GroupSpec} {g : Group} (hinv : Inv s)
    (h : (newGroup s spec).2 = .ok (some g)) :
    ∀ v ∈ g.ids, s.maxMentioned < v ∧ ∀ c ∈ s.clauses, ∀ l ∈ c, l.natAbs ≠ v :=
  newGroup_fresh hinv h

/-- T-C10.2 for histories: after every history (from the empty formula) all of whose unchecked
insertions were within the variables declared at that moment, the invariant holds … -/
theorem history_inv {ops : List MOp} (hg : GuardedRun MState.init ops) : Inv (run MState.init ops) :=
  run_inv inv_init hg

/-- … and whenever such a history creates a group, none of its identifiers was mentioned by any
clause stored before, for all interleavings of group creation, clause insertion and raises of
the variable count -/
theorem history_groups_fresh {ops : List MOp} {spec : GroupSpec} {g : Group}
    (hg : GuardedRun MState.init (ops ++ [.newGroup spec]))
    (h : (newGroup (run MState.init ops) spec).2 = .ok (some g)) :
    ∀ v ∈ g.ids, ∀ c ∈ (run MState.init ops).clauses, ∀ l ∈ c, l.natAbs ≠ v :=
  history_fresh hg h

/-- the guard is necessary: after `add_clause([9], check=False)` a new block of nine variables gets
the identifiers 1 … 9, and 9 is reused.
(`check=False` is documented as trusting the caller: a witness, not a finding.) -/
theorem unguarded_history_reuses :
    ¬ Inv (run MState.init [.addClause [9] false]) ∧
    (newGroup (run MState.init [.addClause [9] false]) (.block [9] none)).2 = .ok (some (.block 1 [9] "X({})")) ∧
    (9 : Nat) ∈ (Group.block 1 [9] "X({})").ids :=
  ⟨by unfold Vars.Inv; decide +kernel, by rfl, by decide +kernel⟩

/-- non-vacuity: a guarded history with every kind of operation, including failing ones -/
example : GuardedRun MState.init
    [.updateVarNum 2, .newGroup (.block [2, 2] none), .addClause [3, -6] false, .addClause [0, 7] true,
     .addClause [-9] true, .newGroup (.mapping 2 2 none), .updateVarNum (-1), .newGroup (.block [] none)] := by
  simp only [GuardedRun, Guarded, and_true, true_and]
  decide +kernel

end Cnfgen.C10
