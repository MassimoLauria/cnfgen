/-
C17 (and C03 / C14) for the TOOL `kthlist2pebbling`, end to end (text in, text out): the composition of
  * the argparse model of the tool's parser on every token list (Cli/ToolArgs.lean),
  * the kthlist reader for `dag` (C14: `reader_raises_only_valueError`, `dag_edges_increasing`,
    `dag_kthlist_only_increasing`),
  * the representation invariant ⇒ `TopoDAG` bridge of C16 and the pebbling theorems of C03 (`peb_wf`, `peb_unsat`, `peb_axioms`),
  * the character-level DIMACS writer / reader of C06,
  * `kthlist2pebbling_is_peb` (Props/C17/Dispatch.lean: the tool and `cnfgen peb` make the same library call),
through the process model `k2pRun` (Cli/Tools.lean; outcome theorems in Props/C18/Tools.lean).
-/
import Props.C18.Tools
import Props.C16.BridgeC03a
import Props.C17.Dispatch
namespace Cnfgen.C17
open Cnfgen Cnfgen.IO Cnfgen.Cli.ToolArgs Cnfgen.Cli.Tools Cnfgen.ToolsL Cnfgen.Fam.Pebbling

theorem toCNF_wf_of_clauses (F : Formula) (h : F.WF) (hc : ∀ c ∈ F.cons, ∃ cl, c = .clause cl) : F.toCNF.WF := by
  intro c' hc' l hl
  simp only [Formula.toCNF, List.mem_flatMap] at hc'
  obtain ⟨con, hcon, hmem⟩ := hc'
  obtain ⟨cl, rfl⟩ := hc con hcon
  simp only [Con.toCNF, List.mem_singleton] at hmem
  subst hmem
  exact h _ hcon l hl

theorem peb_all_clauses (D : DiG) : ∀ c ∈ (peb D).cons, ∃ cl, c = .clause cl := by
  intro c hc
  simp only [peb, List.mem_flatMap, List.mem_cons] at hc
  obtain ⟨v, _, hc | hc⟩ := hc
  · exact ⟨_, hc⟩
  · split at hc
    · simp only [List.mem_singleton] at hc; exact ⟨_, hc⟩
    · simp at hc

theorem readDag_topo (u : Bool) (s : IO.Str) (D : DiG) (h : C18.readDag u s = .ok (.di D)) :
    TopoDAG D ∧ D.stillDag = true := by
  obtain ⟨D', hD, hinv, hd, _⟩ := C18.readDag_ok u s _ h
  cases hD
  exact ⟨C16.topoDAG_of_inv D hinv hd, hd⟩

/-- T-C17.8a `kthlist2pebbling`, text to text (no transformation).  For every argv and environment: if the process ends
with exit status 0 having written the characters `t`, then the input text `s` (stdin, or the file `-i` names) is
accepted by the `dag` kthlist reader — every predecessor it lists is smaller than its vertex — as a DAG `D` in
topological order; `PebblingFormula(D)` accepts it; `t` is the DIMACS rendering of that formula (header unless `-q`); the
formula is well formed, says exactly the pebbling axioms of `D` (`C03.peb_axioms`), and is UNSATISFIABLE as soon as `D` has
a vertex; and, its two counts being printable, the strict reader applied to the written characters returns it. -/
theorem k2p_end_to_end (env : Env) (argv : List String) (d : Dest) (t : IO.Str)
    (h : k2pRun env argv = some (.ok d t)) :
    ∃ st s u n D,
      parse k2pSpec (act env) argv {} = .ok st ∧ inputOf env st = (.text s, u, n) ∧
      C18.readDag u s = .ok (.di D) ∧ TopoDAG D ∧
      (∀ x ∈ GraphFmt.kthPairs (GraphLex.lexKth (if u then GraphLex.universalNL s else s)), x.1 < x.2) ∧
      pebbling D = .ok (peb D) ∧
      t = renderDimacsText (peb D).toCNF (if st.verbose then some (toIOHeader (C18.k2pHdr env u s)) else none) none ∧
      (peb D).toCNF.WF ∧ (peb D).toCNF.nvars = D.n ∧
      (∀ α, (peb D).toCNF.holds α = true ↔ PebSpec D (fun v => α (xvar D.n v) = true)) ∧
      (1 ≤ D.n → ¬ ∃ α, (peb D).toCNF.holds α = true) ∧
      (C06.Printable (peb D).toCNF → ∀ u', readDimacsText u' t = .ok (peb D).toCNF) := by
  obtain ⟨st, s, u, n, D, hp, hi, hr, _, hd, _, ht⟩ := C18.k2p_ok_spec env argv d t h
  obtain ⟨htopo, _⟩ := readDag_topo u s D hr
  have hwf : (peb D).WF := C03.peb_wf D htopo
  have hcwf : (peb D).toCNF.WF := toCNF_wf_of_clauses _ hwf (peb_all_clauses D)
  refine ⟨st, s, u, n, D, hp, hi, hr, htopo, ?_, C03.pebbling_accepts D hd, ht, hcwf, rfl, ?_, ?_, ?_⟩
  · exact C14.dag_kthlist_only_increasing _ _ hr
  · intro α
    rw [Formula.toCNF_holds α _ hwf]
    exact C03.peb_axioms D α
  · intro hn
    exact (C03.peb_unsat_rendered D htopo hn).1
  · intro hpr u'
    rw [ht]
    exact (C18.written_text_readable _ _ hcwf hpr u').1

/-- (b) `tool_output_readable` for kthlist2pebbling: what a successful run wrote is the DIMACS rendering of a well-formed
formula `G`; when its two counts are printable (at most 4300 digits — the graph lexer of the model has no digit limit,
so this is a hypothesis here; for cnfshuffle it is proved) the strict reader applied to the written CHARACTERS returns `G`,
the problem row states the true counts, every row before it is a comment and every row after it a clause -/
theorem tool_output_readable_k2p (env : Env) (argv : List String) (d : Dest) (t : IO.Str)
    (h : k2pRun env argv = some (.ok d t)) :
    ∃ G : CNF, G.WF ∧ (∃ hdr, t = renderDimacsText G hdr none) ∧
      (C06.Printable G → ∀ u : Bool, readDimacsText u t = .ok G ∧
        ∃ comments : List Row,
          lex u t = comments ++ [Tok.word ['p'], Tok.word "cnf".toList, Tok.int (G.nvars : Int), Tok.int (G.clauses.length : Int)] ::
            G.clauses.map (fun c => c.map Tok.int ++ [Tok.int 0]) ∧
          ∀ r ∈ comments, r.cls = .comment ∧ ∃ rest, r = Tok.word ['c'] :: rest) := by
  obtain ⟨st, s, u, n, D, _, _, _, _, _, _, ht, hwf, _⟩ := k2p_end_to_end env argv d t h
  refine ⟨(peb D).toCNF, hwf, ⟨_, ht⟩, ?_⟩
  intro hp u'
  rw [ht]
  exact C18.written_text_readable _ _ hwf hp u'

/-- T-C17.8b the tool and `cnfgen peb <file>`: by `kthlist2pebbling_is_peb` both command lines make ONE library call, the
same generator `PebblingFormula` applied to one graph and nothing else; `pebbling` is the model of that generator
(compared with it by the correspondence of C03), and the tool writes exactly `pebbling D` of the DAG it read -/
theorem k2p_writes_what_peb_builds (env : Env) (argv : List String) (d : Dest) (t : IO.Str)
    (h : k2pRun env argv = some (.ok d t)) :
    (Cli.pebTemplates.length = 1 ∧ Cli.k2pTemplates.length = 1 ∧
      (Cli.pebTemplates.all (fun a => Cli.k2pTemplates.all (Cli.sameCallShape a))) = true) ∧
    ∃ st s u n D F, inputOf env st = (.text s, u, n) ∧ C18.readDag u s = .ok (.di D) ∧
      pebbling D = .ok F ∧
      t = renderDimacsText F.toCNF (if st.verbose then some (toIOHeader (C18.k2pHdr env u s)) else none) none := by
  refine ⟨kthlist2pebbling_is_peb, ?_⟩
  obtain ⟨st, s, u, n, D, _, hi, hr, _, _, hacc, ht, _⟩ := k2p_end_to_end env argv d t h
  exact ⟨st, s, u, n, D, peb D, hi, hr, hacc, ht⟩

/-- T-C14.3 at tool level: a kthlist text in which some listed predecessor is NOT smaller than its vertex (not a DAG in
increasing order) never produces a formula — the run reads it and ends in the reported error (prefix `c `) -/
theorem k2p_refuses_non_increasing (env : Env) (st : Args) (s : IO.Str) (u : Bool) (n : String)
    (hi : inputOf env st = (.text s, u, n))
    (hbad : ∃ x ∈ GraphFmt.kthPairs (GraphLex.lexKth (if u then GraphLex.universalNL s else s)), ¬ x.1 < x.2) :
    k2pBody env st = .cliError .reader "c " := by
  rcases C18.k2pBody_cases env st with ⟨u', n', hi', _⟩ | ⟨u', n', hi', _⟩ | ⟨s', u', n', hi', _, hb⟩ |
      ⟨s', u', n', D, hi', hr, _, _, _⟩
  · rw [hi] at hi'; cases hi'
  · rw [hi] at hi'; cases hi'
  · exact hb
  · rw [hi] at hi'
    cases hi'
    obtain ⟨x, hx, hnot⟩ := hbad
    exact absurd (C14.dag_kthlist_only_increasing _ _ hr x hx) hnot

/-- … stated on the process: whenever the parse succeeds and the text named has a non-increasing edge -/
theorem k2p_non_dag_is_cliError (env : Env) (argv : List String) (st : Args)
    (hp : parse k2pSpec (act env) argv {} = .ok st) (s : IO.Str) (u : Bool) (n : String)
    (hi : inputOf env st = (.text s, u, n))
    (hbad : ∃ x ∈ GraphFmt.kthPairs (GraphLex.lexKth (if u then GraphLex.universalNL s else s)), ¬ x.1 < x.2) :
    k2pRun env argv = some (.cliError .reader "c ") := by
  unfold k2pRun
  rw [hp]
  simp only [k2p_refuses_non_increasing env st s u n hi hbad]

/-- the process started from a namespace `st0` (`k2pRun` is `… {}`) -/
def k2pFrom (env : Env) (st0 : Args) (argv : List String) : Option Cli.Tools.Outcome :=
  match parse k2pSpec (act env) argv st0 with
  | .error .help => some .help
  | .error .error => some (.cliError .parser "c ")
  | .error (.sub _ _ _ _) => none
  | .ok st => some (k2pBody env st)

theorem k2pRun_eq_from (env : Env) (argv : List String) : k2pRun env argv = k2pFrom env {} argv := rfl

/-- `-q` / `--quiet` first: quiet/verbose selects the header and changes nothing else -/
theorem k2p_quiet_token (env : Env) (st0 : Args) (argv : List String) :
    k2pFrom env st0 ("-q" :: argv) = k2pFrom env { st0 with verbose := false } argv ∧
    k2pFrom env st0 ("--quiet" :: argv) = k2pFrom env { st0 with verbose := false } argv := by
  constructor
  · unfold k2pFrom
    rw [parse_flag_head k2pSpec (act env) "-q" ⟨"verbose", ["--quiet", "-q"], .flag⟩ '-' ['q'] rfl rfl (by decide)
      (by decide +kernel) rfl argv st0]
    rfl
  · unfold k2pFrom
    rw [parse_flag_head k2pSpec (act env) "--quiet" ⟨"verbose", ["--quiet", "-q"], .flag⟩ '-' "-quiet".toList rfl rfl
      (by decide) (by decide +kernel) rfl argv st0]
    rfl

/-- `-i <file>` first (a file name that does not start with `-`): a file that cannot be opened is a reported error;
otherwise the rest of the line is processed with that file as the input -/
theorem k2p_input_token (env : Env) (st0 : Args) (f : String) (hf : f.toList.head? ≠ some '-') (argv : List String) :
    k2pFrom env st0 ("-i" :: f :: argv) =
      if st0.opened.contains f || (env.file f).isSome then k2pFrom env { st0 with input := .file f } argv
      else some (.cliError .parser "c ") := by
  have hne : f ≠ "-" := by intro h; rw [h] at hf; simp at hf
  unfold k2pFrom
  rw [parse_one_head k2pSpec (act env) "-i" f ⟨"input", ["--input", "-i"], .one⟩ '-' ['i'] rfl rfl (by decide)
    (by decide +kernel) rfl hf argv st0]
  have hmap : act env st0 ⟨"input", ["--input", "-i"], .one⟩ (.val f) =
      (openRead env st0 f).map (fun i => { st0 with input := i }) := rfl
  by_cases hc : (st0.opened.contains f || (env.file f).isSome) = true
  · have hact : act env st0 ⟨"input", ["--input", "-i"], .one⟩ (.val f) = some { st0 with input := .file f } := by
      rw [hmap]; unfold openRead; rw [if_neg hne, if_pos hc]; rfl
    rw [hact, if_pos hc]
  · have hact : act env st0 ⟨"input", ["--input", "-i"], .one⟩ (.val f) = none := by
      rw [hmap]; unfold openRead; rw [if_neg hne, if_neg hc]; rfl
    rw [hact, if_neg hc]

/-! non-vacuity -/

example : (match C18.readDag true "3\r\n1 : 0\r\n2 : 0\r\n3 : 1 2 0\r\n".toList with
    | .ok (.di D) => D.n == 3 && D.stillDag && D.edges.length == 2
    | _ => false) = true := by decide +kernel

/-- a text with a backward edge `2 → 1`: the hypothesis of `k2p_non_dag_is_cliError` holds -/
example : ∃ x ∈ GraphFmt.kthPairs (GraphLex.lexKth "2\n1 : 2 0\n2 : 0\n".toList), ¬ x.1 < x.2 :=
  ⟨(2, 1), by lit_decide, by decide⟩

example : k2pRun (C18.demoEnv (.text "2\n".toList)) ["-i", "missing"] = some (.cliError .parser "c ") := by decide +kernel

end Cnfgen.C17
