/-
C17 (argparse) — the command line → library call mapping on EVERY list of tokens.

`Cnfgen.Cli.AP.dispatchX` (CnfgenModel/Cli/Argparse.lean) runs argparse as CPython 3.12 does (abbreviations,
`--opt=value`, clusters, `--`, negative numbers, unknown options, `-h`) and handles every sub-command, the ones that
build their formula inline included.  Theorems: the table ones by `decide +kernel` over the regenerated tables, the
others for all token lists (Lemmas/Argparse*.lean).
-/
import CnfgenModel.Cli.Argparse
import Lemmas.ArgparseTotal
import Lemmas.ArgparseTokens
import Lemmas.ArgparseRefine
import Props.C17.Dispatch
import Lemmas.ArgparseDispatchTotal
import Lemmas.ArgparseFlag
import Lemmas.ArgparseWorlds
namespace Cnfgen.C17
open Cnfgen.Cli Cnfgen.Cli.AP Cnfgen.Gen

/-- the helpers that build their formula themselves are the six of `inlineNames` -/
theorem inline_of_mem {s : CliSpec} (hs : s ∈ cliSpecs) : s.inline = inlineByName s ∧ (s.inline = false ∨ s.name ≠ "") := by
  have h : cliSpecs.all (fun s => s.inline == inlineByName s && (!s.inline || s.name != "")) = true := by
    decide +kernel
  simpa using List.all_eq_true.1 h s hs

/-- on the regenerated table the extended interpreter handles exactly the entries that have a sub-command name
(the only other entry is the base class `TransformationHelper`) -/
theorem supportedX_of_mem {s : CliSpec} (hs : s ∈ cliSpecs) : s.supportedX = (s.name != "") := by
  rw [CliSpec.supportedX, (class_of_mem hs).1, handledByName, ← (inline_of_mem hs).1]
  rcases (inline_of_mem hs).2 with hi | hi
  · simp [hi]
  · cases s.inline <;> simp [hi]

theorem inline_eq_byName : cliSpecs.filter (·.inline) = cliSpecs.filter inlineByName :=
  List.filter_congr fun _ hs => (inline_of_mem hs).1

theorem standard_eq_byName : cliSpecs.filter (·.standard) = cliSpecs.filter standardByName :=
  List.filter_congr fun _ hs => (class_of_mem hs).2.1

/-- `php` and the five composed sub-commands, selected by name -/
theorem special_eq_byName :
    cliSpecs.filter (fun s => s.supportedX && !(s.standard || s.inline)) =
      cliSpecs.filter (fun s => s.name == "php" || composedNames.contains s.name) := by
  have h : cliSpecs.all (fun s => (s.name != "" && !(standardByName s || inlineByName s)) ==
      (s.name == "php" || composedNames.contains s.name)) = true := by decide +kernel
  exact List.filter_congr fun s hs => by
    rw [supportedX_of_mem hs, (class_of_mem hs).2.1, (inline_of_mem hs).1]
    exact beq_iff_eq.1 (List.all_eq_true.1 h s hs)

theorem handled_eq_named : cliSpecs.filter (·.supportedX) = cliSpecs.filter (·.name != "") :=
  List.filter_congr fun _ hs => supportedX_of_mem hs

theorem supportedNamesX_eq (kind : String) :
    supportedNamesX kind = (cliSpecs.filter (fun s => s.kind == kind && s.name != "")).map (·.name) := by
  unfold supportedNamesX
  rw [List.filter_congr fun s hs => by rw [supportedX_of_mem hs]]

/-- EVERY formula sub-command is handled by the extended interpreter -/
theorem handled_formula_commands_x :
    supportedNamesX "formula" = (cliSpecs.filter (fun s => s.kind == "formula" && s.name != "")).map (·.name) :=
  supportedNamesX_eq "formula"

/-- EVERY transformation sub-command is handled -/
theorem handled_transformation_commands_x :
    supportedNamesX "transformation" =
      (cliSpecs.filter (fun s => s.kind == "transformation" && s.name != "")).map (·.name) :=
  supportedNamesX_eq "transformation"

/-- the sub-commands that build their formula themselves (modelled by hand, `inlineBuild`): their regenerated bodies
are the ones the hand-written model was made for -/
theorem inline_sources_pinned :
    (cliSpecs.filter (·.inline)).map (·.name) = ["and", "dimacs", "false", "or", "true", "none"] := by
  rw [inline_eq_byName]
  decide +kernel

/-- every option of every handled sub-command has a modelled arity; a file type only on a single / optional
argument; an optional takes no, one or `+` arguments -/
theorem all_options_modelled : (cliSpecs.filter (·.supportedX)).all (fun s => s.opts.all goodOpt) = true := by
  rw [handled_eq_named]
  decide +kernel

theorem goodOpt_of_mem {s : CliSpec} (hs : s ∈ cliSpecs) (hsx : s.supportedX = true) : ∀ o ∈ s.opts, goodOpt o = true :=
  List.all_eq_true.1 (List.all_eq_true.1 all_options_modelled s (List.mem_filter.2 ⟨hs, hsx⟩))

/-- T-C17.5c′ (extended) PARSER TOTALITY.  For every handled sub-command and EVERY list of tokens — no fragment
hypothesis: abbreviated, `=`-joined, clustered, unknown options, `--`, `-h` anywhere — the parser of the sub-command
(with the sub-parsers of `compose_two_parsers` and the inner parser of `php`) answers with bindings, a CLIError, or
the help exit; never anything else. -/
theorem parser_total_all_tokens (s : CliSpec) (hs : s ∈ cliSpecs) (hsup : s.supportedX = true)
    (argv : List String) :
    (∃ b, parseX s argv = .ok b) ∨ parseX s argv = .error .cliError ∨ parseX s argv = .error .helpExit := by
  exact parseX_total s (goodOpt_of_mem hs hsup) argv

example : (cliSpecs.find? (·.name == "kclique")).map (fun s => parseX s ["--no", "3", "complete", "4"]) =
    some (.ok [("G", .graph "simple" ["complete", "4"]), ("k", .int 3), ("symmetrybreaking", .bool false)]) := by
  decide +kernel

/-- the option strings of every handled sub-command (with `-h`, `--help`), read once: `stringsOK` — none looks like a
negative number, none contains `=` or a blank; `shortStringsOK` — every single-dash option string is one letter, and no
parser declares an option string twice -/
theorem option_strings_ok :
    (cliSpecs.filter (·.supportedX)).all (fun s =>
      stringsOK (mainSpec s).strings && shortStringsOK (mainSpec s).strings) = true := by
  rw [handled_eq_named]
  decide +kernel

/-- the option strings of every handled sub-command (with `-h`, `--help`): none looks like a negative number
(`_has_negative_number_optionals` is empty, so `-1` is an argument everywhere), none contains `=` or a blank -/
theorem option_strings_plain :
    (cliSpecs.filter (·.supportedX)).all (fun s => stringsOK (mainSpec s).strings) = true :=
  List.all_eq_true.2 fun s hs => (Bool.and_eq_true _ _ ▸ List.all_eq_true.1 option_strings_ok s hs).1

/-- PREFIXES.  For every handled sub-command and every long option of it: each proper prefix (≥ 3 characters) is
read as that option when it is a prefix of no other option string, and refused as ambiguous otherwise
(`--no` for `shuffle`, `--knuth` for `op`) -/
theorem unique_prefixes_accepted :
    (cliSpecs.filter (·.supportedX)).all (fun s => abbrevOK (mainSpec s).strings) = true :=
  List.all_eq_true.2 fun s hs => abbrevOK_of_stringsOK _ (List.all_eq_true.1 option_strings_plain s hs)

/-- CLUSTERS.  For every handled sub-command: any two or three of its one-letter flags (`-h` included) written as
one token `-xy`, `-xyz` are read as `-x` with the other letters as explicit argument -/
theorem flag_clusters_classified :
    (cliSpecs.filter (·.supportedX)).all (fun s => clusterOK (mainSpec s).strings) = true :=
  List.all_eq_true.2 fun s hs => clusterOK_of_stringsOK _ (List.all_eq_true.1 option_strings_plain s hs)
    (Bool.and_eq_true _ _ ▸ List.all_eq_true.1 option_strings_ok s hs).2

theorem dispatchX_congr (tool : String) (ord : List String → Nat) (s : CliSpec) (argv argv' : List String)
    (hp : parseX s argv = parseX s argv') (ht : topAmbiguous tool s.kind argv = topAmbiguous tool s.kind argv') :
    dispatchSpecX tool ord s argv = dispatchSpecX tool ord s argv' := by
  unfold dispatchSpecX
  rw [hp, ht]

/-- T-C17.6a ABBREVIATION.  A token that the sub-command's parser reads as the option string `f` — by
`unique_prefixes_accepted`: every unique prefix of a long option — behaves exactly like `f`: anywhere before the
first `--`, in ANY command line (other abbreviations, `=`-forms, clusters, errors included), the parser makes the same
bindings or fails the same way. -/
theorem abbreviation_sound (s : CliSpec) (pre post : List String) (a f : String)
    (hpre : "--" ∉ pre) (ha : a ≠ "--") (hf : f ≠ "--")
    (hcls : classifyTok (mainSpec s).strings a = classifyTok (mainSpec s).strings f) :
    parseX s (pre ++ a :: post) = parseX s (pre ++ f :: post) :=
  engine_same_class (mainBind s) (mainSpec s) pre post a f hpre ha hf hcls

/-- … and so the same thing is built, when the tool's own parser does not find the abbreviation ambiguous
(`--v`, `--he`, `--o` are: they are prefixes of several options of `cnfgen` itself) -/
theorem abbreviation_sound_dispatch (tool : String) (ord : List String → Nat) (s : CliSpec)
    (pre post : List String) (a f : String) (hpre : "--" ∉ pre) (ha : a ≠ "--") (hf : f ≠ "--")
    (hcls : classifyTok (mainSpec s).strings a = classifyTok (mainSpec s).strings f)
    (htop : (classifyTok (topStrings tool s.kind) a).isAmbiguous = (classifyTok (topStrings tool s.kind) f).isAmbiguous) :
    dispatchSpecX tool ord s (pre ++ a :: post) = dispatchSpecX tool ord s (pre ++ f :: post) := by
  apply dispatchX_congr tool ord s _ _ (abbreviation_sound s pre post a f hpre ha hf hcls)
  unfold topAmbiguous
  have hw : ∀ (x : String) (hx : x ≠ "--"), (pre ++ x :: post).takeWhile (fun t => t != "--") =
      pre ++ x :: post.takeWhile (fun t => t != "--") := by
    intro x hx
    have hall : ∀ y ∈ pre, (y != "--") = true := by
      intro y hy
      simp only [bne_iff_ne, ne_eq]
      intro e
      exact hpre (e ▸ hy)
    rw [List.takeWhile_append_of_pos hall]
    simp [hx]
  rw [hw a ha, hw f hf]
  simp only [List.any_append, List.any_cons, htop]

example : classifyTok (optStrings []) "--he" = classifyTok (optStrings []) "--help" := by decide +kernel

/-- T-C17.6b `--opt=v` IS `--opt v`.  For an option that takes ONE argument, `f=v` (read by the parser as `f` with the
explicit argument `v` — `eq_token_classified`: every `f=v` where `f` is an option string) and the two tokens `f v`,
`v` an argument: same bindings / same failure, anywhere before the first `--`, in any command line. -/
theorem eq_form_sound (s : CliSpec) (pre post : List String) (t f v : String) (tg : Target)
    (hpre : "--" ∉ pre) (ht : t ≠ "--") (hf : f ≠ "--") (hv : v ≠ "--")
    (hct : classifyTok (mainSpec s).strings t = .opt tg f (some v))
    (hcf : classifyTok (mainSpec s).strings f = .opt tg f none)
    (hcv : classifyTok (mainSpec s).strings v = .arg v) (h1 : arityT tg = .one) :
    parseX s (pre ++ t :: post) = parseX s (pre ++ f :: v :: post) :=
  engine_eqform (mainBind s) (mainSpec s) pre post t f v tg hpre ht hf hv hct hcf hcv (.inl h1)

/-- the hypotheses of `eq_form_sound` hold of `--sparse=3` for `stone`, and both spellings parse alike -/
example : (cliSpecs.find? (fun s => s.kind == "formula" && s.name == "stone")).map (fun s =>
      ((match classifyTok (mainSpec s).strings "--sparse=3" with | .opt (.opt o) f (some v) => (o.dest, f, v, decide (o.arity = .one)) | _ => ("", "", "", false)),
       classifyTok (mainSpec s).strings "3" == .arg "3",
       parseX s ["2", "pyramid", "2", "--sparse=3"] == parseX s ["2", "pyramid", "2", "--sparse", "3"])) =
    some (("sparse", "--sparse", "3", true), true, true) := by decide +kernel

/-- … for an option that takes ONE OR MORE arguments (the graph options `-e`, `-G`, `-H`): `f=v` takes exactly `v`, so
it is `f v` when no further argument follows (end of the command line, an option, `--`) -/
theorem eq_form_sound_plus (s : CliSpec) (pre post : List String) (t f v : String) (tg : Target)
    (hpre : "--" ∉ pre) (ht : t ≠ "--") (hf : f ≠ "--") (hv : v ≠ "--")
    (hct : classifyTok (mainSpec s).strings t = .opt tg f (some v))
    (hcf : classifyTok (mainSpec s).strings f = .opt tg f none)
    (hcv : classifyTok (mainSpec s).strings v = .arg v) (h1 : arityT tg = .plus)
    (hpost : post = [] ∨ ∃ x rest, post = x :: rest ∧ (x = "--" ∨ ∀ y, classifyTok (mainSpec s).strings x ≠ .arg y)) :
    parseX s (pre ++ t :: post) = parseX s (pre ++ f :: v :: post) :=
  engine_eqform (mainBind s) (mainSpec s) pre post t f v tg hpre ht hf hv hct hcf hcv
    (.inr ⟨h1, avail_nil_of_head _ post hpost⟩)

/-- `f=v` is read as `f` with the explicit argument `v`, for every option string `f` and every `v` -/
theorem eq_token_is_option (strs : List (String × Target)) (f v : String) (tg : Target) (fr : List Char)
    (hf : f.toList = '-' :: fr) (hfr : fr ≠ []) (hne : '=' ∉ f.toList) (hl : lookupOS strs f = some tg)
    (hnot : lookupOS strs (f ++ "=" ++ v) = none) :
    classifyTok strs (f ++ "=" ++ v) = .opt tg f (some v) :=
  have _ := hfr
  eq_token_classified strs f v tg fr hf hne hl hnot

/-- T-C17.6c CLUSTER.  A token `-x<e>` read by the parser as the flag `-x` with explicit argument `e`
(`flag_clusters_classified`) whose letters all stand for flags (options without argument, `-h` included) is the
sequence of the separate flags: same bindings / same failure / same help exit, anywhere before the first `--`. -/
theorem cluster_sound (s : CliSpec) (pre post : List String) (t os e : String) (tg : Target)
    (ts : List (Target × String))
    (hpre : "--" ∉ pre) (ht : t ≠ "--") (hos : os ≠ "--") (hts : ∀ x ∈ ts, x.2 ≠ "--")
    (hct : classifyTok (mainSpec s).strings t = .opt tg os (some e))
    (hcos : classifyTok (mainSpec s).strings os = .opt tg os none)
    (hcts : ∀ x ∈ ts, classifyTok (mainSpec s).strings x.2 = .opt x.1 x.2 none)
    (hs : singleDash os = true) (he : e.toList ≠ []) (h0 : arityT tg = .zero)
    (hall : FlagsOf (mainSpec s).strings e.toList (ts.map (·.1))) :
    parseX s (pre ++ t :: post) = parseX s (pre ++ os :: ts.map (·.2) ++ post) :=
  engine_cluster (mainBind s) (mainSpec s) pre post t os e tg ts hpre ht hos hts hct hcos hcts hs he h0 hall

/-- the hypotheses of `cluster_sound` hold of `-pvc` for `shuffle`, and the parse computes -/
example : (cliSpecs.find? (fun s => s.kind == "transformation" && s.name == "shuffle")).map
      (fun s => (parseX s ["-pvc"] == parseX s ["-p", "-v", "-c"], (parseX s ["-pvc"]).toOption.map (·.length))) =
    some (true, some 3) := by decide +kernel

/-- the option tables of the sub-commands with standard options are what the comparison needs: no option string
looks like a number or is `-h` / `--help` / `--`; the call templates do not ask for the order of a graph; none
builds its formula inline -/
theorem standard_tables_comparable :
    (cliSpecs.filter (·.standard)).all (fun s => fragOK s && s.templates.all templateOrderFree && !s.inline) = true := by
  rw [standard_eq_byName]
  -- which entries are inline was evaluated in `inline_of_mem`
  have h : (cliSpecs.filter standardByName).all (fun s => fragOK s && s.templates.all templateOrderFree &&
      !inlineByName s) = true := by decide +kernel
  refine List.all_eq_true.2 fun s hs => ?_
  rw [(inline_of_mem (List.mem_filter.1 hs).1).1]
  exact List.all_eq_true.1 h s hs

/-- T-C17.7 REFINEMENT.  For every sub-command with standard options (all handled ones but `php` and the five
composed) and EVERY command line of the fragment that Cli/Dispatch.lean models: the extended parser makes exactly
the bindings of the fragment's parser or fails with its CLIError; and whatever `dispatch` answers — library call
or CLIError — the extended interpreter answers (the tool's own parser permitting).  So `flag_noninterference`,
`variant_flag_selects_a_variant`, `positional_tokens_no_swap`, `dispatch_total`, `dispatch_error_iff_parser_error`
are statements about the extended interpreter too. -/
theorem extended_refines_fragment (s : CliSpec) (hs : s ∈ cliSpecs) (hstd : s.standard = true)
    (argv : List String) (hf : inFragment s argv = true) :
    parseX s argv = liftE (parseArgs s argv) ∧
    ∀ (tool : String) (ord : List String → Nat), topAmbiguous tool s.kind argv = false →
      (∀ c, dispatchSpec s argv = .ok c → dispatchSpecX tool ord s argv = .ok (.call c)) ∧
      (dispatchSpec s argv = .error .cliError → dispatchSpecX tool ord s argv = .error .cliError) := by
  have h := (List.all_eq_true.1 standard_tables_comparable) s (List.mem_filter.2 ⟨hs, hstd⟩)
  simp only [Bool.and_eq_true, Bool.not_eq_true'] at h
  exact ⟨parseX_refines s hstd h.1.1 argv hf,
    fun tool ord htop => dispatchX_refines tool ord s hstd h.1.1 h.1.2 h.2 argv hf htop⟩

/-- … for instance totality: on the fragment the extended interpreter returns a library call or a CLIError
(`dispatch_total` transported; for ALL token lists see `parser_total_all_tokens`) -/
theorem dispatch_total_fragment_x (h : HelperSpec) (s : CliSpec) (hspec : specOf h = some s) (hs : s ∈ cliSpecs)
    (hstd : s.standard = true) (argv : List String) (hf : inFragment s argv = true) (tool : String)
    (ord : List String → Nat) (htop : topAmbiguous tool s.kind argv = false) :
    (∃ c, dispatchX tool ord h argv = .ok (.call c)) ∨ dispatchX tool ord h argv = .error .cliError := by
  have hx : dispatchX tool ord h argv = dispatchSpecX tool ord s argv := by unfold dispatchX; rw [hspec]
  have ho : dispatch h argv = dispatchSpec s argv := by unfold dispatch; rw [hspec]
  have hr := (extended_refines_fragment s hs hstd argv hf).2 tool ord htop
  rcases dispatch_total h s hspec hs hstd argv hf with ⟨c, hc⟩ | he
  · exact Or.inl ⟨c, by rw [hx]; exact hr.1 c (ho ▸ hc)⟩
  · exact Or.inr (by rw [hx]; exact hr.2 (ho ▸ he))

/-- the inline helpers have the option tables their hand-written models assume -/
theorem inline_tables_ok : (cliSpecs.filter (·.inline)).all inlineTableOK = true := by
  rw [inline_eq_byName]
  decide +kernel

/-- the sub-commands for which `dispatch_total_all_tokens` is proved: standard options or inline.  The others are
`php` (hand-written action) and the five that go through `compose_two_parsers`: `dispatch_total_every_command` below
covers them through the abstract interpreter. -/
theorem commands_outside_total_x :
    (cliSpecs.filter (fun s => s.supportedX && !(s.standard || s.inline))).map (·.name) =
      ["op", "php", "subsetcard", "tseitin", "majcomp", "xorcomp"] := by
  rw [special_eq_byName]
  decide +kernel

/-- T-C17.5c (extended) TOTALITY ON EVERY LIST OF TOKENS.  For the 44 sub-commands with standard options or an
inline body, EVERY token list (abbreviations, `=`, clusters, `--`, unknown options, `-h`, …), either tool: the
extended interpreter answers with what is built (a library call / the inline formula), a CLIError, or the help exit —
never `unsupported`, never an exception that escapes `cli()`.  (A single-argument option that holds the empty list —
CPython 3.12.1's removal of a lone `--`, `cnfgen stone 2 pyramid 2 --sparse=--` — makes the helper raise TypeError,
which `cli()` reports as a CLIError since the fix 45e8e26: `quirkCrash`.) -/
theorem dispatch_total_all_tokens (tool : String) (ord : List String → Nat) (s : CliSpec) (hs : s ∈ cliSpecs)
    (hc : s.standard = true ∨ s.inline = true) (argv : List String) :
    Answers (dispatchSpecX tool ord s argv) := by
  have hsx : s.supportedX = true := by
    unfold CliSpec.supportedX CliSpec.supported
    rcases hc with h | h <;> simp [h]
  have hgood := goodOpt_of_mem hs hsx
  by_cases hin : s.inline = true
  · exact dispatchX_total_inline tool ord s hin
      ((List.all_eq_true.1 inline_tables_ok) s (List.mem_filter.2 ⟨hs, hin⟩)) hgood argv
  · have hstd : s.standard = true := by
      rcases hc with h | h
      · exact h
      · exact absurd h hin
    have h1 := (List.all_eq_true.1 standard_tables_comparable) s (List.mem_filter.2 ⟨hs, hstd⟩)
    simp only [Bool.and_eq_true, Bool.not_eq_true'] at h1
    have h2 := (List.all_eq_true.1 standard_commands_totalClassExt) s (List.mem_filter.2 ⟨hs, hstd⟩)
    exact dispatchX_total_std tool ord s h2 h1.1.2 h1.2 hgood argv

/-- `php` and the five `compose_two_parsers` sub-commands: their option tables have the shape the derivation of their
WORLDS assumes (one custom positional, flags otherwise, disjoint dests, sub-parsers made of typed / chosen / optional /
graph positionals), and the abstract interpreter (Cli/ArgparseAbs.lean) accepts every world: whatever the numbers, the
graphs and the order of a graph file, the helper's method takes a path whose call can be built or that raises ValueError -/
theorem special_worlds_ok :
    (cliSpecs.filter (fun s => s.supportedX && !(s.standard || s.inline))).all
      (fun s => worldTablesOK s && worldsOK s) = true := by
  rw [special_eq_byName]
  decide +kernel

/-- T-C17.5c (extended, complete) TOTALITY FOR ALL 50 SUB-COMMANDS ON EVERY LIST OF TOKENS.  `php` and the composed
sub-commands included: the action of `php` is hand-written, and the guards of `op subsetcard tseitin majcomp xorcomp` do
arithmetic on, ask the order of, or test the existence of what only one of the two sub-parsers binds.  These six go
through the possible namespaces (the worlds of Cli/ArgparseAbs.lean) and an abstract interpreter proved sound over
them (`dispatchX_total_special`). -/
theorem dispatch_total_every_command (tool : String) (ord : List String → Nat) (s : CliSpec) (hs : s ∈ cliSpecs)
    (hsx : s.supportedX = true) (argv : List String) : Answers (dispatchSpecX tool ord s argv) := by
  by_cases hc : s.standard = true ∨ s.inline = true
  · exact dispatch_total_all_tokens tool ord s hs hc argv
  · have hns : s.standard = false := by
      cases h : s.standard with
      | true => exact absurd (Or.inl h) hc
      | false => rfl
    have hni : s.inline = false := by
      cases h : s.inline with
      | true => exact absurd (Or.inr h) hc
      | false => rfl
    have hgood := goodOpt_of_mem hs hsx
    have := (List.all_eq_true.1 special_worlds_ok) s (List.mem_filter.2 ⟨hs, by simp [hsx, hns, hni]⟩)
    simp only [Bool.and_eq_true] at this
    exact dispatchX_total_special tool ord s hsx hni this.1 this.2 hgood argv

/-- the quirk really occurs: `stone 2 pyramid 2 --sparse=--` (TypeError in the helper, reported as a CLIError) -/
example : dispatchNamedX "cnfgen" (fun _ => 4) "formula" "stone" ["2", "pyramid", "2", "--sparse=--"] =
    .error .cliError := by decide +kernel
example : dispatchNamedX "cnfgen" (fun _ => 4) "formula" "stone" ["2", "pyramid", "2", "--sp=2"] =
    .ok (.call ⟨"SparseStoneFormula", [.graph "dag" ["pyramid", "2"],
      .opaque "bipartite_random_left_regular(nvertices, nstones, degree)"],
      [("formula_class", .param "formula_class")]⟩) := by decide +kernel
example : dispatchNamedX "cnfgen" (fun _ => 4) "formula" "and" ["2", "--", "1"] =
    .ok (.formula 3 [[1], [2], [-3]]) := by decide +kernel
example : dispatchNamedX "cnfgen" (fun _ => 4) "formula" "bphp" ["3", "4", "--he"] = .error .cliError := by
  decide +kernel
example : dispatchNamedX "cnfgen" (fun _ => 4) "formula" "bphp" ["3", "4", "-x", "-h"] = .error .helpExit := by
  decide +kernel
example : dispatchNamedX "cnfgen" (fun _ => 0) "formula" "tseitin" ["first", "file.gml"] =
    .ok (.call ⟨"TseitinFormula", [.graph "simple" ["file.gml"], .none],
      [("formula_class", .param "formula_class")]⟩) := by decide +kernel

/-- every option string of a flag of a handled sub-command is read as that flag; a flag has no file type; no flag is
under a `G.order()` of its helper -/
theorem flag_tables_ok :
    (cliSpecs.filter (·.supportedX)).all (fun s => (s.opts.filter isFlag).all (fun o =>
      !isFileType o.ty && notUnderOrder s o.dest &&
      o.flags.all (fun f => f != "--" && classifyTok (mainSpec s).strings f == .opt (.opt o) f none))) = true := by
  rw [handled_eq_named]
  decide +kernel

theorem flag_table_of_mem {s : CliSpec} (hs : s ∈ cliSpecs) (hsup : s.supported = true) {o : OptSpec} (ho : o ∈ s.opts)
    (hfl : isFlag o = true) : isFileType o.ty = false ∧ notUnderOrder s o.dest = true := by
  have hsx := supportedX_of_supported s hsup
  have ht := (List.all_eq_true.1 ((List.all_eq_true.1 flag_tables_ok) s (List.mem_filter.2 ⟨hs, hsx⟩))) o
    (List.mem_filter.2 ⟨ho, hfl⟩)
  simp only [Bool.and_eq_true, Bool.not_eq_true'] at ht
  exact ht.1

/-- T-C17.5a‴ A FLAG IN FRONT OF ANY LIST OF TOKENS.  For every sub-command of the fragment's scope, every flag `o` of
it outside the mutually exclusive groups, every token `f` that the parser reads as `o` (each of its option strings —
`flag_tables_ok` —, each unique prefix — `unique_prefixes_accepted`), and EVERY list of tokens `argv` (not only the
fragment: abbreviations, `=`, clusters, `--`, unknown options, `-h`): the parser's answer on `f :: argv` is its answer
on `argv` with the binding of `o` added under the others — same bindings otherwise, same CLIError, same help exit. -/
theorem flag_in_front_parses_alike (s : CliSpec) (hs : s ∈ cliSpecs) (hsup : s.supported = true) (o : OptSpec)
    (ho : o ∈ s.opts) (hfl : isFlag o = true) (hg : o.group = "") (f : String) (hf : f ≠ "--")
    (hc : classifyTok (mainSpec s).strings f = .opt (.opt o) f none) (argv : List String) :
    parseX s (f :: argv) = Except.map (fun ns => ns ++ [(o.dest, o.flagVal)]) (parseX s argv) := by
  have hwf := handled_specWF hs hsup
  exact parseX_flag_cons s o f argv hwf ho hfl hg (flag_table_of_mem hs hsup ho hfl).1 hf hc

/-- T-C17.5a′ (extended) NON-INTERFERENCE OF FLAGS ON EVERY LIST OF TOKENS.  … and when no guard tests `o`: the run on
`f :: argv` fails as the run on `argv` does, or the helper takes the same path — the same template (`G.order()` of file
graphs replaced by the same numbers), hence the same generator and argument expressions — in a namespace where every
expression that does not mention `o.dest` has the same value.  (Exactly one argument of every call mentions `o.dest`:
`every_flag_reaches_exactly_one_argument`.)  The flags of a mutually exclusive group (`op --total --smart --knuth…`) are
covered on the fragment by `flag_noninterference`. -/
theorem flag_noninterference_x (ord : List String → Nat) (s : CliSpec) (hs : s ∈ cliSpecs)
    (hsup : s.supported = true) (o : OptSpec) (ho : o ∈ s.opts) (hfl : isFlag o = true) (hg : o.group = "")
    (f : String) (hf : f ≠ "--") (hc : classifyTok (mainSpec s).strings f = .opt (.opt o) f none)
    (hng : (guardDeps s).contains o.dest = false) (argv : List String) :
    match dispatchTemplateX ord s argv with
    | .error e => dispatchTemplateX ord s (f :: argv) = .error e
    | .ok (t, ns) =>
      ∃ ns', dispatchTemplateX ord s (f :: argv) = .ok (t, ns') ∧
        ∀ e : Expr, o.dest ∉ e.deps → evalE ns' e = evalE ns e := by
  have hwf := handled_specWF hs hsup
  have ht := flag_table_of_mem hs hsup ho hfl
  exact flagX_noninterference ord s o f argv hwf ho hfl hg ht.1 hf hc hng ht.2

/-- T-C17.5a″ (extended) VARIANT FLAGS (`randkcnf --plant`) ON EVERY LIST OF TOKENS: the flag in front does not change
the parser's verdict, and when the line is accepted every expression that does not mention the flag has the same value
in both namespaces — the flag selects the variant (`variantsAgree`, `every_flag_reaches_exactly_one_argument`) and
changes nothing else. -/
theorem variant_flag_x (s : CliSpec) (hs : s ∈ cliSpecs) (hsup : s.supported = true) (o : OptSpec)
    (ho : o ∈ s.opts) (hfl : isFlag o = true) (hg : o.group = "") (f : String) (hf : f ≠ "--")
    (hc : classifyTok (mainSpec s).strings f = .opt (.opt o) f none) (argv : List String) :
    (∀ e, parseX s (f :: argv) = .error e ↔ parseX s argv = .error e) ∧
    ∀ b, parseX s argv = .ok b → ∃ b', parseX s (f :: argv) = .ok b' ∧
      ∀ e : Expr, o.dest ∉ e.deps → evalE (namespaceOf s b') e = evalE (namespaceOf s b) e := by
  have h := flag_in_front_parses_alike s hs hsup o ho hfl hg f hf hc argv
  refine ⟨fun e => ?_, fun b hb => ?_⟩
  · rw [h]
    cases parseX s argv with
    | error e' => simp [Except.map]
    | ok b => simp [Except.map]
  · rw [h, hb]
    refine ⟨_, rfl, fun e he => ?_⟩
    exact evalE_frame _ _ o.dest
      (fun k hk => dflag_lookup_insert k o.dest o.flagVal b (defaults s) hk) e he

/-- ungrouped argument flags exist, also in the sub-commands outside `dispatch_total_all_tokens` (`op --plant`,
`subsetcard --equal`, `php --functional --onto`) -/
example : (cliSpecs.filter (fun s => s.supported && s.opts.any (fun o => isFlag o && o.group == "" &&
    !(guardDeps s).contains o.dest))).map (·.name) =
    ["domset", "kclique", "op", "php", "subsetcard", "shuffle"] := by decide +kernel

end Cnfgen.C17
