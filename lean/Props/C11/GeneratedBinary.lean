/-
C11 — `BinaryMappingVariables` as TRANSLATED from cnfgen/formula/variables.py (`Generated/Funcs.lean`) is the
hand-written model (`binId`, `binIndex`, `binIndices`, `forbidFull` of `Vars/Groups.lean`, `Vars/Patterns.lean`).
-/
import Lemmas.GenBinary
import Lemmas.GenCall
set_option linter.unusedSimpArgs false
namespace Cnfgen.C11
open Cnfgen Cnfgen.Vars Cnfgen.PyGen Cnfgen.GenVars

/-- the constructor: the two sign checks, then the object the model describes — number of bits `clog2 m`
(`int(ceil(log(m, 2)))`, exact), identifiers `nv + 1 … nv + n·bits`, `flips = product([1, -1], repeat=bits)` -/
theorem gen_binary_init_eq (nv : Nat) (n m : Int) :
    BinaryMappingVariables.init ⟨nv⟩ n m =
      if m < 0 ∨ n < 0 then Except.error Err.valueError else Except.ok (binSelf nv n.toNat m.toNat) := by
  unfold BinaryMappingVariables.init
  by_cases h : m < 0 ∨ n < 0
  · rw [if_pos h, if_pos h]
  · rw [if_neg h, if_neg h]
    have hm : 0 ≤ m := by omega
    have hn : 0 ≤ n := by omega
    simp only [bitlength_eq m, Py.ok_bind, Py.foldl_append_map fun flip => flip, List.map_id', List.nil_append,
      Int.toNat_natCast, binSelf]
    rw [Int.toNat_of_nonneg hm, Int.toNat_of_nonneg hn]

/-- what the model keeps of a `BinaryMappingVariables` object -/
def binGroup (self : BinaryMappingVariables) (fmt : String) : Group :=
  .binary (self.id_offset + 1).toNat self.domain_size.toNat self.range_size.toNat fmt

/-- the constructor of the source is the constructor of the model (`mkGroup … (.binaryMapping …)`) -/
theorem gen_binary_init_eq_model (nv : Nat) (n m : Int) (label : Option String) :
    (BinaryMappingVariables.init ⟨nv⟩ n m).map (fun self => binGroup self (label.getD "v({},{})")) =
      mkGroup nv (.binaryMapping n m label) := by
  rw [gen_binary_init_eq]
  simp only [mkGroup]
  by_cases h : m < 0 ∨ n < 0
  · have h' : n < 0 ∨ m < 0 := h.symm
    simp [h, h', bind, Except.bind, throw, throwThe, MonadExceptOf.throw]
  · have h' : ¬ (n < 0 ∨ m < 0) := fun x => h x.symm
    rw [if_neg h]
    simp only [h', if_false, bind, Except.bind, Py.map_ok, binGroup, binSelf, pure, Except.pure]
    congr 2

/-- `lit in group` -/
theorem gen_binary_contains_eq_model (nv n m : Nat) (lit : Int) :
    BinaryMappingVariables.contains (binSelf nv n m) lit = (Group.binary (nv + 1) n m "").contains lit :=
  Bool.decide_eq_true.trans (Py.ids_contains nv (n * clog2 m) lit)

theorem gen_binary_contains_iff (nv n m : Nat) (v : Int) :
    BinaryMappingVariables.contains (binSelf nv n m) v = true ↔
      nv + 1 ≤ v.natAbs ∧ v.natAbs < nv + 1 + n * clog2 m := by
  rw [gen_binary_contains_eq_model, Group.contains, Bool.and_eq_true, decide_eq_true_iff, decide_eq_true_iff]
  rfl

/-- `len(group)` -/
theorem gen_binary_len_eq_model (nv n m : Nat) :
    BinaryMappingVariables.len (binSelf nv n m) = ((Group.binary (nv + 1) n m "").len : Nat) :=
  Py.ids_len nv (n * clog2 m)

/-- `_unsafe_index_to_lit((i, b))` is the model's `binId`, on the pairs `indices()` lets through -/
theorem gen_binary_index_to_lit_eq_model (nv n m i b : Nat) (hi : 1 ≤ i) (hb : b < clog2 m) :
    BinaryMappingVariables.index_to_lit (binSelf nv n m) [(i : Int), (b : Int)] =
      Except.ok ((binId (nv + 1) (clog2 m) i b : Nat) : Int) := by
  simp only [BinaryMappingVariables.index_to_lit, Py.unpack2, Py.ok_bind, binSelf, binId]
  congr 1
  have : b ≤ i * clog2 m := by
    calc b ≤ clog2 m := by omega
      _ = 1 * clog2 m := by omega
      _ ≤ i * clog2 m := Nat.mul_le_mul_right _ hi
  push_cast [this]
  omega

/-- `to_index` is the model's `binIndex`: the same pair, the same ValueError, for every literal
(`// bitlength` is never reached with zero bits: the group is then empty) -/
theorem gen_binary_to_index_eq_model (nv n m : Nat) (lit : Int) :
    BinaryMappingVariables.to_index (binSelf nv n m) lit =
      (binIndex (nv + 1) n (clog2 m) lit).map (fun p => ((p.1 : Int), (p.2 : Int))) := by
  refine (Py.ite_not_ids_contains nv (n * clog2 m) lit _ _).trans ?_
  unfold binIndex
  by_cases hc : nv + 1 ≤ lit.natAbs ∧ lit.natAbs < nv + 1 + n * clog2 m
  · rw [if_pos hc, if_pos hc]
    have hbits : 0 < clog2 m := Nat.pos_of_mul_pos_left (Nat.pos_of_lt_add_right (Nat.lt_of_le_of_lt hc.1 hc.2))
    have hvar : Py.abs lit - (binSelf nv n m).id_offset - 1 = ((lit.natAbs - (nv + 1 - 1) - 1 : Nat) : Int) := by
      rw [Nat.add_sub_cancel, Nat.sub_sub, Int.ofNat_sub hc.1, Int.sub_sub]
      rfl
    have hb : (binSelf nv n m).bitlength = ((clog2 m : Nat) : Int) := rfl
    rw [hvar, hb, Py.floordiv_nat _ _ hbits, Py.mod_nat _ _ hbits]
    have hmod := Nat.mod_lt (lit.natAbs - (nv + 1 - 1) - 1) hbits
    simp only [Py.ok_bind, Py.map_ok]
    rw [← Int.natCast_one, ← Int.ofNat_sub hbits, ← Int.ofNat_sub (Nat.le_sub_one_of_lt hmod)]
    rfl
  · rw [if_neg hc, if_neg hc]
    rfl

/-- `indices(*pattern)` is the model's `binIndices`: the same pairs in the same order (`i` ascending, bits from the
most significant), the same ValueError (arity other than 0 / 2, `i` outside `1..n`, bit outside `0..bits-1`) -/
theorem gen_binary_indices_eq_model (nv n m : Nat) (pat : List (Option Int)) :
    BinaryMappingVariables.indices (binSelf nv n m) pat = (binIndices n (clog2 m) pat).map intPairs := by
  have hdom : Py.Range.toList (BinaryMappingVariables.domain (binSelf nv n m)) = ints (rangeN 1 (n + 1)) :=
    range_toList_nat n
  have hds : (binSelf nv n m).domain_size = (n : Int) := rfl
  have hbl : (binSelf nv n m).bitlength = ((clog2 m : Nat) : Int) := rfl
  -- after the arity test both sides are two columns and their product
  have hcols := fun a b => pairCols (binIndices_two n (clog2 m) a b) (fun x hx => Int.le_trans (by decide) hx.1)
    fun y hy => hy.1
  simp only [BinaryMappingVariables.indices, hdom, hds, hbl, rangeStep_down, ite_not]
  match pat with
  | [] => exact hcols none none
  | [_] => rfl
  | [a, b] => exact hcols a b
  | _ :: _ :: _ :: _ => rfl

theorem gen_binary_indices_legal {n bits : Nat} {pat : Pattern} {l : List (Nat × Nat)} (h : binIndices n bits pat = .ok l) :
    ∀ p ∈ l, 1 ≤ p.1 ∧ p.2 < bits := by
  by_cases hl : BinLegalPat n bits pat
  · rw [(binIndices_pattern n bits pat).1 hl] at h
    cases h
    intro p hp
    have := mem_binAll.1 (List.mem_of_mem_filter hp)
    exact ⟨this.1.1, this.2⟩
  · rw [(binIndices_pattern n bits pat).2 hl] at h; cases h

/-- `group(*index)` (`BaseVariableGroup.__call__`, as translated for this class) is the model's `baseCall`:
the identifier for a full index, the identifiers in order for a projection, the same exceptions -/
theorem gen_binary_call_eq_model (nv n m : Nat) (pat : List (Option Int)) :
    BinaryMappingVariables.call (binSelf nv n m) pat =
      ((Group.binary (nv + 1) n m "").baseCall pat).map resSum := by
  refine Eq.trans ?_ (baseCall_gen pat (binIndices n (clog2 m) pat) (fun p => ((p.1 : Int), (p.2 : Int)))
    (fun t => BinaryMappingVariables.index_to_lit (binSelf nv n m) [t.1, t.2] >>= fun r => Except.ok r)
    (fun p => binId (nv + 1) (clog2 m) p.1 p.2) (fun p => [p.1, p.2]) _ rfl (fun _ => rfl) fun l hl p hp => ?_)
  · rw [BinaryMappingVariables.call, gen_binary_indices_eq_model]
  · have := gen_binary_indices_legal hl p hp
    rw [gen_binary_index_to_lit_eq_model nv n m p.1 p.2 this.1 this.2]
    rfl

/-- `group(i, None)`: the identifiers of the bits of `i`, most significant first -/
theorem gen_binary_call_row (nv n m : Nat) (i : Int) :
    BinaryMappingVariables.call (binSelf nv n m) [some i, none] =
      if 1 ≤ i ∧ i ≤ (n : Int) then
        Except.ok (Sum.inr (ints ((List.range (clog2 m)).map (fun t => binId (nv + 1) (clog2 m) i.toNat (clog2 m - 1 - t)))))
      else Except.error Err.valueError := by
  rw [gen_binary_call_eq_model]
  have hidx : binIndices n (clog2 m) [some i, none] =
      if ¬ (1 ≤ i ∧ i ≤ (n : Int)) then .error .valueError else
        .ok ([i.toNat].flatMap fun i => (List.range (clog2 m)).reverse.map fun b => (i, b)) := rfl
  simp only [Group.baseCall, Group.indices, hidx]
  by_cases hi : 1 ≤ i ∧ i ≤ (n : Int)
  · rw [if_neg (not_not.2 hi), if_pos hi, reverse_range_eq_map]
    have hp : isProjection [some i, none] = true := rfl
    simp only [Py.map_ok, Py.ok_bind, hp, if_true, pure, Except.pure, resSum, ints, List.flatMap_cons, List.flatMap_nil,
      List.append_nil, pairList, List.map_map]
    rfl
  · rw [if_pos hi, if_neg hi]
    rfl

/-- **`forbid(i, j)`** as translated — `flips[j]` taken from `product([1,-1], repeat=bits)`, the variables from
`self(i, None)` — is the model's `forbidFull`: the sign of the `t`-th literal is `-` exactly when bit `bits-1-t` of
`j` is set (`flipPattern`, arithmetic), negative `j` are Python indices from the end, the exceptions are the same
and come in the same order (`j` too large → ValueError, `j < -2^bits` → IndexError, then `i` outside `1..n`) -/
theorem gen_binary_forbid_eq_model (nv n m : Nat) (i j : Int) :
    BinaryMappingVariables.forbid (binSelf nv n m) i j = forbidFull (nv + 1) n (clog2 m) i j := by
  have hbl : (binSelf nv n m).bitlength = ((clog2 m : Nat) : Int) := rfl
  have hfl : (binSelf nv n m).flips = productRep [1, -1] (clog2 m) := rfl
  simp only [BinaryMappingVariables.forbid, forbidFull, hbl, hfl, Py.pow, Int.toNat_natCast, flips_index,
    gen_binary_call_row]
  by_cases hj : j ≥ 2 ^ clog2 m
  · rw [if_pos hj, if_pos hj]
  · rw [if_neg hj, if_neg hj]
    cases flipsGet (clog2 m) j with
    | error e => rfl
    | ok signs =>
      simp only [Py.ok_bind, bind, Except.bind]
      by_cases hi : 1 ≤ i ∧ i ≤ (n : Int)
      · simp only [hi, and_self, if_true, not_true_eq_false, if_false]
        congr 1
        simp only [ints, List.map_map]
        exact zip_map_mul _ _ _
      · simp only [hi, if_false, not_false_eq_true, if_true]

theorem gen_binary_init_ok {nv : Nat} {n m : Int} {self : BinaryMappingVariables}
    (hs : BinaryMappingVariables.init ⟨nv⟩ n m = .ok self) :
    0 ≤ n ∧ 0 ≤ m ∧ self = binSelf nv n.toNat m.toNat := by
  rw [gen_binary_init_eq] at hs
  by_cases h : m < 0 ∨ n < 0
  · rw [if_pos h] at hs; cases hs
  · rw [if_neg h] at hs
    exact ⟨by omega, by omega, (Except.ok.inj hs).symm⟩

/-- **`forbid` on the translated source, no model in the statement**: for the object the (translated) constructor
returns, `1 ≤ i ≤ n` and `0 ≤ j < 2^bits`, `forbid(i, j)` returns a clause of non-zero literals that is falsified
exactly by the assignments under which the bit variables `self(i, b)` spell `j` (`binVal`: bit `b` has weight
`2^b`) — "the unique clause that is false iff `i` is mapped to the bit string of `j`" -/
theorem gen_binary_forbid_spec {nv : Nat} {n m : Int} {self : BinaryMappingVariables}
    (hs : BinaryMappingVariables.init ⟨nv⟩ n m = .ok self) (α : Assign) {i j : Nat}
    (hi : 1 ≤ i ∧ (i : Int) ≤ n) (hj : j < 2 ^ (BinaryMappingVariables.bits self).toNat) :
    ∃ c, BinaryMappingVariables.forbid self i j = .ok c ∧ (∀ l ∈ c, l ≠ 0) ∧
      (clauseHolds α c = false ↔ binVal α (nv + 1) (BinaryMappingVariables.bits self).toNat i = j) := by
  obtain ⟨hn, hm, rfl⟩ := gen_binary_init_ok hs
  have hbits : (BinaryMappingVariables.bits (binSelf nv n.toNat m.toNat)).toNat = clog2 m.toNat := by
    simp [BinaryMappingVariables.bits, binSelf]
  rw [hbits] at hj ⊢
  rw [gen_binary_forbid_eq_model, forbidFull_eq_forbid (n := n.toNat) ⟨hi.1, by omega⟩]
  exact forbid_spec α (by omega) hi.1 hj

/-- non-vacuity: `BinaryMappingVariables(F, 4, 6)` on the empty formula: `forbid(4, 3) = [10, -11, -12]`
(the docstring's example), `to_index(-8) = (3, 1)` -/
example : ((BinaryMappingVariables.init ⟨0⟩ 4 6).toOption.map (BinaryMappingVariables.forbid · 4 3)) =
    some (.ok [10, -11, -12]) := by decide +kernel
example : ((BinaryMappingVariables.init ⟨0⟩ 4 6).toOption.map (BinaryMappingVariables.to_index · (-8))) =
    some (.ok (3, 1)) := by decide +kernel

end Cnfgen.C11
