/-
C11 — `WordOfIndicesVariables` (combinations / combinations with replacement / permutations / words) as TRANSLATED
from cnfgen/formula/variables.py is the hand-written model (`Group.word`, `seq2vid`, `wordIndex`).
-/
import Lemmas.GenWords
import Lemmas.GenCall
set_option linter.unusedSimpArgs false
namespace Cnfgen.C11
open Cnfgen Cnfgen.Vars Cnfgen.PyGen Cnfgen.GenVars

/-- the constructor: label check (outcome of `labelfmt.format(2)` as an input), `n, k ≥ 0`, then the enumeration
selected by `wordtype` through itertools — an unknown `wordtype` leaves `gen` unbound (UnboundLocalError, as in
CPython) —, and the loop filling `vid2seq` / `seq2vid` -/
theorem gen_word_init_eq (nv : Nat) (n k : Int) (wt : String) (out : Except Err Unit) :
    WordOfIndicesVariables.init ⟨nv⟩ n k wt out =
      Py.tryExcept out Err.indexError (Except.error Err.valueError) (fun _ =>
        if n < 0 ∨ k < 0 then Except.error Err.valueError
        else match wordEnum wt n.toNat k.toNat with
          | none => Except.error Err.unbound
          | some seqs => Except.ok (wordSelf nv n k wt seqs)) := by
  unfold WordOfIndicesVariables.init
  congr 1
  funext _
  by_cases hneg : n < 0 ∨ k < 0
  · have : (¬ True) ∨ (¬ True) ∨ n < 0 ∨ k < 0 := Or.inr (Or.inr hneg)
    rw [if_pos this, if_pos hneg]
  · have h' : ¬ ((¬ True) ∨ (¬ True) ∨ n < 0 ∨ k < 0) := by
      rintro (h | h | h)
      · exact h trivial
      · exact h trivial
      · exact hneg h
    rw [if_neg h', if_neg hneg]
    have hn : 0 ≤ n := Int.not_lt.1 fun h => hneg (Or.inl h)
    have hk : 0 ≤ k := Int.not_lt.1 fun h => hneg (Or.inr h)
    simp only [Py.itertoolsR_nonneg k hk, Py.ok_bind, Py.range_one_toList n, combos_map, combosRepl_map, permsK_map,
      productRep_map]
    -- the if-chain on `wordtype` is `wordEnum` (push the `if`s outwards on both sides); what follows it does not
    -- depend on the word type
    refine (congrArg (· >>= _)
      (?_ : _ = Except.ok ((wordEnum wt n.toNat k.toNat).map (List.map ints)))).trans ?_
    · simp only [wordEnum, bind_ok_eq, apply_ite (Option.map (List.map ints)), apply_ite Except.ok]
      rfl
    · cases wordEnum wt n.toNat k.toNat with
      | none => rfl
      | some seqs =>
        obtain ⟨D, hD, _⟩ := word_loop seqs nv
        simp only [Option.map_some, Py.ok_bind, Py.bound]
        rw [Py.foldl_ext _ wordStep (by intro s c; rfl), wordSelf, wordDict, hD, Py.len_eq, List.length_map]

/-- what the model keeps of a `WordOfIndicesVariables` object -/
def wordGroup (self : WordOfIndicesVariables) (fmt : String) : Group :=
  .word (self.offset + 1).toNat (self.vid2seq.map (fun w => w.map Int.toNat)) fmt

theorem wordGroup_wordSelf (nv : Nat) (n k : Int) (wt : String) (seqs : List (List Nat)) (fmt : String) :
    wordGroup (wordSelf nv n k wt seqs) fmt = .word (nv + 1) seqs fmt := by
  have h1 : ((nv : Int) + 1).toNat = nv + 1 := by omega
  rw [wordGroup, wordSelf, h1, List.map_map]
  simp only [Function.comp_def, toNat_ints, List.map_id']

theorem gen_word_init_eq_checks (nv : Nat) (n k : Int) (wt : String) (fmt : String) (seqs : List (List Nat))
    (he : wordEnum wt n.toNat k.toNat = some seqs) :
    (WordOfIndicesVariables.init ⟨nv⟩ n k wt ((pyFormat fmt ["2"]).map (fun _ => ()))).map (fun self => wordGroup self fmt) =
      (wordChecks n k fmt) >>= fun _ => Except.ok (Group.word (nv + 1) seqs fmt) := by
  rw [gen_word_init_eq, he]
  simp only [wordChecks, checkFormat]
  cases hf : pyFormat fmt ["2"] with
  | error e => cases e <;> simp [Except.map, Py.tryExcept, bind, Except.bind]
  | ok v =>
    by_cases hneg : n < 0 ∨ k < 0
    · simp [Except.map, Py.tryExcept, bind, Except.bind, hneg, throw, throwThe, MonadExceptOf.throw]
    · simp [Except.map, Py.tryExcept, bind, Except.bind, hneg, wordGroup_wordSelf, pure, Except.pure]

/-- **the constructor of the source is the constructor of the model** for the four `new_*` word groups -/
theorem gen_word_init_eq_model (nv : Nat) (n k : Int) (label : Option String) :
    ((WordOfIndicesVariables.init ⟨nv⟩ n k "combinations" ((pyFormat (label.getD "p_{{{}}}") ["2"]).map (fun _ => ()))).map
        (fun self => wordGroup self (label.getD "p_{{{}}}")) = mkGroup nv (.combinations n k label)) ∧
    ((WordOfIndicesVariables.init ⟨nv⟩ n k "combinations_with_replacement"
        ((pyFormat (label.getD "p_{{{}}}") ["2"]).map (fun _ => ()))).map
        (fun self => wordGroup self (label.getD "p_{{{}}}")) = mkGroup nv (.combinationsRepl n k label)) ∧
    ((WordOfIndicesVariables.init ⟨nv⟩ n k "permutations" ((pyFormat (label.getD "p_{{{}}}") ["2"]).map (fun _ => ()))).map
        (fun self => wordGroup self (label.getD "p_{{{}}}")) = mkGroup nv (.permutations n (some k) label)) ∧
    ((WordOfIndicesVariables.init ⟨nv⟩ n k "words" ((pyFormat (label.getD "p_{{{}}}") ["2"]).map (fun _ => ()))).map
        (fun self => wordGroup self (label.getD "p_{{{}}}")) = mkGroup nv (.words n k label)) := by
  refine ⟨?_, ?_, ?_, ?_⟩
  · rw [gen_word_init_eq_checks nv n k _ _ (combosSeqs n.toNat k.toNat) (by simp [wordEnum])]
    simp only [mkGroup]; rfl
  · rw [gen_word_init_eq_checks nv n k _ _ (combosReplSeqs n.toNat k.toNat) (by simp [wordEnum])]
    simp only [mkGroup]; rfl
  · rw [gen_word_init_eq_checks nv n k _ _ (permsSeqs n.toNat k.toNat) (by simp [wordEnum])]
    simp only [mkGroup, Option.getD_some]; rfl
  · rw [gen_word_init_eq_checks nv n k _ _ (wordsSeqs n.toNat k.toNat) (by simp [wordEnum])]
    simp only [mkGroup]; rfl

/-- `lit in group` -/
theorem gen_word_contains_eq_model (nv : Nat) (n k : Int) (wt : String) (seqs : List (List Nat)) (lit : Int) :
    WordOfIndicesVariables.contains (wordSelf nv n k wt seqs) lit = (Group.word (nv + 1) seqs "").contains lit :=
  Bool.decide_eq_true.trans (Py.ids_contains nv seqs.length lit)

/-- `len(group)` -/
theorem gen_word_len_eq_model (nv : Nat) (n k : Int) (wt : String) (seqs : List (List Nat)) :
    WordOfIndicesVariables.len (wordSelf nv n k wt seqs) = ((Group.word (nv + 1) seqs "").len : Nat) :=
  Py.ids_len nv seqs.length

/-- `to_index` is the model's `wordIndex` (`vid2seq[var - offset - 1]`; the IndexError is unreachable) -/
theorem gen_word_to_index_eq_model (nv : Nat) (n k : Int) (wt : String) (seqs : List (List Nat)) (lit : Int) :
    WordOfIndicesVariables.to_index (wordSelf nv n k wt seqs) lit = (wordIndex (nv + 1) seqs lit).map ints := by
  refine (Py.ite_not_ids_contains nv seqs.length lit _ _).trans ?_
  unfold wordIndex
  by_cases hc : nv + 1 ≤ lit.natAbs ∧ lit.natAbs < nv + 1 + seqs.length
  · rw [if_pos hc, if_pos hc]
    have hidx : Py.abs lit - (wordSelf nv n k wt seqs).offset - 1 = ((lit.natAbs - (nv + 1) : Nat) : Int) := by
      rw [Int.ofNat_sub hc.1, Int.sub_sub]
      rfl
    have hlt : lit.natAbs - (nv + 1) < seqs.length := Nat.sub_lt_left_of_lt_add hc.1 hc.2
    have hv : (wordSelf nv n k wt seqs).vid2seq = seqs.map ints := rfl
    rw [hidx, hv, Py.index_nat _ _ ((List.length_map _).symm ▸ hlt), List.getElem?_eq_getElem hlt, List.getElem_map]
    rfl
  · rw [if_neg hc, if_neg hc]
    rfl

/-- `_unsafe_index_to_lit(index)` = `seq2vid[index]`: the model's dictionary (`seq2vid`, last position wins) looked up
through `patternNats`; KeyError when the tuple is not a key (contains `None`, a negative number, or is not enumerated) -/
theorem gen_word_index_to_lit_eq_model (nv : Nat) (n k : Int) (wt : String) (seqs : List (List Nat))
    (pat : List (Option Int)) :
    WordOfIndicesVariables.index_to_lit (wordSelf nv n k wt seqs) pat =
      match (patternNats pat).bind (seq2vid (nv + 1) seqs) with
      | some v => Except.ok (v : Int)
      | none => Except.error Err.keyError := by
  have hd : (wordSelf nv n k wt seqs).seq2vid = wordDict nv seqs := rfl
  simp only [WordOfIndicesVariables.index_to_lit, Py.dictGet, hd, wordDict_lookup_pat]
  cases (patternNats pat).bind (seq2vid (nv + 1) seqs) <;> rfl

/-- `indices(*pattern)`: all words for the empty pattern, the pattern itself when it is a key, ValueError otherwise —
the model's `Group.indices` (patterns with `None` are never keys) -/
theorem gen_word_indices_eq_model (nv : Nat) (n k : Int) (wt : String) (seqs : List (List Nat))
    (pat : List (Option Int)) :
    WordOfIndicesVariables.indices (wordSelf nv n k wt seqs) pat =
      ((Group.word (nv + 1) seqs "").indices pat).map (List.map upPat) := by
  have hd : (wordSelf nv n k wt seqs).seq2vid = wordDict nv seqs := rfl
  have hv : (wordSelf nv n k wt seqs).vid2seq = seqs.map ints := rfl
  simp only [WordOfIndicesVariables.indices, Group.indices, Py.dictHas, hd, hv, wordDict_lookup_pat]
  cases pat with
  | nil => simp [upPat, ints, List.map_map]
  | cons p ps =>
    have h0 : ¬ (Py.len (p :: ps) = 0) := by simp; omega
    rw [if_neg h0]
    simp only [List.isEmpty_cons, Bool.false_eq_true, if_false]
    cases hp : patternNats (p :: ps) with
    | none => simp
    | some w =>
      simp only [Option.bind_some, Option.isSome_map]
      cases hs : (seq2vid (nv + 1) seqs w).isSome
      · simp
      · simp [patternNats_eq_upPat hp]

theorem gen_word_ids_of_indices (nv : Nat) (n k : Int) (wt : String) (seqs : List (List Nat)) :
    List.mapM (fun (t : List (Option Int)) => (WordOfIndicesVariables.index_to_lit (wordSelf nv n k wt seqs) t) >>=
        fun r => Except.ok r) (seqs.map upPat) =
      Except.ok (ints (seqs.map (fun w => (seq2vid (nv + 1) seqs w).getD 0))) := by
  rw [List.mapM_map, ints, List.map_map]
  refine mapM_ok _ _ _ fun w hw => ?_
  obtain ⟨v, hv⟩ := Option.isSome_iff_exists.1 ((seq2vid_isSome_iff _ _ _).2 hw)
  rw [Function.comp_apply, Function.comp_apply, gen_word_index_to_lit_eq_model, patternNats_upPat, Option.bind_some, hv]
  rfl

/-- `group(*pattern)` (the class's own `__call__`: dictionary first, then "all" for the empty pattern) is the model's
`Group.call` -/
theorem gen_word_call_eq_model (nv : Nat) (n k : Int) (wt : String) (seqs : List (List Nat)) (pat : List (Option Int)) :
    WordOfIndicesVariables.call (wordSelf nv n k wt seqs) pat =
      ((Group.word (nv + 1) seqs "").call pat).map resSum := by
  have hd : (wordSelf nv n k wt seqs).seq2vid = wordDict nv seqs := rfl
  simp only [WordOfIndicesVariables.call, Group.call, Py.dictGet, hd, wordDict_lookup_pat]
  cases hb : (patternNats pat).bind (seq2vid (nv + 1) seqs) with
  | some v => simp [Py.tryExcept, resSum]
  | none =>
    simp only [Option.map_none, Py.tryExcept, if_true]
    cases pat with
    | nil =>
      have h0 : Py.len ([] : List (Option Int)) = 0 := rfl
      rw [if_pos h0, gen_word_indices_eq_model]
      simp only [Group.indices, List.isEmpty_nil, if_true, Py.map_ok, Py.ok_bind]
      rw [gen_word_ids_of_indices]
      simp [resSum]
    | cons p ps =>
      have h0 : ¬ (Py.len (p :: ps) = 0) := by simp; omega
      rw [if_neg h0]
      simp

theorem gen_word_init_ok {nv : Nat} {n k : Int} {wt : String} {out : Except Err Unit} {self : WordOfIndicesVariables}
    (hs : WordOfIndicesVariables.init ⟨nv⟩ n k wt out = .ok self) :
    ∃ seqs, wordEnum wt n.toNat k.toNat = some seqs ∧ seqs.Nodup ∧ self = wordSelf nv n k wt seqs := by
  obtain ⟨_, h⟩ := Py.tryExcept_eq_ok (gen_word_init_eq nv n k wt out ▸ hs)
  split at h
  · cases h
  · cases he : wordEnum wt n.toNat k.toNat with
    | none => rw [he] at h; cases h
    | some seqs =>
      rw [he] at h
      exact ⟨seqs, rfl, wordEnum_nodup he, (Except.ok.inj h).symm⟩

/-- **C11 for word groups on the translated source**, no model function in the statement: for every object the
(translated) constructor returns there is a duplicate-free list of words such that `indices()` enumerates them,
`len` counts them, the `i`-th word has identifier `nv + 1 + i` (`seq2vid`), `to_index(±(nv+1+i))` is the `i`-th word, and
`to_index` accepts nothing else -/
theorem gen_word_bijection {nv : Nat} {n k : Int} {wt : String} {out : Except Err Unit} {self : WordOfIndicesVariables}
    (hs : WordOfIndicesVariables.init ⟨nv⟩ n k wt out = .ok self) :
    ∃ seqs : List (List Nat), seqs.Nodup ∧
      WordOfIndicesVariables.indices self [] = .ok (seqs.map upPat) ∧
      WordOfIndicesVariables.len self = (seqs.length : Nat) ∧
      (∀ i (hi : i < seqs.length),
        WordOfIndicesVariables.index_to_lit self (upPat seqs[i]) = .ok ((nv + 1 + i : Nat) : Int) ∧
        WordOfIndicesVariables.to_index self ((nv + 1 + i : Nat) : Int) = .ok (ints seqs[i]) ∧
        WordOfIndicesVariables.to_index self (-((nv + 1 + i : Nat) : Int)) = .ok (ints seqs[i])) ∧
      (∀ lit t, WordOfIndicesVariables.to_index self lit = .ok t →
        ∃ i, ∃ hi : i < seqs.length, t = ints seqs[i] ∧ lit.natAbs = nv + 1 + i) := by
  obtain ⟨seqs, _, hnd, rfl⟩ := gen_word_init_ok hs
  refine ⟨seqs, hnd, ?_, ?_, ?_, ?_⟩
  · rw [gen_word_indices_eq_model]; rfl
  · rw [gen_word_len_eq_model]; rfl
  · intro i hi
    have hv := seq2vid_getElem hnd (nv + 1) i hi
    have hw := wordIndex_seq2vid hnd (nv + 1) hv
    refine ⟨?_, ?_, ?_⟩
    · rw [gen_word_index_to_lit_eq_model, patternNats_upPat, Option.bind_some, hv]
    · rw [gen_word_to_index_eq_model, hw.2.2.1]; rfl
    · rw [gen_word_to_index_eq_model, hw.2.2.2]; rfl
  · intro lit t ht
    rw [gen_word_to_index_eq_model] at ht
    cases hw : wordIndex (nv + 1) seqs lit with
    | error e => rw [hw] at ht; cases ht
    | ok w =>
      rw [hw] at ht
      have ht' : ints w = t := Except.ok.inj ht
      have := seq2vid_wordIndex hnd hw
      have hlt : seqs.idxOf w < seqs.length := List.idxOf_lt_length_iff.mpr this.1
      refine ⟨seqs.idxOf w, hlt, ?_, ?_⟩
      · rw [← ht', List.getElem_idxOf hlt]
      · have h2 := seq2vid_getElem hnd (nv + 1) (seqs.idxOf w) hlt
        rw [List.getElem_idxOf hlt, this.2] at h2
        exact Option.some.inj h2

/-- non-vacuity: `new_combinations(4, 2)` on a formula with 3 variables -/
example : ((WordOfIndicesVariables.init ⟨3⟩ 4 2 "combinations" (.ok ())).toOption.map
    (WordOfIndicesVariables.to_index · (-6))) = some (.ok [1, 4]) := by decide +kernel
example : ((WordOfIndicesVariables.init ⟨3⟩ 4 2 "combinations" (.ok ())).toOption.map
    (WordOfIndicesVariables.call · [some 2, some 3])) = some (.ok (.inl 7)) := by decide +kernel
example : (WordOfIndicesVariables.init ⟨3⟩ 4 2 "combination" (.ok ())).toOption.isNone = true := by decide +kernel

end Cnfgen.C11
