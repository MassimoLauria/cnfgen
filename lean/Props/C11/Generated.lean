/-
C11 — the TRANSLATED variable-group functions (`CnfgenModel/Generated/Funcs.lean`, regenerated from
cnfgen/formula/variables.py by tools/py2lean.py on every run) compute what the hand-written model
(`CnfgenModel/Vars/Groups.lean`) computes — for all arguments.  Every theorem of `Props/C11.lean` about the model
therefore speaks about what the source says; the headline round trips are restated on the generated functions.
-/
import Lemmas.GenBlock
namespace Cnfgen.C11
open Cnfgen Cnfgen.Vars Cnfgen.PyGen Cnfgen.GenVars

/-- `_unsafe_index_to_lit` (as translated from the source) is the model's `blockId`, on every index with
positive entries (what `indices()` lets through; `0 - 1` is `-1` in Python and `0` in the model's naturals) -/
theorem gen_block_index_to_lit_eq_model (nv : Nat) (ranges idx : List Nat) (h : ∀ i ∈ idx, 1 ≤ i) :
    BlockOfVariables.index_to_lit (blockSelf nv ranges) (ints idx) = (blockId (nv + 1) ranges idx : Nat) := by
  simp only [BlockOfVariables.index_to_lit, blockSelf, relative_eq idx (weights ranges) h, blockId]
  push_cast
  omega

/-- `lit in group`: the identifiers are `start … start + size - 1` -/
theorem gen_block_contains_eq_model (nv : Nat) (ranges : List Nat) (lit : Int) :
    BlockOfVariables.contains (blockSelf nv ranges) lit = (Group.block (nv + 1) ranges "").contains lit :=
  Bool.decide_eq_true.trans (Py.ids_contains nv (blockSize ranges) lit)

/-- `len(group)` -/
theorem gen_block_len_eq_model (nv : Nat) (ranges : List Nat) :
    BlockOfVariables.len (blockSelf nv ranges) = ((Group.block (nv + 1) ranges "").len : Nat) :=
  Py.ids_len nv (blockSize ranges)

/-- `to_index` (as translated) is the model's `blockIndex`: same index, same ValueError — for every literal,
every arity, zero ranges included (the `//` by a zero weight is never reached) -/
theorem gen_block_to_index_eq_model (nv : Nat) (ranges : List Nat) (lit : Int) :
    BlockOfVariables.to_index (blockSelf nv ranges) lit = (blockIndex (nv + 1) ranges lit).map ints := by
  refine (Py.ite_not_ids_contains nv (blockSize ranges) lit _ _).trans ?_
  unfold blockIndex
  by_cases hc : nv + 1 ≤ lit.natAbs ∧ lit.natAbs < nv + 1 + blockSize ranges
  · rw [if_pos hc, if_pos hc]
    have hpos : 0 < blockSize ranges := Nat.pos_of_lt_add_right (Nat.lt_of_le_of_lt hc.1 hc.2)
    have hres : Py.abs lit - (blockSelf nv ranges).offset = ((lit.natAbs - (nv + 1) : Nat) : Int) :=
      (Int.ofNat_sub hc.1).symm
    rw [hres]
    exact to_index_loop (weights ranges) (weights_pos hpos) [] _
  · rw [if_neg hc, if_neg hc]
    rfl

/-- the constructor, as translated: the label check (outcome of `labelfmt.format(*ranges)` as an input), the two
argument checks in the order of the code, then the object the model describes -/
theorem gen_block_init_eq (nv : Nat) (ranges : List Int) (out : Except Err Unit) :
    BlockOfVariables.init ⟨nv⟩ ranges out =
      Py.tryExcept out Err.indexError (Except.error Err.valueError) (fun _ =>
        if ranges = [] then Except.error Err.valueError
        else if ranges.any (· < 0) = true then Except.error Err.valueError
        else Except.ok (blockSelf nv (ranges.map Int.toNat))) := by
  unfold BlockOfVariables.init
  congr 1
  funext _
  cases ranges with
  | nil => rfl
  | cons r rs =>
    have hl : ¬ (((r :: rs).length : Int) = 0) := Int.natCast_ne_zero.2 (Nat.succ_ne_zero _)
    simp only [Py.len_eq, if_neg hl, if_neg (List.cons_ne_nil r rs), count_loop]
    by_cases hneg : (r :: rs).any (· < 0) = true
    · rw [if_pos ((count_ne_length_iff _).2 hneg), if_pos hneg]
    · rw [if_neg (fun h => hneg ((count_ne_length_iff _).1 h)), if_neg hneg]
      have hr := ints_toNat (Bool.eq_false_iff.2 hneg)
      have hw := weights_loop ((r :: rs).map Int.toNat)
      rw [hr] at hw
      rw [hw, blockSelf, hr]
      simp only [Py.ok_bind, ints, List.map_cons, List.reverse_cons, Py.pop_append, List.reverse_reverse]
      rfl

/-- **the constructor of the source is the constructor of the model**: `BlockOfVariables(F, ranges, label)` as
translated, given the outcome of the label's `format` call, fails / succeeds exactly like `mkGroup … (.block …)`
— on which `reachable_groups_wf`, `labels_aligned` … are stated — and builds the same group -/
theorem gen_block_init_eq_model (nv : Nat) (ranges : List Int) (label : Option String) :
    (BlockOfVariables.init ⟨nv⟩ ranges
        ((pyFormat (label.getD (blockDefaultFmt ranges.length)) (ranges.map toString)).map (fun _ => ()))).map
      (fun self => blockGroup self (label.getD (blockDefaultFmt ranges.length))) =
    mkGroup nv (.block ranges label) := by
  rw [gen_block_init_eq]
  simp only [mkGroup]
  rw [← tryExcept_format]
  cases (pyFormat (label.getD (blockDefaultFmt ranges.length)) (ranges.map toString)).map (fun _ => ()) with
  | error e =>
    simp only [Py.tryExcept_error]
    split <;> rfl
  | ok u =>
    simp only [Py.tryExcept_ok]
    cases ranges with
    | nil => rfl
    | cons r rs =>
      rw [if_neg (List.cons_ne_nil r rs)]
      by_cases hneg : (r :: rs).any (· < 0) = true
      · simp only [hneg, if_true]
        rfl
      · simp only [hneg, Bool.false_eq_true, if_false, Py.map_ok, blockGroup_blockSelf]
        rfl

theorem gen_block_init_ok {nv : Nat} {ranges : List Int} {out : Except Err Unit} {self : BlockOfVariables}
    (hs : BlockOfVariables.init ⟨nv⟩ ranges out = .ok self) : self = blockSelf nv (ranges.map Int.toNat) := by
  obtain ⟨_, h⟩ := Py.tryExcept_eq_ok (gen_block_init_eq nv ranges out ▸ hs)
  split at h
  · cases h
  · split at h
    · cases h
    · exact (Except.ok.inj h).symm

/-- `indices(*pattern)` as translated is the model's `blockIndices`: the same tuples in the same order, the same
ValueError (wrong arity, a fixed entry outside its range) — for every pattern and every block -/
theorem gen_block_indices_eq_model (nv : Nat) (ranges : List Nat) (pat : List (Option Int)) :
    BlockOfVariables.indices (blockSelf nv ranges) pat = (blockIndices ranges pat).map (List.map ints) := by
  rw [blockIndices_eq]
  have hr : (blockSelf nv ranges).ranges = ints ranges := rfl
  have hlen : Py.len (ints ranges) = (ranges.length : Int) := congrArg Nat.cast (List.length_map _)
  simp only [BlockOfVariables.indices, hr, hlen]
  rw [Py.foldlM_ext _ (fun (acc : List (List Int)) (a : Option Int × Int) => (genCol a) >>= fun b => Except.ok (acc ++ [b]))
    (by
      rintro x ⟨p1, p2⟩
      cases p1 with
      | none => rfl
      | some i =>
        simp only [genCol, pyCol]
        split <;> rfl), foldlM_append_eq_mapM, mapM_genCol]
  have hpat : (if Py.len pat = 0 then List.map (fun _ => (none : Option Int))
        (List.replicate ((ranges.length : Int)).toNat ()) else pat) =
      (if pat.isEmpty = true then List.map (fun _ => none) ranges else pat) := by
    cases pat with
    | nil => exact (List.map_replicate).trans (List.map_const' ..).symm
    | cons p ps => rfl
  have hcond : (Py.len pat > 0 ∧ Py.len pat ≠ (ranges.length : Int)) ↔
      (¬ pat.isEmpty = true ∧ pat.length ≠ ranges.length) := by
    cases pat with
    | nil => exact ⟨fun h => absurd h.1 (Int.lt_irrefl 0), fun h => absurd rfl h.1⟩
    | cons p ps =>
      exact ⟨fun h => ⟨Bool.false_ne_true, fun e => h.2 (congrArg Nat.cast e)⟩,
        fun h => ⟨Int.natCast_pos.2 (Nat.succ_pos _), fun e => h.2 (Int.natCast_inj.1 e)⟩⟩
  rw [hpat]
  by_cases hc : ¬ pat.isEmpty = true ∧ pat.length ≠ ranges.length
  · rw [if_pos (hcond.2 hc), if_pos hc]; rfl
  · rw [if_neg (fun h => hc (hcond.1 h)), if_neg hc]
    cases List.mapM blockCol ((if pat.isEmpty = true then List.map (fun _ => none) ranges else pat).zip ranges) with
    | error e => rfl
    | ok cs => exact congrArg Except.ok (product_map _ cs)

/-- **C11 on the translated source**: for every object the (translated) constructor returns —
(1) `indices()` enumerates index tuples whose identifiers are consecutive from `number_of_variables() + 1`,
(2) `to_index(±_unsafe_index_to_lit(t)) = t` for each of them, and
(3) `to_index(lit) = t` implies that `t` is enumerated and `_unsafe_index_to_lit(t) = |lit|`;
`len` is the number of enumerated tuples.  No reference to the hand-written model in the statement. -/
theorem gen_block_bijection {nv : Nat} {ranges : List Int} {out : Except Err Unit} {self : BlockOfVariables}
    (hs : BlockOfVariables.init ⟨nv⟩ ranges out = .ok self) :
    ∃ idxs : List (List Int), BlockOfVariables.indices self [] = .ok idxs ∧
      idxs.map (BlockOfVariables.index_to_lit self) =
        (List.range' (nv + 1) idxs.length).map Int.ofNat ∧
      BlockOfVariables.len self = idxs.length ∧
      (∀ t ∈ idxs, BlockOfVariables.to_index self (BlockOfVariables.index_to_lit self t) = .ok t ∧
        BlockOfVariables.to_index self (-(BlockOfVariables.index_to_lit self t)) = .ok t) ∧
      (∀ lit t, BlockOfVariables.to_index self lit = .ok t →
        t ∈ idxs ∧ BlockOfVariables.index_to_lit self t = Py.abs lit) := by
  rw [gen_block_init_ok hs]
  generalize ranges.map Int.toNat = rs
  obtain ⟨h1, h2, h3, h4⟩ := (block_enumerates (nv + 1) rs).transport ints
    (gId := fun t => .ok (BlockOfVariables.index_to_lit (blockSelf nv rs) t))
    (fun idx hidx => congrArg Except.ok (gen_block_index_to_lit_eq_model nv rs idx (legal_pos (mem_blockAll.1 hidx))))
    (gen_block_to_index_eq_model nv rs)
  refine ⟨(blockAll rs).map ints, ?_, ?_, (gen_block_len_eq_model nv rs).trans h2, ?_, ?_⟩
  · rw [gen_block_indices_eq_model, blockIndices_nil]; rfl
  · exact Except.ok.inj ((mapM_ok _ _ _ fun _ _ => rfl).symm.trans h1)
  · intro t ht
    obtain ⟨_, hi, h⟩ := h3 t ht
    cases hi
    exact h
  · exact fun lit t ht => ⟨(h4 lit t ht).1, Except.ok.inj (h4 lit t ht).2⟩

/-- non-vacuity: `BlockOfVariables(F, [2, 3])` on a formula with 4 variables; `to_index(-9) = [2, 2]` -/
example : (BlockOfVariables.init ⟨4⟩ [2, 3] (.ok ())).toOption.map (·.weights) = some [3, 1] := by decide +kernel
example : ((BlockOfVariables.init ⟨4⟩ [2, 3] (.ok ())).toOption.map (BlockOfVariables.to_index · (-9))) =
    some (.ok [2, 2]) := by decide +kernel
example : ((BlockOfVariables.init ⟨4⟩ [2, 3] (.ok ())).toOption.map (BlockOfVariables.index_to_lit · [2, 2])) =
    some 9 := by decide +kernel

end Cnfgen.C11
