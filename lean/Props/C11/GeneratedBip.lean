/-
C11 — `BipartiteEdgesVariables` as TRANSLATED from cnfgen/formula/variables.py (`Generated/Funcs.lean`) is the
hand-written model (`bipOffsets`, `bipId`, `bipIndex` of `Vars/Groups.lean`, `bipIndices` of `Vars/Patterns.lean`),
on every well-formed bipartite graph (`BipG.WF`, the representation invariant of `BipartiteGraph`; the graph
observers are the model's own, `Vars/GenGlue.lean: absBip`).
-/
import Lemmas.GenBip
import Lemmas.GenCall
set_option linter.unusedSimpArgs false
namespace Cnfgen.C11
open Cnfgen Cnfgen.Vars Cnfgen.PyGen Cnfgen.GenVars

/-! ### the running example (non-vacuity of the hypothesis `G.WF`): `BipartiteGraph(2, 3)` with the edges
`(2,1), (1,3), (2,2)`; on a formula with 4 variables `offset = [None, 5, 6]` and the identifiers are
`5 ↦ (1,3)`, `6 ↦ (2,1)`, `7 ↦ (2,2)` -/

/-- the value `BipG.ofEdges 2 3 [(2, 1), (1, 3), (2, 2)]` -/
def gen_bip_example_graph : BipG := ⟨2, 3, [[], [3], [1, 2]], [[], [2], [2], [1]], [(2, 2), (1, 3), (2, 1)]⟩

theorem gen_bip_example_ofEdges : BipG.ofEdges 2 3 [(2, 1), (1, 3), (2, 2)] = .ok gen_bip_example_graph := by decide +kernel

theorem gen_bip_example_wf : gen_bip_example_graph.WF := (BipG.wf_ofEdges gen_bip_example_ofEdges).1

/-- the object built by the translated constructor on the example (used by the `example`s below) -/
def gen_bip_example_self : Option BipartiteEdgesVariables :=
  (BipartiteEdgesVariables.init ⟨4⟩ (absBip gen_bip_example_graph) (.ok ())).toOption

/-- the constructor, as translated: the `isinstance` test is `True` (the argument is a bipartite graph); the label
check (the outcome `out` of `labelfmt.format(1, 1)` is an input); the loop computes the prefix sums of the right degrees
(`offsets_loop`); the `assert offset[-1] == G.number_of_edges() + startID` holds (`degSum_total`: the degrees add up
to the number of edges on a well-formed graph); `offset.pop()`; then the object the model describes -/
theorem gen_bip_init_eq (nv : Nat) {G : BipG} (h : G.WF) (out : Except Err Unit) :
    BipartiteEdgesVariables.init ⟨nv⟩ (absBip G) out =
      Py.tryExcept out Err.indexError (Except.error Err.valueError) (fun _ => Except.ok (bipSelf nv G)) := by
  unfold BipartiteEdgesVariables.init
  congr 1
  funext _
  have hU : Py.Range.toList (absBip G).parts.1 = ints (rangeN 1 (G.l + 1)) := range_toList_nat G.l
  simp only [hU]
  rw [offsets_loop nv G G.l (Nat.le_refl _), offsets_snoc]
  simp only [Py.ok_bind, Py.index_neg_one, Py.pop_append]
  have hne : (absBip G).number_of_edges = (G.numberOfEdges : Int) := rfl
  have hcond : (some (((nv + 1 + degSum G G.l : Nat)) : Int)) = some ((absBip G).number_of_edges + ((nv : Int) + 1)) := by
    rw [hne, degSum_total h]; congr 1; push_cast; omega
  rw [if_pos hcond]
  rfl

example : gen_bip_example_self.map (·.offset) = some [none, some 5, some 6] := by decide +kernel
example : BipartiteEdgesVariables.init ⟨4⟩ (absBip gen_bip_example_graph) (.ok ()) =
    .ok (bipSelf 4 gen_bip_example_graph) := gen_bip_init_eq 4 gen_bip_example_wf (.ok ())

theorem gen_bip_init_ok {nv : Nat} {G : BipG} (h : G.WF) {out : Except Err Unit} {self : BipartiteEdgesVariables}
    (hs : BipartiteEdgesVariables.init ⟨nv⟩ (absBip G) out = .ok self) : self = bipSelf nv G := by
  rw [gen_bip_init_eq nv h] at hs
  cases out with
  | error e => simp only [Py.tryExcept] at hs; split at hs <;> cases hs
  | ok u => exact (Except.ok.inj hs).symm

/-- **the constructor of the source is the constructor of the model** (`mkGroup … (.bipartite G label)`): given the
outcome of the label's `format('1', '1')` call it fails / succeeds alike and builds the group on the same graph with
the same first identifier -/
theorem gen_bip_init_eq_model (nv : Nat) {G : BipG} (h : G.WF) (label : Option String) :
    (BipartiteEdgesVariables.init ⟨nv⟩ (absBip G)
        ((pyFormat (label.getD "e({},{})") ["1", "1"]).map (fun _ => ()))).map
      (fun self => Group.bip self.ids.start.toNat G (label.getD "e({},{})") false) =
    mkGroup nv (.bipartite G label) := by
  rw [gen_bip_init_eq nv h, Py.map_tryExcept]
  exact tryExcept_format _ _ _

example : (mkGroup 4 (.bipartite gen_bip_example_graph none)).toOption.map (·.start) = some 5 := by decide +kernel

/-- `lit in group`: the identifiers are `start … start + number_of_edges - 1` -/
theorem gen_bip_contains_eq_model (nv : Nat) (G : BipG) (lit : Int) :
    BipartiteEdgesVariables.contains (bipSelf nv G) lit = (Group.bip (nv + 1) G "" false).contains lit :=
  Bool.decide_eq_true.trans (Py.ids_contains nv G.numberOfEdges lit)

/-- `len(group)` -/
theorem gen_bip_len_eq_model (nv : Nat) (G : BipG) :
    BipartiteEdgesVariables.len (bipSelf nv G) = ((Group.bip (nv + 1) G "" false).len : Nat) :=
  Py.ids_len nv G.numberOfEdges

/-- `_unsafe_index_to_lit((u, v))` is the model's `bipId`, on every edge (what `indices()` lets through):
`offset[u] + right_neighbors(u).index(v)` -/
theorem gen_bip_index_to_lit_eq_model (nv : Nat) {G : BipG} (h : G.WF) {u v : Nat} (he : (u, v) ∈ G.edgeset) :
    BipartiteEdgesVariables.index_to_lit (bipSelf nv G) [(u : Int), (v : Int)] =
      Except.ok ((bipId G (nv + 1) u v : Nat) : Int) := by
  obtain ⟨hid, _, hu1, hu2⟩ := bipId_edge h (nv + 1) he
  have hm : v ∈ G.rnbrs u := (h.mem_row u v).2 he
  have hG : (bipSelf nv G).G = absBip G := rfl
  simp only [BipartiteEdgesVariables.index_to_lit, Py.index_zero, Py.index_one, Py.ok_bind, hG,
    abs_right_neighbors G ⟨hu1, hu2⟩, indexOf_ints hm, offset_index nv G ⟨hu1, hu2⟩, Py.unNone]
  rw [hid]
  push_cast
  rfl

example : ((2 : Nat), (2 : Nat)) ∈ gen_bip_example_graph.edgeset := by decide +kernel
example : gen_bip_example_self.map (BipartiteEdgesVariables.index_to_lit · [2, 2]) = some (.ok 7) := by decide +kernel

/-- `indices(*pattern)` is the model's `bipIndices`: the same pairs in the same order (the edge iterator, a row, a
column, one edge), the same ValueError (arity other than 0 / 2, a vertex outside its side, a non-edge) — for every
pattern and every graph value (no invariant needed) -/
theorem gen_bip_indices_eq_model (nv : Nat) (G : BipG) (pat : List (Option Int)) :
    BipartiteEdgesVariables.indices (bipSelf nv G) pat = (bipIndices G pat).map intPairs := by
  rw [BipartiteEdgesVariables.indices, pairPattern]
  match pat with
  | [] => rfl
  | [a] => cases a <;> rfl
  | [none, none] => rfl
  | [some u, none] =>
    show (if 1 ≤ u ∧ u ≤ (G.l : Int) then
        ((G.rightNeighbors u).map ints) >>= fun o => Except.ok (o.map fun v => (u, v))
      else Except.error Err.valueError) = _
    rw [bipIndices]
    by_cases hu : 1 ≤ u ∧ u ≤ (G.l : Int)
    · rw [if_pos hu, if_neg (not_not.2 hu), rightNeighbors_ok G hu]
      obtain ⟨n, rfl⟩ := Int.eq_ofNat_of_zero_le (Int.le_trans (by decide) hu.1)
      simp only [Py.map_ok, Py.ok_bind, List.map_map, Int.toNat_natCast]
      rfl
    · rw [if_neg hu, if_pos hu]
      rfl
  | [none, some v] =>
    show (if ¬ (1 ≤ v ∧ v ≤ (G.r : Int)) then Except.error Err.valueError else
        ((G.leftNeighbors v).map ints) >>= fun o => Except.ok (o.map fun u => (u, v))) = _
    rw [bipIndices]
    by_cases hv : 1 ≤ v ∧ v ≤ (G.r : Int)
    · rw [if_neg (not_not.2 hv), if_neg (not_not.2 hv), leftNeighbors_ok G hv]
      obtain ⟨n, rfl⟩ := Int.eq_ofNat_of_zero_le (Int.le_trans (by decide) hv.1)
      simp only [Py.map_ok, Py.ok_bind, List.map_map, Int.toNat_natCast]
      rfl
    · rw [if_pos hv, if_pos hv]
      rfl
  | [some u, some v] =>
    show (if ¬ (G.hasEdge u v = true) then Except.error Err.valueError else Except.ok [(u, v)]) = _
    rw [bipIndices]
    by_cases hh : G.hasEdge u v = true
    · rw [if_neg (not_not.2 hh), if_neg (not_not.2 hh)]
      obtain ⟨hu, hv, _⟩ := (BipG.hasEdge_iff G u v).1 hh
      show Except.ok [(u, v)] = Except.ok [((u.toNat : Int), (v.toNat : Int))]
      rw [Int.toNat_of_nonneg hu, Int.toNat_of_nonneg hv]
    · rw [if_pos hh, if_pos hh]
      rfl
  | a :: b :: c :: r => cases a <;> cases b <;> rfl

example : gen_bip_example_self.map (BipartiteEdgesVariables.indices · []) = some (.ok [(1, 3), (2, 1), (2, 2)]) := by
  decide +kernel
example : gen_bip_example_self.map (BipartiteEdgesVariables.indices · [none, some 2]) = some (.ok [(2, 2)]) := by decide +kernel

theorem gen_bip_indices_legal {G : BipG} (h : G.WF) {pat : Pattern} {l : List (Nat × Nat)}
    (hi : bipIndices G pat = .ok l) : ∀ p ∈ l, p ∈ G.edgeset := by
  rintro ⟨a, b⟩ hp
  unfold bipIndices at hi
  split at hi
  · cases hi; exact (BipG.mem_edges h a b).1 hp
  · cases hi; exact (BipG.mem_edges h a b).1 hp
  · split at hi
    · cases hi
    · cases hi
      obtain ⟨v, hv, hvp⟩ := List.mem_map.1 hp
      cases hvp
      exact (h.mem_row _ _).1 hv
  · split at hi
    · cases hi
    · cases hi
      obtain ⟨u, hu, hup⟩ := List.mem_map.1 hp
      cases hup
      exact (h.mem_col _ _).1 hu
  · split at hi
    · cases hi
    · rename_i u v hh
      cases hi
      have := (BipG.hasEdge_iff G u v).1 (Classical.not_not.1 hh)
      cases List.mem_singleton.1 hp
      exact this.2.2
  · cases hi

/-- `group(*index)` (`BaseVariableGroup.__call__`, as translated for this class) is the model's `baseCall`:
the identifier for an edge, the identifiers in order for a projection, the same exceptions -/
theorem gen_bip_call_eq_model (nv : Nat) {G : BipG} (h : G.WF) (pat : List (Option Int)) :
    BipartiteEdgesVariables.call (bipSelf nv G) pat =
      ((Group.bip (nv + 1) G "" false).baseCall pat).map resSum := by
  refine Eq.trans ?_ (baseCall_gen pat (bipIndices G pat) (fun p => ((p.1 : Int), (p.2 : Int)))
    (fun t => BipartiteEdgesVariables.index_to_lit (bipSelf nv G) [t.1, t.2] >>= fun r => Except.ok r)
    (fun p => bipId G (nv + 1) p.1 p.2) (fun p => [p.1, p.2]) _ rfl (fun _ => rfl) fun l hl p hp => ?_)
  · rw [BipartiteEdgesVariables.call, gen_bip_indices_eq_model]
  · rw [gen_bip_index_to_lit_eq_model nv h (gen_bip_indices_legal h hl p hp)]
    rfl

example : gen_bip_example_self.map (BipartiteEdgesVariables.call · [some 2, none]) = some (.ok (.inr [6, 7])) := by decide +kernel
example : gen_bip_example_self.map (BipartiteEdgesVariables.call · [some 1, some 3]) = some (.ok (.inl 5)) := by decide +kernel
example : gen_bip_example_self.map (BipartiteEdgesVariables.call · [some 1, some 1]) = some (.error .valueError) := by
  decide +kernel

/-- `group(u, v)`: the identifier of the edge, ValueError for a non-edge -/
theorem gen_bip_call_pair (nv : Nat) {G : BipG} (h : G.WF) (u v : Nat) :
    BipartiteEdgesVariables.call (bipSelf nv G) [some (u : Int), some (v : Int)] =
      if G.hasEdge u v = true then Except.ok (Sum.inl ((bipId G (nv + 1) u v : Nat) : Int))
      else Except.error Err.valueError := by
  rw [gen_bip_call_eq_model nv h]
  simp only [Group.baseCall, Group.indices, bipIndices]
  by_cases hh : G.hasEdge u v = true
  · rw [if_neg (not_not.2 hh), if_pos hh]
    rfl
  · rw [if_pos hh, if_neg hh]
    rfl

/-- `to_index` is the model's `bipIndex`: the same pair, the same exceptions, for every literal.  The binary search
`bisect_right(self.offset, var)` of CPython on `[None, o₁, …]` is the model's linear scan on `[o₁, …]`
(`py_bisectRight_offsets`: the offsets are sorted and `o₁ = start ≤ var`, so `None` is never compared);
`self.offset[u]`, `right_neighbors(u)[vidx]` (IndexError kept), `self(u, v)` (ValueError kept) and the final
`assert` (AssertionError kept) follow the code line by line -/
theorem gen_bip_to_index_eq_model (nv : Nat) {G : BipG} (h : G.WF) (lit : Int) :
    BipartiteEdgesVariables.to_index (bipSelf nv G) lit =
      (bipIndex G (nv + 1) lit).map (fun p => ((p.1 : Int), (p.2 : Int))) := by
  unfold BipartiteEdgesVariables.to_index bipIndex
  simp only []
  rw [Py.abs_eq, ← bipOffs_eq]
  generalize lit.natAbs = x
  have hcon : BipartiteEdgesVariables.contains (bipSelf nv G) (x : Int) = true ↔
      nv + 1 ≤ x ∧ x < nv + 1 + G.numberOfEdges := by
    rw [bip_contains_iff, Int.natAbs_natCast]
  by_cases hc : nv + 1 ≤ x ∧ x < nv + 1 + G.numberOfEdges
  · rw [if_neg (not_not.2 (hcon.2 hc)), if_pos hc]
    obtain ⟨hbis, hb1, hble, hle⟩ := bip_row nv h hc
    have hgetD : (bipOffs nv G).getD (bisectRight (bipOffs nv G) x - 1) 0 =
        nv + 1 + degSum G (bisectRight (bipOffs nv G) x - 1) := by
      rw [List.getD_eq_getElem?_getD, bipOffs_get nv G (by omega)]
      rfl
    rw [hbis, hgetD]
    generalize bisectRight (bipOffs nv G) x = b at hb1 hble hle
    have hu : ((b + 1 : Nat) : Int) - 1 = (b : Int) := Int.add_sub_cancel (b : Int) 1
    have hG : (bipSelf nv G).G = absBip G := rfl
    simp only [Py.ok_bind, hu, offset_index nv G ⟨hb1, hble⟩, Py.unNone, hG, abs_right_neighbors G ⟨hb1, hble⟩]
    rw [← Int.ofNat_sub hle, index_ints]
    generalize x - (nv + 1 + degSum G (b - 1)) = k
    cases (G.rnbrs b)[k]? with
    | none => rfl
    | some v =>
      simp only [Py.ok_bind, gen_bip_call_pair nv h]
      by_cases hh : G.hasEdge (b : Int) (v : Int) = true
      · simp only [hh, if_true, Py.ok_bind, not_true_eq_false, if_false, Sum.inl.injEq, Int.natCast_inj]
        by_cases hid : bipId G (nv + 1) b v = x
        · rw [if_pos hid, if_neg (not_not.2 hid)]
          rfl
        · rw [if_neg hid, if_pos hid]
          rfl
      · simp only [hh, if_false, Py.error_bind, not_false_eq_true, if_true]
        rfl
  · rw [if_pos (mt hcon.1 hc), if_neg hc]
    rfl

example : gen_bip_example_self.map (BipartiteEdgesVariables.to_index · (-7)) = some (.ok (2, 2)) := by decide +kernel
example : gen_bip_example_self.map (BipartiteEdgesVariables.to_index · 5) = some (.ok (1, 3)) := by decide +kernel
example : gen_bip_example_self.map (BipartiteEdgesVariables.to_index · 8) = some (.error .valueError) := by decide +kernel

/-- **C11 on the translated source**: for every object the (translated) constructor returns on a well-formed
bipartite graph —
(1) `indices()` enumerates pairs whose identifiers (`_unsafe_index_to_lit`) are consecutive from
`number_of_variables() + 1`, and `len` is their number,
(2) `to_index(±_unsafe_index_to_lit(t)) = t` for each of them (no TypeError from the `None` in `offset`, no
IndexError, no AssertionError), and
(3) `to_index(lit) = t` implies that `t` is enumerated and `_unsafe_index_to_lit(t) = |lit|`.
The hand-written model appears only through the graph value `G` and its invariant. -/
theorem gen_bip_bijection {nv : Nat} {G : BipG} (h : G.WF) {out : Except Err Unit} {self : BipartiteEdgesVariables}
    (hs : BipartiteEdgesVariables.init ⟨nv⟩ (absBip G) out = .ok self) :
    ∃ idxs : List (Int × Int), BipartiteEdgesVariables.indices self [] = .ok idxs ∧
      idxs.mapM (fun t => BipartiteEdgesVariables.index_to_lit self [t.1, t.2]) =
        .ok ((List.range' (nv + 1) idxs.length).map Int.ofNat) ∧
      BipartiteEdgesVariables.len self = idxs.length ∧
      (∀ t ∈ idxs, ∃ id, BipartiteEdgesVariables.index_to_lit self [t.1, t.2] = .ok id ∧
        BipartiteEdgesVariables.to_index self id = .ok t ∧ BipartiteEdgesVariables.to_index self (-id) = .ok t) ∧
      (∀ lit t, BipartiteEdgesVariables.to_index self lit = .ok t →
        t ∈ idxs ∧ BipartiteEdgesVariables.index_to_lit self [t.1, t.2] = .ok (Py.abs lit)) := by
  rw [gen_bip_init_ok h hs]
  obtain ⟨h1, h2, h3, h4⟩ := (bip_enumerates h (nv + 1)).transport (fun p : Nat × Nat => ((p.1 : Int), (p.2 : Int)))
    (gId := fun t => BipartiteEdgesVariables.index_to_lit (bipSelf nv G) [t.1, t.2])
    (fun p hp => gen_bip_index_to_lit_eq_model nv h ((BipG.mem_edges h p.1 p.2).1 hp))
    (gen_bip_to_index_eq_model nv h)
  exact ⟨intPairs G.edges, (gen_bip_indices_eq_model nv G []).trans rfl, h1, (gen_bip_len_eq_model nv G).trans h2, h3, h4⟩

end Cnfgen.C11
