/-
C11 — `BaseVariableGroup.__call__` as TRANSLATED for `BlockOfVariables` is the model's `Group.baseCall`.
-/
import Props.C11.Generated
import Lemmas.GenCall
set_option linter.unusedSimpArgs false
namespace Cnfgen.C11
open Cnfgen Cnfgen.Vars Cnfgen.PyGen Cnfgen.GenVars

theorem gen_block_indices_legal {ranges : List Nat} {pat : Pattern} {l : List (List Nat)}
    (h : blockIndices ranges pat = .ok l) : ∀ idx ∈ l, LegalIdx ranges idx := by
  by_cases hp : pat = []
  · subst hp
    rw [blockIndices_nil] at h
    cases h
    exact fun idx hidx => mem_blockAll.1 hidx
  · by_cases hl : LegalPat ranges pat
    · rw [(blockIndices_pattern hp).1 hl] at h
      cases h
      exact fun idx hidx => mem_blockAll.1 (List.mem_of_mem_filter hidx)
    · rw [(blockIndices_pattern hp).2 hl] at h; cases h

/-- `group(*index)`: the identifier for a full legal index, the identifiers in order for a projection, ValueError
for an illegal pattern — the model's `baseCall` (hence `block_call`, `call_projection` of `Props/C11.lean`) -/
theorem gen_block_call_eq_model (nv : Nat) (ranges : List Nat) (pat : List (Option Int)) :
    BlockOfVariables.call (blockSelf nv ranges) pat =
      ((Group.block (nv + 1) ranges "").baseCall pat).map resSum := by
  simp only [BlockOfVariables.call, Group.baseCall, Group.indices, gen_block_indices_eq_model]
  cases hb : blockIndices ranges pat with
  | error e => rfl
  | ok l =>
    have hids : List.map (fun z2 => BlockOfVariables.index_to_lit (blockSelf nv ranges) z2) (List.map ints l) =
        ints (l.map (blockId (nv + 1) ranges)) := by
      simp only [ints, List.map_map]
      apply List.map_congr_left
      intro idx hidx
      exact gen_block_index_to_lit_eq_model nv ranges idx (legal_pos (gen_block_indices_legal hb idx hidx))
    simp only [Py.map_ok, Py.ok_bind, hids]
    exact baseCall_tail pat _

end Cnfgen.C11
