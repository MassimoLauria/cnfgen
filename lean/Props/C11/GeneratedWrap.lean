/-
C11 — the remaining classes of cnfgen/formula/variables.py as TRANSLATED (`Generated/Funcs.lean`) are the hand-written
model.  `UnaryMappingVariables` is a subclass of `BipartiteEdgesVariables` and the translator copies the inherited
methods: each IS the `BipartiteEdgesVariables` method on the same fields (`gen_unary_*_eq_bip`, no hypothesis), hence
the model's (`Props/C11/GeneratedBip.lean`).  `DiGraphEdgesVariables` and `GraphEdgesVariables` wrap an inner
`BipartiteEdgesVariables` on an auxiliary bipartite graph `B`; `SingletonVariableGroup` is `Group.single`.
-/
import Lemmas.GenWrap
import Props.C11.GeneratedBip
set_option linter.unusedSimpArgs false
namespace Cnfgen.C11
open Cnfgen Cnfgen.Vars Cnfgen.PyGen Cnfgen.GenVars

theorem gen_unary_len_eq_bip (s : UnaryMappingVariables) :
    UnaryMappingVariables.len s = BipartiteEdgesVariables.len (unaryToBip s) := rfl

theorem gen_unary_contains_eq_bip (s : UnaryMappingVariables) (lit : Int) :
    UnaryMappingVariables.contains s lit = BipartiteEdgesVariables.contains (unaryToBip s) lit := rfl

theorem gen_unary_indices_eq_bip (s : UnaryMappingVariables) (pat : List (Option Int)) :
    UnaryMappingVariables.indices s pat = BipartiteEdgesVariables.indices (unaryToBip s) pat := rfl

theorem gen_unary_index_to_lit_eq_bip (s : UnaryMappingVariables) (index : List Int) :
    UnaryMappingVariables.index_to_lit s index = BipartiteEdgesVariables.index_to_lit (unaryToBip s) index := rfl

theorem gen_unary_call_eq_bip (s : UnaryMappingVariables) (index : List (Option Int)) :
    UnaryMappingVariables.call s index = BipartiteEdgesVariables.call (unaryToBip s) index := rfl

theorem gen_unary_to_index_eq_bip (s : UnaryMappingVariables) (lit : Int) :
    UnaryMappingVariables.to_index s lit = BipartiteEdgesVariables.to_index (unaryToBip s) lit := rfl

/-- the constructor (`UnaryMappingVariables.__init__` only calls `BipartiteEdgesVariables.__init__`): the same
outcome — exception or fields — for every formula, every graph interface and every outcome of the label check -/
theorem gen_unary_init_eq_bip (f : AbsFormula) (G : AbsBipGraph) (out : Except Err Unit) :
    (UnaryMappingVariables.init f G out).map unaryToBip = BipartiteEdgesVariables.init f G out := by
  unfold UnaryMappingVariables.init BipartiteEdgesVariables.init
  simp only [Py.map_tryExcept, exceptMap_bind, apply_ite (Except.map unaryToBip), Py.map_ok, Py.map_error]
  rfl

theorem gen_unary_init_eq_bip' (f : AbsFormula) (G : AbsBipGraph) (out : Except Err Unit) :
    UnaryMappingVariables.init f G out = (BipartiteEdgesVariables.init f G out).map bipToUnary := by
  rw [← gen_unary_init_eq_bip, exceptMap_map]
  simp only [bipToUnary_unaryToBip, exceptMap_id]

theorem gen_unary_init_eq (nv : Nat) {G : BipG} (h : G.WF) (out : Except Err Unit) :
    UnaryMappingVariables.init ⟨nv⟩ (absBip G) out =
      Py.tryExcept out Err.indexError (Except.error Err.valueError) (fun _ => Except.ok (unarySelf nv G)) := by
  rw [gen_unary_init_eq_bip', gen_bip_init_eq nv h, Py.map_tryExcept]
  rfl

theorem gen_unary_init_ok {nv : Nat} {G : BipG} (h : G.WF) {out : Except Err Unit} {self : UnaryMappingVariables}
    (hs : UnaryMappingVariables.init ⟨nv⟩ (absBip G) out = .ok self) : self = unarySelf nv G := by
  have hb : BipartiteEdgesVariables.init ⟨nv⟩ (absBip G) out = .ok (unaryToBip self) := by
    rw [← gen_unary_init_eq_bip, hs]; rfl
  exact unaryToBip_injective (gen_bip_init_ok h hb)

/-- **the constructor of the source is the constructor of the model** (`new_sparse_mapping`:
`mkGroup … (.sparseMapping G label)`), given the outcome of the label's `format('1', '1')` call -/
theorem gen_unary_init_eq_model (nv : Nat) {G : BipG} (h : G.WF) (label : Option String) :
    (UnaryMappingVariables.init ⟨nv⟩ (absBip G)
        ((pyFormat (label.getD "f({})={}") ["1", "1"]).map (fun _ => ()))).map
      (fun self => Group.bip self.ids.start.toNat G (label.getD "f({})={}") true) =
    mkGroup nv (.sparseMapping G label) := by
  rw [gen_unary_init_eq nv h, Py.map_tryExcept]
  exact tryExcept_format _ _ _

theorem gen_unary_contains_eq_model (nv : Nat) (G : BipG) (lit : Int) :
    UnaryMappingVariables.contains (unarySelf nv G) lit = (Group.bip (nv + 1) G "" true).contains lit :=
  gen_bip_contains_eq_model nv G lit

theorem gen_unary_len_eq_model (nv : Nat) (G : BipG) :
    UnaryMappingVariables.len (unarySelf nv G) = ((Group.bip (nv + 1) G "" true).len : Nat) :=
  gen_bip_len_eq_model nv G

theorem gen_unary_to_index_eq_model (nv : Nat) {G : BipG} (h : G.WF) (lit : Int) :
    UnaryMappingVariables.to_index (unarySelf nv G) lit =
      (bipIndex G (nv + 1) lit).map (fun p => ((p.1 : Int), (p.2 : Int))) :=
  gen_bip_to_index_eq_model nv h lit

/-- `to_index`, as lists of integers, is `Group.toIndex` of the model's unary group -/
theorem gen_unary_to_index_eq_group (nv : Nat) {G : BipG} (h : G.WF) (lit : Int) :
    (UnaryMappingVariables.to_index (unarySelf nv G) lit).map (fun p => [p.1, p.2]) =
      ((Group.bip (nv + 1) G "" true).toIndex lit).map ints := by
  rw [gen_unary_to_index_eq_model nv h]
  simp only [Group.toIndex, exceptMap_map]
  rfl

theorem gen_unary_index_to_lit_eq_model (nv : Nat) {G : BipG} (h : G.WF) {u v : Nat} (he : (u, v) ∈ G.edgeset) :
    UnaryMappingVariables.index_to_lit (unarySelf nv G) [(u : Int), (v : Int)] =
      Except.ok ((Group.unsafeId (.bip (nv + 1) G "" true) [u, v] : Nat) : Int) :=
  gen_bip_index_to_lit_eq_model nv h he

theorem gen_unary_indices_eq_model (nv : Nat) (G : BipG) (pat : List (Option Int)) :
    UnaryMappingVariables.indices (unarySelf nv G) pat = (bipIndices G pat).map intPairs :=
  gen_bip_indices_eq_model nv G pat

/-- `group(*index)` is the model's `Group.call` of the unary group -/
theorem gen_unary_call_eq_model (nv : Nat) {G : BipG} (h : G.WF) (pat : List (Option Int)) :
    UnaryMappingVariables.call (unarySelf nv G) pat =
      ((Group.bip (nv + 1) G "" true).call pat).map resSum :=
  gen_bip_call_eq_model nv h pat

/-- `f.domain()`: the left side -/
theorem gen_unary_domain_none (nv : Nat) (G : BipG) :
    UnaryMappingVariables.domain (unarySelf nv G) none = Except.ok (ints (List.range' 1 G.l)) := by
  simp only [UnaryMappingVariables.domain]
  exact congrArg Except.ok (range_toList_range' G.l)

/-- `f.domain(v)`: `G.left_neighbors(v)` (ValueError outside `1..r`) -/
theorem gen_unary_domain_some (nv : Nat) (G : BipG) (v : Int) :
    UnaryMappingVariables.domain (unarySelf nv G) (some v) = (G.leftNeighbors v).map ints := by
  simp only [UnaryMappingVariables.domain]
  exact bind_ok_eq _

/-- `f.range()`: the right side -/
theorem gen_unary_range_none (nv : Nat) (G : BipG) :
    UnaryMappingVariables.range (unarySelf nv G) none = Except.ok (ints (List.range' 1 G.r)) := by
  simp only [UnaryMappingVariables.range]
  exact congrArg Except.ok (range_toList_range' G.r)

/-- `f.range(u)`: `G.right_neighbors(u)` (ValueError outside `1..l`) -/
theorem gen_unary_range_some (nv : Nat) (G : BipG) (u : Int) :
    UnaryMappingVariables.range (unarySelf nv G) (some u) = (G.rightNeighbors u).map ints := by
  simp only [UnaryMappingVariables.range]
  exact bind_ok_eq _

/-- on a left vertex, `f.range(u)` is the row the identifiers of `f(u, None)` are taken from -/
theorem gen_unary_range_row (nv : Nat) (G : BipG) {u : Nat} (hu : 1 ≤ u ∧ u ≤ G.l) :
    UnaryMappingVariables.range (unarySelf nv G) (some (u : Int)) = Except.ok (ints (G.rnbrs u)) := by
  simp only [UnaryMappingVariables.range]
  rw [bind_ok_eq]
  exact abs_right_neighbors G hu

/-- **C11 on the translated source, for `UnaryMappingVariables`** (the statement of `gen_bip_bijection` on the
translated methods of this class): for every object the translated constructor returns on a well-formed graph,
`indices()` enumerates pairs with consecutive identifiers from `number_of_variables() + 1`, `len` is their number,
and `to_index` / `_unsafe_index_to_lit` are inverse to each other on them -/
theorem gen_unary_bijection {nv : Nat} {G : BipG} (h : G.WF) {out : Except Err Unit} {self : UnaryMappingVariables}
    (hs : UnaryMappingVariables.init ⟨nv⟩ (absBip G) out = .ok self) :
    ∃ idxs : List (Int × Int), UnaryMappingVariables.indices self [] = .ok idxs ∧
      idxs.mapM (fun t => UnaryMappingVariables.index_to_lit self [t.1, t.2]) =
        .ok ((List.range' (nv + 1) idxs.length).map Int.ofNat) ∧
      UnaryMappingVariables.len self = idxs.length ∧
      (∀ t ∈ idxs, ∃ id, UnaryMappingVariables.index_to_lit self [t.1, t.2] = .ok id ∧
        UnaryMappingVariables.to_index self id = .ok t ∧ UnaryMappingVariables.to_index self (-id) = .ok t) ∧
      (∀ lit t, UnaryMappingVariables.to_index self lit = .ok t →
        t ∈ idxs ∧ UnaryMappingVariables.index_to_lit self [t.1, t.2] = .ok (Py.abs lit)) := by
  have hb : BipartiteEdgesVariables.init ⟨nv⟩ (absBip G) out = .ok (unaryToBip self) := by
    rw [← gen_unary_init_eq_bip, hs]; rfl
  simp only [gen_unary_indices_eq_bip, gen_unary_index_to_lit_eq_bip, gen_unary_len_eq_bip, gen_unary_to_index_eq_bip]
  exact gen_bip_bijection h hb

example : (UnaryMappingVariables.init ⟨4⟩ (absBip gen_bip_example_graph) (.ok ())).toOption.map
    (UnaryMappingVariables.call · [some 2, none]) = some (.ok (.inr [6, 7])) := by decide +kernel
example : UnaryMappingVariables.domain (unarySelf 4 gen_bip_example_graph) (some 2) = .ok [2] := by decide +kernel
example : UnaryMappingVariables.range (unarySelf 4 gen_bip_example_graph) (some 2) = .ok [1, 2] := by decide +kernel
example : UnaryMappingVariables.range (unarySelf 4 gen_bip_example_graph) (some 3) = .error .valueError := by decide +kernel
example : UnaryMappingVariables.domain (unarySelf 4 gen_bip_example_graph) none = .ok [1, 2] := by decide +kernel

/-! `DiGraphEdgesVariables`: `self.VG` is the bipartite group on the auxiliary graph `B` (`digraphAux`: the edge
`(u, v)` of `D` is the edge `(u, v)` of `B` for `sortby='pred'`, `(v, u)` for `sortby='succ'`) -/

/-- `to_index`: the pair of the inner group, swapped for `sortby='succ'` — the same exceptions -/
theorem gen_digraph_to_index_eq_model (nv : Nat) {B : BipG} (h : B.WF) (succ : Bool) (lit : Int) :
    DiGraphEdgesVariables.to_index (digraphSelf nv B succ) lit =
      (bipIndex B (nv + 1) lit).map
        (fun p => if succ then ((p.2 : Int), (p.1 : Int)) else ((p.1 : Int), (p.2 : Int))) := by
  unfold DiGraphEdgesVariables.to_index
  have hVG : (digraphSelf nv B succ).VG = bipSelf nv B := rfl
  rw [hVG, gen_bip_to_index_eq_model nv h]
  cases hb : bipIndex B (nv + 1) lit with
  | error e => rfl
  | ok p =>
    cases succ with
    | false =>
      have hs : (digraphSelf nv B false).sortby = "pred" := rfl
      simp only [Py.map_ok, Py.ok_bind, hs, if_true]
      rfl
    | true =>
      have hs : ¬ ((digraphSelf nv B true).sortby = "pred") := digraphSelf_succ nv B
      simp only [Py.map_ok, Py.ok_bind, hs, if_false]
      rfl

/-- the same as lists of integers: the translated `to_index` is `Group.toIndex` of the model's digraph group -/
theorem gen_digraph_to_index_eq_group (nv : Nat) {B : BipG} (h : B.WF) (succ : Bool) (lit : Int) :
    (DiGraphEdgesVariables.to_index (digraphSelf nv B succ) lit).map (fun p => [p.1, p.2]) =
      ((Group.digraph (nv + 1) B succ "").toIndex lit).map ints := by
  rw [gen_digraph_to_index_eq_model nv h]
  simp only [Group.toIndex, exceptMap_map]
  cases succ <;> rfl

/-- `indices(*pattern)` is the model's `digraphIndices` (for `sortby='succ'` the pattern is reversed and the pairs are
swapped), for every pattern and every graph value -/
theorem gen_digraph_indices_eq_model (nv : Nat) (B : BipG) (succ : Bool) (pat : List (Option Int)) :
    DiGraphEdgesVariables.indices (digraphSelf nv B succ) pat = (digraphIndices B succ pat).map intPairs := by
  unfold DiGraphEdgesVariables.indices
  have hVG : (digraphSelf nv B succ).VG = bipSelf nv B := rfl
  rw [hVG]
  cases succ with
  | false =>
    have hs : (digraphSelf nv B false).sortby = "pred" := rfl
    rw [if_pos hs, bind_ok_eq, gen_bip_indices_eq_model, digraphIndices_pred]
  | true =>
    have hs : ¬ ((digraphSelf nv B true).sortby = "pred") := digraphSelf_succ nv B
    rw [if_neg hs, gen_bip_indices_eq_model, digraphIndices_succ]
    cases bipIndices B pat.reverse with
    | error e => rfl
    | ok l =>
      simp only [Py.map_ok, Py.ok_bind]
      exact congrArg Except.ok (intPairs_swap l)

/-- … hence `Group.indices` of the model's digraph group, as lists -/
theorem gen_digraph_indices_eq_group (nv : Nat) (B : BipG) (succ : Bool) (pat : List (Option Int)) :
    (DiGraphEdgesVariables.indices (digraphSelf nv B succ) pat).map (·.map (fun p => [p.1, p.2])) =
      ((Group.digraph (nv + 1) B succ "").indices pat).map (·.map ints) := by
  rw [gen_digraph_indices_eq_model]
  simp only [Group.indices, exceptMap_map]
  cases digraphIndices B succ pat with
  | error e => rfl
  | ok l =>
    simp only [Py.map_ok]
    congr 1
    simp [intPairs, pairList, ints, List.map_map, Function.comp_def]

/-- `_unsafe_index_to_lit((a, b))` on an arc of the group (an edge of `B` in the group's orientation) is the model's
`Group.unsafeId` -/
theorem gen_digraph_index_to_lit_eq_model (nv : Nat) {B : BipG} (h : B.WF) (succ : Bool) {a b : Nat}
    (he : (if succ then (b, a) else (a, b)) ∈ B.edgeset) :
    DiGraphEdgesVariables.index_to_lit (digraphSelf nv B succ) [(a : Int), (b : Int)] =
      Except.ok ((Group.unsafeId (.digraph (nv + 1) B succ "") [a, b] : Nat) : Int) := by
  unfold DiGraphEdgesVariables.index_to_lit
  have hVG : (digraphSelf nv B succ).VG = bipSelf nv B := rfl
  rw [hVG]
  cases succ with
  | false =>
    have hs : (digraphSelf nv B false).sortby = "pred" := rfl
    rw [if_pos hs, bind_ok_eq, gen_bip_index_to_lit_eq_model nv h he]
    rfl
  | true =>
    have hs : ¬ ((digraphSelf nv B true).sortby = "pred") := digraphSelf_succ nv B
    rw [if_neg hs, bind_ok_eq]
    have hr : List.reverse [(a : Int), (b : Int)] = [(b : Int), (a : Int)] := rfl
    rw [hr, gen_bip_index_to_lit_eq_model nv h he]
    rfl

/-- the two together: `to_index` inverts `_unsafe_index_to_lit` on the arcs of the group -/
theorem gen_digraph_to_index_index_to_lit (nv : Nat) {B : BipG} (h : B.WF) (succ : Bool) {a b : Nat}
    (he : (if succ then (b, a) else (a, b)) ∈ B.edgeset) :
    ∃ id, DiGraphEdgesVariables.index_to_lit (digraphSelf nv B succ) [(a : Int), (b : Int)] = .ok id ∧
      DiGraphEdgesVariables.to_index (digraphSelf nv B succ) id = .ok ((a : Int), (b : Int)) ∧
      DiGraphEdgesVariables.to_index (digraphSelf nv B succ) (-id) = .ok ((a : Int), (b : Int)) := by
  refine ⟨_, gen_digraph_index_to_lit_eq_model nv h succ he, ?_⟩
  rw [gen_digraph_to_index_eq_model nv h, gen_digraph_to_index_eq_model nv h]
  -- the identifier is `bipId` of the arc as stored in `B`; `bipIndex` returns that pair, swapped back for `succ`
  cases succ with
  | false =>
    have hb := bipIndex_bipId h (nv + 1) (u := a) (v := b) he
    exact ⟨congrArg (Except.map _) hb.1, congrArg (Except.map _) hb.2⟩
  | true =>
    have hb := bipIndex_bipId h (nv + 1) (u := b) (v := a) he
    exact ⟨congrArg (Except.map _) hb.1, congrArg (Except.map _) hb.2⟩

/-- the hypotheses are those of the model's constructor: the auxiliary graph of `new_digraph_edges` is well formed -/
theorem gen_digraph_aux_wf {D : DiG} {succ : Bool} {B : BipG} (hB : digraphAux D succ = .ok B) : B.WF :=
  (digraphAux_spec hB).1

/-! the running example `gen_bip_example_graph` (edges `(1,3), (2,1), (2,2)` of `B`) read as `sortby='succ'`:
the arcs are `(3,1), (1,2), (2,2)` -/
example : DiGraphEdgesVariables.indices (digraphSelf 4 gen_bip_example_graph true) [] =
    .ok [(3, 1), (1, 2), (2, 2)] := by decide +kernel
example : DiGraphEdgesVariables.indices (digraphSelf 4 gen_bip_example_graph true) [none, some 2] =
    .ok [(1, 2), (2, 2)] := by decide +kernel
example : DiGraphEdgesVariables.index_to_lit (digraphSelf 4 gen_bip_example_graph true) [3, 1] = .ok 5 := by decide +kernel
example : DiGraphEdgesVariables.to_index (digraphSelf 4 gen_bip_example_graph true) (-6) = .ok (1, 2) := by decide +kernel
example : DiGraphEdgesVariables.to_index (digraphSelf 4 gen_bip_example_graph false) (-6) = .ok (2, 1) := by decide +kernel
example : (if true then ((1 : Nat), (3 : Nat)) else (3, 1)) ∈ gen_bip_example_graph.edgeset := by decide +kernel

/-! `GraphEdgesVariables`: `self.BG` is the bipartite group on the auxiliary graph `B` (`graphAux`: one edge
`(min, max)` per edge of `G`) -/

/-- `to_index` is the inner group's -/
theorem gen_graph_to_index_eq_model (nv : Nat) {B : BipG} (h : B.WF) (lit : Int) :
    GraphEdgesVariables.to_index (graphSelf nv B) lit =
      (bipIndex B (nv + 1) lit).map (fun p => ((p.1 : Int), (p.2 : Int))) := by
  unfold GraphEdgesVariables.to_index
  have hBG : (graphSelf nv B).BG = bipSelf nv B := rfl
  rw [hBG, bind_ok_eq, gen_bip_to_index_eq_model nv h]

/-- as lists of integers: `Group.toIndex` of the model's graph group -/
theorem gen_graph_to_index_eq_group (nv : Nat) {B : BipG} (h : B.WF) (lit : Int) :
    (GraphEdgesVariables.to_index (graphSelf nv B) lit).map (fun p => [p.1, p.2]) =
      ((Group.graph (nv + 1) B "").toIndex lit).map ints := by
  rw [gen_graph_to_index_eq_model nv h]
  simp only [Group.toIndex, exceptMap_map]
  rfl

/-- `_unsafe_index_to_lit((a, b))` sorts the pair first (`sorted`, here: insertion sort on two entries): on an edge
in either orientation it is the model's `Group.unsafeId` -/
theorem gen_graph_index_to_lit_eq_model (nv : Nat) {B : BipG} (h : B.WF) {a b : Nat}
    (he : (min a b, max a b) ∈ B.edgeset) :
    GraphEdgesVariables.index_to_lit (graphSelf nv B) [(a : Int), (b : Int)] =
      Except.ok ((Group.unsafeId (.graph (nv + 1) B "") [a, b] : Nat) : Int) := by
  unfold GraphEdgesVariables.index_to_lit
  have hBG : (graphSelf nv B).BG = bipSelf nv B := rfl
  rw [hBG, bind_ok_eq, sorted_pair_nat, gen_bip_index_to_lit_eq_model nv h he]
  rfl

/-- the identifier does not depend on the orientation of the pair -/
theorem gen_graph_index_to_lit_symm (nv : Nat) (B : BipG) (a b : Int) :
    GraphEdgesVariables.index_to_lit (graphSelf nv B) [a, b] =
      GraphEdgesVariables.index_to_lit (graphSelf nv B) [b, a] := by
  unfold GraphEdgesVariables.index_to_lit
  rw [sorted_pair, sorted_pair]
  by_cases h1 : b < a
  · have h2 : ¬ a < b := by omega
    rw [if_pos h1, if_neg h2]
  · by_cases h2 : a < b
    · rw [if_neg h1, if_pos h2]
    · have : a = b := by omega
      subst this
      rfl

/-- `to_index` inverts `_unsafe_index_to_lit` up to the orientation: it returns the sorted pair -/
theorem gen_graph_to_index_index_to_lit (nv : Nat) {B : BipG} (h : B.WF) {a b : Nat}
    (he : (min a b, max a b) ∈ B.edgeset) :
    ∃ id, GraphEdgesVariables.index_to_lit (graphSelf nv B) [(a : Int), (b : Int)] = .ok id ∧
      GraphEdgesVariables.to_index (graphSelf nv B) id = .ok (((min a b : Nat) : Int), ((max a b : Nat) : Int)) ∧
      GraphEdgesVariables.to_index (graphSelf nv B) (-id) = .ok (((min a b : Nat) : Int), ((max a b : Nat) : Int)) := by
  refine ⟨_, gen_graph_index_to_lit_eq_model nv h he, ?_⟩
  rw [gen_graph_to_index_eq_model nv h, gen_graph_to_index_eq_model nv h]
  have hb := bipIndex_bipId h (nv + 1) he
  exact ⟨congrArg (Except.map _) hb.1, congrArg (Except.map _) hb.2⟩

/-- the hypothesis is that of the model's constructor: the auxiliary graph of `new_graph_edges` is well formed -/
theorem gen_graph_aux_wf {G : SimpleG} {B : BipG} (hB : graphAux G = .ok B) : B.WF := (graphAux_spec hB).1

/-! on the running example graph (edge `(1,3)` of `B`, identifier 5): both orientations of the pair -/
example : GraphEdgesVariables.index_to_lit (graphSelf 4 gen_bip_example_graph) [3, 1] = .ok 5 := by decide +kernel
example : GraphEdgesVariables.index_to_lit (graphSelf 4 gen_bip_example_graph) [1, 3] = .ok 5 := by decide +kernel
example : GraphEdgesVariables.to_index (graphSelf 4 gen_bip_example_graph) (-5) = .ok (1, 3) := by decide +kernel
example : (min 3 1, max 3 1) ∈ gen_bip_example_graph.edgeset := by decide +kernel

/-- the constructor: one identifier, `number_of_variables() + 1` -/
theorem gen_single_init_eq (nv : Nat) : SingletonVariableGroup.init ⟨nv⟩ = singleSelf nv := by
  unfold SingletonVariableGroup.init singleSelf
  simp only []
  congr 2

/-- the constructor of the model (`new_variable`: `mkGroup … (.variable label)`) starts at the same identifier -/
theorem gen_single_init_eq_model (nv : Nat) (label : Option String) :
    mkGroup nv (.variable label) = .ok (.single (SingletonVariableGroup.init ⟨nv⟩).ids.start.toNat label) := by
  rw [gen_single_init_eq]
  have : ((nv : Int) + 1).toNat = nv + 1 := by omega
  simp only [mkGroup, singleSelf, this]

theorem gen_single_len_eq_model (nv : Nat) (name : Option String) :
    SingletonVariableGroup.len (singleSelf nv) = ((Group.single (nv + 1) name).len : Nat) :=
  single_len nv

theorem gen_single_contains_eq_model (nv : Nat) (name : Option String) (lit : Int) :
    SingletonVariableGroup.contains (singleSelf nv) lit = (Group.single (nv + 1) name).contains lit :=
  Bool.decide_eq_true.trans (Py.ids_contains nv 1 lit)

/-- `vg[i]` (`self.ids[i]`): the identifier for `i = 0` and `i = -1`, IndexError otherwise -/
theorem gen_single_getitem_eq (nv : Nat) (i : Int) :
    SingletonVariableGroup.getitem (singleSelf nv) i =
      if i = 0 ∨ i = -1 then Except.ok ((nv : Int) + 1) else Except.error Err.indexError := by
  unfold SingletonVariableGroup.getitem
  rw [single_get]
  exact bind_ok_eq _

/-- `x()`: the identifier -/
theorem gen_single_call_eq (nv : Nat) : SingletonVariableGroup.call (singleSelf nv) = Except.ok ((nv : Int) + 1) := by
  simp only [SingletonVariableGroup.call, single_getitem_zero, Py.ok_bind]

/-- … which is `Group.call` of the model on the empty pattern -/
theorem gen_single_call_eq_model (nv : Nat) (name : Option String) :
    (SingletonVariableGroup.call (singleSelf nv)).map Sum.inl = ((Group.single (nv + 1) name).call []).map resSum := by
  rw [gen_single_call_eq]
  simp only [Group.call, List.isEmpty_nil, if_true, Py.map_ok, resSum]
  congr 2

/-- `to_index(lit)`: the empty index for `± id`, ValueError otherwise -/
theorem gen_single_to_index_eq (nv : Nat) (lit : Int) :
    SingletonVariableGroup.to_index (singleSelf nv) lit =
      if lit.natAbs = nv + 1 then Except.ok () else Except.error Err.valueError := by
  simp only [SingletonVariableGroup.to_index, single_getitem_zero, Py.ok_bind]
  by_cases h : lit.natAbs = nv + 1
  · have h' : ¬ (Py.abs lit ≠ (nv : Int) + 1) := by rw [Py.abs_eq]; omega
    rw [if_neg h', if_pos h]
  · have h' : Py.abs lit ≠ (nv : Int) + 1 := by rw [Py.abs_eq]; omega
    rw [if_pos h', if_neg h]

/-- … which is `Group.toIndex` of the model (the index `()` is the empty list) -/
theorem gen_single_to_index_eq_model (nv : Nat) (name : Option String) (lit : Int) :
    (SingletonVariableGroup.to_index (singleSelf nv) lit).map (fun _ => ([] : List Nat)) =
      (Group.single (nv + 1) name).toIndex lit := by
  rw [gen_single_to_index_eq]
  simp only [Group.toIndex]
  by_cases h : lit.natAbs = nv + 1
  · rw [if_pos h, if_neg (by simpa using h)]; rfl
  · rw [if_neg h, if_pos h]; rfl

/-- `indices(*pattern)`: the one empty index, ValueError when a pattern is given -/
theorem gen_single_indices_eq (nv : Nat) (pat : List (Option Int)) :
    SingletonVariableGroup.indices (singleSelf nv) pat =
      if pat = [] then Except.ok [()] else Except.error Err.valueError := by
  unfold SingletonVariableGroup.indices
  cases pat with
  | nil => simp
  | cons a r =>
    have : (Py.len (a :: r)) > 0 := by simp only [Py.len_eq, List.length_cons]; omega
    rw [if_pos this, if_neg (by simp)]

theorem gen_single_indices_eq_model (nv : Nat) (name : Option String) (pat : List (Option Int)) :
    (SingletonVariableGroup.indices (singleSelf nv) pat).map (·.map (fun _ => ([] : List Nat))) =
      (Group.single (nv + 1) name).indices pat := by
  rw [gen_single_indices_eq]
  simp only [Group.indices]
  cases pat with
  | nil => rfl
  | cons a r => rfl

example : SingletonVariableGroup.call (SingletonVariableGroup.init ⟨4⟩) = .ok 5 := by decide +kernel
example : SingletonVariableGroup.to_index (SingletonVariableGroup.init ⟨4⟩) (-5) = .ok () := by decide +kernel
example : SingletonVariableGroup.to_index (SingletonVariableGroup.init ⟨4⟩) 4 = .error .valueError := by decide +kernel
example : SingletonVariableGroup.getitem (SingletonVariableGroup.init ⟨4⟩) 1 = .error .indexError := by decide +kernel

end Cnfgen.C11
