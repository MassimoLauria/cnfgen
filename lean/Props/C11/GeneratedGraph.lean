/-
C11 — `GraphEdgesVariables` as TRANSLATED from cnfgen/formula/variables.py: the constructor (the auxiliary
`BipartiteGraph` is built by the source's own `has_edge` / `add_edge` loop on the model's graph object — `Vars.graphAux`),
`indices` (with its local generator for one given vertex) and `__call__` are the model's `graphAux`, `graphIndices`,
`Group.graph … |>.baseCall`.
-/
import Props.C11.GeneratedWrap
set_option linter.unusedSimpArgs false
namespace Cnfgen.C11
open Cnfgen Cnfgen.Vars Cnfgen.PyGen Cnfgen.GenVars

theorem min2_int (a b : Int) : Py.min2 a b = min a b := by
  rw [Int.min_def]
  by_cases h : b < a
  · exact (if_pos h).trans (if_neg (Int.not_le.2 h)).symm
  · exact (if_neg h).trans (if_pos (Int.not_lt.1 h)).symm

theorem max2_int (a b : Int) : Py.max2 a b = max a b := by
  rw [Int.max_comm, Int.max_def]
  by_cases h : a < b
  · exact (if_pos h).trans (if_neg (Int.not_le.2 h)).symm
  · exact (if_neg h).trans (if_pos (Int.not_lt.1 h)).symm

theorem min2_nat (a b : Nat) : Py.min2 (a : Int) (b : Int) = ((min a b : Nat) : Int) := by
  rw [min2_int, Int.min_def, Nat.min_def, apply_ite Nat.cast]
  exact if_congr Int.ofNat_le rfl rfl

theorem max2_nat (a b : Nat) : Py.max2 (a : Int) (b : Int) = ((max a b : Nat) : Int) := by
  rw [max2_int, Int.max_def, Nat.max_def, apply_ite Nat.cast]
  exact if_congr Int.ofNat_le rfl rfl

/-- **the constructor**: the auxiliary graph is the model's `graphAux` (the same loop on the same graph object), then
the inner bipartite group and the range of identifiers -/
theorem gen_graph_init_eq (nv : Nat) (G : SimpleG) (out : Except Err Unit) :
    GraphEdgesVariables.init ⟨nv⟩ (absGraph G) out =
      (graphAux G) >>= fun B =>
      (BipartiteEdgesVariables.init ⟨nv⟩ (absBip B) out) >>= fun bg =>
      Except.ok ⟨bg, ⟨nv⟩, ⟨(nv : Int) + 1, (nv : Int) + ((B.numberOfEdges : Nat) : Int) + 1⟩⟩ := by
  unfold GraphEdgesVariables.init graphAux
  have hn : (absGraph G).number_of_vertices = (G.n : Int) := rfl
  have he : (absGraph G).edges = G.edges.map (fun e => ((e.1 : Int), (e.2 : Int))) := rfl
  have hneg : ¬ (G.n : Int) < 0 := Int.not_lt.2 (Int.natCast_nonneg _)
  simp only [hn, he, BipG.initI, hneg, or_self, if_false, Py.ok_bind, Int.toNat_natCast, List.foldlM_map]
  congr 1
  · apply Py.foldlM_ext
    intro B e
    simp only [min2_int, max2_int]
    by_cases hh : B.hasEdge (min (e.1 : Int) (e.2 : Int)) (max (e.1 : Int) (e.2 : Int)) = true
    · rw [if_neg (not_not.2 hh), if_pos hh]; rfl
    · rw [if_pos hh, if_neg hh, bind_ok_eq, bind_ok_eq]

/-- on a graph object whose auxiliary graph is `B` (`graphAux_spec`: well formed) -/
theorem gen_graph_init_ok (nv : Nat) {G : SimpleG} {B : BipG} (hB : graphAux G = .ok B) :
    GraphEdgesVariables.init ⟨nv⟩ (absGraph G) (Except.ok ()) = Except.ok (graphSelf nv B) := by
  rw [gen_graph_init_eq, hB, Py.ok_bind, gen_bip_init_eq nv (graphAux_spec hB).1]
  rfl

/-- the one-vertex case of `indices`: the edges to `w` from below, then those from `w` upwards except the loop -/
theorem graph_vertex_indices (B : BipG) (w : Int) :
    ((bipIndices B [none, some w]).map intPairs >>= fun r =>
      (bipIndices B [some w, none]).map intPairs >>= fun s =>
      Except.ok (r.map (fun z => (z.1, z.2)) ++ (s.filter fun z => decide (some z.2 ≠ some w)).map fun z => (z.1, z.2))) =
      (graphIndices B [none, some w]).map intPairs := by
  rw [graphIndices]
  cases bipIndices B [none, some w] with
  | error e => rfl
  | ok a =>
    cases bipIndices B [some w, none] with
    | error e => rfl
    | ok b =>
      simp only [pure, Except.pure, Py.map_ok, Py.ok_bind, intPairs, List.map_append, List.filter_map, List.map_map,
        Function.comp_def, ne_eq, Option.some.injEq]

/-- **`indices(*pattern)`** is the model's `graphIndices`, for every pattern and every auxiliary graph -/
theorem gen_graph_indices_eq_model (nv : Nat) (B : BipG) (pat : List (Option Int)) :
    GraphEdgesVariables.indices (graphSelf nv B) pat = (graphIndices B pat).map intPairs := by
  have hBG : (graphSelf nv B).BG = bipSelf nv B := rfl
  simp only [GraphEdgesVariables.indices, hBG, gen_bip_indices_eq_model, pairPattern]
  match pat with
  | [] => rfl
  | [a] => cases a <;> rfl
  | [none, none] => rfl
  | [none, some w] => exact graph_vertex_indices B w
  | [some u, none] => exact graph_vertex_indices B u
  | [some u, some v] =>
    have hne : some u ≠ none ∧ some v ≠ none := ⟨Option.some_ne_none u, Option.some_ne_none v⟩
    have hn2 : ¬ (some u = none ∧ some v = none) := fun h => hne.1 h.1
    simp only [graphIndices, if_neg hn2, if_pos hne, Py.unNone, Py.ok_bind, min2_int, max2_int, bind_ok_eq]
  | a :: b :: c :: r => cases a <;> cases b <;> rfl

theorem gen_graph_indices_legal {B : BipG} (h : B.WF) {pat : Pattern} {l : List (Nat × Nat)}
    (hi : graphIndices B pat = .ok l) : ∀ p ∈ l, p ∈ B.edgeset := by
  -- one vertex `w`: the edges into `w`, then the edges out of `w`
  have one : ∀ w : Int, (bipIndices B [none, some w] >>= fun a => bipIndices B [some w, none] >>= fun b =>
      pure (a ++ b.filter (fun e => (e.2 : Int) ≠ w))) = .ok l → ∀ p ∈ l, p ∈ B.edgeset := by
    intro w hi
    obtain ⟨l1, h1, hi⟩ := Cnfgen.bind_ok.1 hi
    obtain ⟨l2, h2, hi⟩ := Cnfgen.bind_ok.1 hi
    cases hi
    intro p hp
    rcases List.mem_append.1 hp with hp | hp
    · exact gen_bip_indices_legal h h1 p hp
    · exact gen_bip_indices_legal h h2 p (List.mem_filter.1 hp).1
  unfold graphIndices at hi
  split at hi
  · exact gen_bip_indices_legal h hi
  · exact gen_bip_indices_legal h hi
  · exact gen_bip_indices_legal h hi
  · exact one _ hi
  · exact one _ hi
  · cases hi

/-- **`group(*index)`** (`BaseVariableGroup.__call__`, as translated for this class: it goes through the class's own
`indices` and `_unsafe_index_to_lit`) is the model's `baseCall` of the graph group -/
theorem gen_graph_call_eq_model (nv : Nat) {B : BipG} (h : B.WF) (hle : ∀ a b, (a, b) ∈ B.edgeset → a ≤ b)
    (pat : List (Option Int)) :
    GraphEdgesVariables.call (graphSelf nv B) pat =
      ((Group.graph (nv + 1) B "").baseCall pat).map resSum := by
  refine Eq.trans ?_ (baseCall_gen pat (graphIndices B pat) (fun p => ((p.1 : Int), (p.2 : Int)))
    (fun t => GraphEdgesVariables.index_to_lit (graphSelf nv B) [t.1, t.2] >>= fun r => Except.ok r)
    (fun p => bipId B (nv + 1) (min p.1 p.2) (max p.1 p.2)) (fun p => [p.1, p.2]) _ rfl (fun _ => rfl)
    fun l hl p hp => ?_)
  · rw [GraphEdgesVariables.call, gen_graph_indices_eq_model]
  · have he := gen_graph_indices_legal h hl p hp
    have hpl := hle p.1 p.2 he
    rw [gen_graph_index_to_lit_eq_model nv h (by rw [Nat.min_eq_left hpl, Nat.max_eq_right hpl]; exact he)]
    rfl

end Cnfgen.C11
