/-
C05 — Substitution, lifting and compression compose the formula with the gadget.
Property theorems only; helper lemmas are in `Lemmas/Subst.lean`, `Lemmas/SubstGadgets.lean`,
`Lemmas/Header.lean`.  The model is `CnfgenModel/Trans/Subst.lean` (+ `Trans/Header.lean`).

Reading guide
* `Composes F G M ind` : `G` has exactly `M` variables, is well formed, and an assignment `β` of the
  new variables satisfies `G` iff the induced assignment `ind β` of the original variables satisfies `F`.
* every theorem is about the FAITHFUL function (argument checks, `substitutions[lit]` indexing,
  `add_clause(check=True)` variable counting), not about a closed form.
-/
import Lemmas.Subst
import Lemmas.SubstGadgets
import Lemmas.Header
namespace Cnfgen.C05
open Cnfgen Subst

/-- only so that the test vectors below can be evaluated -/
private def decEqResult : DecidableEq (Except Err CNF) := fun a b =>
  match a, b with
  | .ok x, .ok y => if h : x = y then isTrue (h ▸ rfl) else isFalse (fun e => h (Except.ok.inj e))
  | .error x, .error y => if h : x = y then isTrue (h ▸ rfl) else isFalse (fun e => h (Except.error.inj e))
  | .ok _, .error _ => isFalse nofun
  | .error _, .ok _ => isFalse nofun
attribute [local instance] decEqResult

structure Composes (F G : CNF) (M : Nat) (ind : Assign → Assign) : Prop where
  nvars : G.nvars = M
  wf : G.WF
  holds : ∀ β, G.holds β = F.holds (ind β)

/-- number of true variables in the block of the original variable `v` -/
def blockCount (k : Nat) (β : Assign) (v : Nat) : Nat := count β (blockLits k v)

/-- the block of `v` is the new variables `(v-1)k+1 … vk` -/
theorem blockCount_eq (k : Nat) (β : Assign) (v : Nat) :
    blockCount k β v = (List.range k).countP (fun i => β ((v - 1) * k + (i + 1))) :=
  count_blockLits β k v

theorem holds_iff (β : Assign) (G : CNF) :
    G.holds β = true ↔ ∀ c ∈ G.clauses, clauseHolds β c = true := by
  simp [CNF.holds, List.all_eq_true]

/-- T-C05.0.  For ANY per-literal encoder `enc` that, under the side condition established by the
clauses `pre` added beforehand, means `g β v` on the positive literal of `v` and `¬ g β v` on the
negative one, and whose clauses stay within `M` variables: the faithful engine raises no exception
on a well-formed `F` (empty clauses, unused variables, repeated and opposite literals included),
produces exactly `M` variables, the clauses `pre ++ substClauses enc F.clauses`, and the result holds
under `β` iff the side condition holds and `F` holds under the induced assignment `g β`. -/
theorem subst_composes (F : CNF) (M : Nat) (pre : List Clause) (enc : Int → List Clause)
    (side : Assign → Prop) (g : Assign → Assign)
    (hF : F.WF) (hpre : Bounded M pre) (hB : EncB F.nvars M enc)
    (hside : ∀ β, (∀ c ∈ pre, clauseHolds β c = true) ↔ side β)
    (hpos : ∀ β, side β → ∀ v : Nat, 1 ≤ v → v ≤ F.nvars →
      ((∀ c ∈ enc (v : Int), clauseHolds β c = true) ↔ g β v = true))
    (hneg : ∀ β, side β → ∀ v : Nat, 1 ≤ v → v ≤ F.nvars →
      ((∀ c ∈ enc (-(v : Int)), clauseHolds β c = true) ↔ g β v = false)) :
    ∃ G, Subst.run ⟨M, pre⟩ F.nvars enc F.clauses = .ok G ∧ G.nvars = M ∧ G.WF ∧
      G.clauses = pre ++ substClauses enc F.clauses ∧
      ∀ β, G.holds β = true ↔ (side β ∧ F.holds (g β) = true) := by
  have hsb := substClauses_bounded F.nvars M enc F.clauses hF hB
  have hmv : maxVar (substClauses enc F.clauses) ≤ M :=
    maxVar_le _ M (fun c hc x hx => (hsb c hc x hx).2)
  refine ⟨⟨M, pre ++ substClauses enc F.clauses⟩, ?_, rfl, ?_, rfl, ?_⟩
  · rw [run_ok ⟨M, pre⟩ F.nvars M enc F.clauses hF hB]
    simp only [Nat.max_eq_left hmv]
  · exact hpre.append hsb
  · intro β
    rw [holds_iff, holds_iff]
    simp only [List.mem_append]
    constructor
    · intro h
      have hs : side β := (hside β).1 (fun c hc => h c (Or.inl hc))
      refine ⟨hs, ?_⟩
      exact (substClauses_holds β (g β) enc F.nvars F.clauses hF (fun v a b => ⟨hpos β hs v a b, hneg β hs v a b⟩)).1
        (fun c hc => h c (Or.inr hc))
    · rintro ⟨hs, hh⟩ c (hc | hc)
      · exact (hside β).2 hs c hc
      · exact (substClauses_holds β (g β) enc F.nvars F.clauses hF (fun v a b => ⟨hpos β hs v a b, hneg β hs v a b⟩)).2 hh c hc

/-- T-C05.0 without side condition: `Composes` -/
theorem subst_composes_plain (F : CNF) (M : Nat) (enc : Int → List Clause) (g : Assign → Assign)
    (hF : F.WF) (hB : EncB F.nvars M enc) (hm : ∀ β (v : Nat), 1 ≤ v → v ≤ F.nvars → Means β enc v (g β v)) :
    ∃ G, Subst.run ⟨M, []⟩ F.nvars enc F.clauses = .ok G ∧ Composes F G M g := by
  obtain ⟨G, h1, h2, h3, _, h5⟩ := subst_composes F M [] enc (fun _ => True) g hF
    (by intro c hc; simp at hc) hB (by intro β; simp) (fun β _ v a b => (hm β v a b).1) (fun β _ v a b => (hm β v a b).2)
  refine ⟨G, h1, h2, h3, ?_⟩
  intro β
  have := h5 β
  simp only [true_and] at this
  exact Bool.eq_iff_iff.2 this

/-- T-C05.0 for a gadget (`Subst.gadget`): the induced assignment is the property the two builders decide -/
theorem gadget_composes (F : CNF) (M : Nat) (hF : F.WF) (enc : Int → List Clause) (ls : Nat → List Int)
    (P Q : List Int → List Clause) (q : Assign → Nat → Prop) [∀ β v, Decidable (q β v)]
    (henc : ∀ l : Int, l ≠ 0 → enc l = if l > 0 then P (ls l.natAbs) else Q (ls l.natAbs))
    (hls : ∀ v, 1 ≤ v → v ≤ F.nvars → ∀ y ∈ ls v, y ≠ 0 ∧ y.natAbs ≤ M)
    (hP : ∀ v, 1 ≤ v → v ≤ F.nvars → Says (ls v) (P (ls v)) (q · v))
    (hQ : ∀ v, 1 ≤ v → v ≤ F.nvars → Says (ls v) (Q (ls v)) (¬ q · v)) :
    ∃ G, Subst.run ⟨M, []⟩ F.nvars enc F.clauses = .ok G ∧ Composes F G M (fun β v => decide (q β v)) :=
  have h := gadget enc ls P Q q F.nvars M henc hls hP hQ
  subst_composes_plain F M enc _ hF h.1 h.2

/-- a formula with an empty clause, an unused top variable, a repeated and an opposite literal -/
def exF : CNF := ⟨4, [[1, -2], [], [2, 2, -2], [3]]⟩
example : exF.WF := by unfold CNF.WF exF; decide +kernel

/-- non-vacuity of T-C05.0: the or-gadget of arity 2 is such an encoder -/
example : ∃ G, Subst.run ⟨2 * exF.nvars, []⟩ exF.nvars (orify 2) exF.clauses = .ok G ∧
    Composes exF G (2 * exF.nvars) (fun β v => decide (1 ≤ blockCount 2 β v)) :=
  gadget_composes exF _ (by unfold CNF.WF exF; decide +kernel) (orify 2) (blockLits 2) (fun ls => [ls])
    (fun ls => ls.map fun x => [-x]) (fun β v => 1 ≤ count β (blockLits 2 v)) (fun _ _ => rfl)
    (fun v hv hN => blockLits_bounded 2 v _ hv hN) (fun v _ _ => says_clause _)
    (fun v _ _ => says_units _ (blockLits_nonzero 2 v))

/-! ### T-C05.1 / T-C05.3 the arity-`k` gadgets: `k · nvars` variables, gadget applied per block -/

/-- the arity-`k` gadgets: builders for a property `q` of the number of true variables of the block, and for `¬ q` -/
theorem kGadget_composes (F : CNF) (k : Nat) (hk : 1 ≤ k) (hF : F.WF) (enc : Nat → Int → List Clause)
    (P Q : List Int → List Clause) (q : Nat → Prop) [DecidablePred q]
    (henc : ∀ l : Int, l ≠ 0 → enc k l = if l > 0 then P (blockLits k l.natAbs) else Q (blockLits k l.natAbs))
    (hP : ∀ ls, (∀ l ∈ ls, l ≠ 0) → ls.length = k → Says ls (P ls) (fun β => q (count β ls)))
    (hQ : ∀ ls, (∀ l ∈ ls, l ≠ 0) → ls.length = k → Says ls (Q ls) (fun β => ¬ q (count β ls))) :
    ∃ G, kSubst F (k : Int) enc = .ok G ∧
      Composes F G (k * F.nvars) (fun β v => decide (q (blockCount k β v))) := by
  have h1 : ¬ ((k : Int) < 1) := by omega
  simp only [kSubst, h1, if_false, Int.toNat_natCast]
  exact gadget_composes F _ hF (enc k) (blockLits k) P Q (fun β v => q (count β (blockLits k v))) henc
    (fun v hv hN => blockLits_bounded k v _ hv hN)
    (fun v _ _ => hP _ (blockLits_nonzero k v) (blockLits_length k v))
    (fun v _ _ => hQ _ (blockLits_nonzero k v) (blockLits_length k v))

/-- every arity-`k` transformation rejects `k < 1` (`positive_int`) -/
theorem kSubst_rejects (F : CNF) (k : Int) (hk : k < 1) (enc : Nat → Int → List Clause) :
    kSubst F k enc = .error .valueError := by simp [kSubst, hk]

example : xorSubst exF 0 = .error .valueError := kSubst_rejects exF 0 (by omega) _

theorem xor_composes (F : CNF) (k : Nat) (hk : 1 ≤ k) (hF : F.WF) :
    ∃ G, xorSubst F k = .ok G ∧
      Composes F G (k * F.nvars) (fun β v => decide (blockCount k β v % 2 = 1)) :=
  kGadget_composes F k hk hF xorify (Linear.parity · 1) (Linear.parity · 0) (· % 2 = 1)
    (fun _ _ => apply_ite _ _ _ _) (fun ls h _ => says_parity ls true h)
    (fun ls h _ => (says_parity ls false h).congr fun _ => Nat.mod_two_not_eq_one.symm)

example : xorSubst ⟨2, [[1, -2]]⟩ 2 =
    .ok ⟨4, [[1, 2, 3, -4], [1, 2, -3, 4], [-1, -2, 3, -4], [-1, -2, -3, 4]]⟩ := by decide +kernel
example : ∃ G, xorSubst exF 3 = .ok G ∧ G.nvars = 12 := by
  obtain ⟨G, h, c⟩ := xor_composes exF 3 (by omega) (by unfold CNF.WF exF; decide +kernel)
  exact ⟨G, h, c.nvars⟩

theorem or_composes (F : CNF) (k : Nat) (hk : 1 ≤ k) (hF : F.WF) :
    ∃ G, orSubst F k = .ok G ∧
      Composes F G (k * F.nvars) (fun β v => decide (1 ≤ blockCount k β v)) :=
  kGadget_composes F k hk hF orify (fun ls => [ls]) (fun ls => ls.map fun x => [-x]) (1 ≤ ·)
    (fun _ _ => rfl) (fun ls _ _ => says_clause ls) (fun ls h _ => says_units ls h)

example : orSubst ⟨2, [[1, -2]]⟩ 2 = .ok ⟨4, [[1, 2, -3], [1, 2, -4]]⟩ := by decide +kernel

/-- majority is the loose one of the documentation: `X(1)+…+X(k) ≥ k/2` -/
theorem maj_composes (F : CNF) (k : Nat) (hk : 1 ≤ k) (hF : F.WF) :
    ∃ G, majSubst F k = .ok G ∧
      Composes F G (k * F.nvars) (fun β v => decide (k ≤ 2 * blockCount k β v)) :=
  kGadget_composes F k hk hF majorify Linear.looseMajority Linear.strictMinority (k ≤ 2 * ·) (fun _ _ => rfl)
    (fun ls h e => ⟨add_uses _ _ _, fun β => e ▸ C04.looseMajority_holds β ls h⟩)
    (fun ls h e => ⟨add_uses _ _ _, fun β => e ▸ (C04.strictMinority_holds β ls h).trans Nat.not_le.symm⟩)

example : majSubst ⟨1, [[1], [-1]]⟩ 2 = .ok ⟨2, [[1, 2], [-1], [-2]]⟩ := by decide +kernel

theorem allEqual_composes (F : CNF) (k : Nat) (hk : 1 ≤ k) (hF : F.WF) :
    ∃ G, allEqual F k = .ok G ∧
      Composes F G (k * F.nvars)
        (fun β v => decide (blockCount k β v = 0 ∨ blockCount k β v = k)) :=
  kGadget_composes F k hk hF (aesubst false)
    (fun b => [b.getD 0 0, -(b.getD (k - 1) 0)] :: (List.range (k - 1)).map (fun j => [-(b.getD j 0), b.getD (j + 1) 0]))
    (fun b => [b, b.map (fun v => -v)]) (fun n => n = 0 ∨ n = k) (fun _ _ => rfl)
    (fun b h e => by subst e; exact says_cycle b h hk) (fun b h e => by subst e; exact says_notAllEq b h)

example : allEqual ⟨1, [[1]]⟩ 3 = .ok ⟨3, [[1, -3], [-1, 2], [-2, 3]]⟩ := by decide +kernel

theorem notAllEqual_composes (F : CNF) (k : Nat) (hk : 1 ≤ k) (hF : F.WF) :
    ∃ G, notAllEqual F k = .ok G ∧
      Composes F G (k * F.nvars)
        (fun β v => !decide (blockCount k β v = 0 ∨ blockCount k β v = k)) := by
  have h1 : ¬ ((k : Int) < 1) := by omega
  simp only [notAllEqual, h1, if_false, ← decide_not]
  exact kGadget_composes F k hk hF (aesubst true) (fun b => [b, b.map (fun v => -v)])
    (fun b => [b.getD 0 0, -(b.getD (k - 1) 0)] :: (List.range (k - 1)).map (fun j => [-(b.getD j 0), b.getD (j + 1) 0]))
    (fun n => ¬ (n = 0 ∨ n = k))
    (fun l h0 => by
      have e : (-l > 0) = ¬ l > 0 := by rw [eq_iff_iff]; omega
      simp only [aesubst, if_true, e, ite_not])
    (fun b h e => by subst e; exact says_notAllEq b h)
    (fun b h e => by subst e; exact (says_cycle b h hk).congr fun β => Classical.not_not.symm)

example : notAllEqual ⟨1, [[1]]⟩ 3 = .ok ⟨3, [[1, 2, 3], [-1, -2, -3]]⟩ := by decide +kernel

theorem exactlyOne_composes (F : CNF) (k : Nat) (hk : 1 ≤ k) (hF : F.WF) :
    ∃ G, exactlyOne F k = .ok G ∧
      Composes F G (k * F.nvars) (fun β v => decide (blockCount k β v = 1)) :=
  kGadget_composes F k hk hF oneify (Linear.add · .eq 1) flipEach (· = 1) (fun _ _ => rfl)
    (fun ls h _ => says_exactlyOne ls h)
    (fun ls h _ => ⟨flipEach_eq ls ▸ neqClauses_uses ls 1, fun β => flipEach_eq ls ▸ neqClauses_holds β ls 1 h⟩)

example : exactlyOne ⟨1, [[-1]]⟩ 3 = .ok ⟨3, [[-1, 2, 3], [1, -2, 3], [1, 2, -3]]⟩ := by decide +kernel

/-- the operator used on negative literals is the complement (`opchoices[-i-1]`) -/
theorem negop_complement (o : Op) (a b : Int) : (negop o).denote a b = !(o.denote a b) := by
  obtain ⟨h1, h2, h3, h4, h5, h6⟩ := negop_table
  cases o <;> simp only [h1, h2, h3, h4, h5, h6, Op.denote] <;>
    (apply Bool.eq_iff_iff.2
     simp only [Bool.not_eq_true', decide_eq_true_eq, decide_eq_false_iff_not]
     try omega)

/-- `LinearSubstitution(F, k, op, C)` for every operator and every integer constant (negative,
larger than `k`): the block count compared with `C` -/
theorem linear_composes (F : CNF) (k : Nat) (o : Op) (C : Int) (hk : 1 ≤ k) (hF : F.WF) :
    ∃ G, linearSubst F k o C = .ok G ∧
      Composes F G (k * F.nvars) (fun β v => o.denote (blockCount k β v) C) := by
  simpa only [Bool.decide_eq_true, linearSubst] using
    kGadget_composes F k hk hF (linear o C) (Linear.add · o C) (Linear.add · (negop o) C) (o.denote · C = true)
      (fun _ _ => apply_ite (Linear.add _ · C) _ _ _) (fun ls h _ => says_add ls o C h)
      (fun ls h _ => (says_add ls (negop o) C h).congr fun β => by rw [negop_complement, Bool.not_eq_true', Bool.not_eq_true])

example : linearSubst ⟨1, [[1]]⟩ 3 .lt 1 = .ok ⟨3, [[-1], [-2], [-3]]⟩ := by decide +kernel

theorem atLeast_composes (F : CNF) (k : Nat) (C : Int) (hk : 1 ≤ k) (hF : F.WF) :
    ∃ G, atLeast F k C = .ok G ∧
      Composes F G (k * F.nvars) (fun β v => decide ((blockCount k β v : Int) ≥ C)) :=
  linear_composes F k .ge C hk hF

theorem atMost_composes (F : CNF) (k : Nat) (C : Int) (hk : 1 ≤ k) (hF : F.WF) :
    ∃ G, atMost F k C = .ok G ∧
      Composes F G (k * F.nvars) (fun β v => decide ((blockCount k β v : Int) ≤ C)) :=
  linear_composes F k .le C hk hF

theorem exactly_composes (F : CNF) (k : Nat) (C : Int) (hk : 1 ≤ k) (hF : F.WF) :
    ∃ G, exactly F k C = .ok G ∧
      Composes F G (k * F.nvars) (fun β v => decide ((blockCount k β v : Int) = C)) :=
  linear_composes F k .eq C hk hF

theorem anythingBut_composes (F : CNF) (k : Nat) (C : Int) (hk : 1 ≤ k) (hF : F.WF) :
    ∃ G, anythingBut F k C = .ok G ∧
      Composes F G (k * F.nvars) (fun β v => decide ((blockCount k β v : Int) ≠ C)) :=
  linear_composes F k .ne C hk hF

example : ∃ G, anythingBut exF 3 (-1) = .ok G ∧ G.nvars = 12 := by
  obtain ⟨G, h, c⟩ := anythingBut_composes exF 3 (-1) (by omega) (by unfold CNF.WF exF; decide +kernel)
  exact ⟨G, h, c.nvars⟩

/-! ### if-then-else: `3 · nvars` variables, layout `v, N+v, 2N+v` -/

theorem ite_composes (F : CNF) (hF : F.WF) :
    ∃ G, ifThenElse F = .ok G ∧
      Composes F G (3 * F.nvars)
        (fun β v => if β v then β (F.nvars + v) else β (2 * F.nvars + v)) :=
  subst_composes_plain F (3 * F.nvars) (ite F.nvars) _ hF (ite_bounded F.nvars)
    (fun β v hv _ => ite_means β F.nvars v hv)

example : ifThenElse ⟨2, [[1, -2]]⟩ =
    .ok ⟨6, [[-1, 3, -2, -4], [-1, 3, 2, -6], [1, 5, -2, -4], [1, 5, 2, -6]]⟩ := by decide +kernel

/-! ### T-C05.2 lifting: `2k · nvars` variables -/

/-- number of true selectors `Y_{v,1..k}` of the original variable `v` -/
def selectorCount (k : Nat) (β : Assign) (v : Nat) : Nat := count β (yLits k v)

theorem selectorCount_eq (k : Nat) (β : Assign) (v : Nat) :
    selectorCount k β v = (List.range k).countP (fun i => β ((v - 1) * 2 * k + k + (i + 1))) :=
  count_yLits β k v

/-- the assignment induced by lifting: some copy `X_{v,i}` whose selector `Y_{v,i}` is true, is true -/
def liftAssign (k : Nat) (β : Assign) (v : Nat) : Bool :=
  (List.range k).any (fun i => β (yVar k v i) && β (xVar k v i))

/-- with exactly one true selector, `liftAssign` is the value of the selected copy -/
theorem liftAssign_selected (k : Nat) (β : Assign) (v s : Nat) (hs : s < k)
    (h1 : selectorCount k β v = 1) (hy : β (yVar k v s) = true) :
    liftAssign k β v = β (xVar k v s) := by
  unfold selectorCount at h1
  rw [count_yLits] at h1
  obtain ⟨t, ht, hyt, hu⟩ := countP_eq_one _ List.nodup_range h1
  simp only [List.mem_range] at ht hu
  have est : s = t := hu s hs hy
  subst est
  unfold liftAssign
  cases hx : β (xVar k v s)
  · simp only [List.any_eq_false, List.mem_range, Bool.and_eq_true, not_and, Bool.not_eq_true]
    intro i hi hyi
    have := hu i hi hyi
    subst this; exact hx
  · simp only [List.any_eq_true, List.mem_range, Bool.and_eq_true]
    exact ⟨s, hs, hy, hx⟩

example : liftAssign 2 (fun n => n == 2 || n == 4) 1 = true := by decide +kernel   -- selector Y_{1,2} = 4, copy X_{1,2} = 2

/-- T-C05.2 -/
theorem lifting_composes (F : CNF) (k : Nat) (hk : 1 ≤ k) (hF : F.WF) :
    ∃ G, lifting F k = .ok G ∧ G.nvars = 2 * k * F.nvars ∧ G.WF ∧
      ∀ β, G.holds β = true ↔
        ((∀ v, 1 ≤ v → v ≤ F.nvars → selectorCount k β v = 1) ∧ F.holds (liftAssign k β) = true) := by
  have h1 : ¬ ((k : Int) < 1) := by omega
  simp only [lifting, h1, if_false, Int.toNat_natCast]
  obtain ⟨G, h1, h2, h3, _, h5⟩ := subst_composes F (2 * k * F.nvars) (selectors k F.nvars) (lift k)
    (fun β => ∀ v, 1 ≤ v → v ≤ F.nvars → selectorCount k β v = 1) (liftAssign k) hF
    (selectors_bounded k F.nvars hk) (lift_bounded F.nvars k)
    (fun β => selectors_holds β k F.nvars hk)
    (fun β hs v hv hN => lift_pos β k v hv (hs v hv hN))
    (fun β _ v hv _ => lift_neg β k v hv)
  exact ⟨G, h1, h2, h3, h5⟩

example : lifting ⟨1, [[1]]⟩ 2 = .ok ⟨4, [[-3, -4], [3, 4], [-3, 1], [-4, 2]]⟩ := by decide +kernel
example : ∃ G, lifting exF 2 = .ok G ∧ G.nvars = 16 := by
  obtain ⟨G, h, n, _⟩ := lifting_composes exF 2 (by omega) (by unfold CNF.WF exF; decide +kernel)
  exact ⟨G, h, n⟩

theorem lifting_rejects (F : CNF) (k : Int) (hk : k < 1) : lifting F k = .error .valueError := by
  simp [lifting, hk]

/-- flip composes with negation, keeps the number of variables of the input (T-C05.3, at full
strength since the repair of D5), and negates every literal in place -/
theorem flip_composes (F : CNF) (hF : F.WF) :
    ∃ G, flip F = .ok G ∧ Composes F G F.nvars (fun β v => !β v) ∧
      G.clauses = F.clauses.map (fun c => c.map (fun l => -l)) := by
  obtain ⟨G, h1, h2, h3, h4, h5⟩ := subst_composes F F.nvars [] flipLit (fun _ => True)
    (fun β v => !β v) hF (by intro c hc; simp at hc) (flip_bounded F.nvars) (by intro β; simp)
    (fun β _ v hv _ => (flip_means β v hv).1) (fun β _ v hv _ => (flip_means β v hv).2)
  refine ⟨G, h1, ⟨h2, h3, ?_⟩, ?_⟩
  · intro β
    have := h5 β
    simp only [true_and] at this
    exact Bool.eq_iff_iff.2 this
  · rw [h4, List.nil_append, substClauses_flip]

example : flip ⟨2, [[1, -2], [], [2, 2]]⟩ = .ok ⟨2, [[-1, 2], [], [-2, -2]]⟩ := by decide +kernel
/-- the former D5 witness: unused top variables are kept -/
example : flip ⟨5, [[1, -2]]⟩ = .ok ⟨5, [[-1, 2]]⟩ := by decide +kernel

/-! ### variable compression through a bipartite graph: `|R|` variables -/

/-- number of true new variables among the right neighbours of the left vertex `v` -/
def nbCount (B : BipG) (β : Assign) (v : Nat) : Nat := count β (nbLits B v)

theorem nbCount_eq (B : BipG) (hB : BipWF B) (β : Assign) (v : Nat) :
    nbCount B β v = (B.rnbrs v).countP (fun x => β x) :=
  count_map_pos β (B.rnbrs v) (fun x => x) (fun x hx => (hB v x hx).1)

theorem xorCompression_composes (F : CNF) (B : BipG) (hB : BipWF B) (hL : B.l = F.nvars) (hF : F.WF) :
    ∃ G, compress F B 0 = .ok G ∧
      Composes F G B.r (fun β v => decide (nbCount B β v % 2 = 1)) := by
  simp only [compress, hL]
  simp only [ne_eq, not_true_eq_false, false_and, if_false, if_true]
  exact gadget_composes F _ hF (applyxor B) (nbLits B) (Linear.parity · 1) (Linear.parity · 0) (fun β v => count β (nbLits B v) % 2 = 1)
    (fun _ _ => apply_ite _ _ _ _) (fun v _ _ => nbLits_bounded B hB v)
    (fun v _ _ => says_parity _ true (nbLits_nonzero B hB v))
    (fun v _ _ => (says_parity _ false (nbLits_nonzero B hB v)).congr fun _ => Nat.mod_two_not_eq_one.symm)

theorem majCompression_composes (F : CNF) (B : BipG) (hB : BipWF B) (hL : B.l = F.nvars) (hF : F.WF) :
    ∃ G, compress F B 1 = .ok G ∧
      Composes F G B.r (fun β v => decide ((B.rnbrs v).length ≤ 2 * nbCount B β v)) := by
  simp only [compress, hL]
  have h10 : ¬ ((1 : Int) = 0) := by omega
  simp only [ne_eq, not_true_eq_false, and_false, if_false, h10]
  exact gadget_composes F _ hF (applymaj B) (nbLits B) Linear.looseMajority Linear.strictMinority
    (fun β v => (B.rnbrs v).length ≤ 2 * count β (nbLits B v)) (fun _ _ => rfl) (fun v _ _ => nbLits_bounded B hB v)
    (fun v _ _ => ⟨add_uses _ _ _, fun β => nbLits_length B v ▸ C04.looseMajority_holds β _ (nbLits_nonzero B hB v)⟩)
    (fun v _ _ => ⟨add_uses _ _ _, fun β => nbLits_length B v ▸
      (C04.strictMinority_holds β _ (nbLits_nonzero B hB v)).trans Nat.not_le.symm⟩)

/-- every graph built through the graph API (here: the driver's graph literal) is well formed,
so the hypothesis `BipWF` of the two theorems above is not a restriction -/
theorem compression_graphs_wf (l r : Nat) (es : List (Nat × Nat)) (B : BipG)
    (h : BipG.ofEdges l r es = .ok B) : BipWF B := BipWF.ofEdges l r es B h

example : (BipG.ofEdges 2 3 [(1, 3), (1, 1), (2, 2)]).bind (fun B => compress ⟨2, [[1, -2]]⟩ B 0) =
    .ok ⟨3, [[1, 3, -2], [-1, -3, -2]]⟩ := by decide +kernel

/-- non-vacuity: a graph literal with an isolated-free left side, used on `[[1,-2]]` -/
example : ∃ B G, BipG.ofEdges 2 3 [(1, 3), (1, 1), (2, 2)] = .ok B ∧ BipWF B ∧
    compress ⟨2, [[1, -2]]⟩ B 1 = .ok G ∧ G.nvars = 3 := by
  refine ⟨_, _, rfl, BipWF.ofEdges 2 3 [(1, 3), (1, 1), (2, 2)] _ rfl, rfl, rfl⟩

/-- wrong left side or unknown function: `ValueError` -/
theorem compress_rejects (F : CNF) (B : BipG) (fn : Int) (h : (fn ≠ 0 ∧ fn ≠ 1) ∨ B.l ≠ F.nvars) :
    compress F B fn = .error .valueError := by
  unfold compress
  rcases h with h | h
  · simp [h]
  · by_cases h' : fn ≠ 0 ∧ fn ≠ 1
    · simp [h']
    · simp [h', h]

example : compress exF (BipG.init 3 2) 0 = .error .valueError :=
  compress_rejects exF _ 0 (Or.inr (by decide))

/-! ### header provenance (used by C19) -/

/-- the header of the result of a transformation is the input header, entries and order kept,
plus exactly one new entry `transformation i` where `i ≥ 1` is the first number not yet used;
every key already present (e.g. `description`) keeps its value -/
theorem header_provenance (h : Header.Hdr) (t : Header.T) :
    Header.transform h t = h ++ [(.trans (Header.freeIndex h), Header.descr t)] ∧
    Header.hasKey h (.trans (Header.freeIndex h)) = false ∧ 1 ≤ Header.freeIndex h ∧
    (∀ j, 1 ≤ j → j < Header.freeIndex h → Header.hasKey h (.trans j) = true) ∧
    (∀ k, Header.hasKey h k = true → Header.get? (Header.transform h t) k = Header.get? h k) := by
  obtain ⟨h1, h2, h3⟩ := Header.freeIndex_spec h
  have e := Header.addDescription_eq h (Header.descr t)
  refine ⟨e, h1, h2, h3, ?_⟩
  intro k hk
  unfold Header.transform
  rw [e]
  exact Header.get?_append_of_hasKey _ _ _ hk

example : Header.transform [(.other [100], "php"), (.trans 1, "a"), (.trans 3, "c")] (.xor 2) =
    [(.other [100], "php"), (.trans 1, "a"), (.trans 3, "c"), (.trans 2, "Substitution with XOR of arity 2")] := by
  decide +kernel

/-- a chain of transformations (`-T … -T …`): the input header is a prefix of the result, followed by
one `transformation i` entry per transformation, in order, carrying its text -/
theorem header_chain (h : Header.Hdr) (ts : List Header.T) :
    ∃ suf : Header.Hdr, Header.transformAll h ts = h ++ suf ∧
      suf.map (·.2) = ts.map Header.descr ∧ ∀ e ∈ suf, ∃ i, 1 ≤ i ∧ e.1 = Header.Key.trans i :=
  Header.transformAll_eq h ts

example : Header.transformAll [(.other [100], "php")] [.flip, .lift 2] =
    [(.other [100], "php"), (.trans 1, "All polarities have been flipped"),
     (.trans 2, "Lifting with selectors over 2 values")] := by decide +kernel

/-! ### outside the property's domain: the failure modes of the engine on a malformed formula
(literal 0, literals beyond `nvars`, added with `check=False`) are part of the model and are
compared with the code by the harness; recorded here as evaluations, not claimed as a property -/
example : flip ⟨2, [[1, 0]]⟩ = .error .typeError := by decide +kernel       -- `substitutions[0]` is `None`
example : flip ⟨2, [[5]]⟩ = .error .indexError := by decide +kernel        -- list index out of range
example : flip ⟨2, [[-5]]⟩ = .error .typeError := by decide +kernel         -- `substitutions[-5]` is entry 0
example : flip ⟨2, [[3]]⟩ = .ok ⟨2, [[2]]⟩ := by decide +kernel             -- wraps around to the entry of `-2`

end Cnfgen.C05
