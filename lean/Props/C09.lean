/-
C09 — Shuffling is a signed renaming of the variables plus a reordering of the clauses.
Property theorems only; model in `CnfgenModel/Trans/Shuffle.lean`, helper lemmas in
`Lemmas/Shuffle.lean` and `Lemmas/ShuffleCount.lean`.

Vocabulary (`run` is the model's, `modelCount` is in `Lemmas/ShuffleCount.lean`, the rest in `Lemmas/Shuffle.lean`):
  `Valid F fl vp cp`   fl ∈ {-1,+1}^N,  vp a permutation of [1..N],  cp a permutation of [0..M-1]
  `sigma fl vp l`      = sign(l) · fl[|l|-1] · vp[|l|-1]            (the literal map of the substitution table)
  `LitIn N l`          l is a literal of a variable in 1..N
  `pull fl vp α`       the assignment v ↦ value of the literal σ(v) under α;  `push` its inverse
  `run F pa va ca ds`  the general call (each argument 'fixed' | 'shuffle' | explicit) on the values `ds`
                       returned by `random.choice` / `random.shuffle`;  `Resolves … ds fl vp cp`: `ds` is a
                       legal outcome of the generator and determines the arguments `fl vp cp`
  `modelCount F`       number of satisfying assignments of the variables 1..F.nvars
-/
import Lemmas.Shuffle
import Lemmas.ShuffleCount
namespace Cnfgen.C09
open Cnfgen Cnfgen.Shuffle

/-! ## T-C09.1  explicit arguments: accepted iff valid, otherwise `ValueError` -/

/-- `Valid` is exactly what the three validation blocks of the code test -/
theorem valid_iff_checks (F : CNF) (fl vp cp : List Int) :
    Valid F fl vp cp ↔
      (checkFlips F.nvars fl = .ok () ∧ checkPerm 1 F.nvars vp = .ok () ∧
        checkPerm 0 F.clauses.length cp = .ok ()) := by
  unfold Valid
  rw [checkFlips_ok_iff, checkPerm_ok_iff, checkPerm_ok_iff]

/-- … and `ValidPerm` is "sorted(p) == [base, …, base+n-1]" (with the right length) -/
theorem validPerm_iff_sorted (base : Int) (n : Nat) (p : List Int) :
    ValidPerm base n p ↔ sortInt p = iota base n := (sortInt_eq_iota_iff base n p).symm

/-- invalid explicit arguments are rejected with `ValueError`, whatever the formula -/
theorem invalid_rejected (F : CNF) (fl vp cp : List Int) (h : ¬ Valid F fl vp cp) :
    shuffle F fl vp cp = .error .valueError := by
  unfold shuffle
  rcases checkFlips_cases F.nvars fl with h1 | h1 <;> rw [h1]
  rcases checkPerm_cases 1 F.nvars vp with h2 | h2 <;> rw [h2]
  rcases checkPerm_cases 0 F.clauses.length cp with h3 | h3 <;> rw [h3]
  exact absurd ⟨(checkFlips_ok_iff _ _).1 h1, (checkPerm_ok_iff _ _ _).1 h2, (checkPerm_ok_iff _ _ _).1 h3⟩ h

/-- on a well-formed formula the call returns a formula iff the arguments are valid -/
theorem accepted_iff_valid (F : CNF) (hwf : F.WF) (fl vp cp : List Int) :
    (∃ G, shuffle F fl vp cp = .ok G) ↔ Valid F fl vp cp := by
  constructor
  · rintro ⟨G, hG⟩
    apply Classical.byContradiction
    intro hn
    rw [invalid_rejected F fl vp cp hn] at hG
    cases hG
  · intro h; exact ⟨_, shuffle_ok F hwf fl vp cp h⟩

/-- non-vacuity: 3 variables, 4 clauses (one empty), all three components non-trivial -/
example : Valid ⟨3, [[1, -2], [2, 3], [-1], []]⟩ [1, -1, 1] [2, 3, 1] [3, 0, 1, 2] := by
  refine ⟨⟨rfl, by decide⟩, ?_, ?_⟩ <;> unfold ValidPerm <;> decide

example : CNF.WF ⟨3, [[1, -2], [2, 3], [-1], []]⟩ := by
  unfold CNF.WF; decide +kernel

example : ¬ Valid ⟨3, [[1, -2]]⟩ [1, 1, 2] [1, 2, 3] [0] := by
  intro h; have := h.1.2 2 (by simp); omega

/-! ## T-C09.2  the result of an accepted call -/

section accepted
variable {F G : CNF} {fl vp cp : List Int}

theorem result_shape (hwf : F.WF) (hG : shuffle F fl vp cp = .ok G) :
    Valid F fl vp cp ∧ G = ⟨F.nvars, resultClauses F fl vp (sortedMapping cp)⟩ := by
  have hV := (accepted_iff_valid F hwf fl vp cp).1 ⟨G, hG⟩
  rw [shuffle_ok F hwf fl vp cp hV] at hG
  exact ⟨hV, (Except.ok.inj hG).symm⟩

/-- same number of variables -/
theorem nvars_eq (hwf : F.WF) (hG : shuffle F fl vp cp = .ok G) : G.nvars = F.nvars := by
  rw [(result_shape hwf hG).2]

/-- same number of clauses -/
theorem clauses_length_eq (hwf : F.WF) (hG : shuffle F fl vp cp = .ok G) :
    G.clauses.length = F.clauses.length := by
  obtain ⟨hV, rfl⟩ := result_shape hwf hG
  simp [resultClauses, sortedMapping_length cp _ hV.2.2]

/-- clause `i` of the input is found at position `cp[i]` of the output, every literal mapped by `σ`
(one map for all occurrences), literal order kept -/
theorem clause_placement (hwf : F.WF) (hG : shuffle F fl vp cp = .ok G)
    (i : Nat) (hi : i < F.clauses.length) :
    ∃ j : Nat, cp[i]? = some (j : Int) ∧ j < F.clauses.length ∧
      G.clauses[j]? = some (F.clauses[i].map (sigma fl vp)) := by
  obtain ⟨hV, rfl⟩ := result_shape hwf hG
  have hc := hV.2.2
  have hlen : cp.length = F.clauses.length := hc.length_eq
  have hicp : i < cp.length := by omega
  have hmem : (i, cp[i]) ∈ sortedMapping cp := by
    rw [(sortedMapping_perm cp).mem_iff, mem_enumerate]; simp [hicp]
  obtain ⟨j, hj, hjeq⟩ := List.getElem_of_mem hmem
  have hsnd := sortedMapping_getElem_snd cp _ hc j hj
  rw [hjeq] at hsnd
  have hjM : j < F.clauses.length := by rw [← sortedMapping_length cp _ hc]; exact hj
  refine ⟨j, ?_, hjM, ?_⟩
  · rw [List.getElem?_eq_getElem hicp]; simpa using hsnd
  · simp [resultClauses, List.getElem?_map, List.getElem?_eq_getElem hj, hjeq,
      List.getD_eq_getElem?_getD, List.getElem?_eq_getElem hi]

/-- the output is the `σ`-image of the input up to the order of the clauses -/
theorem clauses_perm (hwf : F.WF) (hG : shuffle F fl vp cp = .ok G) :
    G.clauses.Perm (F.clauses.map (fun c => c.map (sigma fl vp))) := by
  obtain ⟨hV, rfl⟩ := result_shape hwf hG
  exact resultClauses_perm F fl vp cp hV.2.2

/-- same multiset of clause widths -/
theorem widths_perm (hwf : F.WF) (hG : shuffle F fl vp cp = .ok G) :
    (G.clauses.map List.length).Perm (F.clauses.map List.length) := by
  have := (clauses_perm hwf hG).map List.length
  simpa [List.map_map, Function.comp_def] using this

/-- the output is well formed again (so shuffles compose) -/
theorem result_wf (hwf : F.WF) (hG : shuffle F fl vp cp = .ok G) : G.WF := by
  have hV := (result_shape hwf hG).1
  intro c hc l hl
  obtain ⟨c0, hc0, rfl⟩ := List.mem_map.1 ((clauses_perm hwf hG).mem_iff.1 hc)
  obtain ⟨l0, hl0, rfl⟩ := List.mem_map.1 hl
  rw [nvars_eq hwf hG]
  exact sigma_litIn hV.1 hV.2.1 (hwf c0 hc0 l0 hl0)

/-- `α` satisfies the output iff `pull α` satisfies the input -/
theorem holds_iff (hwf : F.WF) (hG : shuffle F fl vp cp = .ok G) (α : Assign) :
    G.holds α = F.holds (pull fl vp α) := by
  obtain ⟨hV, rfl⟩ := result_shape hwf hG
  exact result_holds F hwf fl vp cp hV α

/-- same number of satisfying assignments -/
theorem model_count_eq (hwf : F.WF) (hG : shuffle F fl vp cp = .ok G) :
    modelCount G = modelCount F := by
  obtain ⟨hV, rfl⟩ := result_shape hwf hG
  exact modelCount_result F hwf fl vp cp hV

end accepted

/-- `σ` is a bijection of the literals over `1..N` commuting with negation:
it maps them into themselves, has the two-sided inverse `sigmaInv`, and `σ(-l) = -σ(l)` -/
theorem sigma_signed_bijection {N : Nat} {fl vp : List Int} (hf : ValidFlips N fl)
    (hv : ValidPerm 1 N vp) :
    (∀ l, LitIn N l → LitIn N (sigma fl vp l)) ∧
    (∀ m, LitIn N m → LitIn N (sigmaInv fl vp m)) ∧
    (∀ l, LitIn N l → sigmaInv fl vp (sigma fl vp l) = l) ∧
    (∀ m, LitIn N m → sigma fl vp (sigmaInv fl vp m) = m) ∧
    (∀ l, sigma fl vp (-l) = -sigma fl vp l) :=
  have s := sigma_signedBij hf hv
  ⟨fun _ => s.lit, fun _ => s.litInv, fun _ => s.left, fun _ => s.right, s.neg⟩

/-- hence distinct literals stay distinct (one bijection of the variables, one polarity each) -/
theorem sigma_injective {N : Nat} {fl vp : List Int} (hf : ValidFlips N fl) (hv : ValidPerm 1 N vp)
    {l l' : Int} (hl : LitIn N l) (hl' : LitIn N l') (h : sigma fl vp l = sigma fl vp l') : l = l' := by
  rw [← sigmaInv_sigma hf hv hl, ← sigmaInv_sigma hf hv hl', h]

/-- `|σ(l)| = vp[|l|-1]` and the sign of `σ(l)` is `sign(l)·fl[|l|-1]`: the variable bijection is `vp`,
the polarity choice is `fl` -/
theorem sigma_components {N : Nat} {fl vp : List Int} (hf : ValidFlips N fl) (hv : ValidPerm 1 N vp)
    (l : Int) (hl : LitIn N l) :
    ((sigma fl vp l).natAbs : Int) = vp.getD (l.natAbs - 1) 0 ∧
    (sigma fl vp l).sign = l.sign * fl.getD (l.natAbs - 1) 0 :=
  sigma_parts hf hv hl

/-- `α ↦ pull α` is a bijection of the assignments of the variables `1..N` (inverse `push`) -/
theorem pull_bijection {N : Nat} {fl vp : List Int} (hf : ValidFlips N fl) (hv : ValidPerm 1 N vp) :
    (∀ β v, 1 ≤ v → v ≤ N → pull fl vp (push fl vp β) v = β v) ∧
    (∀ α w, 1 ≤ w → w ≤ N → push fl vp (pull fl vp α) w = α w) ∧
    (∀ α α', (∀ v, 1 ≤ v → v ≤ N → α v = α' v) → ∀ v, 1 ≤ v → v ≤ N → pull fl vp α v = pull fl vp α' v) ∧
    (∀ β β', (∀ v, 1 ≤ v → v ≤ N → β v = β' v) → ∀ v, 1 ≤ v → v ≤ N → push fl vp β v = push fl vp β' v) :=
  have s := sigma_signedBij hf hv
  ⟨s.pull_pull, s.symm.pull_pull, s.pull_congr, s.symm.pull_congr⟩

/-! ## T-C09.3  switched-off components, random components, the tools -/

/-- `'fixed'` flips: no literal changes polarity -/
theorem fixed_flips_sign {N : Nat} {vp : List Int} (hv : ValidPerm 1 N vp) (l : Int) (hl : LitIn N l) :
    (sigma (List.replicate N 1) vp l).sign = l.sign := by
  have := (sigma_components (validFlips_replicate N) hv l hl).2
  rw [this]
  have hi : l.natAbs - 1 < N := by have := hl.1; have := hl.2; omega
  simp [List.getD_eq_getElem?_getD, hi]

/-- `'fixed'` variables: every literal keeps its variable -/
theorem fixed_vperm_var {N : Nat} {fl : List Int} (hf : ValidFlips N fl) (l : Int) (hl : LitIn N l) :
    (sigma fl (iota 1 N) l).natAbs = l.natAbs := by
  have := (sigma_components hf (validPerm_iota 1 N) l hl).1
  have hi : l.natAbs - 1 < N := by have := hl.1; have := hl.2; omega
  rw [iota_getD 1 N _ hi] at this
  have := hl.1
  omega

/-- `'fixed'` clauses: the clause order is unchanged -/
theorem fixed_cperm_order (F : CNF) (fl vp : List Int) :
    resultClauses F fl vp (sortedMapping (iota 0 F.clauses.length)) =
      F.clauses.map (fun c => c.map (sigma fl vp)) := by
  rw [sortedMapping_iota]
  apply List.ext_getElem
  · simp [resultClauses]
  · intro i h1 h2
    have : i < F.clauses.length := by simpa [resultClauses] using h1
    simp [resultClauses, List.getD_eq_getElem?_getD, List.getElem?_eq_getElem this]

/-- all three switched off: the formula comes back unchanged, and nothing is drawn -/
theorem all_fixed_identity (F : CNF) (hwf : F.WF) :
    run F .fixed .fixed .fixed [] = some (.ok F, []) := by
  have hR : Resolves F .fixed .fixed .fixed [] (List.replicate F.nvars 1) (iota 1 F.nvars)
      (iota 0 F.clauses.length) := ⟨[], [], [], rfl, ⟨rfl, rfl⟩, ⟨rfl, rfl⟩, ⟨rfl, rfl⟩⟩
  have hV : Valid F (List.replicate F.nvars 1) (iota 1 F.nvars) (iota 0 F.clauses.length) :=
    ⟨validFlips_replicate _, validPerm_iota _ _, validPerm_iota _ _⟩
  obtain ⟨r, hr, he⟩ := run_spec F _ _ _ _ _ _ _ hR
  rw [hr, he hV, shuffle_ok F hwf _ _ _ hV, fixed_cperm_order]
  have hid : ∀ c ∈ F.clauses, c.map (sigma (List.replicate F.nvars 1) (iota 1 F.nvars)) = c := by
    intro c hc
    conv => rhs; rw [← List.map_id c]
    apply List.map_congr_left
    intro l hl
    have hL : LitIn F.nvars l := hwf c hc l hl
    rw [← Int.sign_mul_natAbs (sigma _ _ l), fixed_flips_sign hV.2.1 l hL, fixed_vperm_var hV.1 l hL,
      Int.sign_mul_natAbs, id]
  have : F.clauses.map (fun c => c.map (sigma (List.replicate F.nvars 1) (iota 1 F.nvars))) = F.clauses := by
    conv => rhs; rw [← List.map_id F.clauses]
    exact List.map_congr_left (fun c hc => by simpa using hid c hc)
  rw [this]

/-- the general call — any mix of `'fixed'`, `'shuffle'` and explicit sequences — is the explicit call on
the arguments the (legal) draws resolve to: explicit ones exactly as given, `'fixed'` ones the identity,
`'shuffle'` ones the drawn values.  Includes the rejection of invalid explicit arguments. -/
theorem general_call (F : CNF) (pa va ca : Arg) (ds : List Draw) (fl vp cp : List Int)
    (h : Resolves F pa va ca ds fl vp cp) :
    (run F pa va ca ds).map Prod.fst = some (shuffle F fl vp cp) := by
  obtain ⟨r, hr, _⟩ := run_spec F pa va ca ds fl vp cp h
  rw [hr]
  rfl

/-- the arguments a legal draw stream resolves to are valid as soon as the explicit ones are -/
theorem resolved_valid (F : CNF) (pa va ca : Arg) (ds : List Draw) (fl vp cp : List Int)
    (h : Resolves F pa va ca ds fl vp cp)
    (hp : ∀ l, pa = .explicit l → ValidFlips F.nvars l)
    (hv : ∀ l, va = .explicit l → ValidPerm 1 F.nvars l)
    (hc : ∀ l, ca = .explicit l → ValidPerm 0 F.clauses.length l) : Valid F fl vp cp := by
  obtain ⟨d1, d2, d3, _, h1, h2, h3⟩ := h
  refine ⟨?_, ?_, ?_⟩
  · cases pa with
    | fixed => rw [h1.2]; exact validFlips_replicate _
    | shuffle => exact h1.2
    | explicit l => rw [h1.2]; exact hp l rfl
  · cases va with
    | fixed => rw [h2.2]; exact validPerm_iota _ _
    | shuffle => exact h2.2
    | explicit l => rw [h2.2]; exact hv l rfl
  · cases ca with
    | fixed => rw [h3.2]; exact validPerm_iota _ _
    | shuffle => exact h3.2
    | explicit l => rw [h3.2]; exact hc l rfl

/-- the two command-line tools pass `'fixed'` for a set switch and `'shuffle'` otherwise -/
def toolArg (off : Bool) : Arg := if off then .fixed else .shuffle

/-- `cnfshuffle [-p] [-v] [-c]` and `-T shuffle [-p] [-v] [-c]`: for every switch combination and every legal
outcome of the random generator the call returns a formula `G`, all draws are consumed, `G` is the explicit
shuffle by the drawn signed permutation (so every theorem of T-C09.2 applies to it), and a switched-off
component is the identity. -/
theorem tool_call (F : CNF) (hwf : F.WF) (p v c : Bool) (ds : List Draw) (fl vp cp : List Int)
    (h : Resolves F (toolArg p) (toolArg v) (toolArg c) ds fl vp cp) :
    ∃ G, run F (toolArg p) (toolArg v) (toolArg c) ds = some (.ok G, []) ∧
      shuffle F fl vp cp = .ok G ∧ Valid F fl vp cp ∧
      (p = true → fl = List.replicate F.nvars 1) ∧ (v = true → vp = iota 1 F.nvars) ∧
      (c = true → cp = iota 0 F.clauses.length) := by
  have hV : Valid F fl vp cp := by
    apply resolved_valid F _ _ _ ds fl vp cp h <;> intro l hl <;> cases p <;> cases v <;> cases c <;>
      simp [toolArg] at hl
  refine ⟨_, ?_, shuffle_ok F hwf fl vp cp hV, hV, ?_, ?_, ?_⟩
  · obtain ⟨r, hr, he⟩ := run_spec F _ _ _ _ _ _ _ h
    rw [hr, he hV, shuffle_ok F hwf fl vp cp hV]
  · intro hp; subst hp; obtain ⟨_, _, _, _, h1, _, _⟩ := h; exact h1.2
  · intro hv; subst hv; obtain ⟨_, _, _, _, _, h2, _⟩ := h; exact h2.2
  · intro hc; subst hc; obtain ⟨_, _, _, _, _, _, h3⟩ := h; exact h3.2

/-- non-vacuity: a legal draw stream for `cnfshuffle -v` on a 3-variable, 2-clause formula -/
example : Resolves ⟨3, [[1, -2], [3]]⟩ (toolArg false) (toolArg true) (toolArg false)
    [.choice (-1), .choice 1, .choice 1, .shuffled [1, 0]] [-1, 1, 1] (iota 1 3) [1, 0] := by
  refine ⟨[.choice (-1), .choice 1, .choice 1], [], [.shuffled [1, 0]], rfl, ⟨rfl, rfl, by decide⟩,
    ⟨rfl, rfl⟩, ⟨rfl, ?_⟩⟩
  unfold ValidPerm; decide

/-- the header of the result: old entries in order (description suffixed), then one new entry
`transformation i ↦ "Formula reshuffling"` where `i ≥ 1` is the first index whose key is free -/
theorem header_entry (h : Header) :
    ∃ i, 1 ≤ i ∧
      shuffleHeader h =
        h.map (fun p => if p.1 == "description" then (p.1, p.2 ++ " (reshuffled)") else p) ++
          [(tkey i, "Formula reshuffling")] ∧
      hasKey h (tkey i) = false ∧ ∀ j, 1 ≤ j → j < i → hasKey h (tkey j) = true := by
  refine ⟨firstFree (h.map (fun p => if p.1 == "description" then (p.1, p.2 ++ " (reshuffled)") else p)), ?_⟩
  obtain ⟨a, b, c⟩ := firstFree_spec (h.map (fun p => if p.1 == "description" then (p.1, p.2 ++ " (reshuffled)") else p))
  refine ⟨a, rfl, ?_, ?_⟩
  · rw [← hasKey_reshuffled]; exact b
  · intro j h1 h2; rw [← hasKey_reshuffled]; exact c j h1 h2

end Cnfgen.C09
