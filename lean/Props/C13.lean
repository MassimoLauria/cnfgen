/-
C13 — Random k-CNF and k-XOR formulas have exactly the promised shape.
Property theorems only; helper lemmas are in `Lemmas/Rand*.lean`.

The samplers are pure functions of the list of draws (`Rand.Draw` = one recorded call of a
function of Python's `random` module, request and answer).  Everything below holds for ALL
draw lists satisfying `Rand.Legal` — the documented contract of `random.sample / choice /
randint` — which is the only thing assumed about the generator.  `σ : Int → List Draw` is what
`random.seed` does (unknown; a function of the seed only).

Vocabulary used in the statements
* `usedStream σ seed rng` — the generator state the sampler reads: `σ s` if `seed = some s`, else `rng`;
* `Completed r` — `r` is neither `outOfDraws` nor `mismatch`, i.e. the draw list is a complete
  recording of a run of this program (every list recorded by the harness is);
* `drawBudget k m = 10·m·(k+1) + 1`, `drawBudgetX m = 10·m·2 + 1` — "enough" draws;
* `sysMaxsize = 2^63 − 1` — `sys.maxsize`: up to that many variables `sample_variables(n, k)` is ONE
  `random.sample` draw; beyond, it is the code's rejection loop over `randint(1, n)` draws (`rejectVars`,
  recursion over the draw list).  The shape theorems cover both branches.  The error theorems are `…_partial`
  (hypothesis `n ≤ sysMaxsize`): beyond, the dense fallback raises OverflowError (defect C13-H1); the full
  statements `OnlyValueError`, `ValueErrorIff` are refuted on the model (`onlyValueError_fails`, `valueErrorIff_fails`);
* `allClauses k n planted` — the dense enumeration `all_clauses` of the code; `allClauses_spec` /
  `allClauses_nodup` show that it lists every clause over k distinct variables of 1..n that is
  compatible with the planted assignments exactly once, so its length IS "the number of clauses
  compatible with the planted assignments".
-/
import Lemmas.RandWitness
import Lemmas.RandCount
import Lemmas.RandCli
namespace Cnfgen.C13
open Cnfgen Cnfgen.Rand

/-! ## the space of compatible clauses -/

/-- T-C13.0a `all_clauses(k,n,planted)` contains exactly the clauses of `k` literals over distinct
variables of `1..n` (written in increasing order of variable) that contain a literal of every
planted assignment -/
theorem allClauses_spec (k n : Nat) (planted : List (List Int)) (c : Clause) :
    c ∈ allClauses k n planted ↔
      (c.length = k ∧ (c.map Int.natAbs).Pairwise (· < ·) ∧ ∀ l ∈ c, 1 ≤ l.natAbs ∧ l.natAbs ≤ n) ∧
      ∀ a ∈ planted, ∃ l ∈ c, l ∈ a := by
  rw [mem_allClauses, clauseSatisfied_iff]; rfl

/-- T-C13.0b … each exactly once -/
theorem allClauses_nodup (k n : Nat) (planted : List (List Int)) : (allClauses k n planted).Nodup :=
  nodup_allClauses k n planted

/-- T-C13.0c the exact maximum without planted assignments is `C(n,k)·2^k` -/
theorem allClauses_count_unplanted (k n : Nat) : (allClauses k n []).length = n.choose k * 2 ^ k :=
  length_allClauses_nil k n

example : (allClauses 2 3 [[1, -2, 3]]).length = 9 := by decide +kernel

/-! ## T-C13.1 shape of a successful run -/

/-- T-C13.1 for every legal draw list: if `sample_clauses` returns, it returns exactly `m` pairwise
distinct clauses, each of `k` literals over distinct variables within `1..n` in increasing order,
each containing a literal of every planted assignment -/
theorem sampleClauses_shape (k n m : Nat) (planted : List (List Int)) (draws rest : List Draw)
    (cls : List Clause) (hL : Legal draws) (h : sampleClauses k n m planted draws = .ok (cls, rest)) :
    cls.length = m ∧ cls.Nodup ∧
      ∀ c ∈ cls, (c.length = k ∧ (c.map Int.natAbs).Pairwise (· < ·) ∧
        ∀ l ∈ c, 1 ≤ l.natAbs ∧ l.natAbs ≤ n) ∧ ∀ a ∈ planted, ∃ l ∈ c, l ∈ a := by
  obtain ⟨⟨hlen, hn, hm⟩, _⟩ := (sampleClauses_spec k n m planted).ok hL h
  exact ⟨hlen, hn, fun c hc => (allClauses_spec k n planted c).1 (hm c hc)⟩

/-- the clauses are distinct as SETS of literals as well (not only as lists) -/
theorem sampleClauses_distinct_as_sets (k n m : Nat) (planted : List (List Int)) (draws rest : List Draw)
    (cls : List Clause) (hL : Legal draws) (h : sampleClauses k n m planted draws = .ok (cls, rest))
    (c c' : Clause) (hc : c ∈ cls) (hc' : c' ∈ cls) (hset : ∀ l, l ∈ c ↔ l ∈ c') : c = c' := by
  obtain ⟨_, _, hs⟩ := sampleClauses_shape k n m planted draws rest cls hL h
  exact eq_of_same_literals (hs c hc).1.2.1 (hs c' hc').1.2.1 hset

/-- T-C13.1 for `RandomKCNF`: exactly `n` variables, and the clause list of the CNF has the shape above -/
theorem randomKCNF_shape (σ : Int → List Draw) (k n m : Nat) (seed : Option Int) (planted : List (List Int))
    (rng rest : List Draw) (F : Formula) (hL : Legal (usedStream σ seed rng))
    (h : randomKCNF σ k n m seed planted rng = .ok (F, rest)) :
    F.toCNF.nvars = n ∧ F.toCNF.clauses.length = m ∧ F.toCNF.clauses.Nodup ∧ F.toCNF.WF ∧
      ∀ c ∈ F.toCNF.clauses, (c.length = k ∧ (c.map Int.natAbs).Pairwise (· < ·) ∧
        ∀ l ∈ c, 1 ≤ l.natAbs ∧ l.natAbs ≤ n) ∧ ∀ a ∈ planted, ∃ l ∈ c, l ∈ a := by
  obtain ⟨cls, hs, rfl⟩ := randomKCNF_ok h
  rw [toCNF_clauses]
  obtain ⟨h1, h2, h3⟩ := sampleClauses_shape k n m planted _ rest cls hL hs
  refine ⟨rfl, h1, h2, ?_, h3⟩
  intro c hc l hl
  rw [toCNF_clauses] at hc
  have := (h3 c hc).1.2.2 l hl
  show l ≠ 0 ∧ l.natAbs ≤ n
  omega

/-- every planted assignment (read as a Boolean assignment; it must not contain a variable with both
signs — "undefined behaviour" in the docstring) satisfies the formula -/
theorem randomKCNF_planted_satisfies (σ : Int → List Draw) (k n m : Nat) (seed : Option Int)
    (planted : List (List Int)) (rng rest : List Draw) (F : Formula) (hL : Legal (usedStream σ seed rng))
    (h : randomKCNF σ k n m seed planted rng = .ok (F, rest)) (a : List Int) (ha : a ∈ planted)
    (hc : Consistent a) : F.toCNF.holds (asg a) = true := by
  obtain ⟨_, _, _, _, hs⟩ := randomKCNF_shape σ k n m seed planted rng rest F hL h
  simp only [CNF.holds, List.all_eq_true]
  intro c hcm
  exact clauseHolds_of_satisfied hc ((hs c hcm).2 a ha)

/-- non-vacuity: a recorded run (k=2, n=3, m=2, planted {x1, ¬x2, x3}) -/
example : Legal [.sample 3 2 [2, 0], .choice 2 0, .choice 2 1, .sample 3 2 [1, 2], .choice 2 1, .choice 2 0] ∧
    (randomKCNF (fun _ => []) 2 3 2 none [[1, -2, 3]]
      [.sample 3 2 [2, 0], .choice 2 0, .choice 2 1, .sample 3 2 [1, 2], .choice 2 1, .choice 2 0]).toOption.map
        (fun r => r.1.toCNF.clauses) = some [[1, -3], [-2, 3]] := by decide +kernel

/-! ## T-C13.2 ValueError exactly when … -/

/-- for ALL `n`: the only Python exceptions that can come out of `RandomKCNF` are ValueError and —
beyond `sys.maxsize` variables, when the dense fallback is reached — OverflowError (defect C13-H1) -/
theorem randomKCNF_error_kinds (σ : Int → List Draw) (k n m : Nat) (seed : Option Int)
    (planted : List (List Int)) (rng : List Draw) (e : Err) (hL : Legal (usedStream σ seed rng))
    (h : randomKCNF σ k n m seed planted rng = .error (.py e)) :
    e = .valueError ∨ (e = .overflowError ∧ sysMaxsize < n) :=
  (sampleClauses_spec k n m planted).error_kinds hL (randomKCNF_error_iff.1 h)

/-- the FULL statement "no Python exception other than ValueError comes out of `RandomKCNF`" -/
def OnlyValueError : Prop :=
  ∀ (σ : Int → List Draw) (k n m : Nat) (seed : Option Int) (planted : List (List Int)) (rng : List Draw)
    (e : Err), Legal (usedStream σ seed rng) → randomKCNF σ k n m seed planted rng = .error (.py e) →
    e = .valueError

/-- defect C13-H1: `RandomKCNF(0, 2**63, 2)` (one compatible clause, two requested) raises OverflowError,
not ValueError: `all_clauses` hands `range(1, n+1)` to `itertools.combinations` -/
theorem randomKCNF_huge_dense_overflow :
    randomKCNF (fun _ => []) 0 (2 ^ 63) 2 none [] [] = .error (.py .overflowError) := by rfl

/-- … so the full statement is FALSE of the code as it is -/
theorem onlyValueError_fails : ¬ OnlyValueError := by
  intro h
  have := h (fun _ => []) 0 (2 ^ 63) 2 none [] [] .overflowError Legal.nil randomKCNF_huge_dense_overflow
  cases this

/-- up to `sys.maxsize` variables no Python exception other than ValueError can come out of `RandomKCNF`
(partial: `OnlyValueError` restricted to `n ≤ sys.maxsize`; false beyond, see `onlyValueError_fails`) -/
theorem randomKCNF_only_valueError_partial (σ : Int → List Draw) (k n m : Nat) (seed : Option Int)
    (planted : List (List Int)) (rng : List Draw) (e : Err) (hS : n ≤ sysMaxsize)
    (hL : Legal (usedStream σ seed rng))
    (h : randomKCNF σ k n m seed planted rng = .error (.py e)) : e = .valueError := by
  rcases randomKCNF_error_kinds σ k n m seed planted rng e hL h with h' | ⟨_, h'⟩
  · exact h'
  · omega

example : (2 : Nat) ≤ sysMaxsize := by decide

/-- T-C13.2 (partial: `n ≤ sys.maxsize`; false beyond, see `valueErrorIff_fails`) on every legal, complete draw
list: ValueError exactly when `k > n` or `m` exceeds the number of clauses compatible with the planted
assignments (`m = 0`, `k = 0` and the exact maximum included: nothing else is assumed about `k n m`) -/
theorem randomKCNF_valueError_iff_partial (σ : Int → List Draw) (k n m : Nat) (seed : Option Int)
    (planted : List (List Int)) (rng : List Draw) (hS : n ≤ sysMaxsize) (hL : Legal (usedStream σ seed rng))
    (hC : Completed (randomKCNF σ k n m seed planted rng)) :
    randomKCNF σ k n m seed planted rng = .error (.py .valueError) ↔
      n < k ∨ (allClauses k n planted).length < m := by
  rw [randomKCNF_error_iff]
  exact (sampleClauses_spec k n m planted).valueError_iff hS hL (randomKCNF_completed.1 hC)

/-- for ALL `n`, on every legal draw list: a ValueError is never spurious — it means `k > n` or `m`
exceeds the number of compatible clauses (the "only if" half of T-C13.2 holds beyond `sys.maxsize` too) -/
theorem randomKCNF_valueError_only_if (σ : Int → List Draw) (k n m : Nat) (seed : Option Int)
    (planted : List (List Int)) (rng : List Draw) (hL : Legal (usedStream σ seed rng))
    (h : randomKCNF σ k n m seed planted rng = .error (.py .valueError)) :
    n < k ∨ (allClauses k n planted).length < m :=
  (sampleClauses_spec k n m planted).valueError_only_if hL (randomKCNF_error_iff.1 h)

/-- the FULL statement of T-C13.2 -/
def ValueErrorIff : Prop :=
  ∀ (σ : Int → List Draw) (k n m : Nat) (seed : Option Int) (planted : List (List Int)) (rng : List Draw),
    Legal (usedStream σ seed rng) → Completed (randomKCNF σ k n m seed planted rng) →
    (randomKCNF σ k n m seed planted rng = .error (.py .valueError) ↔
      n < k ∨ (allClauses k n planted).length < m)

/-- … is FALSE beyond `sys.maxsize` (defect C13-H1): k = 0, n = 2^63, m = 2 — one compatible clause,
two requested, OverflowError instead of ValueError -/
theorem valueErrorIff_fails : ¬ ValueErrorIff := by
  intro h
  have hr := randomKCNF_huge_dense_overflow
  have := (h (fun _ => []) 0 (2 ^ 63) 2 none [] [] Legal.nil (by rw [hr]; exact ⟨by simp, by simp⟩)).2
    (Or.inr (by rw [allClauses_count_unplanted]; simp))
  rw [hr] at this
  cases this

/-- the whole defect region of T-C13.2 for `RandomKCNF`: beyond `sys.maxsize` variables, EVERY request that
should fail with ValueError because `m` exceeds the number of compatible clauses fails with OverflowError
instead (on every legal complete recording) -/
theorem randomKCNF_huge_too_many_overflow (σ : Int → List Draw) (k n m : Nat) (seed : Option Int)
    (planted : List (List Int)) (rng : List Draw) (hB : sysMaxsize < n) (hk : k ≤ n)
    (hm : (allClauses k n planted).length < m) (hL : Legal (usedStream σ seed rng))
    (hC : Completed (randomKCNF σ k n m seed planted rng)) :
    randomKCNF σ k n m seed planted rng = .error (.py .overflowError) :=
  randomKCNF_error_iff.2
    ((sampleClauses_spec k n m planted).huge_overflow hB hk hm hL (randomKCNF_completed.1 hC))

/-- non-vacuity: the hypotheses hold for k = 0, n = 2^63, m = 2 (no draws needed) -/
example : randomKCNF (fun _ => []) 0 (2 ^ 63) 2 none [] [] = .error (.py .overflowError) :=
  randomKCNF_huge_too_many_overflow _ 0 (2 ^ 63) 2 none [] [] (by decide) (by omega)
    (by rw [allClauses_count_unplanted]; simp) Legal.nil
    (by rw [randomKCNF_huge_dense_overflow]; exact ⟨by simp, by simp⟩)

/-- T-C13.2, the other outcome (partial: `n ≤ sys.maxsize`): when no ValueError is due the run returns a
formula, never anything else -/
theorem randomKCNF_ok_iff_partial (σ : Int → List Draw) (k n m : Nat) (seed : Option Int)
    (planted : List (List Int)) (rng : List Draw) (hS : n ≤ sysMaxsize) (hL : Legal (usedStream σ seed rng))
    (hC : Completed (randomKCNF σ k n m seed planted rng)) :
    (∃ F rest, randomKCNF σ k n m seed planted rng = .ok (F, rest)) ↔
      k ≤ n ∧ m ≤ (allClauses k n planted).length := by
  rcases (sampleClauses_spec k n m planted).outcome hL (randomKCNF_completed.1 hC) with
    ⟨hk, hm, ⟨cls, rest⟩, hr⟩ | ⟨hcond, hr⟩ | ⟨hb, _⟩
  · refine ⟨fun _ => ⟨hk, hm⟩, fun _ => ⟨{ nvars := n, cons := cls.map Con.clause }, rest, ?_⟩⟩
    rw [randomKCNF_eq]
    exact RandM.bind_pure_eq_ok.2 ⟨cls, hr, rfl⟩
  · rw [← randomKCNF_error_iff] at hr
    refine ⟨fun ⟨F, rest, h⟩ => ?_, fun ⟨h1, h2⟩ => by omega⟩
    rw [hr] at h; cases h
  · omega

/-- "enough": up to `sys.maxsize` variables a legal stream of at least `10·m·(k+1) + 1` draws never runs
out.  (Beyond, `sample_variables` is a rejection loop without a bound: no finite number of legal draws is
enough for EVERY legal stream — see `sample_variables_terminates` for what makes it end.) -/
theorem randomKCNF_enough_draws (σ : Int → List Draw) (k n m : Nat) (seed : Option Int)
    (planted : List (List Int)) (rng : List Draw) (hS : n ≤ sysMaxsize) (hL : Legal (usedStream σ seed rng))
    (hlen : drawBudget k m ≤ (usedStream σ seed rng).length) :
    randomKCNF σ k n m seed planted rng ≠ .error .outOfDraws := fun h =>
  (sampleClauses_spec k n m planted).enough_draws hS hL hlen (randomKCNF_error_iff.1 h)

/-- a successful run consumes at most `drawBudget k m` draws -/
theorem randomKCNF_draws_consumed (σ : Int → List Draw) (k n m : Nat) (seed : Option Int)
    (planted : List (List Int)) (rng rest : List Draw) (F : Formula) (hS : n ≤ sysMaxsize)
    (hL : Legal (usedStream σ seed rng))
    (h : randomKCNF σ k n m seed planted rng = .ok (F, rest)) :
    (usedStream σ seed rng).length ≤ rest.length + drawBudget k m := by
  obtain ⟨cls, hs, _⟩ := randomKCNF_ok h
  exact ((sampleClauses_spec k n m planted).ok hL hs).2.2 hS

/-- the dense path needs exactly one draw -/
theorem dense_path_one_draw (k n m : Nat) (planted : List (List Int)) (draws rest : List Draw)
    (cls : List Clause) (hL : Legal draws) (h : denseClauses k n m planted draws = .ok (cls, rest)) :
    draws.length = rest.length + 1 ∧ m ≤ (allClauses k n planted).length ∧ n ≤ sysMaxsize := by
  rw [denseClauses_eq] at h
  obtain ⟨hS, hm, idx, rfl⟩ := denseFrom_eq_ok h
  exact ⟨rfl, hm, hS⟩

/-- the hypotheses of `randomKCNF_valueError_iff_partial` are satisfiable for EVERY input (any `n`): there
is a legal draw list of at most `drawBudget (2·k) m` draws (`drawBudget k m` up to `sys.maxsize` variables)
on which the run is complete -/
theorem randomKCNF_completing_draws_exist (σ : Int → List Draw) (k n m : Nat) (planted : List (List Int)) :
    ∃ rng, Legal rng ∧ (rng.length ≤ drawBudget (2 * k) m ∧ (n ≤ sysMaxsize → rng.length ≤ drawBudget k m)) ∧
      Completed (randomKCNF σ k n m none planted rng) := by
  simp only [randomKCNF_completed, sampleClauses_eq]
  exact (seededRun_runs σ (sampleVia_runs (drawClause_runs k n) _ _ _)).completed

/-- termination of `sample_variables(n, k)` beyond `sys.maxsize`: the rejection loop
`while len(chosen) < k: chosen.add(random.randint(1, n))` has no bound of its own, but it ends (and returns)
on EVERY list of `randint(1, n)` answers among which there are `k` distinct values — however many repeats
come in between -/
theorem sample_variables_terminates (k n : Nat) (hn : sysMaxsize < n) (hk : k ≤ n) (ds : List Draw)
    (hds : ∀ d ∈ ds, ∃ v, d = .randint 1 n v) (vs : List Int) (hvs : vs.Nodup) (hlen : vs.length = k)
    (hmem : ∀ v ∈ vs, Draw.randint 1 n v ∈ ds) :
    ∃ sel rest, drawVars k n ds = .ok (sel, rest) := by
  rw [drawVars_big (by omega), if_neg (by omega)]
  rcases rejectVars_short (k := k) (n := n) ds [] hds with ⟨⟨sel, rest⟩, h⟩ | ⟨fin, h1, _, h3⟩
  · exact ⟨isort sel, rest, by rw [RandM.bind_apply, h]; rfl⟩
  · have := hvs.length_le_of_subset fun v hv => h3 v (hmem v hv)
    omega

/-- … and what it returns is then (legal answers) a strictly increasing `k`-list over `1..n` -/
theorem sample_variables_shape (k n : Nat) (ds rest : List Draw) (sel : List Int) (hL : Legal ds)
    (h : drawVars k n ds = .ok (sel, rest)) :
    sel.length = k ∧ sel.Pairwise (· < ·) ∧ ∀ x ∈ sel, 1 ≤ x ∧ x ≤ (n : Int) :=
  mem_combos_vars.1 ((drawVars_cand k n).ok hL h).1

/-- non-vacuity: n = 2^63, k = 2, answers 7, 7 (repeat, not added), 3 -/
example : drawVars 2 (2 ^ 63) [.randint 1 (2 ^ 63) 7, .randint 1 (2 ^ 63) 7, .randint 1 (2 ^ 63) 3, .choice 2 0] =
    .ok ([3, 7], [.choice 2 0]) := by decide +kernel

/-- non-vacuity of the shape theorems beyond `sys.maxsize`: a recorded run with k = 2, n = 2^63, m = 1 -/
example : (randomKCNF (fun _ => []) 2 (2 ^ 63) 1 none [[3]]
      [.randint 1 (2 ^ 63) 7, .randint 1 (2 ^ 63) 7, .randint 1 (2 ^ 63) 3, .choice 2 0, .choice 2 1]).toOption.map
        (fun r => r.1.toCNF.clauses) = some [[3, -7]] := by decide +kernel

/-- arbitrary integer arguments: `non_negative_int` rejects negatives with ValueError first -/
theorem randomKCNFInt_valueError_iff_partial (σ : Int → List Draw) (k n m : Int) (seed : Option Int)
    (planted : List (List Int)) (rng : List Draw) (hS : n ≤ (sysMaxsize : Int)) (hL : Legal (usedStream σ seed rng))
    (hC : Completed (randomKCNFInt σ k n m seed planted rng)) :
    randomKCNFInt σ k n m seed planted rng = .error (.py .valueError) ↔
      n < 0 ∨ m < 0 ∨ k < 0 ∨ n < k ∨ ((allClauses k.toNat n.toNat planted).length : Int) < m := by
  unfold randomKCNFInt at hC ⊢
  by_cases hneg : n < 0 ∨ m < 0 ∨ k < 0
  · rw [if_pos hneg]
    exact ⟨fun _ => by omega, fun _ => rfl⟩
  · rw [if_neg hneg] at hC ⊢
    obtain ⟨n, rfl⟩ := Int.eq_ofNat_of_zero_le (Int.not_lt.1 fun h => hneg (Or.inl h))
    obtain ⟨m, rfl⟩ := Int.eq_ofNat_of_zero_le (Int.not_lt.1 fun h => hneg (Or.inr (Or.inl h)))
    obtain ⟨k, rfl⟩ := Int.eq_ofNat_of_zero_le (Int.not_lt.1 fun h => hneg (Or.inr (Or.inr h)))
    simp only [Int.toNat_natCast] at hC ⊢
    rw [randomKCNF_valueError_iff_partial σ k n m seed planted rng (Int.ofNat_le.1 hS) hL hC]
    omega

/-! ## T-C13.3 k-XOR -/

/-- the dense enumeration `all_good_parities` under total planted assignments: it succeeds, and lists
exactly once every `(X, b)` with `X` a strictly increasing `k`-list over `1..n`, `b ∈ {0,1}`, that
agrees with every planted assignment -/
theorem allGoodParities_spec (k n : Nat) (planted : List (List Int)) (hT : ∀ a ∈ planted, TotalOn n a) :
    ∃ full, allGoodParities k n planted = .ok full ∧ full.Nodup ∧
      ∀ X b, (X, b) ∈ full ↔
        (X.length = k ∧ X.Pairwise (· < ·) ∧ ∀ x ∈ X, 1 ≤ x ∧ x ≤ n) ∧ (b = 0 ∨ b = 1) ∧
        ∀ a ∈ planted, ((xorCount a X : Nat) : Int) % 2 = b := by
  obtain ⟨full, h1, h2, h3⟩ := allGoodParities_total (k := k) hT
  refine ⟨full, h1, h3, fun X b => ?_⟩
  rw [h2 (X, b)]
  simp only [IsGood, mem_combos_vars, ParityOK]

/-- the exact maximum without planted assignments is `2·C(n,k)` -/
theorem allGoodParities_count_unplanted (k n : Nat) :
    ∃ full, allGoodParities k n [] = .ok full ∧ full.length = 2 * n.choose k :=
  length_allGoodParities_nil k n

/-- T-C13.3a shape: exactly `m` pairwise distinct parities on `k` distinct variables of `1..n` each,
constants in `{0,1}`, all satisfied by every planted assignment -/
theorem randomKXOR_shape (σ : Int → List Draw) (k n m : Nat) (seed : Option Int) (planted : List (List Int))
    (hT : ∀ a ∈ planted, TotalOn n a) (rng rest : List Draw) (sys : List Parity)
    (hL : Legal (usedStream σ seed rng))
    (h : randomKXORSys σ k n m seed planted rng = .ok (sys, rest)) :
    sys.length = m ∧ sys.Nodup ∧
      ∀ p ∈ sys, (p.1.length = k ∧ p.1.Pairwise (· < ·) ∧ ∀ x ∈ p.1, 1 ≤ x ∧ x ≤ n) ∧ (p.2 = 0 ∨ p.2 = 1) ∧
        ∀ a ∈ planted, ((count (asg a) p.1 : Nat) : Int) % 2 = p.2 := by
  obtain ⟨full, hfull, hmem, _⟩ := allGoodParities_total (k := k) hT
  obtain ⟨⟨hlen, hn, hm⟩, _⟩ := (sampleParities_spec m hT hfull).ok hL (seededRun_eq_ok h).2
  refine ⟨hlen, hn, fun p hp => ?_⟩
  obtain ⟨h1, h2, h3⟩ := (hmem p).1 (hm p hp)
  have hX := mem_combos_vars.1 h1
  refine ⟨hX, h2, fun a ha => ?_⟩
  rw [count_asg_pos (fun x hx => by have := hX.2.2 x hx; omega)]
  exact h3 a ha

/-- T-C13.3b the formula returned by `RandomKXOR` has `n` variables and — in its CNF and in its OPB
rendering — is satisfied exactly by the solutions of the parity system (through the lowering
theorems of C04, `Formula.toCNF_holds` / `Formula.toOPB_holds`) -/
theorem randomKXOR_holds (σ : Int → List Draw) (k n m : Nat) (seed : Option Int) (planted : List (List Int))
    (hT : ∀ a ∈ planted, TotalOn n a) (rng rest : List Draw) (F : Formula)
    (hL : Legal (usedStream σ seed rng))
    (h : randomKXOR σ k n m seed planted rng = .ok (F, rest)) :
    ∃ sys, randomKXORSys σ k n m seed planted rng = .ok (sys, rest) ∧ F = kxorFormula n sys ∧
      F.toCNF.nvars = n ∧ F.WF ∧
      ∀ α : Assign, (F.toCNF.holds α = true ↔ ∀ p ∈ sys, ((count α p.1 : Nat) : Int) % 2 = p.2) ∧
        (F.toOPB.holds α = true ↔ ∀ p ∈ sys, ((count α p.1 : Nat) : Int) % 2 = p.2) := by
  rw [randomKXOR_eq] at h
  obtain ⟨sys, hs, rfl⟩ := RandM.bind_pure_eq_ok.1 h
  obtain ⟨_, _, hshape⟩ := randomKXOR_shape σ k n m seed planted hT rng rest sys hL hs
  have hWF : (kxorFormula n sys).WF :=
    kxorFormula_WF (k := k) (fun p hp => mem_combos_vars.2 (hshape p hp).1)
  refine ⟨sys, hs, rfl, rfl, hWF, fun α => ?_⟩
  rw [Formula.toCNF_holds α _ hWF, Formula.toOPB_holds α _ hWF]
  have := kxorFormula_holds (n := n) α (fun p hp => (hshape p hp).2.1)
  exact ⟨this, this⟩

/-- every planted assignment is a solution -/
theorem randomKXOR_planted_satisfies (σ : Int → List Draw) (k n m : Nat) (seed : Option Int)
    (planted : List (List Int)) (hT : ∀ a ∈ planted, TotalOn n a) (rng rest : List Draw) (F : Formula)
    (hL : Legal (usedStream σ seed rng))
    (h : randomKXOR σ k n m seed planted rng = .ok (F, rest)) (a : List Int) (ha : a ∈ planted) :
    F.toCNF.holds (asg a) = true := by
  obtain ⟨sys, hs, _, _, _, hsem⟩ := randomKXOR_holds σ k n m seed planted hT rng rest F hL h
  rw [(hsem (asg a)).1]
  intro p hp
  exact ((randomKXOR_shape σ k n m seed planted hT rng rest sys hL hs).2.2 p hp).2.2 a ha

/-- non-vacuity: a recorded run (k=2, n=3, m=2, planted {x1, ¬x2, x3}) -/
example : (randomKXORSys (fun _ => []) 2 3 2 none [[1, -2, 3]]
      [.sample 3 2 [2, 0], .randint 0 1 0, .sample 3 2 [1, 0], .randint 0 1 1]).toOption.map Prod.fst
    = some [([1, 3], 0), ([1, 2], 1)] := by decide +kernel

example : TotalOn 3 [1, -2, 3] := by
  intro v h1 h2
  rcases (by omega : v = 1 ∨ v = 2 ∨ v = 3) with rfl | rfl | rfl <;> simp

/-- T-C13.3c for ALL `n`: ValueError, or — beyond `sys.maxsize` variables, when the dense fallback is
reached — OverflowError (defect C13-H1), and nothing else -/
theorem randomKXOR_error_kinds (σ : Int → List Draw) (k n m : Nat) (seed : Option Int)
    (planted : List (List Int)) (hT : ∀ a ∈ planted, TotalOn n a) (rng : List Draw) (e : Err)
    (hL : Legal (usedStream σ seed rng))
    (h : randomKXORSys σ k n m seed planted rng = .error (.py e)) :
    e = .valueError ∨ (e = .overflowError ∧ sysMaxsize < n) := by
  obtain ⟨full, hfull, _⟩ := allGoodParities_total (k := k) hT
  exact (sampleParities_spec m hT hfull).error_kinds hL h

/-- defect C13-H1 for k-XOR: `RandomKXOR(0, 2**63, 3)` (two compatible parities, three requested; the
30 `randint(0,1)` answers are irrelevant) raises OverflowError, not ValueError -/
theorem randomKXOR_huge_dense_overflow :
    randomKXORSys (fun _ => []) 0 (2 ^ 63) 3 none [] (List.replicate 30 (.randint 0 1 0)) =
      .error (.py .overflowError) := by decide +kernel

/-- T-C13.3c (partial: `n ≤ sys.maxsize`; false beyond, `randomKXOR_huge_dense_overflow`) no Python
exception other than ValueError -/
theorem randomKXOR_only_valueError_partial (σ : Int → List Draw) (k n m : Nat) (seed : Option Int)
    (planted : List (List Int)) (hT : ∀ a ∈ planted, TotalOn n a) (rng : List Draw) (e : Err)
    (hS : n ≤ sysMaxsize) (hL : Legal (usedStream σ seed rng))
    (h : randomKXORSys σ k n m seed planted rng = .error (.py e)) : e = .valueError := by
  rcases randomKXOR_error_kinds σ k n m seed planted hT rng e hL h with h' | ⟨_, h'⟩
  · exact h'
  · omega

/-- T-C13.3d (partial: `n ≤ sys.maxsize`; beyond, the "if" half fails — `randomKXOR_huge_dense_overflow`,
where `full.length = 2 < 3 = m`) ValueError exactly when `k > n` or `m` exceeds the number of compatible parities -/
theorem randomKXOR_valueError_iff_partial (σ : Int → List Draw) (k n m : Nat) (seed : Option Int)
    (planted : List (List Int)) (hT : ∀ a ∈ planted, TotalOn n a) (rng : List Draw)
    (full : List Parity) (hfull : allGoodParities k n planted = .ok full)
    (hS : n ≤ sysMaxsize) (hL : Legal (usedStream σ seed rng))
    (hC : Completed (randomKXORSys σ k n m seed planted rng)) :
    randomKXORSys σ k n m seed planted rng = .error (.py .valueError) ↔ n < k ∨ full.length < m :=
  (sampleParities_spec m hT hfull).valueError_iff hS hL hC

/-- the whole defect region for `RandomKXOR`: beyond `sys.maxsize` variables every request with `m` above the
number of compatible parities fails with OverflowError instead of ValueError -/
theorem randomKXOR_huge_too_many_overflow (σ : Int → List Draw) (k n m : Nat) (seed : Option Int)
    (planted : List (List Int)) (hT : ∀ a ∈ planted, TotalOn n a) (rng : List Draw)
    (full : List Parity) (hfull : allGoodParities k n planted = .ok full)
    (hB : sysMaxsize < n) (hk : k ≤ n) (hm : full.length < m) (hL : Legal (usedStream σ seed rng))
    (hC : Completed (randomKXORSys σ k n m seed planted rng)) :
    randomKXORSys σ k n m seed planted rng = .error (.py .overflowError) :=
  (sampleParities_spec m hT hfull).huge_overflow hB hk hm hL hC

/-- for ALL `n`: a ValueError of `RandomKXOR` is never spurious -/
theorem randomKXOR_valueError_only_if (σ : Int → List Draw) (k n m : Nat) (seed : Option Int)
    (planted : List (List Int)) (hT : ∀ a ∈ planted, TotalOn n a) (rng : List Draw)
    (full : List Parity) (hfull : allGoodParities k n planted = .ok full)
    (hL : Legal (usedStream σ seed rng))
    (h : randomKXORSys σ k n m seed planted rng = .error (.py .valueError)) : n < k ∨ full.length < m :=
  (sampleParities_spec m hT hfull).valueError_only_if hL h

/-- "enough" for k-XOR up to `sys.maxsize` variables: `10·m·2 + 1` legal draws never run out -/
theorem randomKXOR_enough_draws (σ : Int → List Draw) (k n m : Nat) (seed : Option Int)
    (planted : List (List Int)) (hT : ∀ a ∈ planted, TotalOn n a) (rng : List Draw) (hS : n ≤ sysMaxsize)
    (hL : Legal (usedStream σ seed rng)) (hlen : drawBudgetX m ≤ (usedStream σ seed rng).length) :
    randomKXORSys σ k n m seed planted rng ≠ .error .outOfDraws := by
  obtain ⟨full, hfull, _⟩ := allGoodParities_total (k := k) hT
  exact (sampleParities_spec m hT hfull).enough_draws hS hL hlen

/-- completing legal draw lists exist for every k-XOR input with total planted assignments -/
theorem randomKXOR_completing_draws_exist (σ : Int → List Draw) (k n m : Nat) (planted : List (List Int))
    (hT : ∀ a ∈ planted, TotalOn n a) :
    ∃ rng, Legal rng ∧ (rng.length ≤ drawBudget k m + retryBudget m ∧ (n ≤ sysMaxsize → rng.length ≤ drawBudgetX m)) ∧
      Completed (randomKXORSys σ k n m none planted rng) := by
  simp only [randomKXORSys_eq, sampleParities_eq]
  exact ((seededRun_runs σ (sampleVia_runs (drawParity_runs k n) _ _ _)).mono
    (by rw [drawBudget, Nat.mul_succ (retryBudget m) (k + 1)]; omega) (Nat.le_refl _)).completed

/-! ## the `--plant` option of the command line -/

/-- `cnfgen randkcnf -p k n m`: whenever a formula comes out it has `n` variables, `m` clauses and is
satisfiable (by the planted assignment) -/
theorem cli_randkcnf_planted_satisfiable (k n m : Nat) (draws rest : List Draw) (F : Formula)
    (hL : Legal draws) (h : cliRandKCNF true k n m draws = .ok (F, rest)) :
    F.toCNF.nvars = n ∧ F.toCNF.clauses.length = m ∧ ∃ α, F.toCNF.holds α = true := by
  rw [cliRandKCNF_eq, if_pos rfl] at h
  obtain ⟨a, ds', hp, h⟩ := RandM.bind_eq_ok.1 h
  obtain ⟨_, hc, hL'⟩ := plantAssignment_ok hL hp
  obtain ⟨h1, h2, _⟩ := randomKCNF_shape _ k n m none [a] ds' rest F hL' h
  exact ⟨h1, h2, asg a, randomKCNF_planted_satisfies _ k n m none [a] ds' rest F hL' h a (by simp) hc⟩

/-- `cnfgen randkxor -p k n m`: the parity system has `m` equations and a solution -/
theorem cli_randkxor_planted_satisfiable (k n m : Nat) (draws rest : List Draw) (sys : List Parity)
    (hL : Legal draws) (h : cliRandKXORSys true k n m draws = .ok (sys, rest)) :
    sys.length = m ∧ ∃ α : Assign, ∀ p ∈ sys, ((count α p.1 : Nat) : Int) % 2 = p.2 := by
  rw [cliRandKXORSys_eq, if_pos rfl] at h
  obtain ⟨a, ds', hp, h⟩ := RandM.bind_eq_ok.1 h
  obtain ⟨ht, _, hL'⟩ := plantAssignment_ok hL hp
  have hT : ∀ a' ∈ [a], TotalOn n a' := fun a' ha' => List.mem_singleton.1 ha' ▸ ht
  obtain ⟨h1, _, h3⟩ := randomKXOR_shape _ k n m none [a] hT ds' rest sys hL' h
  exact ⟨h1, asg a, fun p hp' => (h3 p hp').2.2 a (by simp)⟩

/-! ## C07 (library part): a `seed=` argument makes the result independent of the prior generator state -/

/-- `RandomKCNF(k,n,m,seed=s,…)` reseeds before its first draw: formula AND final generator state are
the same whatever the state of the generator was before the call -/
theorem seeded_independent_of_state (σ : Int → List Draw) (k n m : Nat) (s : Int) (planted : List (List Int))
    (rng₀ rng₀' : List Draw) :
    randomKCNF σ k n m (some s) planted rng₀ = randomKCNF σ k n m (some s) planted rng₀' := rfl

/-- the same for arbitrary integer arguments (the `non_negative_int` checks draw nothing) -/
theorem seeded_independent_of_state_int (σ : Int → List Draw) (k n m : Int) (s : Int)
    (planted : List (List Int)) (rng₀ rng₀' : List Draw) :
    randomKCNFInt σ k n m (some s) planted rng₀ = randomKCNFInt σ k n m (some s) planted rng₀' := by
  unfold randomKCNFInt
  split
  · rfl
  · exact seeded_independent_of_state σ _ _ _ s planted rng₀ rng₀'

/-- `RandomKXOR(k,n,m,seed=s,…)` likewise -/
theorem seeded_independent_of_state_kxor (σ : Int → List Draw) (k n m : Nat) (s : Int)
    (planted : List (List Int)) (rng₀ rng₀' : List Draw) :
    randomKXOR σ k n m (some s) planted rng₀ = randomKXOR σ k n m (some s) planted rng₀' := rfl

/-- with a seed the run is the unseeded run started in the state `σ s` -/
theorem seeded_eq_unseeded_from (σ : Int → List Draw) (k n m : Nat) (s : Int) (planted : List (List Int))
    (rng₀ : List Draw) :
    randomKCNF σ k n m (some s) planted rng₀ = randomKCNF σ k n m none planted (σ s) := rfl

/-- without a seed the prior state matters (so the hypothesis `some s` above is not decoration) -/
example : (randomKCNF (fun _ => []) 1 1 1 none [] [.sample 1 1 [0], .choice 2 0]).toOption.map
      (fun r => r.1.toCNF.clauses) ≠
    (randomKCNF (fun _ => []) 1 1 1 none [] [.sample 1 1 [0], .choice 2 1]).toOption.map
      (fun r => r.1.toCNF.clauses) := by decide +kernel

end Cnfgen.C13
