/-
C14 at CHARACTER level: the text `writeGraph` produces for the in-house formats (kthlist, DIMACS
edge format, matrix — `_write_graph_kthlist_nonbipartite`, `_write_graph_kthlist_bipartite`,
`_write_graph_dimacs_format`, `_write_graph_matrix_format`, character by character: the `c` lines
of the graph name, `str(v) + " :"`, `' ' + str(i)`, `" 0\n"`, `p edge n m`, `e u v`, `" ".join(row)`,
the final empty line) is turned by the readers' own treatment of characters (`readlines()`,
`l[0] == 'c'`, `strip()`, `split()`, `':' in l`, `split(':')`, `int()`) into exactly the rows the
theorems of `Props/C14.lean` speak about — hence the written CHARACTERS, read back, give the same
graph; and reading ANY string either succeeds or raises ValueError.
Model of the characters: `IO/GraphLex.lean`, `kthText/dimacsText/matrixText/writeText/readText` in
`IO/GraphFmt.lean` (compared byte for byte with the real writers / readers by the harness).
-/
import Props.C14
import Lemmas.IOGraphTextFmt
namespace Cnfgen.C14
open Cnfgen GraphFmt GraphLex

/-- every number the writers print for the graph — the order (for bipartite graphs `l + r`: the
kthlist writer shifts the right vertices by `l`) and, for DIMACS, the number of edges — has at most
`maxStrDigits` (= 4300) decimal digits: beyond that CPython refuses both `str(n)` and `int(s)`
(`sys.get_int_max_str_digits`).  Under the invariant every vertex number is then printable too. -/
def Printable : AnyG → Prop
  | .simple G => Small G.n ∧ Small G.m
  | .di G => Small G.n ∧ Small G.m
  | .bip G => Small (G.l + G.r)

/-- the lexer inverts the printer: whenever the row-level writer succeeds, the text writer succeeds and
lexing its characters — read from a `StringIO` (`u = false`) or from a text-mode file (`u = true`:
universal newlines) — gives exactly the rows of the row-level writer.  For every graph with the
invariant, every graph name (any characters, any number of lines), every in-house format. -/
theorem graph_text_lex (u : Bool) (name : Str) (ty : GType) (fmt : Fmt) (G : AnyG) (hinv : InvAny G)
    (hp : Printable G) (rows : Rows) (hw : writeGraph name ty fmt G = .ok rows) :
    ∃ t, writeText name ty fmt G = .ok t ∧ lexText fmt (if u then universalNL t else t) = some rows := by
  unfold writeGraph at hw
  unfold writeText
  cases hc : checkArgs ty fmt with
  | error e => rw [hc] at hw; cases hw
  | ok _ =>
    rw [hc] at hw
    simp only at hw ⊢
    cases fmt <;> cases G <;> simp only [reduceCtorEq] at hw <;> try (cases hw)
    · -- kthlist, simple
      rename_i g
      refine ⟨_, rfl, congrArg (fun r => some (Rows.kth r)) (lexKth_kthText u name g.n (simpleLists g) hp.1 fun p hpm => ?_)⟩
      obtain ⟨i, hi, rfl⟩ := List.mem_map.1 hpm
      have hi' := List.mem_range.1 hi
      exact ⟨hp.1.mono (by simp only; omega),
        fun j hj => hp.1.mono ((hinv : SimpleG.Inv g).nbrs_range hj).2.2.2.1⟩
    · -- kthlist, directed
      rename_i g
      have hinv : DiG.Inv g := hinv
      refine ⟨_, rfl, congrArg (fun r => some (Rows.kth r)) (lexKth_kthText u name g.n (diLists g) hp.1 fun p hpm => ?_)⟩
      obtain ⟨i, hi, rfl⟩ := List.mem_map.1 hpm
      have hi' := List.mem_range.1 hi
      exact ⟨hp.1.mono (by simp only; omega),
        fun j hj => hp.1.mono (hinv.range _ _ (hinv.mem_preds.1 hj)).2.1⟩
    · -- kthlist, bipartite
      rename_i g
      have hinv : BipG.Inv g := hinv
      have hp : Small (g.l + g.r) := hp
      refine ⟨_, rfl, congrArg (fun r => some (Rows.kth r)) (lexKth_kthText u name (g.l + g.r) (bipLists g) hp fun p hpm => ?_)⟩
      obtain ⟨i, hi, rfl⟩ := List.mem_map.1 hpm
      have hi' := List.mem_range.1 hi
      refine ⟨hp.mono (by simp only; omega), fun j hj => ?_⟩
      obtain ⟨v, hv, rfl⟩ := List.mem_map.1 hj
      have := hinv.range _ _ (hinv.mem_rnbrs.1 hv)
      exact hp.mono (by omega)
    · -- dimacs, simple
      rename_i g
      refine ⟨_, rfl, congrArg (fun r => some (Rows.dimacs r)) (lexDimacs_dimacsText u name g.n g.m g.edges hp.1 hp.2 fun e he => ?_)⟩
      have := (hinv : SimpleG.Inv g).edges_range (u := e.1) (v := e.2) he
      exact ⟨hp.1.mono (by omega), hp.1.mono this.2.2⟩
    · -- dimacs, directed
      rename_i g
      have hinv : DiG.Inv g := hinv
      refine ⟨_, rfl, congrArg (fun r => some (Rows.dimacs r)) (lexDimacs_dimacsText u name g.n g.m g.edges hp.1 hp.2 fun e he => ?_)⟩
      have := hinv.range e.1 e.2 (hinv.mem_edges.1 he)
      exact ⟨hp.1.mono this.2.1, hp.1.mono this.2.2.2⟩
    · -- matrix
      rename_i g
      have hp : Small (g.l + g.r) := hp
      exact ⟨_, rfl, congrArg (fun r => some (Rows.matrix r))
        (lexMatrix_matrixText u g (hp.mono (by omega)) (hp.mono (by omega)))⟩

/-- T-C14.1 at CHARACTER level.  Writing a graph of any of the four types in any in-house format
supported for the type and reading the written characters back (line splitting, `strip`, `split`,
`int()` included; from a `StringIO` or from a text-mode file) returns the same graph: same order /
left-right split, same numbering, same edges (every adjacency table identical) — isolated vertices,
empty sides, empty graphs, ten or more vertices, every graph name included; all sizes up to the
digit limit of CPython itself. -/
theorem graph_text_roundtrip (u : Bool) (name : Str) (ty : GType) (fmt : Fmt) (G : AnyG) (hin : InHouse fmt)
    (hsup : fmt ∈ supported ty) (hty : HasType ty G) (hinv : InvAny G) (hp : Printable G) :
    ∃ t G', writeText name ty fmt G = .ok t ∧ readText u ty fmt t = .ok G' ∧ SameAny G G' := by
  obtain ⟨rows, G', hw, hr, hs⟩ := roundtrip name ty fmt G hin hsup hty hinv
  obtain ⟨t, ht, hl⟩ := graph_text_lex u name ty fmt G hinv hp rows hw
  have hc : checkArgs ty fmt = .ok () := by
    unfold checkArgs
    rw [if_pos (List.contains_iff_mem.2 hsup)]
  refine ⟨t, G', ht, ?_, hs⟩
  unfold readText
  rw [hc]
  simp only [hl, hr]

/-- kthlist (`graph_text_roundtrip` for the format, which every type supports) -/
theorem graph_text_roundtrip_kthlist (u : Bool) (name : Str) (ty : GType) (G : AnyG)
    (hty : HasType ty G) (hinv : InvAny G) (hp : Printable G) :
    ∃ t G', writeText name ty .kthlist G = .ok t ∧ readText u ty .kthlist t = .ok G' ∧ SameAny G G' :=
  graph_text_roundtrip u name ty .kthlist G (Or.inl rfl) (by cases ty <;> decide) hty hinv hp

/-- DIMACS edge format (simple, directed, acyclic graphs) -/
theorem graph_text_roundtrip_dimacs (u : Bool) (name : Str) (ty : GType) (G : AnyG) (hnb : ty ≠ .bipartite)
    (hty : HasType ty G) (hinv : InvAny G) (hp : Printable G) :
    ∃ t G', writeText name ty .dimacs G = .ok t ∧ readText u ty .dimacs t = .ok G' ∧ SameAny G G' :=
  graph_text_roundtrip u name ty .dimacs G (Or.inr (Or.inl rfl))
    (by cases ty <;> first | decide | exact absurd rfl hnb) hty hinv hp

/-- adjacency matrix (bipartite graphs) -/
theorem graph_text_roundtrip_matrix (u : Bool) (name : Str) (G : BipG) (hinv : BipG.Inv G)
    (hp : Small (G.l + G.r)) :
    ∃ t G', writeText name .bipartite .matrix (.bip G) = .ok t ∧
      readText u .bipartite .matrix t = .ok (.bip G') ∧ BipG.Same G G' := by
  obtain ⟨t, G', h1, h2, h3⟩ := graph_text_roundtrip u name .bipartite .matrix (.bip G) (Or.inr (Or.inr rfl))
    (by decide) trivial hinv hp
  cases G' with
  | bip g' => exact ⟨t, g', h1, h2, h3⟩
  | simple _ => exact absurd h3 (by simp [SameAny])
  | di _ => exact absurd h3 (by simp [SameAny])

/-- the bound is necessary: with `10^4300` or more vertices the reader rejects the size line the
model's writer lays out (real CPython already raises ValueError inside the writer, at
`"{}".format(G.order())`) -/
theorem graph_text_limit_kthlist (u : Bool) (name : Str) (G : SimpleG) (h : ¬ Small G.n) (t : Str)
    (ht : writeText name .simple .kthlist (.simple G) = .ok t) :
    readText u .simple .kthlist t = .error .valueError := by
  have hbig : 10 ^ maxStrDigits ≤ G.n := by unfold Small at h; omega
  have e : t = kthText name G.n (simpleLists G) := by
    simp [writeText, checkArgs, supported] at ht; exact ht.symm
  subst e
  simp only [readText, checkArgs, supported, lexText, readGraph, Rows.fmt, List.contains_cons, beq_self_eq_true,
    Bool.true_or, if_true, readKth, kthHeader_kthText_big u name G.n (simpleLists G) hbig]
  rfl

/-- the round trip without the digit bound, as a statement … -/
def TextRoundtripUnbounded : Prop :=
  ∀ (u : Bool) (name : Str) (G : SimpleG), SimpleG.Inv G →
    ∃ t G', writeText name .simple .kthlist (.simple G) = .ok t ∧ readText u .simple .kthlist t = .ok G'

/-- … is false of the model (and of CPython): the graph with `10^4300` isolated vertices -/
theorem graph_text_roundtrip_unbounded_false : ¬ TextRoundtripUnbounded := by
  intro h
  obtain ⟨t, G', h1, h2⟩ := h false [] (SimpleG.init (10 ^ maxStrDigits)) (SimpleG.inv_init _)
  have h3 := graph_text_limit_kthlist false [] (SimpleG.init (10 ^ maxStrDigits))
    (by unfold Small; exact Nat.lt_irrefl _) t h1
  rw [h3] at h2
  cases h2

/-- T-C14.2a at CHARACTER level: reading ANY string in an in-house format, as any graph type, from
a `StringIO` or a text-mode file, either succeeds or raises ValueError — no other exception. -/
theorem reader_text_raises_only_valueError (u : Bool) (ty : GType) (fmt : Fmt) (hin : InHouse fmt) (s : Str)
    (e : Err) (h : readText u ty fmt s = .error e) : e = .valueError := by
  unfold readText at h
  cases hc : checkArgs ty fmt with
  | error x =>
    rw [hc] at h
    unfold checkArgs at hc
    split at hc
    · cases hc
    · cases hc; cases h; rfl
  | ok _ =>
    rw [hc] at h
    simp only at h
    rcases hin with rfl | rfl | rfl <;> simp only [lexText] at h <;>
      exact reader_raises_only_valueError ty _ e h

/-- … stated for Lean `String`s -/
theorem reader_string_raises_only_valueError (u : Bool) (ty : GType) (fmt : Fmt) (hin : InHouse fmt) (s : String)
    (e : Err) (h : readText u ty fmt s.toList = .error e) : e = .valueError :=
  reader_text_raises_only_valueError u ty fmt hin s.toList e h

def rowsOf (u : Bool) (fmt : Fmt) (s : Str) : Option Rows := lexText fmt (if u then universalNL s else s)

/-- an accepted text is an accepted row list: every row-level contract of `Props/C14.lean`
(`*_consistent`, `dag_*_only_increasing`) applies to the rows of the text -/
theorem readText_ok_rows (u : Bool) (ty : GType) (fmt : Fmt) (s : Str) (G : AnyG)
    (h : readText u ty fmt s = .ok G) : ∃ rows, rowsOf u fmt s = some rows ∧ readGraph ty rows = .ok G := by
  unfold readText at h
  cases hc : checkArgs ty fmt with
  | error x => rw [hc] at h; cases h
  | ok _ =>
    rw [hc] at h
    simp only at h
    unfold rowsOf
    cases hl : lexText fmt (if u then universalNL s else s) with
    | none => rw [hl] at h; cases h
    | some rows => rw [hl] at h; exact ⟨rows, rfl, h⟩

/-- T-C14.3 at CHARACTER level: a kthlist text is accepted as a `'dag'` only if every predecessor
it states is smaller than its vertex … -/
theorem dag_kthlist_text_only_increasing (u : Bool) (s : Str) (G : AnyG) (h : readText u .dag .kthlist s = .ok G) :
    ∀ x ∈ kthPairs (lexKth (if u then universalNL s else s)), x.1 < x.2 := by
  obtain ⟨rows, hr, hg⟩ := readText_ok_rows u .dag .kthlist s G h
  simp only [rowsOf, lexText, Option.some.injEq] at hr
  subst hr
  exact dag_kthlist_only_increasing _ G hg

/-- … and a DIMACS text only if every edge line `e u v` has `u < v` -/
theorem dag_dimacs_text_only_increasing (u : Bool) (s : Str) (G : AnyG) (h : readText u .dag .dimacs s = .ok G) :
    ∀ x ∈ dimacsPairs (lexDimacs (if u then universalNL s else s)), x.1 < x.2 := by
  obtain ⟨rows, hr, hg⟩ := readText_ok_rows u .dag .dimacs s G h
  simp only [rowsOf, lexText, Option.some.injEq] at hr
  subst hr
  exact dag_dimacs_only_increasing _ G hg

/-- a printable 12-vertex graph with two-digit vertex numbers and isolated vertices -/
example : ∃ G, SimpleG.ofEdges 12 [(1, 2), (10, 11), (3, 12), (12, 1)] = .ok G ∧ InvAny (.simple G) ∧
    HasType .simple (.simple G) := by
  obtain ⟨G, h1, h2, _⟩ := SimpleG.ofEdges_spec (n := 12) (es := [(1, 2), (10, 11), (3, 12), (12, 1)]) (by decide)
  exact ⟨G, h1, h2, trivial⟩
example : Printable (.bip (BipG.init 4 0)) ∧ Printable (.simple (SimpleG.init 0)) ∧ Printable (.di (DiG.init 11)) :=
  ⟨IO.lt_limit_of_le (by decide), ⟨IO.lt_limit_of_le (by decide), IO.lt_limit_of_le (by decide)⟩,
   ⟨IO.lt_limit_of_le (by decide), IO.lt_limit_of_le (by decide)⟩⟩

/-- the characters written for a bipartite graph with 2 + 11 vertices under a two-line name whose
second line looks like an adjacency list (former defect D40), kernel-evaluated, and what the
character-level reader makes of them -/
example : (BipG.ofEdges 2 11 [(1, 10), (2, 1), (2, 11)]).toOption.bind
    (fun G => (writeText "x\n1 : 2 0".toList .bipartite .kthlist (.bip G)).toOption) =
    some "c x\nc 1 : 2 0\n13\n1 : 12 0\n2 : 3 13 0\n\n".toList := by lit_decide
example : (readText true .bipartite .kthlist "c x\nc 1 : 2 0\n13\n1 : 12 0\n2 : 3 13 0\n\n".toList).toOption.map
    (fun G => match G with | .bip g => (g.l, g.r, g.edges) | _ => (0, 0, [])) = some (2, 11, [(1, 10), (2, 1), (2, 11)]) := by lit_decide
/-- a text-mode file with "\r\n" line ends; a blank line and an odd integer spelling in a DIMACS file -/
example : (readText true .dag .dimacs "c n\r\np edge 3 2\r\n\r\ne 1 +3\r\ne 0_2 3\r\n".toList).toOption.map
    (fun G => match G with | .di g => (g.n, g.edges) | _ => (0, [])) = some (3, [(1, 3), (2, 3)]) := by lit_decide
/-- the same characters in a `StringIO` (no newline translation): "\r" is white space for `strip`/`split` -/
example : (readText false .dag .dimacs "c n\r\np edge 3 2\r\n\r\ne 1 +3\r\ne 0_2 3\r\n".toList).toOption.map
    (fun G => match G with | .di g => (g.n, g.edges) | _ => (0, [])) = some (3, [(1, 3), (2, 3)]) := by lit_decide
/-- malformed texts: empty, truncated list, backward edge in a dag, matrix with a missing entry -/
example : readText false .simple .kthlist [] = .error .valueError ∧
    readText false .simple .kthlist "3\n1 : 2".toList = .error .valueError ∧
    readText true .dag .kthlist "3\n1 : 2 0\n".toList = .error .valueError ∧
    readText false .bipartite .matrix "2 2\n1 0\n0\n".toList = .error .valueError := by lit_decide

end Cnfgen.C14
