/-
C14 — graph files, format `gml`: the part that goes through networkx
(`networkx.readwrite.gml`: `generate_gml` / `write_gml` / `escape`, `read_gml` / `parse_gml_lines` /
`unescape`) is MODELLED in `CnfgenModel/IO/Gml.lean` (tied to the installed networkx 3.6.1 by the
correspondence suites `gml_w`, `gml_p`, `gml_r`, `gml_rt`, `gml_esc`), and the round trip
"write gml → read gml" is a theorem about the characters of the file.

Hypotheses: the C16 representation invariant of the object (`SimpleG.Inv` …: proved in C16 for every
object reachable by any update history) and `GmlPrintable n`: the vertex count has at most 4300 decimal
digits (beyond that CPython's `str(int)` raises inside networkx's writer and `int(str)` inside its
reader; the model's `natStr` is the unbounded decimal printer).
-/
import Lemmas.GmlRead
import Lemmas.GmlContract
namespace Cnfgen.C14
open Cnfgen GraphLex GraphFmt Gml

/-- the vertex count can be printed and read back by CPython (at most 4300 digits): the digit-count form of
`Small n` (`n < 10 ^ maxStrDigits`), which `C14.Printable` of `Props/C14/Text.lean` uses; `Gml.Printable` of
`Lemmas/GmlWrite.lean` is this bound for a networkx object, plus "the reported edges join its nodes" -/
def GmlPrintable (n : Nat) : Prop := (natStr n).length ≤ maxStrDigits

instance (n : Nat) : Decidable (GmlPrintable n) := by unfold GmlPrintable; infer_instance

/-- the representation invariant of C16, whatever the class.  `GmlInv`, `GmlHasType`, `GmlSame` have the bodies of
`InvAny`, `HasType`, `SameAny` of `Props/C14.lean`; they are repeated because this module does not import that one -/
def GmlInv : AnyG → Prop
  | .simple G => SimpleG.Inv G
  | .di G => DiG.Inv G
  | .bip G => BipG.Inv G

/-- the object is of the class `writeGraph` / `readGraph` use for the graph type, and a graph written
as `'dag'` is acyclic in cnfgen's sense (`is_dag()`) -/
def GmlHasType : GType → AnyG → Prop
  | .simple, .simple _ => True
  | .digraph, .di _ => True
  | .dag, .di G => G.stillDag = true
  | .bipartite, .bip _ => True
  | _, _ => False

def gmlOrder : AnyG → Nat
  | .simple G => G.n
  | .di G => G.n
  | .bip G => G.l + G.r

/-- equal in everything a caller can observe: class, order (left/right split), edge counter, every
adjacency table (hence numbering, neighbour views, edge listing), `is_dag`, the edge set -/
def GmlSame : AnyG → AnyG → Prop
  | .simple G, .simple G' => SimpleG.Same G G'
  | .di G, .di G' => DiG.Same G G'
  | .bip G, .bip G' => BipG.Same G G'
  | _, _ => False

/-- T-C14.G1 `write_in_subset`.  For every networkx object `X` of the kind `to_networkx()` builds
(nodes first, then edges between them; any name) the model of `networkx.read_gml(..., label='id')`
applied to the CHARACTERS `write_gml` + `print` produce — through a text-mode file or a StringIO —
is defined (never "unmodelled", never an exception) and returns `X`: the same directed flag, the ids
`0..n-1` in order, the `bipartite` attributes, the edges `G.edges()` reported in the same order, the
name. -/
theorem gml_write_in_subset (u : Bool) (X : NxOut) (hp : Gml.Printable X)
    (hd : EdgesDistinct X.directed (nxEdges X.directed X.nodes.length X.tedges)) :
    parseGml u (gmlText X) = .ok (parsedOf X) :=
  parseGml_gmlText u X hp hd

/-- … and the token stream in between is the expected one: `graph [`, the graph attributes, one
`node [ id i label "i+1" (bipartite b) ]` per node, one `edge [ source s target t ]` per edge, `]`, EOF -/
theorem gml_written_tokens (u : Bool) (X : NxOut) (hp : Gml.Printable X) :
    tokenize u (gmlText X) = gmlToks X ∧ parseToks (gmlToks X) = .ok [("graph".toList, .dict (graphItems X))] :=
  ⟨tokenize_gmlText u X hp, parseToks_gmlToks X⟩

/-- `unescape(escape(s)) = s` for EVERY string: quotes, ampersands, control characters, line breaks,
non-ASCII characters are written as decimal character references and read back -/
theorem gml_escape_roundtrip (s : Str) : unescape (escape s) = .ok s := unescape_escape s

/-- what `escape` emits is printable ASCII without a double quote (so a name never breaks the line
or the string it is written in) -/
theorem gml_escape_printable (s : Str) : ∀ c ∈ escape s, 32 ≤ c.toNat ∧ c.toNat ≤ 126 ∧ c ≠ '"' :=
  escape_plain s

/-- simple graphs: `readGraph(f, 'simple', 'gml')` on what `writeGraph(G, f, 'simple', 'gml')` wrote
returns the same graph — any number of vertices (ten or more, isolated ones included), any name -/
theorem gml_roundtrip_simple (u : Bool) (name : Str) {G : SimpleG} (h : SimpleG.Inv G) (hp : GmlPrintable G.n) :
    ∃ G', readGml u .simple (writeGml name (.simple G)) = .ok (.simple G', .one (.str [])) ∧ SimpleG.Same G G' :=
  readGml_writeGml_simple u name h hp

example : ∃ G : SimpleG, SimpleG.Inv G ∧ GmlPrintable G.n ∧ G.n = 12 ∧ G.m = 2 :=
  ⟨_, SimpleG.inv_ofEdges (n := 12) (es := [(11, 2), (1, 12)]) rfl, (by decide : GmlPrintable 12), rfl, rfl⟩

theorem gml_roundtrip_digraph (u : Bool) (name : Str) {G : DiG} (h : DiG.Inv G) (hp : GmlPrintable G.n) :
    ∃ G', readGml u .digraph (writeGml name (.di G)) = .ok (.di G', .one (.str [])) ∧ DiG.Same G G' :=
  readGml_writeGml_di u name .digraph (Or.inl rfl) h hp (fun e => by cases e)

example : ∃ G : DiG, DiG.Inv G ∧ GmlPrintable G.n ∧ G.stillDag = false :=
  ⟨_, DiG.inv_ofEdges (n := 11) (es := [(11, 2), (1, 10), (3, 3)]) rfl, (by decide : GmlPrintable 11), rfl⟩

/-- a graph written as `'dag'` (every edge increasing) is accepted as `'dag'` and comes back the same -/
theorem gml_roundtrip_dag (u : Bool) (name : Str) {G : DiG} (h : DiG.Inv G) (hp : GmlPrintable G.n)
    (hd : G.stillDag = true) :
    ∃ G', readGml u .dag (writeGml name (.di G)) = .ok (.di G', .one (.str [])) ∧ DiG.Same G G' :=
  readGml_writeGml_di u name .dag (Or.inr rfl) h hp (fun _ => hd)

example : ∃ G : DiG, DiG.Inv G ∧ GmlPrintable G.n ∧ G.stillDag = true ∧ G.m = 2 :=
  ⟨_, DiG.inv_ofEdges (n := 11) (es := [(2, 11), (1, 10)]) rfl, (by decide : GmlPrintable 11), rfl, rfl⟩

/-- bipartite graphs: same split, same numbering on both sides, same edges; the name comes back as
networkx reads it (`nameVal`: the string itself, except that it turns the two strings `"()"` and
`"[]"` into an empty tuple / list) -/
theorem gml_roundtrip_bipartite (u : Bool) (name : Str) {G : BipG} (h : BipG.Inv G) (hp : GmlPrintable (G.l + G.r)) :
    ∃ G', readGml u .bipartite (writeGml name (.bip G)) = .ok (.bip G', .one (nameVal name)) ∧ BipG.Same G G' :=
  readGml_writeGml_bip u name h hp

example : ∃ G : BipG, BipG.Inv G ∧ GmlPrintable (G.l + G.r) ∧ G.l = 10 ∧ G.edgeset.length = 2 :=
  ⟨_, BipG.inv_ofEdges (l := 10) (r := 3) (es := [(10, 1), (2, 3)]) rfl, (by decide : GmlPrintable 13), rfl, rfl⟩

/-- the name of a bipartite graph survives, whatever characters it contains -/
theorem gml_name_roundtrip (name : Str) (h1 : name ≠ "()".toList) (h2 : name ≠ "[]".toList) :
    nameVal name = .str name := by
  unfold nameVal
  rw [if_neg h1, if_neg h2]

/-- T-C14.G2, all types at once -/
theorem gml_roundtrip (u : Bool) (name : Str) (ty : GType) (G : AnyG) (hty : GmlHasType ty G) (hinv : GmlInv G)
    (hp : GmlPrintable (gmlOrder G)) :
    ∃ G' nm, readGml u ty (writeGml name G) = .ok (G', nm) ∧ GmlSame G G' := by
  cases ty <;> cases G <;> simp only [GmlHasType] at hty
  · obtain ⟨G', h1, h2⟩ := gml_roundtrip_simple u name hinv hp
    exact ⟨_, _, h1, h2⟩
  · obtain ⟨G', h1, h2⟩ := gml_roundtrip_digraph u name hinv hp
    exact ⟨_, _, h1, h2⟩
  · obtain ⟨G', h1, h2⟩ := gml_roundtrip_dag u name hinv hp hty
    exact ⟨_, _, h1, h2⟩
  · obtain ⟨G', h1, h2⟩ := gml_roundtrip_bipartite u name hinv hp
    exact ⟨_, _, h1, h2⟩

/-- T-C14.G3 reader contract.  Whatever the text, the modelled `readGraph(f, ty, 'gml')` raises ValueError or nothing (full
strength since 3609e15; outside the modelled subset the model answers `unmodelled`, not an error) -/
theorem gml_reader_raises_only_valueError (u : Bool) (ty : GType) (text : Str) (e : Exc)
    (h : readGml u ty text = .err e) : e = .valueError := by
  unfold readGml at h
  split at h
  · rename_i e' _
    cases h
    cases e' <;> rfl
  · cases h
  · rename_i G nm _
    split at h
    · split at h
      · cases h
      · cases h; rfl
    · cases h

/-- regression (former defect D43, fixed in 3609e15): on these texts networkx raises AttributeError
(`.pop` on a non-dictionary value); `readGraph` used to let it escape, now it is a ValueError -/
theorem gml_regression_nonDict :
    parseGml false "graph 5".toList = .err .attributeError ∧
    parseGml false "graph \"x\"".toList = .err .attributeError ∧
    parseGml false "graph [ node 1 ]".toList = .err .attributeError ∧
    parseGml false "graph [ node [ id 1 ] edge 3 ]".toList = .err .attributeError ∧
    cnfgenCatchOld .attributeError = .attributeError ∧
    readGml false .simple "graph 5".toList = .err .valueError ∧
    readGml false .simple "graph [ node [ id 1 ] edge 3 ]".toList = .err .valueError := by
  lit_decide

/-! ### an accepted text yields a graph consistent with the text

The tokenizer and the parser are functions (`tokenize`, `parseToks`: the regular expressions and the
recursive descent of networkx, compared with it on every run); what is PROVED is what every accepted
text guarantees from there on: the parsed networkx graph is well formed, and the cnfgen object has one
vertex per `node` of the text, numbered in the order `normalize_networkx_labels` gives (`Parsed.rank`),
and exactly the edges of the text between the renumbered ends. -/

/-- whatever `parse_gml_lines` accepts: distinct ids, edges between declared nodes, no edge twice -/
theorem gml_parsed_wellFormed (u : Bool) (text : Str) (P : Parsed) (h : parseGml u text = .ok P) : P.WF :=
  parseGml_wf h

example : ∃ P, parseGml false "graph [ node [ id 7 ] node [ id 3 ] edge [ source 3 target 7 ] ]".toList = .ok P ∧
    P.labels = [.int 7, .int 3] ∧ P.tedges = [(1, 0)] := by
  lit_decide

/-- type `simple` -/
theorem gml_reader_consistent_simple (u : Bool) (text : Str) (G : AnyG) (nm : Field)
    (h : readGml u .simple text = .ok (G, nm)) :
    ∃ P g, parseGml u text = .ok P ∧ P.WF ∧ G = .simple g ∧ SimpleG.Inv g ∧ g.n = P.labels.length ∧
      ∀ x y, (x, y) ∈ g.edgeset ↔ ∃ i j, ((i, j) ∈ P.tedges ∨ (j, i) ∈ P.tedges) ∧ x = P.rank i ∧ y = P.rank j := by
  obtain ⟨P, hp, hn, _, _⟩ := readGml_ok_inv h
  have hW := parseGml_wf hp
  obtain ⟨g, h1, h2, h3, h4⟩ := normalize_simple_spec hW hn
  exact ⟨P, g, hp, hW, h1, h2, h3, h4⟩

example : ∃ G nm, readGml false .simple "graph [ node [ id 7 ] node [ id 3 ] edge [ source 3 target 7 ] ]".toList = .ok (G, nm) := by
  lit_decide

/-- types `digraph` and `dag`: only a text that says `directed 1` (a true value) is accepted; the edges
keep their orientation; a text read as `dag` is accepted only if EVERY edge goes from a lower to a
higher vertex (in the numbering of the result) -/
theorem gml_reader_consistent_directed (u : Bool) (ty : GType) (hty : ty = .digraph ∨ ty = .dag) (text : Str)
    (G : AnyG) (nm : Field) (h : readGml u ty text = .ok (G, nm)) :
    ∃ P g, parseGml u text = .ok P ∧ P.WF ∧ P.directed = true ∧ G = .di g ∧ DiG.Inv g ∧ g.n = P.labels.length ∧
      (∀ x y, (x, y) ∈ g.edgeset ↔ ∃ i j, (i, j) ∈ P.tedges ∧ x = P.rank i ∧ y = P.rank j) ∧
      (ty = .dag → g.stillDag = true ∧ (∀ e ∈ g.edges, e.1 < e.2) ∧ ∀ e ∈ P.tedges, P.rank e.1 < P.rank e.2) := by
  obtain ⟨P, hp, hn, _, hdag⟩ := readGml_ok_inv h
  have hW := parseGml_wf hp
  obtain ⟨hd, g, h1, h2, h3, h4⟩ := normalize_di_spec ty hty hW hn
  refine ⟨P, g, hp, hW, hd, h1, h2, h3, h4, ?_⟩
  intro hdg
  have hs := hdag hdg g h1
  have hall := h2.dag.1 hs
  refine ⟨hs, fun e he => hall e (h2.mem_edges.1 he), ?_⟩
  intro e he
  exact hall (P.rank e.1, P.rank e.2) ((h4 _ _).2 ⟨e.1, e.2, he, rfl, rfl⟩)

/-- type `bipartite`: an accepted text gives every node a side (`bipartite` ∈ `0 1 "0" "1"`); the two sides are
numbered separately in the order of the file (`rank` in `Parsed.side`: NO sorting of the ids); every edge of the
text joins the two sides — whichever of `source` / `target` is on the left — and the object has exactly those edges -/
theorem gml_reader_consistent_bipartite (u : Bool) (text : Str) (G : AnyG) (nm : Field)
    (h : readGml u .bipartite text = .ok (G, nm)) :
    ∃ P g, parseGml u text = .ok P ∧ P.WF ∧ G = .bip g ∧ BipG.Inv g ∧
      g.l = (P.side false).length ∧ g.r = (P.side true).length ∧
      (∀ c ∈ P.colours.map colourBool, c ≠ none) ∧
      (∀ e ∈ P.tedges, (e.1 ∈ P.side false ∧ e.2 ∈ P.side true) ∨ (e.2 ∈ P.side false ∧ e.1 ∈ P.side true)) ∧
      ∀ x y, (x, y) ∈ g.edgeset ↔ ∃ i j, ((i, j) ∈ P.tedges ∨ (j, i) ∈ P.tedges) ∧ i ∈ P.side false ∧ j ∈ P.side true ∧
        x = rank (P.side false) i ∧ y = rank (P.side true) j := by
  obtain ⟨P, hp, hn, _, _⟩ := readGml_ok_inv h
  have hW := parseGml_wf hp
  obtain ⟨g, h1, h2, h3, h4, h5, h6, h7⟩ := normalize_bip_edges hW hn
  exact ⟨P, g, hp, hW, h1, h2, h3, h4, h5, h6, h7⟩

example : ∃ G nm, readGml false .bipartite
    "graph [ node [ id 9 bipartite 1 ] node [ id 2 bipartite 0 ] edge [ source 9 target 2 ] ]".toList = .ok (G, nm) := by
  lit_decide
example : readGml false .bipartite
    "graph [ node [ id 9 bipartite 0 ] node [ id 2 bipartite 0 ] edge [ source 9 target 2 ] ]".toList = .err .valueError := by
  lit_decide

/-- T-C14.3 for gml, the short form: a file declared acyclic is accepted only with increasing edges -/
theorem gml_dag_only_increasing (u : Bool) (text : Str) (G : AnyG) (nm : Field)
    (h : readGml u .dag text = .ok (G, nm)) :
    ∃ g, G = .di g ∧ g.stillDag = true ∧ ∀ e ∈ g.edges, e.1 < e.2 := by
  obtain ⟨_, g, _, _, _, h1, _, _, _, h2⟩ := gml_reader_consistent_directed u .dag (Or.inr rfl) text G nm h
  exact ⟨g, h1, (h2 rfl).1, (h2 rfl).2.1⟩

example : readGml false .dag "graph [ directed 1 node [ id 7 ] node [ id 3 ] edge [ source 7 target 3 ] ]".toList =
    .err .valueError := by
  lit_decide
example : ∃ G nm, readGml false .dag "graph [ directed 1 node [ id 7 ] node [ id 3 ] edge [ source 3 target 7 ] ]".toList =
    .ok (G, nm) := by
  lit_decide
example : readGml false .digraph "graph [ node [ id 7 ] ]".toList = .err .valueError := by
  lit_decide

/-- the numbering: when the ids of the text are (distinct) integers, the vertex of a node is one more
than the number of nodes with a smaller id, i.e. the nodes are numbered `1..n` in increasing order of
their ids (`sorted()`); ids that mix integers and strings keep the order of the file (`ranks`) -/
theorem gml_numbering_sorted_ids (zs : List Int) (hn : zs.Nodup) :
    ranks (zs.map Label.int) = zs.map (fun z => zs.countP (fun y => decide (y < z)) + 1) :=
  ranks_int zs hn

example : ranks [.int 7, .int (-3), .int 10] = [2, 1, 3] := by decide
example : ranks [.int 7, .str ['a'], .int 1] = [1, 2, 3] := by decide

end Cnfgen.C14
