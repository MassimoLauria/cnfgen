/-
C20 — solve() and is_satisfiable() report what the SAT solver found.

Property theorems only; helper lemmas are in `Lemmas/Solver*.lean`.  The model
(`CnfgenModel/Solver/*.lean`) is the code of cnfgen/utils/solver.py as of /repo 1de50c9
(after the fixes of D24, D28, D28c, D28d, D35):

  T-C20.1  what the `s`/`v` loop and the minisat-file reader return, for every list of lines /
           every file text; well-formed answers split and interleaved in any way
  T-C20.2  the returned witness is the solver's literals, ordered by variable; it satisfies
           whatever the solver's literals satisfy
  T-C20.3  which interface function and command line `sat_solve` chooses, and which error
  T-C20.4  is_satisfiable = first component of solve

In this file the solver process is a function `world : Iface → String → Option ProcOut` (what it
printed / wrote, or "could not be started"): parsing and selection only.  Temporary files, the
resource calls and their failures are in `Props/C20/Run.lean`; the tie of the solver table to the
source in `Props/C20/Source.lean`; real processes and pipes are observed by harness/props/C20.py.
Within this model nothing but the documented `ValueError` (unknown `sameas`) and `RuntimeError` can
come out of `solve` (`solve_error_kinds`).
-/
import Lemmas.SolverAnswer
import Lemmas.SolverSelect
namespace Cnfgen.C20
open Cnfgen Cnfgen.Solver

/-! ## T-C20.1 — parsing of the DIMACS-convention answer (`_satsolve_stdin_stdout`,
`_satsolve_filein_stdout`) -/

/-- T-C20.1a  For EVERY list of output lines on which the loop raises nothing: the verdict is the
one left by the status lines (`lastVerdict`, see `last_status_line_decides`), no verdict is
`RuntimeError`, and the witness is the concatenation of the integers of the `v` lines (minus
`v`/`0`) sorted by variable — present exactly when the verdict is "satisfiable". -/
theorem parseStdout_spec (lines : List Str) (h : ∀ l ∈ lines, lineErr l = none) :
    parseStdout lines =
      match lastVerdict none lines with
      | none => .error .runtimeError
      | some r => .ok (r, witnessIf r (sortByVar (lines.flatMap lineLits))) := by
  rw [parseStdout_of_ok lines h]; rfl

/-- T-C20.1b  Of several status lines the LAST one decides (a line is a status line iff its first
character is `s`; its verdict is its second word). -/
theorem last_status_line_decides (pre post : List Str) (cs : Str)
    (hok : ∀ l ∈ pre ++ ('s' :: cs) :: post, lineErr l = none)
    (hpost : ∀ l ∈ post, l.head? ≠ some 's') :
    parseStdout (pre ++ ('s' :: cs) :: post) =
      match verdictOfWords (pySplit ('s' :: cs)) with
      | none => .error .runtimeError
      | some r => .ok (r, witnessIf r (sortByVar ((pre ++ ('s' :: cs) :: post).flatMap lineLits))) := by
  rw [parseStdout_spec _ hok]
  rw [lastVerdict_last none pre post ('s' :: cs) _ (lineVerdict_status cs)
    fun l hl => lineVerdict_of_head l (hpost l hl)]

/-- non-vacuity: `s UNSATISFIABLE`, then `s SATISFIABLE`; the second one wins -/
example : parseStdout ["s UNSATISFIABLE".toList, "c x".toList, "s SATISFIABLE".toList, "v -2 1 0".toList]
    = .ok (true, some [1, -2]) := by lit_decide

/-- T-C20.1c  The first line on which the loop raises determines the exception … -/
theorem parseStdout_raises (pre post : List Str) (bad : Str) (e : Err)
    (hpre : ∀ l ∈ pre, lineErr l = none) (hbad : lineErr bad = some e) :
    parseStdout (pre ++ bad :: post) = .error e := by
  simp [parseStdout, runLines_eq, List.findSome?_append, List.findSome?_eq_none_iff.2 hpre, hbad]

/-- … and it is always the documented `RuntimeError` (a non-integer word on a line starting with
`v`: the `ValueError` of `int()` is caught and re-raised; D28c fixed).  A status line without second
word raises nothing (D28 fixed). -/
theorem lineErr_kind (l : Str) (e : Err) (h : lineErr l = some e) : e = .runtimeError := by
  cases l with
  | nil => simp [lineErr] at h
  | cons c cs =>
    by_cases hv : c = 'v'
    · subst hv
      simp only [lineErr, if_true] at h
      split at h
      · rename_i e' heq
        injection h with h; subst h
        exact catchValueError_mapE _ _ heq
      · cases h
    · simp [lineErr, hv] at h

/-- `v 1 x 0` is "no usable answer": RuntimeError (regression for D28c; was ValueError) -/
theorem garbled_value_line_runtimeError :
    parseStdout ["s SATISFIABLE".toList, "v 1 x 0".toList] = .error .runtimeError := by lit_decide

/-- a bare `s` line is "no verdict", i.e. the documented RuntimeError (regression for D28) -/
theorem bare_status_line_runtimeError : parseStdout ["s".toList] = .error .runtimeError := by lit_decide

/-- T-C20.1d  Whatever the solver prints, the parser raises NOTHING BUT the documented
`RuntimeError` (no verdict, or a garbled value line). -/
theorem parseStdout_only_runtimeError (lines : List Str) (e : Err)
    (h : parseStdout lines = .error e) : e = .runtimeError := by
  rw [parseStdout, runLines_eq] at h
  cases he : lines.findSome? lineErr with
  | some e1 =>
    rw [he] at h
    injection h with h; subst h
    obtain ⟨l, _, hl⟩ := List.exists_of_findSome?_eq_some he
    exact lineErr_kind l _ hl
  | none =>
    rw [he] at h
    simp only [finish] at h
    split at h
    · injection h with h; exact h.symm
    · cases h

/-- bytes outside ASCII are replaced, not fatal (regression for D28d): a comment with `é` (0xE9) -/
theorem non_ascii_comment_harmless :
    parseOutput (decodeAscii [99, 32, 99, 97, 102, 0xE9, 10, 115, 32, 83, 65, 84, 73, 83, 70, 73, 65, 66,
      76, 69, 10, 118, 32, 49, 32, 48, 10]) = .ok (true, some [1]) := by decide +kernel

/-- T-C20.1e  no status line at all (no answer, or only comments) → RuntimeError -/
theorem no_verdict_raises (lines : List Str) (hok : ∀ l ∈ lines, lineErr l = none)
    (hno : ∀ l ∈ lines, l.head? ≠ some 's') : parseStdout lines = .error .runtimeError := by
  rw [parseStdout_spec _ hok]
  rw [lastVerdict_no_status none lines fun l hl => lineVerdict_of_head l (hno l hl)]

example : parseStdout [] = .error .runtimeError := by decide +kernel
example : parseStdout ["c only comments".toList, "v 1 2 0".toList] = .error .runtimeError := by lit_decide

/-! ### well-formed answers, split and interleaved in ANY way -/

/-! The vocabulary is in `Lemmas/SolverAnswer.lean`: a `Piece` is a comment / blank / other line
(`other text`, first character neither `s` nor `v`), the status line (`status`), or a value line
(`values lits zero trail`: `v`, then every literal preceded by a non-empty run of blanks, an optional
`0`, trailing blanks); `Piece.render sat` prints it, `Piece.Good` says the separators are blanks and
the literals are non-zero integers below the digit limit of `int()`, `allLits ps` is what the
solver printed, in the order printed. -/

/-- T-C20.1f  A solver that prints its status line (at least once, anywhere) and its assignment on
any number of `v` lines, cut anywhere, in any order, with comment / blank lines interleaved
anywhere: the result is `(sat, the printed literals ordered by variable)` for "satisfiable" and
`(False, None)` for "unsatisfiable". -/
theorem wellformed_answer (sat : Bool) (ps : List Piece) (hg : ∀ p ∈ ps, p.Good)
    (hs : Piece.status ∈ ps) :
    parseStdout (ps.map (Piece.render sat)) = .ok (sat, witnessIf sat (sortByVar (allLits ps))) := by
  have hok : ∀ l ∈ ps.map (Piece.render sat), lineErr l = none := by
    intro l hl
    obtain ⟨p, hp, rfl⟩ := List.mem_map.mp hl
    exact (render_line sat p (hg p hp)).1
  rw [parseStdout_spec _ hok, flatMap_render_lits sat ps hg]
  have hv : lastVerdict none (ps.map (Piece.render sat)) = some sat := by
    apply lastVerdict_const
    · intro l hl
      obtain ⟨p, hp, rfl⟩ := List.mem_map.mp hl
      exact (render_line sat p (hg p hp)).2.2
    · exact ⟨statusLine sat, List.mem_map.mpr ⟨Piece.status, hs, rfl⟩, (line_statusLine sat).2.2⟩
  rw [hv]

/-- the full statement of the DIMACS-convention part of the property, for every number of
variables INCLUDING ZERO: a satisfiable answer yields `(True, assignment)`.
(Before /repo 9a497ce this was false for the empty assignment — D24 — and only the
`allLits ps ≠ []` part was provable.) -/
def FullStatement : Prop :=
  ∀ (ps : List Piece), (∀ p ∈ ps, p.Good) → Piece.status ∈ ps →
    parseStdout (ps.map (Piece.render true)) = .ok (true, some (sortByVar (allLits ps)))

theorem fullStatement : FullStatement := by
  intro ps hg hs
  rw [wellformed_answer true ps hg hs]; rfl

/-- zero variables: `s SATISFIABLE` / `v 0` gives the empty assignment, not `None` (regression for D24) -/
theorem zero_variables_answer :
    parseStdout ["s SATISFIABLE".toList, "v 0".toList] = .ok (true, some []) := by lit_decide

theorem wellformed_unsat (ps : List Piece) (hg : ∀ p ∈ ps, p.Good) (hs : Piece.status ∈ ps) :
    parseStdout (ps.map (Piece.render false)) = .ok (false, none) := by
  rw [wellformed_answer false ps hg hs]; rfl

/-- T-C20.1g  if the printed literals are one per variable of `1..n` (in any order), the returned
assignment has the literal of variable `i` at position `i` -/
theorem wellformed_total_assignment (ps : List Piece) (n : Nat) (hg : ∀ p ∈ ps, p.Good)
    (hs : Piece.status ∈ ps) (htot : ((allLits ps).map Int.natAbs).Perm (List.range' 1 n)) :
    ∃ A, parseStdout (ps.map (Piece.render true)) = .ok (true, some A) ∧
      A.map Int.natAbs = List.range' 1 n ∧ A.Perm (allLits ps) :=
  ⟨sortByVar (allLits ps), fullStatement ps hg hs, sortByVar_total _ n htot, sortByVar_perm _⟩

/-- non-vacuity: comments interleaved, status in the middle, literals out of order, split 2 + 1,
tab separators, `0` on the last line -/
def exPieces : List Piece :=
  [.other "c solver 1.0".toList, .values [(" ".toList, -3), ("\t".toList, 1)] none [],
   .other [], .status, .other "c".toList, .values [("  ".toList, 2)] (some " ".toList) " ".toList]

example : (∀ p ∈ exPieces, p.Good) ∧ Piece.status ∈ exPieces ∧
    ((allLits exPieces).map Int.natAbs).Perm (List.range' 1 3) := by
  refine ⟨?_, by simp [exPieces], by decide⟩
  simp [exPieces, Piece.Good, IsOther, GoodLits, GoodZero, AllSpace]
  refine ⟨?_, by decide +kernel⟩
  rintro a b (⟨rfl, rfl⟩ | ⟨rfl, rfl⟩) <;> decide +kernel

example : parseStdout (exPieces.map (Piece.render true)) = .ok (true, some [1, 2, -3]) := by decide +kernel

/-- T-C20.1h  the same from the decoded TEXT of standard output (lines ended by `\n`) -/
theorem wellformed_text (sat : Bool) (ps : List Piece) (hg : ∀ p ∈ ps, p.Good)
    (hs : Piece.status ∈ ps) (hb : ∀ p ∈ ps, NoBreak (p.render sat)) :
    parseOutput (joinLines (ps.map (Piece.render sat)))
      = .ok (sat, witnessIf sat (sortByVar (allLits ps))) := by
  unfold parseOutput
  rw [splitLines_joinLines]
  · exact wellformed_answer sat ps hg hs
  · intro l hl
    obtain ⟨p, hp, rfl⟩ := List.mem_map.mp hl
    exact hb p hp

/-! ### the minisat file convention (`_satsolve_filein_fileout`) -/

/-- T-C20.1i  `SAT` + literals in any layout → `(True, literals ordered by variable)`, for every
number of literals including none (D24 fixed) -/
theorem minisat_sat (lead : Str) (lits : List (Str × Int)) (zero : Option Str) (trail : Str)
    (hl : AllSpace lead) (h : GoodLits lits) (hz : GoodZero zero) (ht : AllSpace trail) :
    parseMinisatFile (renderSatFile lead lits zero trail)
      = .ok (true, some (sortByVar (lits.map (·.2)))) := by
  have hsplit : pySplit (renderSatFile lead lits zero trail)
      = tokSat :: (litSegs lits ++ zeroSeg zero).map (·.2) := by
    unfold renderSatFile pySplit
    rw [pySplitAux_allSpace_nil _ _ hl]
    exact pySplit_word_glue tokSat (by intro c hc; simp [tokSat] at hc; rcases hc with rfl | rfl | rfl <;> decide)
      (by simp [tokSat]) _ (goodSegs_lits lits zero h hz) trail ht
  unfold parseMinisatFile
  rw [hsplit]
  simp only [parseMinisatTokens, if_true]
  rw [filter_lits _ (by simp) (fun i hi => by simp [showInt_ne_tok0 i hi]) lits zero h, mapE_showInt lits h]
  rfl

example : parseMinisatFile "SAT\n-2 3\n1 0\n".toList = .ok (true, some [1, -2, 3]) := by lit_decide
example : parseMinisatFile "SAT\n0\n".toList = .ok (true, some []) := by lit_decide

/-- T-C20.1j  first word `UNSAT` → `(False, None)` whatever follows -/
theorem minisat_unsat (text : Str) (rest : List Str) (h : pySplit text = tokUnsat :: rest) :
    parseMinisatFile text = .ok (false, none) := by
  unfold parseMinisatFile
  rw [h]
  have : tokUnsat ≠ tokSat := by decide +kernel
  simp [parseMinisatTokens, this]

example : pySplit "UNSAT\n".toList = tokUnsat :: [] := by lit_decide

/-- T-C20.1k  empty file, or a first word other than SAT / UNSAT (`INDET`) → RuntimeError -/
theorem minisat_no_answer (text : Str)
    (h : pySplit text = [] ∨ ∃ t rest, pySplit text = t :: rest ∧ t ≠ tokSat ∧ t ≠ tokUnsat) :
    parseMinisatFile text = .error .runtimeError := by
  unfold parseMinisatFile
  rcases h with h | ⟨t, rest, h, h1, h2⟩
  · rw [h]; rfl
  · rw [h]; simp [parseMinisatTokens, h1, h2]

example : parseMinisatFile "INDET\n".toList = .error .runtimeError := by lit_decide
example : parseMinisatFile [] = .error .runtimeError := by decide +kernel

/-- a non-integer word after `SAT`: the documented RuntimeError (regression for D28c) -/
theorem minisat_garbled_runtimeError :
    parseMinisatFile "SAT\n1 x 0\n".toList = .error .runtimeError := by lit_decide

/-- T-C20.1l  whatever is in the result file, nothing but `RuntimeError` is raised -/
theorem parseMinisatFile_only_runtimeError (text : Str) (e : Err)
    (h : parseMinisatFile text = .error e) : e = .runtimeError := by
  unfold parseMinisatFile parseMinisatTokens at h
  split at h
  · injection h with h; exact h.symm
  · split at h
    · split at h
      · rename_i e' heq
        injection h with h; subst h
        exact catchValueError_mapE _ _ heq
      · cases h
    · split at h
      · cases h
      · injection h with h; exact h.symm

/-! ## T-C20.2 — the witness is the solver's, ordered by variable -/

/-! `SatisfiedBy A F`: every clause of `F` contains a literal of the list `A`;
`assignOf A v` = "`+v` is listed"; `Consistent A`: no `0`, no variable both ways
(`Lemmas/SolverAnswer.lean`). -/

/-- T-C20.2a  Whenever `solve()` returns `(True, A')` through the DIMACS convention: `A'` is a
permutation of the literals the solver printed, it is ordered by variable, and it satisfies every
formula that the solver's literals satisfy. -/
theorem witness_sound (F : CNF) (lines : List Str) (A' : List Int)
    (h : parseStdout lines = .ok (true, some A')) :
    A'.Perm (lines.flatMap lineLits) ∧ ByVar A' ∧
      (SatisfiedBy (lines.flatMap lineLits) F → SatisfiedBy A' F) := by
  obtain ⟨_, hfin⟩ := parseStdout_ok_inv lines _ h
  have hA : A' = sortByVar (lines.flatMap lineLits) := by
    unfold finish at hfin
    split at hfin
    · cases hfin
    · rename_i r _
      injection hfin with hfin
      injection hfin with h1 h2
      subst h1
      simp [witnessIf] at h2
      exact h2.symm
  subst hA
  exact ⟨sortByVar_perm _, sortByVar_sorted _, satisfiedBy_sortByVar _ F⟩

/-- T-C20.2b  the same for the minisat file -/
theorem minisat_witness_sound (F : CNF) (text : Str) (A' : List Int)
    (h : parseMinisatFile text = .ok (true, some A')) :
    ∃ W, A'.Perm W ∧ ByVar A' ∧ A' = sortByVar W ∧ (SatisfiedBy W F → SatisfiedBy A' F) := by
  unfold parseMinisatFile parseMinisatTokens at h
  split at h
  · cases h
  · rename_i t rest _
    split at h
    · split at h
      · cases h
      · rename_i ws _
        injection h with h
        injection h with _ h2
        simp [witnessIf] at h2
        subst h2
        exact ⟨ws, sortByVar_perm _, sortByVar_sorted _, rfl, satisfiedBy_sortByVar ws F⟩
    · split at h
      · injection h with h; injection h with h1 _; cases h1
      · cases h

/-- T-C20.2c  in terms of the semantics of `Core/Sem.lean`: a consistent list of literals that
satisfies `F` clause by clause makes `F.holds` true under the induced assignment; the induced
assignment is the same before and after sorting (`assignOf_sortByVar`, `consistent_sortByVar`) -/
theorem satisfiedBy_holds (A : List Int) (F : CNF) (hc : Consistent A) (h : SatisfiedBy A F) :
    F.holds (assignOf A) = true := by
  unfold CNF.holds
  rw [List.all_eq_true]
  intro c hcF
  obtain ⟨l, hl, hlA⟩ := h c hcF
  unfold clauseHolds
  rw [List.any_eq_true]
  refine ⟨l, hl, ?_⟩
  have hl0 : l ≠ 0 := by intro h0; subst h0; exact hc.1 hlA
  unfold litHolds assignOf
  by_cases hp : 0 < l
  · have : ((l.natAbs : Nat) : Int) = l := by omega
    simp [hp, this, hlA]
  · have : ((l.natAbs : Nat) : Int) = -l := by omega
    simp [hp, this, hc.2 l hlA]

/-- T-C20.2d  together: if the literals the solver printed are consistent and satisfy `F`, the
assignment induced by what `solve()` returns makes `F` true -/
theorem witness_holds (F : CNF) (lines : List Str) (A' : List Int)
    (h : parseStdout lines = .ok (true, some A'))
    (hc : Consistent (lines.flatMap lineLits)) (hs : SatisfiedBy (lines.flatMap lineLits) F) :
    F.holds (assignOf A') = true := by
  obtain ⟨hp, _, himp⟩ := witness_sound F lines A' h
  refine satisfiedBy_holds A' F ?_ (himp hs)
  exact ⟨fun h0 => hc.1 (hp.mem_iff.mp h0),
    fun l hl hn => hc.2 l (hp.mem_iff.mp hl) (hp.mem_iff.mp hn)⟩

/-- non-vacuity for T-C20.2 -/
example : SatisfiedBy [-3, 1, 2] ⟨3, [[1, -2], [2, 3], [-1, -3]]⟩ ∧ Consistent [-3, 1, 2] := by
  refine ⟨?_, by decide, by decide⟩
  intro c hc
  simp at hc
  rcases hc with rfl | rfl | rfl
  · exact ⟨1, by simp, by simp⟩
  · exact ⟨2, by simp, by simp⟩
  · exact ⟨-3, by simp, by simp⟩

/-! ## T-C20.3 — which solver, which interface, which error (`sat_solve`) -/

/-- T-C20.3a  an unknown `sameas` is `ValueError`, whatever else is given or installed -/
theorem unknown_sameas (cmd : Option String) (s : String) (inst : List String) (hs : s ∉ names) :
    selectInterface cmd (some s) inst = .error .valueError :=
  select_sameas_unknown cmd s inst hs

example : "nosuchsolver" ∉ names := by decide +kernel

/-- T-C20.3b  an unsupported command without `sameas` is `RuntimeError` -/
theorem unsupported_command (c : String) (t : Str) (ts : List Str) (inst : List String)
    (hc : pySplit c.toList = t :: ts) (hn : String.ofList t ∉ names) :
    selectInterface (some c) none inst = .error .runtimeError := by
  rw [select_cmd c t ts none inst (by intro s h; cases h) hc]
  simp [namedChoice, hn]

example : pySplit "mysolver --fast".toList = "mysolver".toList :: ["--fast".toList] ∧
    String.ofList "mysolver".toList ∉ names := by lit_decide

/-- T-C20.3c  no command (None or blank), `sameas` absent or supported: the FIRST installed
solver in table order is called, by its bare name, through its own interface — `sameas` plays
no role -/
theorem auto_first_installed (cmd : Option String) (sameas : Option String) (inst : List String)
    (hblank : cmd = none ∨ ∃ c, cmd = some c ∧ pySplit c.toList = [])
    (hsame : ∀ s, sameas = some s → s ∈ names)
    (pre post : List (String × Iface)) (n : String) (f : Iface)
    (htable : table = pre ++ (n, f) :: post)
    (hpre : ∀ p ∈ pre, p.1 ∉ inst) (hn : n ∈ inst) :
    selectInterface cmd sameas inst = .ok (f, n) := by
  rw [select_auto cmd sameas inst hblank hsame]
  unfold autoChoice
  rw [List.find?_eq_some_iff_append.2 ⟨by simpa using hn, pre, post, htable, fun p hp => by simpa using hpre p hp⟩]

/-- non-vacuity: only `march` and `sat4j` installed → `march` through file-in/stdout -/
example : selectInterface none none ["sat4j", "march"] = .ok (.fileInStdout, "march") := by decide +kernel

/-- T-C20.3d  no command and no supported solver installed → RuntimeError -/
theorem none_installed (cmd : Option String) (sameas : Option String) (inst : List String)
    (hblank : cmd = none ∨ ∃ c, cmd = some c ∧ pySplit c.toList = [])
    (hsame : ∀ s, sameas = some s → s ∈ names) (hno : ∀ n ∈ names, n ∉ inst) :
    selectInterface cmd sameas inst = .error .runtimeError := by
  rw [select_auto cmd sameas inst hblank hsame]
  unfold autoChoice
  have : table.find? (fun p => inst.contains p.1) = none := by
    rw [List.find?_eq_none]
    intro p hp
    have : p.1 ∈ names := List.mem_map.mpr ⟨p, hp, rfl⟩
    simp [hno p.1 this]
  rw [this]

/-- T-C20.3e  a supported solver named on the command line and installed: its own interface, the
command line passed on unchanged -/
theorem named_solver (c : String) (t : Str) (ts : List Str) (inst : List String)
    (hc : pySplit c.toList = t :: ts) (hn : String.ofList t ∈ names) (hi : String.ofList t ∈ inst) :
    ∃ f, lookup (String.ofList t) = some f ∧ selectInterface (some c) none inst = .ok (f, c) := by
  obtain ⟨f, hf⟩ := lookup_isSome _ hn
  refine ⟨f, hf, ?_⟩
  rw [select_cmd c t ts none inst (by intro s h; cases h) hc]
  simp [namedChoice, hn, keyOf, hf, hi]

/-- T-C20.3f  `sameas = s` (supported): the interface of `s`, the given command line, any
program name -/
theorem sameas_interface (c : String) (t : Str) (ts : List Str) (s : String) (inst : List String)
    (hc : pySplit c.toList = t :: ts) (hs : s ∈ names) (hi : String.ofList t ∈ inst) :
    ∃ f, lookup s = some f ∧ selectInterface (some c) (some s) inst = .ok (f, c) := by
  obtain ⟨f, hf⟩ := lookup_isSome _ hs
  refine ⟨f, hf, ?_⟩
  rw [select_cmd c t ts (some s) inst (by intro s' h; injection h with h; subst h; exact hs) hc]
  simp [namedChoice, keyOf, names_nonempty s hs, hf, hi]

example : selectInterface (some "my-hacked-minisat -pre") (some "minisat") ["my-hacked-minisat"]
    = .ok (.fileInFileOut, "my-hacked-minisat -pre") := by decide +kernel

/-- T-C20.3g  the named program is not installed (cannot be started) → RuntimeError -/
theorem not_installed (c : String) (t : Str) (ts : List Str) (sameas : Option String)
    (inst : List String) (hc : pySplit c.toList = t :: ts)
    (hsame : ∀ s, sameas = some s → s ∈ names) (hi : String.ofList t ∉ inst) :
    selectInterface (some c) sameas inst = .error .runtimeError := by
  rw [select_cmd c t ts sameas inst hsame hc]
  unfold namedChoice
  split
  · rfl
  · rename_i hcond
    have hsup : String.ofList t ∈ names ∨ sameas ≠ none := by
      cases sameas with
      | none => left; simpa using hcond
      | some s => right; simp
    obtain ⟨f, hf⟩ := lookup_isSome _ (namedChoice_key _ sameas hsame hsup)
    rw [hf]
    simp [hi]

/-- T-C20.3h  `sat_solve` raises nothing but `ValueError` (unknown `sameas`) and `RuntimeError`
before a solver is started — in particular never the `KeyError` of the table lookup -/
theorem select_error_kinds (cmd sameas : Option String) (inst : List String) (e : Err)
    (h : selectInterface cmd sameas inst = .error e) : e = .valueError ∨ e = .runtimeError := by
  cases hu : sameasUnknown sameas with
  | true =>
    rw [(select_valueError_iff cmd sameas inst).mpr hu] at h
    exact .inl (Except.error.inj h).symm
  | false => exact .inr (select_known_errors cmd sameas inst ((sameasUnknown_eq_false sameas).mp hu) e h)

/-- T-C20.3i  facts of the table itself (checked against whatever `Solver/Table.lean` contains):
names are distinct, each is a single word (so that `cmd = name` selects it) and has an interface;
the conventions stated in the docstrings of solver.py -/
theorem table_names_nodup : names.Nodup := by decide +kernel

theorem table_names_are_words : ∀ n ∈ names, pySplit n.toList = [n.toList] := by
  simp only [names, table, List.map, List.forall_mem_cons]
  lit_decide

theorem table_documented_conventions :
    lookup "lingeling" = some .stdinStdout ∧ lookup "cryptominisat" = some .stdinStdout ∧
    lookup "sat4j" = some .fileInStdout ∧ lookup "march" = some .fileInStdout ∧
    lookup "minisat" = some .fileInFileOut := by decide +kernel

/-! ## T-C20.4 — `is_satisfiable` is the verdict of `solve`; composition -/

/-- T-C20.4a -/
theorem isSatisfiable_eq (inst : List String) (world : Iface → String → Option ProcOut)
    (cmd sameas : Option String) :
    isSatisfiable inst world cmd sameas = (solve inst world cmd sameas).map (·.1) := by
  unfold isSatisfiable
  cases solve inst world cmd sameas <;> rfl

/-- T-C20.4b  selection errors come out of both, unchanged, and no solver is consulted -/
theorem solve_select_error (inst : List String) (world : Iface → String → Option ProcOut)
    (cmd sameas : Option String) (e : Err) (h : selectInterface cmd sameas inst = .error e) :
    solve inst world cmd sameas = .error e ∧ isSatisfiable inst world cmd sameas = .error e := by
  simp [isSatisfiable, solve, h]

/-- T-C20.4c  a solver that cannot be started after all (`Popen` raises `OSError`): RuntimeError,
for all three conventions (D28 fixed: no `UnboundLocalError`) -/
theorem solve_cannot_start (inst : List String) (world : Iface → String → Option ProcOut)
    (cmd sameas : Option String) (f : Iface) (c : String)
    (h : selectInterface cmd sameas inst = .ok (f, c)) (hw : world f c = none) :
    solve inst world cmd sameas = .error .runtimeError := by
  simp only [solve, h, hw]
  cases f <;> decide

/-- T-C20.4c'  `solve` / `is_satisfiable` raise nothing but the two documented errors, whatever is
installed and whatever the solver process does -/
theorem solve_error_kinds (inst : List String) (world : Iface → String → Option ProcOut)
    (cmd sameas : Option String) (e : Err) (h : solve inst world cmd sameas = .error e) :
    e = .valueError ∨ e = .runtimeError := by
  unfold solve at h
  cases hs : selectInterface cmd sameas inst with
  | error e1 =>
    rw [hs] at h; injection h with h; subst h
    exact select_error_kinds cmd sameas inst _ hs
  | ok r =>
    obtain ⟨f, c⟩ := r
    rw [hs] at h
    right
    simp only at h
    cases f <;> cases hw : world _ c <;> rw [hw] at h <;> simp only [runIface] at h
    all_goals first
      | exact parseStdout_only_runtimeError _ e h
      | exact parseMinisatFile_only_runtimeError _ e h
      | (injection h with h; exact h.symm)

/-- T-C20.4d  end to end on the model, DIMACS conventions: selection succeeds with a stdout
interface and the process prints a well-formed answer → `solve` returns it, `is_satisfiable`
returns its verdict -/
theorem solve_wellformed_stdout (inst : List String) (world : Iface → String → Option ProcOut)
    (cmd sameas : Option String) (f : Iface) (c : String) (out : ProcOut)
    (h : selectInterface cmd sameas inst = .ok (f, c)) (hf : f ≠ .fileInFileOut)
    (hw : world f c = some out)
    (sat : Bool) (ps : List Piece) (hg : ∀ p ∈ ps, p.Good) (hs : Piece.status ∈ ps)
    (hb : ∀ p ∈ ps, NoBreak (p.render sat))
    (hout : out.stdout = joinLines (ps.map (Piece.render sat))) :
    solve inst world cmd sameas = .ok (sat, witnessIf sat (sortByVar (allLits ps))) ∧
    isSatisfiable inst world cmd sameas = .ok sat := by
  have hsolve : solve inst world cmd sameas = .ok (sat, witnessIf sat (sortByVar (allLits ps))) := by
    simp only [solve, h, hw]
    cases f with
    | fileInFileOut => exact absurd rfl hf
    | stdinStdout => simp only [runIface]; rw [hout]; exact wellformed_text sat ps hg hs hb
    | fileInStdout => simp only [runIface]; rw [hout]; exact wellformed_text sat ps hg hs hb
  exact ⟨hsolve, by simp [isSatisfiable, hsolve]⟩

/-- T-C20.4e  end to end on the model, minisat convention -/
theorem solve_wellformed_minisat (inst : List String) (world : Iface → String → Option ProcOut)
    (cmd sameas : Option String) (c : String) (out : ProcOut)
    (h : selectInterface cmd sameas inst = .ok (.fileInFileOut, c))
    (hw : world .fileInFileOut c = some out)
    (lead : Str) (lits : List (Str × Int)) (zero : Option Str) (trail : Str)
    (hl : AllSpace lead) (hg : GoodLits lits) (hz : GoodZero zero) (ht : AllSpace trail)
    (hout : out.file = renderSatFile lead lits zero trail) :
    solve inst world cmd sameas = .ok (true, some (sortByVar (lits.map (·.2)))) ∧
    isSatisfiable inst world cmd sameas = .ok true := by
  have hsolve : solve inst world cmd sameas = .ok (true, some (sortByVar (lits.map (·.2)))) := by
    simp only [solve, h, hw, runIface]
    rw [hout]
    exact minisat_sat lead lits zero trail hl hg hz ht
  exact ⟨hsolve, by simp [isSatisfiable, hsolve]⟩

end Cnfgen.C20
